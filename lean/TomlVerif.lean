import TomlVerif.Basic
import TomlVerif.Spec.Classes
import TomlVerif.Spec.Utf8
import TomlVerif.Model.Write
import TomlVerif.Model.Strings
import TomlVerif.Model.Key
import TomlVerif.Gen.CheckLex
import TomlVerif.Gen.CheckWrite
import TomlVerif.Props.C10
import TomlVerif.Lemmas.Guards10
import TomlVerif.Model.Datetime
import TomlVerif.Gen.CheckDatetime
import TomlVerif.Props.C12
import TomlVerif.Spec.Ieee
import TomlVerif.Model.Numbers
import TomlVerif.Gen.CheckNumbers
import TomlVerif.Props.C11
import TomlVerif.Props.C11Serde
import TomlVerif.Lemmas.Datetime12
import TomlVerif.Model.Doc
import TomlVerif.Props.C01
import TomlVerif.Props.C02
import TomlVerif.Lemmas.Numbers11
import TomlVerif.Props.C05
import TomlVerif.Props.C09
import TomlVerif.Lemmas.AList
import TomlVerif.Lemmas.Descend
import TomlVerif.Lemmas.State09
import TomlVerif.Lemmas.StateInv
import TomlVerif.Lemmas.DocStmts
import TomlVerif.Props.C02Strings
import TomlVerif.Props.C15
import TomlVerif.Props.C15Located
import TomlVerif.Props.C15LocatedMore
import TomlVerif.Props.C04
import TomlVerif.Gen.CheckPanic
import TomlVerif.Lemmas.ErrorPos15
import TomlVerif.Props.C18
import TomlVerif.Props.C18Parsed
import TomlVerif.Props.C18Decode
import TomlVerif.Props.C01Values
import TomlVerif.Model.Visit
import TomlVerif.Spec.Preorder
import TomlVerif.Lemmas.TreeInduct
import TomlVerif.Lemmas.Sort
import TomlVerif.Lemmas.SortModel
import TomlVerif.Lemmas.Visit20
import TomlVerif.Lemmas.Skeleton20
import TomlVerif.Props.C20
import TomlVerif.Props.C03
import TomlVerif.Props.C14
import TomlVerif.Spec.OrdMap
import TomlVerif.Model.Containers
import TomlVerif.Lemmas.Containers16
import TomlVerif.Props.C16
import TomlVerif.Props.C01Doc
import TomlVerif.Props.C04Fuel
import TomlVerif.Props.C09Equiv
import TomlVerif.Model.MacroArms
import TomlVerif.Model.Macro
import TomlVerif.Gen.CheckMacro
import TomlVerif.Lemmas.Macro19Reads
import TomlVerif.Props.C19
import TomlVerif.Model.Encode06
import TomlVerif.Spec.Encode06
import TomlVerif.Gen.CheckEncode
import TomlVerif.Lemmas.Leaves06
import TomlVerif.Props.C06
import TomlVerif.Model.TomlValue
import TomlVerif.Model.DeRoutes
import TomlVerif.Lemmas.TomlValue17
import TomlVerif.Lemmas.DeRoutes13
import TomlVerif.Props.C13
import TomlVerif.Props.C17
import TomlVerif.Model.Edit
import TomlVerif.Lemmas.Edit08
import TomlVerif.Lemmas.Plain08
import TomlVerif.Lemmas.PlainOps08
import TomlVerif.Props.C08
import TomlVerif.Spec.SerdeData
import TomlVerif.Model.Ser
import TomlVerif.Lemmas.Ser07
import TomlVerif.Props.C07
import TomlVerif.Props.C14Doc
import TomlVerif.Props.C14Spanned
import TomlVerif.Props.C14SpannedFull
import TomlVerif.Props.C14SpannedUniform
import TomlVerif.Props.C06Full
import TomlVerif.Props.C08Full
import TomlVerif.Props.C03Doc
import TomlVerif.Props.C01Sound
import TomlVerif.Props.C19Full
import TomlVerif.Props.C01DocSound
import TomlVerif.Props.C08Parsed
import TomlVerif.Props.C03Hdr
import TomlVerif.Props.C17RoundTrip
import TomlVerif.Props.C17Fix
import TomlVerif.Props.C07Text
import TomlVerif.Props.C19Text
import TomlVerif.Props.C13Typed
import TomlVerif.Props.C03Nest
import TomlVerif.Props.C07RoundTrip
import TomlVerif.Props.C13TypedParsed
import TomlVerif.Props.C07RoundTripMore
import TomlVerif.Props.C03MoreIndex
import TomlVerif.Props.C05Doc
import TomlVerif.Props.C05DocTight
