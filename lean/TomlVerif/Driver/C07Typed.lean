import TomlVerif.Model.SerTyped
import TomlVerif.Lemmas.RoundTrip17Tree
import TomlVerif.Driver.C07
import TomlVerif.Driver.C13Typed
/-! Driver side of the typed cases of mode `c07` (same case lines and output as harness/src/c07typed.rs):
    `rtt<flags> <ty> <dec>` — a Rust value `dec` of the type `ty` of the grammar of Model/DeTyped.lean:
      * `sval`      the serde calls of its `Serialize` impl: `SerTyped.serOf` (the TRUSTED description this ties to
                    serde_derive's real output);
      * the routes of Model/Ser.lean on those calls (the fields of a `d` case);
      * every successful route read back into the same type: the text routes through `tomlRoute` / `editRoute` on the
        parsed text (where the model has the text: float-free trees; otherwise on the route's tree with canonical NaNs),
        `to_document` through `editRoute` on the document, `Value::try_from` / `Table::try_from` through `decodeValue`.
    The harness is the default build: `Flavour.sorted`. -/
namespace TomlVerif.Driver
open TomlVerif TomlVerif.Model TomlVerif.Model.Ser TomlVerif.Spec.Serde
open TomlVerif.Model.TomlValue TomlVerif.Model.DeRoutes TomlVerif.Model.DeTyped TomlVerif.Model.SerTyped
open TomlVerif.Model.Datetime (Datetime)

namespace C07t
open C07h C13Typed

/-! ### the value encoding (`showDec`, read back) -/

def isHexWordChar (c : Char) : Bool := c.isDigit || ('a' ≤ c && c ≤ 'f') || c == '-'

def hexWord : List Char → List Char → List Char × List Char
  | acc, [] => (acc.reverse, [])
  | acc, c :: r => if isHexWordChar c then hexWord (c :: acc) r else (acc.reverse, c :: r)

/-- up to one of `;` `)` `]` `}` `=` -/
def upto : List Char → List Char → List Char × List Char
  | acc, [] => (acc.reverse, [])
  | acc, c :: r =>
    if c == ';' || c == ')' || c == ']' || c == '}' || c == '=' then (acc.reverse, c :: r) else upto (c :: acc) r

def hexBytes (s : List Char) : Option (Bytes × List Char) :=
  let (w, r) := hexWord [] s
  if w == ['-'] then some ([], r)
  else if w.isEmpty || w.length % 2 != 0 || w.contains '-' then none
  else (bytesOfHex? (String.ofList w)).map fun b => (b, r)

/-- a name / string: UTF-8 (the harness holds them as `String`) -/
def hexName (s : List Char) : Option (Bytes × List Char) :=
  match hexBytes s with
  | some (b, r) => if Spec.Utf8.valid b then some (b, r) else none
  | none => none

def fixHex (n : Nat) (s : List Char) : Option (Nat × List Char) :=
  let (w, r) := hexWord [] s
  if w.length != n || w.contains '-' then none
  else (w.foldlM (fun acc c => (hexVal? c).map fun d => acc * 16 + d) 0).map fun v => (v, r)

def datetimeOf (t : String) : Option Datetime :=
  match t.splitOn "|" with
  | [d, tm, o] =>
    match parseDateField d, parseTimeField tm, parseOffField o with
    | some d, some tm, some o => some ⟨d, tm, o⟩
    | _, _, _ => none
  | _ => none

/-- the fields as the harness can hold them (`u16` / `u8` / `u32` / `i16`) -/
def dtFits (d : Datetime) : Bool :=
  (match d.date with | some x => x.year < 65536 && x.month < 256 && x.day < 256 | none => true) &&
  (match d.time with | some t => t.hour < 256 && t.minute < 256 && t.second < 256 && t.nanosecond < 4294967296 | none => true) &&
  (match d.offset with | some (.custom m) => decide (-32768 ≤ m) && decide (m ≤ 32767) | _ => true)

def parseDt (s : List Char) : Option (Datetime × List Char) :=
  let (t, r) := upto [] s
  match datetimeOf (String.ofList t) with
  | some d => if dtFits d then some (d, r) else none
  | none => none

mutual
partial def parsePV : List Char → Option (TV × List Char)
  | 's' :: r => (hexName r).map fun (b, r') => (.str b, r')
  | 'i' :: r =>
    let (t, r') := upto [] r
    match (String.ofList t).toInt? with
    | some n => if decide (i64Min ≤ n) && decide (n ≤ i64Max) then some (.int n, r') else none
    | none => none
  | 'f' :: r => (fixHex 16 r).map fun (n, r') => (.float n, r')
  | 'b' :: '0' :: r => some (.bool false, r)
  | 'b' :: '1' :: r => some (.bool true, r)
  | 'd' :: r => (parseDt r).map fun (d, r') => (.dt d, r')
  | '[' :: ']' :: r => some (.arr [], r)
  | '[' :: r => parsePVs r []
  | '{' :: '}' :: r => some (.tbl [], r)
  | '{' :: r => parsePVEntries r []
  | _ => none
partial def parsePVs (s : List Char) (acc : List TV) : Option (TV × List Char) :=
  match parsePV s with
  | some (v, ';' :: r) => parsePVs r (v :: acc)
  | some (v, ']' :: r) => some (.arr (v :: acc).reverse, r)
  | _ => none
partial def parsePVEntries (s : List Char) (acc : List (Bytes × TV)) : Option (TV × List Char) :=
  match hexName s with
  | some (k, '=' :: r1) =>
    match parsePV r1 with
    | some (v, ';' :: r2) => parsePVEntries r2 ((k, v) :: acc)
    | some (v, '}' :: r2) => some (.tbl ((k, v) :: acc).reverse, r2)
    | _ => none
  | _ => none
end

mutual
partial def parseDec : List Char → Option (Dec × List Char)
  | 'b' :: '0' :: r => some (.bool false, r)
  | 'b' :: '1' :: r => some (.bool true, r)
  | 'i' :: r =>
    let (t, r') := upto [] r
    (String.ofList t).toInt?.map fun n => (.int n, r')
  | 'f' :: r => (fixHex 16 r).map fun (n, r') => (.f64 n, r')
  | 'g' :: r => (fixHex 8 r).map fun (n, r') => (.f32 n, r')
  | 's' :: r => (hexName r).map fun (b, r') => (.str b, r')
  | 'c' :: r => (hexName r).map fun (b, r') => (.char b, r')
  | 'u' :: r => some (.unit, r)
  | 'd' :: r => (parseDt r).map fun (d, r') => (.dt d, r')
  | 'V' :: r => (parsePV r).map fun (v, r') => (.value v, r')
  | '_' :: r => some (.ignored, r)
  | 'D' :: r => some (.dflt, r)
  | 'N' :: r => some (.none, r)
  | 'O' :: '(' :: r => match parseDec r with | some (d, ')' :: r') => some (.some d, r') | _ => none
  | 'W' :: '(' :: r => match parseDec r with | some (d, ')' :: r') => some (.newtype d, r') | _ => none
  | '[' :: r => (parseDecs ']' r []).map fun (l, r') => (.seq l, r')
  | '(' :: r => (parseDecs ')' r []).map fun (l, r') => (.tuple l, r')
  | '{' :: r => (parseNamed r []).map fun (l, r') => (.map l, r')
  | 'S' :: '{' :: r => (parseNamed r []).map fun (l, r') => (.struct l, r')
  | 'E' :: r =>
    match hexName r with
    | some (n, ':' :: r1) => (parseDec r1).map fun (d, r') => (.vNewtype n d, r')
    | some (n, '(' :: r1) => (parseDecs ')' r1 []).map fun (l, r') => (.vTuple n l, r')
    | some (n, '{' :: r1) => (parseNamed r1 []).map fun (l, r') => (.vStruct n l, r')
    | some (n, r1) => some (.vUnit n, r1)
    | none => none
  | _ => none
/-- after the opening bracket: items separated by `;` up to `close` -/
partial def parseDecs (close : Char) (s : List Char) (acc : List Dec) : Option (List Dec × List Char) :=
  match s with
  | c :: r => if c == close && acc.isEmpty then some ([], r) else
    match parseDec s with
    | some (d, c' :: r') =>
      if c' == close then some ((d :: acc).reverse, r')
      else if c' == ';' then parseDecs close r' (d :: acc)
      else none
    | _ => none
  | [] => none
partial def parseNamed (s : List Char) (acc : List (Bytes × Dec)) : Option (List (Bytes × Dec) × List Char) :=
  match s with
  | '}' :: r => if acc.isEmpty then some ([], r) else none
  | _ =>
    match hexName s with
    | some (k, '=' :: r1) =>
      match parseDec r1 with
      | some (d, ';' :: r2) => parseNamed r2 ((k, d) :: acc)
      | some (d, '}' :: r2) => some (((k, d) :: acc).reverse, r2)
      | _ => none
    | _ => none
end

def parseDecAll (s : String) : Option Dec :=
  match parseDec s.toList with
  | some (d, []) => some d
  | _ => none

/-! ### the serde calls as tokens (harness/src/c07.rs `tokens`) -/

def showIntW : IntW → String
  | .i8 => "i8" | .i16 => "i16" | .i32 => "i32" | .i64 => "i64" | .u8 => "u8" | .u16 => "u16" | .u32 => "u32" | .u64 => "u64"
  | .i128 => "i128" | .u128 => "u128"

mutual
partial def tokensOf : SVal → List String
  | .bool b => [if b then "b1" else "b0"]
  | .int w n => [s!"{showIntW w}:{n}"]
  | .f32 b => ["f32:" ++ hex8 b]
  | .f64 b => ["f64:" ++ hex16 b]
  | .char cp => [s!"c:{cp}"]
  | .str s => ["s:" ++ hexOut s]
  | .bytes b => ["y:" ++ hexOut b]
  | .none => ["none"]
  | .some v => "some" :: tokensOf v
  | .unit => ["unit"]
  | .unitStruct n => ["us:" ++ hexOut n]
  | .newtype n v => "nt" :: hexOut n :: tokensOf v
  | .seq xs => "seq" :: toString xs.length :: tokensList xs
  | .tuple xs => "tup" :: toString xs.length :: tokensList xs
  | .tupleStruct n xs => "ts" :: hexOut n :: toString xs.length :: tokensList xs
  | .map kvs => "map" :: toString kvs.length :: (kvs.map fun (k, v) => tokensOf k ++ tokensOf v).flatten
  | .struct n fs => "st" :: hexOut n :: toString fs.length :: tokensFields fs
  | .unitVariant n v => ["uv", hexOut n, hexOut v]
  | .newtypeVariant n v x => "nv" :: hexOut n :: hexOut v :: tokensOf x
  | .tupleVariant n v xs => "tv" :: hexOut n :: hexOut v :: toString xs.length :: tokensList xs
  | .structVariant n v fs => "sv" :: hexOut n :: hexOut v :: toString fs.length :: tokensFields fs
partial def tokensList (xs : List SVal) : List String := (xs.map tokensOf).flatten
partial def tokensFields (fs : List (Bytes × SVal)) : List String := (fs.map fun (k, v) => hexOut k :: tokensOf v).flatten
end

/-! ### reading back -/

/-- the root `Table` of `toml_edit::ser::to_document`: every entry an `Item::Value` (`Props.C07RoundTrip.rootItem`) -/
def rootItem (kvs : List (Bytes × V)) : Item :=
  .table (.mk (kvs.map fun kv => (kv.1, Item.value (TomlVerif.Lemmas.RoundTrip17.valOf (TomlVerif.Lemmas.Ser07Text.tvOf kv.2)))) false false none)

def back (r : R Dec) : String := (showR r).getD "err"

/-- what a text route's text parses to: the model's own text where it has one, otherwise the route's tree (the data of
the text) with the NaNs a text can say -/
def parsedOf (kvs : List (Bytes × V)) (t : Except SerErr Bytes) : Option Item :=
  match t with
  | .ok b => if hasFloatKVs kvs then some (rootItem (TomlVerif.Lemmas.Ser07Text.canonKVs kvs)) else (Doc.parseDocument b).map Item.table
  | .error _ => some (rootItem (TomlVerif.Lemmas.Ser07Text.canonKVs kvs))

def textBack (name : String) (ty : Ty) (r : Except SerErr (List (Bytes × V))) (t : Except SerErr Bytes) : List String :=
  match r with
  | .error _ => []
  | .ok kvs =>
    match parsedOf kvs t with
    | some it => [s!"{name}.td={back (tomlRoute editAsIs .sorted ty it)}", s!"{name}.ed={back (editRoute editAsIs .sorted ty it)}"]
    | none => [s!"{name}.td=err", s!"{name}.ed=err"]

end C07t
open C07t C07h C13Typed

/-- the Rust name of every struct / enum of the value (harness: `DynVal.nm`) -/
def rttName : Bytes := strBytes "S"

open TomlVerif.Lemmas.Ser07Text in
def c07typed (line : String) : String :=
  match line.splitOn " " with
  | [kind, tys, decs] =>
    if !kind.startsWith "rtt" then "bad-op" else
    match parseTyAll tys, parseDecAll decs with
    | some ty, some d =>
      if !(WfTy ty && WellTyped ty d) then "ill-typed" else
      match serOf rttName ty d with
      | none => "ill-typed"
      | some v =>
        let flags : String := (kind.drop 3).toString
        let has (c : Char) : Bool := flags.toList.contains c
        let fx : ValFix := ⟨has 'n', has 't'⟩
        let noDisp : FloatDisp := fun _ => []
        let rt := routeToml (has 'r') v
        let texts :=
          textBack "ts" ty rt (textToml (has 'r') noDisp v) ++
          textBack "tp" ty rt (textTomlPretty (has 'r') noDisp v) ++
          textBack "es" ty (routeEdit v) (textEdit noDisp v) ++
          textBack "ep" ty (routeEditPretty (has 'g') v)
            (if has 'g' then textEditPretty noDisp v else .error .custom)
        let doc := match serDocument v with
          | .ok kvs => [s!"ed.de={back (editRoute editAsIs .sorted ty (rootItem kvs))}"]
          | .error _ => []
        let vt := match valSer fx v with
          | .ok x => [s!"vt.de={back (decodeValue valueAsIs .sorted ty (TomlVerif.Lemmas.RoundTrip17.placeTV .sorted (tvOf x)))}"]
          | .error _ => []
        let tt := match tableSer fx (has 'b') v with
          | .ok kvs => [s!"tt.de={back (decodeValue valueAsIs .sorted ty (TomlVerif.Lemmas.RoundTrip17.placeTV .sorted (tvOf (.inl kvs))))}"]
          | .error _ => []
        " ".intercalate ([c07Val flags v] ++ texts ++ doc ++ vt ++ tt ++ ["sval=" ++ ",".intercalate (tokensOf v)])
    | _, _ => "bad-op"
  | _ => "bad-op"

end TomlVerif.Driver
