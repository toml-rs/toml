import TomlVerif.Lemmas.Same03Takeover
import TomlVerif.Lemmas.Tiling03MoreGen2Defs
/-! C03, same data — the path of a header in the tree, through any table.  `SpineA2` carries the
    STORED key path of a header (`storedPath` computes it from the tree the header meets); all
    stored keys below the root are grammatical (`gk2Items`).  The two `descend` runs of a header
    act on the summary `nsItems`: `start_table` takes the entry and the summary of a taken-over
    table out of it, `finalize_table` inserts the whole summary of the finished table. -/
namespace TomlVerif.Lemmas.Tiling03More.Gen
open TomlVerif TomlVerif.Spec TomlVerif.Model TomlVerif.Model.Strings TomlVerif.Model.Value
open TomlVerif.Model.Cst TomlVerif.Model.Encode TomlVerif.Lemmas.Suffix03 TomlVerif.Lemmas.Cst03
open TomlVerif.Lemmas.LastByte03 TomlVerif.Lemmas.Tiling03 TomlVerif.Lemmas.Tiling03Hdr
open TomlVerif.Lemmas.Tiling03Nest TomlVerif.Lemmas.Tiling03More TomlVerif.Lemmas.Tiling03More.VS
open TomlVerif.Lemmas.Tiling03More.Tko

mutual
def hk2Tbl : CTbl → List CKey
  | .mk items _ _ _ _ _ => hk2Items items
def hk2Items : List (CKey × CItem) → List CKey
  | [] => []
  | (k, it) :: r =>
    match it with
    | .table t => k :: hk2Tbl t ++ hk2Items r
    | .aot ts _ => k :: hk2Aot ts ++ hk2Items r
    | .value _ => hk2Items r
def hk2Aot : List CTbl → List CKey
  | [] => []
  | t :: r => hk2Tbl t ++ hk2Aot r
end

theorem hk2Tbl_eq (t : CTbl) : hk2Tbl t = hk2Items t.items := by
  cases t; rw [hk2Tbl]; rfl

theorem hk2Items_append : ∀ (x y : Items), hk2Items (x ++ y) = hk2Items x ++ hk2Items y
  | [], y => by simp [hk2Items]
  | (k, .table t) :: r, y => by
    simp only [List.cons_append, hk2Items, hk2Items_append r y, List.append_assoc]
  | (k, .aot ts sp) :: r, y => by
    simp only [List.cons_append, hk2Items, hk2Items_append r y, List.append_assoc]
  | (k, .value v) :: r, y => by
    simp only [List.cons_append, hk2Items, hk2Items_append r y]

theorem hk2Aot_append : ∀ (x y : List CTbl), hk2Aot (x ++ y) = hk2Aot x ++ hk2Aot y
  | [], y => by simp [hk2Aot]
  | t :: r, y => by simp only [List.cons_append, hk2Aot, hk2Aot_append r y, List.append_assoc]

def gk2Items (inp : Bytes) (items : Items) : Prop := ∀ k ∈ hk2Items items, GKey inp k
def gk2Aot (inp : Bytes) (ts : List CTbl) : Prop := ∀ k ∈ hk2Aot ts, GKey inp k

theorem gk2_nil (inp : Bytes) : gk2Items inp [] := by intro k hk; cases hk
theorem gk2Aot_nil (inp : Bytes) : gk2Aot inp [] := by intro k hk; cases hk

theorem gk2Items_append (inp : Bytes) (x y : Items) : gk2Items inp (x ++ y) ↔ gk2Items inp x ∧ gk2Items inp y := by
  unfold gk2Items
  rw [hk2Items_append]
  exact List.forall_mem_append

theorem gk2_mid_table (inp : Bytes) (A B : Items) (k : CKey) (t : CTbl) :
    gk2Items inp (A ++ (k, .table t) :: B) ↔
      gk2Items inp A ∧ (GKey inp k ∧ gk2Items inp t.items) ∧ gk2Items inp B := by
  have hc : (k, CItem.table t) :: B = [(k, CItem.table t)] ++ B := rfl
  rw [hc, gk2Items_append, gk2Items_append]
  have : gk2Items inp [(k, CItem.table t)] ↔ (GKey inp k ∧ gk2Items inp t.items) := by
    unfold gk2Items
    simp only [hk2Items, List.append_nil, hk2Tbl_eq]
    exact List.forall_mem_cons
  rw [this]

theorem gk2_mid_aot (inp : Bytes) (A B : Items) (k : CKey) (ts : List CTbl) (asp : Option Span) :
    gk2Items inp (A ++ (k, .aot ts asp) :: B) ↔ gk2Items inp A ∧ (GKey inp k ∧ gk2Aot inp ts) ∧ gk2Items inp B := by
  have hc : (k, CItem.aot ts asp) :: B = [(k, CItem.aot ts asp)] ++ B := rfl
  rw [hc, gk2Items_append, gk2Items_append]
  have : gk2Items inp [(k, CItem.aot ts asp)] ↔ (GKey inp k ∧ gk2Aot inp ts) := by
    unfold gk2Items gk2Aot
    simp only [hk2Items, List.append_nil]
    exact List.forall_mem_cons
  rw [this]

theorem gk2Aot_snoc (inp : Bytes) (ts : List CTbl) (t : CTbl) :
    gk2Aot inp (ts ++ [t]) ↔ gk2Aot inp ts ∧ gk2Items inp t.items := by
  unfold gk2Aot gk2Items
  rw [hk2Aot_append]
  simp only [hk2Aot, List.append_nil, hk2Tbl_eq]
  exact List.forall_mem_append

theorem bodyOkU_hk2 (items : Items) : bodyOkU items = true → hk2Items items = dkItems items := by
  refine (items_induct (P := fun l => bodyOkU l = true → hk2Items l = dkItems l)
    (T := fun t => bodyOkU t.items = true → hk2Items t.items = dkItems t.items) (A := fun _ => True)
    (fun _ => rfl) ?_ ?_ ?_ (fun _ _ _ _ _ _ ih => ih) trivial (fun _ _ _ _ => trivial)).1 items
  · intro k v r ih h
    simp only [bodyOkU, Bool.and_eq_true] at h
    simp only [hk2Items, dkItems]; exact ih h.2
  · rintro k ⟨its, imp, dot, p, dec, sp⟩ r iht ihr h
    simp only [bodyOkU, bodyTblU, Bool.and_eq_true] at h
    simp only [hk2Items, dkItems, hk2Tbl, dkTbl]
    rw [show hk2Items its = dkItems its from iht h.1.2, ihr h.2]
  · intro k ts sp r _ _ h
    simp [bodyOkU] at h

theorem bodyG_gk2 (inp : Bytes) (items : Items) (h : bodyOkU items = true) (hg : bodyG inp items) :
    gk2Items inp items := by
  unfold gk2Items; rw [bodyOkU_hk2 items h]; exact hg

theorem gk2_bodyG (inp : Bytes) (items : Items) (h : bodyOkU items = true) (hg : gk2Items inp items) :
    bodyG inp items := by
  unfold bodyG; rw [← bodyOkU_hk2 items h]; exact hg

/-- the root AFTER `start_table` / `start_array_table` has run: for `[t]` the last key is absent,
    for `[[t]]` its array is present — so `finalize_table` appends (`finStd`) or extends the
    array, and never meets a table under the last key -/
def SpineA2 (inp : Bytes) (a : Bool) (key : CKey) : CTbl → List CKey → List CKey → Prop
  | t, [], SP =>
      (if a then ∃ A k' ts asp B, t.items = A ++ (k', .aot ts asp) :: B ∧ (k'.key == key.key) = true ∧
          clookup key.key A = none ∧ SP = [k'] ∧ GKey inp k'
       else clookup key.key t.items = none ∧ SP = [key] ∧ GKey inp key)
  | t, k :: ks, SP => ∃ A k' B SP', clookup k.key A = none ∧ (k'.key == k.key) = true ∧
      GKey inp k' ∧ SP = k' :: SP' ∧
      ((∃ sub, t.items = A ++ (k', .table sub) :: B ∧ SpineA2 inp a key sub ks SP') ∨
       (∃ tsI l asp, t.items = A ++ (k', .aot (tsI ++ [l]) asp) :: B ∧ SpineA2 inp a key l ks SP'))

theorem spineA2_facts (inp : Bytes) (a : Bool) (key : CKey) : ∀ (pp : List CKey) (t : CTbl) (SP : List CKey),
    SpineA2 inp a key t pp SP → keysOf SP = keysOf (pp ++ [key]) ∧ (∀ k ∈ SP, GKey inp k) ∧ SP ≠ []
  | [], t, SP, h => by
    cases a with
    | true =>
      simp only [SpineA2, if_true] at h
      obtain ⟨A, k', ts, asp, B, _, e2, _, e4, e5⟩ := h
      subst e4
      refine ⟨by simp [keysOf, eq_of_beq e2], ?_, by simp⟩
      intro k hk; simp only [List.mem_singleton] at hk; subst hk; exact e5
    | false =>
      simp only [SpineA2, Bool.false_eq_true, if_false] at h
      obtain ⟨_, e4, e5⟩ := h
      subst e4
      refine ⟨rfl, ?_, by simp⟩
      intro k hk; simp only [List.mem_singleton] at hk; subst hk; exact e5
  | k :: ks, t, SP, h => by
    obtain ⟨A, k', B, SP', _, e2, e3, e4, h⟩ := h
    subst e4
    have ih : keysOf SP' = keysOf (ks ++ [key]) ∧ (∀ k ∈ SP', GKey inp k) ∧ SP' ≠ [] := by
      rcases h with ⟨sub, _, hs⟩ | ⟨tsI, l, asp, _, hs⟩
      · exact spineA2_facts inp a key ks sub SP' hs
      · exact spineA2_facts inp a key ks l SP' hs
    refine ⟨?_, ?_, by simp⟩
    · simp only [keysOf, List.map_cons, List.cons_append] at ih ⊢
      rw [ih.1, eq_of_beq e2]
    · intro x hx
      rcases List.mem_cons.1 hx with hx | hx
      · subst hx; exact e3
      · exact ih.2.1 x hx

theorem pathOkT2_empty (inp : Bytes) (a : Bool) (key : CKey) (t : CTbl) (hi : t.items = []) :
    ∀ pp, pathOkT2 inp a key t pp = true
  | [] => by simp [pathOkT2, hi, clookup]
  | k :: ks => by simp [pathOkT2, hi, clookup]

/-- the stored keys of the header path `pp ++ [key]` once `start_table` / `start_array_table` has
    run on `t`: a segment that names an existing entry keeps the stored key, a new one is stored
    as the header spells it; `[t]` stores its last key anew, `[[t]]` keeps that of an existing
    array of tables -/
def storedPath (a : Bool) (key : CKey) : CTbl → List CKey → List CKey
  | t, [] => [if a then (ckeyOf key.key t.items).getD key else key]
  | t, k :: ks => (ckeyOf k.key t.items).getD k ::
      (match clookup k.key t.items with
       | some (.table sub) => storedPath a key sub ks
       | some (.aot ts _) => (match ts.reverse with
           | l :: _ => storedPath a key l ks
           | [] => storedPath a key (newImplicit false) ks)
       | _ => storedPath a key (newImplicit false) ks)

theorem storedPath_new (a : Bool) (key : CKey) : ∀ ks, storedPath a key (newImplicit false) ks = ks ++ [key]
  | [] => by cases a <;> rfl
  | k :: ks => by
    have := storedPath_new a key ks
    simp only [storedPath, newImplicit, CTbl.items, clookup, ckeyOf, Option.getD_none, List.cons_append] at this ⊢
    rw [this]

/-- what `start_table` does to the summary: the entry `Hd` of a taken-over table `tk` itself (`hdN`
    of an implicit table: nothing, or a marker with flag `false` — so `Hd = []` wherever all flags
    are set) and the summary `K` of its sub-tables leave it; the path is there under the keys
    `storedPath` -/
def StartRes2 (f : Bytes → Bytes) (inp : Bytes) (a : Bool) (key : CKey) (t t' : CTbl) (pp P : List CKey) : Prop :=
  ∃ SP Hd K l1 l2, SP = storedPath a key t pp ∧ SpineA2 inp a key t' pp SP ∧ (∀ x ∈ Hd, x.2.1 = false) ∧
    nsItems f inp t.items P = l1 ++ (Hd ++ K) ++ l2 ∧ nsItems f inp t'.items P = l1 ++ l2 ∧
    (findTable key.key t pp = none → K = [] ∧ Hd = []) ∧
    (∀ tk, findTable key.key t pp = some tk → a = false ∧ K = nsItems f inp tk.items (P ++ SP) ∧
      tk.dotted = false ∧ onlySubs tk.items = true ∧ gk2Items inp tk.items ∧ tiTbl tk = true)

theorem start_spineT2 (f : Bytes → Bytes) (inp : Bytes) (a : Bool) (key : CKey) (hkey : GKey inp key) :
    ∀ (pp : List CKey) (t t' : CTbl) (P : List CKey), (∀ k ∈ pp, GKey inp k) → pathOkT2 inp a key t pp = true →
      gk2Items inp t.items → tiTbl t = true →
      descend t pp false (if a then arrFn key else eraseFn key) = some t' →
      StartRes2 f inp a key t t' pp P ∧ (∀ Q, valuesTbl t'.items Q = valuesTbl t.items Q) ∧ gk2Items inp t'.items := by
  intro pp t t' P hpp hok hg hti hd
  refine descend_induction (P := fun t pp t' => ∀ P : List CKey, (∀ k ∈ pp, GKey inp k) →
      pathOkT2 inp a key t pp = true → gk2Items inp t.items → tiTbl t = true →
      StartRes2 f inp a key t t' pp P ∧ (∀ Q, valuesTbl t'.items Q = valuesTbl t.items Q) ∧ gk2Items inp t'.items)
    ?_ ?_ ?_ ?_ pp t t' hd P hpp hok hg hti
  · intro t t' hd P _ hok hg hti
    obtain ⟨hnd, htis, _⟩ := tiTbl_parts t hti
    simp only [pathOkT2] at hok
    cases hl : clookup key.key t.items with
    | none =>
      have hft : findTable key.key t [] = none := by simp [findTable, hl]
      cases a with
      | false =>
        simp only [Bool.false_eq_true, if_false] at hd
        unfold eraseFn at hd
        injection hd with hd
        rw [cerase_of_none _ _ hl, setItems_self] at hd
        subst hd
        refine ⟨⟨[key], [], [], nsItems f inp t.items P, [], by simp [storedPath], by simpa [SpineA2] using ⟨hl, hkey⟩,
          (fun x hx => by cases hx), by simp, by simp, fun _ => ⟨rfl, rfl⟩, ?_⟩, fun _ => rfl, hg⟩
        intro tk htk; rw [hft] at htk; cases htk
      | true =>
        simp only [if_true] at hd
        unfold arrFn at hd
        rw [hl] at hd
        simp only [] at hd
        injection hd with hd
        subst hd
        refine ⟨⟨[key], [], [], nsItems f inp t.items P, [], by simp [storedPath, ckeyOf_none hl], ?_,
          (fun x hx => by cases hx), by simp, ?_, fun _ => ⟨rfl, rfl⟩, ?_⟩, ?_, ?_⟩
        · simp only [SpineA2, if_true, setItems_items]
          exact ⟨t.items, key, [], none, [], rfl, by simp, hl, rfl, hkey⟩
        · rw [setItems_items, nsItems_append]
          simp [nsItems, nsAot]
        · intro tk htk; rw [hft] at htk; cases htk
        · intro Q; rw [setItems_items]; exact valuesTbl_snoc_aot _ _ _ _ _
        · rw [setItems_items]
          exact (gk2_mid_aot inp t.items [] key [] none).2 ⟨hg, ⟨hkey, gk2Aot_nil inp⟩, gk2_nil inp⟩
    | some y =>
      rw [hl] at hok
      obtain ⟨A, k', B, e1, e2, e3, e4, _⟩ := clookup_split _ _ _ hl
      cases y with
      | value v => simp at hok
      | aot ts asp =>
        have hft : findTable key.key t [] = none := by simp [findTable, hl]
        simp only [] at hok
        subst hok
        simp only [if_true] at hd
        unfold arrFn at hd
        rw [hl] at hd
        simp only [] at hd
        injection hd with hd
        subst hd
        have hk' : GKey inp k' := by
          rw [e1] at hg
          exact ((gk2_mid_aot inp A B k' ts asp).1 hg).2.1.1
        refine ⟨⟨[k'], [], [], nsItems f inp t.items P, [], by simp [storedPath, e4], ?_,
          (fun x hx => by cases hx), by simp, by simp, fun _ => ⟨rfl, rfl⟩, ?_⟩, fun _ => rfl, hg⟩
        · simp only [SpineA2, if_true]
          exact ⟨A, k', ts, asp, B, e1, e3, e2, rfl, hk'⟩
        · intro tk htk; rw [hft] at htk; cases htk
      | table tk =>
        have hft : findTable key.key t [] = some tk := by simp [findTable, hl]
        simp only [Bool.and_eq_true, Bool.not_eq_true', segChk, e4, Bool.false_eq_true, if_false] at hok
        obtain ⟨⟨⟨⟨ha, himp⟩, htd⟩, hseg⟩, hsubs⟩ := hok
        subst ha
        simp only [Bool.false_eq_true, if_false] at hd
        unfold eraseFn at hd
        injection hd with hd
        subst hd
        have hlk : clookup key.key (cerase key.key t.items) = none := clookup_cerase_self _ _ hnd
        have hce : cerase key.key t.items = A ++ B := by rw [e1]; exact cerase_mid _ _ _ _ e3 A e2
        have htk : tiTbl tk = true := ti_lookup _ _ _ htis hl
        obtain ⟨_, htki, hpos⟩ := tiTbl_parts tk htk
        rw [e1] at hg
        obtain ⟨g1, g2, g3⟩ := (gk2_mid_table inp A B k' tk).1 hg
        have g2' : gk2Items inp tk.items := g2.2
        have hcong : nsItems f inp tk.items (P ++ [k']) = nsItems f inp tk.items (P ++ [key]) :=
          nsItems_congr f inp tk.items _ _ ((SegsEq.refl f inp P).snoc (sameSeg_segEq f inp key k' hseg).symm)
        refine ⟨⟨[key], hdN f inp tk (P ++ [k']) false, nsItems f inp tk.items (P ++ [key]),
          nsItems f inp A P, nsItems f inp B P, by simp [storedPath], ?_,
          hdN_flags_false f inp tk _ false (hpos himp), ?_, ?_, ?_, ?_⟩, ?_, ?_⟩
        · simp only [SpineA2, Bool.false_eq_true, if_false, setItems_items]
          exact ⟨hlk, trivial, hkey⟩
        · rw [e1, nsItems_append]
          simp only [nsItems]
          rw [nsTbl_eq, hcong]
          simp only [List.append_assoc]
        · rw [setItems_items, hce, nsItems_append]
        · intro h; rw [hft] at h; cases h
        · intro tk' h
          rw [hft] at h; injection h with h; subst h
          exact ⟨rfl, rfl, htd, hsubs, g2', htk⟩
        · intro Q; rw [setItems_items, hce, e1, valuesTbl_mid_table _ _ _ _ htd, valuesTbl_append]
        · rw [setItems_items, hce]
          exact (gk2Items_append inp A B).2 ⟨g1, g3⟩
  · intro t k ks sub' hl hd' ih P hpp _ hg _
    have hk : GKey inp k := hpp k (by simp)
    have hft : findTable key.key t (k :: ks) = none := by simp [findTable, hl]
    obtain ⟨⟨SP', Hd, K, l1, l2, iS, i1, _, j1, j2, _, _⟩, i2, i4⟩ := ih (P ++ [k])
      (fun x hx => hpp x (List.mem_cons_of_mem _ hx))
      (pathOkT2_empty inp a key _ rfl ks) (gk2_nil inp) (tiTbl_newImplicit false)
    have hs := descend_setItems _ (startFn_setItems a key) ks _ _ _ hd'
    have hnil : l1 ++ l2 = [] := by
      have : nsItems f inp (newImplicit false).items (P ++ [k]) = [] := rfl
      rw [this] at j1
      have h2 := (List.append_eq_nil_iff.1 j1.symm)
      have h3 := (List.append_eq_nil_iff.1 h2.1)
      rw [h3.1, h2.2]; rfl
    have hsd : sub'.dotted = false := setItems_eq_dotted _ _ hs
    refine ⟨⟨k :: SP', [], [], nsItems f inp t.items P, [], by simp [storedPath, hl, ckeyOf_none hl, iS], ⟨t.items, k, [], SP', hl, by simp, hk, rfl,
      Or.inl ⟨sub', by simp, i1⟩⟩, (fun x hx => by cases hx), by simp, ?_, fun _ => ⟨rfl, rfl⟩, ?_⟩, ?_, ?_⟩
    · rw [setItems_items, nsItems_append]
      simp only [nsItems, List.append_nil]
      rw [nsTbl_setItems f inp _ _ _ _ hs (i2 []), hdN_newImplicit, j2, hnil]
      simp
    · intro tk htk; rw [hft] at htk; cases htk
    · intro Q; rw [setItems_items]; exact valuesTbl_snoc_table _ _ _ hsd _
    · rw [setItems_items]
      exact (gk2_mid_table inp t.items [] k sub').2 ⟨hg, ⟨hk, i4⟩, gk2_nil inp⟩
  · intro t k ks sub sub' hl hd' ih P hpp hok hg hti
    obtain ⟨hnd, htis, _⟩ := tiTbl_parts t hti
    simp only [pathOkT2, hl] at hok
    obtain ⟨A, k', B, e1, e2, e3, e4, _⟩ := clookup_split _ _ _ hl
    have e3' : (k'.key == k.key) = true := e3
    have hlist : ∀ SP', P ++ [k'] ++ SP' = P ++ k' :: SP' := by intro SP'; simp
    have hft : findTable key.key t (k :: ks) = findTable key.key sub ks := by simp [findTable, hl]
    obtain ⟨g1, ⟨hk', hgs⟩, g3⟩ := (gk2_mid_table inp A B k' sub).1 (e1 ▸ hg)
    obtain ⟨⟨SP', Hd, K, l1, l2, iS, i1, jh, j1, j2, j3, j4⟩, i2, i4⟩ := ih (P ++ [k'])
      (fun x hx => hpp x (List.mem_cons_of_mem _ hx)) hok hgs (ti_lookup _ _ _ htis hl)
    have hs := descend_setItems _ (startFn_setItems a key) ks _ _ _ hd'
    have hsd : sub'.dotted = sub.dotted := setItems_eq_dotted _ _ hs
    have hcs : cset k (.table sub') t.items = A ++ (k', .table sub') :: B := by
      rw [e1]; exact cset_mid _ _ _ _ _ _ e3' e2
    rw [hcs]
    refine ⟨⟨k' :: SP', Hd, K, nsItems f inp A P ++ hdN f inp sub (P ++ [k']) false ++ l1, l2 ++ nsItems f inp B P, by simp [storedPath, hl, e4, iS],
      ⟨A, k', B, SP', e2, e3', hk', rfl, Or.inl ⟨sub', by simp, i1⟩⟩, jh, ?_, ?_, ?_, ?_⟩, ?_, ?_⟩
    · rw [e1, nsItems_append]
      simp only [nsItems]
      rw [nsTbl_eq, j1]
      simp only [List.append_assoc]
    · rw [setItems_items, nsItems_append]
      simp only [nsItems]
      rw [nsTbl_setItems f inp _ _ _ _ hs (i2 []), j2]
      simp only [List.append_assoc]
    · intro h; rw [hft] at h; exact j3 h
    · intro tk h; rw [hft] at h
      have := j4 tk h
      rw [hlist] at this; exact this
    · intro Q; rw [setItems_items, e1]; exact valuesTbl_mid_tbl_congr A B k' sub sub' hsd i2 Q
    · rw [setItems_items]
      exact (gk2_mid_table inp A B k' sub').2 ⟨g1, ⟨hk', i4⟩, g3⟩
  · intro t k ks tsI l l' asp hl hd' ih P hpp hok hg hti
    obtain ⟨hnd, htis, _⟩ := tiTbl_parts t hti
    have hrev : (tsI ++ [l]).reverse = l :: tsI.reverse := by simp
    simp only [pathOkT2, hl, hrev] at hok
    obtain ⟨A, k', B, e1, e2, e3, e4, _⟩ := clookup_split _ _ _ hl
    have e3' : (k'.key == k.key) = true := e3
    have hlist : ∀ SP', P ++ [k'] ++ SP' = P ++ k' :: SP' := by intro SP'; simp
    have hft : findTable key.key t (k :: ks) = findTable key.key l ks := by simp [findTable, hl, hrev]
    rw [e1] at hg
    obtain ⟨g1, ⟨hk', g2⟩, g3⟩ := (gk2_mid_aot inp A B k' _ asp).1 hg
    obtain ⟨g2a, g2b⟩ := (gk2Aot_snoc inp tsI l).1 g2
    have htl : tiTbl l = true := by
      have := ti_lookup _ _ _ htis hl
      simp only [tiItem] at this
      rw [tiAot_append] at this
      simp only [Bool.and_eq_true, tiAot, Bool.and_true] at this
      exact this.2
    obtain ⟨⟨SP', Hd, K, l1, l2, iS, i1, jh, j1, j2, j3, j4⟩, i2, i4⟩ := ih (P ++ [k'])
      (fun x hx => hpp x (List.mem_cons_of_mem _ hx)) hok g2b htl
    have hs := descend_setItems _ (startFn_setItems a key) ks _ _ _ hd'
    have hcs : cset k (.aot (tsI ++ [l']) asp) t.items = A ++ (k', .aot (tsI ++ [l']) asp) :: B := by
      rw [e1]; exact cset_mid _ _ _ _ _ _ e3' e2
    rw [hcs]
    refine ⟨⟨k' :: SP', Hd, K, nsItems f inp A P ++ nsAot f inp tsI (P ++ [k']) ++ hdN f inp l (P ++ [k']) true ++ l1,
      l2 ++ nsItems f inp B P, by simp [storedPath, hl, e4, hrev, iS],
      ⟨A, k', B, SP', e2, e3', hk', rfl, Or.inr ⟨tsI, l', asp, by simp, i1⟩⟩, jh, ?_, ?_, ?_, ?_⟩, ?_, ?_⟩
    · rw [e1, nsItems_append]
      simp only [nsItems]
      rw [nsAot_append]
      simp only [nsAot, List.append_nil]
      rw [nsTbl_eq, j1]
      simp only [List.append_assoc]
    · rw [setItems_items, nsItems_append]
      simp only [nsItems]
      rw [nsAot_append]
      simp only [nsAot, List.append_nil]
      rw [nsTbl_setItems f inp _ _ _ _ hs (i2 []), j2]
      simp only [List.append_assoc]
    · intro h; rw [hft] at h; exact j3 h
    · intro tk h; rw [hft] at h
      have := j4 tk h
      rw [hlist] at this; exact this
    · intro Q; rw [setItems_items, e1, valuesTbl_mid_aot, valuesTbl_mid_aot]
    · rw [setItems_items]
      exact (gk2_mid_aot inp A B k' _ asp).2 ⟨g1, ⟨hk', (gk2Aot_snoc inp tsI l').2 ⟨g2a, i4⟩⟩, g3⟩

theorem fin_spineT2 (f : Bytes → Bytes) (inp : Bytes) (a : Bool) (key : CKey) (cur : CTbl)
    (hcd : cur.dotted = false) (hgc : gk2Items inp cur.items) :
    ∀ (pp : List CKey) (t t' : CTbl) (P SP : List CKey), SpineA2 inp a key t pp SP → gk2Items inp t.items →
      descend t pp false (if a then finArr key cur else finStd key cur) = some t' →
      (∃ l1 l2, nsItems f inp t.items P = l1 ++ l2 ∧
        nsItems f inp t'.items P = l1 ++ nsTbl f inp cur (P ++ SP) a ++ l2) ∧
      (∀ Q, valuesTbl t'.items Q = valuesTbl t.items Q) ∧ gk2Items inp t'.items := by
  intro pp t t' P SP hsp hg hd
  refine descend_induction (P := fun t pp t' => ∀ P SP : List CKey, SpineA2 inp a key t pp SP → gk2Items inp t.items →
      (∃ l1 l2, nsItems f inp t.items P = l1 ++ l2 ∧
        nsItems f inp t'.items P = l1 ++ nsTbl f inp cur (P ++ SP) a ++ l2) ∧
      (∀ Q, valuesTbl t'.items Q = valuesTbl t.items Q) ∧ gk2Items inp t'.items) ?_ ?_ ?_ ?_ pp t t' hd P SP hsp hg
  · intro t t' hd P SP hsp hg
    cases a with
    | false =>
      simp only [SpineA2, Bool.false_eq_true, if_false] at hd hsp
      obtain ⟨hsp, eSP, hkey⟩ := hsp
      subst eSP
      unfold finStd at hd
      rw [hsp] at hd
      simp only [] at hd
      injection hd with hd
      subst hd
      refine ⟨⟨nsItems f inp t.items P, [], by simp, ?_⟩, ?_, ?_⟩
      · rw [setItems_items, nsItems_append]
        simp only [nsItems, List.append_nil]
      · intro Q; rw [setItems_items]; exact valuesTbl_snoc_table _ _ _ hcd _
      · rw [setItems_items]
        exact (gk2_mid_table inp t.items [] key cur).2 ⟨hg, ⟨hkey, hgc⟩, gk2_nil inp⟩
    | true =>
      simp only [SpineA2, if_true] at hd hsp
      obtain ⟨A, k', ts, asp, B, e1, e2, e3, eSP, hk'⟩ := hsp
      subst eSP
      have hl : clookup key.key t.items = some (.aot ts asp) := by
        rw [e1]; exact clookup_mid _ _ _ _ _ e2 e3
      unfold finArr at hd
      rw [hl] at hd
      simp only [Option.getD_some] at hd
      injection hd with hd
      rw [e1, cset_mid _ _ _ _ _ _ e2 e3] at hd
      subst hd
      rw [e1] at hg
      obtain ⟨g1, ⟨_, g2⟩, g3⟩ := (gk2_mid_aot inp A B k' ts asp).1 hg
      refine ⟨⟨nsItems f inp A P ++ nsAot f inp ts (P ++ [k']), nsItems f inp B P, ?_, ?_⟩, ?_, ?_⟩
      · rw [e1, nsItems_append]
        simp only [nsItems, List.append_assoc]
      · rw [setItems_items, nsItems_append]
        simp only [nsItems]
        rw [nsAot_append]
        simp only [nsAot, List.append_nil, List.append_assoc]
      · intro Q; rw [setItems_items, e1, valuesTbl_mid_aot, valuesTbl_mid_aot]
      · rw [setItems_items]
        exact (gk2_mid_aot inp A B k' _ _).2 ⟨g1, ⟨hk', (gk2Aot_snoc inp ts cur).2 ⟨g2, hgc⟩⟩, g3⟩
  · intro t k ks sub' hl _ _ P SP hsp _
    obtain ⟨A, k', B, SP', e3, e2, _, _, hsp⟩ := hsp
    rcases hsp with ⟨sub, e1, _⟩ | ⟨tsI, l, asp, e1, _⟩ <;>
      · rw [e1, clookup_mid _ _ _ _ _ e2 e3] at hl; cases hl
  · intro t k ks sub sub' hl hd' ih P SP hsp hg
    obtain ⟨A, k', B, SP', e3, e2, hk', eSP, hsp⟩ := hsp
    subst eSP
    have hlist : P ++ [k'] ++ SP' = P ++ k' :: SP' := by simp
    rcases hsp with ⟨sub0, e1, hsub⟩ | ⟨tsI, l, asp, e1, _⟩
    · rw [e1, clookup_mid _ _ _ _ _ e2 e3] at hl
      injection hl with hl; injection hl with hl; subst hl
      rw [e1] at hg
      obtain ⟨g1, ⟨_, g2'⟩, g3⟩ := (gk2_mid_table inp A B k' sub0).1 hg
      obtain ⟨⟨l1, l2, i1, i2⟩, i3, i4⟩ := ih (P ++ [k']) SP' hsub g2'
      have hs := descend_setItems _ (finFn_setItems a key cur) ks _ _ _ hd'
      have hsd' : sub'.dotted = sub0.dotted := setItems_eq_dotted _ _ hs
      rw [e1, cset_mid _ _ _ _ _ _ e2 e3]
      refine ⟨⟨nsItems f inp A P ++ hdN f inp sub0 (P ++ [k']) false ++ l1, l2 ++ nsItems f inp B P, ?_, ?_⟩, ?_, ?_⟩
      · rw [nsItems_append]
        simp only [nsItems]
        rw [nsTbl_eq, i1]
        simp only [List.append_assoc]
      · rw [setItems_items, nsItems_append]
        simp only [nsItems]
        rw [nsTbl_setItems f inp _ _ _ _ hs (i3 []), i2, hlist]
        simp only [List.append_assoc]
      · intro Q; rw [setItems_items]; exact valuesTbl_mid_tbl_congr A B k' sub0 sub' hsd' i3 Q
      · rw [setItems_items]
        exact (gk2_mid_table inp A B k' sub').2 ⟨g1, ⟨hk', i4⟩, g3⟩
    · rw [e1, clookup_mid _ _ _ _ _ e2 e3] at hl; cases hl
  · intro t k ks tsI l l' asp hl hd' ih P SP hsp hg
    obtain ⟨A, k', B, SP', e3, e2, hk', eSP, hsp⟩ := hsp
    subst eSP
    have hlist : P ++ [k'] ++ SP' = P ++ k' :: SP' := by simp
    rcases hsp with ⟨sub0, e1, _⟩ | ⟨tsI0, l0, asp0, e1, hsub⟩
    · rw [e1, clookup_mid _ _ _ _ _ e2 e3] at hl; cases hl
    · rw [e1, clookup_mid _ _ _ _ _ e2 e3] at hl
      injection hl with hl; injection hl with hl hl'
      obtain ⟨e7, e8⟩ := List.append_singleton_inj.mp hl
      subst e7; subst e8; subst hl'
      rw [e1] at hg
      obtain ⟨g1, ⟨_, g2⟩, g3⟩ := (gk2_mid_aot inp A B k' _ asp0).1 hg
      obtain ⟨g2a, g2b⟩ := (gk2Aot_snoc inp tsI0 l0).1 g2
      obtain ⟨⟨l1, l2, i1, i2⟩, i3, i4⟩ := ih (P ++ [k']) SP' hsub g2b
      have hs := descend_setItems _ (finFn_setItems a key cur) ks _ _ _ hd'
      rw [e1, cset_mid _ _ _ _ _ _ e2 e3]
      refine ⟨⟨nsItems f inp A P ++ nsAot f inp tsI0 (P ++ [k']) ++ hdN f inp l0 (P ++ [k']) true ++ l1,
        l2 ++ nsItems f inp B P, ?_, ?_⟩, ?_, ?_⟩
      · rw [nsItems_append]
        simp only [nsItems]
        rw [nsAot_append]
        simp only [nsAot, List.append_nil]
        rw [nsTbl_eq, i1]
        simp only [List.append_assoc]
      · rw [setItems_items, nsItems_append]
        simp only [nsItems]
        rw [nsAot_append]
        simp only [nsAot, List.append_nil]
        rw [nsTbl_setItems f inp _ _ _ _ hs (i3 []), i2, hlist]
        simp only [List.append_assoc]
      · intro Q; rw [setItems_items, valuesTbl_mid_aot, valuesTbl_mid_aot]
      · rw [setItems_items]
        exact (gk2_mid_aot inp A B k' _ asp0).2 ⟨g1, ⟨hk', (gk2Aot_snoc inp tsI0 l').2 ⟨g2a, i4⟩⟩, g3⟩

end TomlVerif.Lemmas.Tiling03More.Gen
