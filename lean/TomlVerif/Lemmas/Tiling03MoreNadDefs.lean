import TomlVerif.Lemmas.Tiling03MoreSemDefs
/-! C03, same data for NON-adjacent dotted keys — the class `nadRun`: `adjRun` with the adjacency
    check `dottedOkA` replaced by `dottedOkN` (a prefix segment that names an existing entry names
    a dotted-key table, anywhere in its table).  Inclusion `adjRun ⊆ nadRun`. -/
namespace TomlVerif.Lemmas.Tiling03More
open TomlVerif TomlVerif.Spec TomlVerif.Model TomlVerif.Model.Strings TomlVerif.Model.Value
open TomlVerif.Model.Cst TomlVerif.Model.Encode TomlVerif.Lemmas.Suffix03 TomlVerif.Lemmas.Cst03
open TomlVerif.Lemmas.LastByte03 TomlVerif.Lemmas.Tiling03 TomlVerif.Lemmas.Tiling03Hdr
open TomlVerif.Lemmas.Tiling03Nest

/-- dotted keys: every prefix segment that names an existing entry names a dotted-key table -/
def dottedOkN : CTbl → List CKey → Bool
  | _, [] => true
  | t, k :: ks => match clookup k.key t.items with
      | none => true
      | some (.table sub) => sub.dotted && dottedOkN sub ks
      | some _ => false

def kvLineOkN (inp : Bytes) (st : CState) (s : Bytes) : Bool :=
  match ckeyPath inp.length s with
  | .ok ks (0x3D :: r1) =>
    (match cvalue inp.length (3 * r1.length + 4) (ks.length - 1) (dropWs r1) with
     | .ok _ _ =>
       (match splitLast ks with
        | some (path, _) => dottedOkN st.current path
        | none => true)
     | _ => true)
  | _ => true

def runOkN (inp : Bytes) : Nat → CState → Bytes → Bool
  | 0, _, _ => true
  | fuel + 1, st, s =>
    let n := inp.length
    match s with
    | [] => true
    | b :: r =>
      if b == 0x23 then
        let r1 := dropComment r
        match r1 with
        | [] => true
        | _ => match newline? r1 with
          | some r2 =>
            let (st', r3) := parseWs n (onWs st (pos n s) (pos n r2)) r2
            runOkN inp fuel st' r3
          | none => true
      else if b == 0x5B then
        hdrLineOkA inp st s &&
        (match ctableLine n st s with
         | some (st', r1) =>
           let (st'', r2) := parseWs n st' r1
           runOkN inp fuel st'' r2
         | none => true)
      else if b == 0x0A || b == 0x0D then
        match newline? s with
        | some r1 =>
          let (st', r2) := parseWs n (onWs st (pos n s) (pos n r1)) r1
          runOkN inp fuel st' r2
        | none => true
      else
        kvLineOkN inp st s &&
        (match ckeyvalLine n st s with
         | some (st', r1) =>
           let (st'', r2) := parseWs n st' r1
           runOkN inp fuel st'' r2
         | none => true)

theorem runOkN_with (inp : Bytes) : ∀ (fuel : Nat) (st : CState) (s : Bytes),
    runOkN inp fuel st s = runOkWith (hdrLineOkA inp) (kvLineOkN inp) inp.length fuel st s
  | 0, _, _ => rfl
  | fuel + 1, st, s => by
    unfold runOkN runOkWith
    simp only [runOkN_with inp fuel]
    rfl

/-- the class: the checked run of `parse_document`, structure only, dotted keys in any order -/
def nadRun (s : Bytes) : Bool :=
  let n := s.length
  let s0 := Doc.stripBom s
  let (st0, s1) := parseWs n {} s0
  runOkN s (s1.length + 1) st0 s1

/-! ### `adjRun ⊆ nadRun` -/

theorem dottedOkA_N : ∀ (path : List CKey) (t : CTbl), dottedOkA t path = true → dottedOkN t path = true
  | [], _, _ => rfl
  | k :: ks, t, h => by
    simp only [dottedOkA] at h
    simp only [dottedOkN]
    cases hl : clookup k.key t.items with
    | none => rfl
    | some y =>
      rw [hl] at h
      simp only [] at h ⊢
      split at h
      · rename_i init k' sub hle
        obtain ⟨_, _, _, e4⟩ := lastEntry_some _ _ _ _ _ hle
        rw [hl] at e4
        injection e4 with e4
        subst e4
        simp only [Bool.and_eq_true] at h ⊢
        exact ⟨h.1, dottedOkA_N ks sub h.2⟩
      · cases h

theorem kvLineOkA_N (inp : Bytes) (st : CState) (s : Bytes) (h : kvLineOkA inp st s = true) :
    kvLineOkN inp st s = true := by
  unfold kvLineOkA at h
  unfold kvLineOkN
  split
  · rename_i ks r1 hk
    rw [hk] at h
    simp only [] at h ⊢
    split
    · rename_i v r2 hv
      rw [hv] at h
      simp only [] at h
      split
      · rename_i path key hsl
        rw [hsl] at h
        exact dottedOkA_N path _ h
      · rfl
    · rfl
  · rfl

theorem adjRun_N (s : Bytes) (h : adjRun s = true) : nadRun s = true := by
  unfold adjRun at h
  unfold nadRun
  simp only [] at h ⊢
  rw [runOkA_with] at h
  rw [runOkN_with]
  exact runOkWith_mono _ (fun _ _ h => h) (kvLineOkA_N s) _ _ _ h

theorem dottedOkN_empty (t : CTbl) (h : t.items = []) : ∀ path, dottedOkN t path = true
  | [] => rfl
  | k :: ks => by simp [dottedOkN, h, clookup]

theorem dottedOkN_items (t t' : CTbl) (h : t'.items = t.items) :
    ∀ path, dottedOkN t' path = dottedOkN t path
  | [] => rfl
  | k :: ks => by simp only [dottedOkN, h]

theorem kvLineOkN_use (inp : Bytes) (st : CState) (s r1 r2 : Bytes) (ks path : List CKey) (key : CKey)
    (v : CVal) (hok : kvLineOkN inp st s = true) (hk : ckeyPath inp.length s = .ok ks (0x3D :: r1))
    (hv : cvalue inp.length (3 * r1.length + 4) (ks.length - 1) (dropWs r1) = .ok v r2)
    (hsl : splitLast ks = some (path, key)) : dottedOkN st.current path = true := by
  unfold kvLineOkN at hok
  rw [hk] at hok
  simp only [] at hok
  rw [hv] at hok
  simp only [hsl] at hok
  exact hok

end TomlVerif.Lemmas.Tiling03More
