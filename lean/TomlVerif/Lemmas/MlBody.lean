import TomlVerif.Spec.AstString
import TomlVerif.Model.Strings
/-! The loop shared by `ml_basic_body` and `ml_literal_body`.  Both read pieces of content that do not
    start with the quote character `q` (one `unit` each) and runs of `q`: a run of one or two followed
    by something else is content, a run of three or more closes the string and leaves up to two of
    its members to the body.  `Body` says this as a relation on (input, decoded value): whatever the loop
    accepts is in it, and it accepts all of it when `unit` always consumes something.  The quote-run
    discipline is thereby argued once, for both kinds, for the reader's grammar and for the writer's output. -/
namespace TomlVerif.Lemmas.MlBody
open TomlVerif TomlVerif.Spec TomlVerif.Spec.AstString TomlVerif.Model.Strings

def mlBody (q : Byte) (unit : Bytes → Option (Bytes × Bytes)) : Nat → Bytes → Bytes → Res Bytes
  | 0, _, _ => .cut
  | fuel + 1, s, acc =>
    match s with
    | [] => .cut
    | b :: r =>
      if b == q then
        let n := countLeading q (b :: r)
        if 3 ≤ n then .ok (acc ++ List.replicate (min (n - 3) 2) q) ((b :: r).drop (min n 5))
        else if ((b :: r).drop n).isEmpty then .cut
        else mlBody q unit fuel r (acc ++ [q])
      else match unit (b :: r) with
        | some (c, r') => mlBody q unit fuel r' (acc ++ c)
        | none => .cut

/-- `Body q unit rest s w`: `s` is a body with value `w`, its closing delimiter, and `rest` -/
inductive Body (q : Byte) (unit : Bytes → Option (Bytes × Bytes)) (rest : Bytes) : Bytes → Bytes → Prop
  | close (k : Nat) : k ≤ 2 → MlFollow q k rest →
      Body q unit rest (List.replicate k q ++ q :: q :: q :: rest) (List.replicate k q)
  | unit {b : Byte} {r c r' w : Bytes} : b ≠ q → unit (b :: r) = some (c, r') → Body q unit rest r' w →
      Body q unit rest (b :: r) (c ++ w)
  | quotes (k : Nat) {x : Byte} {t w : Bytes} : 1 ≤ k → k ≤ 2 → x ≠ q → Body q unit rest (x :: t) w →
      Body q unit rest (List.replicate k q ++ x :: t) (List.replicate k q ++ w)

variable {q : Byte} {unit : Bytes → Option (Bytes × Bytes)}

theorem countLeading_replicate_append (q : Byte) (k : Nat) (t : Bytes) :
    countLeading q (List.replicate k q ++ t) = k + countLeading q t := by
  induction k with
  | zero => simp
  | succ n ih => simp [List.replicate_succ, countLeading, ih]; omega

theorem countLeading_zero {rest : Bytes} (h : rest.head? ≠ some q) : countLeading q rest = 0 := by
  cases rest with
  | nil => rfl
  | cons x t =>
    have : x ≠ q := by intro e; apply h; simp [e]
    simp [countLeading, this]

theorem countLeading_split (q : Byte) (s : Bytes) : ∀ k, k ≤ countLeading q s →
    s = List.replicate k q ++ s.drop k := by
  induction s with
  | nil => intro k hk; simp [countLeading] at hk; subst hk; rfl
  | cons b r ih =>
    intro k hk
    cases k with
    | zero => rfl
    | succ k =>
      by_cases hb : b = q
      · subst hb
        simp only [countLeading, beq_self_eq_true, if_true] at hk
        have := ih k (by omega)
        simp only [List.replicate_succ, List.cons_append, List.drop_succ_cons]
        rw [← this]
      · simp [countLeading, hb] at hk

theorem countLeading_drop_head (q : Byte) (s : Bytes) : (s.drop (countLeading q s)).head? ≠ some q := by
  induction s with
  | nil => simp [countLeading]
  | cons b r ih =>
    by_cases hb : b = q
    · subst hb; simpa [countLeading] using ih
    · simp [countLeading, hb]

/-- the loop pushes quote characters one at a time, `Body.quotes` takes a whole run: so a pushed quote is merged
    into the run that follows it -/
theorem Body.consQuote {rest s w : Bytes} (h : Body q unit rest s w) (hc : countLeading q s ≤ 1)
    (hne : s ≠ []) : Body q unit rest (q :: s) (q :: w) := by
  cases h with
  | close k hk hf => rw [countLeading_replicate_append] at hc; simp [countLeading] at hc; omega
  | unit hb hu hr => exact Body.quotes 1 (Nat.le_refl 1) (by omega) hb (Body.unit hb hu hr)
  | quotes k h1 h2 hx hr =>
    rw [countLeading_replicate_append] at hc
    have : k = 1 := by omega
    subst this
    exact Body.quotes 2 (by omega) (Nat.le_refl 2) hx hr

theorem mlBody_sound : ∀ (fuel : Nat) (s acc v rest : Bytes), mlBody q unit fuel s acc = .ok v rest →
    ∃ w, v = acc ++ w ∧ Body q unit rest s w := by
  intro fuel
  induction fuel with
  | zero => intro s acc v rest h; simp [mlBody] at h
  | succ f ih =>
    intro s acc v rest h
    cases s with
    | nil => simp [mlBody] at h
    | cons b r =>
      unfold mlBody at h
      simp only [] at h
      by_cases hq : b = q
      · subst hq
        rw [if_pos (beq_self_eq_true b)] at h
        generalize hn : countLeading b (b :: r) = n at h
        by_cases h3 : 3 ≤ n
        · rw [if_pos h3] at h
          injection h with hv hr
          -- `min n 5` quote characters are consumed: `min (n - 3) 2` for the body, three to close
          have hsplit := countLeading_split b (b :: r) (min n 5) (by omega)
          rw [hr, show min n 5 = min (n - 3) 2 + 3 by omega, ← List.replicate_append_replicate, List.append_assoc] at hsplit
          refine ⟨_, hv.symm, ?_⟩
          rw [hsplit]
          refine Body.close _ (Nat.min_le_right _ _) ?_
          by_cases h5 : 5 ≤ n
          · exact Or.inl (by omega)
          · refine Or.inr ?_
            rw [← hr, show min n 5 = n by omega, ← hn]
            exact countLeading_drop_head b (b :: r)
        · rw [if_neg h3] at h
          by_cases he : (List.drop n (b :: r)).isEmpty = true
          · rw [if_pos he] at h; cases h
          · rw [if_neg he] at h
            obtain ⟨w, hv, hb⟩ := ih r _ v rest h
            have hc : countLeading b r ≤ 1 := by simp [countLeading] at hn; omega
            have hne : r ≠ [] := by
              rintro rfl
              simp [countLeading] at hn; subst hn; simp at he
            exact ⟨b :: w, by simp [hv], hb.consQuote hc hne⟩
      · rw [if_neg (by simpa using hq)] at h
        cases hu : unit (b :: r) with
        | none => simp [hu] at h
        | some p =>
          obtain ⟨c, r'⟩ := p
          simp only [hu] at h
          obtain ⟨w, hv, hb⟩ := ih r' _ v rest h
          exact ⟨c ++ w, by simp [hv], Body.unit hq hu hb⟩

theorem mlBody_quotes (fuel k : Nat) (x : Byte) (t acc : Bytes) (hk : k ≤ 2) (hx : x ≠ q) :
    mlBody q unit (fuel + k) (List.replicate k q ++ x :: t) acc =
      mlBody q unit fuel (x :: t) (acc ++ List.replicate k q) := by
  match k, hk with
  | 0, _ => simp
  | 1, _ => simp [List.replicate, mlBody, countLeading, hx]
  | 2, _ => simp [List.replicate, mlBody, countLeading, hx]

theorem mlBody_close (fuel k : Nat) (rest acc : Bytes) (hk : k ≤ 2) (hf : MlFollow q k rest) :
    mlBody q unit (fuel + 1) (List.replicate k q ++ q :: q :: q :: rest) acc =
      .ok (acc ++ List.replicate k q) rest := by
  have h0 : k = 2 ∨ countLeading q rest = 0 := hf.imp id countLeading_zero
  match k, hk, h0 with
  | 0, _, .inr h0 => simp [mlBody, countLeading, h0]
  | 1, _, .inr h0 => simp [List.replicate, mlBody, countLeading, h0]
  | 2, _, _ =>
    have e2 : min (countLeading q rest + 1 + 1 + 1 + 1 + 1) 5 = 5 := by omega
    simp [List.replicate, mlBody, countLeading, e2]

theorem mlBody_complete (hunit : ∀ s c r', unit s = some (c, r') → r'.length < s.length)
    {rest s w : Bytes} (h : Body q unit rest s w) : ∀ (fuel : Nat) (acc : Bytes), s.length < fuel →
    mlBody q unit fuel s acc = .ok (acc ++ w) rest := by
  induction h with
  | close k hk hf =>
    intro fuel acc hl
    obtain ⟨f, rfl⟩ : ∃ f, fuel = f + 1 := ⟨fuel - 1, by omega⟩
    exact mlBody_close f k rest acc hk hf
  | @unit b r c r' w hb hu _ ih =>
    intro fuel acc hl
    obtain ⟨f, rfl⟩ : ∃ f, fuel = f + 1 := ⟨fuel - 1, by omega⟩
    have := hunit _ _ _ hu
    rw [mlBody]
    simp only [show (b == q) = false by simpa using hb, hu]
    rw [ih f _ (by simp only [List.length_cons] at hl this; omega), List.append_assoc]
    simp
  | @quotes k x t w h1 h2 hx _ ih =>
    intro fuel acc hl
    simp only [List.length_append, List.length_replicate] at hl
    obtain ⟨f, rfl⟩ : ∃ f, fuel = f + k := ⟨fuel - k, by omega⟩
    rw [mlBody_quotes f k x t acc h2 hx, ih f _ (by omega), List.append_assoc]

theorem Body.run {rest t w : Bytes} {x : Byte} (k : Nat) (hk : k ≤ 2) (hx : x ≠ q)
    (h : Body q unit rest (x :: t) w) :
    Body q unit rest (List.replicate k q ++ x :: t) (List.replicate k q ++ w) := by
  by_cases h0 : k = 0
  · subst h0; exact h
  · exact Body.quotes k (by omega) hk hx h

theorem mlBody_ne_bt : ∀ (fuel : Nat) (s acc : Bytes), mlBody q unit fuel s acc ≠ .bt := by
  intro fuel
  induction fuel with
  | zero => intro s acc h; simp [mlBody] at h
  | succ f ih =>
    intro s acc h
    cases s with
    | nil => simp [mlBody] at h
    | cons b r =>
      unfold mlBody at h
      simp only [] at h
      repeat' split at h
      all_goals first | exact ih _ _ h | cases h

end TomlVerif.Lemmas.MlBody

namespace TomlVerif.Lemmas
open TomlVerif TomlVerif.Model.Strings

theorem countLeading_replicate (q x : UInt8) (k : Nat) (t : Bytes) (hx : x ≠ q) :
    countLeading q (List.replicate k q ++ x :: t) = k := by
  rw [MlBody.countLeading_replicate_append]; simp [countLeading, hx]

theorem countLeading_replicate_nil (q : UInt8) (k : Nat) :
    countLeading q (List.replicate k q) = k := by
  simpa [countLeading] using MlBody.countLeading_replicate_append q k []

end TomlVerif.Lemmas
