import TomlVerif.Lemmas.TriviaKeysSound01
import TomlVerif.Lemmas.ScalarDispatch01
/-! Soundness of the container parsers (`array`, `inline_table`) over the syntax `QVal`, given that the
    scalar branches of `value` are sound (`ScalarSound`): every successful parse consumed the rendering of a
    well-formed tree.  An instance of `ValueParse.parse_induction`: one lemma per way of building a result. -/
namespace TomlVerif.Lemmas.Sound01
open TomlVerif TomlVerif.Spec TomlVerif.Model TomlVerif.Model.Strings TomlVerif.Model.Value
open TomlVerif.Spec.AstValue TomlVerif.Spec.AstValueQ TomlVerif.Lemmas.Value01 TomlVerif.Lemmas.ValueParse
open TomlVerif.Lemmas.Scalars01 (numStart_ne)

/-- the scalar branches of `value` (everything that does not start with `[` or `{`) are sound: what is consumed
    is a scalar token (`ScalarOK`: read back the same way before anything that may follow a value) -/
def ScalarSound : Prop :=
  ∀ (fuel d : Nat) (s : Bytes) (v : Val) (rest : Bytes), value fuel d s = .ok v rest →
    (∀ b r, s = b :: r → b ≠ 0x5B ∧ b ≠ 0x7B) →
    ∃ t : ScalarTok, ScalarOK t ∧ s = t.tok ++ rest ∧ t.v = v

/-- what the model guarantees about nesting: scalars are accepted at any depth (the recursion check sits in
    `array` and `inline_table`), containers only below the limit -/
def DepthOK (d : Nat) (a : QVal) : Prop := depthQ a = 0 ∨ d + depthQ a < LIMIT

def ValSpec (d : Nat) (s : Bytes) (v : Val) (rest : Bytes) : Prop :=
  ∃ a : QVal, WFQ a ∧ s = renderQ a ++ rest ∧ semQ a = v ∧ DepthOK d a

def ElemsSpec (d : Nat) (s : Bytes) (vs : List Val) (r : Bytes) : Prop :=
  ∃ items : List (Wcn × QVal × Wcn), WFItemsQ items ∧ vs = semItemsQ items ∧
    (depthItemsQ items = 0 ∨ d + depthItemsQ items < LIMIT) ∧ s = renderItemsQ items ++ r

def ArrSpec (d : Nat) (s : Bytes) (vs : List Val) (r : Bytes) : Prop :=
  ∃ (items : List (Wcn × QVal × Wcn)) (tc : Bool) (tail : Wcn), WFItemsQ items ∧ WcnWF tail ∧ (items = [] → tc = false) ∧
    vs = semItemsQ items ∧ (depthItemsQ items = 0 ∨ d + depthItemsQ items < LIMIT) ∧
    s = renderItemsQ items ++ ((if tc then [0x2C] else []) ++ (renderWcn tail ++ r))

def PairsSpec (d : Nat) (s : Bytes) (kvs : List (List Bytes × Bytes × Val)) (r : Bytes) : Prop :=
  ∃ items : List (QDKey × Bytes × QVal × Bytes), WFPairsQ items ∧ kvs = flatPairsQ items ∧
    (depthPairsQ items = 0 ∨ d + depthPairsQ items < LIMIT) ∧ s = renderPairsQ items ++ r

/-! Depth arithmetic, stated over `Nat` variables: `omega` inside the proofs below would have to digest the
    whole context (trees, renderings), which is slow to check. -/

theorem depthOK_max {d a b L : Nat} (ha : a = 0 ∨ d + a < L) (hb : b = 0 ∨ d + b < L) :
    max a b = 0 ∨ d + max a b < L := by omega
theorem entry_depth {d n m a L : Nat} (hn : n = m) (hl : d + n < L) (ha : a = 0 ∨ d + n + a < L) :
    d + (m + a) < L := by omega
theorem cont_depth {d D L : Nat} (h1 : d + 1 < L) (h : D = 0 ∨ d + 1 + D < L) : d + (1 + D) < L := by omega

theorem keyword_head (k : Byte) (kw s : Bytes) (u : Unit) (r : Bytes) (h : Numbers.keyword (k :: kw) s = .ok u r) :
    ∃ t, s = k :: t :=
  ⟨kw ++ r, (Suffix03.keyword_eq _ _ _ h).2⟩

theorem scalarParse_head {s : Bytes} {v : Val} {r : Bytes} (h : ScalarParse s v r) :
    ∀ b t, s = b :: t → b ≠ 0x5B ∧ b ≠ 0x7B := by
  have letter : ∀ k : Byte, k ≠ 0x5B ∧ k ≠ 0x7B → (∃ t, s = k :: t) → ∀ b t, s = b :: t → b ≠ 0x5B ∧ b ≠ 0x7B := by
    rintro k hk ⟨t', rfl⟩ b t e
    injection e with e _
    rw [← e]; exact hk
  cases h with
  | str hq _ => intro b t e; injection e with e _; subst e; exact (Scalars01.quote_facts _ hq).2.2
  | dt hb _ => intro b t e; injection e with e _; subst e; exact (numStart_ne _ hb).2
  | float hb _ _ => intro b t e; injection e with e _; subst e; exact (numStart_ne _ hb).2
  | int hb _ _ _ => intro b t e; injection e with e _; subst e; exact (numStart_ne _ hb).2
  | tt hk => exact letter 0x74 (by decide) (keyword_head _ _ _ _ _ hk)
  | ff hk => exact letter 0x66 (by decide) (keyword_head _ _ _ _ _ hk)
  | inf hs => exact letter 0x69 (by decide) (Numbers11.startsWith_head _ _ _ _ hs)
  | nan hs => exact letter 0x6E (by decide) (Numbers11.startsWith_head _ _ _ _ hs)

/-- the scalar branches of `value` need no fuel beyond the first unit -/
theorem value_of_scalarParse {s : Bytes} {v : Val} {r : Bytes} (h : ScalarParse s v r) (d : Nat) :
    value 1 d s = .ok v r := by
  cases h with
  | str hq hw => rw [Scalars01.value_str 0 d _ _ (by simpa using hq), hw]; rfl
  | dt hb hd => exact Scalars01.value_dt 0 d _ _ _ _ hb hd
  | float hb hd hf => exact Scalars01.value_float 0 d _ _ _ _ hb hd hf
  | int hb hd hf hi => exact Scalars01.value_int 0 d _ _ _ _ hb hd hf hi
  | tt hk => obtain ⟨t, rfl⟩ := keyword_head _ _ _ _ _ hk; simp [value, hk, Res.map, isDigit, inR]
  | ff hk => obtain ⟨t, rfl⟩ := keyword_head _ _ _ _ _ hk; simp [value, hk, Res.map, isDigit, inR]
  | inf hs => obtain ⟨t, rfl⟩ := Numbers11.startsWith_head _ _ _ _ hs; simp [value, hs, isDigit, inR]
  | nan hs => obtain ⟨t, rfl⟩ := Numbers11.startsWith_head _ _ _ _ hs; simp [value, hs, isDigit, inR]

theorem val_scalar (hs : ScalarSound) (d : Nat) (s : Bytes) (v : Val) (r : Bytes) (h : ScalarParse s v r) :
    ValSpec d s v r := by
  obtain ⟨t, ht, e, hv⟩ := hs 1 d s v r (value_of_scalarParse h d) (scalarParse_head h)
  exact ⟨.scalar t, wfQ_scalar.2 ht, by simp [renderQ, e], by simp [semQ, hv], Or.inl (by simp [depthQ])⟩

theorem val_arr (d : Nat) (t : Bytes) (vs : List Val) (r : Bytes) (hlim : d + 1 < LIMIT)
    (h : ArrSpec (d + 1) t vs (0x5D :: r)) : ValSpec d (0x5B :: t) (.arr vs) r := by
  obtain ⟨items, tc, tail, hwi, htail, htc, evs, hdi, es⟩ := h
  exact ⟨.arr items tc tail, wfQ_arr.2 ⟨hwi, htail, htc⟩, by rw [es]; simp [renderQ], by simp [semQ, evs],
    Or.inr (cont_depth hlim hdi)⟩

theorem val_inl (d : Nat) (t : Bytes) (kvs : List (List Bytes × Bytes × Val)) (r1 : Bytes) (tbl : List (Bytes × Val))
    (r : Bytes) (hlim : d + 1 < LIMIT) (h : PairsSpec (d + 1) t kvs r1) (htbl : tableFromPairs kvs [] = some tbl)
    (hclose : dropWs r1 = 0x7D :: r) : ValSpec d (0x7B :: t) (.inl tbl false false) r := by
  obtain ⟨items, hwi, ekvs, hdi, es⟩ := h
  obtain ⟨tail, htail, et, _⟩ := dropWs_split r1
  rw [hclose] at et
  exact ⟨.inl items tail, wfQ_inl.2 ⟨hwi, htail, by rw [← ekvs, htbl]; rfl⟩, by rw [es, et]; simp [renderQ],
    by simp [semQ, ← ekvs, htbl], Or.inr (cont_depth hlim hdi)⟩

theorem arr_empty (d : Nat) (t : Bytes) : ArrSpec d (0x5D :: t) [] (0x5D :: t) :=
  ⟨[], false, [], trivial, wcnWF_nil, fun _ => rfl, rfl, Or.inl rfl, by simp [renderItemsQ, renderWcn]⟩

theorem arr_elems (d : Nat) (s : Bytes) (vs : List Val) (r0 r : Bytes) (h : ElemsSpec d s vs r0)
    (hw : wcn (afterComma vs r0) = some r) : ArrSpec d s vs r := by
  obtain ⟨items, hwi, evs, hdi, es⟩ := h
  obtain ⟨tail, htail, et, _⟩ := wcn_sound _ _ _ hw
  cases items with
  | nil =>
    subst evs
    exact ⟨[], false, tail, trivial, htail, fun _ => rfl, rfl, Or.inl rfl, by rw [es]; simpa [renderItemsQ, semItemsQ, afterComma] using et⟩
  | cons p l =>
    have hvne : vs.isEmpty = false := by obtain ⟨a, b, c⟩ := p; rw [evs]; simp [semItemsQ]
    simp only [afterComma, hvne, Bool.false_eq_true, if_false] at et
    split at et
    · exact ⟨p :: l, true, tail, hwi, htail, fun e => absurd e (List.cons_ne_nil _ _), evs, hdi, by rw [es, et]; simp⟩
    · exact ⟨p :: l, false, tail, hwi, htail, fun _ => rfl, evs, hdi, by rw [es, et]; simp⟩

theorem elem_sound {d : Nat} {s s1 s2 s3 : Bytes} {v : Val} (hw : wcn s = some s1) (hv : ValSpec d s1 v s2)
    (hw2 : wcn s2 = some s3) :
    ∃ pre a post, WcnWF pre ∧ WFQ a ∧ WcnWF post ∧ semQ a = v ∧ DepthOK d a ∧
      s = renderWcn pre ++ (renderQ a ++ (renderWcn post ++ s3)) := by
  obtain ⟨pre, hpre, e1, _⟩ := wcn_sound _ _ _ hw
  obtain ⟨a, hwa, e2, hsa, hda⟩ := hv
  obtain ⟨post, hpost, e3, _⟩ := wcn_sound _ _ _ hw2
  exact ⟨pre, a, post, hpre, hwa, hpost, hsa, hda, by rw [e1, e2, e3]⟩

theorem elems_nil (d : Nat) (s : Bytes) : ElemsSpec d s [] s := ⟨[], trivial, rfl, Or.inl rfl, rfl⟩

theorem elems_one (d : Nat) (s s1 : Bytes) (v : Val) (s2 s3 : Bytes) (hw : wcn s = some s1) (hv : ValSpec d s1 v s2)
    (hw2 : wcn s2 = some s3) : ElemsSpec d s [v] s3 := by
  obtain ⟨pre, a, post, hpre, hwa, hpost, hsa, hda, e⟩ := elem_sound hw hv hw2
  refine ⟨[(pre, a, post)], wfItemsQ_cons.2 ⟨hpre, hwa, hpost, trivial⟩, by simp [semItemsQ, hsa], ?_, ?_⟩
  · simp only [depthItemsQ, Nat.max_zero]; exact hda
  · rw [e]; simp [renderItemsQ, renderItemsSepQ]

theorem elems_cons (d : Nat) (s s1 : Bytes) (v : Val) (s2 s4 : Bytes) (w : Val) (ws : List Val) (r : Bytes)
    (hw : wcn s = some s1) (hv : ValSpec d s1 v s2) (hw2 : wcn s2 = some (0x2C :: s4))
    (h : ElemsSpec d s4 (w :: ws) r) : ElemsSpec d s (v :: w :: ws) r := by
  obtain ⟨items', hwi, evs, hdi, es4⟩ := h
  obtain ⟨pre, a, post, hpre, hwa, hpost, hsa, hda, e⟩ := elem_sound hw hv hw2
  cases items' with
  | nil => simp [semItemsQ] at evs
  | cons p l =>
    refine ⟨(pre, a, post) :: p :: l, wfItemsQ_cons.2 ⟨hpre, hwa, hpost, hwi⟩, by rw [evs]; simp [semItemsQ, hsa],
      depthOK_max hda hdi, ?_⟩
    rw [e, es4]
    simp only [renderItemsQ.eq_2, renderItemsSepQ_cons, List.append_assoc, List.cons_append]

theorem entry_sound {d : Nat} {s r1 r2 : Bytes} {ks path : List Bytes} {key : Bytes} {v : Val}
    (hkp : keyPath s = .ok ks (0x3D :: r1)) (hlim : d + (ks.length - 1) < LIMIT)
    (hv : ValSpec (d + (ks.length - 1)) (dropWs r1) v r2) (hsl : splitLast ks = some (path, key)) :
    ∃ k w1 a w2, k.WF ∧ AllWs w1 ∧ WFQ a ∧ AllWs w2 ∧ path = k.path ∧ key = k.last ∧ semQ a = v ∧
      d + (k.more.length + depthQ a) < LIMIT ∧ s = renderPairsQ [(k, w1, a, w2)] ++ dropWs r2 := by
  obtain ⟨k, hkwf, ek, ekeys⟩ := keyPath_sound _ _ _ hkp
  have hlen : ks.length - 1 = k.more.length := by rw [← ekeys]; simp [QDKey.keys]
  obtain ⟨a, hwa, ea, hsa, hda⟩ := hv
  obtain ⟨w1, hw1, e1, _⟩ := dropWs_split r1
  obtain ⟨w2, hw2, e2, _⟩ := dropWs_split r2
  rw [← ekeys] at hsl
  obtain ⟨hp, hk⟩ := splitLast_cons_eq _ _ _ _ hsl
  refine ⟨k, w1, a, w2, hkwf, hw1, hwa, hw2, hp, hk, hsa, entry_depth hlen hlim hda, ?_⟩
  rw [ek, e1, ea, e2]
  simp [renderPairsQ, renderPairsSepQ]
  rw [← e2]

theorem pairs_nil (d : Nat) (s : Bytes) : PairsSpec d s [] s := ⟨[], trivial, rfl, Or.inl rfl, rfl⟩

theorem pairs_one (d : Nat) (s : Bytes) (ks : List Bytes) (r1 : Bytes) (v : Val) (r2 : Bytes) (path : List Bytes)
    (key : Bytes) (hkp : keyPath s = .ok ks (0x3D :: r1)) (hlim : d + (ks.length - 1) < LIMIT)
    (hv : ValSpec (d + (ks.length - 1)) (dropWs r1) v r2) (hsl : splitLast ks = some (path, key)) :
    PairsSpec d s [(path, key, v)] (dropWs r2) := by
  obtain ⟨k, w1, a, w2, hkwf, hw1, hwa, hw2, rfl, rfl, hsa, hdep, es⟩ := entry_sound hkp hlim hv hsl
  refine ⟨[(k, w1, a, w2)], wfPairsQ_cons.2 ⟨hkwf, hw1, hwa, hw2, trivial⟩, by simp [flatPairsQ, hsa], ?_, es⟩
  simp only [depthPairsQ, Nat.max_zero]
  exact Or.inr hdep

theorem pairs_cons (d : Nat) (s : Bytes) (ks : List Bytes) (r1 : Bytes) (v : Val) (r2 : Bytes) (path : List Bytes)
    (key : Bytes) (r4 : Bytes) (w : List Bytes × Bytes × Val) (ws : List (List Bytes × Bytes × Val)) (r : Bytes)
    (hkp : keyPath s = .ok ks (0x3D :: r1)) (hlim : d + (ks.length - 1) < LIMIT)
    (hv : ValSpec (d + (ks.length - 1)) (dropWs r1) v r2) (hsl : splitLast ks = some (path, key))
    (hc : dropWs r2 = 0x2C :: r4) (h : PairsSpec d r4 (w :: ws) r) : PairsSpec d s ((path, key, v) :: w :: ws) r := by
  obtain ⟨items', hwi, ekvs, hdi, es4⟩ := h
  obtain ⟨k, w1, a, w2, hkwf, hw1, hwa, hw2, rfl, rfl, hsa, hdep, es⟩ := entry_sound hkp hlim hv hsl
  cases items' with
  | nil => simp [flatPairsQ] at ekvs
  | cons p l =>
    obtain ⟨k', a', v', b'⟩ := p
    refine ⟨(k, w1, a, w2) :: (k', a', v', b') :: l, wfPairsQ_cons.2 ⟨hkwf, hw1, hwa, hw2, hwi⟩,
      by rw [ekvs]; simp [flatPairsQ, hsa], depthOK_max (Or.inr hdep) hdi, ?_⟩
    rw [es, hc, es4]
    simp [renderPairsQ, renderPairsSepQ]

theorem sound_all (hs : ScalarSound) (fuel : Nat) :
    (∀ d s v rest, value fuel d s = .ok v rest → ValSpec d s v rest) ∧
    (∀ d s vs r, arrayValues fuel d s = .ok vs r → ArrSpec d s vs r) ∧
    (∀ d s acc vs r, arrayElems fuel d s acc = .ok vs r → ∃ es, vs = acc ++ es ∧ ElemsSpec d s es r) ∧
    (∀ d s acc kvs r, inlineKeyvals fuel d s acc = .ok kvs r → ∃ es, kvs = acc ++ es ∧ PairsSpec d s es r) :=
  parse_induction (val_scalar hs) val_arr val_inl arr_empty arr_elems elems_nil elems_one elems_cons
    pairs_nil pairs_one pairs_cons fuel

end TomlVerif.Lemmas.Sound01
