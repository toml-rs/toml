import TomlVerif.Lemmas.AstDocQ01
import TomlVerif.Props.C01Sound
import TomlVerif.Lemmas.DocStmts
/-! The grammar of documents, dealt with once and without the state, on the stateless half of the line driver
    (`stmtsOfText`, `Lemmas/DocStmts.lean`): on the rendering of a well-formed `QDoc` it returns the statements of that
    tree (`stmtsOfText_render`), and whatever it accepts is such a rendering (`stmtsOfText_iff`).  Hence two
    well-formed trees of one text have the same statements. -/
namespace TomlVerif.Lemmas.Doc01
open TomlVerif TomlVerif.Spec TomlVerif.Model TomlVerif.Model.Strings TomlVerif.Model.Value
open TomlVerif.Model.State TomlVerif.Model.Doc
open TomlVerif.Spec.AstValue TomlVerif.Spec.AstDoc TomlVerif.Lemmas.Value01 TomlVerif.Lemmas.State09

/-- what follows the last token of a line: a line end and the rest of the document, or nothing -/
inductive LineEnd : Bytes → Bytes → Prop where
  | nl (c : Bool) (more : Bytes) : LineEnd (nlBytes c ++ more) more
  | eof : LineEnd [] []

theorem lineTrailing_end (w2 : Bytes) (cm : Option Bytes) (T more : Bytes) (hw : AllWs w2) (hc : CommentOK cm)
    (hT : LineEnd T more) : lineTrailing (w2 ++ (commentBytes cm ++ T)) = .ok () more := by
  cases hT with
  | nl c more => exact lineTrailing_nl w2 cm c more hw hc
  | eof => rw [List.append_nil]; exact lineTrailing_eof w2 cm hw hc

theorem followS_end (w2 : Bytes) (cm : Option Bytes) (T more : Bytes) (hw : AllWs w2) (hT : LineEnd T more) :
    ValFollowS (w2 ++ (commentBytes cm ++ T)) := by
  apply followS_ws_append _ _ hw
  cases cm with
  | some body => exact followS_of_head 0x23 _ (by decide) (by decide)
  | none =>
    cases hT with
    | eof => exact ⟨trivial, by intro b r h; cases h⟩
    | nl c more =>
      cases c
      · exact followS_of_head 0x0A _ (by decide) (by decide)
      · exact followS_of_head 0x0D _ (by decide) (by decide)

theorem path_not_open (p : KeyPath) (hp : p.OK) (Z : Bytes) : ∀ t, p.render ++ Z ≠ 0x5B :: t := by
  intro t h
  obtain ⟨b, t', he, hb⟩ := path_head p hp Z
  rw [he] at h
  injection h with h _
  exact (pathhead_facts b hb).1 h

/-- the effect of one line on the state: the step of its statement, if it has one -/
def stepLine (st : ParseState) (l : Line) : Option ParseState :=
  match l.stmt with
  | none => some st
  | some s => step st s

theorem dropWs_append_len (A B : Bytes) (hB : ∀ b t, B = b :: t → isWschar b = false) :
    B.length ≤ (dropWs (A ++ B)).length := by
  induction A with
  | nil =>
    cases B with
    | nil => simp
    | cons b t => rw [List.nil_append, dropWs_head _ _ (hB b t rfl)]; omega
  | cons a A ih =>
    simp only [List.cons_append, dropWs]
    split
    · exact ih
    · simp; omega

theorem nl_head (c : Bool) (X : Bytes) : ∀ b t, nlBytes c ++ X = b :: t → isWschar b = false := by
  intro b t h
  cases c <;> simp [nlBytes] at h <;> rw [← h.1] <;> decide

theorem ws_not_ef (b : UInt8) (h : isWschar b = true) : b ≠ 0xEF := ne_of_class h (by decide)

theorem ws_then (ws : Bytes) (hw : AllWs ws) (c : UInt8) (hc : c ≠ 0xEF) (X : Bytes) :
    ∀ b t, ws ++ c :: X = b :: t → b ≠ 0xEF := by
  intro b t h
  cases ws with
  | nil => injection h with h _; rw [← h]; exact hc
  | cons x r => injection h with h _; rw [← h]; exact ws_not_ef x (hw x (by simp))

end TomlVerif.Lemmas.Doc01

namespace TomlVerif.Lemmas.SoundDoc01
open TomlVerif TomlVerif.Spec TomlVerif.Model TomlVerif.Model.Strings TomlVerif.Model.Value
open TomlVerif.Model.State TomlVerif.Model.Doc
open TomlVerif.Spec.AstValue TomlVerif.Spec.AstValueQ TomlVerif.Spec.AstDoc TomlVerif.Spec.AstDocQ
open TomlVerif.Lemmas.Value01 TomlVerif.Lemmas.State09 TomlVerif.Lemmas.Sound01
open TomlVerif.Lemmas.Doc01 (LineEnd)

theorem commentOK_none : CommentOK none := by intro body h; cases h
theorem commentOK_some (body : Bytes) (h : ∀ b ∈ body, isNonEol b = true) : CommentOK (some body) := by
  intro b hb; injection hb with hb; subst hb; exact h

/-- `newline / eof` -/
def lineEndK (s2 : Bytes) : Res Unit :=
  match s2 with
  | [] => .ok () []
  | _ => match newline? s2 with
    | some r => .ok () r
    | none => .bt

/-- `[comment]` -/
def afterHash : Bytes → Bytes
  | 0x23 :: r => dropComment r
  | s => s

theorem afterHash_noHash (s : Bytes) (h : ∀ r, s = 0x23 :: r → False) : afterHash s = s := by
  unfold afterHash
  split
  · rename_i r; exact (h r rfl).elim
  · rfl

theorem lineTrailing_shape (s : Bytes) : lineTrailing s = lineEndK (afterHash (dropWs s)) := by
  unfold lineTrailing
  simp only []
  generalize dropWs s = s1
  by_cases hx : ∃ r, s1 = 0x23 :: r
  · obtain ⟨r, rfl⟩ := hx; rfl
  · rw [afterHash_noHash s1 (fun r hr => hx ⟨r, hr⟩)]
    cases s1 with
    | nil => rfl
    | cons b t =>
      have hb : b ≠ 0x23 := fun hb => hx ⟨t, by rw [hb]⟩
      simp [hb, lineEndK]
      cases newline? (b :: t) <;> rfl

theorem lineEnd_of (s2 r : Bytes) (h : lineEndK s2 = .ok () r) : LineEnd s2 r := by
  unfold lineEndK at h
  split at h
  · injection h with _ h; subst h; exact .eof
  · split at h
    · rename_i r' hnl
      injection h with _ h; subst h
      obtain ⟨c, ec⟩ := newline_split _ _ hnl
      rw [ec]; exact .nl c _
    · cases h

theorem lineTrailing_sound (s r : Bytes) (h : lineTrailing s = .ok () r) :
    ∃ (w2 : Bytes) (cm : Option Bytes) (T : Bytes), AllWs w2 ∧ CommentOK cm ∧
      s = w2 ++ (commentBytes cm ++ T) ∧ LineEnd T r := by
  obtain ⟨w, hw, es, _⟩ := dropWs_split s
  rw [lineTrailing_shape] at h
  cases hs1 : dropWs s with
  | nil =>
    rw [hs1] at h es
    exact ⟨w, none, [], hw, commentOK_none, by simpa [commentBytes] using es, lineEnd_of [] r h⟩
  | cons b t =>
    rw [hs1] at h es
    by_cases hb : b = 0x23
    · subst hb
      obtain ⟨body, hbody, eb⟩ := dropComment_split t
      refine ⟨w, some body, dropComment t, hw, commentOK_some body hbody, ?_, lineEnd_of _ r h⟩
      rw [es, commentBytes, List.cons_append, ← eb]
    · rw [afterHash_noHash (b :: t) (fun _ hr => hb (List.cons.inj hr).1)] at h
      exact ⟨w, none, b :: t, hw, commentOK_none, by simpa [commentBytes] using es, lineEnd_of _ r h⟩

theorem keys_length (k : QDKey) : k.keys.length - 1 = k.more.length := by simp [QDKey.keys]

theorem allWs_append (a b : Bytes) (ha : AllWs a) (hb : AllWs b) : AllWs (a ++ b) :=
  List.forall_mem_append.2 ⟨ha, hb⟩

/-- blanks in front of a dotted key belong to its first component -/
def keyAddWs (ws : Bytes) (k : QDKey) : QDKey := ⟨⟨ws ++ k.first.pre, k.first.raw, k.first.key, k.first.post⟩, k.more⟩

/-- the same line with more blanks in front -/
def addWs (ws : Bytes) : QLine → QLine
  | .blank w => .blank (ws ++ w)
  | .comment w body => .comment (ws ++ w) body
  | .keyval k w1 v w2 cm => .keyval (keyAddWs ws k) w1 v w2 cm
  | .std w k w2 cm => .std (ws ++ w) k w2 cm
  | .aot w k w2 cm => .aot (ws ++ w) k w2 cm

theorem keyAddWs_render (ws : Bytes) (k : QDKey) : (keyAddWs ws k).render = ws ++ k.render := by
  simp [keyAddWs, QDKey.render, QKey.render]

theorem keyAddWs_wf (ws : Bytes) (k : QDKey) (hws : AllWs ws) (hk : k.WF) : (keyAddWs ws k).WF :=
  ⟨⟨allWs_append _ _ hws hk.1.1, hk.1.2.1, hk.1.2.2⟩, hk.2.1, hk.2.2⟩

theorem addWs_render (ws : Bytes) (l : QLine) : (addWs ws l).render = ws ++ l.render := by
  cases l <;> simp [addWs, QLine.render, keyAddWs_render]

theorem addWs_wf (ws : Bytes) (l : QLine) (hws : AllWs ws) (h : l.WF) : (addWs ws l).WF := by
  cases l with
  | blank w => exact allWs_append _ _ hws h
  | comment w body => exact ⟨allWs_append _ _ hws h.1, h.2⟩
  | keyval k w1 v w2 cm => exact ⟨keyAddWs_wf ws k hws h.1, h.2⟩
  | std w k w2 cm => exact ⟨allWs_append _ _ hws h.1, h.2⟩
  | aot w k w2 cm => exact ⟨allWs_append _ _ hws h.1, h.2⟩

theorem addWs_stmt (ws : Bytes) (l : QLine) : (addWs ws l).stmt = l.stmt := by
  cases l <;> rfl

theorem stripBom_cases (s : Bytes) : (∃ r, s = 0xEF :: 0xBB :: 0xBF :: r ∧ stripBom s = r) ∨ stripBom s = s := by
  unfold stripBom
  split
  · exact Or.inl ⟨_, rfl, rfl⟩
  · exact Or.inr rfl

theorem stripBom_noop (s : Bytes) (h : ∀ b t, s = b :: t → b ≠ 0xEF) : stripBom s = s :=
  (stripBom_cases s).elim (fun ⟨_, e, _⟩ => absurd rfl (h _ _ e)) id

end TomlVerif.Lemmas.SoundDoc01

namespace TomlVerif.Lemmas.SoundDoc01C
open TomlVerif TomlVerif.Spec TomlVerif.Model TomlVerif.Model.Strings TomlVerif.Model.Value
open TomlVerif.Model.State TomlVerif.Model.Doc
open TomlVerif.Spec.AstValue TomlVerif.Spec.AstValueQ TomlVerif.Spec.AstDoc TomlVerif.Spec.AstDocQ
open TomlVerif.Lemmas.Value01 TomlVerif.Lemmas.Doc01 TomlVerif.Lemmas.SoundDoc01

/-- `k` without the blanks before its first component: what `dropWs` leaves of its rendering -/
def stripPreQ (k : QDKey) : QDKey := ⟨⟨[], k.first.raw, k.first.key, k.first.post⟩, k.more⟩

theorem stripPreQ_wf (k : QDKey) (hk : k.WF) : (stripPreQ k).WF :=
  ⟨⟨AllWs.nil, hk.1.2.1, hk.1.2.2⟩, hk.2.1, hk.2.2⟩

theorem dropWs_pathQ (k : QDKey) (hk : k.WF) (Z : Bytes) : dropWs (k.render ++ Z) = (stripPreQ k).render ++ Z := by
  have := dropWs_seg (toKeySeg k.first) (toKeySeg_ok _ hk.1) (renderQKeySep k.more ++ Z)
  simpa [QDKey.render, QKey.render, stripPreQ, toKeySeg, KeySeg.render] using this

theorem raw_head (k : QKey) (hk : k.WF) : ∃ b t, k.raw = b :: t ∧ (b = 0x22 ∨ b = 0x27 ∨ isUnquotedChar b = true) :=
  seg_tok_head (toKeySeg k) (toKeySeg_ok k hk)

theorem keyQ_head (k : QDKey) (hk : k.WF) (Z : Bytes) :
    ∃ b t, k.render ++ Z = b :: t ∧ (isWschar b = true ∨ b = 0x22 ∨ b = 0x27 ∨ isUnquotedChar b = true) := by
  have := path_head (toKeyPath k) (toKeyPath_ok k hk) Z
  rwa [toKeyPath_render] at this

/-- no line starts with the first byte of a byte-order mark -/
theorem line_headQ (l : QLine) (hwf : l.WF) (Z : Bytes) (hZ : ∀ b t, Z = b :: t → b ≠ 0xEF) :
    ∀ b t, l.render ++ Z = b :: t → b ≠ 0xEF := by
  intro b t h
  cases l with
  | blank ws =>
    cases ws with
    | nil => exact hZ b t h
    | cons x r => injection h with h _; rw [← h]; exact ws_not_ef x (hwf x (by simp))
  | comment ws body =>
    simp only [QLine.render, List.append_assoc, List.cons_append] at h
    exact ws_then ws hwf.1 0x23 (by decide) _ b t h
  | keyval k w1 v w2 cm =>
    simp only [QLine.render, List.append_assoc] at h
    obtain ⟨b', t', he, hb⟩ := keyQ_head k hwf.1 (0x3D :: (w1 ++ (renderQ v ++ (w2 ++ commentBytes cm))) ++ Z)
    rw [he] at h
    injection h with h _
    rw [← h]
    exact (pathhead_facts b' hb).2
  | std ws k w2 cm =>
    simp only [QLine.render, List.append_assoc, List.cons_append] at h
    exact ws_then ws hwf.1 0x5B (by decide) _ b t h
  | aot ws k w2 cm =>
    simp only [QLine.render, List.append_assoc, List.cons_append] at h
    exact ws_then ws hwf.1 0x5B (by decide) _ b t h

theorem body_headQ (ls : List (QLine × Bool)) (last : Option QLine) (hls : ∀ p ∈ ls, p.1.WF)
    (hl : ∀ l, last = some l → l.WF) : ∀ b t, renderLinesQ ls ++ renderLastQ last = b :: t → b ≠ 0xEF := by
  cases ls with
  | nil =>
    cases last with
    | none => intro b t h; cases h
    | some l =>
      intro b t h
      have := line_headQ l (hl l rfl) [] (by intro b t h; cases h) b t
      rw [List.append_nil] at this
      exact this h
  | cons lc ls =>
    obtain ⟨l, c⟩ := lc
    intro b t h
    simp only [renderLinesQ, List.append_assoc] at h
    refine line_headQ l (hls (l, c) (by simp)) _ ?_ b t h
    intro b t h
    cases c <;> simp [nlBytes] at h <;> rw [← h.1] <;> decide

theorem stripBom_renderQ (d : QDoc) (hwf : d.WF) : stripBom d.render = renderLinesQ d.lines ++ renderLastQ d.last := by
  unfold QDoc.render bomBytes
  cases d.bom with
  | true =>
    simp only [if_true, List.cons_append, List.nil_append]
    rfl
  | false =>
    simp only [Bool.false_eq_true, if_false, List.nil_append]
    exact stripBom_noop _ (body_headQ d.lines d.last hwf.1 hwf.2)

end TomlVerif.Lemmas.SoundDoc01C

namespace TomlVerif.Lemmas.SoundDoc01U
open TomlVerif TomlVerif.Spec TomlVerif.Model TomlVerif.Model.Strings TomlVerif.Model.Value
open TomlVerif.Model.State TomlVerif.Model.Doc
open TomlVerif.Spec.AstValue TomlVerif.Spec.AstValueQ TomlVerif.Spec.AstDoc TomlVerif.Spec.AstDocQ
open TomlVerif.Lemmas.Value01 TomlVerif.Lemmas.State09 TomlVerif.Lemmas.Sound01 TomlVerif.Lemmas.Sound01C
open TomlVerif.Lemmas.Doc01 TomlVerif.Lemmas.SoundDoc01 TomlVerif.Lemmas.SoundDoc01C

/-! Fuel arithmetic of the line loop, over variables (for the reason given in `Lemmas/ValueComplete01.lean`). -/

/-- the fuel `parse_keyval` gives `value` is more than twice the length of the value -/
theorem keyval_fuel (w V X : Bytes) : 2 * V.length ≤ 3 * (w ++ (V ++ X)).length + 4 := by
  rw [List.length_append, List.length_append]; omega

theorem rest_fuel {n A B C f : Nat} (hpos : 0 < n) (h1 : n + A ≤ B) (h2 : C ≤ A) (hf : B < f + 1) : C < f := by omega

theorem keyvalStmt_end (k : QDKey) (w1 : Bytes) (v : QVal) (w2 : Bytes) (cm : Option Bytes)
    (T more : Bytes) (hwf : (QLine.keyval k w1 v w2 cm).WF) (hT : LineEnd T more) :
    keyvalStmt ((QLine.keyval k w1 v w2 cm).render ++ T) = some (.kv k.path k.last (semQ v), more) := by
  obtain ⟨hk, hw1, hv, hd, hw2, hc⟩ := hwf
  have e0 : (QLine.keyval k w1 v w2 cm).render ++ T =
      k.render ++ 0x3D :: (w1 ++ (renderQ v ++ (w2 ++ (commentBytes cm ++ T)))) := by
    simp [QLine.render]
  have e1 := keyPath_dottedQ k (w1 ++ (renderQ v ++ (w2 ++ (commentBytes cm ++ T)))) hk
  have e2 : dropWs (w1 ++ (renderQ v ++ (w2 ++ (commentBytes cm ++ T)))) = renderQ v ++ (w2 ++ (commentBytes cm ++ T)) := by
    rw [dropWs_allws _ _ hw1]; exact dropWs_stop _ (noTrivia_renderQ v hv _)
  have e3 := val_okQ v hv (k.keys.length - 1)
    (3 * (w1 ++ (renderQ v ++ (w2 ++ (commentBytes cm ++ T)))).length + 4) (w2 ++ (commentBytes cm ++ T))
    (by rw [keys_length]; exact hd) (followS_end w2 cm T more hw2 hT) (keyval_fuel _ _ _)
  have e4 := lineTrailing_end w2 cm T more hw2 hc hT
  have e5 : k.keys.length - 1 < LIMIT := by rw [keys_length]; exact Nat.lt_of_succ_lt hk.2.2
  rw [e0]
  exact keyvalStmt_some_iff.2 ⟨_, _, _, _, _, _, e1, e5, by rw [e2]; exact e3, e4, splitLast_keysQ k, rfl⟩

theorem stdStmt_end (k : QDKey) (w2 : Bytes) (cm : Option Bytes) (T more : Bytes)
    (hk : k.WF) (hw2 : AllWs w2) (hc : CommentOK cm) (hT : LineEnd T more) :
    tableStmt (0x5B :: (k.render ++ 0x5D :: (w2 ++ (commentBytes cm ++ T)))) = some (.std k.keys, more) := by
  have h1 := path_not_open (toKeyPath k) (toKeyPath_ok k hk) (0x5D :: (w2 ++ (commentBytes cm ++ T)))
  have h2 := keyPath_path (toKeyPath k) (0x5D :: (w2 ++ (commentBytes cm ++ T))) (toKeyPath_ok k hk) (pathFollow_close _)
  rw [toKeyPath_render] at h1 h2
  rw [toKeyPath_names] at h2
  exact tableStmt_some_iff.2 (.inr ⟨_, _, _, rfl, h1, h2, lineTrailing_end w2 cm T more hw2 hc hT, rfl⟩)

theorem aotStmt_end (k : QDKey) (w2 : Bytes) (cm : Option Bytes) (T more : Bytes)
    (hk : k.WF) (hw2 : AllWs w2) (hc : CommentOK cm) (hT : LineEnd T more) :
    tableStmt (0x5B :: 0x5B :: (k.render ++ 0x5D :: 0x5D :: (w2 ++ (commentBytes cm ++ T)))) = some (.arr k.keys, more) := by
  have h2 := keyPath_path (toKeyPath k) (0x5D :: 0x5D :: (w2 ++ (commentBytes cm ++ T))) (toKeyPath_ok k hk)
    (pathFollow_close _)
  rw [toKeyPath_render, toKeyPath_names] at h2
  exact tableStmt_some_iff.2 (.inl ⟨_, _, _, rfl, h2, lineTrailing_end w2 cm T more hw2 hc hT, rfl⟩)

theorem linesS_blank_nl (f : Nat) (ws : Bytes) (c : Bool) (more : Bytes) (hw : AllWs ws) :
    linesS (f + 1) (dropWs (ws ++ (nlBytes c ++ more))) = linesS f (dropWs more) := by
  rw [dropWs_allws _ _ hw]
  cases c <;> simp [nlBytes, linesS, dropWs, isWschar, newline?]

theorem linesS_comment_nl (f : Nat) (ws body : Bytes) (c : Bool) (more : Bytes) (hw : AllWs ws)
    (hb : ∀ b ∈ body, isNonEol b = true) :
    linesS (f + 1) (dropWs (ws ++ (0x23 :: (body ++ (nlBytes c ++ more))))) = linesS f (dropWs more) := by
  rw [dropWs_allws _ _ hw, dropWs_head _ _ (by decide)]
  conv => lhs; unfold linesS
  simp only [dropComment_body body c more hb, newline_nl]
  cases c <;> simp [nlBytes]

theorem linesS_comment_eof (f : Nat) (ws body : Bytes) (hw : AllWs ws)
    (hb : ∀ b ∈ body, isNonEol b = true) :
    linesS (f + 1) (dropWs (ws ++ (0x23 :: body))) = some [] := by
  rw [dropWs_allws _ _ hw, dropWs_head _ _ (by decide)]
  conv => lhs; unfold linesS
  simp only [dropComment_all body hb]
  simp

/-- the statement of a line in front of the statements of the rest -/
def consStmt (l : QLine) (rest : List Stmt) : List Stmt :=
  match l.stmt with
  | none => rest
  | some x => x :: rest

theorem linesS_keyval_line (f : Nat) (k : QDKey) (w1 : Bytes) (v : QVal) (w2 : Bytes)
    (cm : Option Bytes) (T more : Bytes) (hwf : (QLine.keyval k w1 v w2 cm).WF) (hT : LineEnd T more) :
    linesS (f + 1) (dropWs ((QLine.keyval k w1 v w2 cm).render ++ T)) =
      (linesS f (dropWs more)).map fun l => Stmt.kv k.path k.last (semQ v) :: l := by
  obtain ⟨hk, hrest⟩ := hwf
  have hwf' : (QLine.keyval (stripPreQ k) w1 v w2 cm).WF := ⟨stripPreQ_wf k hk, hrest⟩
  have e0 : dropWs ((QLine.keyval k w1 v w2 cm).render ++ T) = (QLine.keyval (stripPreQ k) w1 v w2 cm).render ++ T := by
    simp only [QLine.render, List.append_assoc]
    exact dropWs_pathQ k hk _
  have e1 := keyvalStmt_end (stripPreQ k) w1 v w2 cm T more hwf' hT
  obtain ⟨b, t, ht, hb⟩ := raw_head k.first hk.1
  have hf := keyhead_facts b hb
  have e2 : ∃ t', (QLine.keyval (stripPreQ k) w1 v w2 cm).render ++ T = b :: t' := by
    simp only [QLine.render, QDKey.render, QKey.render, stripPreQ, ht, List.nil_append, List.cons_append]
    exact ⟨_, rfl⟩
  obtain ⟨t', e2⟩ := e2
  rw [e0]
  rw [e2] at e1 ⊢
  rw [linesS_keyval f b t' hf.2.1 hf.2.2.1 hf.2.2.2.1 hf.2.2.2.2.1, e1]
  rfl

theorem linesS_std_line (f : Nat) (ws : Bytes) (k : QDKey) (w2 : Bytes)
    (cm : Option Bytes) (T more : Bytes) (hwf : (QLine.std ws k w2 cm).WF) (hT : LineEnd T more) :
    linesS (f + 1) (dropWs ((QLine.std ws k w2 cm).render ++ T)) =
      (linesS f (dropWs more)).map fun l => Stmt.std k.keys :: l := by
  obtain ⟨hws, hk, hw2, hc⟩ := hwf
  have e0 : dropWs ((QLine.std ws k w2 cm).render ++ T) = 0x5B :: (k.render ++ 0x5D :: (w2 ++ (commentBytes cm ++ T))) := by
    simp only [QLine.render, List.append_assoc, List.cons_append]
    rw [dropWs_allws _ _ hws]
    exact dropWs_head _ _ (by decide)
  rw [e0, linesS_table, stdStmt_end k w2 cm T more hk hw2 hc hT]

theorem linesS_aot_line (f : Nat) (ws : Bytes) (k : QDKey) (w2 : Bytes)
    (cm : Option Bytes) (T more : Bytes) (hwf : (QLine.aot ws k w2 cm).WF) (hT : LineEnd T more) :
    linesS (f + 1) (dropWs ((QLine.aot ws k w2 cm).render ++ T)) =
      (linesS f (dropWs more)).map fun l => Stmt.arr k.keys :: l := by
  obtain ⟨hws, hk, hw2, hc⟩ := hwf
  have e0 : dropWs ((QLine.aot ws k w2 cm).render ++ T) =
      0x5B :: 0x5B :: (k.render ++ 0x5D :: 0x5D :: (w2 ++ (commentBytes cm ++ T))) := by
    simp only [QLine.render, List.append_assoc, List.cons_append]
    rw [dropWs_allws _ _ hws]
    exact dropWs_head _ _ (by decide)
  rw [e0, linesS_table, aotStmt_end k w2 cm T more hk hw2 hc hT]

theorem linesS_line_nl (f : Nat) (l : QLine) (c : Bool) (more : Bytes) (hwf : l.WF) :
    linesS (f + 1) (dropWs (l.render ++ (nlBytes c ++ more))) = (linesS f (dropWs more)).map (consStmt l) := by
  cases l with
  | blank ws =>
    rw [QLine.render, linesS_blank_nl f ws c more hwf]
    cases linesS f (dropWs more) <;> rfl
  | comment ws body =>
    have := linesS_comment_nl f ws body c more hwf.1 hwf.2
    simp only [QLine.render, List.append_assoc, List.cons_append]
    rw [this]
    cases linesS f (dropWs more) <;> rfl
  | keyval k w1 v w2 cm => exact linesS_keyval_line f k w1 v w2 cm _ more hwf (.nl c more)
  | std ws k w2 cm => exact linesS_std_line f ws k w2 cm _ more hwf (.nl c more)
  | aot ws k w2 cm => exact linesS_aot_line f ws k w2 cm _ more hwf (.nl c more)

/-- the three `linesS_*_line` lemmas at `T = []`: their right side runs the loop on `dropWs []`, which is `some []` only
    with fuel left, hence `f = g + 1` -/
theorem eof_of_line (f : Nat) (R : Bytes) (x : Stmt)
    (h : linesS (f + 1) (dropWs (R ++ [])) = (linesS f (dropWs [])).map fun l => x :: l) (hf : ∃ g, f = g + 1) :
    linesS (f + 1) (dropWs R) = some [x] := by
  obtain ⟨g, rfl⟩ := hf
  rw [List.append_nil] at h
  rw [h]; rfl

theorem linesS_line_eof (f : Nat) (l : QLine) (hwf : l.WF) (hf : (dropWs l.render).length ≤ f) :
    linesS (f + 1) (dropWs l.render) = some (consStmt l []) := by
  cases l with
  | blank ws =>
    have := dropWs_allws ws [] hwf
    simp only [List.append_nil] at this
    simp only [QLine.render, this, dropWs, linesS_nil]
    rfl
  | comment ws body => exact linesS_comment_eof f ws body hwf.1 hwf.2
  | keyval k w1 v w2 cm =>
    refine eof_of_line f _ _ (linesS_keyval_line f k w1 v w2 cm [] [] hwf .eof) ?_
    simp only [QLine.render] at hf
    rw [dropWs_pathQ k hwf.1] at hf
    rw [List.length_append] at hf
    exact succ_of_lt hf
  | std ws k w2 cm =>
    refine eof_of_line f _ _ (linesS_std_line f ws k w2 cm [] [] hwf .eof) ?_
    simp only [QLine.render] at hf
    rw [dropWs_allws _ _ hwf.1, dropWs_head _ _ (by decide)] at hf
    exact succ_of_lt hf
  | aot ws k w2 cm =>
    refine eof_of_line f _ _ (linesS_aot_line f ws k w2 cm [] [] hwf .eof) ?_
    simp only [QLine.render] at hf
    rw [dropWs_allws _ _ hwf.1, dropWs_head _ _ (by decide)] at hf
    exact succ_of_lt hf

theorem linesS_run : ∀ (ls : List (QLine × Bool)) (last : Option QLine) (fuel : Nat),
    (∀ p ∈ ls, p.1.WF) → (∀ l, last = some l → l.WF) →
    (dropWs (renderLinesQ ls ++ renderLastQ last)).length < fuel →
    linesS fuel (dropWs (renderLinesQ ls ++ renderLastQ last)) = some (stmtsLinesQ ls ++ stmtsLastQ last) := by
  intro ls
  induction ls with
  | nil =>
    intro last fuel _ hl hf
    obtain ⟨f, rfl⟩ := succ_of_lt hf
    cases last with
    | none => simp [renderLinesQ, renderLastQ, stmtsLinesQ, stmtsLastQ, dropWs, linesS_nil]
    | some l =>
      simp only [renderLinesQ, renderLastQ, List.nil_append, stmtsLinesQ, stmtsLastQ] at hf ⊢
      rw [linesS_line_eof f l (hl l rfl) (Nat.le_of_lt_succ hf)]
      unfold consStmt
      cases l.stmt <;> rfl
  | cons lc ls ih =>
    intro last fuel hls hl hf
    obtain ⟨l, c⟩ := lc
    obtain ⟨f, rfl⟩ := succ_of_lt hf
    have hpos : 0 < (nlBytes c).length := S02.nlBytes_length_pos c
    simp only [renderLinesQ, List.append_assoc] at hf ⊢
    have h1 := dropWs_append_len l.render (nlBytes c ++ (renderLinesQ ls ++ renderLastQ last)) (nl_head c _)
    have h2 := dropWs_length (renderLinesQ ls ++ renderLastQ last)
    simp only [List.length_append] at h1 h2
    rw [linesS_line_nl f l c _ (hls (l, c) (by simp)),
      ih last f (fun p hp => hls p (by simp [hp])) hl (rest_fuel hpos h1 h2 hf)]
    unfold consStmt
    simp only [stmtsLinesQ, Option.map_some]
    cases l.stmt <;> rfl

theorem stmtsOfText_render (d : QDoc) (hwf : d.WF) : stmtsOfText d.render = some d.stmts := by
  unfold stmtsOfText
  simp only [stripBom_renderQ d hwf]
  exact linesS_run d.lines d.last _ hwf.1 hwf.2 (by omega)

theorem keyvalStmt_sound (x : Stmt) (s r3 : Bytes) (h : keyvalStmt s = some (x, r3)) :
    ∃ (k : QDKey) (w1 : Bytes) (v : QVal) (w2 : Bytes) (cm : Option Bytes) (T : Bytes),
      (QLine.keyval k w1 v w2 cm).WF ∧ s = (QLine.keyval k w1 v w2 cm).render ++ T ∧ LineEnd T r3 ∧
      x = .kv k.path k.last (semQ v) := by
  obtain ⟨ks, r1, v, r2, path, key, hk, hlim, hv, hlt, hsl, rfl⟩ := keyvalStmt_some_iff.1 h
  obtain ⟨k, hkwf, es, rfl⟩ := keyPath_sound _ _ _ hk
  rw [splitLast_keysQ k] at hsl
  injection hsl with hsl; injection hsl with hp hkey; subst hp hkey
  obtain ⟨w1, hw1, er1, _⟩ := dropWs_split r1
  obtain ⟨a, hwa, ea, hsem, hdep⟩ := TomlVerif.Props.C01Sound.T01_value_sound_depth _ _ _ _ _ hv hlim
  obtain ⟨w2, cm, T, hw2, hcm, er2, hT⟩ := lineTrailing_sound _ _ hlt
  subst hsem
  refine ⟨k, w1, a, w2, cm, T, ⟨hkwf, hw1, hwa, by rw [keys_length] at hdep; exact hdep, hw2, hcm⟩, ?_, hT, rfl⟩
  rw [es, er1, ea, er2]
  simp [QLine.render]

theorem tableStmt_sound (x : Stmt) (s r3 : Bytes) (h : tableStmt s = some (x, r3)) :
    ∃ (k : QDKey) (w2 : Bytes) (cm : Option Bytes) (T : Bytes), k.WF ∧ AllWs w2 ∧ CommentOK cm ∧ LineEnd T r3 ∧
      ((s = (QLine.std [] k w2 cm).render ++ T ∧ x = .std k.keys) ∨
       (s = (QLine.aot [] k w2 cm).render ++ T ∧ x = .arr k.keys)) := by
  rcases tableStmt_some_iff.1 h with ⟨t, ks, r2, rfl, hk, hlt, rfl⟩ | ⟨t, ks, r2, rfl, _, hk, hlt, rfl⟩
  all_goals
    obtain ⟨k, hkwf, es, rfl⟩ := keyPath_sound _ _ _ hk
    obtain ⟨w2, cm, T, hw2, hcm, er2, hT⟩ := lineTrailing_sound _ _ hlt
    refine ⟨k, w2, cm, T, hkwf, hw2, hcm, hT, ?_⟩
  · exact .inr ⟨by rw [es, er2]; simp [QLine.render], rfl⟩
  · exact .inl ⟨by rw [es, er2]; simp [QLine.render], rfl⟩

/-- the text is the rendering of well-formed lines with the statements `l` -/
def LinesGoalS (l : List Stmt) (s : Bytes) : Prop :=
  ∃ (ls : List (QLine × Bool)) (last : Option QLine), (∀ p ∈ ls, p.1.WF) ∧ (∀ x, last = some x → x.WF) ∧
    s = renderLinesQ ls ++ renderLastQ last ∧ stmtsLinesQ ls ++ stmtsLastQ last = l

theorem consStmt_addWs (ws : Bytes) (l : QLine) (rest : List Stmt) : consStmt (addWs ws l) rest = consStmt l rest := by
  unfold consStmt; rw [addWs_stmt]

theorem finishS_eof (l : QLine) (hwf : l.WF) : LinesGoalS (consStmt l []) l.render := by
  refine ⟨[], some l, (by intro p hp; cases hp), (by intro l' hl; injection hl with hl; subst hl; exact hwf),
    by simp [renderLinesQ, renderLastQ], ?_⟩
  simp only [stmtsLinesQ, stmtsLastQ, List.nil_append, consStmt]
  cases l.stmt <;> rfl

theorem finishS_nl (l : QLine) (c : Bool) (more : Bytes) (rest : List Stmt) (hwf : l.WF)
    (hmore : LinesGoalS rest more) : LinesGoalS (consStmt l rest) (l.render ++ (nlBytes c ++ more)) := by
  obtain ⟨ls, last, h1, h2, h3, h4⟩ := hmore
  refine ⟨(l, c) :: ls, last, ?_, h2, by simp [renderLinesQ, h3], ?_⟩
  · intro p hp
    rcases List.mem_cons.1 hp with rfl | hp
    · exact hwf
    · exact h1 p hp
  · simp only [stmtsLinesQ, consStmt]
    cases l.stmt with
    | none => exact h4
    | some x => simp only [List.cons_append, h4]

theorem linesS_nil_eq (f : Nat) (l : List Stmt) (h : linesS f [] = some l) : l = [] := by
  cases f with
  | zero => rw [linesS_zero] at h; cases h
  | succ f => rw [linesS_nil] at h; injection h with h; exact h.symm

theorem finishS (f : Nat) (ih : ∀ (l : List Stmt) (s : Bytes), linesS f (dropWs s) = some l → LinesGoalS l s)
    (l : QLine) (T r1 : Bytes) (rest : List Stmt) (hwf : l.WF)
    (hT : LineEnd T r1) (hl : linesS f (dropWs r1) = some rest) : LinesGoalS (consStmt l rest) (l.render ++ T) := by
  cases hT with
  | nl c => exact finishS_nl l c r1 rest hwf (ih rest r1 hl)
  | eof =>
    have := linesS_nil_eq f rest hl
    subst this
    rw [List.append_nil]
    exact finishS_eof l hwf

theorem linesS_sound : ∀ (fuel : Nat) (l : List Stmt) (s : Bytes),
    linesS fuel (dropWs s) = some l → LinesGoalS l s := by
  intro fuel
  induction fuel with
  | zero => intro l s h; rw [linesS_zero] at h; cases h
  | succ f ih =>
    intro l s h
    obtain ⟨ws, hws, es, hhd⟩ := dropWs_split s
    cases hs1 : dropWs s with
    | nil =>
      rw [hs1] at h es
      have := linesS_nil_eq _ _ h
      subst this
      rw [List.append_nil] at es
      rw [es]
      exact finishS_eof (.blank ws) hws
    | cons b r =>
      rw [hs1] at h es
      rw [linesS] at h
      simp only [] at h
      -- a line with a statement, read by `tableStmt` or `keyvalStmt`, behind the blanks `ws`
      have fin : ∀ (l0 : QLine) (T r1 : Bytes) (rest : List Stmt), l0.WF → LineEnd T r1 →
          linesS f (dropWs r1) = some rest → b :: r = l0.render ++ T → LinesGoalS (consStmt l0 rest) s := by
        intro l0 T r1 rest hwf hT hrest e
        have := finishS f ih (addWs ws l0) T r1 rest (addWs_wf _ _ hws hwf) hT hrest
        rwa [addWs_render, List.append_assoc, ← e, ← es, consStmt_addWs] at this
      by_cases hb : (b == 0x23) = true
      · -- comment
        rw [if_pos hb] at h
        have hb' : b = 0x23 := eq_of_beq hb
        subst hb'
        obtain ⟨body, hbody, eb⟩ := dropComment_split r
        have hwf : (QLine.comment ws body).WF := ⟨hws, hbody⟩
        have e : ∀ T, r = body ++ T → s = (QLine.comment ws body).render ++ T := by
          intro T er; rw [es, er]; simp [QLine.render]
        cases hdc : dropComment r with
        | nil =>
          rw [hdc] at h eb
          injection h with h
          subst h
          rw [e [] eb, List.append_nil]
          exact finishS_eof _ hwf
        | cons c r' =>
          rw [hdc] at h eb
          simp only [] at h
          cases hnl : newline? (c :: r') with
          | none => rw [hnl] at h; cases h
          | some r2 =>
            rw [hnl] at h
            obtain ⟨cr, ec⟩ := newline_split _ _ hnl
            rw [e (nlBytes cr ++ r2) (by rw [← ec]; exact eb)]
            exact finishS_nl _ cr r2 l hwf (ih l r2 h)
      rw [if_neg hb] at h
      by_cases hb2 : (b == 0x5B) = true
      · -- header
        rw [if_pos hb2] at h
        cases htl : tableStmt (b :: r) with
        | none => rw [htl] at h; cases h
        | some p =>
          obtain ⟨x, r1⟩ := p
          rw [htl] at h
          obtain ⟨rest, hrest, rfl⟩ := Option.map_eq_some_iff.1 h
          obtain ⟨k, w2, cm, T, hkwf, hw2, hcm, hT, hor⟩ := tableStmt_sound _ _ _ htl
          rcases hor with ⟨e, rfl⟩ | ⟨e, rfl⟩
          · exact fin (.std [] k w2 cm) T r1 rest ⟨AllWs.nil, hkwf, hw2, hcm⟩ hT hrest e
          · exact fin (.aot [] k w2 cm) T r1 rest ⟨AllWs.nil, hkwf, hw2, hcm⟩ hT hrest e
      rw [if_neg hb2] at h
      by_cases hb3 : (b == 0x0A || b == 0x0D) = true
      · -- empty line
        rw [if_pos hb3] at h
        cases hnl : newline? (b :: r) with
        | none => rw [hnl] at h; cases h
        | some r1 =>
          rw [hnl] at h
          obtain ⟨c, ec⟩ := newline_split _ _ hnl
          have := finishS_nl (.blank ws) c r1 l hws (ih l r1 h)
          rwa [QLine.render, ← ec, ← es] at this
      rw [if_neg hb3] at h
      cases hkv : keyvalStmt (b :: r) with
      | none => rw [hkv] at h; cases h
      | some p =>
        obtain ⟨x, r1⟩ := p
        rw [hkv] at h
        obtain ⟨rest, hrest, rfl⟩ := Option.map_eq_some_iff.1 h
        obtain ⟨k, w1, v, w2, cm, T, hwf, e, hT, rfl⟩ := keyvalStmt_sound _ _ _ hkv
        exact fin (.keyval k w1 v w2 cm) T r1 rest hwf hT hrest e

theorem stmtsOfText_iff (s : Bytes) (l : List Stmt) :
    stmtsOfText s = some l ↔ ∃ d : QDoc, d.WF ∧ d.render = s ∧ d.stmts = l := by
  constructor
  · intro h
    unfold stmtsOfText at h
    simp only [] at h
    obtain ⟨ls, last, h1, h2, h3, h4⟩ := linesS_sound _ _ _ h
    rcases stripBom_cases s with ⟨r, es, eb⟩ | eb
    · refine ⟨⟨true, ls, last⟩, ⟨h1, h2⟩, ?_, h4⟩
      rw [eb] at h3
      rw [es, h3]; rfl
    · refine ⟨⟨false, ls, last⟩, ⟨h1, h2⟩, ?_, h4⟩
      rw [eb] at h3
      rw [h3]; rfl
  · rintro ⟨d, hwf, rfl, rfl⟩
    exact stmtsOfText_render d hwf

end TomlVerif.Lemmas.SoundDoc01U
