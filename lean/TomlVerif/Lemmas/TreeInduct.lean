import TomlVerif.Model.Tree
/-! Induction over the decoded tree.  `Val`, `Item` and `Tbl` are nested inductive types (their children sit in
    lists), so a proof by pattern matching needs a `mutual` block with one theorem per list type, and Lean compiles
    the nested recursion anew for each block.  The principles below are stated once from the recursors, with the
    children's hypotheses as `∀ x ∈ children, …`: a proof over the tree is then one `induction … using` /
    `refine item_induct …`, and what it needs of a list of children follows from the membership form by the
    congruence lemmas of `map` / `flatMap`. -/
namespace TomlVerif.Lemmas.TreeInduct
open TomlVerif TomlVerif.Model

theorem val_induct {P : Val → Prop} (str : ∀ s, P (.str s)) (int : ∀ n, P (.int n)) (float : ∀ b, P (.float b))
    (bool : ∀ b, P (.bool b)) (dt : ∀ d, P (.dt d))
    (arr : ∀ vs, (∀ v ∈ vs, P v) → P (.arr vs))
    (inl : ∀ kvs i d, (∀ kv ∈ kvs, P kv.2) → P (.inl kvs i d)) : ∀ v, P v :=
  Val.rec (motive_1 := P) (motive_2 := fun vs => ∀ v ∈ vs, P v)
    (motive_3 := fun kvs => ∀ kv ∈ kvs, P kv.2) (motive_4 := fun kv => P kv.2)
    str int float bool dt arr inl
    nofun (fun _ _ h hr => List.forall_mem_cons.2 ⟨h, hr⟩)
    nofun (fun _ _ h hr => List.forall_mem_cons.2 ⟨h, hr⟩)
    (fun _ _ h => h)

theorem item_induct {P : Item → Prop} {Q : Tbl → Prop}
    (value : ∀ v, P (.value v)) (table : ∀ t, Q t → P (.table t)) (aot : ∀ ts, (∀ t ∈ ts, Q t) → P (.aot ts))
    (mk : ∀ items i d pos, (∀ kv ∈ items, P kv.2) → Q (.mk items i d pos)) : (∀ it, P it) ∧ (∀ t, Q t) :=
  have hQ : ∀ t, Q t := fun t =>
    Tbl.rec (motive_1 := P) (motive_2 := Q) (motive_3 := fun ts => ∀ t ∈ ts, Q t)
      (motive_4 := fun items => ∀ kv ∈ items, P kv.2) (motive_5 := fun kv => P kv.2)
      value table aot mk
      nofun (fun _ _ ht hr => List.forall_mem_cons.2 ⟨ht, hr⟩)
      nofun (fun _ _ hp hr => List.forall_mem_cons.2 ⟨hp, hr⟩)
      (fun _ _ h => h) t
  ⟨fun it => match it with
    | .value v => value v
    | .table t => table t (hQ t)
    | .aot ts => aot ts fun t _ => hQ t, hQ⟩

/-- core has only the `map` form, `List.map_congr_left` -/
theorem flatMap_congr {α β} {l : List α} {f g : α → List β} (h : ∀ a ∈ l, f a = g a) : l.flatMap f = l.flatMap g := by
  induction l with
  | nil => rfl
  | cons a r ih => rw [List.flatMap_cons, List.flatMap_cons, h a (by simp), ih fun b hb => h b (by simp [hb])]

theorem length_flatMap_congr {α β γ} {l : List α} {f : α → List β} {g : α → List γ}
    (h : ∀ a ∈ l, (f a).length = (g a).length) : (l.flatMap f).length = (l.flatMap g).length := by
  rw [List.length_flatMap, List.length_flatMap, List.map_congr_left h]

end TomlVerif.Lemmas.TreeInduct
