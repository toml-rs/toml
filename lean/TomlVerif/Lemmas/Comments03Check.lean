import TomlVerif.Lemmas.Comments03Parsed
import TomlVerif.Lemmas.Bytes
/-! C03, "every comment is kept" — decidable versions of the tree invariants `VD` / `TDc`
    (used for the non-vacuity examples, and to state the printer half for ANY tree that passes
    the check, parsed or not). -/
namespace TomlVerif.Lemmas.Tiling03More
open TomlVerif TomlVerif.Spec TomlVerif.Model TomlVerif.Model.Strings TomlVerif.Model.Value
open TomlVerif.Model.Cst TomlVerif.Model.Encode TomlVerif.Lemmas.Cst03
open TomlVerif.Lemmas.Refine08c TomlVerif.Lemmas.Spans14

def dotBareOk (k : CKey) : CVal → Bool
  | .inl _ pre _ dot dec _ => !dot || (decide (k.leaf = {}) && decide (dec = {}) && decide (pre = .empty))
  | _ => true

theorem dotBareOk_sound (k : CKey) (v : CVal) (h : dotBareOk k v = true) : DotBare k v := by
  cases v with
  | scalar _ _ _ => trivial
  | arr _ _ _ _ _ => trivial
  | inl sub pre imp dot dec sp =>
    intro hd
    subst hd
    simp only [dotBareOk, Bool.not_true, Bool.false_or, Bool.and_eq_true, decide_eq_true_eq] at h
    exact ⟨h.1.1, h.1.2, h.2⟩

mutual
def vdOk : CVal → Bool
  | .scalar _ _ _ => true
  | .arr items _ _ _ _ => vsdOk items
  | .inl items _ _ _ _ _ => kvsdOk items
def vsdOk : List CVal → Bool
  | [] => true
  | v :: r => vdOk v && vsdOk r
def kvsdOk : List (CKey × CVal) → Bool
  | [] => true
  | (k, v) :: r => dotBareOk k v && vdOk v && kvsdOk r
end

mutual
theorem vdOk_sound : ∀ v : CVal, vdOk v = true → VD v
  | .scalar _ _ _, _ => by rw [VD]; trivial
  | .arr items _ _ _ _, h => by rw [vdOk] at h; rw [VD]; exact vsdOk_sound items h
  | .inl items _ _ _ _ _, h => by rw [vdOk] at h; rw [VD]; exact kvsdOk_sound items h
theorem vsdOk_sound : ∀ l : List CVal, vsdOk l = true → VsD l
  | [], _ => by rw [VsD]; trivial
  | v :: r, h => by
    rw [vsdOk, Bool.and_eq_true] at h
    rw [VsD]
    exact ⟨vdOk_sound v h.1, vsdOk_sound r h.2⟩
theorem kvsdOk_sound : ∀ l : List (CKey × CVal), kvsdOk l = true → KvsD l
  | [], _ => by rw [KvsD]; trivial
  | (k, v) :: r, h => by
    rw [kvsdOk, Bool.and_eq_true, Bool.and_eq_true] at h
    rw [KvsD]
    exact ⟨⟨dotBareOk_sound k v h.1.1, vdOk_sound v h.1.2⟩, kvsdOk_sound r h.2⟩
end

mutual
def tdcOk : CTbl → Bool
  | .mk items imp dot _ dec _ => (!(imp || dot) || decide (dec = {})) && idcOk items
def idcOk : List (CKey × CItem) → Bool
  | [] => true
  | (_, it) :: r => (match it with
      | .value v => notDottedInl v && vdOk v
      | .table t => tdcOk t
      | .aot ts _ => tsdcOk ts) && idcOk r
def tsdcOk : List CTbl → Bool
  | [] => true
  | t :: r => !t.dotted && tdcOk t && tsdcOk r
end

mutual
theorem tdcOk_sound : ∀ t : CTbl, tdcOk t = true → TDc t
  | .mk items imp dot _ dec _, h => by
    rw [tdcOk, Bool.and_eq_true] at h
    rw [TDc]
    refine ⟨?_, idcOk_sound items h.2⟩
    intro hh
    have h1 := h.1
    rcases hh with hh | hh <;> subst hh <;> simpa using h1
theorem idcOk_sound : ∀ l : List (CKey × CItem), idcOk l = true → IDc l
  | [], _ => by rw [IDc]; trivial
  | (k, .value v) :: r, h => by
    rw [idcOk, Bool.and_eq_true] at h
    rw [IDc]
    have h1 := h.1
    simp only [Bool.and_eq_true] at h1
    exact ⟨⟨h1.1, vdOk_sound v h1.2⟩, idcOk_sound r h.2⟩
  | (k, .table t) :: r, h => by
    rw [idcOk, Bool.and_eq_true] at h
    rw [IDc]
    exact ⟨tdcOk_sound t h.1, idcOk_sound r h.2⟩
  | (k, .aot ts _) :: r, h => by
    rw [idcOk, Bool.and_eq_true] at h
    rw [IDc]
    exact ⟨tsdcOk_sound ts h.1, idcOk_sound r h.2⟩
theorem tsdcOk_sound : ∀ l : List CTbl, tsdcOk l = true → TsDc l
  | [], _ => by rw [TsDc]; trivial
  | t :: r, h => by
    rw [tsdcOk, Bool.and_eq_true, Bool.and_eq_true] at h
    rw [TsDc]
    exact ⟨⟨by simpa using h.1.1, tdcOk_sound t h.1.2⟩, tsdcOk_sound r h.2⟩
end

def cmtDocOk (d : CDoc) : Bool := tdcOk d.root && !d.root.dotted

theorem cmtDocOk_sound (d : CDoc) (h : cmtDocOk d = true) : TDc d.root ∧ d.root.dotted = false := by
  simp only [cmtDocOk, Bool.and_eq_true, Bool.not_eq_true'] at h
  exact ⟨tdcOk_sound _ h.1, h.2⟩

/-- `valPieces_printed`, `cvalue_VD`: a parsed inline table with dotted keys, arrays and comments -/
example : (parseCstValue (strBytes "{ a.b = [1, # c\n 2], a.c.d = { e.f = 3 } }")).map vdOk = some true := by
  rw [strBytes_eq rfl]
  decide +kernel

/-- the hypothesis `VD` is needed: a dotted inline table with a (hand-made) decor loses it -/
example :
    let v : CVal := .inl [(⟨[0x61], .spanned 0 1, {}, {}⟩,
      .inl [(⟨[0x62], .spanned 2 3, {}, {}⟩, .scalar (.bool true) (.spanned 4 8) {})]
        .empty true true ⟨some (.spanned 8 11), none⟩ none)] .empty false false {} none
    let inp := strBytes "a.b=true#c\n"
    vdOk v = false ∧ valPieces inp v = [[], strBytes "#c\n", []] ∧
      isInfix (strBytes "#c") (encodeValue stripCr inp v [] []) = false := by
  decide +kernel

/-- `tblPieces_printed`: the hypothesis `TDc` is needed — an implicit table without values is not
    printed, so a (hand-made) decor on it is lost -/
example :
    let d : CDoc := ⟨.mk [(⟨[0x61], .spanned 0 1, {}, {}⟩,
      .table (.mk [] true false none ⟨some (.spanned 1 4), none⟩ none))] false false none {} none, .empty⟩
    let inp := strBytes "a#c\n"
    cmtDocOk d = false ∧ recordedComments inp d = [strBytes "#c"] ∧ printDoc inp d = [] := by
  decide +kernel

end TomlVerif.Lemmas.Tiling03More
