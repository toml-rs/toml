import TomlVerif.Model.TomlValue
/-! The shape of the statement list `emitDoc` produces: what is printed below the root is empty or begins with a header
    (`headerFirst`; `Blocks` says no more than that, since the predicate `Block` holds of every statement list,
    `block_all`). And the three passes of `impl Serialize for Value`: every value is handed over in exactly one of
    them, so `serOrder` is a permutation. -/
namespace TomlVerif.Lemmas.TomlValue17
open TomlVerif TomlVerif.Model TomlVerif.Model.TomlValue

/-- empty, or beginning with a `[header]` / `[[header]]` line -/
def headerFirst : List Stmt → Prop
  | [] => True
  | s :: _ => s.isHeader = true

/-- The printed form of one table: at most one header line, then key/value lines only, then the printed
forms of sub-tables, each of which is again a `Block` and (unless empty) begins with its own header. It holds of
every statement list (`block_all`); the order of lines is what `headerFirst` and `emitDoc_eq` say. -/
inductive Block : List Stmt → Prop where
  | mk (hdr kvs : List Stmt) (subs : List (List Stmt)) :
      hdr.length ≤ 1 → (∀ s ∈ hdr, s.isHeader = true) → (∀ s ∈ kvs, s.isKv = true) →
      (∀ b ∈ subs, Block b) → (∀ b ∈ subs, headerFirst b) → Block (hdr ++ kvs ++ subs.flatten)

def Blocks (l : List Stmt) : Prop :=
  ∃ subs : List (List Stmt), l = subs.flatten ∧ (∀ b ∈ subs, Block b) ∧ (∀ b ∈ subs, headerFirst b)

/-- any list, cut before each element that `p` marks: an unmarked run, then pieces that each begin with a marked
    element and go on unmarked -/
theorem split_runs {α : Type} (p : α → Bool) : ∀ l : List α, ∃ (run : List α) (pieces : List (List α)),
    l = run ++ pieces.flatten ∧ (∀ a ∈ run, p a = false) ∧
      ∀ b ∈ pieces, ∃ h t, b = h :: t ∧ p h = true ∧ ∀ a ∈ t, p a = false
  | [] => ⟨[], [], rfl, nofun, nofun⟩
  | a :: r => by
    obtain ⟨run, pieces, e, h1, h2⟩ := split_runs p r
    cases ha : p a with
    | false => exact ⟨a :: run, pieces, by rw [e]; rfl, List.forall_mem_cons.2 ⟨ha, h1⟩, h2⟩
    | true =>
      exact ⟨[], (a :: run) :: pieces, by rw [e]; simp, nofun, List.forall_mem_cons.2 ⟨⟨a, run, rfl, ha, h1⟩, h2⟩⟩

/-- `Block` holds of every statement list: nothing in it ties a key/value line to the header it follows, so the
    cut before each header (no header of its own, the leading key/value lines, then one block per header with the
    key/value lines up to the next header and no sub-blocks) always meets it. -/
theorem block_all (l : List Stmt) : Block l := by
  have kv : ∀ s : Stmt, s.isHeader = false → s.isKv = true := fun s h => by cases s <;> simp_all [Stmt.isHeader, Stmt.isKv]
  obtain ⟨run, pieces, rfl, h1, h2⟩ := split_runs Stmt.isHeader l
  refine Block.mk [] run pieces (Nat.zero_le _) nofun (fun s hs => kv s (h1 s hs)) (fun b hb => ?_) (fun b hb => ?_)
  · obtain ⟨h, t, rfl, hh, ht⟩ := h2 b hb
    have := Block.mk [h] t [] (Nat.le_refl _) (by simpa using hh) (fun s hs => kv s (ht s hs)) nofun nofun
    simpa using this
  · obtain ⟨h, t, rfl, hh, _⟩ := h2 b hb
    exact hh

theorem blocks_nil : Blocks [] := ⟨[], rfl, by simp, by simp⟩

theorem blocks_append {a b : List Stmt} (ha : Blocks a) (hb : Blocks b) : Blocks (a ++ b) := by
  obtain ⟨sa, rfl, ha1, ha2⟩ := ha
  obtain ⟨sb, rfl, hb1, hb2⟩ := hb
  refine ⟨sa ++ sb, by simp, ?_, ?_⟩
  · intro x hx
    rcases List.mem_append.mp hx with h | h
    · exact ha1 x h
    · exact hb1 x h
  · intro x hx
    rcases List.mem_append.mp hx with h | h
    · exact ha2 x h
    · exact hb2 x h

theorem blocks_single {b : List Stmt} (h1 : Block b) (h2 : headerFirst b) : Blocks b :=
  ⟨[b], by simp, by simpa using h1, by simpa using h2⟩

theorem headerFirst_flatten : ∀ (subs : List (List Stmt)), (∀ b ∈ subs, headerFirst b) → headerFirst subs.flatten
  | [], _ => trivial
  | [] :: r, h => by
    simp only [List.flatten_cons, List.nil_append]
    exact headerFirst_flatten r fun b hb => h b (List.mem_cons_of_mem _ hb)
  | (s :: t) :: r, h => by
    have := h (s :: t) (List.mem_cons_self ..)
    simpa [headerFirst] using this

theorem blocks_headerFirst {l : List Stmt} (h : Blocks l) : headerFirst l := by
  obtain ⟨subs, rfl, _, h2⟩ := h
  exact headerFirst_flatten subs h2

theorem ownKvs_eq_nil {items : List (Bytes × TV)} (h : (ownValues items).isEmpty = true) : ownKvs items = [] := by
  unfold ownKvs
  have : ownValues items = [] := by simpa using h
  rw [this]; rfl

theorem headerOf_of_ne {path : List Bytes} (hp : path ≠ []) (isAot : Bool) (items : List (Bytes × TV)) :
    headerOf path isAot items =
      if isAot then [.aotHeader path]
      else if !items.isEmpty && (ownValues items).isEmpty then [] else [.header path] := by
  have hpe : path.isEmpty = false := by cases path <;> simp_all
  simp [headerOf, hpe]

theorem emitDoc_eq (items : List (Bytes × TV)) : emitDoc items = ownKvs items ++ emitSubs [] items := by
  simp [emitDoc, tableStmts, headerOf]

/-- below the root the block begins with its header, or — for a hidden implicit table — with the header of
the first thing below it -/
theorem tableStmts_headerFirst (path : List Bytes) (hp : path ≠ []) (isAot : Bool) (items : List (Bytes × TV))
    {subs : List Stmt} (h : Blocks subs) : headerFirst (tableStmts path isAot items subs) := by
  rw [tableStmts, headerOf_of_ne hp]
  cases isAot with
  | true => simp [headerFirst, Stmt.isHeader]
  | false =>
    simp only [Bool.false_eq_true, if_false]
    split
    · rename_i hc
      have hv : (ownValues items).isEmpty = true := by simp_all
      rw [ownKvs_eq_nil hv]
      simpa using blocks_headerFirst h
    · simp [headerFirst, Stmt.isHeader]

mutual
theorem emitSubs_blocks (path : List Bytes) : ∀ items : List (Bytes × TV), Blocks (emitSubs path items)
  | [] => by rw [emitSubs]; exact blocks_nil
  | (k, v) :: r => by
    rw [emitSubs]
    exact blocks_append (emitItem_blocks (path ++ [k]) (by simp) v) (emitSubs_blocks path r)
theorem emitItem_blocks (path : List Bytes) (hp : path ≠ []) : ∀ v : TV, Blocks (emitItem path v)
  | .tbl items => by
    rw [emitItem]
    have hs := emitSubs_blocks path items
    exact blocks_single (block_all _) (tableStmts_headerFirst path hp false items hs)
  | .arr l => by
    rw [emitItem]
    split
    · exact emitAot_blocks path hp l
    · exact blocks_nil
  | .str _ | .int _ | .float _ | .bool _ | .dt _ => by simp only [emitItem]; exact blocks_nil
theorem emitAot_blocks (path : List Bytes) (hp : path ≠ []) : ∀ l : List TV, Blocks (emitAot path l)
  | [] => by rw [emitAot]; exact blocks_nil
  | v :: r => by
    cases v with
    | tbl items =>
      rw [emitAot]
      have hs := emitSubs_blocks path items
      exact blocks_append
        (blocks_single (block_all _) (tableStmts_headerFirst path hp true items hs))
        (emitAot_blocks path hp r)
    | _ => simp only [emitAot]; exact emitAot_blocks path hp r
end

theorem pass_exactly_one (v : TV) :
    (pass1 v = true ∧ pass2 v = false ∧ pass3 v = false) ∨
    (pass1 v = false ∧ pass2 v = true ∧ pass3 v = false) ∨
    (pass1 v = false ∧ pass2 v = false ∧ pass3 v = true) := by
  cases v with
  | arr l => cases h : l.any TV.isTable <;> simp [pass1, pass2, pass3, TV.isTable, TV.isArray, TV.arrayHasTable, h]
  | _ => simp [pass1, pass2, pass3, TV.isTable, TV.isArray, TV.arrayHasTable]

theorem filter3_perm {α} (p1 p2 p3 : α → Bool)
    (h : ∀ a, (p1 a = true ∧ p2 a = false ∧ p3 a = false) ∨ (p1 a = false ∧ p2 a = true ∧ p3 a = false) ∨
      (p1 a = false ∧ p2 a = false ∧ p3 a = true)) :
    ∀ l : List α, (l.filter p1 ++ l.filter p2 ++ l.filter p3).Perm l
  | [] => by simp
  | a :: r => by
    have ih := filter3_perm p1 p2 p3 h r
    rcases h a with ⟨h1, h2, h3⟩ | ⟨h1, h2, h3⟩ | ⟨h1, h2, h3⟩
    · simp only [List.filter_cons, h1, h2, h3, if_true, Bool.false_eq_true, if_false, List.cons_append]
      exact List.Perm.cons a ih
    · simp only [List.filter_cons, h1, h2, h3, if_true, Bool.false_eq_true, if_false]
      refine List.Perm.trans ?_ (List.Perm.cons a ih)
      simp only [List.append_assoc]
      exact List.perm_middle
    · simp only [List.filter_cons, h1, h2, h3, if_true, Bool.false_eq_true, if_false]
      refine List.Perm.trans ?_ (List.Perm.cons a ih)
      exact List.perm_middle

theorem serOrder_perm (items : List (Bytes × TV)) : (serOrder items).Perm items :=
  filter3_perm (fun e : Bytes × TV => pass1 e.2) (fun e => pass2 e.2) (fun e => pass3 e.2)
    (fun e => pass_exactly_one e.2) items

theorem toText_ok_iff (f : FloatText) (p : Bool) (v : TV) (t : Bytes) :
    toText f p v = .ok t ↔
      ∃ items, norm v = some (.tbl items) ∧ t = renderStmts f p (ownValues items).isEmpty (emitDoc items) := by
  unfold toText
  cases norm v with
  | none => simp
  | some w => cases w <;> simp [eq_comm]


end TomlVerif.Lemmas.TomlValue17
