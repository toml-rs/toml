import TomlVerif.Lemmas.Macro19Key
/-! C19: values with inline tables. `MTree`: a leaf (`MacroVal`), an array of trees, an inline table
    `{ key = tree, … }` with dotted and dashed keys, both with an optional trailing comma. Literal evaluation, the
    date-time parser and `insert_toml` are shared between `MTree.sem` and the model; the theorems are about what the
    muncher does: arm order, `@trailingcomma`, key matching, recursion, fuel. -/
namespace TomlVerif.Lemmas.Macro19b
open TomlVerif TomlVerif.Model TomlVerif.Model.Macro TomlVerif.Lemmas.Macro19

inductive MTree where
  | leaf (a : MacroVal)
  | arr (items : List MTree) (trailing : Bool)
  | tbl (entries : List (MKey × MTree)) (trailing : Bool)

mutual
def MTree.toks : MTree → List TT
  | .leaf a => a.toks
  | .arr items trailing => [.group .bracket (joinC (chunksT items) trailing)]
  | .tbl entries trailing => [.group .brace (joinC (chunksE entries) trailing)]
def chunksT : List MTree → List (List TT)
  | [] => []
  | a :: r => a.toks :: chunksT r
def chunksE : List (MKey × MTree) → List (List TT)
  | [] => []
  | (k, a) :: r => (k.toks ++ eqT :: a.toks) :: chunksE r
end

mutual
/-- the value the macro is to build. An inline table is built entry by entry with `insert_toml` (no check for
    duplicate keys: a later entry overwrites, a dotted key through a non-table replaces it by a table, through
    an empty array panics). -/
def MTree.sem : MTree → R MVal
  | .leaf a => a.sem
  | .arr items _ => R.bind (semT items []) fun vs => .ok (.arr vs)
  | .tbl entries _ => semE entries emptyTbl
def semT : List MTree → List MVal → R (List MVal)
  | [], acc => .ok acc
  | a :: r, acc => R.bind a.sem fun v => semT r (acc ++ [v])
def semE : List (MKey × MTree) → MVal → R MVal
  | [], root => .ok root
  | (k, a) :: r, root =>
    match k.path with
    | none => .unsupported
    | some p => R.bind a.sem fun v =>
      match insertToml root p v with
      | some root' => semE r root'
      | none => .panic
end

mutual
def MTree.cost : MTree → Nat
  | .leaf a => a.cost
  | .arr items _ => costsT items + 1
  | .tbl entries _ => costsE entries + 1
def costsT : List MTree → Nat
  | [] => 1
  | a :: r => a.cost + 2 + costsT r
def costsE : List (MKey × MTree) → Nat
  | [] => 1
  | (_, a) :: r => a.cost + 2 + costsE r
end

theorem table_eq (fuel : Nat) (root : MVal) (ts : List TT) (hne : ts ≠ []) :
    table (fuel + 1) root ts =
      match keyPath ts [] [] with
      | none => .unsupported
      | some (segs, after0) =>
        match segsStr segs with
        | none => .unsupported
        | some path => R.bind (readVal fuel after0) fun p =>
          match insertToml root path p.1 with
          | some root' => table fuel root' p.2
          | none => .panic := by
  rw [table]
  · cases hk : keyPath ts [] [] with
    | none => rfl
    | some sa =>
      obtain ⟨segs, after0⟩ := sa
      simp only []
      unfold readVal
      simp only []
      cases hfd : firstDt comma (rewriteSignComma after0) dtArms with
      | some p =>
        obtain ⟨dts, rest⟩ := p
        simp only []
        cases segsStr segs with
        | none => rfl
        | some path =>
          simp only []
          cases dtValue dts with
          | ok v => simp only [R.bind]; cases insertToml root path v <;> rfl
          | unsupported => rfl
          | panic => rfl
      | none =>
        simp only []
        cases rewriteSignComma after0 with
        | nil => cases segsStr segs <;> rfl
        | cons v r =>
          cases r with
          | nil => cases segsStr segs <;> rfl
          | cons c rest =>
            simp only []
            by_cases hc : isP 0x2C c = true
            · simp only [hc, if_true]
              cases segsStr segs with
              | none => rfl
              | some path =>
                simp only []
                cases value fuel v with
                | ok x => simp only [R.bind]; cases insertToml root path x <;> rfl
                | unsupported => rfl
                | panic => rfl
            · simp only [hc]
              cases segsStr segs <;> rfl
  · exact hne

theorem table_reads {f : Nat} {ts : List TT} {r : R MVal} (h : Reads f ts r) (k : MKey) (root : MVal) (rest : List TT)
    (hr : RestOk rest) :
    table (f + 2) root (k.toks ++ eqT :: (ts ++ commaT :: rest)) =
      match k.path with
      | none => .unsupported
      | some p => R.bind r fun v =>
        match insertToml root p v with
        | some root' => table (f + 1) root' rest
        | none => .panic := by
  obtain ⟨x, hx⟩ := key_toks_cons k
  rw [table_eq _ _ _ (by simp [hx]), keyPath_key]
  change (match k.path with | none => _ | some path => _) = _
  cases k.path with
  | none => rfl
  | some p =>
    simp only []
    rw [readVal_reads h rest hr]
    cases r <;> rfl

theorem reads_group (f : Nat) (d : Delim) (ts : List TT) : Reads f [.group d ts] (value (f + 1) (.group d ts)) :=
  .tt .none _ fun _ => rfl

theorem MTree.shape (a : MTree) (f : Nat) : ∃ r, Reads f a.toks r := by
  cases a with
  | leaf a => exact a.shape f
  | arr l t => exact ⟨_, reads_group f _ _⟩
  | tbl l t => exact ⟨_, reads_group f _ _⟩

theorem tree_toks_ne (a : MTree) : ∃ t r, a.toks = t :: r := by
  obtain ⟨_, h⟩ := a.shape 0
  obtain ⟨t, ht, _⟩ := h.last
  cases ha : a.toks with
  | nil => rw [ha] at ht; cases ht
  | cons x r => exact ⟨x, r, rfl⟩

theorem chunksT_ok (l : List MTree) : ∀ c ∈ chunksT l, ChunkOk c := by
  induction l with
  | nil => intro c h; simp [chunksT] at h
  | cons a r ih =>
    intro c h
    simp only [chunksT, List.mem_cons] at h
    rcases h with h | h
    · obtain ⟨_, ha⟩ := a.shape 0
      subst h; exact ha.last
    · exact ih c h

theorem getLast?_append_cons {α} (x : List α) (a : α) (y : List α) :
    (x ++ a :: y).getLast? = (a :: y).getLast? := by
  rw [List.getLast?_append]
  cases h : (a :: y).getLast? with
  | none => simp at h
  | some t => simp

theorem chunksE_ok (l : List (MKey × MTree)) : ∀ c ∈ chunksE l, ChunkOk c := by
  induction l with
  | nil => intro c h; simp [chunksE] at h
  | cons e r ih =>
    obtain ⟨k, a⟩ := e
    intro c h
    simp only [chunksE, List.mem_cons] at h
    rcases h with h | h
    · subst h
      obtain ⟨_, ha⟩ := a.shape 0
      obtain ⟨t, ht, hc⟩ := ha.last
      obtain ⟨x, y, hxy⟩ := tree_toks_ne a
      refine ⟨t, ?_, hc⟩
      rw [hxy] at ht ⊢
      rw [getLast?_append_cons, List.getLast?_cons_cons]
      exact ht
    · exact ih c h

theorem termC_chunksT_restOk (l : List MTree) : RestOk (termC (chunksT l)) := by
  cases l with
  | nil => exact restOk_nil
  | cons a r =>
    obtain ⟨_, ha⟩ := a.shape 0
    exact ha.restOk _

theorem termC_chunksE_restOk (l : List (MKey × MTree)) : RestOk (termC (chunksE l)) := by
  cases l with
  | nil => exact restOk_nil
  | cons e r =>
    obtain ⟨k, a⟩ := e
    intro t r' h
    simp [chunksE, termC, MKey.toks, Seg.toks] at h
    rw [← h.1]; simp

mutual
theorem MTree.reads (a : MTree) (f : Nat) (hf : a.cost ≤ f) : Reads f a.toks a.sem := by
  match a with
  | .leaf a => exact a.reads f hf
  | .arr items tr =>
    have hv : value (f + 1) (.group .bracket (joinC (chunksT items) tr)) = (MTree.arr items tr).sem := by
      rw [value, withComma_joinC _ _ (chunksT_ok items),
        array_items items f [] (by simp [MTree.cost] at hf; omega), MTree.sem]
      cases semT items [] <;> rfl
    rw [← hv]; exact reads_group f _ _
  | .tbl es tr =>
    have hv : value (f + 1) (.group .brace (joinC (chunksE es) tr)) = (MTree.tbl es tr).sem := by
      rw [value, withComma_joinC _ _ (chunksE_ok es),
        table_items es f emptyTbl (by simp [MTree.cost] at hf; omega), MTree.sem]
    rw [← hv]; exact reads_group f _ _

theorem array_items (l : List MTree) : ∀ (fuel : Nat) (acc : List MVal), costsT l ≤ fuel →
    array fuel acc (termC (chunksT l)) = semT l acc := by
  intro fuel acc hf
  match l with
  | [] =>
    obtain ⟨f, rfl⟩ : ∃ f, fuel = f + 1 := ⟨fuel - 1, by simp [costsT] at hf; omega⟩
    simp [chunksT, termC, semT, array]
  | a :: r =>
    have hf' : a.cost + 2 + costsT r ≤ fuel := by simpa [costsT] using hf
    obtain ⟨f, rfl⟩ : ∃ f, fuel = f + 2 := ⟨fuel - 2, by omega⟩
    rw [chunksT, termC, array_reads (a.reads f (by omega)) _ _ (termC_chunksT_restOk r), semT]
    cases a.sem with
    | ok v => exact array_items r (f + 1) (acc ++ [v]) (by omega)
    | _ => rfl

theorem table_items (l : List (MKey × MTree)) : ∀ (fuel : Nat) (root : MVal), costsE l ≤ fuel →
    table fuel root (termC (chunksE l)) = semE l root := by
  intro fuel root hf
  match l with
  | [] =>
    obtain ⟨f, rfl⟩ : ∃ f, fuel = f + 1 := ⟨fuel - 1, by simp [costsE] at hf; omega⟩
    simp [chunksE, termC, semE, table]
  | (k, a) :: r =>
    have hf' : a.cost + 2 + costsE r ≤ fuel := by simpa [costsE] using hf
    obtain ⟨f, rfl⟩ : ∃ f, fuel = f + 2 := ⟨fuel - 2, by omega⟩
    rw [chunksE, termC, List.append_assoc, List.cons_append,
      table_reads (a.reads f (by omega)) k root _ (termC_chunksE_restOk r), semE]
    cases k.path with
    | none => rfl
    | some path =>
      simp only []
      cases a.sem with
      | ok v =>
        simp only [R.bind]
        cases insertToml root path v with
        | none => rfl
        | some root' => exact table_items r (f + 1) root' (by omega)
      | _ => rfl
end

def sumC : List (List TT) → Nat
  | [] => 0
  | c :: r => sizeTTs c + sumC r

theorem sumC_le_joinC (l : List (List TT)) (tr : Bool) : sumC l ≤ sizeTTs (joinC l tr) := by
  induction l with
  | nil => simp [sumC]
  | cons a r ih =>
    cases r with
    | nil => simp [sumC, joinC, sizeTTs_append]
    | cons b r => rw [joinC, sizeTTs_append, sumC, sizeTTs]; omega

mutual
theorem tree_cost_le (a : MTree) : a.cost + 2 ≤ 2 * sizeTTs a.toks := by
  match a with
  | .leaf a => simpa [MTree.cost, MTree.toks] using cost_le a
  | .arr items tr =>
    have h1 := costsT_le items
    have h2 := sumC_le_joinC (chunksT items) tr
    simp [MTree.cost, MTree.toks, sizeTTs, sizeTT]; omega
  | .tbl es tr =>
    have h1 := costsE_le es
    have h2 := sumC_le_joinC (chunksE es) tr
    simp [MTree.cost, MTree.toks, sizeTTs, sizeTT]; omega
theorem costsT_le (l : List MTree) : costsT l ≤ 1 + 2 * sumC (chunksT l) := by
  match l with
  | [] => simp [costsT, chunksT, sumC]
  | a :: r =>
    have h1 := tree_cost_le a
    have h2 := costsT_le r
    simp [costsT, chunksT, sumC]; omega
theorem costsE_le (l : List (MKey × MTree)) : costsE l ≤ 1 + 2 * sumC (chunksE l) := by
  match l with
  | [] => simp [costsE, chunksE, sumC]
  | (k, a) :: r =>
    have h1 := tree_cost_le a
    have h2 := costsE_le r
    simp [costsE, chunksE, sumC, sizeTTs_append, sizeTTs]; omega
end

end TomlVerif.Lemmas.Macro19b
