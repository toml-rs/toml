import TomlVerif.Lemmas.InlineKeys01
import TomlVerif.Lemmas.State09
/-! The semantic REBUILD lemma for inline tables: the item list `table_from_pairs` returns,
    flattened back to `(path, key, value)` entries the way `InlineTable::get_values` does (dotted
    sub-tables contribute their entries under the longer key path), is assembled by
    `table_from_pairs` into the same item list again. -/
namespace TomlVerif.Lemmas.Tiling03More.VS
open TomlVerif TomlVerif.Model TomlVerif.Model.Value TomlVerif.Lemmas.ValueParse TomlVerif.Lemmas.InlineKeys01

abbrev SItems := List (Bytes × Val)
abbrev STriple := List Bytes × Bytes × Val

def SLeaf (v : Val) : Prop := ∀ sub imp dot, v = .inl sub imp dot → imp = false ∧ dot = false

mutual
/-- the shape of the item lists `table_from_pairs` builds: keys distinct; a dotted entry is implicit,
    not empty and of that shape again -/
def RbV : Val → Prop
  | .inl sub imp dot => imp = dot ∧ (dot = true → sub ≠ [] ∧ RbL sub)
  | .str _ => True
  | .int _ => True
  | .float _ => True
  | .bool _ => True
  | .dt _ => True
  | .arr _ => True
def RbL : SItems → Prop
  | [] => True
  | (k, v) :: r => k ∉ r.map Prod.fst ∧ RbV v ∧ RbL r
end

def consK (k : Bytes) (e : STriple) : STriple := (k :: e.1, e.2.1, e.2.2)

mutual
/-- `get_values` on the semantic tree, with key paths relative to the table -/
def sflat : SItems → List STriple
  | [] => []
  | (k, v) :: r => sflatV k v ++ sflat r
def sflatV (k : Bytes) : Val → List STriple
  | .inl sub imp dot => if dot then (sflat sub).map (consK k) else [([], k, .inl sub imp dot)]
  | .str s => [([], k, .str s)]
  | .int s => [([], k, .int s)]
  | .float s => [([], k, .float s)]
  | .bool s => [([], k, .bool s)]
  | .dt s => [([], k, .dt s)]
  | .arr s => [([], k, .arr s)]
end

/-- the insertion loop of `table_from_pairs`, for the root table (`td = false`, `top = true`) and
    for a dotted sub-table reached through a non-empty path (`td = true`, `top = false`) -/
def insAll (td top : Bool) : List STriple → SItems → Option SItems
  | [], acc => some acc
  | (path, key, v) :: rest, acc =>
    match inlInsert acc td path (top && path.isEmpty) key v with
    | some acc' => insAll td top rest acc'
    | none => none

theorem tableFromPairs_insAll : ∀ (l : List STriple) (acc : SItems), tableFromPairs l acc = insAll false true l acc
  | [], acc => rfl
  | (path, key, v) :: rest, acc => by
    simp only [tableFromPairs, insAll, Bool.true_and]
    cases inlInsert acc false path path.isEmpty key v with
    | none => rfl
    | some acc' => exact tableFromPairs_insAll rest acc'

theorem insAll_append (td top : Bool) : ∀ (a b : List STriple) (acc : SItems),
    insAll td top (a ++ b) acc = (insAll td top a acc).bind (insAll td top b)
  | [], b, acc => rfl
  | (path, key, v) :: rest, b, acc => by
    simp only [List.cons_append, insAll]
    cases inlInsert acc td path (top && path.isEmpty) key v with
    | none => rfl
    | some acc' => exact insAll_append td top rest b acc'

theorem insAll_push (td top : Bool) (k : Bytes) (acc : SItems) (hk : alookup k acc = none) :
    ∀ (es : List STriple) (sub : SItems),
      insAll td top (es.map (consK k)) (acc ++ [(k, .inl sub true true)])
        = (insAll true false es sub).map (fun sub' => acc ++ [(k, .inl sub' true true)])
  | [], sub => rfl
  | (path, key, v) :: rest, sub => by
    have h1 := State09.alookup_append_new k (Val.inl sub true true) acc hk
    have h2 := fun y => State09.areplace_append_new k (Val.inl sub true true) y acc hk
    simp only [List.map_cons, consK, insAll, List.isEmpty_cons, Bool.and_false, Bool.false_and]
    rw [inlInsert, h1]
    simp only [Bool.not_true, Bool.false_eq_true, if_false]
    cases hs : inlInsert sub true path false key v with
    | none => rfl
    | some sub' =>
      simp only [h2]
      exact insAll_push td top k acc hk rest sub'

theorem insAll_first (td top : Bool) (k : Bytes) (acc : SItems) (hk : alookup k acc = none)
    (es : List STriple) (hne : es ≠ []) :
    insAll td top (es.map (consK k)) acc
      = (insAll true false es []).map (fun sub' => acc ++ [(k, .inl sub' true true)]) := by
  cases es with
  | nil => exact absurd rfl hne
  | cons e rest =>
    obtain ⟨path, key, v⟩ := e
    simp only [List.map_cons, consK, insAll, List.isEmpty_cons, Bool.and_false, Bool.false_and]
    rw [inlInsert, hk]
    simp only []
    cases hs : inlInsert [] true path false key v with
    | none => rfl
    | some sub' => exact insAll_push td top k acc hk rest sub'

mutual
theorem sflat_ne : ∀ (its : SItems), its ≠ [] → RbL its → sflat its ≠ []
  | [], h, _ => absurd rfl h
  | (k, v) :: r, _, hr => by
    rw [RbL] at hr
    rw [sflat]
    intro e
    exact sflatV_ne k v hr.2.1 (List.append_eq_nil_iff.1 e).1
theorem sflatV_ne (k : Bytes) : ∀ (v : Val), RbV v → sflatV k v ≠ []
  | .inl sub imp true, h => by
    rw [RbV] at h
    obtain ⟨hne, hs⟩ := h.2 rfl
    rw [sflatV]
    simp only [if_true]
    intro e
    exact sflat_ne sub hne hs (List.map_eq_nil_iff.1 e)
  | .inl sub imp false, _ => by simp [sflatV]
  | .str _, _ => by simp [sflatV]
  | .int _, _ => by simp [sflatV]
  | .float _, _ => by simp [sflatV]
  | .bool _, _ => by simp [sflatV]
  | .dt _, _ => by simp [sflatV]
  | .arr _, _ => by simp [sflatV]
end

theorem insAll_leaf (td top : Bool) (hcons : td = !top) (k : Bytes) (v : Val) (acc : SItems) (hk : alookup k acc = none) :
    insAll td top [([], k, v)] acc = some (acc ++ [(k, v)]) := by
  simp only [insAll, List.isEmpty_nil, Bool.and_true]
  rw [inlInsert]
  have : (td == top) = false := by subst hcons; cases top <;> rfl
  simp [this, hk]

mutual
theorem rebuild_list (td top : Bool) (hcons : td = !top) : ∀ (its : SItems), RbL its → ∀ (acc : SItems),
    (∀ k ∈ its.map Prod.fst, alookup k acc = none) → insAll td top (sflat its) acc = some (acc ++ its)
  | [], _, acc, _ => by simp [sflat, insAll]
  | (k, v) :: r, hr, acc, hfresh => by
    rw [RbL] at hr
    rw [sflat, insAll_append, rebuild_val td top hcons k v hr.2.1 acc (hfresh k (by simp))]
    simp only [Option.bind_some]
    rw [rebuild_list td top hcons r hr.2.2 (acc ++ [(k, v)])]
    · simp
    · intro k' hk'
      have hne : k ≠ k' := by intro e; subst e; exact hr.1 hk'
      exact (State09.alookup_append_other k k' v acc hne.symm).trans (hfresh k' (by simp [hk']))
theorem rebuild_val (td top : Bool) (hcons : td = !top) (k : Bytes) : ∀ (v : Val), RbV v → ∀ (acc : SItems),
    alookup k acc = none → insAll td top (sflatV k v) acc = some (acc ++ [(k, v)])
  | .inl sub imp true, h, acc, hk => by
    rw [RbV] at h
    obtain ⟨hne, hs⟩ := h.2 rfl
    have himp := h.1
    subst himp
    rw [sflatV]
    simp only [if_true]
    rw [insAll_first td top k acc hk _ (sflat_ne sub hne hs),
      rebuild_list true false rfl sub hs [] (by intro k' _; rfl)]
    simp
  | .inl sub imp false, _, acc, hk => by rw [sflatV]; exact insAll_leaf td top hcons k _ acc hk
  | .str _, _, acc, hk => by rw [sflatV]; exact insAll_leaf td top hcons k _ acc hk
  | .int _, _, acc, hk => by rw [sflatV]; exact insAll_leaf td top hcons k _ acc hk
  | .float _, _, acc, hk => by rw [sflatV]; exact insAll_leaf td top hcons k _ acc hk
  | .bool _, _, acc, hk => by rw [sflatV]; exact insAll_leaf td top hcons k _ acc hk
  | .dt _, _, acc, hk => by rw [sflatV]; exact insAll_leaf td top hcons k _ acc hk
  | .arr _, _, acc, hk => by rw [sflatV]; exact insAll_leaf td top hcons k _ acc hk
end

theorem tableFromPairs_rebuild (its : SItems) (h : RbL its) : tableFromPairs (sflat its) [] = some its := by
  rw [tableFromPairs_insAll, rebuild_list false true rfl its h [] (by intro k _; rfl)]
  simp

theorem RbV_leaf (v : Val) (h : SLeaf v) : RbV v := by
  cases v with
  | inl sub imp dot =>
    obtain ⟨h1, h2⟩ := h sub imp dot rfl
    subst h1; subst h2; simp [RbV]
  | _ => simp [RbV]

theorem RbL_append (a b : SItems) :
    RbL (a ++ b) ↔ RbL a ∧ RbL b ∧ ∀ k ∈ a.map Prod.fst, k ∉ b.map Prod.fst := by
  induction a with
  | nil => simp [RbL]
  | cons x a ih =>
    obtain ⟨k, v⟩ := x
    simp only [List.cons_append, RbL, ih, List.map_append, List.mem_append, List.map_cons, List.mem_cons]
    constructor
    · rintro ⟨h1, h2, h3, h4, h5⟩
      refine ⟨⟨fun h => h1 (Or.inl h), h2, h3⟩, h4, ?_⟩
      rintro k' (rfl | hk')
      · exact fun h => h1 (Or.inr h)
      · exact h5 k' hk'
    · rintro ⟨⟨h1, h2, h3⟩, h4, h5⟩
      refine ⟨?_, h2, h3, h4, fun k' hk' => h5 k' (Or.inr hk')⟩
      rintro (h | h)
      · exact h1 h
      · exact h5 k (Or.inl rfl) h

theorem inlInsert_Rb {pe : Bool} {key : Bytes} {v : Val} (hv : SLeaf v) :
    ∀ (path : List Bytes) (items : SItems) (dot : Bool) (items' : SItems),
    inlInsert items dot path pe key v = some items' → items' ≠ [] ∧ (RbL items → RbL items') := by
  have dotted : ∀ (sub : SItems), sub ≠ [] → RbL sub → RbV (.inl sub true true) := fun sub hne hs => by
    unfold RbV; exact ⟨rfl, fun _ => ⟨hne, hs⟩⟩
  have fresh : ∀ (items : SItems) (k : Bytes) (x : Val), alookup k items = none → RbV x → RbL items →
      RbL (items ++ [(k, x)]) := fun items k x hl hx hd => by
    rw [RbL_append]
    refine ⟨hd, by simp [RbL, hx], ?_⟩
    intro k' hk hk'
    simp at hk'
    subst hk'
    exact (State09.alookup_none_iff _ items).1 hl hk
  refine inlInsert_induction ?_ ?_ ?_
  · intro items hl
    exact ⟨by simp, fresh items key v hl (RbV_leaf v hv)⟩
  · intro items k ks sub hl ih
    exact ⟨by simp, fresh items k _ hl (dotted sub ih.1 (ih.2 (by simp [RbL])))⟩
  · intro items k ks sub dot sub' hl ih
    obtain ⟨before, after, e, hrep⟩ := State09.alookup_split k _ items hl
    refine ⟨by rw [hrep]; simp, fun hd => ?_⟩
    rw [e, RbL_append] at hd
    obtain ⟨hb, ha, hba⟩ := hd
    rw [RbL] at ha
    have hav := ha.2.1
    unfold RbV at hav
    have hd1 : dot = true := hav.1.symm
    subst hd1
    rw [hrep, RbL_append]
    refine ⟨hb, ?_, by simpa using hba⟩
    rw [RbL]
    exact ⟨ha.1, dotted sub' ih.1 (ih.2 (hav.2 rfl).2), ha.2.2⟩

theorem tableFromPairs_Rb : ∀ (l : List STriple) (acc its : SItems), tableFromPairs l acc = some its →
    RbL acc → (∀ e ∈ l, SLeaf e.2.2) → RbL its
  | [], acc, its, h, ha, _ => by
    simp only [tableFromPairs] at h; injection h with h; subst h; exact ha
  | (path, key, v) :: rest, acc, its, h, ha, hl => by
    unfold tableFromPairs at h
    split at h
    · rename_i acc' hi
      exact tableFromPairs_Rb rest acc' its h ((inlInsert_Rb (hl (path, key, v) (List.mem_cons_self ..)) _ _ _ _ hi).2 ha)
        (fun e he => hl e (List.mem_cons_of_mem _ he))
    · cases h

theorem sflatV_leaf (k : Bytes) (v : Val) (h : SLeaf v) : sflatV k v = [([], k, v)] := by
  cases v with
  | inl sub imp dot =>
    obtain ⟨_, h2⟩ := h sub imp dot rfl
    subst h2; simp [sflatV]
  | _ => simp [sflatV]

/-- non-vacuity: `{a.b = 1, c = 2, a.d.e = 3}` as `table_from_pairs` builds it -/
example : tableFromPairs (sflat [([0x61], .inl [([0x62], .int 1), ([0x64], .inl [([0x65], .int 3)] true true)] true true),
    ([0x63], .int 2)]) [] = some [([0x61], .inl [([0x62], .int 1), ([0x64], .inl [([0x65], .int 3)] true true)] true true),
    ([0x63], .int 2)] := by
  apply tableFromPairs_rebuild
  simp [RbL, RbV]

/-- non-vacuity of `inlInsert_Rb` / `tableFromPairs_Rb`: `a.b = 1`, then `a.c = 2` into the table built so far -/
example : (inlInsert [([0x61], .inl [([0x62], .int 1)] true true)] false [[0x61]] false [0x63] (.int 2)).isSome = true := by
  decide +kernel
example : RbL [([0x61], .inl [([0x62], .int 1)] true true)] := by simp [RbL, RbV]
example : SLeaf (.int 2) := by intro sub imp dot e; cases e
example : (tableFromPairs [([[0x61]], [0x62], .int 1), ([], [0x63], .int 2), ([[0x61]], [0x64], .inl [] false false)] []).isSome = true := by
  decide +kernel

end TomlVerif.Lemmas.Tiling03More.VS
