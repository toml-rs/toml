import TomlVerif.Lemmas.Spans14Keys
/-! C14: span bounds and nesting for every value (scalars, arrays, inline tables) produced by the
    format-preserving value parser. -/
namespace TomlVerif.Lemmas.Spans14
open TomlVerif TomlVerif.Spec TomlVerif.Model TomlVerif.Model.Strings TomlVerif.Model.Value
open TomlVerif.Model.Cst TomlVerif.Lemmas.Cst03 TomlVerif.Lemmas.Tiling03More

/-- every entry of an `IndexMap<Key, _>` has a good key and a good value -/
def AllKV {α} (PK : CKey → Prop) (PV : α → Prop) (l : List (CKey × α)) : Prop :=
  ∀ kv ∈ l, PK kv.1 ∧ PV kv.2

section AllKV
variable {α : Type} {PK : CKey → Prop} {PV : α → Prop}

theorem AllKV.nil : AllKV PK PV ([] : List (CKey × α)) := by intro kv h; cases h

theorem AllKV.cons {k : CKey} {v : α} {l : List (CKey × α)} :
    AllKV PK PV ((k, v) :: l) ↔ (PK k ∧ PV v) ∧ AllKV PK PV l := by
  simp [AllKV]

theorem AllKV.append {a b : List (CKey × α)} (ha : AllKV PK PV a) (hb : AllKV PK PV b) :
    AllKV PK PV (a ++ b) := by
  intro kv h
  rcases List.mem_append.1 h with h | h
  · exact ha kv h
  · exact hb kv h

theorem AllKV.single {k : CKey} {v : α} (hk : PK k) (hv : PV v) : AllKV PK PV [(k, v)] := by
  intro kv h
  simp at h
  subst h
  exact ⟨hk, hv⟩

theorem AllKV.lookup {l : List (CKey × α)} {k : Bytes} {v : α} (h : AllKV PK PV l)
    (hl : clookup k l = some v) : PV v := by
  induction l with
  | nil => simp [clookup] at hl
  | cons kv r ih =>
    obtain ⟨k', v'⟩ := kv
    rw [AllKV.cons] at h
    unfold clookup at hl
    split at hl
    · injection hl with hl; subst hl; exact h.1.2
    · exact ih h.2 hl

theorem AllKV.creplace {l : List (CKey × α)} {k : Bytes} {v : α} (h : AllKV PK PV l) (hv : PV v) :
    AllKV PK PV (creplace k v l) := by
  induction l with
  | nil => exact AllKV.nil
  | cons kv r ih =>
    obtain ⟨k', v'⟩ := kv
    rw [AllKV.cons] at h
    unfold Cst.creplace
    split
    · rw [AllKV.cons]; exact ⟨⟨h.1.1, hv⟩, h.2⟩
    · rw [AllKV.cons]; exact ⟨h.1, ih h.2⟩

theorem AllKV.cset {l : List (CKey × α)} {k : CKey} {v : α} (h : AllKV PK PV l) (hk : PK k) (hv : PV v) :
    AllKV PK PV (cset k v l) := by
  unfold Cst.cset
  split
  · exact h.creplace hv
  · exact h.append (AllKV.single hk hv)

theorem AllKV.cerase {l : List (CKey × α)} {k : Bytes} (h : AllKV PK PV l) :
    AllKV PK PV (cerase k l) := by
  induction l with
  | nil => exact AllKV.nil
  | cons kv r ih =>
    obtain ⟨k', v'⟩ := kv
    rw [AllKV.cons] at h
    unfold Cst.cerase
    split
    · exact h.2
    · rw [AllKV.cons]; exact ⟨h.1, ih h.2⟩

theorem AllKV.imp {PK' : CKey → Prop} {PV' : α → Prop} {l : List (CKey × α)} (h : AllKV PK PV l)
    (hk : ∀ k, PK k → PK' k) (hv : ∀ v, PV v → PV' v) : AllKV PK' PV' l :=
  fun kv hm => ⟨hk _ (h kv hm).1, hv _ (h kv hm).2⟩

end AllKV

mutual
/-- everything recorded inside an array or inline table lies inside its `span`; tables created for
    dotted keys (`implicit`) carry no span: `cinlInsert` extends such a table with later pairs, which a span
    recorded at its creation would not enclose -/
def NestV : CVal → Prop
  | .scalar _ _ _ => True
  | .arr items t _ _ sp => (∀ e, sp = some e → AllW e.1 e.2 (elemsSpans items ++ rawSp t)) ∧ NestVs items
  | .inl items p imp _ _ sp =>
    (imp = true → sp = none) ∧ (∀ e, sp = some e → AllW e.1 e.2 (kvsSpans items ++ rawSp p)) ∧ NestKvs items
def NestVs : List CVal → Prop
  | [] => True
  | v :: r => NestV v ∧ NestVs r
def NestKvs : List (CKey × CVal) → Prop
  | [] => True
  | (_, v) :: r => NestV v ∧ NestKvs r
end

theorem NestVs_append (a b : List CVal) : NestVs (a ++ b) ↔ NestVs a ∧ NestVs b := by
  induction a with
  | nil => simp [NestVs]
  | cons v r ih => simp [NestVs, ih, and_assoc]

theorem NestVs_iff (l : List CVal) : NestVs l ↔ ∀ v ∈ l, NestV v := by
  induction l with
  | nil => simp [NestVs]
  | cons v r ih => simp [NestVs, ih]

theorem NestKvs_iff (l : List (CKey × CVal)) : NestKvs l ↔ AllKV (fun _ => True) NestV l := by
  induction l with
  | nil => simp [NestKvs, AllKV]
  | cons kv r ih => obtain ⟨k, v⟩ := kv; rw [AllKV.cons]; simp [NestKvs, ih]

theorem NestV_setDecor (v : CVal) (d : Decor) : NestV (v.setDecor d) ↔ NestV v := by
  cases v <;> simp [CVal.setDecor, NestV]

theorem elemsSpans_append (a b : List CVal) : elemsSpans (a ++ b) = elemsSpans a ++ elemsSpans b := by
  induction a with
  | nil => rfl
  | cons v r ih => simp [elemsSpans, ih]

theorem kvsSpans_allW (lo hi : Nat) (l : List (CKey × CVal)) :
    AllW lo hi (kvsSpans l) ↔ AllKV (fun k => AllW lo hi (keySpans k)) (fun v => AllW lo hi (valSpans v)) l := by
  induction l with
  | nil => simp [kvsSpans, AllKV, AllW]
  | cons kv r ih =>
    obtain ⟨k, v⟩ := kv
    rw [AllKV.cons, ← ih]
    simp only [kvsSpans]
    constructor
    · intro h; exact ⟨⟨h.left.left, h.left.right⟩, h.right⟩
    · intro h; exact AllW.append (AllW.append h.1.1 h.1.2) h.2

theorem span_mem_valSpans (v : CVal) (e : Span) (h : v.span = some e) : e ∈ valSpans v := by
  cases v with
  | scalar x r d =>
    cases r with
    | empty => simp [CVal.span, Raw.span] at h
    | spanned a b => simp [CVal.span, Raw.span] at h; subst h; simp [valSpans, rawSp]
  | arr i t c d s => simp [CVal.span] at h; subst h; simp [valSpans, optSp]
  | inl i p im dt d s => simp [CVal.span] at h; subst h; simp [valSpans, optSp]

theorem valSpans_setDecor_allW {lo hi : Nat} (v : CVal) (d : Decor) (h : v.decor = emptyDecor)
    (hv : AllW lo hi (valSpans v)) (hd : AllW lo hi (decorSp d)) : AllW lo hi (valSpans (v.setDecor d)) := by
  intro sp hm
  rcases valSpans_setDecor v d h sp hm with hm | hm
  · exact hv sp hm
  · exact hd sp hm

/-- the spans of the pairs an inline table's `separated` list collects -/
def pairsSpans : List (List CKey × CKey × CVal) → List Span
  | [] => []
  | (path, key, v) :: r => keysSpans path ++ keySpans key ++ valSpans v ++ pairsSpans r

def NestPairs : List (List CKey × CKey × CVal) → Prop
  | [] => True
  | (_, _, v) :: r => NestV v ∧ NestPairs r

theorem pairsSpans_append (a b : List (List CKey × CKey × CVal)) :
    pairsSpans (a ++ b) = pairsSpans a ++ pairsSpans b := by
  induction a with
  | nil => rfl
  | cons v r ih => obtain ⟨p, k, v⟩ := v; simp [pairsSpans, ih]

theorem NestPairs_append (a b : List (List CKey × CKey × CVal)) :
    NestPairs (a ++ b) ↔ NestPairs a ∧ NestPairs b := by
  induction a with
  | nil => simp [NestPairs]
  | cons v r ih => obtain ⟨p, k, v⟩ := v; simp [NestPairs, ih, and_assoc]

def KvsW (lo hi : Nat) (l : List (CKey × CVal)) : Prop :=
  AllKV (fun k => AllW lo hi (keySpans k)) (fun v => AllW lo hi (valSpans v) ∧ NestV v) l

theorem KvsW_iff (lo hi : Nat) (l : List (CKey × CVal)) :
    KvsW lo hi l ↔ AllW lo hi (kvsSpans l) ∧ NestKvs l := by
  rw [kvsSpans_allW, NestKvs_iff]
  constructor
  · intro h
    exact ⟨h.imp (fun _ x => x) (fun _ x => x.1), h.imp (fun _ _ => trivial) (fun _ x => x.2)⟩
  · intro h kv hm
    exact ⟨(h.1 kv hm).1, (h.1 kv hm).2, (h.2 kv hm).2⟩

theorem newDottedInl_ok {lo hi : Nat} {sub : List (CKey × CVal)} (h : KvsW lo hi sub) :
    AllW lo hi (valSpans (newDottedInl sub)) ∧ NestV (newDottedInl sub) := by
  rw [KvsW_iff] at h
  constructor
  · simp only [newDottedInl, valSpans, rawSp, decorSp_default, optSp, List.append_nil]
    exact h.1
  · simp only [newDottedInl, NestV]
    refine ⟨fun _ => trivial, ?_, h.2⟩
    intro e he; cases he

theorem cinlInsert_ok {lo hi : Nat} : ∀ (path : List CKey) (items : List (CKey × CVal)) (tblDotted pathEmpty : Bool)
    (key : CKey) (v : CVal) (items' : List (CKey × CVal)),
    cinlInsert items tblDotted path pathEmpty key v = some items' →
    KvsW lo hi items → AllW lo hi (keysSpans path) → AllW lo hi (keySpans key) →
    AllW lo hi (valSpans v) → NestV v → KvsW lo hi items' := by
  intro path items tblDotted pathEmpty key v items' h hit hpath hkey hv hn
  refine Tiling03More.cinlInsert_induction
    (P := fun items path items' => KvsW lo hi items → AllW lo hi (keysSpans path) → KvsW lo hi items')
    ?_ ?_ ?_ path items tblDotted items' h hit hpath
  · intro items _ hit _
    exact hit.append (AllKV.single hkey ⟨hv, hn⟩)
  · intro items k ks sub _ ih hit hpath
    simp only [keysSpans] at hpath
    exact hit.append (AllKV.single hpath.left (newDottedInl_ok (ih AllKV.nil hpath.right)))
  · intro items k ks sub pre dot dec sp sub' hl ih hit hpath
    simp only [keysSpans] at hpath
    obtain ⟨hx1, hx2⟩ := hit.lookup hl
    simp only [valSpans] at hx1
    simp only [NestV] at hx2
    have hsubok : KvsW lo hi sub := (KvsW_iff _ _ _).2 ⟨hx1.left.left.left, hx2.2.2⟩
    have hsub' := (KvsW_iff _ _ _).1 (ih hsubok hpath.right)
    refine hit.creplace ⟨?_, ?_⟩
    · simp only [valSpans]
      exact AllW.append (AllW.append (AllW.append hsub'.1 hx1.left.left.right) hx1.left.right) hx1.right
    · simp only [NestV]
      refine ⟨hx2.1, ?_, hsub'.2⟩
      intro e he
      rw [hx2.1 trivial] at he
      cases he

theorem ctableFromPairs_ok {lo hi : Nat} : ∀ (kvs : List (List CKey × CKey × CVal)) (acc items : List (CKey × CVal)),
    ctableFromPairs kvs acc = some items → AllW lo hi (pairsSpans kvs) → NestPairs kvs →
    KvsW lo hi acc → KvsW lo hi items := by
  intro kvs
  induction kvs with
  | nil =>
    intro acc items h _ _ hacc
    simp [ctableFromPairs] at h
    subst h
    exact hacc
  | cons x rest ih =>
    intro acc items h hsp hn hacc
    obtain ⟨path, key, v⟩ := x
    simp only [pairsSpans] at hsp
    simp only [NestPairs] at hn
    unfold ctableFromPairs at h
    split at h
    · rename_i acc' hins
      exact ih _ _ h hsp.right hn.2
        (cinlInsert_ok _ _ _ _ _ _ _ hins hacc hsp.left.left.left hsp.left.left.right hsp.left.right hn.1)
    · cases h

/-! One statement per parser function at a given fuel (`V1`: `cvalue`, `V2`: `carrayValues`, `V3`: `carrayElems`,
    `V4`: `cinlineKeyvals`): the rest is shorter, the spans lie between the two offsets, the values nest. -/

def V1 (n fuel : Nat) : Prop :=
  ∀ d s v r, cvalue n fuel d s = .ok v r →
    r.length < s.length ∧ v.decor = emptyDecor ∧ AllW (pos n s) (pos n r) (valSpans v) ∧ NestV v

def V2 (n fuel : Nat) : Prop :=
  ∀ d s vs comma tr r, carrayValues n fuel d s = .ok (vs, comma, tr) r →
    r.length ≤ s.length ∧ AllW (pos n s) (pos n r) (elemsSpans vs ++ rawSp tr) ∧ NestVs vs

/-- what a run of the element loop adds to its accumulator -/
def V3 (n fuel : Nat) : Prop :=
  ∀ d s acc vs r new, carrayElems n fuel d s acc = .ok vs r → vs = acc ++ new →
    r.length ≤ s.length ∧ AllW (pos n s) (pos n r) (elemsSpans new) ∧ NestVs new

def V4 (n fuel : Nat) : Prop :=
  ∀ d s acc kvs r new, cinlineKeyvals n fuel d s acc = .ok kvs r → kvs = acc ++ new →
    r.length ≤ s.length ∧ AllW (pos n s) (pos n r) (pairsSpans new) ∧ NestPairs new

theorem vstep1 (n fuel : Nat) (ih2 : V2 n fuel) (ih4 : V4 n fuel) : V1 n (fuel + 1) := by
  intro d s v r h
  rcases cvalue_ok h with ⟨r0, vs, comma, tr, rfl, _, hav, rfl⟩ |
    ⟨r0, kvs, r1, items, rfl, _, hkv, hitems, heq, rfl⟩ | ⟨b, r0, v0, rfl, _, _, hv, rfl⟩
  · obtain ⟨hlen, hsp, hn⟩ := ih2 _ _ _ _ _ _ hav
    simp only [List.length_cons] at hlen
    have hin : AllW (pos n (0x5B :: r0)) (pos n r) (elemsSpans vs ++ rawSp tr) :=
      hsp.mono_pos (by simp) (by simp)
    refine ⟨by simp only [List.length_cons]; omega, rfl, ?_, ?_⟩
    · simp only [valSpans, decorSp_empty, List.append_nil]
      refine AllW.append hin (AllW.single ?_)
      exact ⟨Nat.le_refl _, pos_mono (by simp only [List.length_cons]; omega), Nat.le_refl _⟩
    · simp only [NestV]
      refine ⟨?_, hn⟩
      intro e he
      injection he with he; subst he
      exact hin
  · obtain ⟨hlen, hsp, hn⟩ := ih4 _ _ _ _ _ kvs hkv (List.nil_append _).symm
    have l0 := (Suffix03.dropWs_suffix r1).length_le
    have l2 : (dropWs r1).length = r.length + 1 := by rw [heq]; simp
    have hok := (KvsW_iff _ _ _).1
      (ctableFromPairs_ok (lo := pos n r0) (hi := pos n r1) _ _ _ hitems hsp hn AllKV.nil)
    have hin : AllW (pos n (0x7B :: r0)) (pos n r) (kvsSpans items ++ rawSp (rawBetween n r1 (dropWs r1))) :=
      AllW.append (hok.1.mono_pos (by simp) (by omega))
        (rb_allW _ _ _ _ _ (by simp only [List.length_cons]; omega) l0 (by omega))
    refine ⟨by simp only [List.length_cons]; omega, rfl, ?_, ?_⟩
    · simp only [valSpans, decorSp_empty, List.append_nil]
      refine AllW.append hin (AllW.single ?_)
      exact ⟨Nat.le_refl _, pos_mono (by simp only [List.length_cons]; omega), Nat.le_refl _⟩
    · simp only [NestV]
      refine ⟨nofun, ?_, hok.2⟩
      intro e he
      injection he with he; subst he
      exact hin
  · have hlen := (Suffix03.value_adv hv).length_lt
    refine ⟨hlen, rfl, ?_, trivial⟩
    simp only [valSpans, decorSp_empty, List.append_nil]
    exact rb_allW _ _ _ _ _ (Nat.le_refl _) (by omega) (Nat.le_refl _)

theorem vstep2 (n fuel : Nat) (ih3 : V3 n fuel) : V2 n (fuel + 1) := by
  intro d s vs comma tr r h
  rcases carrayValues_ok h with ⟨t, _, rfl, _, rfl, rfl⟩ | ⟨_, r0, r1, hel, hcomma, hw, rfl⟩
  · exact ⟨Nat.le_refl _, by simp [elemsSpans, rawSp]; exact AllW.nil _ _, trivial⟩
  · obtain ⟨hlen, hsp, hn⟩ := ih3 _ _ _ _ _ vs hel (List.nil_append _).symm
    have l1 : r1.length ≤ r0.length := by
      rcases hcomma with ⟨_, _, rfl⟩ | ⟨_, rfl⟩
      · simp
      · exact Nat.le_refl _
    have l2 := (Suffix03.wcn_suffix _ _ _ hw).length_le
    exact ⟨by omega, AllW.append (hsp.mono_pos (Nat.le_refl _) (by omega))
      (rb_allW _ _ _ _ _ (by omega) l2 (Nat.le_refl _)), hn⟩

theorem vstep3 (n fuel : Nat) (ih1 : V1 n fuel) (ih3 : V3 n fuel) : V3 n (fuel + 1) := by
  intro d s acc vs r new h hvs
  rcases carrayElems_ok h with ⟨e, rfl, _⟩ | ⟨s1, v, s2, s3, v', new0, hw1, hv, hw2, hv', hvs', hrest⟩
  · have : new = [] := List.self_eq_append_right.1 (e.symm.trans hvs)
    subst this
    exact ⟨Nat.le_refl _, by simp [elemsSpans]; exact AllW.nil _ _, trivial⟩
  · have : new = v' :: new0 := List.append_cancel_left (hvs.symm.trans hvs')
    subst this
    have l1 := (Suffix03.wcn_suffix _ _ _ hw1).length_le
    obtain ⟨l2, hdec, hvsp, hvn⟩ := ih1 _ _ _ _ hv
    have l3 := (Suffix03.wcn_suffix _ _ _ hw2).length_le
    have hel : AllW (pos n s) (pos n s3) (valSpans v') := by
      rw [hv']
      refine valSpans_setDecor_allW v _ hdec (hvsp.mono_pos l1 l3) ?_
      rw [decorSp_new]
      exact AllW.append (rb_allW _ _ _ _ _ (Nat.le_refl _) l1 (by omega))
        (rb_allW _ _ _ _ _ (by omega) l3 (Nat.le_refl _))
    have hn' : NestV v' := by rw [hv', NestV_setDecor]; exact hvn
    rcases hrest with ⟨rfl, rfl, _⟩ | ⟨_, s4, rfl, hrec⟩
    · exact ⟨by omega, by simp only [elemsSpans, List.append_nil]; exact hel, ⟨hn', trivial⟩⟩
    · obtain ⟨l5, hsp', hnn'⟩ := ih3 _ _ _ _ _ new0 hrec (by rw [hvs', List.append_assoc]; rfl)
      simp only [List.length_cons] at l3
      refine ⟨by omega, ?_, ⟨hn', hnn'⟩⟩
      simp only [elemsSpans]
      exact AllW.append (hel.mono_pos (Nat.le_refl _) (by simp only [List.length_cons]; omega))
        (hsp'.mono_pos (by omega) (Nat.le_refl _))

theorem vstep4 (n fuel : Nat) (ih1 : V1 n fuel) (ih4 : V4 n fuel) : V4 n (fuel + 1) := by
  intro d s acc kvs r new h hkvs
  rcases cinlineKeyvals_ok h with ⟨e, rfl, _⟩ |
    ⟨ks, r1, v, r2, path, key, v', new0, hk, _, hv, hsl, hv', hkvs', hrest⟩
  · have : new = [] := List.self_eq_append_right.1 (e.symm.trans hkvs)
    subst this
    exact ⟨Nat.le_refl _, by simp [pairsSpans]; exact AllW.nil _ _, trivial⟩
  · have : new = (path, key, v') :: new0 := List.append_cancel_left (hkvs.symm.trans hkvs')
    subst this
    obtain ⟨l0, hks⟩ := ckeyPath_spans _ _ _ _ hk
    simp only [List.length_cons] at l0
    have l1' := (Suffix03.dropWs_suffix r1).length_le
    obtain ⟨l2, hdec, hvsp, hvn⟩ := ih1 _ _ _ _ hv
    have l3 := (Suffix03.dropWs_suffix r2).length_le
    have hel : AllW (pos n s) (pos n (dropWs r2)) (valSpans v') := by
      rw [hv']
      refine valSpans_setDecor_allW v _ hdec (hvsp.mono_pos (by omega) l3) ?_
      rw [decorSp_new]
      exact AllW.append (rb_allW _ _ _ _ _ (by omega) l1' (by omega))
        (rb_allW _ _ _ _ _ (by omega) l3 (Nat.le_refl _))
    have hn' : NestV v' := by rw [hv', NestV_setDecor]; exact hvn
    rw [Tiling03More.vsplitLast_some _ _ _ hsl, keysSpans_append, keysSpans_single] at hks
    have hpair : AllW (pos n s) (pos n (dropWs r2)) (pairsSpans [(path, key, v')]) := by
      simp only [pairsSpans, List.append_nil]
      exact AllW.append (hks.mono_pos (Nat.le_refl _) (by simp only [List.length_cons]; omega)) hel
    rcases hrest with ⟨rfl, rfl, _⟩ | ⟨_, r4, heq, hrec⟩
    · exact ⟨by omega, hpair, ⟨hn', trivial⟩⟩
    · obtain ⟨l5, hsp', hnn'⟩ := ih4 _ _ _ _ _ new0 hrec (by rw [hkvs', List.append_assoc]; rfl)
      have l4 : (dropWs r2).length = r4.length + 1 := by rw [heq]; simp
      refine ⟨by omega, ?_, ⟨hn', hnn'⟩⟩
      rw [show (path, key, v') :: new0 = [(path, key, v')] ++ new0 from rfl, pairsSpans_append]
      exact AllW.append (hpair.mono_pos (Nat.le_refl _) (by omega))
        (hsp'.mono_pos (by omega) (Nat.le_refl _))

theorem vmain (n : Nat) : ∀ fuel : Nat, V1 n fuel ∧ V2 n fuel ∧ V3 n fuel ∧ V4 n fuel :=
  fuel_induct4
    ⟨fun d s v r h => (by rw [cvalue_zero] at h; cases h),
     fun d s vs comma tr r h => (by rw [carrayValues_zero] at h; cases h),
     fun d s acc vs r new h => (by rw [carrayElems_zero] at h; cases h),
     fun d s acc kvs r new h => (by rw [cinlineKeyvals_zero] at h; cases h)⟩
    (vstep1 n) (fun f => vstep2 n f) (vstep3 n) (vstep4 n)

theorem cvalue_spans (n fuel d : Nat) (s r : Bytes) (v : CVal) (h : cvalue n fuel d s = .ok v r) :
    r.length < s.length ∧ v.decor = emptyDecor ∧ AllW (pos n s) (pos n r) (valSpans v) ∧ NestV v :=
  (vmain n fuel).1 d s v r h

end TomlVerif.Lemmas.Spans14
