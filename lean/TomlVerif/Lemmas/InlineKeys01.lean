import TomlVerif.Lemmas.AstValueQ01
import TomlVerif.Lemmas.ValueParse
import TomlVerif.Lemmas.AList
/-! Inline tables with dotted keys: the entries can be assembled (`tableFromPairs` succeeds) exactly
    when no full key is a prefix of (or equal to) another. `insert_spec` says what one insertion does to the
    full keys (`leafKeys`) of a table that satisfies `Inv`, in the case of success and of failure;
    `tableFromPairs_spec` is its iteration over the entries. -/
namespace TomlVerif.Lemmas.InlineKeys01
open TomlVerif TomlVerif.Model TomlVerif.Model.Value
open TomlVerif.Lemmas.ValueParse (value_ok)

mutual
/-- full keys defined below key `k` holding value `v`: an implicit table (made by a dotted key) contributes
    the keys inside it, anything else is a definition of `k` itself -/
def leafKeysV (k : Bytes) : Val → List (List Bytes)
  | .inl sub imp _ => if imp then (leafKeys sub).map (k :: ·) else [[k]]
  | .str _ => [[k]]
  | .int _ => [[k]]
  | .float _ => [[k]]
  | .bool _ => [[k]]
  | .dt _ => [[k]]
  | .arr _ => [[k]]
def leafKeys : List (Bytes × Val) → List (List Bytes)
  | [] => []
  | (k, v) :: r => leafKeysV k v ++ leafKeys r
end

mutual
def GoodV : Val → Prop
  | .inl sub imp dot => imp = true → dot = true ∧ leafKeys sub ≠ [] ∧ GoodL sub
  | .str _ => True
  | .int _ => True
  | .float _ => True
  | .bool _ => True
  | .dt _ => True
  | .arr _ => True
def GoodL : List (Bytes × Val) → Prop
  | [] => True
  | (_, v) :: r => GoodV v ∧ GoodL r
end

def NotImplicit (v : Val) : Prop := ∀ sub d, v ≠ .inl sub true d

theorem leafKeysV_notImplicit (k : Bytes) (v : Val) (h : NotImplicit v) : leafKeysV k v = [[k]] := by
  cases v with
  | inl sub imp d =>
    cases imp with
    | true => exact absurd rfl (h sub d)
    | false => simp [leafKeysV]
  | _ => simp [leafKeysV]

theorem goodV_notImplicit (v : Val) (h : NotImplicit v) : GoodV v := by
  cases v with
  | inl sub imp d =>
    cases imp with
    | true => exact absurd rfl (h sub d)
    | false => simp [GoodV]
  | _ => simp [GoodV]

theorem leafKeys_append (a b : List (Bytes × Val)) : leafKeys (a ++ b) = leafKeys a ++ leafKeys b := by
  induction a with
  | nil => rfl
  | cons x a ih => obtain ⟨k, v⟩ := x; simp [leafKeys, ih]

theorem goodL_append (a b : List (Bytes × Val)) : GoodL (a ++ b) ↔ GoodL a ∧ GoodL b := by
  induction a with
  | nil => simp [GoodL]
  | cons x a ih => obtain ⟨k, v⟩ := x; simp [GoodL, ih, and_assoc]

theorem leafKeys_below (k : Bytes) {L L' : List (List Bytes)} {q : List Bytes}
    (h : ∀ p, p ∈ L' ↔ p ∈ L ∨ p = q) (p : List Bytes) :
    p ∈ L'.map (k :: ·) ↔ p ∈ L.map (k :: ·) ∨ p = k :: q := by
  simp only [List.mem_map, h]
  constructor
  · rintro ⟨a, ha | rfl, rfl⟩
    · exact .inl ⟨a, ha, rfl⟩
    · exact .inr rfl
  · rintro (⟨a, ha, rfl⟩ | rfl)
    · exact ⟨a, .inl ha, rfl⟩
    · exact ⟨q, .inr rfl, rfl⟩

theorem goodV_implicit {sub sub' : List (Bytes × Val)} {dot : Bool} {q : List Bytes} (hd : dot = true)
    (hg : GoodL sub') (h : ∀ p, p ∈ leafKeys sub' ↔ p ∈ leafKeys sub ∨ p = q) : GoodV (.inl sub' true dot) := by
  unfold GoodV
  refine fun _ => ⟨hd, fun he => ?_, hg⟩
  have := (h q).2 (.inr rfl)
  rw [he] at this; cases this

theorem leafKeys_of_alookup {k : Bytes} {v0 : Val} {items : List (Bytes × Val)} (hg : GoodL items)
    (hl : alookup k items = some v0) : ∃ p', k :: p' ∈ leafKeys items := by
  obtain ⟨before, after, e, _⟩ := State09.alookup_split k v0 items hl
  have hgv : GoodV v0 := by rw [e, goodL_append] at hg; exact hg.2.1
  have hsub : ∀ p ∈ leafKeysV k v0, p ∈ leafKeys items := by
    intro p hp; rw [e, leafKeys_append]; simp [leafKeys, hp]
  cases v0 with
  | inl sub imp d =>
    cases imp with
    | false => exact ⟨[], hsub _ (by simp [leafKeysV])⟩
    | true =>
      cases hs : leafKeys sub with
      | nil => exact absurd hs (hgv rfl).2.1
      | cons p' r => exact ⟨p', hsub _ (by simp [leafKeysV, hs])⟩
  | _ => exact ⟨[], hsub _ (by simp [leafKeysV])⟩

mutual
/-- the keys of every table reachable through implicit tables are distinct -/
def DistV : Val → Prop
  | .inl sub imp _ => imp = true → DistL sub
  | .str _ => True
  | .int _ => True
  | .float _ => True
  | .bool _ => True
  | .dt _ => True
  | .arr _ => True
def DistL : List (Bytes × Val) → Prop
  | [] => True
  | (k, v) :: r => k ∉ r.map Prod.fst ∧ DistV v ∧ DistL r
end

theorem distV_notImplicit (v : Val) (h : NotImplicit v) : DistV v := by
  cases v with
  | inl sub imp d =>
    cases imp with
    | true => exact absurd rfl (h sub d)
    | false => simp [DistV]
  | _ => simp [DistV]

theorem distL_append (a b : List (Bytes × Val)) :
    DistL (a ++ b) ↔ DistL a ∧ DistL b ∧ ∀ k ∈ a.map Prod.fst, k ∉ b.map Prod.fst := by
  induction a with
  | nil => simp [DistL]
  | cons x a ih =>
    obtain ⟨k, v⟩ := x
    simp only [List.cons_append, DistL, ih, List.map_append, List.mem_append, List.map_cons, List.mem_cons]
    constructor
    · rintro ⟨h1, h2, h3, h4, h5⟩
      refine ⟨⟨fun h => h1 (Or.inl h), h2, h3⟩, h4, ?_⟩
      rintro k' (rfl | hk')
      · exact fun h => h1 (Or.inr h)
      · exact h5 k' hk'
    · rintro ⟨⟨h1, h2, h3⟩, h4, h5⟩
      refine ⟨?_, h2, h3, h4, fun k' hk' => h5 k' (Or.inr hk')⟩
      rintro (h | h)
      · exact h1 h
      · exact h5 k (Or.inl rfl) h

theorem leafKeysV_head (k : Bytes) (v : Val) (p : List Bytes) (h : p ∈ leafKeysV k v) : ∃ p', p = k :: p' := by
  cases v with
  | inl sub imp d =>
    cases imp with
    | true => simp [leafKeysV] at h; obtain ⟨a, _, rfl⟩ := h; exact ⟨a, rfl⟩
    | false => simp [leafKeysV] at h; exact ⟨[], h⟩
  | _ => simp [leafKeysV] at h; exact ⟨[], h⟩

theorem leafKeys_mem (p : List Bytes) : ∀ items : List (Bytes × Val),
    p ∈ leafKeys items ↔ ∃ k v, (k, v) ∈ items ∧ p ∈ leafKeysV k v := by
  intro items
  induction items with
  | nil => simp [leafKeys]
  | cons x items ih =>
    obtain ⟨k, v⟩ := x
    simp only [leafKeys, List.mem_append, ih, List.mem_cons]
    constructor
    · rintro (h | ⟨k', v', hm, hp⟩)
      · exact ⟨k, v, Or.inl rfl, h⟩
      · exact ⟨k', v', Or.inr hm, hp⟩
    · rintro ⟨k', v', (h | hm), hp⟩
      · injection h with h1 h2; subst h1; subst h2; exact Or.inl hp
      · exact Or.inr ⟨k', v', hm, hp⟩

/-- neither full key is a prefix of the other (in particular they differ) -/
def Incomp (p q : List Bytes) : Prop := ¬ p <+: q ∧ ¬ q <+: p

def fullKey (e : List Bytes × Bytes × Val) : List Bytes := e.1 ++ [e.2.1]

/-- what the tables built so far satisfy: every implicit table was made by a dotted key and is not empty
    (`GoodL`; not empty, so that a key running into it is a prefix of a defined key), and keys are distinct at every
    level (`DistL`: `alookup` then finds the one entry of a key) -/
def Inv (items : List (Bytes × Val)) : Prop := GoodL items ∧ DistL items

theorem inv_nil : Inv [] := ⟨by simp [GoodL], by simp [DistL]⟩

theorem incomp_head {k0 k : Bytes} (p q : List Bytes) (h : k0 ≠ k) : Incomp (k0 :: p) (k :: q) :=
  ⟨fun hp => h (List.cons_prefix_cons.1 hp).1, fun hp => h (List.cons_prefix_cons.1 hp).1.symm⟩

theorem incomp_cons {k : Bytes} {p q : List Bytes} : Incomp (k :: p) (k :: q) ↔ Incomp p q := by
  simp [Incomp, List.cons_prefix_cons]

theorem leafKeys_head {p : List Bytes} {items : List (Bytes × Val)} (h : p ∈ leafKeys items) :
    ∃ k0 p', p = k0 :: p' ∧ k0 ∈ items.map Prod.fst := by
  obtain ⟨k0, v0, hm, hpv⟩ := (leafKeys_mem p items).1 h
  obtain ⟨p', rfl⟩ := leafKeysV_head k0 v0 p hpv
  exact ⟨k0, p', rfl, List.mem_map.2 ⟨(k0, v0), hm, rfl⟩⟩

theorem free_of_fresh {k : Bytes} {items : List (Bytes × Val)} (q : List Bytes) (hk : k ∉ items.map Prod.fst) :
    ∀ p ∈ leafKeys items, Incomp p (k :: q) := by
  intro p hp
  obtain ⟨k0, p', rfl, hk0⟩ := leafKeys_head hp
  exact incomp_head p' q (fun e => hk (e ▸ hk0))

/-- `pe` is `isEmpty` of the entry's whole path (`tableFromPairs` passes it and the recursion keeps it, so it is
    `false` while `path` is not exhausted) and `dot` says whether the table reached was made by a dotted key; where
    the path ends `inlInsert` refuses `dot = pe` (`mixed_table_types`), so the hypotheses say that this check passes. -/
theorem insert_spec : ∀ (path : List Bytes) (items : List (Bytes × Val)) (dot pe : Bool) (key : Bytes) (v : Val),
    Inv items → NotImplicit v → (path = [] → dot ≠ pe) → (path ≠ [] → pe = false) →
    match inlInsert items dot path pe key v with
    | some items' => (∀ p ∈ leafKeys items, Incomp p (path ++ [key])) ∧ Inv items' ∧
        ∀ p, p ∈ leafKeys items' ↔ p ∈ leafKeys items ∨ p = path ++ [key]
    | none => ∃ p ∈ leafKeys items, ¬ Incomp p (path ++ [key]) := by
  intro path
  induction path with
  | nil =>
    intro items dot pe key v hi hv hd _
    have hne : (dot == pe) = false := by
      have := hd rfl
      cases dot <;> cases pe <;> simp_all
    cases hl : alookup key items with
    | some v0 =>
      have e : inlInsert items dot [] pe key v = none := by simp [inlInsert, hne, hl]
      rw [e]
      obtain ⟨p', hp'⟩ := leafKeys_of_alookup hi.1 hl
      exact ⟨key :: p', hp', fun h => h.2 (by simp)⟩
    | none =>
      have e : inlInsert items dot [] pe key v = some (items ++ [(key, v)]) := by simp [inlInsert, hne, hl]
      have hk := (State09.alookup_none_iff _ items).1 hl
      rw [e]
      refine ⟨free_of_fresh [] hk, ⟨?_, ?_⟩, ?_⟩
      · rw [goodL_append]; exact ⟨hi.1, by simp [GoodL, goodV_notImplicit v hv]⟩
      · rw [distL_append]
        refine ⟨hi.2, by simp [DistL, distV_notImplicit v hv], ?_⟩
        intro k hk1 hk2
        simp at hk2; subst hk2; exact hk hk1
      · intro p
        simp [leafKeys_append, leafKeys, leafKeysV_notImplicit key v hv]
  | cons k ks ih =>
    intro items dot pe key v hi hv _ hpe
    have hpe' : pe = false := hpe (by simp)
    have hd' : ∀ (dot' : Bool), dot' = true → ks = [] → dot' ≠ pe := by
      intro dot' h1 _; rw [h1, hpe']; decide
    have hpe'' : ks ≠ [] → pe = false := fun _ => hpe'
    cases hl : alookup k items with
    | none =>
      have hk := (State09.alookup_none_iff _ items).1 hl
      have ih0 := ih [] true pe key v inv_nil hv (hd' true rfl) hpe''
      cases hs : inlInsert [] true ks pe key v with
      | none => rw [hs] at ih0; obtain ⟨p, hp, _⟩ := ih0; simp [leafKeys] at hp
      | some sub =>
        rw [hs] at ih0
        obtain ⟨_, hisub, hks⟩ := ih0
        have e : inlInsert items dot (k :: ks) pe key v = some (items ++ [(k, .inl sub true true)]) := by
          simp [inlInsert, hl, hs]
        rw [e]
        refine ⟨free_of_fresh _ hk, ⟨?_, ?_⟩, ?_⟩
        · rw [goodL_append]
          exact ⟨hi.1, goodV_implicit rfl hisub.1 hks, trivial⟩
        · rw [distL_append]
          refine ⟨hi.2, ?_, ?_⟩
          · simp only [DistL, List.map_nil, List.not_mem_nil, not_false_eq_true, and_true, true_and]
            show DistV (.inl sub true true)
            unfold DistV; exact fun _ => hisub.2
          · intro k' hk1 hk2
            simp at hk2; subst hk2; exact hk hk1
        · intro p
          simp only [leafKeys_append, leafKeys, leafKeysV, if_true, List.append_nil, List.mem_append,
            leafKeys_below k hks p]
          simp
    | some v0 =>
      obtain ⟨before, after, e, hrep⟩ := State09.alookup_split k v0 items hl
      have hg := hi.1
      have hd := hi.2
      rw [e, goodL_append] at hg
      rw [e, distL_append] at hd
      obtain ⟨hdb, hda, hdba⟩ := hd
      rw [DistL] at hda
      have hkb : k ∉ before.map Prod.fst := fun h => hdba k h (by simp)
      have hsub : ∀ p ∈ leafKeysV k v0, p ∈ leafKeys items := by
        intro p hp; rw [e, leafKeys_append]; simp [leafKeys, hp]
      -- an entry that is not an implicit table defines `[k]`, a prefix of the new key
      have leaf : leafKeysV k v0 = [[k]] → inlInsert items dot (k :: ks) pe key v = none →
          match inlInsert items dot (k :: ks) pe key v with
          | some items' => (∀ p ∈ leafKeys items, Incomp p (k :: ks ++ [key])) ∧ Inv items' ∧
              ∀ p, p ∈ leafKeys items' ↔ p ∈ leafKeys items ∨ p = k :: ks ++ [key]
          | none => ∃ p ∈ leafKeys items, ¬ Incomp p (k :: ks ++ [key]) := by
        intro hlf hn
        rw [hn]
        exact ⟨[k], hsub _ (by simp [hlf]), fun h => h.1 (by simp [List.cons_prefix_cons])⟩
      cases v0 with
      | inl sub imp d =>
        cases imp with
        | false => exact leaf (by simp [leafKeysV]) (by simp [inlInsert, hl])
        | true =>
          obtain ⟨hdt, _, hgsub⟩ := hg.2.1 rfl
          have ihs := ih sub d pe key v ⟨hgsub, hda.2.1 rfl⟩ hv (hd' d hdt) hpe''
          cases hs : inlInsert sub d ks pe key v with
          | none =>
            rw [hs] at ihs
            obtain ⟨p', hp', hn⟩ := ihs
            have en : inlInsert items dot (k :: ks) pe key v = none := by simp [inlInsert, hl, hs]
            rw [en]
            exact ⟨k :: p', hsub _ (by simp [leafKeysV, hp']), fun h => hn (incomp_cons.1 h)⟩
          | some sub' =>
            rw [hs] at ihs
            obtain ⟨hfree, hisub, hks⟩ := ihs
            have es : inlInsert items dot (k :: ks) pe key v = some (areplace k (.inl sub' true d) items) := by
              simp [inlInsert, hl, hs]
            rw [es, hrep]
            refine ⟨?_, ⟨?_, ?_⟩, ?_⟩
            · intro p hp
              rw [e, leafKeys_append, List.mem_append] at hp
              rcases hp with hp | hp
              · exact free_of_fresh _ hkb p hp
              · simp only [leafKeys, leafKeysV, if_true, List.mem_append, List.mem_map] at hp
                rcases hp with ⟨p', hp', rfl⟩ | hp
                · exact incomp_cons.2 (hfree p' hp')
                · exact free_of_fresh _ hda.1 p hp
            · rw [goodL_append]
              exact ⟨hg.1, goodV_implicit hdt hisub.1 hks, hg.2.2⟩
            · rw [distL_append]
              refine ⟨hdb, ?_, by simpa using hdba⟩
              rw [DistL]
              refine ⟨hda.1, ?_, hda.2.2⟩
              unfold DistV; exact fun _ => hisub.2
            · intro p
              rw [e]
              simp only [leafKeys_append, leafKeys, leafKeysV, if_true, List.mem_append, leafKeys_below k hks p,
                List.cons_append]
              simp only [or_comm, or_left_comm]
      | _ => exact leaf (by simp [leafKeysV]) (by simp [inlInsert, hl])

theorem tableFromPairs_spec : ∀ (l : List (List Bytes × Bytes × Val)) (acc : List (Bytes × Val)),
    Inv acc → (∀ e ∈ l, NotImplicit e.2.2) →
    ((tableFromPairs l acc).isSome = true ↔
      (l.map fullKey).Pairwise Incomp ∧ ∀ e ∈ l, ∀ p ∈ leafKeys acc, Incomp p (fullKey e)) ∧
    ∀ items, tableFromPairs l acc = some items →
      Inv items ∧ ∀ p, p ∈ leafKeys items ↔ p ∈ leafKeys acc ∨ p ∈ l.map fullKey := by
  intro l
  induction l with
  | nil => intro acc hi _; exact ⟨by simp [tableFromPairs], fun items h => by cases h; exact ⟨hi, by simp⟩⟩
  | cons e l ih =>
    obtain ⟨path, key, v⟩ := e
    intro acc hi hv
    have hs := insert_spec path acc false path.isEmpty key v hi (hv (path, key, v) (by simp))
      (by intro h; subst h; simp) (by intro h; cases path with | nil => exact absurd rfl h | cons a b => rfl)
    unfold tableFromPairs
    cases hins : inlInsert acc false path path.isEmpty key v with
    | none =>
      rw [hins] at hs
      obtain ⟨p, hp, hn⟩ := hs
      refine ⟨⟨fun h => (by cases h), fun h => absurd (h.2 (path, key, v) (by simp) p hp) hn⟩, fun items h => (by cases h)⟩
    | some acc' =>
      rw [hins] at hs
      obtain ⟨hfree, hi', hk'⟩ := hs
      obtain ⟨ih1, ih2⟩ := ih acc' hi' (fun e he => hv e (by simp [he]))
      simp only []
      refine ⟨?_, ?_⟩
      · rw [ih1]
        simp only [List.map_cons, List.pairwise_cons, List.mem_cons, forall_eq_or_imp]
        constructor
        · rintro ⟨hpw, hall⟩
          refine ⟨⟨?_, hpw⟩, hfree, fun e he p hp => hall e he p ((hk' p).2 (Or.inl hp))⟩
          intro q hq
          obtain ⟨e, he, rfl⟩ := List.mem_map.1 hq
          exact hall e he _ ((hk' _).2 (Or.inr rfl))
        · rintro ⟨⟨h1, hpw⟩, _, hall⟩
          refine ⟨hpw, fun e he p hp => ?_⟩
          rcases (hk' p).1 hp with h | h
          · exact hall e he p h
          · rw [h]; exact h1 _ (List.mem_map.2 ⟨e, he, rfl⟩)
      · intro items h
        obtain ⟨hi'', hk''⟩ := ih2 items h
        refine ⟨hi'', fun p => ?_⟩
        rw [hk'' p, hk' p]
        simp [fullKey, or_assoc]

theorem tableFromPairs_ok (l : List (List Bytes × Bytes × Val)) (acc : List (Bytes × Val)) (hi : Inv acc)
    (hv : ∀ e ∈ l, NotImplicit e.2.2) (hpw : (l.map fullKey).Pairwise Incomp)
    (hacc : ∀ e ∈ l, ∀ p ∈ leafKeys acc, Incomp p (fullKey e)) :
    ∃ items, tableFromPairs l acc = some items ∧ Inv items ∧
      ∀ p, p ∈ leafKeys items ↔ p ∈ leafKeys acc ∨ p ∈ l.map fullKey := by
  obtain ⟨h1, h2⟩ := tableFromPairs_spec l acc hi hv
  obtain ⟨items, h⟩ := Option.isSome_iff_exists.1 (h1.2 ⟨hpw, hacc⟩)
  exact ⟨items, h, h2 items h⟩

theorem tableFromPairs_iff (l : List (List Bytes × Bytes × Val)) (hv : ∀ e ∈ l, NotImplicit e.2.2) :
    (tableFromPairs l []).isSome = true ↔ (l.map fullKey).Pairwise Incomp := by
  rw [(tableFromPairs_spec l [] inv_nil hv).1]
  simp [leafKeys]

open TomlVerif.Spec TomlVerif.Spec.AstValue

theorem value_notImplicit (fuel d : Nat) (s : Bytes) (v : Val) (rest : Bytes) (h : value fuel d s = .ok v rest) :
    NotImplicit v := by
  cases fuel with
  | zero => simp [value] at h
  | succ f =>
    intro sub dd he
    subst he
    cases value_ok h with
    | scalar hs => cases hs

theorem splitKeys_append : ∀ (ks : List Bytes) (k : Bytes), (splitKeys k ks).1 ++ [(splitKeys k ks).2] = k :: ks := by
  intro ks
  induction ks with
  | nil => intro k; rfl
  | cons k' ks ih => intro k; simp [splitKeys, ih k']

section
open TomlVerif.Spec.AstValueQ

theorem semQ_notImplicit : ∀ a : QVal, WFQ a → NotImplicit (semQ a)
  | .scalar t, h => by
    have := (wfQ_scalar.1 h).2 1 0 [] (by decide) ⟨trivial, by intro b r e; cases e⟩
    exact value_notImplicit _ _ _ _ _ this
  | .arr items tc tail, _ => by intro sub d e; simp [semQ] at e
  | .inl items tail, _ => by intro sub d e; simp [semQ] at e

theorem flatPairsQ_notImplicit : ∀ l : List (QDKey × Bytes × QVal × Bytes), WFPairsQ l →
    ∀ e ∈ flatPairsQ l, NotImplicit e.2.2
  | [], _ => by intro e he; simp [flatPairsQ] at he
  | (k, w1, v, w2) :: l, h => by
    obtain ⟨_, _, hv, _, hl⟩ := wfPairsQ_cons.1 h
    intro e he
    simp only [flatPairsQ, List.mem_cons] at he
    rcases he with rfl | he
    · exact semQ_notImplicit v hv
    · exact flatPairsQ_notImplicit l hl e he

theorem flatPairsQ_fullKeys (l : List (QDKey × Bytes × QVal × Bytes)) :
    (flatPairsQ l).map fullKey = l.map fun i => i.1.keys := by
  induction l with
  | nil => rfl
  | cons x l ih =>
    obtain ⟨k, a, v, b⟩ := x
    simp [flatPairsQ, fullKey, ih, QDKey.path, QDKey.last, QDKey.keys, splitKeys_append]

theorem inlQ_assembles_iff (l : List (QDKey × Bytes × QVal × Bytes)) (hwf : WFPairsQ l) :
    (tableFromPairs (flatPairsQ l) []).isSome = true ↔ (l.map fun i => i.1.keys).Pairwise Incomp := by
  rw [tableFromPairs_iff (flatPairsQ l) (flatPairsQ_notImplicit l hwf), flatPairsQ_fullKeys]

theorem ofPairs_keys : ∀ l : List (DKey × Bytes × AVal × Bytes),
    ((ofPairs l).map fun i => i.1.keys) = l.map fun i => i.1.keys
  | [] => rfl
  | (k, w1, v, w2) :: r => by simp [ofPairs, ofDKey_keys, ofPairs_keys r]

theorem inl_assembles_iff (l : List (DKey × Bytes × AVal × Bytes)) (hwf : WFPairs l) :
    (tableFromPairs (flatPairs l) []).isSome = true ↔ (l.map fun i => i.1.keys).Pairwise Incomp := by
  rw [← ofPairs_sem, ← ofPairs_keys]
  exact inlQ_assembles_iff (ofPairs l) (ofPairs_wf l hwf)

end

theorem inl_assembles (l : List (DKey × Bytes × AVal × Bytes)) (hwf : WFPairs l)
    (hfree : (l.map fun i => i.1.keys).Pairwise Incomp) : (tableFromPairs (flatPairs l) []).isSome = true :=
  (inl_assembles_iff l hwf).2 hfree

end TomlVerif.Lemmas.InlineKeys01
