import TomlVerif.Lemmas.Frame08
import TomlVerif.Lemmas.CstInduct
/-! The line of a key/value entry inside the document print: `visit_nested_tables` reaches every
    table a path of keys / indices leads to, lists the ones that are not dotted, the stable sort keeps
    them, `visit_table` prints the body of each with one line per key/value pair. So the line of an
    entry stored directly in a non-dotted table (the root, a `[header]` table, an element of an array
    of tables) whose value is not a dotted inline table (`notDottedInl`) is a contiguous piece of
    `to_string()`; and a path update that leaves the entry alone keeps
    its table a table with the same `dotted` flag (`KeepsTbl`), so the line stays in the print. -/
namespace TomlVerif.Lemmas.Refine08c
open TomlVerif TomlVerif.Model TomlVerif.Model.Cst TomlVerif.Model.Edit TomlVerif.Model.Encode
open TomlVerif.Lemmas.Edit08 TomlVerif.Lemmas.Refine08bFrame
open TomlVerif.Lemmas.Tiling03More (items_induct)

theorem lookupVals_not_tbl :
    (∀ p v n, lookupVal p v = some n → ∀ T, n ≠ .tbl T) ∧
    (∀ k q l n, lookupKvs k q l = some n → ∀ T, n ≠ .tbl T) ∧
    (∀ i q l n, lookupElems i q l = some n → ∀ T, n ≠ .tbl T) := by
  refine lookupVal_rel ?here ?arr ?inl ?zero ?succ ?hit ?miss
  case here => intro v T h; cases h
  case arr => intro s r i items tr c d sp n _ ih; exact ih
  case inl => intro s r k items pre imp dot d sp n _ ih; exact ih
  case zero => intro r v rest n ih; exact ih
  case succ => intro i r v rest n ih; exact ih
  case hit => intro k r k' v rest n _ ih; exact ih
  case miss => intro k r k' v rest n _ ih; exact ih

theorem lookupVal_not_tbl : ∀ (p : List Seg) (v : CVal) (T : CTbl), lookupVal p v ≠ some (.tbl T) :=
  fun p v T h => lookupVals_not_tbl.1 p v _ h T rfl

theorem lookupElems_not_tbl : ∀ (i : Nat) (q : List Seg) (items : List CVal) (T : CTbl),
    lookupElems i q items ≠ some (.tbl T) :=
  fun i q l T h => lookupVals_not_tbl.2.2 i q l _ h T rfl

theorem lookupKvs_not_tbl (k : Bytes) : ∀ (q : List Seg) (items : List (CKey × CVal)) (T : CTbl),
    lookupKvs k q items ≠ some (.tbl T) :=
  fun q l T h => lookupVals_not_tbl.2.1 k q l _ h T rfl

theorem lookupKItems_nil_mem (kk : Bytes) : ∀ (items : List (CKey × CItem)) (k : CKey) (v : CVal),
    lookupKItems kk [] items = some (some k, .val v) → (k, .value v) ∈ items
  | [], _, _, h => by simp [lookupKItems] at h
  | (k', it) :: rest, k, v, h => by
    simp only [lookupKItems] at h
    split at h
    · cases it with
      | value v0 =>
        simp only [lookupKItem, lookupKVal, Option.some.injEq, Prod.mk.injEq, Node.val.injEq] at h
        obtain ⟨rfl, rfl⟩ := h
        exact List.mem_cons_self
      | table t => simp [lookupKItem, lookupKTbl] at h
      | aot ts sp => simp [lookupKItem] at h
    · exact List.mem_cons_of_mem _ (lookupKItems_nil_mem kk rest k v h)

theorem emem_tbls :
    (∀ p t n, lookupTbl p t = some n → ∀ T, n = .tbl T → ∀ ck s k v,
      lookupKTbl ck (p ++ [s]) t = some (some k, .val v) → (k, CItem.value v) ∈ T.items) ∧
    (∀ kk q l n, lookupItems kk q l = some n → ∀ T, n = .tbl T → ∀ s k v,
      lookupKItems kk (q ++ [s]) l = some (some k, .val v) → (k, CItem.value v) ∈ T.items) ∧
    (∀ q it n, lookupItem q it = some n → ∀ T, n = .tbl T → ∀ ck s k v,
      lookupKItem ck (q ++ [s]) it = some (some k, .val v) → (k, CItem.value v) ∈ T.items) ∧
    (∀ i q l n, lookupNth i q l = some n → ∀ T, n = .tbl T → ∀ s k v,
      lookupKNth i (q ++ [s]) l = some (some k, .val v) → (k, CItem.value v) ∈ T.items) := by
  refine lookupTbl_rel ?here ?mk ?value ?table ?aotHere ?aot ?zero ?succ ?hit ?miss
  case here =>
    intro t T hn ck s k v h2
    cases hn
    cases t with
    | mk items _ _ _ _ _ =>
      simp only [List.nil_append, lookupKTbl] at h2
      cases hi : s.key with
      | none => simp [hi] at h2
      | some kk =>
        simp only [hi] at h2
        exact lookupKItems_nil_mem kk items k v h2
  case mk =>
    intro a q kk items imp dot p dec sp n hi ih T hn ck s k v h2
    simp only [List.cons_append, lookupKTbl, hi] at h2
    exact ih T hn s k v h2
  case value => intro q v0 n h T hn; exact absurd (hn ▸ h) (lookupVal_not_tbl q v0 T)
  case table =>
    intro q t n ih T hn ck s k v h2
    simp only [lookupKItem] at h2
    exact ih T hn ck s k v h2
  case aotHere => intro ts sp T hn; cases hn
  case aot =>
    intro a q i ts sp n hi ih T hn ck s k v h2
    simp only [List.cons_append, lookupKItem, hi] at h2
    exact ih T hn s k v h2
  case zero =>
    intro q t rest n ih T hn s k v h2
    simp only [lookupKNth] at h2
    exact ih T hn none s k v h2
  case succ =>
    intro i q t rest n ih T hn s k v h2
    simp only [lookupKNth] at h2
    exact ih T hn s k v h2
  case hit =>
    intro kk q k' it rest n hk ih T hn s k v h2
    simp only [lookupKItems, hk, if_true] at h2
    exact ih T hn (some k') s k v h2
  case miss =>
    intro kk q k' it rest n hk ih T hn s k v h2
    simp only [lookupKItems, hk, Bool.false_eq_true, if_false] at h2
    exact ih T hn s k v h2

theorem emem_tbl : ∀ (ck : Option CKey) (p : List Seg) (s : Seg) (t T : CTbl) (k : CKey) (v : CVal),
    lookupTbl p t = some (.tbl T) → lookupKTbl ck (p ++ [s]) t = some (some k, .val v) → (k, .value v) ∈ T.items :=
  fun ck p s t T k v h1 => emem_tbls.1 p t _ h1 T rfl ck s k v

theorem emem_items (kk : Bytes) : ∀ (q : List Seg) (s : Seg) (items : List (CKey × CItem)) (T : CTbl) (k : CKey)
    (v : CVal), lookupItems kk q items = some (.tbl T) → lookupKItems kk (q ++ [s]) items = some (some k, .val v) →
    (k, .value v) ∈ T.items :=
  fun q s l T k v h1 => emem_tbls.2.1 kk q l _ h1 T rfl s k v

theorem emem_item : ∀ (ck : Option CKey) (q : List Seg) (s : Seg) (it : CItem) (T : CTbl) (k : CKey) (v : CVal),
    lookupItem q it = some (.tbl T) → lookupKItem ck (q ++ [s]) it = some (some k, .val v) → (k, .value v) ∈ T.items :=
  fun ck q s it T k v h1 => emem_tbls.2.2.1 q it _ h1 T rfl ck s k v

theorem emem_nth : ∀ (i : Nat) (q : List Seg) (s : Seg) (ts : List CTbl) (T : CTbl) (k : CKey) (v : CVal),
    lookupNth i q ts = some (.tbl T) → lookupKNth i (q ++ [s]) ts = some (some k, .val v) → (k, .value v) ∈ T.items :=
  fun i q s l T k v h1 => emem_tbls.2.2.2 i q l _ h1 T rfl s k v

theorem visit_mono :
    (∀ (items : List (CKey × CItem)) (path : List CKey) (st : Nat × List Entry),
      ∃ l, (visitItems items path st).2 = st.2 ++ l) ∧
    (∀ (t : CTbl) (path : List CKey) (isArr : Bool) (st : Nat × List Entry),
      ∃ l, (visitTbl t path isArr st).2 = st.2 ++ l) ∧
    (∀ (ts : List CTbl) (path : List CKey) (st : Nat × List Entry), ∃ l, (visitAot ts path st).2 = st.2 ++ l) := by
  refine items_induct ?_ ?_ ?_ ?_ ?_ ?_ ?_
  · exact fun _ st => ⟨[], by simp [visitItems]⟩
  · intro k v r hr path st; simp only [visitItems]; exact hr path st
  · intro k t r ht hr path st
    simp only [visitItems]
    obtain ⟨l1, h1⟩ := ht (path ++ [k]) false st
    obtain ⟨l2, h2⟩ := hr path (visitTbl t (path ++ [k]) false st)
    exact ⟨l1 ++ l2, by rw [h2, h1, List.append_assoc]⟩
  · intro k ts _ r hts hr path st
    simp only [visitItems]
    obtain ⟨l1, h1⟩ := hts (path ++ [k]) st
    obtain ⟨l2, h2⟩ := hr path (visitAot ts (path ++ [k]) st)
    exact ⟨l1 ++ l2, by rw [h2, h1, List.append_assoc]⟩
  · intro items imp dot p dec sp hi path isArr st
    simp only [visitTbl]
    split
    · exact hi path st
    · obtain ⟨l, hl⟩ := hi path (p.getD st.1, st.2 ++ [⟨p.getD st.1, .mk items imp dot p dec sp, path, isArr⟩])
      refine ⟨⟨p.getD st.1, .mk items imp dot p dec sp, path, isArr⟩ :: l, ?_⟩
      rw [hl]; simp
  · exact fun _ st => ⟨[], by simp [visitAot]⟩
  · intro t r ht hr path st
    simp only [visitAot]
    obtain ⟨l1, h1⟩ := ht path true st
    obtain ⟨l2, h2⟩ := hr path (visitTbl t path true st)
    exact ⟨l1 ++ l2, by rw [h2, h1, List.append_assoc]⟩

theorem mem_visitItems_of_mem {e : Entry} {st : Nat × List Entry} (items : List (CKey × CItem)) (path : List CKey)
    (h : e ∈ st.2) : e ∈ (visitItems items path st).2 := by
  obtain ⟨l, hl⟩ := visit_mono.1 items path st
  rw [hl]; exact List.mem_append_left _ h

theorem mem_visitAot_of_mem {e : Entry} {st : Nat × List Entry} (ts : List CTbl) (path : List CKey)
    (h : e ∈ st.2) : e ∈ (visitAot ts path st).2 := by
  obtain ⟨l, hl⟩ := visit_mono.2.2 ts path st
  rw [hl]; exact List.mem_append_left _ h

/- there is no `visitItem`: the item component speaks of `visitItems` of a list that starts with the item -/
theorem visit_tbls :
    (∀ p t n, lookupTbl p t = some n → ∀ T, n = .tbl T → T.dotted = false → ∀ path isArr st,
      ∃ e ∈ (visitTbl t path isArr st).2, e.tbl = T) ∧
    (∀ kk q l n, lookupItems kk q l = some n → ∀ T, n = .tbl T → T.dotted = false → ∀ path st,
      ∃ e ∈ (visitItems l path st).2, e.tbl = T) ∧
    (∀ q it n, lookupItem q it = some n → ∀ T, n = .tbl T → T.dotted = false → ∀ k' rest path st,
      ∃ e ∈ (visitItems ((k', it) :: rest) path st).2, e.tbl = T) ∧
    (∀ i q l n, lookupNth i q l = some n → ∀ T, n = .tbl T → T.dotted = false → ∀ path st,
      ∃ e ∈ (visitAot l path st).2, e.tbl = T) := by
  refine lookupTbl_rel ?here ?mk ?value ?table ?aotHere ?aot ?zero ?succ ?hit ?miss
  case here =>
    intro t T hn hd path isArr st
    cases hn
    cases t with
    | mk items imp dot p dec sp =>
      have hd' : dot = false := hd
      subst hd'
      simp only [visitTbl, Bool.false_eq_true, if_false]
      exact ⟨⟨p.getD st.1, .mk items imp false p dec sp, path, isArr⟩,
        mem_visitItems_of_mem items path (by simp), rfl⟩
  case mk =>
    intro a q kk items imp dot p dec sp n _ ih T hn hd path isArr st
    simp only [visitTbl]
    exact ih T hn hd path _
  case value => intro q v n h T hn; exact absurd (hn ▸ h) (lookupVal_not_tbl q v T)
  case table =>
    intro q t n ih T hn hd k' rest path st
    simp only [visitItems]
    obtain ⟨e, he, het⟩ := ih T hn hd (path ++ [k']) false st
    exact ⟨e, mem_visitItems_of_mem rest path he, het⟩
  case aotHere => intro ts sp T hn; cases hn
  case aot =>
    intro a q i ts sp n _ ih T hn hd k' rest path st
    simp only [visitItems]
    obtain ⟨e, he, het⟩ := ih T hn hd (path ++ [k']) st
    exact ⟨e, mem_visitItems_of_mem rest path he, het⟩
  case zero =>
    intro q t rest n ih T hn hd path st
    simp only [visitAot]
    obtain ⟨e, he, het⟩ := ih T hn hd path true st
    exact ⟨e, mem_visitAot_of_mem rest path he, het⟩
  case succ =>
    intro i q t rest n ih T hn hd path st
    simp only [visitAot]
    exact ih T hn hd path _
  case hit => intro kk q k' it rest n _ ih T hn hd path st; exact ih T hn hd k' rest path st
  case miss =>
    intro kk q k' it rest n _ ih T hn hd path st
    cases it <;> simp only [visitItems] <;> exact ih T hn hd path _

theorem visit_tbl : ∀ (p : List Seg) (t T : CTbl) (path : List CKey) (isArr : Bool) (st : Nat × List Entry),
    lookupTbl p t = some (.tbl T) → T.dotted = false → ∃ e ∈ (visitTbl t path isArr st).2, e.tbl = T :=
  fun p t T path isArr st h hd => visit_tbls.1 p t _ h T rfl hd path isArr st

theorem visit_items (kk : Bytes) : ∀ (q : List Seg) (items : List (CKey × CItem)) (T : CTbl) (path : List CKey)
    (st : Nat × List Entry), lookupItems kk q items = some (.tbl T) → T.dotted = false →
    ∃ e ∈ (visitItems items path st).2, e.tbl = T :=
  fun q l T path st h hd => visit_tbls.2.1 kk q l _ h T rfl hd path st

theorem visit_nth : ∀ (i : Nat) (q : List Seg) (ts : List CTbl) (T : CTbl) (path : List CKey)
    (st : Nat × List Entry), lookupNth i q ts = some (.tbl T) → T.dotted = false →
    ∃ e ∈ (visitAot ts path st).2, e.tbl = T :=
  fun i q l T path st h hd => visit_tbls.2.2.2 i q l _ h T rfl hd path st

/-- not a dotted inline table (those print as `k.x = …` lines, not as one `k = {…}` line) -/
def notDottedInl : CVal → Bool
  | .inl _ _ _ dot _ _ => !dot
  | _ => true

theorem valuesTbl_mem : ∀ (items : List (CKey × CItem)) (parent : List CKey) (k : CKey) (v : CVal),
    (k, CItem.value v) ∈ items → notDottedInl v = true → (parent ++ [k], v) ∈ valuesTbl items parent
  | [], _, _, _, h, _ => by cases h
  | (k', it) :: r, parent, k, v, h, hv => by
    rcases List.mem_cons.1 h with h | h
    · injection h with h1 h2
      subst h1; subst h2
      unfold valuesTbl
      apply List.mem_append_left
      cases v with
      | inl sub pre imp dot dec sp =>
        have : dot = false := by simpa [notDottedInl] using hv
        subst this
        simp
      | scalar _ _ _ => simp
      | arr _ _ _ _ _ => simp
    · unfold valuesTbl
      exact List.mem_append_right _ (valuesTbl_mem r parent k v h hv)

theorem encodeBody_mem (f : Bytes → Bytes) (inp : Bytes) : ∀ (l : List (List CKey × CVal)) (kp : List CKey) (v : CVal),
    (kp, v) ∈ l →
    (encodeKeyPath f inp kp [] [0x20] ++ [0x3D] ++ encodeValue f inp v [0x20] [] ++ [0x0A]) <:+: encodeBody f inp l
  | [], _, _, h => by cases h
  | (kp', v') :: r, kp, v, h => by
    simp only [encodeBody]
    rcases List.mem_cons.1 h with h | h
    · injection h with h1 h2
      subst h1; subst h2
      exact ⟨[], encodeBody f inp r, by simp⟩
    · exact List.infix_append_of_infix_right (encodeBody_mem f inp r kp v h)

theorem visitTable_body (f : Bytes → Bytes) (inp : Bytes) (e : Entry) (ft : Bool) :
    encodeBody f inp (valuesTbl e.tbl.items []) <:+: (visitTable f inp e ft).1 := by
  simp only [visitTable]
  exact List.infix_append_of_infix_right (List.infix_refl _)

theorem visitTables_mem (f : Bytes → Bytes) (inp : Bytes) : ∀ (l : List Entry) (e : Entry) (ft : Bool), e ∈ l →
    encodeBody f inp (valuesTbl e.tbl.items []) <:+: visitTables f inp l ft
  | [], _, _, h => by cases h
  | x :: r, e, ft, h => by
    simp only [visitTables]
    rcases List.mem_cons.1 h with h | h
    · subst h
      exact List.infix_append_of_infix_left (visitTable_body f inp e ft)
    · exact List.infix_append_of_infix_right (visitTables_mem f inp r e _ h)

theorem line_in_print (f : Bytes → Bytes) (inp : Bytes) (d : CDoc) (p : List Seg) (T : CTbl) (k : CKey) (v : CVal)
    (hT : lookupTbl p d.root = some (.tbl T)) (hd : T.dotted = false) (hm : (k, CItem.value v) ∈ T.items)
    (hv : notDottedInl v = true) :
    (encodeKeyPath f inp [k] [] [0x20] ++ [0x3D] ++ encodeValue f inp v [0x20] [] ++ [0x0A]) <:+: printDocG f inp d := by
  obtain ⟨e, he, het⟩ := visit_tbl p d.root T [] false (0, []) hT hd
  have he' := (Sort.sortEntries_is.mem e _).2 he
  have h1 := visitTables_mem f inp _ e true he'
  have h2 := encodeBody_mem f inp _ _ _ (valuesTbl_mem e.tbl.items [] k v (by rw [het]; exact hm) hv)
  simp only [List.nil_append] at h2
  simp only [printDocG]
  exact List.infix_append_of_infix_left (List.infix_append_of_infix_left (List.infix_append_of_infix_right (h2.trans h1)))

theorem diverge_snoc : ∀ (x p : List Seg) (s : Seg), Diverge x (p ++ [s]) → Diverge x p ∨ ∃ a r, x = p ++ a :: r
  | [], _, _, h => by cases h
  | a :: x', [], s, h => .inr ⟨a, x', rfl⟩
  | a :: x', b :: p', s, h => by
    rw [List.cons_append] at h
    cases h with
    | here h1 => exact .inl (.here h1)
    | step h2 =>
      rcases diverge_snoc x' p' s h2 with h3 | ⟨a', r, rfl⟩
      · exact .inl (.step h3)
      · exact .inr ⟨a', r, rfl⟩

variable (u : Upd)

/- "pass": an update at a strictly longer path `p ++ a :: r` goes through the table at `p` and rebuilds it with the
   same `dotted` flag -/
theorem pass_tbls :
    (∀ x t t', updTbl u x t = some t' → ∀ p a r, x = p ++ a :: r → ∀ T, lookupTbl p t = some (.tbl T) →
      ∃ T', lookupTbl p t' = some (.tbl T') ∧ T'.dotted = T.dotted) ∧
    (∀ k x l l', updItems u k x l = some l' → ∀ p a r, x = p ++ a :: r → ∀ T,
      lookupItems k p l = some (.tbl T) → ∃ T', lookupItems k p l' = some (.tbl T') ∧ T'.dotted = T.dotted) ∧
    (∀ x it it', updItem u x it = some it' → ∀ p a r, x = p ++ a :: r → ∀ T, lookupItem p it = some (.tbl T) →
      ∃ T', lookupItem p it' = some (.tbl T') ∧ T'.dotted = T.dotted) ∧
    (∀ i x l l', updNth u i x l = some l' → ∀ p a r, x = p ++ a :: r → ∀ T, lookupNth i p l = some (.tbl T) →
      ∃ T', lookupNth i p l' = some (.tbl T') ∧ T'.dotted = T.dotted) := by
  refine updTbl_rel u ?here ?mk ?value ?table ?aotHere ?aot ?zero ?succ ?hit ?miss
  case here => intro t t' _ p a r hx; cases p <;> cases hx
  case mk =>
    intro s x k items items' imp dot ps dec sp hi ih p a r hx T hl
    cases p with
    | nil =>
      simp only [lookupTbl, Option.some.injEq, Node.tbl.injEq] at hl
      subst hl
      exact ⟨.mk items' imp dot ps dec sp, by simp only [lookupTbl], rfl⟩
    | cons b p =>
      rw [List.cons_append] at hx
      injection hx with h1 h2
      subst h1
      simp only [lookupTbl, hi] at hl ⊢
      exact ih p a r h2 T hl
  case value =>
    intro x v v' _ p a r _ T hl
    simp only [lookupItem] at hl
    exact absurd hl (lookupVal_not_tbl p v T)
  case table =>
    intro x t t' ih p a r hx T hl
    simp only [lookupItem] at hl ⊢
    exact ih p a r hx T hl
  case aotHere => intro ts ts' sp _ p a r hx; cases p <;> cases hx
  case aot =>
    intro s x i ts ts' sp hi ih p a r hx T hl
    cases p with
    | nil => simp [lookupItem] at hl
    | cons b p =>
      rw [List.cons_append] at hx
      injection hx with h1 h2
      subst h1
      simp only [lookupItem, hi] at hl ⊢
      exact ih p a r h2 T hl
  case zero =>
    intro x t t' rest ih p a r hx T hl
    simp only [lookupNth] at hl ⊢
    exact ih p a r hx T hl
  case succ =>
    intro i x t rest rest' ih p a r hx T hl
    simp only [lookupNth] at hl ⊢
    exact ih p a r hx T hl
  case hit =>
    intro k x k' it it' rest hk ih p a r hx T hl
    simp only [lookupItems, hk, if_true] at hl ⊢
    exact ih p a r hx T hl
  case miss =>
    intro k x k' it rest rest' hk ih p a r hx T hl
    simp only [lookupItems, hk, Bool.false_eq_true, if_false] at hl ⊢
    exact ih p a r hx T hl

theorem pass_tbl : ∀ (p : List Seg) (a : Seg) (r : List Seg) (t t' T : CTbl),
    updTbl u (p ++ a :: r) t = some t' → lookupTbl p t = some (.tbl T) →
    ∃ T', lookupTbl p t' = some (.tbl T') ∧ T'.dotted = T.dotted :=
  fun p a r t t' T h => (pass_tbls u).1 _ t t' h p a r rfl T

theorem pass_items (k : Bytes) : ∀ (p : List Seg) (a : Seg) (r : List Seg) (items items' : List (CKey × CItem))
    (T : CTbl), updItems u k (p ++ a :: r) items = some items' → lookupItems k p items = some (.tbl T) →
    ∃ T', lookupItems k p items' = some (.tbl T') ∧ T'.dotted = T.dotted :=
  fun p a r l l' T h => (pass_tbls u).2.1 k _ l l' h p a r rfl T

theorem pass_item : ∀ (p : List Seg) (a : Seg) (r : List Seg) (it it' : CItem) (T : CTbl),
    updItem u (p ++ a :: r) it = some it' → lookupItem p it = some (.tbl T) →
    ∃ T', lookupItem p it' = some (.tbl T') ∧ T'.dotted = T.dotted :=
  fun p a r it it' T h => (pass_tbls u).2.2.1 _ it it' h p a r rfl T

theorem pass_nth : ∀ (i : Nat) (p : List Seg) (a : Seg) (r : List Seg) (ts ts' : List CTbl) (T : CTbl),
    updNth u i (p ++ a :: r) ts = some ts' → lookupNth i p ts = some (.tbl T) →
    ∃ T', lookupNth i p ts' = some (.tbl T') ∧ T'.dotted = T.dotted :=
  fun i p a r l l' T h => (pass_tbls u).2.2.2 i _ l l' h p a r rfl T

/-- between two trees: where `p` leads to a table in the first it leads to one in the second, with the same
    `dotted` flag (what makes its entries lines of the print) -/
def KeepsTbl (p : List Seg) (a b : CTbl) : Prop :=
  ∀ T, lookupTbl p a = some (.tbl T) → ∃ T', lookupTbl p b = some (.tbl T') ∧ T'.dotted = T.dotted

theorem KeepsTbl.refl (p : List Seg) (a : CTbl) : KeepsTbl p a a := fun T hT => ⟨T, hT, rfl⟩

theorem KeepsTbl.trans {p : List Seg} {a b c : CTbl} (h1 : KeepsTbl p a b) (h2 : KeepsTbl p b c) : KeepsTbl p a c := by
  intro T hT
  obtain ⟨T1, hT1, hd1⟩ := h1 T hT
  obtain ⟨T2, hT2, hd2⟩ := h2 T1 hT1
  exact ⟨T2, hT2, hd2.trans hd1⟩

/-- a path update that leaves the entry `p ++ [s]` alone: it diverges from `p` (frame) or goes strictly below it -/
theorem upd_keeps_tbl {x : List Seg} {t t' : CTbl} (h : updTbl u x t = some t') {p : List Seg} {s : Seg}
    (hd : Diverge x (p ++ [s])) : KeepsTbl p t t' := by
  intro T hl
  rcases diverge_snoc x p s hd with hd | ⟨a, r, rfl⟩
  · exact ⟨T, by rw [frame_tbl u x t t' h p hd]; exact hl, rfl⟩
  · exact pass_tbl u p a r t t' T h hl

end TomlVerif.Lemmas.Refine08c
