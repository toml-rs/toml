import TomlVerif.Lemmas.DeTyped13Lenient
/-! For Props/C13Typed: each of the three switches only removes successes — a decoder that succeeds as the
    code stands succeeds with the same value when the switches are off (`edit_mono`, `value_mono`). -/
namespace TomlVerif.Lemmas.DeTyped13
open TomlVerif TomlVerif.Model TomlVerif.Model.TomlValue TomlVerif.Model.DeRoutes
open TomlVerif.Model.DeText (presOfItem presOfVal presOfTbl presOfVals presOfValPairs presOfTbls presOfItems)
open TomlVerif.Model.DeTyped TomlVerif.Lemmas.DeRoutes13

theorem fail_ne_ok {α} {d : α} : (fail : R α) = .ok d → False := by
  intro h; cases h

def Le {α} (x y : R α) : Prop := ∀ d, x = .ok d → y = .ok d

theorem le_refl {α} (x : R α) : Le x x := fun _ h => h

theorem le_fail {α} (y : R α) : Le fail y := fun _ h => (fail_ne_ok h).elim

theorem le_of_eq {α} {x y : R α} (h : x = y) : Le x y := fun _ hd => h ▸ hd

theorem le_rmap {α β} (f : α → β) {x y : R α} (h : Le x y) : Le (rmap f x) (rmap f y) := by
  intro d hd
  cases hx : x with
  | error e => rw [hx] at hd; cases hd
  | ok a => rw [hx] at hd; rw [h a hx]; exact hd

theorem le_rcons {α} {x y : R α} {l m : R (List α)} (h : Le x y) (hl : Le l m) : Le (rcons x l) (rcons y m) := by
  intro d hd
  cases hx : x with
  | error e => rw [hx] at hd; cases hd
  | ok a =>
    cases hl' : l with
    | error e => rw [hx, hl'] at hd; cases hd
    | ok as => rw [hx, hl'] at hd; rw [h a hx, hl as hl']; exact hd

theorem le_mapE {α β} (f g : α → R β) (l : List α) (h : ∀ a ∈ l, Le (f a) (g a)) : Le (mapE f l) (mapE g l) := by
  induction l with
  | nil => exact le_refl _
  | cons a r ih =>
    simp only [mapE]
    exact le_rcons (h a (by simp)) (ih fun x hx => h x (by simp [hx]))

theorem le_ite_fail {α} {b b' : Bool} {x y : R α} (hb : b' = true → b = true) (h : Le x y) :
    Le (if b then fail else x) (if b' then fail else y) := by
  cases b <;> cases b' <;> simp at hb ⊢
  · exact h
  · exact le_fail _
  · exact le_fail _

theorem le_ofOpt {α} {x y : Option α} (h : ∀ a, x = some a → y = some a) : Le (ofOpt x) (ofOpt y) := by
  intro d hd
  cases hx : x with
  | none => rw [hx] at hd; cases hd
  | some a => rw [hx] at hd; rw [h a hx]; exact hd

mutual
theorem visitValue_mono (fl : Flavour) : ∀ (p : Pres) (w : TV),
    visitValue fl true p = some w → visitValue fl false p = some w
  | .bool _, w, h | .i64 _, w, h | .f64 _, w, h | .string _, w, h => by simpa [visitValue] using h
  | .seq l, w, h => by
    simp only [visitValue] at h ⊢
    cases hl : visitList fl true l with
    | none => rw [hl] at h; cases h
    | some x => rw [hl] at h; rw [visitList_mono fl l x hl]; exact h
  | .map [], w, h => by simpa [visitValue] using h
  | .map ((k, p) :: r), w, h => by
    unfold visitValue at h ⊢
    by_cases hk : (k == FIELD) = true
    · simp only [hk, if_true] at h ⊢
      cases p with
      | string s =>
        simp only [Bool.true_and, Bool.false_and, Bool.false_eq_true, if_false] at h ⊢
        split at h
        · cases h
        · exact h
      | bool _ | i64 _ | f64 _ | seq _ | map _ => cases h
    · simp only [hk, Bool.false_eq_true, if_false] at h ⊢
      cases hv : visitValue fl true p with
      | none => rw [hv] at h; cases h
      | some v =>
        cases hr : visitPairs fl true r with
        | none => rw [hv, hr] at h; cases h
        | some rest =>
          rw [hv, hr] at h
          rw [visitValue_mono fl p v hv, visitPairs_mono fl r rest hr]
          exact h
theorem visitList_mono (fl : Flavour) : ∀ (l : List Pres) (w : List TV),
    visitList fl true l = some w → visitList fl false l = some w
  | [], w, h => by simpa [visitList] using h
  | p :: r, w, h => by
    simp only [visitList] at h ⊢
    cases hv : visitValue fl true p with
    | none => rw [hv] at h; cases h
    | some v =>
      cases hr : visitList fl true r with
      | none => rw [hv, hr] at h; cases h
      | some rest =>
        rw [hv, hr] at h
        rw [visitValue_mono fl p v hv, visitList_mono fl r rest hr]
        exact h
theorem visitPairs_mono (fl : Flavour) : ∀ (l : List (Bytes × Pres)) (w : List (Bytes × TV)),
    visitPairs fl true l = some w → visitPairs fl false l = some w
  | [], w, h => by simpa [visitPairs] using h
  | (k, p) :: r, w, h => by
    simp only [visitPairs] at h ⊢
    cases hv : visitValue fl true p with
    | none => rw [hv] at h; cases h
    | some v =>
      cases hr : visitPairs fl true r with
      | none => rw [hv, hr] at h; cases h
      | some rest =>
        rw [hv, hr] at h
        rw [visitValue_mono fl p v hv, visitPairs_mono fl r rest hr]
        exact h
end


theorem le_ite {α} {b : Bool} {x y x' y' : R α} (h1 : Le x y) (h2 : Le x' y') :
    Le (if b then x else x') (if b then y else y') := by
  cases b <;> simp
  · exact h2
  · exact h1


theorem value_mono_all (c : ValueCfg) (fl : Flavour) :
    (∀ ty v, Le (decodeValue c fl ty v) (decodeValue valueLenient fl ty v)) ∧
    (∀ ts l, Le (decodeValueTys c fl ts l) (decodeValueTys valueLenient fl ts l)) ∧
    (∀ fs, (∀ es, Le (decodeValueFields c fl fs es) (decodeValueFields valueLenient fl fs es)) ∧
      ∀ l, Le (decodeValueFieldsSeq c fl fs l) (decodeValueFieldsSeq valueLenient fl fs l)) ∧
    (∀ s n p, Le (decodeValueShape c fl s n p) (decodeValueShape valueLenient fl s n p)) ∧
    (∀ vs k p, Le (decodeValueVariants c fl vs k p) (decodeValueVariants valueLenient fl vs k p)) := by
  have dt : ∀ ty, ty = .datetime ∨ ty = .date ∨ ty = .time →
      ∀ v, Le (decodeValue c fl ty v) (decodeValue valueLenient fl ty v) := by
    rintro ty (rfl | rfl | rfl) v <;> unfold decodeValue <;>
      cases v <;> first | exact le_refl _ | exact le_ite_fail (by simp [lenient_check]) (le_refl _)
  have struct : ∀ fs, ((∀ es, Le (decodeValueFields c fl fs es) (decodeValueFields valueLenient fl fs es)) ∧
      ∀ l, Le (decodeValueFieldsSeq c fl fs l) (decodeValueFieldsSeq valueLenient fl fs l)) →
      ∀ v, Le (decodeValue c fl (.struct fs) v) (decodeValue valueLenient fl (.struct fs) v) := by
    intro fs ih v; unfold decodeValue
    cases valueMapEntries v with
    | some es => exact le_ite (le_fail _) (le_rmap _ (ih.1 es))
    | none =>
      cases v <;> first
        | exact le_fail _
        | exact le_ite_fail (by simp [lenient_check]) (le_rmap _ (ih.2 _))
  apply ty_induct
  case bool | int | f64 | f32 | string | char | unit | ignored => intros; unfold decodeValue; exact le_refl _
  case datetime => exact dt _ (.inl rfl)
  case date => exact dt _ (.inr (.inl rfl))
  case time => exact dt _ (.inr (.inr rfl))
  case value =>
    intro v; unfold decodeValue
    apply le_rmap; apply le_ofOpt
    intro a h
    rw [lenient_check]
    cases hc : c.trailingCheck with
    | false => rw [hc] at h; exact h
    | true => rw [hc] at h; exact visitValue_mono fl _ a h
  case option | newtype => intro t ih v; unfold decodeValue; exact le_rmap _ (ih v)
  case seq =>
    intro t ih v; unfold decodeValue
    cases v <;> first | exact le_fail _ | exact le_rmap _ (le_mapE _ _ _ fun a _ => ih a)
  case tuple =>
    intro ts ih v; unfold decodeValue
    cases v <;> first | exact le_fail _ | exact le_ite_fail (by simp [lenient_check]) (le_rmap _ (ih _))
  case map =>
    intro t ih v; unfold decodeValue
    cases valueMapEntries v with
    | none => exact le_fail _
    | some es => exact le_rmap _ (le_mapE _ _ _ fun kv _ => le_rmap _ (ih kv.2))
  case struct => exact struct
  case enum =>
    intro vs ih v; unfold decodeValue
    cases v with
    | tbl es =>
      match es with
      | [] => exact le_refl _
      | [(k, p)] => exact ih k p
      | _ :: _ :: _ => exact le_refl _
    | _ => exact le_refl _
  case tnil => intro l; unfold decodeValueTys; exact le_refl _
  case tcons =>
    intro t r ih ihr l
    cases l with
    | nil => unfold decodeValueTys; exact le_refl _
    | cons i l => unfold decodeValueTys; exact le_rcons (ih i) (ihr l)
  case fnil =>
    exact ⟨fun es => by unfold decodeValueFields; exact le_refl _, fun l => by unfold decodeValueFieldsSeq; exact le_refl _⟩
  case fcons =>
    intro name t dflt r ih ihr
    refine ⟨fun es => ?_, fun l => ?_⟩
    · unfold decodeValueFields
      refine le_rcons (le_rmap _ ?_) (ihr.1 es)
      cases alookup name es with
      | none => exact le_refl _
      | some i => exact ih i
    · cases l with
      | nil => unfold decodeValueFieldsSeq; exact le_ite (le_rmap _ (ihr.2 [])) (le_refl _)
      | cons i l => unfold decodeValueFieldsSeq; exact le_rcons (le_rmap _ (ih i)) (ihr.2 l)
  case sunit => intro n p; unfold decodeValueShape; exact le_refl _
  case snewtype => intro t ih n p; unfold decodeValueShape; exact le_rmap _ (ih p)
  case stuple =>
    intro ts ih n p; unfold decodeValueShape
    cases p <;> first | exact le_fail _ | exact le_ite (le_rmap _ (ih _)) (le_refl _)
  case sstruct =>
    intro fs ih n p
    rw [decodeValueShape_struct, decodeValueShape_struct]
    exact le_rmap _ (struct fs ih p)
  case vnil => intro k p; unfold decodeValueVariants; exact le_refl _
  case vcons =>
    intro name s r ih ihr k p; unfold decodeValueVariants
    exact le_ite (ih name p) (ihr k p)

theorem value_mono (c : ValueCfg) (fl : Flavour) : ∀ (ty : Ty) (v : TV),
    Le (decodeValue c fl ty v) (decodeValue valueLenient fl ty v) :=
  (value_mono_all c fl).1
theorem value_mono_tys (c : ValueCfg) (fl : Flavour) : ∀ (ts : Tys) (l : List TV),
    Le (decodeValueTys c fl ts l) (decodeValueTys valueLenient fl ts l) :=
  (value_mono_all c fl).2.1
theorem value_mono_fields (c : ValueCfg) (fl : Flavour) : ∀ (fs : Fields) (es : List (Bytes × TV)),
    Le (decodeValueFields c fl fs es) (decodeValueFields valueLenient fl fs es) := fun fs =>
  ((value_mono_all c fl).2.2.1 fs).1
theorem value_mono_fields_seq (c : ValueCfg) (fl : Flavour) : ∀ (fs : Fields) (l : List TV),
    Le (decodeValueFieldsSeq c fl fs l) (decodeValueFieldsSeq valueLenient fl fs l) := fun fs =>
  ((value_mono_all c fl).2.2.1 fs).2
theorem value_mono_variants (c : ValueCfg) (fl : Flavour) : ∀ (vs : Variants) (k : Bytes) (p : TV),
    Le (decodeValueVariants c fl vs k p) (decodeValueVariants valueLenient fl vs k p) :=
  (value_mono_all c fl).2.2.2.2
theorem value_mono_shape (c : ValueCfg) (fl : Flavour) : ∀ (s : Shape) (n : Bytes) (p : TV),
    Le (decodeValueShape c fl s n p) (decodeValueShape valueLenient fl s n p) :=
  (value_mono_all c fl).2.2.2.1


theorem strde_le (c : EditCfg) (fl : Flavour) (t : Ty) (s : Bytes) :
    Le (decodeStrDe t s) (decodeEdit c fl t (strItem s)) := by
  cases t with
  -- `StringDeserializer` forwards these to `visit_string`, which their visitors do not have
  | option _ | newtype _ | seq _ | tuple _ | map _ | struct _ | datetime | date | time =>
    unfold decodeStrDe; exact le_fail _
  -- a string item shows `visit_string` too: the scalars, `IgnoredAny` and (unit variants) enums read alike
  | bool | int _ _ | f64 | f32 | string | char | unit | ignored | enum _ => unfold decodeStrDe decodeEdit; exact le_refl _
  | value =>
    unfold decodeStrDe decodeEdit
    simp [strItem, presOfItem, presOfVal, visitValue, rmap, ofOpt]; exact le_refl _

theorem edit_mono_all (c : EditCfg) (fl : Flavour) :
    (∀ ty it, Le (decodeEdit c fl ty it) (decodeEdit editLenient fl ty it)) ∧
    (∀ ts l, Le (decodeEditTys c fl ts l) (decodeEditTys editLenient fl ts l)) ∧
    (∀ fs, (∀ es, Le (decodeEditFields c fl fs es) (decodeEditFields editLenient fl fs es)) ∧
      ∀ l, Le (decodeEditFieldsSeq c fl fs l) (decodeEditFieldsSeq editLenient fl fs l)) ∧
    (∀ s n p, Le (decodeEditShape c fl s n p) (decodeEditShape editLenient fl s n p)) ∧
    (∀ vs k p, Le (decodeEditVariants c fl vs k p) (decodeEditVariants editLenient fl vs k p)) := by
  have str : ∀ t, (∀ it, Le (decodeEdit c fl t it) (decodeEdit editLenient fl t it)) → ∀ s,
      Le (if c.dtValueViaSerdeString then decodeStrDe t s else decodeEdit c fl t (strItem s))
        (if editLenient.dtValueViaSerdeString then decodeStrDe t s else decodeEdit editLenient fl t (strItem s)) := by
    intro t ih s
    simp only [lenient_strde, Bool.false_eq_true, if_false]
    cases c.dtValueViaSerdeString with
    | false => exact ih (strItem s)
    | true => exact strde_le editLenient fl t s
  have struct : ∀ fs, ((∀ es, Le (decodeEditFields c fl fs es) (decodeEditFields editLenient fl fs es)) ∧
      ∀ l, Le (decodeEditFieldsSeq c fl fs l) (decodeEditFieldsSeq editLenient fl fs l)) →
      ∀ it, Le (decodeEdit c fl (.struct fs) it) (decodeEdit editLenient fl (.struct fs) it) := by
    intro fs ih it; unfold decodeEdit
    cases editMapEntries it with
    | some es => exact le_ite (le_fail _) (le_rmap _ (ih.1 es))
    | none =>
      cases itemElems it with
      | none => exact le_fail _
      | some l => exact le_rmap _ (ih.2 l)
  apply ty_induct
  case bool | int | f64 | f32 | string | char | unit | datetime | date | time | value | ignored =>
    intros; unfold decodeEdit; exact le_refl _
  case option | newtype => intro t ih it; unfold decodeEdit; exact le_rmap _ (ih it)
  case seq =>
    intro t ih it; unfold decodeEdit
    cases itemElems it with
    | none => exact le_fail _
    | some l => exact le_rmap _ (le_mapE _ _ _ fun a _ => ih a)
  case tuple =>
    intro ts ih it; unfold decodeEdit
    cases itemElems it with
    | none => exact le_fail _
    | some l => exact le_rmap _ (ih l)
  case map =>
    intro t ih it; unfold decodeEdit
    cases editMapEntries it with
    | none => exact le_fail _
    | some es =>
      refine le_rmap _ (le_mapE _ _ _ fun kv _ => le_rmap _ ?_)
      obtain ⟨k, src⟩ := kv
      cases src with
      | item i => exact ih i
      | str s => exact str t ih s
  case struct => exact struct
  case enum =>
    intro vs ih it; unfold decodeEdit
    split
    · exact le_refl _
    · cases itemEntries it with
      | none => exact le_refl _
      | some es =>
        match es with
        | [] => exact le_refl _
        | [(k, p)] => exact ih k p
        | _ :: _ :: _ => exact le_refl _
  case tnil => intro l; unfold decodeEditTys; exact le_refl _
  case tcons =>
    intro t r ih ihr l
    cases l with
    | nil => unfold decodeEditTys; exact le_refl _
    | cons i l => unfold decodeEditTys; exact le_rcons (ih i) (ihr l)
  case fnil =>
    exact ⟨fun es => by unfold decodeEditFields; exact le_refl _, fun l => by unfold decodeEditFieldsSeq; exact le_refl _⟩
  case fcons =>
    intro name t dflt r ih ihr
    refine ⟨fun es => ?_, fun l => ?_⟩
    · unfold decodeEditFields
      refine le_rcons (le_rmap _ ?_) (ihr.1 es)
      cases alookup name es with
      | none => exact le_refl _
      | some src =>
        cases src with
        | item i => exact ih i
        | str s => exact str t ih s
    · cases l with
      | nil => unfold decodeEditFieldsSeq; exact le_ite (le_rmap _ (ihr.2 [])) (le_refl _)
      | cons i l => unfold decodeEditFieldsSeq; exact le_rcons (le_rmap _ (ih i)) (ihr.2 l)
  case sunit => intro n p; unfold decodeEditShape; exact le_refl _
  case snewtype => intro t ih n p; unfold decodeEditShape; exact le_rmap _ (ih p)
  case stuple =>
    intro ts ih n p; unfold decodeEditShape
    cases itemElems p with
    | some l => exact le_ite (le_rmap _ (ih l)) (le_refl _)
    | none =>
      cases itemEntries p with
      | none => exact le_refl _
      | some es => exact le_ite (le_rmap _ (ih _)) (le_refl _)
  case sstruct =>
    intro fs ih n p
    rw [decodeEditShape_struct, decodeEditShape_struct]
    exact le_ite_fail (by simp [lenient_validate]) (le_rmap _ (struct fs ih p))
  case vnil => intro k p; unfold decodeEditVariants; exact le_refl _
  case vcons =>
    intro name s r ih ihr k p; unfold decodeEditVariants
    exact le_ite (ih name p) (ihr k p)

theorem edit_mono (c : EditCfg) (fl : Flavour) : ∀ (ty : Ty) (it : Item),
    Le (decodeEdit c fl ty it) (decodeEdit editLenient fl ty it) :=
  (edit_mono_all c fl).1
theorem edit_mono_tys (c : EditCfg) (fl : Flavour) : ∀ (ts : Tys) (l : List Item),
    Le (decodeEditTys c fl ts l) (decodeEditTys editLenient fl ts l) :=
  (edit_mono_all c fl).2.1
theorem edit_mono_fields (c : EditCfg) (fl : Flavour) : ∀ (fs : Fields) (es : List (Bytes × ESrc)),
    Le (decodeEditFields c fl fs es) (decodeEditFields editLenient fl fs es) := fun fs =>
  ((edit_mono_all c fl).2.2.1 fs).1
theorem edit_mono_fields_seq (c : EditCfg) (fl : Flavour) : ∀ (fs : Fields) (l : List Item),
    Le (decodeEditFieldsSeq c fl fs l) (decodeEditFieldsSeq editLenient fl fs l) := fun fs =>
  ((edit_mono_all c fl).2.2.1 fs).2
theorem edit_mono_variants (c : EditCfg) (fl : Flavour) : ∀ (vs : Variants) (k : Bytes) (p : Item),
    Le (decodeEditVariants c fl vs k p) (decodeEditVariants editLenient fl vs k p) :=
  (edit_mono_all c fl).2.2.2.2
theorem edit_mono_shape (c : EditCfg) (fl : Flavour) : ∀ (s : Shape) (n : Bytes) (p : Item),
    Le (decodeEditShape c fl s n p) (decodeEditShape editLenient fl s n p) :=
  (edit_mono_all c fl).2.2.2.1

end TomlVerif.Lemmas.DeTyped13
