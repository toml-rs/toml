import TomlVerif.Lemmas.Macro19Agree
/-! C19: a Boolean equality test on `MVal` (which has no derived `DecidableEq`: it is a nested inductive),
    so that concrete examples can be checked by `decide +kernel`; `parsedTable`, the parser's side of those examples. -/
namespace TomlVerif.Lemmas.Macro19b
open TomlVerif TomlVerif.Model TomlVerif.Model.Macro TomlVerif.Model.State TomlVerif.Lemmas.State09

mutual
def mvalEq : MVal → MVal → Bool
  | .str a, .str b => decide (a = b)
  | .int a, .int b => decide (a = b)
  | .float a, .float b => decide (a = b)
  | .bool a, .bool b => decide (a = b)
  | .dt a, .dt b => decide (a = b)
  | .arr a, .arr b => mvalsEq a b
  | .tbl a, .tbl b => mkvsEq a b
  | _, _ => false
def mvalsEq : List MVal → List MVal → Bool
  | [], [] => true
  | a :: r, b :: s => mvalEq a b && mvalsEq r s
  | _, _ => false
def mkvsEq : List (Bytes × MVal) → List (Bytes × MVal) → Bool
  | [], [] => true
  | (k, a) :: r, (k', b) :: s => decide (k = k') && mvalEq a b && mkvsEq r s
  | _, _ => false
end

mutual
theorem mvalEq_sound : ∀ a b : MVal, mvalEq a b = true → a = b := by
  intro a b h
  cases a with
  | arr a =>
    cases b <;> simp only [mvalEq, Bool.false_eq_true] at h
    rw [mvalsEq_sound a _ h]
  | tbl a =>
    cases b <;> simp only [mvalEq, Bool.false_eq_true] at h
    rw [mkvsEq_sound a _ h]
  | _ => cases b <;> simp_all [mvalEq]
theorem mvalsEq_sound : ∀ a b : List MVal, mvalsEq a b = true → a = b := by
  intro a b h
  match a, b with
  | [], [] => rfl
  | x :: r, y :: s =>
    simp only [mvalsEq, Bool.and_eq_true] at h
    rw [mvalEq_sound x y h.1, mvalsEq_sound r s h.2]
  | [], _ :: _ => simp [mvalsEq] at h
  | _ :: _, [] => simp [mvalsEq] at h
theorem mkvsEq_sound : ∀ a b : List (Bytes × MVal), mkvsEq a b = true → a = b := by
  intro a b h
  match a, b with
  | [], [] => rfl
  | (k, x) :: r, (k', y) :: s =>
    simp only [mkvsEq, Bool.and_eq_true, decide_eq_true_eq] at h
    rw [h.1.1, mvalEq_sound x y h.1.2, mkvsEq_sound r s h.2]
  | [], _ :: _ => simp [mkvsEq] at h
  | _ :: _, [] => simp [mkvsEq] at h
end

def optIs (x : Option MVal) (y : MVal) : Bool :=
  match x with
  | some a => mvalEq a y
  | none => false

theorem optIs_sound (x : Option MVal) (y : MVal) (h : optIs x y = true) : x = some y := by
  cases x with
  | none => simp [optIs] at h
  | some a => simp only [optIs] at h; rw [mvalEq_sound a y h]

def rIs (x : R MVal) (y : MVal) : Bool :=
  match x with
  | .ok m => mvalEq m y
  | _ => false

theorem rIs_sound (x : R MVal) (y : MVal) (h : rIs x y = true) : x = .ok y := by
  cases x with
  | ok m => simp only [rIs] at h; rw [mvalEq_sound m y h]
  | unsupported => simp [rIs] at h
  | panic => simp [rIs] at h

def parsedTable (ds : List DStmt) : Option MVal :=
  (stmtsOf ds).bind fun ss => ((run {} ss).bind intoDocument).map tblM

theorem parsedTable_some (ds : List DStmt) (t : MVal) (h : parsedTable ds = some t) :
    ∃ ss st d, stmtsOf ds = some ss ∧ run {} ss = some st ∧ intoDocument st = some d ∧ tblM d = t := by
  unfold parsedTable at h
  cases hs : stmtsOf ds with
  | none => simp [hs] at h
  | some ss =>
    cases hr : run {} ss with
    | none => simp [hs, hr] at h
    | some st =>
      cases hd : intoDocument st with
      | none => simp [hs, hr, hd] at h
      | some d =>
        simp [hs, hr, hd] at h
        exact ⟨ss, st, d, rfl, hr, hd, h⟩

end TomlVerif.Lemmas.Macro19b
