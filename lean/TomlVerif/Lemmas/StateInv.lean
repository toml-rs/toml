import TomlVerif.Lemmas.State09
/-! Entrywise properties of the decoded tree that the definition state machine keeps.

    A `TreeInv` is a property of tables given entry by entry, relative to where the table sits: `n` keys below
    the root and `d` dotted-key tables below the nearest table made by a header.  Everything the handlers of
    `Model/State.lean` do to a table is `aset` / `aerase` of one entry below a `descend`, so a `TreeInv` is kept
    by every handler (`step_inv`), provided the statement fits (`HdrFits`, `KvFits`). -/
namespace TomlVerif.Lemmas.StateInv
open TomlVerif TomlVerif.Model TomlVerif.Model.State TomlVerif.Lemmas.State09

structure TreeInv where
  T : Tbl → Nat → Nat → Prop
  I : Item → Nat → Nat → Prop
  /-- there is room below a table at `(n, d)` for a table made by a dotted key (`true`) or by a header -/
  room : Bool → Nat → Nat → Prop
  item : ∀ {t : Tbl} {n d : Nat} {k : Bytes} {it : Item}, T t n d → alookup k t.items = some it → I it n d
  aset : ∀ {t : Tbl} {n d : Nat} (k : Bytes) {it : Item}, T t n d → I it n d →
    T (t.setItems (aset k it t.items)) n d
  aerase : ∀ {t : Tbl} {n d : Nat} (k : Bytes), T t n d → T (t.setItems (aerase k t.items)) n d
  items : ∀ {u u' : Tbl} {n d : Nat}, u'.items = u.items → T u n d → T u' n d
  nil : ∀ {t : Tbl} (n d : Nat), t.items = [] → T t n d
  table : ∀ {t : Tbl} {n d : Nat},
    I (.table t) n d ↔ room t.dotted n d ∧ T t (n + 1) (if t.dotted then d + 1 else 0)
  aot : ∀ {ts : List Tbl} {n d : Nat}, I (.aot ts) n d ↔ room false n d ∧ ∀ t ∈ ts, T t (n + 1) 0
  /-- the table `start_table` takes over becomes the table of the new section, at dotted depth 0:
      `startTable.find` returns the entry whatever its flags (the probe that refuses dotted and
      explicit tables is a separate `descend`) -/
  zero : ∀ {t : Tbl} {n d : Nat}, T t n d → T t n 0

variable (P : TreeInv)

theorem TreeInv.append {t : Tbl} {n d : Nat} (k : Bytes) {it : Item} (h : P.T t n d)
    (hn : alookup k t.items = none) (hi : P.I it n d) : P.T (t.setItems (t.items ++ [(k, it)])) n d := by
  rw [← aset_of_none k it t.items hn]; exact P.aset k h hi

/-- along a non-empty path `descend` changes only the item list of the table it starts from -/
theorem descend_keeps {α : Type} (g : Tbl → α) (hg : ∀ t i, g (t.setItems i) = g t) {t t' : Tbl} {path : List Bytes}
    {d : Bool} {f : Tbl → Option Tbl} (h : descend t path d f = some t') (hf : ∀ u u', f u = some u' → g u' = g u) :
    g t' = g t := by
  cases path with
  | nil => exact hf t t' (by simpa [descend] using h)
  | cons k ks =>
    rcases descend_cons_some t t' k ks d f h with ⟨sub, sub', _, _, _, ht⟩ | ⟨init, l, l', _, _, _, ht⟩ <;>
      subst ht <;> exact hg _ _

/-- `Fits n d path` is what the path still needs at a table at `(n, d)`: room for a table made on the way, and the
    same one key further down, where the dotted depth is `d + 1` (through a dotted table) or 0 (hence `d' ≤ d + 1`
    in `next`). -/
theorem descend_inv {Fits : Nat → Nat → List Bytes → Prop} {dot : Bool} {f : Tbl → Option Tbl}
    (room : ∀ n d k ks, Fits n d (k :: ks) → P.room dot n d)
    (next : ∀ n d k ks, Fits n d (k :: ks) → ∀ d', d' ≤ d + 1 → Fits (n + 1) d' ks)
    (hfd : ∀ u u', f u = some u' → u'.dotted = u.dotted)
    (hf : ∀ u u' n d, Fits n d [] → P.T u n d → f u = some u' → P.T u' n d) :
    ∀ (path : List Bytes) (t t' : Tbl) (n d : Nat), descend t path dot f = some t' → P.T t n d →
      Fits n d path → P.T t' n d := by
  intro path
  induction path with
  | nil => intro t t' n d h hw hfit; exact hf t t' n d hfit hw (by simpa [descend] using h)
  | cons k ks ih =>
    intro t t' n d h hw hfit
    have hnext := next n d k ks hfit
    rcases descend_cons_some t t' k ks dot f h with ⟨sub, sub', he, _, hs, ht⟩ | ⟨init, l, l', ha, _, hs, ht⟩
    · have hsub : P.I (.table sub) n d := by
        cases hx : alookup k t.items with
        | none =>
          simp [hx] at he; subst he
          exact P.table.2 ⟨room n d k ks hfit, P.nil _ _ rfl⟩
        | some it => simp [hx] at he; subst he; exact P.item hw hx
      obtain ⟨h1, h2⟩ := P.table.1 hsub
      subst ht
      refine P.aset k hw (P.table.2 ?_)
      rw [descend_keeps Tbl.dotted (fun _ _ => rfl) hs hfd]
      exact ⟨h1, ih sub sub' _ _ hs h2 (hnext _ (by split <;> omega))⟩
    · obtain ⟨h1, hall⟩ := P.aot.1 (P.item hw ha)
      subst ht
      refine P.aset k hw (P.aot.2 ⟨h1, ?_⟩)
      intro m hm
      rcases List.mem_append.1 hm with hm | hm
      · exact hall m (List.mem_append_left _ hm)
      · simp at hm; rw [hm]; exact ih l l' (n + 1) 0 hs (hall l (by simp)) (hnext _ (Nat.zero_le _))

theorem lookupTbl_inv (t u : Tbl) (p : List Bytes) (n d : Nat) (h : P.T t n d) (hl : lookupTbl t p = some u) :
    ∃ d', P.T u (n + p.length) d' := by
  induction p generalizing t n d with
  | nil => simp [lookupTbl] at hl; subst hl; exact ⟨d, h⟩
  | cons k ks ih =>
    have e : n + 1 + ks.length = n + (k :: ks).length := by simp; omega
    rw [← e]
    rw [lookupTbl] at hl
    cases ha : alookup k t.items with
    | none => simp [ha] at hl
    | some it =>
      have hi := P.item h ha
      cases it with
      | value x => simp [ha] at hl
      | table sub => simp only [ha] at hl; exact ih sub (n + 1) _ (P.table.1 hi).2 hl
      | aot ts =>
        simp only [ha] at hl
        cases hg : ts.getLast? with
        | none => simp [hg] at hl
        | some l =>
          simp only [hg] at hl
          exact ih l (n + 1) 0 ((P.aot.1 hi).2 l (List.mem_of_getLast? hg)) hl

def HdrFits (len : Nat) : Prop := ∀ i d, i < len → P.room false i d

def KvFits (m : Nat) (v : Val) : Prop :=
  (∀ n d, d < m → P.room true n d) ∧ ∀ n d, d ≤ m → P.I (.value v) n d

structure Holds (st : ParseState) : Prop where
  root : P.T st.root 0 0
  cur : P.T st.current st.currentPath.length 0
  /-- closing the section puts its table under the parent: that needs room at the parent's level -/
  fits : HdrFits P st.currentPath.length
  dot : st.current.dotted = false

theorem holds_init : Holds P {} := ⟨P.nil _ _ rfl, P.nil _ _ rfl, fun i d h => by simp at h, rfl⟩

/-- pins the level at which the walk ends, so that `HdrFits` can be used there (at `pp.length`) -/
abbrev ToLevel (N : Nat) : Nat → Nat → List Bytes → Prop := fun n _ p => n + p.length = N

theorem toLevel_next (N n d : Nat) (k : Bytes) (ks : List Bytes) (h : ToLevel N n d (k :: ks)) (d' : Nat)
    (_ : d' ≤ d + 1) : ToLevel N (n + 1) d' ks := by
  simp only [ToLevel, List.length_cons] at h ⊢; omega

theorem toLevel_room {N len : Nat} (hl : N < len) (hfit : HdrFits P len) (n d : Nat) (k : Bytes) (ks : List Bytes)
    (h : ToLevel N n d (k :: ks)) : P.room false n d :=
  hfit n d (by simp only [ToLevel, List.length_cons] at h; omega)

theorem onKeyval_inv (st st' : ParseState) (path : List Bytes) (key : Bytes) (v : Val) (hi : Holds P st)
    (hv : KvFits P path.length v) (h : onKeyval st path key v = some st') : Holds P st' := by
  obtain ⟨c, hd, hst⟩ := onKeyval_some st st' path key v h
  subst hst
  have hfd : ∀ u u', kvF path key v u = some u' → u'.dotted = u.dotted := by
    intro u u' hk
    obtain ⟨_, e, _⟩ := kvF_some _ _ _ _ _ hk
    subst e; rfl
  refine ⟨hi.root, ?_, hi.fits, ?_⟩
  · refine descend_inv P (Fits := fun _ d p => d + p.length ≤ path.length) (dot := true)
      (fun n d k ks hf => hv.1 n d (by simp only [List.length_cons] at hf; omega))
      (fun n d k ks hf d' hd' => by simp only [List.length_cons] at hf; omega)
      hfd ?_ path _ _ _ 0 hd hi.cur (by omega)
    intro u u' n' d' hfit hu hk
    obtain ⟨hn, e, _⟩ := kvF_some _ _ _ _ _ hk
    subst e
    exact P.append key hu hn (hv.2 n' d' (by simpa using hfit))
  · show c.dotted = false
    rw [descend_keeps Tbl.dotted (fun _ _ => rfl) hd hfd]; exact hi.dot

theorem finF_dotted (isArray : Bool) (key : Bytes) (cur u u' : Tbl) (h : finF isArray key cur u = some u') :
    u'.dotted = u.dotted := by
  rcases finF_some h with ⟨_, _, _, rfl⟩ | ⟨_, h2⟩
  · rfl
  · rw [finStdF_aset _ _ _ _ h2]; rfl

theorem finF_inv (isArray : Bool) (key : Bytes) (cur u u' : Tbl) (m d' : Nat) (hm : P.room false m d')
    (hc : P.T cur (m + 1) 0) (hcd : cur.dotted = false) (hu : P.T u m d')
    (h : finF isArray key cur u = some u') : P.T u' m d' := by
  have hci : P.I (.table cur) m d' := P.table.2 (by rw [hcd]; exact ⟨hm, hc⟩)
  rcases finF_some h with ⟨_, ts, he, rfl⟩ | ⟨_, h2⟩
  · have hts : ∀ t ∈ ts, P.T t (m + 1) 0 := by
      cases hx : alookup key u.items with
      | none => simp [hx] at he; subst he; simp
      | some it => simp [hx] at he; subst he; exact (P.aot.1 (P.item hu hx)).2
    refine P.aset key hu (P.aot.2 ⟨hm, ?_⟩)
    intro t ht
    rcases List.mem_append.1 ht with ht | ht
    · exact hts t ht
    · simp at ht; subst ht; exact hc
  · rw [finStdF_aset _ _ _ _ h2]; exact P.aset key hu hci

theorem finalizeTable_inv (st sf : ParseState) (hi : Holds P st) (h : finalizeTable st = some sf) : Holds P sf := by
  rcases finalizeTable_some st sf h with ⟨hp, _, hst⟩ | ⟨pp, key, root', hp, hd, hst⟩
  · subst hst
    have := hi.cur; rw [hp] at this
    exact ⟨this, P.nil _ _ rfl, fun i d h => by simp at h, rfl⟩
  · subst hst
    have hfit := hi.fits; rw [hp] at hfit
    have hc := hi.cur; rw [hp] at hc; simp only [List.length_append, List.length_singleton] at hc hfit
    refine ⟨?_, P.nil _ _ rfl, fun i d h => by simp at h, rfl⟩
    refine descend_inv P (Fits := ToLevel pp.length) (dot := false) (toLevel_room P (Nat.lt_succ_self _) hfit)
      (toLevel_next _) (fun u u' hf => finF_dotted _ _ _ _ _ hf) ?_ pp _ _ 0 0 hd hi.root (Nat.zero_add _)
    intro u u' n d e hu hf
    simp only [ToLevel, List.length_nil, Nat.add_zero] at e; subst e
    exact finF_inv P _ _ _ _ _ _ d (hfit _ d (Nat.lt_succ_self _)) hc hi.dot hu hf

theorem find_inv (key : Bytes) (root cur : Tbl) (pp : List Bytes) (hr : P.T root 0 0) (hc : cur.items = []) :
    P.T ((startTable.find key root pp).getD cur) (pp.length + 1) 0 := by
  rw [find_eq]
  have hcur : P.T cur (pp.length + 1) 0 := P.nil _ _ hc
  cases hl : lookupTbl root pp with
  | none => simpa using hcur
  | some u =>
    obtain ⟨d', hu⟩ := lookupTbl_inv P root u pp 0 0 hr hl
    simp only [Nat.zero_add] at hu
    simp only [Option.bind_some, tableAt]
    cases ha : alookup key u.items with
    | none => simpa using hcur
    | some it =>
      cases it with
      | value x => simpa using hcur
      | aot ts => simpa using hcur
      | table x => exact P.zero (P.table.1 (P.item hu ha)).2

theorem startTable_inv (st st' : ParseState) (path : List Bytes) (hi : Holds P st) (hc : st.current.items = [])
    (hfit : HdrFits P path.length) (h : startTable st path = some st') : Holds P st' := by
  obtain ⟨pp, key, r0, root', hp, hprobe, herase, hst⟩ := startTable_some st st' path h
  subst hst
  have e : path.length = pp.length + 1 := by rw [hp]; simp
  refine ⟨?_, ?_, hfit, rfl⟩
  · refine descend_inv P (Fits := ToLevel pp.length) (dot := false) (toLevel_room P (by omega) hfit)
      (toLevel_next _) ?_ ?_ pp _ _ 0 0 herase hi.root (Nat.zero_add _)
    · intro u u' he; simp [eraseF] at he; subst he; rfl
    · intro u u' n d _ hu he
      simp [eraseF] at he; subst he
      exact P.aerase key hu
  · show P.T (Tbl.mk ((startTable.find key st.root pp).getD st.current).items false false _) path.length 0
    rw [e]
    exact P.items (u := (startTable.find key st.root pp).getD st.current) rfl
      (find_inv P key st.root st.current pp hi.root hc)

theorem startArrayTable_inv (st st' : ParseState) (path : List Bytes) (hi : Holds P st) (hc : st.current.items = [])
    (hfit : HdrFits P path.length) (h : startArrayTable st path = some st') : Holds P st' := by
  obtain ⟨pp, key, root', hp, hd, hst⟩ := startArrayTable_some st st' path h
  subst hst
  have e : path.length = pp.length + 1 := by rw [hp]; simp
  refine ⟨?_, ?_, hfit, rfl⟩
  · refine descend_inv P (Fits := ToLevel pp.length) (dot := false) (toLevel_room P (by omega) hfit)
      (toLevel_next _) ?_ ?_ pp _ _ 0 0 hd hi.root (Nat.zero_add _)
    · intro u u' he
      rcases arrStartF_some he with ⟨_, _, e⟩ | ⟨_, e⟩ <;> subst e <;> rfl
    · intro u u' n d e hu he
      simp only [ToLevel, List.length_nil, Nat.add_zero] at e; subst e
      rcases arrStartF_some he with ⟨_, _, e⟩ | ⟨hn, e⟩ <;> subst e
      · exact hu
      · exact P.append key hu hn (P.aot.2 ⟨hfit _ d (by omega), by simp⟩)
  · show P.T (Tbl.mk st.current.items false false _) path.length 0
    exact P.nil _ _ hc

def StmtFits : Stmt → Prop
  | .kv path _ v => KvFits P path.length v
  | .std path => HdrFits P path.length
  | .arr path => HdrFits P path.length

theorem step_inv (st st' : ParseState) (s : Stmt) (hi : Holds P st) (hs : StmtFits P s)
    (h : step st s = some st') : Holds P st' := by
  cases s with
  | kv p k v => exact onKeyval_inv P st st' p k v hi hs h
  | std p =>
    simp only [step, onStdHeader] at h
    cases hf : finalizeTable st with
    | none => simp [hf] at h
    | some sf =>
      simp only [hf] at h
      exact startTable_inv P sf st' p (finalizeTable_inv P st sf hi hf)
        (by rw [(finalize_fields st sf hf).1]; rfl) hs h
  | arr p =>
    simp only [step, onArrayHeader] at h
    cases hf : finalizeTable st with
    | none => simp [hf] at h
    | some sf =>
      simp only [hf] at h
      exact startArrayTable_inv P sf st' p (finalizeTable_inv P st sf hi hf)
        (by rw [(finalize_fields st sf hf).1]; rfl) hs h

theorem intoDocument_inv (st : ParseState) (T : Tbl) (hi : Holds P st) (h : intoDocument st = some T) : P.T T 0 0 :=
  (finalizeTable_inv P st _ hi (finalize_of_into st T h)).root

end TomlVerif.Lemmas.StateInv
