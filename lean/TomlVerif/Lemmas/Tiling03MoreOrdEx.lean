import TomlVerif.Lemmas.Verbatim03Ord
/-! C03, documents whose sections are NOT in pre-order — the hypotheses of the lemmas of
    `Lemmas/Print03Sorted.lean`, `Lemmas/Tiling03MoreOrdDefs.lean` and
    `Lemmas/Verbatim03Ord.lean` on concrete inputs (non-vacuity). -/
namespace TomlVerif.Lemmas.Tiling03More
open TomlVerif TomlVerif.Spec TomlVerif.Model TomlVerif.Model.Strings TomlVerif.Model.Value
open TomlVerif.Model.Cst TomlVerif.Model.Encode TomlVerif.Lemmas.Suffix03 TomlVerif.Lemmas.Cst03
open TomlVerif.Lemmas.LastByte03 TomlVerif.Lemmas.Tiling03 TomlVerif.Lemmas.Tiling03Hdr
open TomlVerif.Lemmas.Tiling03Nest

/-- `[a]`, `[c]`, then a sub-table of `a`, with a body -/
def exO : Bytes := strBytes "[a]\n[c]\n[a.b]\nk = 1\n"

/-- the state after the first two header lines of `s`, and the rest -/
def after2 (s : Bytes) : Option (CState × Bytes) :=
  match ctableLine s.length {} s with
  | some (st1, r1) =>
    (match ctableLine s.length (parseWs s.length st1 r1).1 (parseWs s.length st1 r1).2 with
     | some (st2, r2) => some ((parseWs s.length st2 r2).1, (parseWs s.length st2 r2).2)
     | none => none)
  | none => none

/-- `printDocG_ord`, `entries_facts`, `entsText_sort_filter`: the parsed tree has no root decor,
    no root position, all flags of its summary set; its entries are NOT in position order (the
    summary has the positions 1, 3, 2 — `fin_spineT2` inserted the triple of `a.b` before that of
    `c`); the printer writes the root text -/
example : (parseCst exO).map (fun d => d.root.decor.pre.isNone && d.root.decor.suf.isNone && d.root.pos.isNone &&
      !d.root.dotted && (nsItems id exO d.root.items []).all (fun x => x.2.1)) = some true ∧
    (parseCst exO).map (fun d => (nsItems id exO d.root.items []).map (fun x => x.1)) = some [1, 3, 2] ∧
    (parseCst exO).map (fun d => sortedFrom 0 (docEntries d)) = some false ∧
    (parseCst exO).map (fun d => printDocG id exO d) =
      (parseCst exO).map (fun d => rootTextO id exO d.root ++ encRaw id exO d.trailing) := by decide +kernel

/-- `hdrLineOkWith_use`, `header_step_ord`, `pathOk_O`: the third header line on the state it meets
    passes the new check and fails the old one (`a` is not the last item of the root) -/
example : ((after2 exO).map fun p => hdrLineOkO exO p.1 p.2) = some true ∧
    ((after2 exO).map fun p => hdrLineOk exO p.1 p.2) = some false ∧
    ((after2 exO).map fun p => (ctableLine exO.length p.1 p.2).isSome) = some true := by decide +kernel

/-- `pathOkO_stored`, `start_spineT2`, `fin_spineT2`, `finalize_F`: on the root after `finalize_table`
    at the third header, `pathOkO` holds for the parent path `[a]` and the key `b`, both `descend`
    runs succeed, `start_table` leaves the summary unchanged and the next `finalize_table`
    inserts one triple -/
example : ((after2 exO).bind fun p => finalizeTable p.1).isSome = true ∧
    ((after2 exO).bind fun p => (finalizeTable p.1).bind fun st1 =>
      match ckeyPath exO.length (p.2.drop 1) with
      | .ok ks _ => (splitLast ks).map fun x => pathOkO exO false x.2 st1.root x.1 &&
          (descend st1.root x.1 false (eraseFn x.2)).isSome
      | _ => none) = some true ∧
    ((after2 exO).bind fun p => (finalizeTable p.1).bind fun st1 =>
      (ctableLine exO.length p.1 p.2).bind fun q => (finalizeTable q.1).map fun st3 =>
        ((nsItems id exO st1.root.items []).length, (nsItems id exO q.1.root.items []).length,
          (nsItems id exO st3.root.items []).length)) = some (2, 2, 3) := by decide +kernel

/-- `keyval_step_ord`: the key/value line after the out-of-order header passes `kvLineOkV` -/
example : ((after2 exO).bind fun p => (ctableLine exO.length p.1 p.2).map fun q =>
      kvLineOkV exO (parseWs exO.length q.1 q.2).1 (parseWs exO.length q.1 q.2).2 &&
      (ckeyvalLine exO.length (parseWs exO.length q.1 q.2).1 (parseWs exO.length q.1 q.2).2).isSome) = some true := by
  decide +kernel

/-- `clines_oinv`, `ord_doc_tiling`, `nestRunV_O`: the whole run -/
example : ordRunV exO = true ∧ nestRunV exO = false ∧ (parseCst exO).map (printDoc exO) = some exO ∧
    nestRunV (strBytes "[a]\n[a.b]\n[c]\n") = true ∧ ordRunV (strBytes "[a]\n[a.b]\n[c]\n") = true := by
  decide +kernel

end TomlVerif.Lemmas.Tiling03More
