import TomlVerif.Model.Doc
import TomlVerif.Lemmas.State09
import TomlVerif.Lemmas.Depth05
/-! The line driver of `Model/Doc.lean` read as two passes.  The first has no state: `linesS` only collects the
    statement of every line (`stmtsOfText` for a whole text).  The second is `State09.run`, the definition state
    machine over that list; `lines_factor` / `parseDocument_factor` say that the driver is the one followed by the
    other.  So what concerns the text alone is said about `stmtsOfText`, what concerns the tree alone about `run`, and
    an invariant of the parse state needs no walk through the driver: a predicate kept by every step on a statement a
    text can produce (`Scanned`) holds of the state `parseDocument` finalizes (`parseDocument_inv`). -/
namespace TomlVerif.Lemmas.SoundDoc01U
open TomlVerif TomlVerif.Spec TomlVerif.Model TomlVerif.Model.Strings TomlVerif.Model.Value
open TomlVerif.Model.State TomlVerif.Model.Doc TomlVerif.Lemmas.State09

/-- `parse_keyval` without the state callback: the statement of the line and the rest -/
def keyvalStmt (s : Bytes) : Option (Stmt × Bytes) :=
  match keyPath s with
  | .ok ks r =>
    if LIMIT ≤ ks.length - 1 then none else
    match r with
    | 0x3D :: r1 =>
      match value (3 * r1.length + 4) (ks.length - 1) (dropWs r1) with
      | .ok v r2 =>
        match lineTrailing r2 with
        | .ok () r3 =>
          match Value.splitLast ks with
          | some (path, key) => some (.kv path key v, r3)
          | none => none
        | _ => none
      | _ => none
    | _ => none
  | _ => none

/-- `table` without the state callback -/
def tableStmt (s : Bytes) : Option (Stmt × Bytes) :=
  match s with
  | 0x5B :: 0x5B :: r =>
    match keyPath r with
    | .ok ks r1 =>
      match r1 with
      | 0x5D :: 0x5D :: r2 =>
        match lineTrailing r2 with
        | .ok () r3 => some (.arr ks, r3)
        | _ => none
      | _ => none
    | _ => none
  | 0x5B :: r =>
    if r.isEmpty then none else
    match keyPath r with
    | .ok ks r1 =>
      match r1 with
      | 0x5D :: r2 =>
        match lineTrailing r2 with
        | .ok () r3 => some (.std ks, r3)
        | _ => none
      | _ => none
    | _ => none
  | _ => none

/-- the statement loop without the state -/
def linesS : Nat → Bytes → Option (List Stmt)
  | 0, _ => none
  | fuel + 1, s =>
    match s with
    | [] => some []
    | b :: r =>
      if b == 0x23 then
        let r1 := dropComment r
        match r1 with
        | [] => some []
        | _ => match newline? r1 with
          | some r2 => linesS fuel (dropWs r2)
          | none => none
      else if b == 0x5B then
        match tableStmt s with
        | some (x, r1) => (linesS fuel (dropWs r1)).map fun l => x :: l
        | none => none
      else if b == 0x0A || b == 0x0D then
        match newline? s with
        | some r1 => linesS fuel (dropWs r1)
        | none => none
      else
        match keyvalStmt s with
        | some (x, r1) => (linesS fuel (dropWs r1)).map fun l => x :: l
        | none => none

/-- the statement sequence of a text, if it has the shape of a document -/
def stmtsOfText (s : Bytes) : Option (List Stmt) :=
  let s1 := dropWs (stripBom s)
  linesS (s1.length + 1) s1

theorem linesS_nil (f : Nat) : linesS (f + 1) [] = some [] := rfl

theorem linesS_keyval (f : Nat) (b : UInt8) (t : Bytes) (h1 : b ≠ 0x23) (h2 : b ≠ 0x5B)
    (h3 : b ≠ 0x0A) (h4 : b ≠ 0x0D) :
    linesS (f + 1) (b :: t) = match keyvalStmt (b :: t) with
      | some (x, r1) => (linesS f (dropWs r1)).map fun l => x :: l
      | none => none := by
  conv => lhs; unfold linesS
  simp [h1, h2, h3, h4]

theorem linesS_table (f : Nat) (t : Bytes) :
    linesS (f + 1) (0x5B :: t) = match tableStmt (0x5B :: t) with
      | some (x, r1) => (linesS f (dropWs r1)).map fun l => x :: l
      | none => none := by
  conv => lhs; unfold linesS
  simp

theorem keyvalStmt_some_iff {s r3 : Bytes} {x : Stmt} :
    keyvalStmt s = some (x, r3) ↔
      ∃ ks r1 v r2 path key, keyPath s = .ok ks (0x3D :: r1) ∧ ks.length - 1 < LIMIT ∧
        value (3 * r1.length + 4) (ks.length - 1) (dropWs r1) = .ok v r2 ∧ lineTrailing r2 = .ok () r3 ∧
        Value.splitLast ks = some (path, key) ∧ x = .kv path key v := by
  constructor
  · intro h
    unfold keyvalStmt at h
    split at h
    · rename_i ks r0 hk
      split at h
      · cases h
      · rename_i hlim
        split at h
        · rename_i r1
          split at h
          · rename_i v r2 hv
            split at h
            · rename_i r3' hl
              split at h
              · rename_i path key hs
                injection h with h; injection h with h1 h2; subst h1 h2
                exact ⟨ks, r1, v, r2, path, key, hk, Nat.lt_of_not_le hlim, hv, hl, hs, rfl⟩
              · cases h
            · cases h
          · cases h
        · cases h
    · cases h
  · rintro ⟨ks, r1, v, r2, path, key, hk, hlim, hv, hl, hs, rfl⟩
    unfold keyvalStmt
    simp only [hk, Nat.not_le.2 hlim, if_false, hv, hl, hs]

theorem tableStmt_some_iff {s r3 : Bytes} {x : Stmt} :
    tableStmt s = some (x, r3) ↔
      (∃ t ks r2, s = 0x5B :: 0x5B :: t ∧ keyPath t = .ok ks (0x5D :: 0x5D :: r2) ∧ lineTrailing r2 = .ok () r3 ∧
        x = .arr ks) ∨
      (∃ t ks r2, s = 0x5B :: t ∧ (∀ t', t ≠ 0x5B :: t') ∧ keyPath t = .ok ks (0x5D :: r2) ∧
        lineTrailing r2 = .ok () r3 ∧ x = .std ks) := by
  constructor
  · intro h
    unfold tableStmt at h
    split at h
    · split at h
      · rename_i ks r1 hk
        split at h
        · split at h
          · rename_i r2 r3' hl
            injection h with h; injection h with h1 h2; subst h1 h2
            exact .inl ⟨_, ks, _, rfl, hk, hl, rfl⟩
          · cases h
        · cases h
      · cases h
    · rename_i hne
      split at h
      · cases h
      · split at h
        · rename_i ks r1 hk
          split at h
          · split at h
            · rename_i r2 r3' hl
              injection h with h; injection h with h1 h2; subst h1 h2
              exact .inr ⟨_, ks, _, rfl, fun t' e => hne t' (by rw [e]), hk, hl, rfl⟩
            · cases h
          · cases h
        · cases h
    · cases h
  · rintro (⟨t, ks, r2, rfl, hk, hl, rfl⟩ | ⟨t, ks, r2, rfl, hne, hk, hl, rfl⟩)
    · unfold tableStmt
      simp only [hk, hl]
    · have hr : t.isEmpty = false := by
        cases t with
        | nil => simp [keyPath, keyPathAux, dropWs, Key.simpleKey] at hk
        | cons b t => rfl
      unfold tableStmt
      split
      · rename_i t' heq
        injection heq with _ heq
        exact absurd heq (hne _)
      · rename_i t' heq
        injection heq with _ heq
        subst heq
        simp only [hr, hk, hl]
        simp
      · rename_i h1 h2
        exact absurd rfl (h2 t)

theorem keyvalLine_factor (st : ParseState) (s : Bytes) :
    keyvalLine st s = (keyvalStmt s).bind fun p => (step st p.1).map fun st' => (st', p.2) := by
  unfold keyvalLine keyvalStmt
  cases keyPath s with
  | ok ks r =>
    simp only []
    by_cases hl : LIMIT ≤ ks.length - 1
    · simp only [hl, if_true]; rfl
    · simp only [hl, if_false]
      cases r with
      | nil => rfl
      | cons b r1 =>
        by_cases hb : b = 0x3D
        · subst hb
          simp only []
          cases value (3 * r1.length + 4) (ks.length - 1) (dropWs r1) with
          | ok v r2 =>
            simp only []
            cases lineTrailing r2 with
            | ok u r3 =>
              simp only []
              cases Value.splitLast ks with
              | none => rfl
              | some p => rfl
            | bt => rfl
            | cut => rfl
          | bt => rfl
          | cut => rfl
        · simp [hb]
  | bt => rfl
  | cut => rfl

theorem tableLine_factor (st : ParseState) (s : Bytes) :
    tableLine st s = (tableStmt s).bind fun p => (step st p.1).map fun st' => (st', p.2) := by
  unfold tableLine tableStmt
  cases s with
  | nil => rfl
  | cons b r =>
    by_cases hb : b = 0x5B
    · subst hb
      cases r with
      | nil => rfl
      | cons c r' =>
        by_cases hc : c = 0x5B
        · subst hc
          simp only []
          cases keyPath r' with
          | ok ks r1 =>
            simp only []
            cases r1 with
            | nil => rfl
            | cons x r2 =>
              by_cases hx : x = 0x5D
              · subst hx
                cases r2 with
                | nil => rfl
                | cons y r3 =>
                  by_cases hy : y = 0x5D
                  · subst hy
                    simp only []
                    cases lineTrailing r3 with
                    | ok u r4 => rfl
                    | bt => rfl
                    | cut => rfl
                  · simp [hy]
              · simp [hx]
          | bt => rfl
          | cut => rfl
        · simp [hc]
          cases keyPath (c :: r') with
          | ok ks r1 =>
            simp only []
            cases r1 with
            | nil => rfl
            | cons x r2 =>
              by_cases hx : x = 0x5D
              · subst hx
                simp only []
                cases lineTrailing r2 with
                | ok u r3 => rfl
                | bt => rfl
                | cut => rfl
              · simp [hx]
          | bt => rfl
          | cut => rfl
    · simp [hb]

theorem step_of_factor (st st' : ParseState) (o : Option (Stmt × Bytes)) (r : Bytes)
    (h : (o.bind fun p => (step st p.1).map fun st1 => (st1, p.2)) = some (st', r)) :
    ∃ x, o = some (x, r) ∧ step st x = some st' := by
  cases o with
  | none => cases h
  | some p =>
    obtain ⟨x, r1⟩ := p
    rw [Option.bind_some] at h
    cases hs : step st x with
    | none => rw [hs] at h; cases h
    | some st1 =>
      rw [hs, Option.map_some] at h
      injection h with h
      injection h with h1 h2
      subst h1 h2
      exact ⟨x, rfl, hs⟩

theorem linesS_zero (s : Bytes) : linesS 0 s = none := by unfold linesS; rfl

theorem run_cons (st : ParseState) (x : Stmt) (l : List Stmt) : run st (x :: l) = (step st x).bind fun st' => run st' l := by
  show (match step st x with | some st' => run st' l | none => none) = _
  cases step st x <;> rfl

theorem factor_step (f : Nat) (st : ParseState) (ih : ∀ st s, lines f st s = (linesS f s).bind (run st))
    (o : Option (Stmt × Bytes)) :
    (match o.bind fun p => (step st p.1).map fun st' => (st', p.2) with
      | some (st', r1) => lines f st' (dropWs r1)
      | none => none) =
    (match o with
      | some (x, r1) => (linesS f (dropWs r1)).map fun l => x :: l
      | none => none).bind (run st) := by
  cases o with
  | none => rfl
  | some p =>
    obtain ⟨x, r1⟩ := p
    simp only [Option.bind_some]
    cases hs : step st x with
    | none =>
      simp only [Option.map_none]
      cases linesS f (dropWs r1) with
      | none => rfl
      | some l => show none = run st (x :: l); rw [run_cons, hs]; rfl
    | some st1 =>
      simp only [Option.map_some, ih st1]
      cases linesS f (dropWs r1) with
      | none => rfl
      | some l => show run st1 l = run st (x :: l); rw [run_cons, hs]; rfl

theorem lines_factor : ∀ (fuel : Nat) (st : ParseState) (s : Bytes),
    lines fuel st s = (linesS fuel s).bind (run st) := by
  intro fuel
  induction fuel with
  | zero => intro st s; rw [linesS_zero]; unfold lines; rfl
  | succ f ih =>
    intro st s
    cases s with
    | nil => rfl
    | cons b r =>
      rw [lines, linesS]
      simp only []
      by_cases h1 : (b == 0x23) = true
      · rw [if_pos h1, if_pos h1]
        cases dropComment r with
        | nil => rfl
        | cons c r1 =>
          simp only []
          cases newline? (c :: r1) with
          | none => rfl
          | some r2 => exact ih st _
      rw [if_neg h1, if_neg h1]
      by_cases h2 : (b == 0x5B) = true
      · rw [if_pos h2, if_pos h2, tableLine_factor]
        exact factor_step f st ih _
      rw [if_neg h2, if_neg h2]
      by_cases h3 : (b == 0x0A || b == 0x0D) = true
      · rw [if_pos h3, if_pos h3]
        cases newline? (b :: r) with
        | none => rfl
        | some r1 => exact ih st _
      rw [if_neg h3, if_neg h3, keyvalLine_factor]
      exact factor_step f st ih _

theorem parseDocument_factor (s : Bytes) :
    parseDocument s = (stmtsOfText s).bind fun l => (run {} l).bind intoDocument := by
  unfold parseDocument stmtsOfText
  simp only [lines_factor]
  cases linesS ((dropWs (stripBom s)).length + 1) (dropWs (stripBom s)) with
  | none => rfl
  | some l =>
    simp only [Option.bind_some]
    cases run {} l <;> rfl

end TomlVerif.Lemmas.SoundDoc01U

namespace TomlVerif.Lemmas.DocStmts
open TomlVerif TomlVerif.Spec TomlVerif.Model TomlVerif.Model.Strings TomlVerif.Model.Value
open TomlVerif.Model.State TomlVerif.Model.Doc TomlVerif.Lemmas.State09 TomlVerif.Lemmas.SoundDoc01U

/-- what the line scanner can produce: a key/value statement carries a value `value` returned at the depth of its
    dotted key, every key has fewer than `LIMIT` components -/
inductive Scanned : Stmt → Prop
  | kv {path : List Bytes} {key : Bytes} {v : Val} {fuel : Nat} {s r : Bytes} :
      path.length < LIMIT → value fuel path.length s = .ok v r → Scanned (.kv path key v)
  | std {ks : List Bytes} : ks ≠ [] → ks.length < LIMIT → Scanned (.std ks)
  | arr {ks : List Bytes} : ks ≠ [] → ks.length < LIMIT → Scanned (.arr ks)

theorem keyvalStmt_scanned {s r : Bytes} {x : Stmt} (h : keyvalStmt s = some (x, r)) : Scanned x := by
  obtain ⟨ks, r1, v, r2, path, key, _, hlim, hv, _, hs, rfl⟩ := keyvalStmt_some_iff.1 h
  have hl := Depth05.splitLast_length ks path key hs
  have e : ks.length - 1 = path.length := by omega
  rw [e] at hv hlim
  exact .kv hlim hv

theorem tableStmt_scanned {s r : Bytes} {x : Stmt} (h : tableStmt s = some (x, r)) : Scanned x := by
  rcases tableStmt_some_iff.1 h with ⟨t, ks, r2, _, hk, _, rfl⟩ | ⟨t, ks, r2, _, _, hk, _, rfl⟩
  · exact .arr (Suffix03.keyPath_ok hk).2.1 (Suffix03.keyPath_ok hk).2.2
  · exact .std (Suffix03.keyPath_ok hk).2.1 (Suffix03.keyPath_ok hk).2.2

theorem linesS_scanned : ∀ (fuel : Nat) (s : Bytes) (l : List Stmt), linesS fuel s = some l → ∀ x ∈ l, Scanned x := by
  intro fuel
  induction fuel with
  | zero => intro s l h; rw [linesS_zero] at h; cases h
  | succ f ih =>
    intro s l h
    have cons : ∀ {o : Option (Stmt × Bytes)}, (∀ x r, o = some (x, r) → Scanned x) →
        (match o with | some (x, r1) => (linesS f (dropWs r1)).map fun l => x :: l | none => none) = some l →
        ∀ x ∈ l, Scanned x := by
      intro o ho h
      cases o with
      | none => cases h
      | some p =>
        obtain ⟨x, r1⟩ := p
        simp only [] at h
        cases hr : linesS f (dropWs r1) with
        | none => rw [hr] at h; cases h
        | some l' =>
          rw [hr] at h; injection h with h; subst h
          intro y hy
          rcases List.mem_cons.1 hy with rfl | hy
          · exact ho _ _ rfl
          · exact ih _ _ hr y hy
    unfold linesS at h
    split at h
    · injection h with h; subst h; intro x hx; cases hx
    · rename_i b r
      split at h
      · simp only [] at h
        split at h
        · injection h with h; subst h; intro x hx; cases hx
        · split at h
          · exact ih _ _ h
          · cases h
      · split at h
        · exact cons (fun x r hx => tableStmt_scanned hx) h
        · split at h
          · split at h
            · exact ih _ _ h
            · cases h
          · exact cons (fun x r hx => keyvalStmt_scanned hx) h

section inv
variable {I : ParseState → Prop} (hI : ∀ st s st', I st → Scanned s → step st s = some st' → I st')
include hI

theorem run_inv : ∀ (ss : List Stmt) (st st' : ParseState), (∀ s ∈ ss, Scanned s) → I st → run st ss = some st' → I st' := by
  intro ss
  induction ss with
  | nil => intro st st' _ hi h; injection h with h; exact h ▸ hi
  | cons s r ih =>
    intro st st' hs hi h
    rw [run_cons] at h
    cases hst : step st s with
    | none => rw [hst] at h; cases h
    | some st1 =>
      rw [hst] at h
      exact ih st1 st' (fun x hx => hs x (List.mem_cons_of_mem _ hx)) (hI _ _ _ hi (hs s List.mem_cons_self) hst) h

theorem lines_inv (fuel : Nat) (st st' : ParseState) (s : Bytes) (hi : I st) (h : lines fuel st s = some st') : I st' := by
  rw [lines_factor] at h
  cases hl : linesS fuel s with
  | none => rw [hl] at h; cases h
  | some l => rw [hl] at h; exact run_inv hI l st st' (linesS_scanned fuel s l hl) hi h

theorem parseDocument_inv (h0 : I {}) {s : Bytes} {T : Tbl} (h : parseDocument s = some T) :
    ∃ st, I st ∧ intoDocument st = some T := by
  unfold parseDocument at h
  simp only [] at h
  split at h
  · rename_i st hl; exact ⟨st, lines_inv hI _ _ _ _ h0 hl, h⟩
  · cases h

end inv

end TomlVerif.Lemmas.DocStmts
