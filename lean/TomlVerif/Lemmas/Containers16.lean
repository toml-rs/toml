import TomlVerif.Model.Containers
import TomlVerif.Lemmas.Sort
/-! The model's `IndexMap` primitives (`imGet`, `imInsert`, `imShiftRemove`) are, at any slot type, the plain
    ordered map of the specification (`pget`, `pputEnd`, `premove`), and the reference map with reserved positions
    is that same map at slot type `Option V` (`slotOf = pget`, `put = pputEnd`).  What C16 needs of `abs` (a map
    over the slots that keeps the keys) and of `toml::Map` (slot type `Nat`) follows from that.  After it: where
    a configuration (`Fix`) agrees with `repaired`, the printers on placeholders, the comparators of the sorts, and
    `Kept`, the closure properties under which a property of the list survives every call. -/
namespace TomlVerif.Lemmas.Containers16
open TomlVerif.Spec.OrdMap TomlVerif.Model.Containers TomlVerif.Lemmas.Sort

section Primitives
variable {S T V : Type}

theorem imGet_eq (m : IMap S) (k : Nat) : imGet m k = pget m k := by
  induction m with
  | nil => rfl
  | cons e m ih =>
    simp only [pget, List.find?, imGet] at *
    by_cases h : e.1 == k <;> simp [h, ih]

theorem imShiftRemove_eq (m : IMap S) (k : Nat) : imShiftRemove m k = (premove m k, imGet m k) := by
  induction m with
  | nil => rfl
  | cons e m ih =>
    simp only [imShiftRemove, premove, imGet] at *
    by_cases hk : e.1 == k <;> simp [hk, ih]

theorem imSet_eq (m : IMap S) (k : Nat) (s : S) (h : (imGet m k).isSome) : imSet m k s = pputEnd m k s := by
  induction m with
  | nil => simp [imGet] at h
  | cons e m ih =>
    simp only [imSet, pputEnd]
    by_cases hk : e.1 == k
    · simp [hk]
    · simp only [imGet, hk] at h
      simp [hk, ih h]

theorem imPush_eq (m : IMap S) (k : Nat) (s : S) (h : imGet m k = none) : imPush m k s = pputEnd m k s := by
  induction m with
  | nil => rfl
  | cons e m ih =>
    simp only [pputEnd]
    by_cases hk : e.1 == k
    · simp [imGet, hk] at h
    · simp only [imGet, hk] at h
      have := ih h
      simp only [imPush] at this ⊢
      simp [hk, this]

theorem imInsert_eq (m : IMap S) (k : Nat) (s : S) : imInsert m k s = (pputEnd m k s, imGet m k) := by
  unfold imInsert
  cases h : imGet m k with
  | none => rw [imPush_eq m k s h]
  | some old => rw [imSet_eq m k s (by simp [h])]

theorem put_eq (m : RMap V) (k : Nat) (o : Option V) : put m k o = pputEnd m k o := by
  induction m with
  | nil => rfl
  | cons e m ih => simp only [put, pputEnd, ih]

theorem pputEnd_map (f : S → T) (m : PMap S) (k : Nat) (s : S) :
    pputEnd (m.map fun e => (e.1, f e.2)) k (f s) = (pputEnd m k s).map fun e => (e.1, f e.2) := by
  induction m with
  | nil => rfl
  | cons e m ih =>
    simp only [List.map_cons, pputEnd]
    by_cases hk : e.1 == k <;> simp [hk, ih]

theorem imGet_key_mem (m : IMap S) (k : Nat) (s : S) (h : imGet m k = some s) : (k, s) ∈ m := by
  rw [imGet_eq, pget, Option.map_eq_some_iff] at h
  obtain ⟨e, he, rfl⟩ := h
  have hk := List.find?_some he
  rw [← (beq_iff_eq.1 hk : e.1 = k)]
  exact List.mem_of_find?_eq_some he

theorem imGet_eq_none (m : IMap S) (k : Nat) : imGet m k = none ↔ k ∉ m.map (·.1) := by
  rw [imGet_eq, pget, Option.map_eq_none_iff, List.find?_eq_none]
  simp only [beq_iff_eq, List.mem_map, not_exists, not_and]

theorem premove_of_none (m : IMap S) (k : Nat) (h : imGet m k = none) : premove m k = m :=
  List.eraseP_of_forall_not fun e he hk => (imGet_eq_none m k).1 h (List.mem_map.2 ⟨e, he, beq_iff_eq.1 hk⟩)

theorem mem_imSet (m : IMap S) (k : Nat) (s : S) (e : Nat × S) (h : e ∈ imSet m k s) :
    e ∈ m ∨ e.2 = s := by
  induction m with
  | nil => simp [imSet] at h
  | cons x m ih =>
    simp only [imSet] at h
    by_cases hk : x.1 == k
    · simp only [hk, ↓reduceIte, List.mem_cons] at h
      rcases h with h | h
      · right; rw [h]
      · left; simp [h]
    · simp only [hk, Bool.false_eq_true, ↓reduceIte, List.mem_cons] at h
      rcases h with h | h
      · left; simp [h]
      · rcases ih h with h | h
        · left; simp [h]
        · right; exact h

theorem keys_imSet (m : IMap S) (k : Nat) (s : S) : (imSet m k s).map (·.1) = m.map (·.1) := by
  induction m with
  | nil => rfl
  | cons e m ih =>
    simp only [imSet]
    by_cases hk : e.1 == k <;> simp [hk, ih]

theorem imGet_imSet_self (m : IMap S) (k : Nat) (s : S) (h : (imGet m k).isSome) :
    imGet (imSet m k s) k = some s := by
  induction m with
  | nil => simp [imGet] at h
  | cons e m ih =>
    simp only [imSet]
    by_cases hk : e.1 == k
    · simp [hk, imGet]
    · simp only [imGet, hk] at h
      simp [hk, imGet, ih h]

theorem imSet_imSet {S : Type} (m : IMap S) (k : Nat) (s t : S) : imSet (imSet m k s) k t = imSet m k t := by
  induction m with
  | nil => rfl
  | cons e m ih =>
    simp only [imSet]
    by_cases hk : e.1 == k
    · simp [hk, imSet]
    · simp [hk, imSet, ih]

end Primitives

/-- `Item::None` ↦ reserved position -/
def slotOpt : Slot → Option Val
  | .placeholder => none
  | .item v => some v

def absE (e : Nat × Slot) : Nat × Option Val := (e.1, slotOpt e.2)

/-- abstraction: the model's `IndexMap<Key, Item>` as a reference map with reserved positions -/
def abs (m : Items) : RMap Val := m.map absE

def optSlot (o : Option Val) : Option Slot := o.map Slot.item

@[simp] theorem abs_nil : abs [] = [] := rfl
@[simp] theorem abs_cons (e : Nat × Slot) (m : Items) : abs (e :: m) = absE e :: abs m := rfl
@[simp] theorem absE_fst (e : Nat × Slot) : (absE e).1 = e.1 := rfl
@[simp] theorem absE_snd (e : Nat × Slot) : (absE e).2 = slotOpt e.2 := rfl
theorem abs_append (a b : Items) : abs (a ++ b) = abs a ++ abs b := by simp [abs]

theorem slotOf_abs (m : Items) (k : Nat) : slotOf (abs m) k = (imGet m k).map slotOpt := by
  rw [imGet_eq]; simp [slotOf, pget, abs, absE, List.find?_map, Function.comp_def]

theorem hasPos_abs (m : Items) (k : Nat) : hasPos (abs m) k = (imGet m k).isSome := by
  simp [hasPos, slotOf_abs]

theorem get_abs (m : Items) (k : Nat) : get (abs m) k = (imGet m k).bind slotOpt := by
  unfold TomlVerif.Spec.OrdMap.get
  rw [slotOf_abs]
  cases imGet m k <;> rfl

/-- the three states of a key: no position, a reserved position (`Item::None`), a value -/
theorem slot_cases (m : Items) (k : Nat) :
    (imGet m k = none ∧ get (abs m) k = none) ∨
    (imGet m k = some .placeholder ∧ get (abs m) k = none) ∨
    ∃ v, imGet m k = some (.item v) ∧ get (abs m) k = some v := by
  have hg := get_abs m k
  cases h : imGet m k with
  | none => rw [h] at hg; exact Or.inl ⟨rfl, hg⟩
  | some s =>
    rw [h] at hg
    cases s with
    | placeholder => exact Or.inr (Or.inl ⟨rfl, hg⟩)
    | item v => exact Or.inr (Or.inr ⟨v, rfl, hg⟩)

theorem optSlot_get_abs (m : Items) (k : Nat) : optSlot (get (abs m) k) = vis (imGet m k) := by
  rw [get_abs]
  cases h : imGet m k with
  | none => rfl
  | some s => cases s <;> rfl

theorem contains_abs (m : Items) (k : Nat) : contains (abs m) k = dHas m k := by
  simp only [contains, get_abs, dHas]
  cases h : imGet m k with
  | none => rfl
  | some s => cases s <;> rfl

theorem put_abs (m : Items) (k : Nat) (s : Slot) : put (abs m) k (slotOpt s) = abs (pputEnd m k s) := by
  rw [put_eq]; exact pputEnd_map slotOpt m k s

theorem put_abs_set (m : Items) (k : Nat) (s : Slot) (h : (imGet m k).isSome) :
    put (abs m) k (slotOpt s) = abs (imSet m k s) := by
  rw [imSet_eq m k s h, put_abs]

theorem put_abs_push (m : Items) (k : Nat) (s : Slot) (h : imGet m k = none) :
    put (abs m) k (slotOpt s) = abs (imPush m k s) := by
  rw [imPush_eq m k s h, put_abs]

theorem eraseP_abs (m : Items) (k : Nat) : (abs m).eraseP (fun e => e.1 == k) = abs (premove m k) :=
  by simp [abs, premove, List.eraseP_map, Function.comp_def]

theorem reserve_abs (m : Items) (k : Nat) (h : imGet m k = none) :
    reserve (abs m) k = abs (imPush m k .placeholder) := by
  unfold reserve
  rw [hasPos_abs, h]
  simp [imPush, abs, absE, slotOpt]

theorem reserve_abs_some (m : Items) (k : Nat) (s : Slot) (h : imGet m k = some s) :
    reserve (abs m) k = abs m := by
  unfold reserve
  rw [hasPos_abs, h]
  simp

theorem entries_abs (m : Items) :
    (entries (abs m)).map (fun e => (e.1, Slot.item e.2)) = iterVis m := by
  simp only [entries, abs, iterVis, List.filterMap_map, List.map_filterMap, ← List.filterMap_eq_filter]
  congr 1
  funext ⟨k, s⟩
  cases s <;> rfl

theorem len_abs (m : Items) : len (abs m) = (iterVis m).length := by
  rw [← entries_abs]; simp [len]

theorem keys_abs (m : Items) : keys (abs m) = (iterVis m).map (·.1) := by
  rw [← entries_abs]; simp [keys, Function.comp_def]

theorem iterVis_idem (m : Items) : iterVis (iterVis m) = iterVis m := by
  simp [iterVis, List.filter_filter]

theorem isEmpty_abs (m : Items) : isEmpty (abs m) = ((iterVis m).length == 0) := by
  rw [← entries_abs]
  simp only [isEmpty, List.length_map]
  cases entries (abs m) <;> rfl

theorem sortKeys_abs (m : Items) : abs (imSortKeys m) = sortKeys (abs m) := by
  unfold abs imSortKeys sortKeys
  exact (stableSort_is fun a b : Nat × Slot => decide (a.1 ≤ b.1)).map (stableSort_is _) absE (fun _ _ => rfl) m

theorem extend_abs (kvs : List (Nat × Val)) (m : Items) :
    extend (abs m) kvs = abs (imExtend m (kvs.map fun kv => (kv.1, Slot.item kv.2))) := by
  induction kvs generalizing m with
  | nil => rfl
  | cons kv kvs ih =>
    simp only [extend, List.foldl_cons, imExtend, List.map_cons, imInsert_eq] at *
    rw [show some kv.2 = slotOpt (.item kv.2) from rfl, put_abs]
    exact ih _

theorem filter_abs (p : Nat × Slot → Bool) (q : Nat × Option Val → Bool) (h : ∀ e, p e = q (absE e)) (m : Items) :
    abs (m.filter p) = (abs m).filter q := by
  rw [abs, abs, List.filter_map, (funext h : p = q ∘ absE)]

theorem map_insertIdx {α β : Type} (f : α → β) (l : List α) (i : Nat) (x : α) :
    (l.insertIdx i x).map f = (l.map f).insertIdx i (f x) := by
  induction l generalizing i with
  | nil => cases i <;> simp [List.insertIdx_zero, List.insertIdx_succ_nil]
  | cons y ys ih =>
    cases i with
    | zero => simp [List.insertIdx_zero]
    | succ i => simp [List.insertIdx_succ_cons, ih]

theorem map_eraseIdx {α β : Type} (f : α → β) (l : List α) (i : Nat) :
    (l.eraseIdx i).map f = (l.map f).eraseIdx i := by
  induction l generalizing i with
  | nil => simp
  | cons y ys ih =>
    cases i with
    | zero => simp
    | succ i => simp [List.eraseIdx_cons_succ, ih]

theorem btInsert_fst_eq (m : MapImpl) (k v : Nat) : (btInsert m k v).1 = pputSorted m k v := by
  induction m with
  | nil => rfl
  | cons e m ih =>
    simp only [btInsert, pputSorted]
    by_cases h1 : k < e.1
    · simp [h1]
    · by_cases h2 : e.1 == k <;> simp [h1, h2, ih]

theorem mInsert_fst (sorted : Bool) (m : MapImpl) (k v : Nat) : (mInsert sorted m k v).1 = pput sorted m k v := by
  cases sorted <;> simp [mInsert, pput, imInsert_eq, btInsert_fst_eq]

theorem strictSorted_cons (e : Nat × Nat) (m : MapImpl) :
    StrictSorted (e :: m) ↔ (∀ x ∈ m, e.1 < x.1) ∧ StrictSorted m := by
  unfold StrictSorted
  exact List.pairwise_cons

theorem btInsert_snd_eq (m : MapImpl) (k v : Nat) (hs : StrictSorted m) : (btInsert m k v).2 = pget m k := by
  rw [← imGet_eq]
  induction m with
  | nil => rfl
  | cons e m ih =>
    rw [strictSorted_cons] at hs
    simp only [btInsert]
    by_cases h1 : k < e.1
    · simp only [h1, ↓reduceIte]
      symm
      rw [imGet_eq_none]
      intro hk
      obtain ⟨x, hx, rfl⟩ := List.mem_map.1 hk
      simp only [List.mem_cons] at hx
      rcases hx with rfl | hx
      · omega
      · have := hs.1 x hx; omega
    · by_cases h2 : e.1 == k
      · simp [h1, h2, imGet]
      · simp [h1, h2, imGet, ih hs.2]

theorem mem_pputSorted (m : MapImpl) (k v : Nat) (x : Nat × Nat) (h : x ∈ pputSorted m k v) : x.1 = k ∨ x ∈ m := by
  induction m with
  | nil => simp [pputSorted] at h; left; rw [h]
  | cons e m ih =>
    simp only [pputSorted] at h
    by_cases h1 : k < e.1
    · simp only [h1, ↓reduceIte, List.mem_cons] at h
      rcases h with h | h | h
      · left; rw [h]
      · right; simp [h]
      · right; simp [h]
    · by_cases h2 : e.1 == k
      · simp only [h1, h2, ↓reduceIte, List.mem_cons] at h
        rcases h with h | h
        · left; rw [h]; simpa using h2
        · right; simp [h]
      · simp only [h1, h2, Bool.false_eq_true, ↓reduceIte, List.mem_cons] at h
        rcases h with h | h
        · right; simp [h]
        · rcases ih h with h | h
          · left; exact h
          · right; simp [h]

theorem strictSorted_pputSorted (m : MapImpl) (k v : Nat) (hs : StrictSorted m) : StrictSorted (pputSorted m k v) := by
  induction m with
  | nil => simp [pputSorted, StrictSorted]
  | cons e m ih =>
    have hs' := (strictSorted_cons e m).1 hs
    simp only [pputSorted]
    by_cases h1 : k < e.1
    · simp only [h1, ↓reduceIte]
      rw [strictSorted_cons]
      refine ⟨?_, hs⟩
      intro x hx
      simp only [List.mem_cons] at hx
      rcases hx with hx | hx
      · rw [hx]; exact h1
      · have := hs'.1 x hx; simp only; omega
    · by_cases h2 : e.1 == k
      · simp only [h1, h2, ↓reduceIte]
        rw [strictSorted_cons]
        exact ⟨hs'.1, hs'.2⟩
      · simp only [h1, h2, Bool.false_eq_true, ↓reduceIte]
        rw [strictSorted_cons]
        refine ⟨?_, ih hs'.2⟩
        intro x hx
        rcases mem_pputSorted m k v x hx with hx | hx
        · have : e.1 ≠ k := by simpa using h2
          omega
        · exact hs'.1 x hx

theorem imSet_eq_pputSorted (m : MapImpl) (k v : Nat) (hs : StrictSorted m) (h : (imGet m k).isSome) :
    imSet m k v = pputSorted m k v := by
  induction m with
  | nil => simp [imGet] at h
  | cons e m ih =>
    have hs' := (strictSorted_cons e m).1 hs
    simp only [imSet, pputSorted]
    by_cases h2 : e.1 == k
    · have : ¬ k < e.1 := by have : e.1 = k := by simpa using h2
                             omega
      simp [h2, this]
    · simp only [imGet, h2, Bool.false_eq_true, ↓reduceIte] at h
      have hlt : ¬ k < e.1 := by
        cases hg : imGet m k with
        | none => simp [hg] at h
        | some x =>
          have hk := imGet_key_mem m k x hg
          have := hs'.1 _ hk
          simp only at this; omega
      simp [h2, hlt, ih hs'.2 h]

theorem entryOf_of_ne (fx : Fix) (d : Dialect) (m : Items) (k : Nat) (h : imGet m k ≠ some .placeholder) :
    entryOf fx d m k = (imGet m k, m) := by
  unfold entryOf
  cases hg : imGet m k with
  | none => rfl
  | some s => cases s with
    | placeholder => exact absurd hg h
    | item v => rfl

theorem entryOf_repaired (d : Dialect) (m : Items) (k : Nat) : entryOf repaired d m k = (vis (imGet m k), m) := by
  unfold entryOf
  cases hg : imGet m k with
  | none => rfl
  | some s => cases s with
    | placeholder => cases d <;> rfl
    | item v => rfl

theorem entryOf_state (fx : Fix) (d : Dialect) (m : Items) (k : Nat) :
    (entryOf fx d m k).2 = m ∨ ((imGet m k).isSome ∧ (entryOf fx d m k).2 = imSet m k (.item .tbl)) := by
  unfold entryOf
  cases hg : imGet m k with
  | none => exact Or.inl rfl
  | some s => cases s with
    | placeholder =>
      cases d <;> cases fx.entOcc <;> cases fx.inlineEntry <;> first | exact Or.inl rfl | exact Or.inr ⟨rfl, rfl⟩
    | item v => exact Or.inl rfl

theorem orInsertStep_of_ne (fx : Fix) (d : Dialect) (m : Items) (k n : Nat) (h : imGet m k ≠ some .placeholder) :
    orInsertStep fx d m k n = orInsertStep repaired d m k n := by
  unfold orInsertStep
  cases hg : imGet m k with
  | none => rfl
  | some s => cases s with
    | placeholder => exact absurd hg h
    | item v => rfl

theorem orInsertStep_afterPatches (d : Dialect) (m : Items) (k n : Nat) (h : (d == .inline) = false) :
    orInsertStep afterPatches d m k n = orInsertStep repaired d m k n := by
  simp only [orInsertStep]
  cases hg : imGet m k with
  | none => rfl
  | some s => cases s with
    | placeholder => cases d <;> first | rfl | simp at h
    | item v => rfl

theorem goiStep_eq_orInsertStep (fx : Fix) (m : Items) (k n : Nat) (h : fx.goi = true) :
    goiStep fx m k n = orInsertStep repaired .inline m k n := by
  unfold goiStep orInsertStep
  cases hg : imGet m k with
  | none => rfl
  | some s => cases s with
    | placeholder => simp [h, repaired]
    | item v => rfl

theorem goiStep_of_ne (fx : Fix) (m : Items) (k n : Nat) (h : imGet m k ≠ some .placeholder) :
    goiStep fx m k n = goiStep repaired m k n := by
  unfold goiStep
  cases hg : imGet m k with
  | none => rfl
  | some s => cases s with
    | placeholder => exact absurd hg h
    | item v => rfl

theorem goiStep_state (fx : Fix) (m : Items) (k n : Nat) :
    (goiStep fx m k n).2 = m ∨
    ((imGet m k).isSome ∧ (goiStep fx m k n).2 = imSet m k (.item (.int n))) ∨
    (imGet m k = none ∧ (goiStep fx m k n).2 = imPush m k (.item (.int n))) := by
  unfold goiStep
  cases hg : imGet m k with
  | none => exact Or.inr (Or.inr ⟨rfl, rfl⟩)
  | some s => cases s with
    | placeholder => cases fx.goi <;> first | exact Or.inl rfl | exact Or.inr (Or.inl ⟨rfl, rfl⟩)
    | item v => exact Or.inl rfl

theorem oldRet_repaired (d : Dialect) (o : Option Slot) : oldRet repaired d o = vis o := by
  unfold oldRet
  cases d <;> rfl

theorem dIter_repaired (d : Dialect) (m : Items) : dIter repaired d m = iterVis m := by
  cases d <;> simp [dIter, repaired]

theorem dLen_repaired (d : Dialect) (m : Items) : dLen repaired d m = (iterVis m).length := by
  cases d <;> simp [dLen, dIter_repaired, Dialect.isLike, iterVis_idem]

theorem dGet_repaired (d : Dialect) (m : Items) (k : Nat) : dGet repaired d m k = vis (imGet m k) := by
  cases d <;> simp [dGet, repaired]

theorem oldRet_eq (fx : Fix) (d : Dialect) (o : Option Slot) (ho : vis o = o) :
    oldRet fx d o = oldRet repaired d o := by
  unfold oldRet
  cases d.isTable <;> cases fx.insRet <;> simp [ho, repaired]

theorem orInsert_refines (d : Dialect) (m : Items) (k n : Nat) :
    (Ret.slot (.item (orInsert (abs m) k (.int n)).2), (orInsert (abs m) k (.int n)).1) =
      ((orInsertStep repaired d m k n).1, abs (orInsertStep repaired d m k n).2) := by
  simp only [orInsertStep, orInsert]
  rcases slot_cases m k with ⟨h, hg⟩ | ⟨h, hg⟩ | ⟨v, h, hg⟩ <;> simp only [h, hg]
  · exact congrArg _ (put_abs_push m k (.item (.int n)) h)
  · cases d <;> exact congrArg _ (put_abs_set m k (.item (.int n)) (by simp [h]))

theorem valuesOf_iterVis (m : Items) : valuesOf (iterVis m) = valuesOf m := by
  induction m with
  | nil => rfl
  | cons e m ih =>
    obtain ⟨k, s⟩ := e
    cases s with
    | placeholder => simpa [iterVis, valuesOf, Slot.isNone] using ih
    | item v => simpa [iterVis, valuesOf, Slot.isNone] using ih

theorem printTable_iterVis (m : Items) : printTable (iterVis m) = printTable m := by
  induction m with
  | nil => rfl
  | cons e m ih =>
    obtain ⟨k, s⟩ := e
    cases s with
    | placeholder => simpa [iterVis, printTable, Slot.isNone] using ih
    | item v => simpa [iterVis, printTable, Slot.isNone] using ih

theorem printInline_iterVis (m : Items) : printInline (iterVis m) = printInline m := by
  simp [printInline, valuesOf_iterVis]

theorem optLe_refl (o : Option Nat) : optLe o o = true := by
  cases o <;> simp [optLe]

theorem optLe_total (a b : Option Nat) : optLe a b = true ∨ optLe b a = true := by
  cases a <;> cases b <;> simp [optLe]; omega

theorem optLe_trans (a b c : Option Nat) (h1 : optLe a b = true) (h2 : optLe b c = true) : optLe a c = true := by
  cases a <;> cases b <;> cases c <;> simp_all [optLe]; omega

theorem leInline_total (a b : Nat × Slot) : leInline a b = true ∨ leInline b a = true := by
  obtain ⟨ka, sa⟩ := a
  obtain ⟨kb, sb⟩ := b
  cases sa <;> cases sb <;> simp [leInline]
  exact optLe_total _ _

theorem leInline_trans (a b c : Nat × Slot) (h1 : leInline a b = true) (h2 : leInline b c = true) :
    leInline a c = true := by
  obtain ⟨ka, sa⟩ := a
  obtain ⟨kb, sb⟩ := b
  obtain ⟨kc, sc⟩ := c
  cases sa <;> cases sb <;> cases sc <;> simp_all [leInline]
  exact optLe_trans _ _ _ h2 h1

/-! A property of the association list that survives the primitives of the `IndexMap` — writing a slot at a
key's position, appending a slot under a key that has no position, dropping entries, reordering —
survives every call.  `P` says which slots may be written; `&mut c[k]` is the one call that writes a
placeholder. -/

structure Kept (P : Slot → Prop) (I : Items → Prop) : Prop where
  set : ∀ m k s, I m → P s → I (imSet m k s)
  push : ∀ m k s, I m → P s → imGet m k = none → I (imPush m k s)
  sub : ∀ m m', I m → m'.Sublist m → I m'
  perm : ∀ m m', I m → m'.Perm m → I m'

section KeptLemmas
variable {P : Slot → Prop} {I : Items → Prop} (hI : Kept P I)
include hI

theorem Kept.insert {m : Items} (h : I m) (k : Nat) {s : Slot} (hs : P s) : I (imInsert m k s).1 := by
  unfold imInsert
  cases hg : imGet m k with
  | none => exact hI.push m k s h hs hg
  | some _ => exact hI.set m k s h hs

theorem Kept.remove {m : Items} (h : I m) (k : Nat) : I (imShiftRemove m k).1 := by
  rw [imShiftRemove_eq]
  exact hI.sub _ _ h List.eraseP_sublist

theorem Kept.extend (kvs : List (Nat × Slot)) (hkvs : ∀ e ∈ kvs, P e.2) {m : Items} (h : I m) : I (imExtend m kvs) := by
  induction kvs generalizing m with
  | nil => exact h
  | cons kv kvs ih =>
    simp only [imExtend, List.foldl_cons] at ih ⊢
    exact ih (fun e he => hkvs e (List.mem_cons_of_mem _ he)) (hI.insert h kv.1 (hkvs kv (List.mem_cons_self ..)))

theorem Kept.orInsert (hP : ∀ v, P (.item v)) (fx : Fix) (d : Dialect) {m : Items} (h : I m) (k n : Nat) :
    I (orInsertStep fx d m k n).2 := by
  simp only [orInsertStep]
  cases hg : imGet m k with
  | none => exact hI.push m k _ h (hP _) hg
  | some s => cases s with
    | placeholder =>
      cases d <;> cases fx.entry <;> cases fx.inlineEntry <;> first | exact h | exact hI.set m k _ h (hP _)
    | item v => exact h

theorem Kept.entryOf (hP : ∀ v, P (.item v)) (fx : Fix) (d : Dialect) {m : Items} (h : I m) (k : Nat) :
    I (entryOf fx d m k).2 := by
  rcases entryOf_state fx d m k with he | ⟨_, he⟩
  · rw [he]; exact h
  · rw [he]; exact hI.set m k _ h (hP _)

theorem Kept.step (hP : ∀ v, P (.item v)) (fx : Fix) (d : Dialect) {m : Items} (h : I m) (op : Op)
    (hop : ∀ k, op = .idxmut k → P .placeholder) : I (step fx d m op).2 := by
  cases op with
  | ins k n => exact hI.insert h k (hP _)
  | insf k n =>
    simp only [Model.Containers.step]
    cases d.isLike
    · exact hI.insert h k (hP _)
    · exact h
  | rem k => exact hI.remove h k
  | reme k =>
    simp only [Model.Containers.step]
    cases d.isLike
    · exact hI.remove h k
    · exact h
  | hasv k | hast k => cases d <;> exact h
  | clear => exact hI.sub _ _ h (List.nil_sublist m)
  | entry k n | entwith k n => exact hI.orInsert hP fx d h k n
  | entrem k =>
    simp only [Model.Containers.step]
    have he := hI.entryOf hP fx d h k
    cases (Model.Containers.entryOf fx d m k).1 with
    | none => exact he
    | some s => exact hI.remove he k
  | entins k n =>
    simp only [Model.Containers.step]
    have he := hI.entryOf hP fx d h k
    cases (Model.Containers.entryOf fx d m k).1 with
    | none => exact hI.insert he k (hP _)
    | some s => exact hI.set _ k _ he (hP _)
  | entget k | entkey k => exact hI.entryOf hP fx d h k
  | entmut k n =>
    simp only [Model.Containers.step]
    have he := hI.entryOf hP fx d h k
    cases (Model.Containers.entryOf fx d m k).1 with
    | none => exact he
    | some s => exact hI.set _ k _ he (hP _)
  | entocc k =>
    simp only [Model.Containers.step]
    cases hg : imGet m k with
    | none => exact h
    | some s => cases s with
      | placeholder =>
        cases d <;> cases fx.entOcc <;> cases fx.inlineEntry <;> first | exact h | exact hI.set m k _ h (hP _)
      | item v => exact h
  | goi k n =>
    cases d
    case inline =>
      simp only [Model.Containers.step]
      rcases goiStep_state fx m k n with he | ⟨_, he⟩ | ⟨hg, he⟩
      · rw [he]; exact h
      · rw [he]; exact hI.set m k _ h (hP _)
      · rw [he]; exact hI.push m k _ h (hP _) hg
    all_goals exact h
  | idx k =>
    simp only [Model.Containers.step]
    cases vis (imGet m k) <;> exact h
  | idxmut k =>
    simp only [Model.Containers.step]
    cases hg : imGet m k with
    | none => exact hI.push m k _ h (hop k rfl) hg
    | some s => exact h
  | idxset k n =>
    simp only [Model.Containers.step]
    cases hg : imGet m k with
    | none => exact hI.push m k _ h (hP _) hg
    | some _ => exact hI.set m k _ h (hP _)
  | retain =>
    cases d
    · exact hI.sub _ _ h List.filter_sublist
    · exact h
    · exact hI.sub _ _ h List.filter_sublist
    · exact h
  | sort => exact hI.perm _ _ h ((stableSort_is _).perm m)
  | sortby =>
    cases d
    · exact hI.perm _ _ h ((stableSort_is _).perm m)
    · exact h
    · exact hI.perm _ _ h ((stableSort_is _).perm m)
    · exact h
  | extend args =>
    simp only [Model.Containers.step]
    cases d.isLike
    · exact hI.extend _ (fun e he => by obtain ⟨kn, _, rfl⟩ := List.mem_map.1 he; exact hP _) h
    · exact h
  | _ => exact h

theorem Kept.run (hP : ∀ v, P (.item v)) (fx : Fix) (d : Dialect) (ops : List Op)
    (hops : ∀ op ∈ ops, ∀ k, op = .idxmut k → P .placeholder) {m : Items} (h : I m) :
    I (Model.Containers.run fx d m ops).2 := by
  induction ops generalizing m with
  | nil => exact h
  | cons op ops ih =>
    exact ih (fun o ho => hops o (List.mem_cons_of_mem _ ho)) (hI.step hP fx d h op (hops op List.mem_cons_self))

end KeptLemmas

end TomlVerif.Lemmas.Containers16
