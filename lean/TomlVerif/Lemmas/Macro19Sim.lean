import TomlVerif.Lemmas.Macro19bRef
/-! C19: characterisation of `Sim` (equality of `toml::Value`s with tables compared as maps): it is an
    equivalence relation, it is equality on scalars, element-wise on arrays, lookup-wise on tables; and the
    operations the macro uses on tables and arrays (`aset`, append of an element) respect it. -/
namespace TomlVerif.Lemmas.Macro19b
open TomlVerif TomlVerif.Model TomlVerif.Model.Macro TomlVerif.Model.State TomlVerif.Lemmas.State09

theorem optRel_refl {r : MVal → MVal → Prop} (h : ∀ a, r a a) (x : Option MVal) : OptRel r x x := by
  cases x with
  | none => trivial
  | some a => exact h a

theorem optRel_symm {r : MVal → MVal → Prop} (h : ∀ a b, r a b → r b a) (x y : Option MVal)
    (hxy : OptRel r x y) : OptRel r y x := by
  cases x <;> cases y <;> simp only [OptRel] at hxy ⊢
  exact h _ _ hxy

theorem optRel_trans {r : MVal → MVal → Prop} (h : ∀ a b c, r a b → r b c → r a c) (x y z : Option MVal)
    (hxy : OptRel r x y) (hyz : OptRel r y z) : OptRel r x z := by
  cases x <;> cases y <;> cases z <;> simp only [OptRel] at hxy hyz ⊢
  exact h _ _ _ hxy hyz

theorem optRel_mono {r s : MVal → MVal → Prop} (h : ∀ a b, r a b → s a b) (x y : Option MVal)
    (hxy : OptRel r x y) : OptRel s x y := by
  cases x <;> cases y <;> simp only [OptRel] at hxy ⊢
  exact h _ _ hxy

theorem listRel_refl {r : MVal → MVal → Prop} (h : ∀ a, r a a) (xs : List MVal) : ListRel r xs xs := by
  induction xs with
  | nil => trivial
  | cons a x ih => exact ⟨h a, ih⟩

theorem listRel_induct {r : MVal → MVal → Prop} {P : List MVal → List MVal → Prop} (nil : P [] [])
    (cons : ∀ a b x y, r a b → ListRel r x y → P x y → P (a :: x) (b :: y)) :
    ∀ xs ys, ListRel r xs ys → P xs ys
  | [], [], _ => nil
  | a :: x, b :: y, h => cons a b x y h.1 h.2 (listRel_induct nil cons x y h.2)
  | [], _ :: _, h => h.elim
  | _ :: _, [], h => h.elim

theorem listRel_symm {r : MVal → MVal → Prop} (h : ∀ a b, r a b → r b a) (xs ys : List MVal)
    (hxy : ListRel r xs ys) : ListRel r ys xs :=
  listRel_induct (P := fun xs ys => ListRel r ys xs) trivial (fun _ _ _ _ hab _ ih => ⟨h _ _ hab, ih⟩) xs ys hxy

theorem listRel_trans {r : MVal → MVal → Prop} (h : ∀ a b c, r a b → r b c → r a c) (xs ys zs : List MVal)
    (hxy : ListRel r xs ys) (hyz : ListRel r ys zs) : ListRel r xs zs := by
  refine listRel_induct (P := fun xs ys => ∀ zs, ListRel r ys zs → ListRel r xs zs) (fun _ hz => hz) ?_ xs ys hxy zs hyz
  intro a b x y hab _ ih zs hz
  cases zs with
  | nil => exact hz.elim
  | cons c z => exact ⟨h _ _ _ hab hz.1, ih z hz.2⟩

theorem listRel_mono {r s : MVal → MVal → Prop} (h : ∀ a b, r a b → s a b) (xs ys : List MVal)
    (hxy : ListRel r xs ys) : ListRel s xs ys :=
  listRel_induct (P := ListRel s) trivial (fun _ _ _ _ hab _ ih => ⟨h _ _ hab, ih⟩) xs ys hxy

theorem listRel_length {r : MVal → MVal → Prop} (xs ys : List MVal) (h : ListRel r xs ys) :
    xs.length = ys.length :=
  listRel_induct (P := fun xs ys => xs.length = ys.length) rfl (fun _ _ _ _ _ _ ih => by simp [ih]) xs ys h

theorem listRel_append {r : MVal → MVal → Prop} (xs ys xs' ys' : List MVal)
    (h : ListRel r xs ys) (h' : ListRel r xs' ys') : ListRel r (xs ++ xs') (ys ++ ys') :=
  listRel_induct (P := fun xs ys => ListRel r (xs ++ xs') (ys ++ ys')) h' (fun _ _ _ _ hab _ ih => ⟨hab, ih⟩) xs ys h

theorem listRel_append_inv {r : MVal → MVal → Prop} (xs ys xs' ys' : List MVal)
    (hl : xs.length = ys.length) (h : ListRel r (xs ++ xs') (ys ++ ys')) :
    ListRel r xs ys ∧ ListRel r xs' ys' := by
  induction xs generalizing ys with
  | nil => cases ys with
    | nil => exact ⟨trivial, h⟩
    | cons b y => simp at hl
  | cons a x ih => cases ys with
    | nil => simp at hl
    | cons b y =>
      have := ih y (by simpa using hl) h.2
      exact ⟨⟨h.1, this.1⟩, this.2⟩

theorem listRel_snoc_cases {r : MVal → MVal → Prop} (xs ys : List MVal) (h : ListRel r xs ys) :
    (xs = [] ∧ ys = []) ∨
    ∃ xi a yi b, xs = xi ++ [a] ∧ ys = yi ++ [b] ∧ ListRel r xi yi ∧ r a b := by
  have hl := listRel_length xs ys h
  rcases List.eq_nil_or_concat xs with hx | ⟨xi, a, hx⟩
  · subst hx
    cases ys with
    | nil => exact Or.inl ⟨rfl, rfl⟩
    | cons b y => simp at hl
  · rcases List.eq_nil_or_concat ys with hy | ⟨yi, b, hy⟩
    · subst hx; subst hy; simp at hl
    · right
      rw [List.concat_eq_append] at hx hy
      subst hx; subst hy
      have hl' : xi.length = yi.length := by simpa using hl
      obtain ⟨h1, h2⟩ := listRel_append_inv xi yi [a] [b] hl' h
      exact ⟨xi, a, yi, b, rfl, rfl, h1, h2.1⟩

theorem simN_refl (n : Nat) (a : MVal) : simN n a a := by
  induction n generalizing a with
  | zero => trivial
  | succ n ih =>
    cases a with
    | tbl xs => exact fun k => optRel_refl ih _
    | arr xs => exact listRel_refl ih xs
    | _ => rfl

theorem simN_tbl_left (n : Nat) (xs : List (Bytes × MVal)) (b : MVal) (h : simN (n + 1) (.tbl xs) b) :
    ∃ ys, b = .tbl ys ∧ ∀ k, OptRel (simN n) (alookup k xs) (alookup k ys) := by
  cases b with
  | tbl ys => exact ⟨ys, rfl, h⟩
  | _ => cases h

theorem simN_arr_left (n : Nat) (xs : List MVal) (b : MVal) (h : simN (n + 1) (.arr xs) b) :
    ∃ ys, b = .arr ys ∧ ListRel (simN n) xs ys := by
  cases b with
  | arr ys => exact ⟨ys, rfl, h⟩
  | _ => cases h

def IsScalar : MVal → Prop
  | .tbl _ => False
  | .arr _ => False
  | _ => True

theorem simN_scalar_left (n : Nat) (a b : MVal) (h : simN (n + 1) a b) (ha : IsScalar a) : a = b := by
  cases a with
  | tbl xs => cases ha
  | arr xs => cases ha
  | _ => exact h

theorem simN_symm (n : Nat) (a b : MVal) (h : simN n a b) : simN n b a := by
  induction n generalizing a b with
  | zero => trivial
  | succ n ih =>
    cases a with
    | tbl xs =>
      obtain ⟨ys, e, h'⟩ := simN_tbl_left n xs b h
      subst e
      exact fun k => optRel_symm ih _ _ (h' k)
    | arr xs =>
      obtain ⟨ys, e, h'⟩ := simN_arr_left n xs b h
      subst e
      exact listRel_symm ih _ _ h'
    | _ => have := simN_scalar_left n _ b h trivial; subst this; exact simN_refl _ _

theorem simN_trans (n : Nat) (a b c : MVal) (hab : simN n a b) (hbc : simN n b c) : simN n a c := by
  induction n generalizing a b c with
  | zero => trivial
  | succ n ih =>
    cases a with
    | tbl xs =>
      obtain ⟨ys, e, h1⟩ := simN_tbl_left n xs b hab
      subst e
      obtain ⟨zs, e, h2⟩ := simN_tbl_left n ys c hbc
      subst e
      exact fun k => optRel_trans ih _ _ _ (h1 k) (h2 k)
    | arr xs =>
      obtain ⟨ys, e, h1⟩ := simN_arr_left n xs b hab
      subst e
      obtain ⟨zs, e, h2⟩ := simN_arr_left n ys c hbc
      subst e
      exact listRel_trans ih _ _ _ h1 h2
    | _ => have := simN_scalar_left n _ b hab trivial; subst this; exact hbc

theorem sim_refl (a : MVal) : Sim a a := fun n => simN_refl n a
theorem sim_symm {a b : MVal} (h : Sim a b) : Sim b a := fun n => simN_symm n a b (h n)
theorem sim_trans {a b c : MVal} (h1 : Sim a b) (h2 : Sim b c) : Sim a c := fun n => simN_trans n a b c (h1 n) (h2 n)


theorem optRel_sim_iff (x y : Option MVal) : OptRel Sim x y ↔ ∀ n, OptRel (simN n) x y := by
  cases x <;> cases y <;> simp only [OptRel]
  · simp
  · exact ⟨fun h => h.elim, fun h => h 0⟩
  · exact ⟨fun h => h.elim, fun h => h 0⟩
  · rfl

theorem listRel_sim_iff (xs ys : List MVal) : ListRel Sim xs ys ↔ ∀ n, ListRel (simN n) xs ys := by
  induction xs generalizing ys with
  | nil => cases ys with
    | nil => simp [ListRel]
    | cons b y => simp [ListRel]
  | cons a x ih => cases ys with
    | nil => simp [ListRel]
    | cons b y =>
      simp only [ListRel, ih y]
      exact ⟨fun h n => ⟨h.1 n, h.2 n⟩, fun h => ⟨fun n => (h n).1, fun n => (h n).2⟩⟩

theorem sim_tbl (xs ys : List (Bytes × MVal)) :
    Sim (.tbl xs) (.tbl ys) ↔ ∀ k, OptRel Sim (alookup k xs) (alookup k ys) := by
  constructor
  · intro h k
    rw [optRel_sim_iff]
    intro n
    exact h (n + 1) k
  · intro h n
    cases n with
    | zero => trivial
    | succ n => exact fun k => (optRel_sim_iff _ _).1 (h k) n

theorem sim_arr (xs ys : List MVal) : Sim (.arr xs) (.arr ys) ↔ ListRel Sim xs ys := by
  constructor
  · intro h
    rw [listRel_sim_iff]
    intro n
    exact h (n + 1)
  · intro h n
    cases n with
    | zero => trivial
    | succ n => exact (listRel_sim_iff _ _).1 h n

theorem sim_tbl_left (xs : List (Bytes × MVal)) (b : MVal) (h : Sim (.tbl xs) b) : ∃ ys, b = .tbl ys := by
  obtain ⟨ys, e, _⟩ := simN_tbl_left 0 xs b (h 1)
  exact ⟨ys, e⟩

theorem sim_arr_left (xs : List MVal) (b : MVal) (h : Sim (.arr xs) b) : ∃ ys, b = .arr ys := by
  obtain ⟨ys, e, _⟩ := simN_arr_left 0 xs b (h 1)
  exact ⟨ys, e⟩

theorem sim_scalar_left (a b : MVal) (h : Sim a b) (ha : IsScalar a) : a = b :=
  simN_scalar_left 0 a b (h 1) ha

theorem sim_scalar_iff (a b : MVal) (ha : IsScalar a) : Sim a b ↔ b = a :=
  ⟨fun h => (sim_scalar_left a b h ha).symm, fun h => h ▸ sim_refl _⟩

theorem sim_int (a : Int) (b : MVal) : Sim (.int a) b ↔ b = .int a := sim_scalar_iff _ b trivial
theorem sim_str (a : Bytes) (b : MVal) : Sim (.str a) b ↔ b = .str a := sim_scalar_iff _ b trivial
theorem sim_float (a : Nat) (b : MVal) : Sim (.float a) b ↔ b = .float a := sim_scalar_iff _ b trivial
theorem sim_bool (a : Bool) (b : MVal) : Sim (.bool a) b ↔ b = .bool a := sim_scalar_iff _ b trivial
theorem sim_dt (a : Datetime.Datetime) (b : MVal) : Sim (.dt a) b ↔ b = .dt a := sim_scalar_iff _ b trivial

theorem sim_cases (a b : MVal) (h : Sim a b) :
    (∃ xs ys, a = .tbl xs ∧ b = .tbl ys ∧ ∀ k, OptRel Sim (alookup k xs) (alookup k ys)) ∨
    (∃ xs ys, a = .arr xs ∧ b = .arr ys ∧ ListRel Sim xs ys) ∨
    (IsScalar a ∧ a = b) := by
  cases a with
  | tbl xs =>
    obtain ⟨ys, e⟩ := sim_tbl_left xs b h
    subst e
    exact Or.inl ⟨xs, ys, rfl, rfl, (sim_tbl xs ys).1 h⟩
  | arr xs =>
    obtain ⟨ys, e⟩ := sim_arr_left xs b h
    subst e
    exact Or.inr (Or.inl ⟨xs, ys, rfl, rfl, (sim_arr xs ys).1 h⟩)
  | _ => exact Or.inr (Or.inr ⟨trivial, sim_scalar_left _ b h trivial⟩)

theorem sim_aset (key : Bytes) (c c' : MVal) (xs ys : List (Bytes × MVal))
    (h : Sim (.tbl xs) (.tbl ys)) (hc : Sim c c') : Sim (.tbl (aset key c xs)) (.tbl (aset key c' ys)) := by
  rw [sim_tbl] at h ⊢
  intro k
  by_cases hk : k = key
  · subst hk
    rw [alookup_aset_same, alookup_aset_same]
    exact hc
  · rw [alookup_aset_other _ _ _ _ hk, alookup_aset_other _ _ _ _ hk]
    exact h k

theorem sim_erase_append (key : Bytes) (v : MVal) (xs : List (Bytes × MVal)) (hn : (xs.map Prod.fst).Nodup) :
    Sim (.tbl (aset key v xs)) (.tbl (aerase key xs ++ [(key, v)])) := by
  rw [sim_tbl]
  intro k
  by_cases hk : k = key
  · subst hk
    rw [alookup_aset_same, alookup_append_new _ _ _ (alookup_aerase_same _ _ hn)]
    exact sim_refl v
  · rw [alookup_aset_other _ _ _ _ hk, alookup_append_other _ _ _ _ hk, alookup_aerase_other _ _ _ hk]
    exact optRel_refl sim_refl _

theorem sim_arr_snoc (xs ys : List MVal) (a b : MVal) (h : ListRel Sim xs ys) (hab : Sim a b) :
    Sim (.arr (xs ++ [a])) (.arr (ys ++ [b])) := by
  rw [sim_arr]
  exact listRel_append xs ys [a] [b] h ⟨hab, trivial⟩

theorem sim_lookup_getD (key : Bytes) (xs ys : List (Bytes × MVal)) (h : Sim (.tbl xs) (.tbl ys)) :
    Sim ((alookup key xs).getD emptyTbl) ((alookup key ys).getD emptyTbl) := by
  have := (sim_tbl xs ys).1 h key
  cases hx : alookup key xs <;> cases hy : alookup key ys <;> simp only [hx, hy, OptRel] at this
  · exact sim_refl _
  · exact this

end TomlVerif.Lemmas.Macro19b
