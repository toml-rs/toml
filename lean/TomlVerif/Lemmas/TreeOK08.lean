import TomlVerif.Lemmas.TreeOK
import TomlVerif.Lemmas.Edit08
/-! The tree-wide invariant of `TreeOK.lean` along edit paths: what the ops create satisfies it (`Pr.Adm`),
    a lookup finds a node that satisfies it, and a path update keeps it when the node updates do (`UpdOK`). -/
namespace TomlVerif.Lemmas.Refine08c
open TomlVerif TomlVerif.Model TomlVerif.Model.Cst TomlVerif.Model.Edit
open TomlVerif.Lemmas.Edit08

/-- what the ops create is fine: the empty `RawString`, no span, the three scalar types -/
structure Pr.Adm (P : Pr) : Prop where
  raw : P.raw .empty
  sp : P.sp none
  val : ∀ v : Sc, P.val v.val

variable {P : Pr}

theorem KeyOK_newKey {k : Bytes} {kr : Raw} (h : P.raw kr) : KeyOK P (newKey k kr) :=
  ⟨h, DecOK_default, DecOK_default⟩

theorem KeyOK_clearKey {k : CKey} (h : KeyOK P k) : KeyOK P (clearKey k) :=
  ⟨h.1, DecOK_default, DecOK_default⟩

theorem VOK_newScalar (hP : P.Adm) {v : Sc} {vr : Raw} (h : P.raw vr) : VOK P (newScalar v vr) := by
  simp only [newScalar, VOK]
  exact ⟨hP.val v, h, DecOK_default⟩

theorem VOK_freshInl (hP : P.Adm) {items : List (CKey × CVal)} (h : KvsOK P items) : VOK P (freshInl items) := by
  simp only [freshInl, VOK]
  exact ⟨h, hP.raw, DecOK_default, hP.sp⟩

theorem TOK_empty (hP : P.Adm) : TOK P CTbl.empty := by
  simp only [CTbl.empty, TOK, IsOK]
  exact ⟨trivial, DecOK_default, hP.sp⟩

def NodeOK (P : Pr) : Node → Prop
  | .tbl t => TOK P t
  | .val v => VOK P v
  | .aot ts sp => TsOK P ts ∧ P.sp sp

theorem ItemOK_nodeItem {n : Node} (h : NodeOK P n) : ItemOK P (nodeItem n) := by
  cases n <;> exact h

theorem look_ok_vals :
    (∀ p v n, lookupVal p v = some n → VOK P v → NodeOK P n) ∧
    (∀ k q l n, lookupKvs k q l = some n → KvsOK P l → NodeOK P n) ∧
    (∀ i q l n, lookupElems i q l = some n → VsOK P l → NodeOK P n) := by
  refine lookupVal_rel ?here ?arr ?inl ?zero ?succ ?hit ?miss
  case here => intro v hv; exact hv
  case arr => intro s r i items tr c d sp n _ ih hv; simp only [VOK] at hv; exact ih hv.1
  case inl => intro s r k items pre imp dot d sp n _ ih hv; simp only [VOK] at hv; exact ih hv.1
  case zero => intro r v rest n ih hv; simp only [VsOK] at hv; exact ih hv.1
  case succ => intro i r v rest n ih hv; simp only [VsOK] at hv; exact ih hv.2
  case hit => intro k r k' v rest n _ ih hv; simp only [KvsOK] at hv; exact ih hv.1.2
  case miss => intro k r k' v rest n _ ih hv; simp only [KvsOK] at hv; exact ih hv.2

theorem look_ok_val : ∀ (p : List Seg) (v : CVal) (n : Node), lookupVal p v = some n → VOK P v → NodeOK P n :=
  look_ok_vals.1

theorem look_ok_elems : ∀ (i : Nat) (q : List Seg) (items : List CVal) (n : Node),
    lookupElems i q items = some n → VsOK P items → NodeOK P n :=
  look_ok_vals.2.2

theorem look_ok_kvs (k : Bytes) : ∀ (q : List Seg) (items : List (CKey × CVal)) (n : Node),
    lookupKvs k q items = some n → KvsOK P items → NodeOK P n :=
  look_ok_vals.2.1 k

theorem look_ok_tbls :
    (∀ p t n, lookupTbl p t = some n → TOK P t → NodeOK P n) ∧
    (∀ k q l n, lookupItems k q l = some n → IsOK P l → NodeOK P n) ∧
    (∀ q it n, lookupItem q it = some n → ItemOK P it → NodeOK P n) ∧
    (∀ i q l n, lookupNth i q l = some n → TsOK P l → NodeOK P n) := by
  refine lookupTbl_rel ?here ?mk ?value ?table ?aotHere ?aot ?zero ?succ ?hit ?miss
  case here => intro t hv; exact hv
  case mk => intro s r k items imp dot p dec sp n _ ih hv; simp only [TOK] at hv; exact ih hv.1
  case value => intro r v n h hv; exact look_ok_val r v n h hv
  case table => intro r t n ih hv; exact ih hv
  case aotHere => intro ts sp hv; exact hv
  case aot => intro s r i ts sp n _ ih hv; exact ih hv.1
  case zero => intro r t rest n ih hv; simp only [TsOK] at hv; exact ih hv.1
  case succ => intro i r t rest n ih hv; simp only [TsOK] at hv; exact ih hv.2
  case hit => intro k r k' it rest n _ ih hv; rw [IsOK_cons] at hv; exact ih hv.1.2
  case miss => intro k r k' it rest n _ ih hv; rw [IsOK_cons] at hv; exact ih hv.2

theorem look_ok_tbl : ∀ (p : List Seg) (t : CTbl) (n : Node), lookupTbl p t = some n → TOK P t → NodeOK P n :=
  look_ok_tbls.1

theorem look_ok_items (k : Bytes) : ∀ (q : List Seg) (items : List (CKey × CItem)) (n : Node),
    lookupItems k q items = some n → IsOK P items → NodeOK P n :=
  look_ok_tbls.2.1 k

theorem look_ok_item : ∀ (q : List Seg) (it : CItem) (n : Node), lookupItem q it = some n → ItemOK P it → NodeOK P n :=
  look_ok_tbls.2.2.1

theorem look_ok_nth : ∀ (i : Nat) (q : List Seg) (ts : List CTbl) (n : Node),
    lookupNth i q ts = some n → TsOK P ts → NodeOK P n :=
  look_ok_tbls.2.2.2

structure UpdOK (P : Pr) (u : Upd) : Prop where
  tbl : ∀ t t', TOK P t → u.tbl t = some t' → TOK P t'
  val : ∀ v v', VOK P v → u.val v = some v' → VOK P v'
  aot : ∀ ts ts', TsOK P ts → u.aot ts = some ts' → TsOK P ts'

variable {u : Upd}

theorem upd_ok_vals (hu : UpdOK P u) :
    (∀ p v v', updVal u p v = some v' → VOK P v → VOK P v') ∧
    (∀ k r l l', updKvs u k r l = some l' → KvsOK P l → KvsOK P l') ∧
    (∀ i r l l', updElems u i r l = some l' → VsOK P l → VsOK P l') := by
  refine updVal_rel u ?here ?arr ?inl ?zero ?succ ?hit ?miss
  case here => intro v v' h hv; exact hu.val v v' hv h
  case arr => intro s r i items items' tr c d sp _ ih hv; simp only [VOK] at hv ⊢; exact ⟨ih hv.1, hv.2⟩
  case inl => intro s r k items items' pre imp dot d sp _ ih hv; simp only [VOK] at hv ⊢; exact ⟨ih hv.1, hv.2⟩
  case zero => intro r v v' rest ih hv; simp only [VsOK] at hv ⊢; exact ⟨ih hv.1, hv.2⟩
  case succ => intro i r v rest rest' ih hv; simp only [VsOK] at hv ⊢; exact ⟨hv.1, ih hv.2⟩
  case hit => intro k r k' v v' rest _ ih hv; simp only [KvsOK] at hv ⊢; exact ⟨⟨hv.1.1, ih hv.1.2⟩, hv.2⟩
  case miss => intro k r k' v rest rest' _ ih hv; simp only [KvsOK] at hv ⊢; exact ⟨hv.1, ih hv.2⟩

theorem upd_ok_val (hu : UpdOK P u) : ∀ (p : List Seg) (v v' : CVal), updVal u p v = some v' → VOK P v → VOK P v' :=
  (upd_ok_vals hu).1

theorem upd_ok_elems (hu : UpdOK P u) : ∀ (i : Nat) (r : List Seg) (items items' : List CVal),
    updElems u i r items = some items' → VsOK P items → VsOK P items' :=
  (upd_ok_vals hu).2.2

theorem upd_ok_kvs (hu : UpdOK P u) (k : Bytes) : ∀ (r : List Seg) (items items' : List (CKey × CVal)),
    updKvs u k r items = some items' → KvsOK P items → KvsOK P items' :=
  (upd_ok_vals hu).2.1 k

theorem upd_ok_tbls (hu : UpdOK P u) :
    (∀ p t t', updTbl u p t = some t' → TOK P t → TOK P t') ∧
    (∀ k r l l', updItems u k r l = some l' → IsOK P l → IsOK P l') ∧
    (∀ r it it', updItem u r it = some it' → ItemOK P it → ItemOK P it') ∧
    (∀ i r l l', updNth u i r l = some l' → TsOK P l → TsOK P l') := by
  refine updTbl_rel u ?here ?mk ?value ?table ?aotHere ?aot ?zero ?succ ?hit ?miss
  case here => intro t t' h hv; exact hu.tbl t t' hv h
  case mk => intro s r k items items' imp dot p dec sp _ ih hv; simp only [TOK] at hv ⊢; exact ⟨ih hv.1, hv.2⟩
  case value => intro r v v' h hv; exact upd_ok_val hu r v v' h hv
  case table => intro r t t' ih hv; exact ih hv
  case aotHere => intro ts ts' sp h hv; exact ⟨hu.aot ts ts' hv.1 h, hv.2⟩
  case aot => intro s r i ts ts' sp _ ih hv; exact ⟨ih hv.1, hv.2⟩
  case zero => intro r t t' rest ih hv; simp only [TsOK] at hv ⊢; exact ⟨ih hv.1, hv.2⟩
  case succ => intro i r t rest rest' ih hv; simp only [TsOK] at hv ⊢; exact ⟨hv.1, ih hv.2⟩
  case hit => intro k r k' it it' rest _ ih hv; rw [IsOK_cons] at hv ⊢; exact ⟨⟨hv.1.1, ih hv.1.2⟩, hv.2⟩
  case miss => intro k r k' it rest rest' _ ih hv; rw [IsOK_cons] at hv ⊢; exact ⟨hv.1, ih hv.2⟩

theorem upd_ok_tbl (hu : UpdOK P u) : ∀ (p : List Seg) (t t' : CTbl), updTbl u p t = some t' → TOK P t → TOK P t' :=
  (upd_ok_tbls hu).1

theorem upd_ok_items (hu : UpdOK P u) (k : Bytes) : ∀ (r : List Seg) (items items' : List (CKey × CItem)),
    updItems u k r items = some items' → IsOK P items → IsOK P items' :=
  (upd_ok_tbls hu).2.1 k

theorem upd_ok_item (hu : UpdOK P u) : ∀ (r : List Seg) (it it' : CItem), updItem u r it = some it' →
    ItemOK P it → ItemOK P it' :=
  (upd_ok_tbls hu).2.2.1

theorem upd_ok_nth (hu : UpdOK P u) : ∀ (i : Nat) (r : List Seg) (ts ts' : List CTbl),
    updNth u i r ts = some ts' → TsOK P ts → TsOK P ts' :=
  (upd_ok_tbls hu).2.2.2

end TomlVerif.Lemmas.Refine08c
