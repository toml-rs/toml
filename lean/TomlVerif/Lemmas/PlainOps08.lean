import TomlVerif.Lemmas.Plain08
/-! The node updates of each op act on the plain ordered tree as a plain op (`Refines`, one `refines_*` per op;
    `sort` is in `PlainSort08.lean`). `fmt` and the conversions keep the content; `mv` is a lookup and two path
    updates (`pMv`). -/
namespace TomlVerif.Lemmas.RefineOps08
open TomlVerif TomlVerif.Model TomlVerif.Model.Cst TomlVerif.Model.Edit TomlVerif.Lemmas.Edit08
open TomlVerif.Lemmas.Refine08 TomlVerif.Spec.OrderedPlain

def leaf : Sc → Leaf
  | .int n => .int n
  | .str s => .str s
  | .bool b => .bool b

theorem plainV_newScalar (v : Sc) (vr : Raw) : plainV (newScalar v vr) = .scalar (leaf v) := by
  cases v <;> simp [plainV, newScalar, eraseVal, Sc.val, valToPlain, leaf]

theorem plainV_setDecor (v : CVal) (d : Decor) : plainV (v.setDecor d) = plainV v := by
  simp [plainV, Tiling03More.eraseVal_setDecor]

def pSet (k : Bytes) (x : Plain) : Plain → Option Plain
  | .tbl es => some (.tbl (aset k x es))
  | _ => none

def pDel (k : Bytes) : Plain → Option Plain
  | .tbl es => match alookup k es with
    | some _ => some (.tbl (aerase k es))
    | none => none
  | _ => none

def pPush (x : Plain) : Plain → Option Plain
  | .arr xs => some (.arr (xs ++ [x]))
  | _ => none

def pInsert (i : Nat) (x : Plain) : Plain → Option Plain
  | .arr xs => if i ≤ xs.length then some (.arr (insertAt x i xs)) else none
  | _ => none

def pReplace (i : Nat) (x : Plain) : Plain → Option Plain
  | .arr xs => if i < xs.length then some (.arr (xs.set i x)) else none
  | _ => none

def pRemove (i : Nat) : Plain → Option Plain
  | .arr xs => if i < xs.length then some (.arr (removeAt i xs)) else none
  | _ => none

/-- `tpush`: a table holding `n = <len>` is appended -/
def pTpush : Plain → Option Plain
  | .arr xs => some (.arr (xs ++ [.tbl [([0x6E], .scalar (.int xs.length))]]))
  | _ => none

def pId : Plain → Option Plain := fun x => some x

theorem plainT_setItems (t : CTbl) (l : List (CKey × CItem)) : plainT (t.setItems l) = .tbl (mapKv plainI l) := by
  cases t; exact plainT_mk ..

theorem plainT_items (t : CTbl) : plainT t = .tbl (mapKv plainI t.items) := by
  cases t; exact plainT_mk ..

/-- `Table::insert(k, item)` on the plain tree: replace in place or append. `tblSet` and `tblNewTable` unfold to
    `tblPut` with the item `.value (newScalar …)` / `.table CTbl.empty`, so this serves `set` and `newt`. -/
theorem plain_tblPut (k : Bytes) (kr : Raw) (it : CItem) (t t' : CTbl) (h : tblPut k kr it t = some t') :
    pSet k (plainI it) (plainT t) = some (plainT t') := by
  simp only [tblPut, Option.some.injEq] at h
  subst h
  rw [plainT_setItems, plainT_items t, mapKv_cinsert]
  rfl

theorem refines_set (k : Bytes) (v : Sc) (rs : List Raw) :
    Refines ((Op.set k v).upd rs) (pSet k (.scalar (leaf v))) where
  tbl t t' h := by
    simpa only [plainI_value, plainV_newScalar] using
      plain_tblPut k (rs.getD 0 .empty) (.value (newScalar v (rs.getD 1 .empty))) t t' h
  val x x' h := by
    simp only [Op.upd] at h
    cases x with
    | inl items pre imp dot d sp =>
      simp only [inlSet, Option.some.injEq] at h
      subst h
      simp only [plainV_inl, pSet, mapKv_cinsert, plainV_newScalar, newKey]
    | scalar _ _ _ => simp [inlSet] at h
    | arr _ _ _ _ _ => simp [inlSet] at h
  aot ts ts' h := by simp [Op.upd, noAot] at h

theorem refines_newt (k : Bytes) (rs : List Raw) :
    Refines ((Op.newt k).upd rs) (pSet k (.tbl [])) where
  tbl t t' h := by
    simpa only [plainI_table, CTbl.empty, plainT_mk, mapKv_nil] using
      plain_tblPut k (rs.getD 0 .empty) (.table CTbl.empty) t t' h
  val x x' h := by simp [Op.upd, noVal] at h
  aot ts ts' h := by simp [Op.upd, noAot] at h

theorem refines_del (k : Bytes) (rs : List Raw) : Refines ((Op.del k).upd rs) (pDel k) where
  tbl t t' h := by
    simp only [Op.upd, tblDel] at h
    cases hl : clookup k t.items with
    | none => simp [hl] at h
    | some it =>
      simp only [hl, Option.some.injEq] at h
      subst h
      rw [plainT_setItems, plainT_items t]
      simp [pDel, mapKv_cerase, alookup_mapKv, hl]
  val x x' h := by
    simp only [Op.upd] at h
    cases x with
    | inl items pre imp dot d sp =>
      simp only [inlDel] at h
      cases hl : clookup k items with
      | none => simp [hl] at h
      | some v =>
        simp only [hl, Option.some.injEq] at h
        subst h
        simp [plainV_inl, pDel, mapKv_cerase, alookup_mapKv, hl]
    | scalar _ _ _ => simp [inlDel] at h
    | arr _ _ _ _ _ => simp [inlDel] at h
  aot ts ts' h := by simp [Op.upd, noAot] at h

theorem refines_push (v : Sc) (rs : List Raw) : Refines ((Op.push v).upd rs) (pPush (.scalar (leaf v))) where
  tbl t t' h := by simp [Op.upd, noTbl] at h
  val x x' h := by
    simp only [Op.upd] at h
    cases x with
    | arr items tr c d sp =>
      simp only [arrPush, Option.some.injEq] at h
      subst h
      rw [plainV_arr, plainV_arr, List.map_append]
      simp only [pPush, List.map_cons, List.map_nil, plainV_setDecor, plainV_newScalar]
    | scalar _ _ _ => simp [arrPush] at h
    | inl _ _ _ _ _ _ => simp [arrPush] at h
  aot ts ts' h := by simp [Op.upd, noAot] at h

theorem refines_adel (i : Nat) (rs : List Raw) : Refines ((Op.adel i).upd rs) (pRemove i) where
  tbl t t' h := by simp [Op.upd, noTbl] at h
  val x x' h := by
    simp only [Op.upd] at h
    cases x with
    | arr items tr c d sp =>
      simp only [arrRemove] at h
      by_cases hi : i < items.length
      · simp only [hi, if_true, Option.some.injEq] at h
        subst h
        rw [plainV_arr, plainV_arr, map_removeAt]
        simp only [pRemove, List.length_map, hi, if_true]
      · simp [hi] at h
    | scalar _ _ _ => simp [arrRemove] at h
    | inl _ _ _ _ _ _ => simp [arrRemove] at h
  aot ts ts' h := by simp [Op.upd, noAot] at h

theorem refines_tdel (i : Nat) (rs : List Raw) : Refines ((Op.tdel i).upd rs) (pRemove i) where
  tbl t t' h := by simp [Op.upd, noTbl] at h
  val x x' h := by simp [Op.upd, noVal] at h
  aot ts ts' h := by
    simp only [Op.upd, aotRemove] at h
    by_cases hi : i < ts.length
    · simp only [hi, if_true, Option.some.injEq] at h
      subst h
      rw [plainA_eq, plainA_eq, map_removeAt]
      simp only [pRemove, List.length_map, hi, if_true]
    · simp [hi] at h

theorem refines_tpush (kr vr : Raw) : Refines ⟨noTbl, noVal, aotPush kr vr⟩ pTpush where
  tbl t t' h := by simp [noTbl] at h
  val x x' h := by simp [noVal] at h
  aot ts ts' h := by
    simp only [aotPush, Option.some.injEq] at h
    subst h
    rw [plainA_eq, plainA_eq, List.map_append]
    simp only [pTpush, List.length_map, List.map_cons, List.map_nil, plainT_mk, mapKv_cons, mapKv_nil, plainI_value,
      plainV_newScalar, newKey, leaf]

theorem valsToPlain_fmtElems (sp : Raw) (l : List CVal) (b : Bool) :
    valsToPlain (eraseVals (fmtElems sp l b)) = valsToPlain (eraseVals l) := by
  rw [erase_fmtElems]

theorem mapKv_fmtItems (l : List (CKey × CItem)) : mapKv plainI (fmtItems l) = mapKv plainI l := by
  rw [← plainItems_eq_mapKv, ← plainItems_eq_mapKv, erase_fmtItems]

theorem mapKv_fmtKvs (l : List (CKey × CVal)) : mapKv plainV (fmtKvs l) = mapKv plainV l := by
  rw [← plainKvs_eq_mapKv, ← plainKvs_eq_mapKv, erase_fmtKvs]

theorem map_fmtElems (sp : Raw) (l : List CVal) (b : Bool) : (fmtElems sp l b).map plainV = l.map plainV := by
  rw [← plainVals_eq_map, ← plainVals_eq_map, erase_fmtElems]

theorem refines_fmt (rs : List Raw) : Refines (Op.fmt.upd rs) pId where
  tbl t t' h := by
    simp only [Op.upd, tblFmt, Option.some.injEq] at h
    subst h
    rw [plainT_setItems, plainT_items t, mapKv_fmtItems]; rfl
  val x x' h := by
    simp only [Op.upd] at h
    cases x with
    | inl items pre imp dot d s =>
      simp only [valFmt, Option.some.injEq] at h
      subst h
      simp only [plainV_inl, mapKv_fmtKvs, pId]
    | arr items tr c d s =>
      simp only [valFmt, Option.some.injEq] at h
      subst h
      simp only [plainV_arr, map_fmtElems, pId]
    | scalar _ _ _ => simp [valFmt] at h
  aot ts ts' h := by simp [Op.upd, noAot] at h

mutual
theorem plain_itemToVal (sp : Raw) : ∀ it : CItem, plainV (itemToVal sp it) = plainI it
  | .value v => by simp only [itemToVal, plainI_value]
  | .table t => by simp only [itemToVal, plainI_table, plain_tblToInl sp t]
  | .aot ts s => by
    simp only [itemToVal, plainV_arr, map_fmtElems, plainI_aot, plainA_eq, map_tblsToVals sp ts]
theorem plain_tblToInl (sp : Raw) : ∀ t : CTbl, plainV (tblToInl sp t) = plainT t
  | .mk items _ _ _ _ _ => by
    simp only [tblToInl, freshInl, plainV_inl, mapKv_fmtKvs, plainT_mk, mapKv_itemsToKvs sp items]
theorem mapKv_itemsToKvs (sp : Raw) : ∀ l : List (CKey × CItem), mapKv plainV (itemsToKvs sp l) = mapKv plainI l
  | [] => rfl
  | (k, it) :: r => by simp only [itemsToKvs, mapKv_cons, plain_itemToVal sp it, mapKv_itemsToKvs sp r]
theorem map_tblsToVals (sp : Raw) : ∀ l : List CTbl, (tblsToVals sp l).map plainV = l.map plainT
  | [] => rfl
  | t :: r => by simp only [tblsToVals, List.map_cons, plain_tblToInl sp t, map_tblsToVals sp r]
end

theorem plain_itemsToKvs (sp : Raw) : ∀ l : List (CKey × CItem),
    valEntriesToPlain (eraseKvs (itemsToKvs sp l)) = itemEntriesToPlain (eraseItems l) := by
  simpa only [plainKvs_eq_mapKv, plainItems_eq_mapKv] using mapKv_itemsToKvs sp

theorem plain_tblsToVals (sp : Raw) : ∀ l : List CTbl,
    valsToPlain (eraseVals (tblsToVals sp l)) = tblsToPlain (eraseTbls l) := by
  simpa only [plainVals_eq_map, plainTbls_eq_map] using map_tblsToVals sp

theorem mapKv_kvsToItems : ∀ l : List (CKey × CVal), mapKv plainI (kvsToItems l) = mapKv plainV l
  | [] => rfl
  | (k, v) :: r => by simp only [kvsToItems, mapKv_cons, plainI_value, mapKv_kvsToItems r]

theorem plain_inlToTbl (items : List (CKey × CVal)) : plainT (inlToTbl items) = .tbl (mapKv plainV items) := by
  simp only [inlToTbl, plainT_mk, mapKv_fmtItems, mapKv_kvsToItems]

theorem refines_conv (k : Bytes) (g : CItem → Option CItem)
    (hg : ∀ it it', g it = some it' → plainI it' = plainI it) : Refines ⟨convAt k g, noVal, noAot⟩ pId where
  tbl t t' h := by
    simp only [convAt] at h
    cases hl : clookup k t.items with
    | none => simp [hl] at h
    | some it =>
      simp only [hl] at h
      obtain ⟨it', hi, rfl⟩ := Option.map_eq_some_iff.mp h
      rw [plainT_setItems, plainT_items t, mapKv_creplace, hg it it' hi, State09.areplace_self _ _ _ (by rw [alookup_mapKv, hl]; rfl)]
      rfl
  val x x' h := by simp [noVal] at h
  aot ts ts' h := by simp [noAot] at h

theorem refines_inl (k : Bytes) (rs : List Raw) : Refines ((Op.inl k).upd rs) pId :=
  refines_conv k _ fun it it' hc => by
    unfold convInl at hc
    split at hc
    · cases hc; rw [plainI_value, plainI_table, plain_tblToInl]
    · cases hc

theorem refines_aot2arr (k : Bytes) (rs : List Raw) : Refines ((Op.aot2arr k).upd rs) pId :=
  refines_conv k _ fun it it' hc => by
    unfold convAotArr at hc
    split at hc
    · cases hc; rw [plainI_value, plain_itemToVal]
    · cases hc

theorem refines_tbl (k : Bytes) (rs : List Raw) : Refines ((Op.tbl k).upd rs) pId :=
  refines_conv k _ fun it it' hc => by
    unfold convTbl at hc
    split at hc
    · cases hc; rw [plainI_table, plain_inlToTbl, plainI_value, plainV_inl]
    · cases hc

theorem refines_ains (i : Nat) (v : Sc) (rs : List Raw) :
    Refines ((Op.ains i v).upd rs) (pInsert i (.scalar (leaf v))) where
  tbl t t' h := by simp [Op.upd, noTbl] at h
  val x x' h := by
    simp only [Op.upd] at h
    cases x with
    | arr items tr c d sp =>
      simp only [arrInsert] at h
      by_cases hi : i ≤ items.length
      · simp only [hi, if_true, Option.some.injEq] at h
        subst h
        rw [plainV_arr, plainV_arr, map_insertAt]
        simp only [pInsert, List.length_map, hi, if_true, plainV_setDecor, plainV_newScalar]
      · simp [hi] at h
    | scalar _ _ _ => simp [arrInsert] at h
    | inl _ _ _ _ _ _ => simp [arrInsert] at h
  aot ts ts' h := by simp [Op.upd, noAot] at h

theorem refines_arepl (i : Nat) (v : Sc) (rs : List Raw) :
    Refines ((Op.arepl i v).upd rs) (pReplace i (.scalar (leaf v))) where
  tbl t t' h := by simp [Op.upd, noTbl] at h
  val x x' h := by
    simp only [Op.upd] at h
    cases x with
    | arr items tr c d sp =>
      simp only [arrReplace] at h
      cases ho : items[i]? with
      | none => simp [ho] at h
      | some old =>
        simp only [ho, Option.some.injEq] at h
        subst h
        have hi : i < items.length := (List.getElem?_eq_some_iff.1 ho).1
        rw [plainV_arr, plainV_arr, List.map_set]
        simp only [pReplace, List.length_map, hi, if_true, plainV_setDecor, plainV_newScalar]
    | scalar _ _ _ => simp [arrReplace] at h
    | inl _ _ _ _ _ _ => simp [arrReplace] at h
  aot ts ts' h := by simp [Op.upd, noAot] at h

end TomlVerif.Lemmas.RefineOps08

namespace TomlVerif.Lemmas.Refine08b
open TomlVerif TomlVerif.Model TomlVerif.Model.Cst TomlVerif.Model.Edit TomlVerif.Lemmas.Edit08
open TomlVerif.Lemmas.Refine08 TomlVerif.Lemmas.RefineOps08 TomlVerif.Spec.OrderedPlain

/-- `mv P K P2` on the plain tree: the entry `K` of the table at `P` is removed and inserted (in
    place or appended) under `K` into the table at `P2`, `P2` resolved after the removal -/
def pMv (k : Bytes) (p p2 : List Seg) (x : Plain) : Option Plain :=
  match plook (p ++ [keySeg k]) x with
  | none => none
  | some n => (pupd (pDel k) p x).bind (pupd (pSet k n) p2)

theorem refines_put (k : Bytes) (kr sp : Raw) (it : CItem) :
    Refines ⟨tblPut k kr it, inlPut k kr sp it, noAot⟩ (pSet k (plainI it)) where
  tbl t t' h := plain_tblPut k kr it t t' h
  val x x' h := by
    simp only at h
    cases x with
    | inl items pre imp dot d s =>
      simp only [inlPut, Option.some.injEq] at h
      subst h
      simp only [plainV_inl, pSet, mapKv_cinsert, plain_itemToVal, newKey]
    | scalar _ _ _ => simp [inlPut] at h
    | arr _ _ _ _ _ => simp [inlPut] at h
  aot ts ts' h := by simp [noAot] at h

/-- `table[k1][k2] = x` on the plain tree -/
def pViv (k1 k2 : Bytes) (x : Plain) : Plain → Option Plain
  | .tbl es =>
    match alookup k1 es with
    | none => some (.tbl (es ++ [(k1, .tbl [(k2, x)])]))
    | some (.tbl sub) => some (.tbl (areplace k1 (.tbl (aset k2 x sub)) es))
    | some _ => none
  | _ => none

theorem refines_viv (k1 k2 : Bytes) (v : Sc) (rs : List Raw) :
    Refines ((Op.viv k1 k2 v).upd rs) (pViv k1 k2 (.scalar (leaf v))) where
  tbl t t' h := by
    simp only [Op.upd, tblViv] at h
    rw [plainT_items t]
    split at h
    · rename_i hl
      simp only [Option.some.injEq] at h; subst h
      rw [plainT_setItems, mapKv_append]
      simp only [pViv, alookup_mapKv, hl, Option.map_none, mapKv_cons, mapKv_nil, plainI_value, freshInl, plainV_inl,
        plainV_newScalar, newKey]
    · rename_i sub hl
      simp only [Option.some.injEq] at h; subst h
      rw [plainT_setItems, mapKv_creplace]
      simp only [pViv, alookup_mapKv, hl, Option.map_some, plainI_table, plainT_items sub, plainT_setItems, mapKv_cset,
        plainI_value, plainV_newScalar, newKey]
    · rename_i items pre imp dot d sp hl
      simp only [Option.some.injEq] at h; subst h
      rw [plainT_setItems, mapKv_creplace]
      simp only [pViv, alookup_mapKv, hl, Option.map_some, plainI_value, plainV_inl, mapKv_cset, plainV_newScalar, newKey]
    · cases h
  val x x' h := by simp [Op.upd, noVal] at h
  aot ts ts' h := by simp [Op.upd, noAot] at h

theorem plain_allInl : ∀ (items : List CVal) (ls : List (List (CKey × CVal))), allInl items = some ls →
    (ls.map inlToTbl).map plainT = items.map plainV
  | [], ls, h => by
    simp only [allInl, Option.some.injEq] at h; subst h; rfl
  | .inl items _ _ _ _ _ :: r, ls, h => by
    simp only [allInl] at h
    obtain ⟨l, hl, rfl⟩ := Option.map_eq_some_iff.mp h
    simp only [List.map_cons, plain_inlToTbl, plainV_inl, plain_allInl r l hl]
  | .scalar _ _ _ :: _, _, h => by simp [allInl] at h
  | .arr _ _ _ _ _ :: _, _, h => by simp [allInl] at h

theorem refines_arr2aot (k : Bytes) (rs : List Raw) : Refines ((Op.arr2aot k).upd rs) pId :=
  refines_conv k _ fun it it' hc => by
    unfold convArrAot at hc
    split at hc
    · rename_i items _ _ _ _
      split at hc
      · cases hc
      · split at hc
        · rename_i ls hls
          cases hc
          simp only [plainI_aot, plainA_eq, plainI_value, plainV_arr, plain_allInl items ls hls]
        · cases hc
    · cases hc

end TomlVerif.Lemmas.Refine08b
