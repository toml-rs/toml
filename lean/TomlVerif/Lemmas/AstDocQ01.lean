import TomlVerif.Lemmas.TriviaKeysSound01
import TomlVerif.Lemmas.ValueComplete01
/-! Abstract syntax of TOML documents over the value syntax **with quoted keys** (`QVal`) and with *grammatical*
    keys (`QDKey`: every component is spelled as an `unquoted-key`, a `basic-string` or a `literal-string`).
    `Doc` of `Spec/AstDoc.lean` carries an `AVal` on its `key = value` lines, so `a={"a"=true}` (valid, and accepted)
    is the rendering of no well-formed `Doc`; its dotted keys allow quoted keys through a *semantic* condition
    (`KeySegOK`), which `keySegOK_iff` shows to be the grammar.  `ofDoc` embeds `Doc`. -/
namespace TomlVerif.Spec.AstDocQ
open TomlVerif TomlVerif.Spec TomlVerif.Model TomlVerif.Model.Value TomlVerif.Spec.AstValue
open TomlVerif.Spec.AstValueQ TomlVerif.Spec.AstDoc
open TomlVerif.Lemmas.Value01 (commentBytes)
open TomlVerif.Lemmas.State09 (Stmt)

/-- one line of a document, without its line end -/
inductive QLine where
  /-- `ws` -/
  | blank (ws : Bytes)
  /-- `ws # body` -/
  | comment (ws body : Bytes)
  /-- `key = w1 v w2 [# cm]` (the blanks before the key are the `pre` of its first component) -/
  | keyval (k : QDKey) (w1 : Bytes) (v : QVal) (w2 : Bytes) (cm : Option Bytes)
  /-- `ws [ key ] w2 [# cm]` -/
  | std (ws : Bytes) (k : QDKey) (w2 : Bytes) (cm : Option Bytes)
  /-- `ws [[ key ]] w2 [# cm]` -/
  | aot (ws : Bytes) (k : QDKey) (w2 : Bytes) (cm : Option Bytes)

def QLine.render : QLine → Bytes
  | .blank ws => ws
  | .comment ws body => ws ++ 0x23 :: body
  | .keyval k w1 v w2 cm => k.render ++ 0x3D :: (w1 ++ (renderQ v ++ (w2 ++ commentBytes cm)))
  | .std ws k w2 cm => ws ++ 0x5B :: (k.render ++ 0x5D :: (w2 ++ commentBytes cm))
  | .aot ws k w2 cm => ws ++ 0x5B :: 0x5B :: (k.render ++ 0x5D :: 0x5D :: (w2 ++ commentBytes cm))

/-- well-formed line: blanks are blanks, comment text is `non-eol`, keys are dotted keys of the grammar with
    fewer than `LIMIT` components, the value is well formed, and the tables of the dotted key plus the
    nesting of the value stay below the limit -/
def QLine.WF : QLine → Prop
  | .blank ws => AllWs ws
  | .comment ws body => AllWs ws ∧ ∀ b ∈ body, isNonEol b = true
  | .keyval k w1 v w2 cm => k.WF ∧ AllWs w1 ∧ WFQ v ∧ k.more.length + depthQ v < LIMIT ∧ AllWs w2 ∧ CommentOK cm
  | .std ws k w2 cm => AllWs ws ∧ k.WF ∧ AllWs w2 ∧ CommentOK cm
  | .aot ws k w2 cm => AllWs ws ∧ k.WF ∧ AllWs w2 ∧ CommentOK cm

def QLine.stmt : QLine → Option Stmt
  | .blank _ => none
  | .comment _ _ => none
  | .keyval k _ v _ _ => some (.kv k.path k.last (semQ v))
  | .std _ k _ _ => some (.std k.keys)
  | .aot _ k _ _ => some (.arr k.keys)

/-- a document: optional byte-order mark, lines each ended by LF (`false`) or CRLF (`true`), and
    optionally a last line without line end -/
structure QDoc where
  bom : Bool
  lines : List (QLine × Bool)
  last : Option QLine

def renderLinesQ : List (QLine × Bool) → Bytes
  | [] => []
  | (l, c) :: r => l.render ++ (nlBytes c ++ renderLinesQ r)

def renderLastQ : Option QLine → Bytes
  | none => []
  | some l => l.render

def QDoc.render (d : QDoc) : Bytes := bomBytes d.bom ++ (renderLinesQ d.lines ++ renderLastQ d.last)

def stmtsLinesQ : List (QLine × Bool) → List Stmt
  | [] => []
  | (l, _) :: r => match l.stmt with
    | some s => s :: stmtsLinesQ r
    | none => stmtsLinesQ r

def stmtsLastQ : Option QLine → List Stmt
  | none => []
  | some l => match l.stmt with
    | some s => [s]
    | none => []

def QDoc.stmts (d : QDoc) : List Stmt := stmtsLinesQ d.lines ++ stmtsLastQ d.last

def QDoc.WF (d : QDoc) : Prop := (∀ p ∈ d.lines, p.1.WF) ∧ ∀ l, d.last = some l → l.WF

theorem renderLinesQ_append : ∀ (a b : List (QLine × Bool)), renderLinesQ (a ++ b) = renderLinesQ a ++ renderLinesQ b
  | [], b => rfl
  | (l, c) :: r, b => by simp [renderLinesQ, renderLinesQ_append r b, List.append_assoc]

theorem stmtsLinesQ_append : ∀ (a b : List (QLine × Bool)), stmtsLinesQ (a ++ b) = stmtsLinesQ a ++ stmtsLinesQ b
  | [], b => rfl
  | (l, c) :: r, b => by
    simp only [List.cons_append, stmtsLinesQ, stmtsLinesQ_append r b]
    cases l.stmt <;> rfl

def ofKeySeg (k : KeySeg) : QKey := ⟨k.pre, k.tok, k.name, k.post⟩
def ofKeyPath (p : KeyPath) : QDKey := ⟨ofKeySeg p.first, p.more.map ofKeySeg⟩

theorem ofKeySeg_render (k : KeySeg) : (ofKeySeg k).render = k.render := by
  simp [ofKeySeg, KeySeg.render, QKey.render]

theorem renderSep_of (l : List KeySeg) : renderQKeySep (l.map ofKeySeg) = renderSep l := by
  induction l with
  | nil => rfl
  | cons k l ih => simp [renderSep, renderQKeySep, ih, ofKeySeg_render]

theorem ofKeyPath_render (p : KeyPath) : (ofKeyPath p).render = p.render := by
  simp [ofKeyPath, KeyPath.render, QDKey.render, renderSep_of, ofKeySeg_render]

theorem ofKeyPath_keys (p : KeyPath) : (ofKeyPath p).keys = p.names := by
  show (ofKeySeg p.first).key :: (p.more.map ofKeySeg).map QKey.key = _
  rw [List.map_map]; rfl
theorem ofKeyPath_path (p : KeyPath) : (ofKeyPath p).path = p.path := by
  show (splitKeys p.first.name ((p.more.map ofKeySeg).map QKey.key)).1 = _
  rw [List.map_map]; rfl
theorem ofKeyPath_last (p : KeyPath) : (ofKeyPath p).last = p.last := by
  show (splitKeys p.first.name ((p.more.map ofKeySeg).map QKey.key)).2 = _
  rw [List.map_map]; rfl
theorem ofKeyPath_more_length (p : KeyPath) : (ofKeyPath p).more.length = p.more.length := by simp [ofKeyPath]

theorem keySegOK_iff (k : KeySeg) : KeySegOK k ↔ (ofKeySeg k).WF := by
  constructor
  · rintro ⟨h1, h2, h3⟩
    refine ⟨h1, h2, ?_⟩
    have h := h3 [] (by intro x r e; cases e)
    rw [List.append_nil] at h
    obtain ⟨raw, e, ht⟩ := TomlVerif.Lemmas.Sound01.simpleKey_sound _ _ _ h
    rw [List.append_nil] at e
    show KeyText k.tok k.name
    rw [e]; exact ht
  · exact toKeySeg_ok (ofKeySeg k)

theorem ofKeyPath_wf (p : KeyPath) (h : p.OK) : (ofKeyPath p).WF := by
  refine ⟨(keySegOK_iff _).1 h.1, ?_, by simpa [ofKeyPath] using h.2.2⟩
  intro x hx
  simp only [ofKeyPath, List.mem_map] at hx
  obtain ⟨y, hy, rfl⟩ := hx
  exact (keySegOK_iff _).1 (h.2.1 y hy)

def ofLine : Line → QLine
  | .blank ws => .blank ws
  | .comment ws body => .comment ws body
  | .keyval p w1 v w2 cm => .keyval (ofKeyPath p) w1 (ofAVal v) w2 cm
  | .std ws p w2 cm => .std ws (ofKeyPath p) w2 cm
  | .aot ws p w2 cm => .aot ws (ofKeyPath p) w2 cm

def ofDoc (d : Doc) : QDoc :=
  ⟨d.bom, d.lines.map fun p => (ofLine p.1, p.2), d.last.map ofLine⟩

theorem ofLine_render (l : Line) : (ofLine l).render = l.render := by
  cases l <;> simp [ofLine, QLine.render, Line.render, ofKeyPath_render, ofAVal_render]

theorem ofLine_wf (l : Line) (h : l.WF) : (ofLine l).WF := by
  cases l with
  | blank ws => exact h
  | comment ws body => exact h
  | keyval p w1 v w2 cm =>
    obtain ⟨h1, h2, h3, h4, h5, h6⟩ := h
    exact ⟨ofKeyPath_wf p h1, h2, ofAVal_wf v h3, by rw [ofKeyPath_more_length, ofAVal_depth]; exact h4, h5, h6⟩
  | std ws p w2 cm => exact ⟨h.1, ofKeyPath_wf p h.2.1, h.2.2⟩
  | aot ws p w2 cm => exact ⟨h.1, ofKeyPath_wf p h.2.1, h.2.2⟩

theorem ofLine_stmt (l : Line) : (ofLine l).stmt = l.stmt := by
  cases l <;> simp [ofLine, QLine.stmt, Line.stmt, ofKeyPath_path, ofKeyPath_last, ofKeyPath_keys, ofAVal_sem]

theorem renderLinesQ_of (ls : List (Line × Bool)) :
    renderLinesQ (ls.map fun p => (ofLine p.1, p.2)) = renderLines ls := by
  induction ls with
  | nil => rfl
  | cons p ls ih => obtain ⟨l, c⟩ := p; simp [renderLinesQ, renderLines, ih, ofLine_render]

theorem stmtsLinesQ_of (ls : List (Line × Bool)) :
    stmtsLinesQ (ls.map fun p => (ofLine p.1, p.2)) = stmtsLines ls := by
  induction ls with
  | nil => rfl
  | cons p ls ih =>
    obtain ⟨l, c⟩ := p
    simp only [List.map_cons, stmtsLinesQ, stmtsLines, ofLine_stmt, ih]
    cases l.stmt <;> rfl

theorem renderLastQ_of (last : Option Line) : renderLastQ (last.map ofLine) = renderLast last := by
  cases last with
  | none => rfl
  | some l => exact ofLine_render l

theorem stmtsLastQ_of (last : Option Line) : stmtsLastQ (last.map ofLine) = stmtsLast last := by
  cases last with
  | none => rfl
  | some l =>
    simp only [Option.map_some, stmtsLastQ, stmtsLast, ofLine_stmt]
    cases l.stmt <;> rfl

theorem ofDoc_render (d : Doc) : (ofDoc d).render = d.render := by
  unfold ofDoc QDoc.render Doc.render
  rw [renderLinesQ_of, renderLastQ_of]

theorem ofDoc_stmts (d : Doc) : (ofDoc d).stmts = d.stmts := by
  unfold ofDoc QDoc.stmts Doc.stmts
  rw [stmtsLinesQ_of, stmtsLastQ_of]

theorem ofDoc_wf (d : Doc) (h : d.WF) : (ofDoc d).WF := by
  refine ⟨?_, ?_⟩
  · intro p hp
    simp only [ofDoc, List.mem_map] at hp
    obtain ⟨q, hq, rfl⟩ := hp
    exact ofLine_wf q.1 (h.1 q hq)
  · intro l hl
    simp only [ofDoc, Option.map_eq_some_iff] at hl
    obtain ⟨l', hl', rfl⟩ := hl
    exact ofLine_wf l' (h.2 l' hl')

end TomlVerif.Spec.AstDocQ
