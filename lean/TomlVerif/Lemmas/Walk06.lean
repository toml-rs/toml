import TomlVerif.Lemmas.Lines06
import TomlVerif.Lemmas.Sections
/-! What the definition state machine (`Model/State.lean`)
    makes of the statements of a preorder walk over a built table. The walk prints sections in the sense of
    `Lemmas/Sections.lean` (`subs_vis`, `entry_vis`, `elems_vis`: an induction over the built table that does not
    mention the state machine), so the state machine accepts them and builds the expected tree (`run_visT`, from
    `run_sections`). `claim_tbl`, `claim_aot`: the same for a single sub-table or array of tables below a parent that
    exists, stated over `run` / `intoDocument`. -/
namespace TomlVerif.Lemmas.Encode06d
open TomlVerif TomlVerif.Spec TomlVerif.Model TomlVerif.Model.Encode06 TomlVerif.Model.State
open TomlVerif.Lemmas.Encode06b TomlVerif.Lemmas.Encode06c TomlVerif.Props.C06 TomlVerif.Spec.Encode06
open TomlVerif.Lemmas.State09 TomlVerif.Lemmas.StmtBlocks TomlVerif.Lemmas.Sections

theorem canonPairsD_keys (l : List (Bytes × DVal)) : (canonPairsD l).map Prod.fst = l.map Prod.fst := by
  induction l with
  | nil => rfl
  | cons x r ih => obtain ⟨k, v⟩ := x; simp [canonPairsD, ih]

theorem kvStmts_eq (l : List (Bytes × DVal)) : kvStmts l = StmtBlocks.kvRun (canonPairsD l) := by
  induction l with
  | nil => rfl
  | cons x r ih => obtain ⟨k, v⟩ := x; simp [kvStmts, StmtBlocks.kvRun, canonPairsD, ih]

def aotF (key : Bytes) (ts : List Tbl) : Tbl → Option Tbl := fun U => some (U.setItems (aset key (.aot ts) U.items))

mutual
/-- `visit_nested_tables` when no table has a position: every entry gets position 0 -/
def visT : DTbl → List Bytes → Bool → List Visit
  | .mk items imp pos, path, isArray => ⟨0, .mk items imp pos, path, isArray⟩ :: visItems items path
def visItems : List (Bytes × DItem) → List Bytes → List Visit
  | [], _ => []
  | (k, .table t) :: r, path => visT t (path ++ [k]) false ++ visItems r path
  | (k, .aot ts) :: r, path => visAot ts (path ++ [k]) ++ visItems r path
  | (_, .value _) :: r, path => visItems r path
def visAot : List DTbl → List Bytes → List Visit
  | [], _ => []
  | t :: r, path => visT t path true ++ visAot r path
end

mutual
/-- everything the walk needs of a built table at nesting `n` (`Built06` takes the length of its header path for `n`) -/
def OkI : DItem → Nat → Prop
  | .value v, _ => BodyValOk v
  | .table t, n => OkT t (n + 1)
  | .aot ts, n => ts ≠ [] ∧ OkTs ts (n + 1)
def OkT : DTbl → Nat → Prop
  | .mk items imp pos, n => imp = false ∧ pos = none ∧ n < Value.LIMIT ∧ (items.map Prod.fst).Nodup ∧ OkItems items n
def OkTs : List DTbl → Nat → Prop
  | [], _ => True
  | t :: r, n => OkT t n ∧ OkTs r n
def OkItems : List (Bytes × DItem) → Nat → Prop
  | [], _ => True
  | (_, i) :: r, n => OkI i n ∧ OkItems r n
end

theorem stmtsVs_append (a b : List Visit) : stmtsVs (a ++ b) = stmtsVs a ++ stmtsVs b := by
  induction a with
  | nil => rfl
  | cons v r ih => simp [stmtsVs, ih]

theorem getValues_keys : ∀ items : List (Bytes × DItem),
    (getValues items).map Prod.fst = (items.filter fun e => isValueItem e.2).map Prod.fst
  | [] => rfl
  | (k, .value v) :: r => by simp [getValues, isValueItem, getValues_keys r]
  | (k, .table t) :: r => by simp [getValues, isValueItem, getValues_keys r]
  | (k, .aot ts) :: r => by simp [getValues, isValueItem, getValues_keys r]

mutual
theorem eraseVal_canon : ∀ v : DVal, eraseVal (canonValD v) = canonValD v
  | .arr items dec => by simp [canonValD, eraseVal, eraseVals_canon items]
  | .inl items dec => by simp [canonValD, eraseVal, erasePairs_canon items]
  | .str s dec => by simp [canonValD, valOf, eraseVal]
  | .int n dec => by simp [canonValD, valOf, eraseVal]
  | .float b x dec => by simp [canonValD, eraseVal]
  | .bool b dec => by simp [canonValD, valOf, eraseVal]
  | .dt x dec => by simp [canonValD, valOf, eraseVal]
theorem eraseVals_canon : ∀ l : List DVal, eraseVals (canonValsD l) = canonValsD l
  | [] => by simp [canonValsD, eraseVals]
  | v :: r => by simp [canonValsD, eraseVals, eraseVal_canon v, eraseVals_canon r]
theorem erasePairs_canon : ∀ l : List (Bytes × DVal), erasePairs (canonPairsD l) = canonPairsD l
  | [] => by simp [canonPairsD, erasePairs]
  | (k, v) :: r => by simp [canonPairsD, erasePairs, eraseVal_canon v, erasePairs_canon r]
end

theorem valIts_getValues (items : List (Bytes × DItem)) :
    valIts (canonPairsD (getValues items)) = expectValues items := by
  induction items with
  | nil => rfl
  | cons x r ih =>
    obtain ⟨k, i⟩ := x
    rw [valIts] at ih
    cases i <;> simp [valIts, getValues, canonPairsD, valItemsV, eraseItems, expectValues, eraseItem, eraseVal_canon, ih]

/-- a sub-table under a new key: the walk over it appends the whole table -/
def ClaimStd (s : DTbl) : Prop :=
  ∀ st V U pp key, intoDocument st = some V → lookupTbl V pp = some U → alookup key U.items = none →
    ∃ st' T', run st (stmtsVs (visT s (pp ++ [key]) false)) = some st' ∧
      intoDocument st' = descend V pp false (appendF [(key, .table T')]) ∧ eraseTbl T' = expectT s

/-- an element of an array of tables: the walk over it appends the whole element -/
def ClaimArr (s : DTbl) : Prop :=
  ∀ st V U pp key pre, intoDocument st = some V → lookupTbl V pp = some U →
    ((alookup key U.items = none ∧ pre = []) ∨ alookup key U.items = some (.aot pre)) →
    ∃ st' T', run st (stmtsVs (visT s (pp ++ [key]) true)) = some st' ∧
      intoDocument st' = descend V pp false (aotF key (pre ++ [T'])) ∧ eraseTbl T' = expectT s

def ClaimAot (ts : List DTbl) : Prop :=
  ts ≠ [] → ∀ st V U pp key pre, intoDocument st = some V → lookupTbl V pp = some U →
    ((alookup key U.items = none ∧ pre = []) ∨ alookup key U.items = some (.aot pre)) →
    ∃ st' ts', run st (stmtsVs (visAot ts (pp ++ [key]))) = some st' ∧
      intoDocument st' = descend V pp false (aotF key (pre ++ ts')) ∧ eraseTbls ts' = expectTs ts

theorem expectTables_keys : ∀ items : List (Bytes × DItem),
    (expectTables items).map Prod.fst = (items.filter fun e => !isValueItem e.2).map Prod.fst
  | [] => rfl
  | (k, .value v) :: r => by simp [expectTables, isValueItem, expectTables_keys r]
  | (k, .table t) :: r => by simp [expectTables, isValueItem, expectTables_keys r]
  | (k, .aot ts) :: r => by simp [expectTables, isValueItem, expectTables_keys r]

theorem sect_of (items : List (Bytes × DItem)) (hn : (items.map Prod.fst).Nodup) :
    Sect (canonPairsD (getValues items)) (expectTables items) := by
  obtain ⟨_, h2, h3⟩ := filter_keys_split (fun e => isValueItem e.2) items hn
  rw [Sect, canonPairsD_keys, expectTables_keys, getValues_keys]
  exact ⟨h2, h3⟩

theorem expectT_eq (items : List (Bytes × DItem)) (imp : Bool) (pos : Option Nat) :
    expectT (.mk items imp pos) = tblE (valIts (canonPairsD (getValues items)) ++ expectTables items) := by
  rw [valIts_getValues]; rfl

theorem visT_stmts (items : List (Bytes × DItem)) (imp : Bool) (pos : Option Nat) (path : List Bytes)
    (hne : path ≠ []) (isArray : Bool) :
    stmtsVs (visT (.mk items imp pos) path isArray) =
      hdrStmt isArray path :: kvRun (canonPairsD (getValues items)) ++ stmtsVs (visItems items path) := by
  have : path.isEmpty = false := by cases path <;> simp_all
  simp [visT, stmtsVs, stmtsV, this, DTbl.items, kvStmts_eq]

mutual
theorem subs_vis : ∀ (items : List (Bytes × DItem)) (n : Nat) (P : List Bytes), OkItems items n →
    (items.map Prod.fst).Nodup → Subs P (stmtsVs (visItems items P)) (expectTables items)
  | [], _, P, _, _ => Subs.nil P
  | (k, .value v) :: r, n, P, h, hn => by
    rw [OkItems] at h
    rw [List.map_cons, List.nodup_cons] at hn
    simpa [visItems, expectTables] using subs_vis r n P h.2 hn.2
  | (k, .table t) :: r, n, P, h, hn => by
    rw [OkItems, OkI] at h
    rw [List.map_cons, List.nodup_cons] at hn
    have e : expectTables ((k, .table t) :: r) = (k, .table (expectT t)) :: expectTables r := by
      simp [expectTables, expectI]
    rw [visItems, stmtsVs_append, e]
    refine Subs.cons (entry_vis t (n + 1) (P ++ [k]) (by simp) h.1) (subs_vis r n P h.2 hn.2) ?_
    rw [expectTables_keys]
    exact fun hm => hn.1 ((List.filter_sublist.map _).subset hm)
  | (k, .aot ts) :: r, n, P, h, hn => by
    rw [OkItems, OkI] at h
    rw [List.map_cons, List.nodup_cons] at hn
    have e : expectTables ((k, .aot ts) :: r) = (k, .aot (expectTs ts)) :: expectTables r := by
      simp [expectTables, expectI]
    rw [visItems, stmtsVs_append, e]
    refine Subs.cons (Entry.aot ?_ (elems_vis ts (n + 1) (P ++ [k]) (by simp) h.1.2)) (subs_vis r n P h.2 hn.2) ?_
    · cases ts with
      | nil => exact absurd rfl h.1.1
      | cons t r => simp [expectTs]
    · rw [expectTables_keys]
      exact fun hm => hn.1 ((List.filter_sublist.map _).subset hm)
theorem entry_vis : ∀ (t : DTbl) (n : Nat) (path : List Bytes), path ≠ [] → OkT t n →
    Entry path (stmtsVs (visT t path false)) (.table (expectT t))
  | .mk items imp pos, n, path, hne, h => by
    rw [OkT] at h
    rw [visT_stmts items imp pos path hne, expectT_eq]
    exact Entry.table (sect_of items h.2.2.2.1) (subs_vis items n path h.2.2.2.2 h.2.2.2.1)
theorem elems_vis : ∀ (ts : List DTbl) (n : Nat) (path : List Bytes), path ≠ [] → OkTs ts n →
    Elems path (stmtsVs (visAot ts path)) (expectTs ts)
  | [], _, path, _, _ => Elems.nil path
  | .mk items imp pos :: r, n, path, hne, h => by
    rw [OkTs, OkT] at h
    rw [visAot, stmtsVs_append, visT_stmts items imp pos path hne, expectTs, expectT_eq]
    exact Elems.cons (sect_of items h.1.2.2.2.1) (subs_vis items n path h.1.2.2.2.2 h.1.2.2.2.1)
      (elems_vis r n path hne h.2)
end

theorem run_visT (items : List (Bytes × DItem)) (imp : Bool) (pos : Option Nat) (h : OkT (.mk items imp pos) 0) :
    ∃ T, (run {} (stmtsVs (visT (.mk items imp pos) [] false))).bind intoDocument = some T ∧
      eraseTbl T = expectT (.mk items imp pos) := by
  rw [OkT] at h
  have e : stmtsVs (visT (.mk items imp pos) [] false) =
      kvRun (canonPairsD (getValues items)) ++ stmtsVs (visItems items []) := by
    simp [visT, stmtsVs, stmtsV, DTbl.items, kvStmts_eq]
  rw [e, expectT_eq]
  exact run_sections _ _ _ (sect_of items h.2.2.2.1) (subs_vis items 0 [] h.2.2.2.2 h.2.2.2.1)

theorem aot_of_elems {path : List Bytes} {ss : List Stmt} {ts : List Tbl} (h : Elems path ss ts) (hne : ts ≠ []) :
    ∀ st V U pp key pre, path = pp ++ [key] → intoDocument st = some V → lookupTbl V pp = some U →
      ((alookup key U.items = none ∧ pre = []) ∨ alookup key U.items = some (.aot pre)) →
      ∃ st' ts', run st ss = some st' ∧ intoDocument st' = descend V pp false (aotF key (pre ++ ts')) ∧
        eraseTbls ts' = ts := by
  intro st V U pp key pre hp hV hU hk
  rcases hk with ⟨hk, rfl⟩ | hk
  · obtain ⟨st', ts', h1, h2, h3⟩ := (elems_claim h).2 hne st V U pp [] key (by simp [hp]) hV hU hk
    refine ⟨st', ts', h1, ?_, h3⟩
    rw [h2]
    exact descend_congr_at V U pp _ _ hU (by simp [appendF, aotF, RoundTrip17.nest, aset_of_none _ _ _ hk])
  · exact (elems_claim h).1 st V U pp key pre hp hV hU hk

theorem claim_tbl : ∀ (s : DTbl) (n : Nat), OkT s n → ClaimStd s ∧ ClaimArr s := by
  intro s n h
  constructor
  · intro st V U pp key hV hU hk
    obtain ⟨st', I, h1, h2, h3⟩ :=
      entry_claim (entry_vis s n (pp ++ [key]) (by simp) h) st V U pp [] key (by simp) hV hU hk
    cases I with
    | table T' => exact ⟨st', T', h1, h2, by simpa [eraseItem] using h3⟩
    | value v => simp [eraseItem] at h3
    | aot ts => simp [eraseItem] at h3
  · intro st V U pp key pre hV hU hk
    have he := elems_vis [s] n (pp ++ [key]) (by simp) ⟨h, trivial⟩
    simp only [visAot, List.append_nil, expectTs] at he
    obtain ⟨st', ts', h1, h2, h3⟩ := aot_of_elems he (by simp) st V U pp key pre rfl hV hU hk
    cases ts' with
    | nil => simp [eraseTbls] at h3
    | cons T' r =>
      cases r with
      | nil => exact ⟨st', T', h1, h2, by simpa [eraseTbls] using h3⟩
      | cons x y => simp [eraseTbls] at h3

theorem claim_aot : ∀ (ts : List DTbl) (n : Nat), OkTs ts n → ClaimAot ts := by
  intro ts n h hne st V U pp key pre hV hU hk
  refine aot_of_elems (elems_vis ts n (pp ++ [key]) (by simp) h) ?_ st V U pp key pre rfl hV hU hk
  cases ts with
  | nil => exact absurd rfl hne
  | cons t r => simp [expectTs]

end TomlVerif.Lemmas.Encode06d
