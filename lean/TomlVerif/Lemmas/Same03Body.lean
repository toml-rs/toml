import TomlVerif.Lemmas.CstInduct
import TomlVerif.Lemmas.Tiling03MoreNadDefs
import TomlVerif.Lemmas.KvReplay
import TomlVerif.Lemmas.Render03Value
import TomlVerif.Lemmas.DocGrammar01
import TomlVerif.Lemmas.Items03Located
import TomlVerif.Lemmas.CstEraseDoc
/-! C03, same data — a table body as key/value lines build it: pairwise distinct keys and
    non-empty, implicit, position-less dotted-key tables (`bodyOkN`).  Replaying the flattened
    entries of such a body rebuilds it; `descend` along dotted keys, adjacent or not, INSERTS one
    entry into the flattened body, and the lines of the body are kept as one group per entry
    (`Aligned`), so that a key/value line inserts its group. -/
namespace TomlVerif.Lemmas.Tiling03More
open TomlVerif.Model.Cst
open TomlVerif.Lemmas.Tiling03Hdr
open TomlVerif.Lemmas.Tiling03More.VS

mutual
def dkTbl : CTbl → List CKey
  | .mk items _ _ _ _ _ => dkItems items
def dkItems : List (CKey × CItem) → List CKey
  | [] => []
  | (k, it) :: r =>
    match it with
    | .table t => k :: dkTbl t ++ dkItems r
    | .aot _ _ => dkItems r
    | .value _ => dkItems r
end

theorem dkTbl_eq (t : CTbl) : dkTbl t = dkItems t.items := by
  cases t; rw [dkTbl]; rfl

theorem dkItems_append : ∀ (x y : Items), dkItems (x ++ y) = dkItems x ++ dkItems y
  | [], y => by simp [dkItems]
  | (k, .table t) :: r, y => by
    simp only [List.cons_append, dkItems, dkItems_append r y, List.append_assoc]
  | (k, .aot ts sp) :: r, y => by
    simp only [List.cons_append, dkItems, dkItems_append r y]
  | (k, .value v) :: r, y => by
    simp only [List.cons_append, dkItems, dkItems_append r y]

def bodyG (inp : Bytes) (items : Items) : Prop := ∀ k ∈ dkItems items, GKey inp k

theorem bodyG_nil (inp : Bytes) : bodyG inp [] := by intro k hk; cases hk

theorem bodyG_snoc_table (inp : Bytes) (init : Items) (k : CKey) (c : CTbl) :
    bodyG inp (init ++ [(k, .table c)]) ↔ bodyG inp init ∧ GKey inp k ∧ bodyG inp c.items := by
  unfold bodyG
  rw [dkItems_append]
  simp only [dkItems, List.append_nil, dkTbl_eq]
  rw [List.forall_mem_append, List.forall_mem_cons]

theorem bodyG_snoc_value (inp : Bytes) (init : Items) (k : CKey) (v : CVal) :
    bodyG inp (init ++ [(k, .value v)]) ↔ bodyG inp init := by
  unfold bodyG
  rw [dkItems_append]
  simp [dkItems]

end TomlVerif.Lemmas.Tiling03More

namespace TomlVerif.Lemmas.Tiling03More.Nad
open TomlVerif TomlVerif.Spec TomlVerif.Model TomlVerif.Model.Strings TomlVerif.Model.Value
open TomlVerif.Model.Cst TomlVerif.Model.Encode TomlVerif.Lemmas.Suffix03 TomlVerif.Lemmas.Cst03
open TomlVerif.Lemmas.LastByte03 TomlVerif.Lemmas.Tiling03 TomlVerif.Lemmas.Tiling03Hdr
open TomlVerif.Lemmas.Tiling03Nest TomlVerif.Lemmas.Tiling03More TomlVerif.Lemmas.Tiling03More.VS
open TomlVerif.Lemmas.State09 (Stmt run step run_append)

mutual
def bodyOkN : List (CKey × CItem) → Bool
  | [] => true
  | (k, it) :: r =>
    (clookup k.key r).isNone &&
    (match it with
     | .value v => undotted v
     | .table t => bodyTblN t
     | .aot _ _ => false) && bodyOkN r
def bodyTblN : CTbl → Bool
  | .mk items imp dot p _ _ => dot && imp && p.isNone && !items.isEmpty && bodyOkN items
end

mutual
/-- the key/value statements of a body, in the order the printer writes them -/
def flatN : List (CKey × CItem) → List KV
  | [] => []
  | (k, it) :: r =>
    (match it with
     | .value v => [([], k.key, eraseVal v)]
     | .table t => (flatTblN t).map (push k.key)
     | .aot _ _ => []) ++ flatN r
def flatTblN : CTbl → List KV
  | .mk items _ _ _ _ _ => flatN items
end

theorem bodyTblN_eq (t : CTbl) : bodyTblN t =
    (t.dotted && t.implicit && t.pos.isNone && !t.items.isEmpty && bodyOkN t.items) := by
  cases t; rfl

theorem flatTblN_eq (t : CTbl) : flatTblN t = flatN t.items := by
  cases t; rw [flatTblN]; rfl

theorem bodyOkN_induct {P : Items → Prop} (nil : P [])
    (value : ∀ k v r, clookup k.key r = none → undotted v = true → bodyOkN r = true → P r →
      P ((k, .value v) :: r))
    (table : ∀ k its dec sp r, clookup k.key r = none → its ≠ [] → bodyOkN its = true →
      bodyOkN r = true → P its → P r → P ((k, .table (.mk its true true none dec sp)) :: r))
    (items : Items) : bodyOkN items = true → P items := by
  refine (items_induct (P := fun l => bodyOkN l = true → P l)
    (T := fun t => bodyOkN t.items = true → P t.items) (A := fun _ => True)
    (fun _ => nil) ?_ ?_ ?_ (fun _ _ _ _ _ _ ih => ih) trivial (fun _ _ _ _ => trivial)).1 items
  · intro k v r ih h
    simp only [bodyOkN, Bool.and_eq_true, Option.isNone_iff_eq_none] at h
    exact value k v r h.1.1 h.1.2 h.2 (ih h.2)
  · rintro k ⟨its, imp, dot, p, dec, sp⟩ r iht ihr h
    simp only [bodyOkN, bodyTblN, Bool.and_eq_true, Option.isNone_iff_eq_none, Bool.not_eq_true',
      List.isEmpty_eq_false_iff] at h
    obtain ⟨⟨hkr, ⟨⟨⟨⟨hdot, himp⟩, hp⟩, hne⟩, hb⟩⟩, hr⟩ := h
    subst hdot; subst himp; subst hp
    exact table k its dec sp r hkr hne hb hr (iht hb) (ihr hr)
  · intro k ts sp r _ _ h
    simp [bodyOkN] at h

def stmtOf (e : List CKey × CVal) : Stmt :=
  match splitLast e.1 with
  | some (X, key) => .kv (keysOf X) key.key (eraseVal e.2)
  | none => .kv [] [] (eraseVal e.2)

theorem stmtOf_snoc (X : List CKey) (key : CKey) (v : CVal) :
    stmtOf (X ++ [key], v) = .kv (keysOf X) key.key (eraseVal v) := by
  simp only [stmtOf, vsplitLast_snoc]

theorem flat_stmts (items : Items) (h : bodyOkN items = true) : ∀ P : List CKey,
    (valuesTbl items P).map stmtOf = (flatN items).map (fun t => Stmt.kv (keysOf P ++ t.1) t.2.1 t.2.2) := by
  refine bodyOkN_induct (P := fun items => ∀ P : List CKey, (valuesTbl items P).map stmtOf =
    (flatN items).map (fun t => Stmt.kv (keysOf P ++ t.1) t.2.1 t.2.2)) ?_ ?_ ?_ items h
  · intro P; simp [valuesTbl, flatN]
  · intro k v r _ hv _ ih P
    rw [valuesTbl_cons_value k v hv, flatN]
    simp only [List.map_cons, List.cons_append, List.nil_append, stmtOf_snoc, List.append_nil]
    rw [ih P]
  · intro k its dec sp r _ _ _ _ ih1 ih2 P
    rw [valuesTbl_cons_dotted k _ rfl, flatN, flatTblN]
    simp only [List.map_append, List.map_map, CTbl.items]
    rw [ih1 (P ++ [k]), ih2 P]
    congr 1
    apply List.map_congr_left
    intro t _
    simp [push, keysOf_append, List.append_assoc]

theorem flatN_ne (items : Items) (h : bodyOkN items = true) : items ≠ [] → flatN items ≠ [] := by
  refine bodyOkN_induct (P := fun items => items ≠ [] → flatN items ≠ []) ?_ ?_ ?_ items h
  · intro h; exact absurd rfl h
  · intro k v r _ _ _ _ _; simp [flatN]
  · intro k its dec sp r _ hne _ _ ih _ _ e
    rw [flatN, flatTblN] at e
    exact ih hne (List.map_eq_nil_iff.1 (List.append_eq_nil_iff.1 e).1)

theorem replay_body (items : Items) (b : Tbl) (top : Bool) (h : bodyOkN items = true) : b.dotted = !top →
    (∀ x ∈ items, alookup x.1.key b.items = none) →
    replay top b (flatN items) = some (b.setItems (b.items ++ mapKv eraseItem items)) := by
  refine bodyOkN_induct (P := fun items => ∀ (b : Tbl) (top : Bool), b.dotted = !top →
    (∀ x ∈ items, alookup x.1.key b.items = none) →
    replay top b (flatN items) = some (b.setItems (b.items ++ mapKv eraseItem items))) ?_ ?_ ?_ items h b top
  · intro b top _ _
    simp only [flatN, replay, mapKv_nil, List.append_nil, State09.setItems_self]
  · intro k v r hkr _ _ ih b top hd hdis
    have hk : alookup k.key b.items = none := hdis (k, .value v) (by simp)
    have hne := clookup_none_mem k.key r hkr
    rw [flatN]
    simp only [List.cons_append, List.nil_append, replay]
    have hins : ins top b ([], k.key, eraseVal v) = some (b.setItems (b.items ++ [(k.key, .value (eraseVal v))])) := by
      simp [ins, State.descend, kvLeaf, hd, hk]
    rw [hins]
    simp only []
    refine Eq.trans (ih _ top hd ?_) ?_
    · intro x hx
      simp only [State09.items_setItems]
      rw [State09.alookup_append_other _ _ _ _ (by exact fun e => hne x hx e)]
      exact hdis x (List.mem_cons_of_mem _ hx)
    · simp [mapKv_cons, eraseItem, Tbl.setItems, Tbl.implicit, Tbl.dotted, Tbl.pos, Tbl.items, List.append_assoc]
  · intro k its dec sp r hkr hne hb _ ih1 ih2 b top hd hdis
    have hk : alookup k.key b.items = none := hdis (k, .table (.mk its true true none dec sp)) (by simp)
    have hner := clookup_none_mem k.key r hkr
    have hfl := flatN_ne its hb hne
    rw [flatN, flatTblN]
    rw [replay_append]
    obtain ⟨e, es, hes⟩ := List.exists_cons_of_ne_nil hfl
    rw [hes, replay_push_new top k.key e es b hk, ← hes,
      ih1 (State.newImplicit true) false rfl (fun x _ => rfl)]
    simp only [Option.map_some, Option.bind_some]
    refine Eq.trans (ih2 _ top hd ?_) ?_
    · intro x hx
      simp only [State09.items_setItems]
      rw [State09.alookup_append_other _ _ _ _ (by exact fun e => hner x hx e)]
      exact hdis x (List.mem_cons_of_mem _ hx)
    · simp [mapKv_cons, eraseItem, eraseTbl_mk, Tbl.setItems, Tbl.implicit, Tbl.dotted, Tbl.pos, Tbl.items,
        State.newImplicit, List.append_assoc]

def itemOkN : CItem → Bool
  | .value v => undotted v
  | .table t => bodyTblN t
  | .aot _ _ => false

theorem bodyOkN_cons (k : CKey) (it : CItem) (r : Items) :
    bodyOkN ((k, it) :: r) = ((clookup k.key r).isNone && itemOkN it && bodyOkN r) := by
  cases it <;> simp [bodyOkN, itemOkN]

theorem bodyOkN_snoc (k : CKey) (it : CItem) (hit : itemOkN it = true) : ∀ (l : Items), bodyOkN l = true →
    clookup k.key l = none → bodyOkN (l ++ [(k, it)]) = true
  | [], _, _ => by simp [bodyOkN_cons, hit, clookup, bodyOkN]
  | (k0, it0) :: r, h, hl => by
    rw [bodyOkN_cons] at h
    simp only [Bool.and_eq_true] at h
    unfold clookup at hl
    split at hl
    · cases hl
    · rename_i hk
      have hk' : (k0.key == k.key) = false := by simpa using hk
      simp only [List.cons_append, bodyOkN_cons, Bool.and_eq_true]
      refine ⟨⟨?_, h.1.2⟩, bodyOkN_snoc k it hit r h.2 hl⟩
      have h1 : clookup k0.key r = none := by simpa using h.1.1
      rw [clookup_append_none _ _ _ h1, clookup_single, BEq.comm.trans hk']
      rfl

theorem bodyOkN_mid (k' : CKey) (x y : CItem) (B : Items) (hy : itemOkN y = true) : ∀ (A : Items),
    bodyOkN (A ++ (k', x) :: B) = true → bodyOkN (A ++ (k', y) :: B) = true ∧ itemOkN x = true
  | [], h => by
    simp only [List.nil_append, bodyOkN_cons, Bool.and_eq_true] at h ⊢
    exact ⟨⟨⟨h.1.1, hy⟩, h.2⟩, h.1.2⟩
  | (k0, v) :: r, h => by
    simp only [List.cons_append, bodyOkN_cons, Bool.and_eq_true] at h ⊢
    obtain ⟨i1, i2⟩ := bodyOkN_mid k' x y B hy r h.2
    exact ⟨⟨⟨by rw [← clookup_mid_isNone k0.key k' x y B r]; exact h.1.1, h.1.2⟩, i1⟩, i2⟩

theorem bodyTblN_of (t c : CTbl) (h : c = t.setItems c.items) (hd : t.dotted = true) (hi : t.implicit = true)
    (hp : t.pos = none) (hne : c.items ≠ []) (hb : bodyOkN c.items = true) : bodyTblN c = true := by
  rw [bodyTblN_eq, hb]
  have e1 : c.dotted = true := by rw [h]; exact hd
  have e2 : c.implicit = true := by rw [h]; exact hi
  have e3 : c.pos = none := by rw [h]; exact hp
  rw [e1, e2, e3]
  cases hc : c.items with
  | nil => exact absurd hc hne
  | cons a b => rfl

theorem bodyG_append (inp : Bytes) (x y : Items) : bodyG inp (x ++ y) ↔ bodyG inp x ∧ bodyG inp y := by
  unfold bodyG
  rw [dkItems_append]
  exact List.forall_mem_append

/-- the entry is inserted under the STORED keys `X` of the dotted path -/
theorem kv_descendN (inp : Bytes) (g : CTbl → Option CTbl) (key' : CKey) (v : CVal)
    (hv : undotted v = true)
    (hg : ∀ p p', g p = some p' → p' = p.setItems (p.items ++ [(key', .value v)]) ∧ clookup key'.key p.items = none) :
    ∀ (path : List CKey) (t c : CTbl) (P : List CKey), dottedOkN t path = true →
      bodyOkN t.items = true → bodyG inp t.items → (∀ k ∈ path, GKey inp k) → descend t path true g = some c →
      c = t.setItems c.items ∧ bodyOkN c.items = true ∧ bodyG inp c.items ∧
      ∃ X L1 L2, valuesTbl t.items P = L1 ++ L2 ∧
        valuesTbl c.items P = L1 ++ [(P ++ X ++ [key'], v)] ++ L2 ∧
        keysOf X = keysOf path ∧ ∀ k ∈ X, GKey inp k := by
  intro path t c P hok hbn hbg hpath hd
  refine descend_induction (d := true) (g := g) (P := fun t path c => ∀ P : List CKey, dottedOkN t path = true →
      bodyOkN t.items = true → bodyG inp t.items → (∀ k ∈ path, GKey inp k) →
      c = t.setItems c.items ∧ bodyOkN c.items = true ∧ bodyG inp c.items ∧
      ∃ X L1 L2, valuesTbl t.items P = L1 ++ L2 ∧
        valuesTbl c.items P = L1 ++ [(P ++ X ++ [key'], v)] ++ L2 ∧
        keysOf X = keysOf path ∧ ∀ k ∈ X, GKey inp k) ?_ ?_ ?_ ?_ path t c hd P hok hbn hbg hpath
  · intro t c hd P _ hbn hbg _
    obtain ⟨e, hnew⟩ := hg _ _ hd
    subst e
    refine ⟨by simp, ?_, ?_, [], valuesTbl t.items P, [], by simp, ?_, rfl, fun k hk => by cases hk⟩
    · rw [setItems_items]; exact bodyOkN_snoc key' _ (by simpa [itemOkN] using hv) _ hbn hnew
    · rw [setItems_items]; exact (bodyG_snoc_value inp _ _ _).2 hbg
    · rw [setItems_items, valuesTbl_append, valuesTbl_value_atU key' v hv]; simp
  · intro t k ks sub' hl _ ih P _ hbn hbg hpath
    have hk : GKey inp k := hpath k (by simp)
    obtain ⟨i1, i2n, i2g, X, L1, L2, i3a, i3, i4, i5⟩ := ih (P ++ [k])
      (dottedOkN_empty _ rfl ks) rfl (bodyG_nil inp) (fun x hx => hpath x (List.mem_cons_of_mem _ hx))
    have hsd : sub'.dotted = true := by rw [setItems_eq_dotted _ _ i1]; rfl
    have hne : sub'.items ≠ [] := valuesTbl_items_ne _ (P ++ [k]) (by rw [i3]; simp)
    have hbt : bodyTblN sub' = true := bodyTblN_of (newImplicit true) sub' i1 rfl rfl rfl hne i2n
    have hnil : L1 ++ L2 = [] := by rw [← i3a]; simp [newImplicit, CTbl.items, valuesTbl]
    refine ⟨by simp, ?_, ?_, k :: X, valuesTbl t.items P ++ L1, L2, ?_, ?_, ?_, ?_⟩
    · rw [setItems_items]; exact bodyOkN_snoc k _ (by simpa [itemOkN] using hbt) _ hbn hl
    · rw [setItems_items]; exact (bodyG_snoc_table inp _ _ _).2 ⟨hbg, hk, i2g⟩
    · rw [List.append_assoc, hnil, List.append_nil]
    · rw [setItems_items, valuesTbl_snoc_dotted _ _ _ hsd, i3]
      simp [List.append_assoc]
    · simp only [keysOf, List.map_cons] at i4 ⊢; rw [i4]
    · intro y hy
      rcases List.mem_cons.1 hy with hy | hy
      · subst hy; exact hk
      · exact i5 y hy
  · intro t k ks sub sub' hl _ ih P hok hbn hbg hpath
    simp only [dottedOkN, hl, Bool.and_eq_true] at hok
    obtain ⟨hsubd, hok2⟩ := hok
    obtain ⟨A, k', B, e1, e2, e3, _⟩ := clookup_split _ _ _ hl
    have e1' : t.items = (A ++ [(k', .table sub)]) ++ B := by rw [e1]; simp
    rw [e1'] at hbg
    obtain ⟨hgAs, hgB⟩ := (bodyG_append inp _ _).1 hbg
    obtain ⟨g1, g2, g3⟩ := (bodyG_snoc_table inp A k' sub).1 hgAs
    rw [e1] at hbn
    have hsubN : bodyTblN sub = true := by
      have := (bodyOkN_mid k' (.table sub) (.value v) B (by simpa [itemOkN] using hv) A hbn).2
      simpa [itemOkN] using this
    rw [bodyTblN_eq] at hsubN
    simp only [Bool.and_eq_true] at hsubN
    obtain ⟨⟨⟨⟨_, hsi⟩, hsp⟩, _⟩, hsb⟩ := hsubN
    obtain ⟨i1, i2n, i2g, X, L1, L2, i3a, i3, i4, i5⟩ := ih (P ++ [k']) hok2 hsb g3
      (fun x hx => hpath x (List.mem_cons_of_mem _ hx))
    have hsd : sub'.dotted = true := by rw [setItems_eq_dotted _ _ i1]; exact hsubd
    have hne : sub'.items ≠ [] := valuesTbl_items_ne _ (P ++ [k']) (by rw [i3]; simp)
    have hbt : bodyTblN sub' = true :=
      bodyTblN_of sub sub' i1 hsubd hsi (by simpa using hsp) hne i2n
    rw [e1, cset_mid _ _ _ _ _ _ e3 e2]
    refine ⟨by simp, ?_, ?_, k' :: X, valuesTbl A P ++ L1, L2 ++ valuesTbl B P, ?_, ?_, ?_, ?_⟩
    · rw [setItems_items]
      exact (bodyOkN_mid k' _ (.table sub') B (by simpa [itemOkN] using hbt) A hbn).1
    · rw [setItems_items]
      have : A ++ (k', CItem.table sub') :: B = (A ++ [(k', .table sub')]) ++ B := by simp
      rw [this]
      exact (bodyG_append inp _ _).2 ⟨(bodyG_snoc_table inp _ _ _).2 ⟨g1, g2, i2g⟩, hgB⟩
    · rw [valuesTbl_mid_dotted _ _ _ _ hsubd, i3a]; simp [List.append_assoc]
    · rw [setItems_items, valuesTbl_mid_dotted _ _ _ _ hsd, i3]; simp [List.append_assoc]
    · simp only [keysOf, List.map_cons] at i4 ⊢; rw [i4, eq_of_beq e3]
    · intro y hy
      rcases List.mem_cons.1 hy with hy | hy
      · subst hy; exact g2
      · exact i5 y hy
  · intro t k ks tsI l l' sp hl _ _ P hok
    simp [dottedOkN, hl] at hok

open TomlVerif.Spec.AstValue TomlVerif.Spec.AstValueQ TomlVerif.Spec.AstDoc TomlVerif.Spec.AstDocQ
open TomlVerif.Lemmas.Value01 (commentBytes)

abbrev Lines := List (QLine × Bool)
abbrev Ent := List CKey × CVal

def Grp (inp : Bytes) (g : Lines) (e : Ent) : Prop :=
  (∀ p ∈ g, QLine.WF p.1) ∧ renderLinesQ g = encodeBody stripCr inp [e] ∧ stmtsLinesQ g = [stmtOf e]

def Aligned (inp : Bytes) : List Lines → List Ent → Prop
  | [], [] => True
  | g :: gs, e :: es => Grp inp g e ∧ Aligned inp gs es
  | _, _ => False

theorem aligned_split (inp : Bytes) : ∀ (L1 L2 : List Ent) (G : List Lines), Aligned inp G (L1 ++ L2) →
    ∃ G1 G2, G = G1 ++ G2 ∧ Aligned inp G1 L1 ∧ Aligned inp G2 L2
  | [], L2, G, h => ⟨[], G, rfl, trivial, h⟩
  | e :: L1, L2, [], h => by simp [Aligned] at h
  | e :: L1, L2, g :: G, h => by
    simp only [List.cons_append, Aligned] at h
    obtain ⟨G1, G2, e1, e2, e3⟩ := aligned_split inp L1 L2 G h.2
    exact ⟨g :: G1, G2, by rw [e1]; rfl, ⟨h.1, e2⟩, e3⟩

theorem aligned_append (inp : Bytes) : ∀ (L1 L2 : List Ent) (G1 G2 : List Lines), Aligned inp G1 L1 →
    Aligned inp G2 L2 → Aligned inp (G1 ++ G2) (L1 ++ L2)
  | [], L2, [], G2, _, h => h
  | [], _, g :: G1, _, h, _ => by simp [Aligned] at h
  | e :: L1, _, [], _, h, _ => by simp [Aligned] at h
  | e :: L1, L2, g :: G1, G2, h, h2 => by
    simp only [Aligned] at h
    exact ⟨h.1, aligned_append inp L1 L2 G1 G2 h.2 h2⟩

theorem aligned_wf (inp : Bytes) : ∀ (L : List Ent) (G : List Lines), Aligned inp G L →
    ∀ p ∈ G.flatten, QLine.WF p.1
  | [], [], _, p, hp => by simp at hp
  | [], g :: G, h, _, _ => by simp [Aligned] at h
  | e :: L, [], h, _, _ => by simp [Aligned] at h
  | e :: L, g :: G, h, p, hp => by
    simp only [Aligned] at h
    simp only [List.flatten_cons, List.mem_append] at hp
    rcases hp with hp | hp
    · exact h.1.1 p hp
    · exact aligned_wf inp L G h.2 p hp

theorem aligned_render (inp : Bytes) : ∀ (L : List Ent) (G : List Lines), Aligned inp G L →
    renderLinesQ G.flatten = encodeBody stripCr inp L
  | [], [], _ => rfl
  | [], g :: G, h => by simp [Aligned] at h
  | e :: L, [], h => by simp [Aligned] at h
  | e :: L, g :: G, h => by
    simp only [Aligned] at h
    rw [List.flatten_cons, renderLinesQ_append, h.1.2.1, aligned_render inp L G h.2, ← encodeBody_append]; rfl

theorem aligned_stmts (inp : Bytes) : ∀ (L : List Ent) (G : List Lines), Aligned inp G L →
    stmtsLinesQ G.flatten = L.map stmtOf
  | [], [], _ => rfl
  | [], g :: G, h => by simp [Aligned] at h
  | e :: L, [], h => by simp [Aligned] at h
  | e :: L, g :: G, h => by
    simp only [Aligned] at h
    rw [List.flatten_cons, stmtsLinesQ_append, h.1.2.2, aligned_stmts inp L G h.2]; rfl

end TomlVerif.Lemmas.Tiling03More.Nad
