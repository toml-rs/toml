import TomlVerif.Model.Encode
/-! The spelling of a key segment: what the printer can see of a stored `Key` (its repr and the
    texts of its decor), and that key paths spelled alike print alike. -/
namespace TomlVerif.Lemmas.Tiling03Nest
open TomlVerif TomlVerif.Model TomlVerif.Model.Cst TomlVerif.Model.Encode

def decTxt (inp : Bytes) (d : Decor) : Option Bytes × Option Bytes :=
  (d.pre.map (rawText inp), d.suf.map (rawText inp))

/-- same spelling as an inner segment of a key path: the key text and the white space around it
    inside the path (`dotted_decor`) -/
def sameSeg (inp : Bytes) (k k' : CKey) : Bool :=
  rawText inp k.repr == rawText inp k'.repr && decTxt inp k.dotted == decTxt inp k'.dotted

/-- same spelling as the last segment of a key path: also the white space around the whole path
    (`leaf_decor`) -/
def sameLeaf (inp : Bytes) (k k' : CKey) : Bool :=
  sameSeg inp k k' && decTxt inp k.leaf == decTxt inp k'.leaf

def SegEq (f : Bytes → Bytes) (inp : Bytes) (k k' : CKey) : Prop :=
  encodeKey inp k = encodeKey inp k' ∧ prefixEncode f inp k.dotted [] = prefixEncode f inp k'.dotted [] ∧
  suffixEncode f inp k.dotted [] = suffixEncode f inp k'.dotted []

def LeafEq (f : Bytes → Bytes) (inp : Bytes) (k k' : CKey) : Prop :=
  SegEq f inp k k' ∧ (∀ dp, prefixEncode f inp k.leaf dp = prefixEncode f inp k'.leaf dp) ∧
  (∀ ds, suffixEncode f inp k.leaf ds = suffixEncode f inp k'.leaf ds)

theorem SegEq.refl (f : Bytes → Bytes) (inp : Bytes) (k : CKey) : SegEq f inp k k := ⟨rfl, rfl, rfl⟩
theorem LeafEq.refl (f : Bytes → Bytes) (inp : Bytes) (k : CKey) : LeafEq f inp k k :=
  ⟨SegEq.refl f inp k, fun _ => rfl, fun _ => rfl⟩
theorem SegEq.symm {f : Bytes → Bytes} {inp : Bytes} {k k' : CKey} (h : SegEq f inp k k') : SegEq f inp k' k :=
  ⟨h.1.symm, h.2.1.symm, h.2.2.symm⟩
theorem LeafEq.symm {f : Bytes → Bytes} {inp : Bytes} {k k' : CKey} (h : LeafEq f inp k k') : LeafEq f inp k' k :=
  ⟨h.1.symm, fun dp => (h.2.1 dp).symm, fun ds => (h.2.2 ds).symm⟩

theorem decTxt_encode (f : Bytes → Bytes) (inp : Bytes) (d d' : Decor) (h : decTxt inp d = decTxt inp d') :
    (∀ dp, prefixEncode f inp d dp = prefixEncode f inp d' dp) ∧
    (∀ ds, suffixEncode f inp d ds = suffixEncode f inp d' ds) := by
  obtain ⟨p, s⟩ := d
  obtain ⟨p', s'⟩ := d'
  simp only [decTxt, Prod.mk.injEq] at h
  obtain ⟨h1, h2⟩ := h
  constructor
  · intro dp
    cases p <;> cases p' <;> simp [prefixEncode, encRaw] at h1 ⊢
    rw [h1]
  · intro ds
    cases s <;> cases s' <;> simp [suffixEncode, encRaw] at h2 ⊢
    rw [h2]

theorem sameSeg_segEq (f : Bytes → Bytes) (inp : Bytes) (k k' : CKey) (h : sameSeg inp k k' = true) :
    SegEq f inp k k' := by
  simp only [sameSeg, Bool.and_eq_true, beq_iff_eq] at h
  obtain ⟨a, b⟩ := decTxt_encode f inp _ _ h.2
  exact ⟨h.1, a [], b []⟩

theorem sameLeaf_leafEq (f : Bytes → Bytes) (inp : Bytes) (k k' : CKey) (h : sameLeaf inp k k' = true) :
    LeafEq f inp k k' := by
  simp only [sameLeaf, Bool.and_eq_true, beq_iff_eq] at h
  obtain ⟨a, b⟩ := decTxt_encode f inp _ _ h.2
  exact ⟨sameSeg_segEq f inp k k' h.1, a, b⟩

theorem sameLeaf_refl (inp : Bytes) (k : CKey) : sameLeaf inp k k = true := by
  simp [sameLeaf, sameSeg]

theorem sameSeg_refl (inp : Bytes) (k : CKey) : sameSeg inp k k = true := by
  simp [sameSeg]

inductive SegsEq (f : Bytes → Bytes) (inp : Bytes) : List CKey → List CKey → Prop
  | nil : SegsEq f inp [] []
  | cons {k k' : CKey} {r r' : List CKey} : SegEq f inp k k' → SegsEq f inp r r' → SegsEq f inp (k :: r) (k' :: r')

theorem SegsEq.refl (f : Bytes → Bytes) (inp : Bytes) : ∀ l : List CKey, SegsEq f inp l l
  | [] => .nil
  | k :: r => .cons (SegEq.refl f inp k) (SegsEq.refl f inp r)

theorem SegsEq.snoc {f : Bytes → Bytes} {inp : Bytes} {P Q : List CKey} {k k' : CKey}
    (h : SegsEq f inp P Q) (hk : SegEq f inp k k') : SegsEq f inp (P ++ [k]) (Q ++ [k']) := by
  induction h with
  | nil => exact .cons hk .nil
  | cons h1 _ ih => exact .cons h1 ih

theorem SegsEq.isEmpty {f : Bytes → Bytes} {inp : Bytes} {P Q : List CKey} (h : SegsEq f inp P Q) :
    P.isEmpty = Q.isEmpty := by
  cases h <;> rfl

theorem encodeKeyPathAux_congr (f : Bytes → Bytes) (inp : Bytes) (leaf leaf' : Decor) (dp ds : Bytes)
    (hp : prefixEncode f inp leaf dp = prefixEncode f inp leaf' dp)
    (hs : suffixEncode f inp leaf ds = suffixEncode f inp leaf' ds) {X Y : List CKey} (h : SegsEq f inp X Y) :
    ∀ first, encodeKeyPathAux f inp leaf dp ds first X = encodeKeyPathAux f inp leaf' dp ds first Y := by
  induction h with
  | nil => intro first; rfl
  | cons h1 h2 ih =>
    intro first
    simp only [encodeKeyPathAux]
    rw [ih false, h1.1, h1.2.1, h1.2.2, hp, hs, h2.isEmpty]

theorem encodeKeyPath_congr (f : Bytes → Bytes) (inp : Bytes) (P Q : List CKey) (L L' : CKey) (dp ds : Bytes)
    (h : SegsEq f inp P Q) (hl : LeafEq f inp L L') :
    encodeKeyPath f inp (P ++ [L]) dp ds = encodeKeyPath f inp (Q ++ [L']) dp ds := by
  unfold encodeKeyPath
  simp only [List.getLast?_append, List.getLast?_singleton, Option.some_or]
  exact encodeKeyPathAux_congr f inp _ _ dp ds (hl.2.1 dp) (hl.2.2 ds) (h.snoc hl.1) true

end TomlVerif.Lemmas.Tiling03Nest
