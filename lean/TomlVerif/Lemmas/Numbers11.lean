import TomlVerif.Lemmas.TokenNumbers
/-! C11, `float` against `integer` on one input: a special float is no integer; a float literal has all-digit parts and
    continues its `dec_int` (`floatLit_shape`). -/
namespace TomlVerif.Lemmas.Numbers11
open TomlVerif TomlVerif.Spec TomlVerif.Model.Numbers

theorem specialBody_head (sgn : Nat) (r rest : Bytes) (b : Nat) (h : specialBody sgn r = .ok b rest) :
    ∃ c2 r2, r = c2 :: r2 ∧ (c2 = 0x69 ∨ c2 = 0x6E) := by
  unfold specialBody at h
  split at h
  · rename_i t ht
    obtain ⟨r2, e⟩ := startsWith_head _ _ _ _ ht
    exact ⟨_, r2, e, Or.inl rfl⟩
  · split at h
    · rename_i t ht
      obtain ⟨r2, e⟩ := startsWith_head _ _ _ _ ht
      exact ⟨_, r2, e, Or.inr rfl⟩
    · contradiction

theorem specialFloat_head (s rest : Bytes) (b : Nat) (h : specialFloat s = .ok b rest) :
    ∃ c r, s = c :: r ∧ ((c = 0x69 ∨ c = 0x6E) ∨
      ((c = 0x2B ∨ c = 0x2D) ∧ ∃ c2 r2, r = c2 :: r2 ∧ (c2 = 0x69 ∨ c2 = 0x6E))) := by
  cases s with
  | nil => rw [specialFloat_nil] at h; contradiction
  | cons c r =>
    by_cases h1 : c = 0x2B
    · subst h1
      rw [specialFloat_plus] at h
      exact ⟨_, _, rfl, Or.inr ⟨Or.inl rfl, specialBody_head _ _ _ _ h⟩⟩
    · by_cases h2 : c = 0x2D
      · subst h2
        rw [specialFloat_minus] at h
        exact ⟨_, _, rfl, Or.inr ⟨Or.inr rfl, specialBody_head _ _ _ _ h⟩⟩
      · rw [specialFloat_nosign c r h1 h2] at h
        obtain ⟨c2, r2, e, hc⟩ := specialBody_head _ _ _ _ h
        injection e with e1 e2
        subst e1
        exact ⟨_, _, rfl, Or.inl hc⟩

theorem specialFloat_not_integer (s rest : Bytes) (b : Nat) (h : specialFloat s = .ok b rest) :
    integer s = .bt := by
  obtain ⟨c, r, e, hc⟩ := specialFloat_head s rest b h
  subst e
  rcases hc with (hc | hc) | ⟨hc | hc, c2, r2, e, h2 | h2⟩
  all_goals (subst hc; try subst e; try subst h2); rfl

theorem floatLit_shape (s rest : Bytes) (l : FloatLit) (h : floatLit s = .ok l rest) :
    (∃ sg r, decInt s = .ok (l.neg, sg, l.intDigits) r ∧ rest.length < r.length) ∧
    l.intDigits ≠ [] ∧ AllB isDigit l.intDigits ∧ AllB isDigit l.fracDigits ∧ AllB isDigit l.expDigits ∧
    (l.fracDigits ≠ [] ∨ l.expDigits ≠ []) := by
  obtain ⟨sign, ig, hi, hz, ⟨fg, hf, _, rfl, rfl⟩ | ⟨frac, e, es, eg, hf, he, hg, _, rfl, rfl⟩⟩ := floatLit_inv s rest l h
  · exact ⟨⟨_, _, decInt_lit sign ig _ hi hz ⟨by decide, by decide⟩, by simp; omega⟩,
      (flatten_of_good hi).1, (flatten_of_good hi).2, (flatten_of_good hf).2, AllB_nil _, .inl (flatten_of_good hf).1⟩
  · have hst : Stops isDigit (fracBytes frac ++ e :: (signBytes es ++ joinU eg ++ rest)) := by
      cases frac with
      | none => rcases he with rfl | rfl <;> exact ⟨by decide, by decide⟩
      | some fg => exact ⟨by decide, by decide⟩
    refine ⟨⟨_, _, decInt_lit sign ig _ hi hz hst, by simp; omega⟩, (flatten_of_good hi).1, (flatten_of_good hi).2, ?_,
      (flatten_of_good hg).2, .inr (flatten_of_good hg).1⟩
    cases frac with
    | none => exact AllB_nil _
    | some fg => exact (flatten_of_good (hf fg rfl)).2

theorem intOfDec_rest (s rest : Bytes) (n : Int) (h : intOfDec s = .ok n rest) :
    ∃ x, decInt s = .ok x rest := by
  unfold intOfDec at h
  split at h
  · rename_i neg sg ds r hdec
    simp only [] at h
    split at h <;>
    · split at h
      · injection h with h1 h2; subst h2; exact ⟨_, hdec⟩
      · contradiction
  · contradiction
  · contradiction

theorem inI64_nat (v : Nat) : inI64 (v : Int) = decide (v ≤ 9223372036854775807) := by
  unfold inI64 i64Min i64Max
  by_cases h : v ≤ 9223372036854775807
  · simp [h]; omega
  · simp [h]; omega

end TomlVerif.Lemmas.Numbers11
