import TomlVerif.Lemmas.CstEraseKey
import TomlVerif.Lemmas.Clean08
/-! The erasure, values: `table_from_pairs` and the four functions of the value parser decode the
    same data as their semantic twins (`cvalue_erase`).  The type `CVal` lets a `scalar` hold any
    `Val` (also an inline table); the parser never builds such a value (`Clean08.lean`: `cleanPr`),
    which the inline-table insertion needs. -/
namespace TomlVerif.Lemmas.Tiling03More
open TomlVerif TomlVerif.Spec TomlVerif.Model TomlVerif.Model.Strings TomlVerif.Model.Value
open TomlVerif.Model.Cst TomlVerif.Lemmas.Refine08c TomlVerif.Lemmas.Refine08bSem TomlVerif.Lemmas.Spans14

abbrev CleanKvs (items : List (CKey × CVal)) : Prop := AllKV (KeyOK cleanPr) (VOK cleanPr) items

theorem cinlInsert_erase : ∀ (path : List CKey) (items : List (CKey × CVal)) (td pe : Bool)
    (key : CKey) (v : CVal), CleanKvs items →
    (cinlInsert items td path pe key v).map eraseKvs =
      inlInsert (eraseKvs items) td (keysOf path) pe key.key (eraseVal v) := by
  intro path
  induction path with
  | nil =>
    intro items td pe key v _
    simp only [keysOf_nil]
    unfold cinlInsert inlInsert
    by_cases h : (td == pe) = true
    · simp [h]
    · simp only [h, eraseKvs_eq, alookup_mapKv]
      cases clookup key.key items with
      | none => simp [eraseKvs_eq]
      | some x => simp
  | cons k ks ih =>
    intro items td pe key v hit
    simp only [keysOf_cons]
    unfold cinlInsert inlInsert
    simp only [eraseKvs_eq, alookup_mapKv]
    cases hl : clookup k.key items with
    | none =>
      have := ih [] true pe key v AllKV.nil
      simp only [eraseKvs_eq, mapKv_nil] at this
      simp only [Option.map_none, ← this]
      cases cinlInsert [] true ks pe key v with
      | none => rfl
      | some sub => simp [newDottedInl, eraseVal, eraseKvs_eq]
    | some x =>
      have hx : VOK cleanPr x := hit.lookup hl
      cases x with
      | scalar a b c =>
        simp only [VOK, cleanPr] at hx
        have ha := hx.1
        simp only [Option.map_some, eraseVal]
        cases a <;> simp [notInlVal] at ha <;> rfl
      | arr a b c d e => simp only [Option.map_some, eraseVal]; rfl
      | inl sub pre imp dot dec sp =>
        simp only [VOK] at hx
        have := ih sub dot pe key v ((Refine08c.KvsOK_iff _).1 hx.1)
        simp only [eraseKvs_eq] at this
        simp only [Option.map_some, eraseVal, eraseKvs_eq, ← this]
        cases imp with
        | false => rfl
        | true =>
          simp only [Bool.not_true, Bool.false_eq_true, if_false]
          cases cinlInsert sub dot ks pe key v with
          | none => rfl
          | some sub' =>
            simp only [Option.map_some]
            rw [eraseKvs_eq, mapKv_creplace]
            simp [eraseVal, eraseKvs_eq]

def eraseTriples (l : List (List CKey × CKey × CVal)) : List (List Bytes × Bytes × Val) :=
  l.map (fun x => (keysOf x.1, x.2.1.key, eraseVal x.2.2))

@[simp] theorem eraseTriples_nil : eraseTriples [] = [] := rfl
@[simp] theorem eraseTriples_cons (p : List CKey) (k : CKey) (v : CVal) (l : List (List CKey × CKey × CVal)) :
    eraseTriples ((p, k, v) :: l) = (keysOf p, k.key, eraseVal v) :: eraseTriples l := rfl
@[simp] theorem eraseTriples_append (a b : List (List CKey × CKey × CVal)) :
    eraseTriples (a ++ b) = eraseTriples a ++ eraseTriples b := by simp [eraseTriples]
@[simp] theorem eraseTriples_length (a : List (List CKey × CKey × CVal)) :
    (eraseTriples a).length = a.length := by simp [eraseTriples]

theorem ctableFromPairs_erase : ∀ (kvs : List (List CKey × CKey × CVal)) (acc : List (CKey × CVal)),
    PairsOK kvs → CleanKvs acc →
    (ctableFromPairs kvs acc).map eraseKvs = tableFromPairs (eraseTriples kvs) (eraseKvs acc) := by
  intro kvs
  induction kvs with
  | nil => intro acc _ _; rfl
  | cons x rest ih =>
    intro acc hn hacc
    obtain ⟨path, key, v⟩ := x
    simp only [eraseTriples_cons]
    unfold ctableFromPairs tableFromPairs
    have hv : VOK cleanPr v := hn (path, key, v) (by simp)
    have hrest : PairsOK rest := fun y hy => hn y (List.mem_cons_of_mem _ hy)
    rw [keysOf_isEmpty, ← cinlInsert_erase path acc false path.isEmpty key v hacc]
    cases hins : cinlInsert acc false path path.isEmpty key v with
    | none => rfl
    | some acc' =>
      simp only [Option.map_some]
      exact ih acc' hrest (cinlInsert_clean _ _ _ _ _ _ _ hins hacc hv)

/-! `E1`–`E4`: each of the four functions of the value parser, mapped through the erasure, IS its
    semantic twin at the same fuel — as an equation of results, the failures (`bt`, `cut`) included.
    The steps therefore unfold both parsers side by side: the inversions of `CstParse.lean` describe
    successful runs only. -/

def E1 (n fuel : Nat) : Prop := ∀ d s, (cvalue n fuel d s).map eraseVal = Value.value fuel d s

def E2 (n fuel : Nat) : Prop :=
  ∀ d s, (carrayValues n fuel d s).map (fun x => x.1.map eraseVal) = arrayValues fuel d s

def E3 (n fuel : Nat) : Prop :=
  ∀ d s acc, (carrayElems n fuel d s acc).map (List.map eraseVal) = arrayElems fuel d s (acc.map eraseVal)

/-- `PairsOK acc`: the erasure commutes with `table_from_pairs` only on pairs whose scalars hold no
    inline table, so the loop carries it for its accumulator -/
def E4 (n fuel : Nat) : Prop :=
  ∀ d s acc, PairsOK acc →
    (cinlineKeyvals n fuel d s acc).map eraseTriples = inlineKeyvals fuel d s (eraseTriples acc)

theorem estep1 (n fuel : Nat) (ih2 : E2 n fuel) (ih4 : E4 n fuel) : E1 n (fuel + 1) := by
  intro d s
  cases s with
  | nil => unfold cvalue Value.value; rfl
  | cons b r =>
    by_cases h1 : b = 0x5B
    · subst h1
      rw [cvalue_arr, ValueParse.value_brack]
      by_cases hl : LIMIT ≤ d + 1
      · rw [if_pos hl, if_pos hl]; rfl
      · rw [if_neg hl, if_neg hl, ← ih2 (d + 1) r]
        unfold ValueParse.valueArr
        cases carrayValues n fuel (d + 1) r with
        | bt => rfl
        | cut => rfl
        | ok x r1 =>
          obtain ⟨vs, comma, tr⟩ := x
          simp only [map_ok]
          split
          · simp only [map_ok, eraseVal, eraseVals_eq]
          · rename_i hne
            split
            · rename_i r2; exact absurd rfl (hne r2)
            · rfl
    · by_cases h2 : b = 0x7B
      · subst h2
        rw [cvalue_inl, ValueParse.value_brace]
        by_cases hl : LIMIT ≤ d + 1
        · rw [if_pos hl, if_pos hl]; rfl
        · rw [if_neg hl, if_neg hl]
          have h4 := ih4 (d + 1) r [] (fun _ h => by cases h)
          simp only [eraseTriples_nil] at h4
          rw [← h4]
          unfold ValueParse.valueInl
          cases hk : cinlineKeyvals n fuel (d + 1) r [] with
          | bt => rfl
          | cut => rfl
          | ok kvs r1 =>
            have hp : PairsOK kvs := cinlineKeyvals_clean hk
            have ht := ctableFromPairs_erase kvs [] hp AllKV.nil
            simp only [eraseKvs_eq, mapKv_nil] at ht
            simp only [map_ok, ← ht]
            cases ctableFromPairs kvs [] with
            | none => rfl
            | some items =>
              simp only [Option.map_some]
              generalize dropWs r1 = r1'
              split
              · simp only [map_ok, eraseVal, eraseKvs_eq]
              · rename_i hne
                split
                · rename_i r2; exact absurd rfl (hne r2)
                · rfl
      · have e1 : (b == 0x5B) = false := by simpa using h1
        have e2 : (b == 0x7B) = false := by simpa using h2
        -- the token parsers do not use the fuel
        rw [ValueParse.value_other fuel 0 d b r h1 h2, cvalue_scalar n fuel d b r e1 e2]
        cases Value.value 1 d (b :: r) with
        | bt => rfl
        | cut => rfl
        | ok v r1 => simp only [map_ok, eraseVal]

theorem commaRest_snd (r : Bytes) :
    (match r with | 0x2C :: t => (true, t) | _ => (false, r) : Bool × Bytes).2 =
      (match r with | 0x2C :: t => t | _ => r) := by
  split <;> rfl

theorem estep2 (n fuel : Nat) (ih3 : E3 n fuel) : E2 n (fuel + 1) := by
  intro d s
  conv => rhs; unfold arrayValues
  split
  · unfold carrayValues
    simp only [map_ok, List.map_nil]
  · rename_i hne
    unfold carrayValues
    split
    · rename_i t; exact absurd rfl (hne t)
    · have h3 := ih3 d s []
      simp only [List.map_nil] at h3
      rw [← h3]
      cases carrayElems n fuel d s [] with
      | bt => rfl
      | cut => rfl
      | ok vs r =>
        simp only [map_ok]
        cases vs with
        | nil =>
          simp only [List.isEmpty_nil, if_true, List.map_nil]
          cases wsCommentNewline (r.length + 1) r <;> rfl
        | cons v vs =>
          simp only [List.isEmpty_cons, Bool.false_eq_true, if_false, List.map_cons]
          -- the `let (comma, r1) := …` of `carrayValues` elaborates to `.2` of a `match`
          rw (config := { transparency := .default }) [commaRest_snd r]
          cases wsCommentNewline _ _ <;> rfl

theorem estep3 (n fuel : Nat) (ih1 : E1 n fuel) (ih3 : E3 n fuel) : E3 n (fuel + 1) := by
  intro d s acc
  unfold carrayElems arrayElems
  cases wsCommentNewline (s.length + 1) s with
  | none => rfl
  | some s1 =>
    simp only []
    rw [← ih1 d s1]
    cases cvalue n fuel d s1 with
    | bt => rfl
    | cut => rfl
    | ok v s2 =>
      simp only [map_ok]
      cases wsCommentNewline (s2.length + 1) s2 with
      | none => rfl
      | some s3 =>
        simp only []
        split
        · rename_i s4
          simp only []
          have h3 := ih3 d s4 (acc ++ [v.setDecor (Decor.new (rawBetween n s s1) (rawBetween n s2 (0x2C :: s4)))])
          simp only [List.map_append, List.map_cons, List.map_nil, eraseVal_setDecor] at h3
          rw [← h3]
          cases carrayElems n fuel d s4 (acc ++ [v.setDecor (Decor.new (rawBetween n s s1) (rawBetween n s2 (0x2C :: s4)))]) with
          | bt => rfl
          | cut => rfl
          | ok vs r =>
            simp only [map_ok, List.length_map, List.length_append, List.length_cons, List.length_nil]
            split <;> rfl
        · rename_i hne
          split
          · rename_i s4; exact absurd rfl (hne s4)
          · simp only [map_ok, List.map_append, List.map_cons, List.map_nil, eraseVal_setDecor]

theorem PairsOK_snoc {acc : List (List CKey × CKey × CVal)} {p : List CKey} {k : CKey} {v : CVal}
    (h : PairsOK acc) (hv : VOK cleanPr v) : PairsOK (acc ++ [(p, k, v)]) := by
  intro y hy
  rcases List.mem_append.1 hy with hy | hy
  · exact h y hy
  · simp only [List.mem_singleton] at hy; subst hy; exact hv

theorem estep4 (n fuel : Nat) (ih1 : E1 n fuel) (ih4 : E4 n fuel) : E4 n (fuel + 1) := by
  intro d s acc hacc
  unfold cinlineKeyvals inlineKeyvals
  rw [← ckeyPath_erase n s]
  cases ckeyPath n s with
  | bt => rfl
  | cut => rfl
  | ok ks r =>
    simp only [map_ok, keysOf_length]
    by_cases hl : LIMIT ≤ d + (ks.length - 1)
    · simp only [hl, if_true]; rfl
    · simp only [hl, if_false]
      split
      · rename_i r1
        simp only []
        rw [← ih1 (d + (ks.length - 1)) (dropWs r1)]
        cases hv : cvalue n fuel (d + (ks.length - 1)) (dropWs r1) with
        | bt => rfl
        | cut => rfl
        | ok v r2 =>
          have hvc : VOK cleanPr v := cvalue_clean _ _ _ _ _ _ hv
          simp only [map_ok]
          rw [vsplitLast_keysOf]
          cases Value.splitLast ks with
          | none => rfl
          | some p =>
            obtain ⟨path, key⟩ := p
            simp only [Option.map_some]
            generalize dropWs r2 = r3
            split
            · rename_i r4
              simp only []
              have hacc' : PairsOK (acc ++ [(path, key, v.setDecor (Decor.new (rawBetween n r1 (dropWs r1)) (rawBetween n r2 (0x2C :: r4))))]) :=
                PairsOK_snoc hacc (VOK_setDecor hvc (DecOK_clean _))
              have h4 := ih4 d r4 _ hacc'
              simp only [eraseTriples_append, eraseTriples_cons, eraseTriples_nil, eraseVal_setDecor] at h4
              rw [← h4]
              cases cinlineKeyvals n fuel d r4 (acc ++ [(path, key, v.setDecor (Decor.new (rawBetween n r1 (dropWs r1)) (rawBetween n r2 (0x2C :: r4))))]) with
              | bt => rfl
              | cut => rfl
              | ok kvs r5 =>
                simp only [map_ok, eraseTriples_length, List.length_append, List.length_cons, List.length_nil]
                split <;> rfl
            · rename_i hne
              split
              · rename_i r4; exact absurd rfl (hne r4)
              · simp only [map_ok, eraseTriples_append, eraseTriples_cons, eraseTriples_nil, eraseVal_setDecor]
      · rename_i hne
        split
        · rename_i r1; exact absurd rfl (hne r1)
        · rfl

theorem emain (n : Nat) : ∀ fuel : Nat, E1 n fuel ∧ E2 n fuel ∧ E3 n fuel ∧ E4 n fuel := by
  refine fuel_induct4 ⟨?_, ?_, ?_, ?_⟩ (estep1 n) (estep2 n) (estep3 n) (estep4 n)
  · intro d s; unfold cvalue Value.value; rfl
  · intro d s; unfold carrayValues arrayValues; rfl
  · intro d s acc; unfold carrayElems arrayElems; rfl
  · intro d s acc _; unfold cinlineKeyvals inlineKeyvals; rfl

theorem cvalue_erase (n fuel d : Nat) (s : Bytes) :
    (cvalue n fuel d s).map eraseVal = Value.value fuel d s := (emain n fuel).1 d s

/-! A successful run is a run of the semantic parser on the same text with the same rest, so
    every fact about the consumed text (`Suffix03`, `LastByte03`) holds of it. -/

theorem cvalue_value {n fuel d : Nat} {s r : Bytes} {v : CVal} (h : cvalue n fuel d s = .ok v r) :
    Value.value fuel d s = .ok (eraseVal v) r := by
  rw [← cvalue_erase n, h]; rfl

theorem cvalue_adv {n fuel d : Nat} {s r : Bytes} {v : CVal} (h : cvalue n fuel d s = .ok v r) :
    Lemmas.Suffix03.Adv r s := Lemmas.Suffix03.value_adv (cvalue_value h)

theorem cvalue_lastNe {n fuel d : Nat} {s r : Bytes} {v : CVal} (h : cvalue n fuel d s = .ok v r) :
    Lemmas.LastByte03.LastNe r s := Lemmas.LastByte03.value_lastNe (cvalue_value h)

theorem carrayElems_rest {n fuel d : Nat} {s r : Bytes} {acc vs : List CVal}
    (h : carrayElems n fuel d s acc = .ok vs r) : r <:+ s :=
  (Lemmas.Suffix03.parse_adv fuel).2.2.1 d s (acc.map eraseVal) (vs.map eraseVal) r
    (by rw [← (emain n fuel).2.2.1 d s acc, h]; rfl)

theorem cinlineKeyvals_rest {n fuel d : Nat} {s r : Bytes} {kvs : List (List CKey × CKey × CVal)}
    (h : cinlineKeyvals n fuel d s [] = .ok kvs r) : r <:+ s :=
  (Lemmas.Suffix03.parse_adv fuel).2.2.2 d s [] (eraseTriples kvs) r
    (by rw [← eraseTriples_nil, ← (emain n fuel).2.2.2 d s [] (fun _ h => nomatch h), h]; rfl)

theorem parseCstValue_erase (s : Bytes) : (parseCstValue s).map eraseVal = Value.parseValue s := by
  unfold parseCstValue Value.parseValue
  rw [← cvalue_erase s.length]
  cases cvalue s.length (3 * s.length + 4) 0 s with
  | bt => rfl
  | cut => rfl
  | ok v r => cases r <;> rfl

end TomlVerif.Lemmas.Tiling03More
