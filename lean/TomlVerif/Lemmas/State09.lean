import TomlVerif.Lemmas.Descend
/-! The table-building state machine (`Model/State.lean`) for C09: what `descend` keeps (values,
    distinct keys), `start_table`, `start_array_table` and `finalize_table` each as one equation over
    `focus` / `plug` (`onKeyval` as `descend` with `kvF`), statements, runs and their invariant.
    For each handler `*_append` is the statement (path `pp ++ [key]`, over `focus` / `plug`); `*_eq` /
    `startArrayTable_def` unfold it over `descend` for any path (also the path without a last key),
    `finalizeTable_of_path` is `_eq` at `pp ++ [key]`, and `*_some` invert the `descend` form. -/
namespace TomlVerif.Lemmas.State09
open TomlVerif TomlVerif.Model TomlVerif.Model.State

theorem lookupValG_nil (t : Tbl) (k : Bytes) : lookupValG t [] k = valueAt t k := rfl

theorem lookupValG_cons (t : Tbl) (k1 : Bytes) (s : Option Nat) (r : IPath) (k : Bytes) :
    lookupValG t ((k1, s) :: r) k =
      match alookup k1 t.items with
      | some (.table sub) => lookupValG sub r k
      | some (.aot ts) => match selAot ts s with
        | some l => lookupValG l r k
        | none => none
      | _ => none := by
  unfold lookupValG
  simp only [lookupG]
  cases alookup k1 t.items with
  | none => rfl
  | some it =>
    cases it with
    | value v => rfl
    | table sub => rfl
    | aot ts =>
      simp only []
      cases selAot ts s <;> rfl

theorem valueAt_eq_some (t : Tbl) (k : Bytes) (x : Val) : valueAt t k = some x ↔ alookup k t.items = some (.value x) := by
  unfold valueAt
  cases alookup k t.items with
  | none => simp
  | some it => cases it <;> simp

/-- Every value visible in `t` along a path whose selectors satisfy `P` is visible, unchanged,
    in `t'` along the same path. The selectors are restricted because `[[a]]` changes which element
    "the last" is: closing an array section keeps indexed paths only (`P = isSome`), key/value
    statements and `[table]` headers keep all (`P = fun _ => True`). -/
def PresP (P : Option Nat → Prop) (t t' : Tbl) : Prop :=
  ∀ ip k x, (∀ e ∈ ip, P e.2) → lookupValG t ip k = some x → lookupValG t' ip k = some x

def ItemPres (P : Option Nat → Prop) (i i' : Item) : Prop :=
  match i with
  | .value v => i' = .value v
  | .table s => ∃ s', i' = .table s' ∧ PresP P s s'
  | .aot ts => ∃ ts', i' = .aot ts' ∧
      ∀ s m, P s → selAot ts s = some m → ∃ m', selAot ts' s = some m' ∧ PresP P m m'

theorem PresP.refl (P : Option Nat → Prop) (t : Tbl) : PresP P t t := fun _ _ _ _ h => h
theorem PresP.trans {P : Option Nat → Prop} {a b c : Tbl} (h1 : PresP P a b) (h2 : PresP P b c) : PresP P a c :=
  fun ip k x hp h => h2 ip k x hp (h1 ip k x hp h)

theorem ItemPres.refl (P : Option Nat → Prop) (i : Item) : ItemPres P i i := by
  cases i with
  | value v => rfl
  | table s => exact ⟨s, rfl, PresP.refl P s⟩
  | aot ts => exact ⟨ts, rfl, fun s m _ h => ⟨m, h, PresP.refl P m⟩⟩

theorem presP_of_items (P : Option Nat → Prop) (u u' : Tbl)
    (h : ∀ k item, alookup k u.items = some item → ∃ item', alookup k u'.items = some item' ∧ ItemPres P item item') :
    PresP P u u' := by
  intro ip k x hP hx
  cases ip with
  | nil =>
    rw [lookupValG_nil, valueAt_eq_some] at *
    obtain ⟨item', h1, h2⟩ := h k _ hx
    simp only [ItemPres] at h2
    rw [h1, h2]
  | cons e r =>
    obtain ⟨k1, s⟩ := e
    rw [lookupValG_cons] at *
    have hr : ∀ e ∈ r, P e.2 := fun e he => hP e (List.mem_cons_of_mem _ he)
    have hs : P s := hP (k1, s) (List.mem_cons_self)
    cases ha : alookup k1 u.items with
    | none => simp [ha] at hx
    | some it =>
      obtain ⟨item', h1, h2⟩ := h k1 it ha
      rw [h1]
      cases it with
      | value v => simp [ha] at hx
      | table sub =>
        simp only [ha] at hx
        obtain ⟨s', e1, e2⟩ := h2
        subst e1
        exact e2 r k x hr hx
      | aot ts =>
        simp only [ha] at hx
        obtain ⟨ts', e1, e2⟩ := h2
        subst e1
        cases hm : selAot ts s with
        | none => simp [hm] at hx
        | some m =>
          simp only [hm] at hx
          obtain ⟨m', e3, e4⟩ := e2 s m hs hm
          simp only [e3]
          exact e4 r k x hr hx

theorem presP_of_keeps (P : Option Nat → Prop) (u u' : Tbl)
    (h : ∀ k item, alookup k u.items = some item → alookup k u'.items = some item) : PresP P u u' :=
  presP_of_items P u u' fun k item hk => ⟨item, h k item hk, ItemPres.refl P item⟩

theorem presP_update (P : Option Nat → Prop) (u u' : Tbl) (k : Bytes)
    (hother : ∀ k0, k0 ≠ k → alookup k0 u'.items = alookup k0 u.items)
    (hsame : ∀ item, alookup k u.items = some item → ∃ item', alookup k u'.items = some item' ∧ ItemPres P item item') :
    PresP P u u' :=
  presP_of_items P u u' fun k0 item h0 => by
    by_cases hk : k0 = k
    · subst hk; exact hsame item h0
    · exact ⟨item, by rw [hother k0 hk]; exact h0, ItemPres.refl P item⟩

theorem selAot_modifyLast (init : List Tbl) (l l' m : Tbl) (s : Option Nat) (h : selAot (init ++ [l]) s = some m) :
    ∃ m', selAot (init ++ [l']) s = some m' ∧ (m' = m ∨ (m = l ∧ m' = l')) := by
  cases s with
  | none =>
    simp [selAot] at h ⊢
    exact Or.inr h.symm
  | some i =>
    simp only [selAot] at h ⊢
    by_cases hi : i < init.length
    · rw [List.getElem?_append_left hi] at h ⊢
      exact ⟨m, h, Or.inl rfl⟩
    · have hi' : init.length ≤ i := Nat.le_of_not_lt hi
      rw [List.getElem?_append_right hi'] at h ⊢
      cases hj : i - init.length with
      | zero => simp [hj] at h ⊢; exact Or.inr h.symm
      | succ j => simp [hj] at h

theorem itemPres_last (P : Option Nat → Prop) (init : List Tbl) (l l' : Tbl) (h : PresP P l l') :
    ItemPres P (.aot (init ++ [l])) (.aot (init ++ [l'])) :=
  ⟨_, rfl, fun s m _ hm => by
    obtain ⟨m', e1, e2⟩ := selAot_modifyLast init l l' m s hm
    refine ⟨m', e1, ?_⟩
    rcases e2 with e | ⟨e, e'⟩
    · subst e; exact PresP.refl P _
    · subst e; subst e'; exact h⟩

theorem plug_pres (P : Option Nat → Prop) {d : Bool} {t u : Tbl} {p : List Bytes} (h : focus d t p = some u) :
    PresP P t (plug d t p u) :=
  focus_induct (motive := fun t p u => PresP P t (plug d t p u)) (fun t => PresP.refl P t)
    (fun t k ks sub u he _ _ ih => by
      rw [plug_cons_table ks u he]
      refine presP_update P _ _ k (fun k0 hk => alookup_aset_other _ _ _ _ hk) fun item h0 => ?_
      simp [h0] at he; subst he
      exact ⟨_, alookup_aset_same _ _ _, _, rfl, ih⟩)
    (fun t k ks init l u ha _ _ ih => by
      rw [plug_cons_aot ks u ha]
      refine presP_update P _ _ k (fun k0 hk => alookup_aset_other _ _ _ _ hk) fun item h0 => ?_
      rw [ha] at h0; injection h0 with h0; subst h0
      exact ⟨_, alookup_aset_same _ _ _, itemPres_last P init l _ ih⟩) h

theorem plug_mono (P : Option Nat → Prop) {d : Bool} {t u : Tbl} {p : List Bytes} (h : focus d t p = some u)
    {a b : Tbl} (hab : PresP P a b) : PresP P (plug d t p a) (plug d t p b) :=
  focus_induct (motive := fun t p _ => PresP P (plug d t p a) (plug d t p b)) (fun _ => hab)
    (fun t k ks sub u he _ _ ih => by
      rw [plug_cons_table ks a he, plug_cons_table ks b he]
      refine presP_update P _ _ k (fun k0 hk => by simp [alookup_aset_other _ _ _ _ hk]) fun item h0 => ?_
      simp [alookup_aset_same] at h0; subst h0
      exact ⟨_, alookup_aset_same _ _ _, _, rfl, ih⟩)
    (fun t k ks init l u ha _ _ ih => by
      rw [plug_cons_aot ks a ha, plug_cons_aot ks b ha]
      refine presP_update P _ _ k (fun k0 hk => by simp [alookup_aset_other _ _ _ _ hk]) fun item h0 => ?_
      simp [alookup_aset_same] at h0; subst h0
      exact ⟨_, alookup_aset_same _ _ _, itemPres_last P init _ _ ih⟩) h

theorem descend_pres (P : Option Nat → Prop) (t t' : Tbl) (path : List Bytes) (d : Bool) (f : Tbl → Option Tbl)
    (h : descend t path d f = some t')
    (hf : ∀ u', f (target t path d) = some u' → PresP P (target t path d) u') : PresP P t t' := by
  obtain ⟨u, u', hu, hfu, rfl⟩ := (descend_some_iff ..).1 h
  rw [focus_target hu] at hf
  exact (plug_pres P hu).trans (plug_mono P hu (hf u' hfu))

theorem descend_mono (P : Option Nat → Prop) (t a : Tbl) (path : List Bytes) (d : Bool) (f g : Tbl → Option Tbl)
    (h : descend t path d f = some a)
    (hfg : ∀ u', f (target t path d) = some u' → ∃ u'', g (target t path d) = some u'' ∧ PresP P u' u'') :
    ∃ b, descend t path d g = some b ∧ PresP P a b := by
  obtain ⟨u, u', hu, hfu, rfl⟩ := (descend_some_iff ..).1 h
  rw [focus_target hu] at hfg
  obtain ⟨u'', hg, hp⟩ := hfg u' hfu
  exact ⟨_, (descend_some_iff ..).2 ⟨u, u'', hu, hg, rfl⟩, plug_mono P hu hp⟩

theorem lookupVal_of_presP {P : Option Nat → Prop} (hP : P none) {t t' : Tbl} (h : PresP P t t') :
    ∀ p k x, lookupVal t p k = some x → lookupVal t' p k = some x := by
  intro p k x hx
  rw [lookupVal_eq_lookupValG] at *
  exact h _ k x (by simp [hP]) hx


def kvF (path : List Bytes) (key : Bytes) (v : Val) : Tbl → Option Tbl := fun table =>
  if table.dotted == path.isEmpty then none
  else match alookup key table.items with
    | some _ => none
    | none => some (table.setItems (table.items ++ [(key, .value v)]))

theorem onKeyval_eq (st : ParseState) (path : List Bytes) (key : Bytes) (v : Val) :
    onKeyval st path key v = (descend st.current path true (kvF path key v)).map fun c => { st with current := c } := rfl

theorem onKeyval_some (st st' : ParseState) (path : List Bytes) (key : Bytes) (v : Val)
    (h : onKeyval st path key v = some st') :
    ∃ c, descend st.current path true (kvF path key v) = some c ∧ st' = { st with current := c } := by
  rw [onKeyval_eq] at h
  cases hd : descend st.current path true (kvF path key v) with
  | none => simp [hd] at h
  | some c => simp [hd] at h; exact ⟨c, rfl, h.symm⟩

theorem kvF_some (path : List Bytes) (key : Bytes) (v : Val) (u u' : Tbl) (h : kvF path key v u = some u') :
    alookup key u.items = none ∧ u' = u.setItems (u.items ++ [(key, .value v)]) ∧ u.dotted = !path.isEmpty := by
  unfold kvF at h
  split at h
  · simp at h
  · rename_i hd
    split at h
    · simp at h
    · rename_i hn
      simp at h
      refine ⟨hn, h.symm, ?_⟩
      revert hd; cases u.dotted <;> cases path.isEmpty <;> simp


/-- when a key/value statement is refused: the walk is blocked, or it ends in a table of the wrong
    sort (dotted for a bare key, not dotted for a dotted key), or the key is taken -/
theorem onKeyval_none_iff (st : ParseState) (path : List Bytes) (key : Bytes) (v : Val) :
    onKeyval st path key v = none ↔
      ∀ u, focus true st.current path = some u → u.dotted = path.isEmpty ∨ (alookup key u.items).isSome := by
  rw [onKeyval_eq, Option.map_eq_none_iff, descend_none_iff]
  refine forall_congr' fun u => imp_congr_right fun _ => ?_
  unfold kvF
  cases hd : u.dotted == path.isEmpty
  · have : u.dotted ≠ path.isEmpty := by simpa using hd
    cases alookup key u.items <;> simp [this]
  · simp [eq_of_beq hd]

theorem onKeyval_none_below (st : ParseState) (p q : List Bytes) (key : Bytes) (v : Val) (u : Tbl)
    (hu : lookupTbl st.current p = some u)
    (h : ∀ x, focus true u q = some x → x.dotted = (p ++ q).isEmpty ∨ (alookup key x.items).isSome) :
    onKeyval st (p ++ q) key v = none := by
  rw [onKeyval_none_iff]
  intro x hx
  obtain ⟨u', h1, h2⟩ := focus_append hx
  rw [focus_of_lookup hu h1] at h2
  exact h x h2


theorem splitLast_append {α} (i : List α) (x : α) : splitLast (i ++ [x]) = some (i, x) := by
  induction i with
  | nil => rfl
  | cons a r ih =>
    cases hr : r ++ [x] with
    | nil => simp at hr
    | cons b r' =>
      rw [List.cons_append, hr, splitLast]
      · rw [← hr, ih]
      · intro hx; cases hx

theorem splitLast_some {α} (l i : List α) (x : α) (h : splitLast l = some (i, x)) : l = i ++ [x] := by
  cases l with
  | nil => simp [splitLast] at h
  | cons a r =>
    have e := List.dropLast_concat_getLast (l := a :: r) (by simp)
    rw [← e, splitLast_append] at h
    injection h with h; injection h with h1 h2
    rw [← h1, ← h2]; exact e.symm

theorem splitLast_none {α} (l : List α) (h : splitLast l = none) : l = [] := by
  cases l with
  | nil => rfl
  | cons a r =>
    rw [← List.dropLast_concat_getLast (l := a :: r) (by simp), splitLast_append] at h
    cases h

/-- what `finalize_table` does to the parent table in the `[[array]]` case -/
def finArrF (key : Bytes) (table : Tbl) : Tbl → Option Tbl := fun parent =>
  match (alookup key parent.items).getD (.aot []) with
  | .aot ts => some (parent.setItems (aset key (.aot (ts ++ [table])) parent.items))
  | _ => none

/-- what `finalize_table` does to the parent table in the `[table]` case -/
def finStdF (key : Bytes) (table : Tbl) : Tbl → Option Tbl := fun parent =>
  match alookup key parent.items with
  | some (.table t) => if t.implicit then some (parent.setItems (areplace key (.table table) parent.items)) else none
  | some _ => none
  | none => some (parent.setItems (parent.items ++ [(key, .table table)]))

def finF (isArray : Bool) (key : Bytes) (table : Tbl) : Tbl → Option Tbl :=
  if isArray then finArrF key table else finStdF key table

theorem finalizeTable_eq (st : ParseState) :
    finalizeTable st =
      match splitLast st.currentPath with
      | none => if st.root.items.isEmpty then
          some { st with current := Tbl.empty, currentPath := [], root := st.current } else none
      | some (pp, key) =>
        (descend st.root pp false (finF st.currentIsArray key st.current)).map fun root =>
          { st with current := Tbl.empty, currentPath := [], root := root } := by
  unfold finalizeTable
  simp only []
  cases splitLast st.currentPath with
  | none => rfl
  | some pr =>
    obtain ⟨pp, key⟩ := pr
    simp only [finF]
    cases st.currentIsArray <;> rfl

theorem finalizeTable_of_path (st : ParseState) (pp : List Bytes) (key : Bytes) (h : st.currentPath = pp ++ [key]) :
    finalizeTable st = (descend st.root pp false (finF st.currentIsArray key st.current)).map fun root =>
      { st with current := Tbl.empty, currentPath := [], root := root } := by
  rw [finalizeTable_eq, h, splitLast_append]

theorem finalizeTable_append (st : ParseState) (pp : List Bytes) (key : Bytes) (h : st.currentPath = pp ++ [key]) :
    finalizeTable st = (focus false st.root pp).bind fun u =>
      (finF st.currentIsArray key st.current u).map fun u' =>
        { st with current := Tbl.empty, currentPath := [], root := plug false st.root pp u' } := by
  rw [finalizeTable_of_path st pp key h, descend_eq]
  cases focus false st.root pp with
  | none => rfl
  | some u => simp only [Option.bind_some]; cases finF st.currentIsArray key st.current u <;> rfl

theorem finalizeTable_some (st st' : ParseState) (h : finalizeTable st = some st') :
    (st.currentPath = [] ∧ st.root.items = [] ∧
        st' = { st with current := Tbl.empty, currentPath := [], root := st.current }) ∨
    (∃ pp key root', st.currentPath = pp ++ [key] ∧
        descend st.root pp false (finF st.currentIsArray key st.current) = some root' ∧
        st' = { st with current := Tbl.empty, currentPath := [], root := root' }) := by
  rw [finalizeTable_eq] at h
  split at h
  · rename_i hs
    left
    split at h
    · rename_i he
      simp at h
      exact ⟨splitLast_none _ hs, by simpa using he, h.symm⟩
    · simp at h
  · rename_i pp key hs
    right
    cases hd : descend st.root pp false (finF st.currentIsArray key st.current) with
    | none => simp [hd] at h
    | some root' =>
      simp [hd] at h
      exact ⟨pp, key, root', splitLast_some _ _ _ hs, hd, h.symm⟩

theorem lookupValG_empty (t : Tbl) (h : t.items = []) (ip : IPath) (k : Bytes) : lookupValG t ip k = none := by
  cases ip with
  | nil => simp [lookupValG_nil, valueAt, h, alookup]
  | cons e r => obtain ⟨k1, s⟩ := e; simp [lookupValG_cons, h, alookup]

theorem presP_of_empty (P : Option Nat → Prop) (t t' : Tbl) (h : t.items = []) : PresP P t t' := by
  intro ip k x _ hx
  simp [lookupValG_empty t h] at hx

theorem finArrF_some (key : Bytes) (table u u' : Tbl) (h : finArrF key table u = some u') :
    ∃ ts, (alookup key u.items).getD (.aot []) = .aot ts ∧ u' = u.setItems (aset key (.aot (ts ++ [table])) u.items) := by
  unfold finArrF at h
  split at h
  · rename_i ts he
    simp at h
    exact ⟨ts, he, h.symm⟩
  · simp at h

theorem finArrF_pres (key : Bytes) (table u u' : Tbl) (h : finArrF key table u = some u') :
    PresP (fun s => s.isSome) u u' := by
  obtain ⟨ts, he, hu⟩ := finArrF_some _ _ _ _ h
  subst hu
  refine presP_update _ _ _ key (fun k0 hk => alookup_aset_other _ _ _ _ hk) fun item h0 => ?_
  simp [h0] at he; subst he
  refine ⟨_, alookup_aset_same _ _ _, _, rfl, ?_⟩
  intro s m hs hm
  cases s with
  | none => simp at hs
  | some i =>
    simp only [selAot] at hm ⊢
    have hi : i < ts.length := (List.getElem?_eq_some_iff.1 hm).1
    exact ⟨m, by rw [List.getElem?_append_left hi]; exact hm, PresP.refl _ _⟩

theorem finStdF_some (key : Bytes) (table u u' : Tbl) (h : finStdF key table u = some u') :
    (alookup key u.items = none ∧ u' = u.setItems (u.items ++ [(key, .table table)])) ∨
    (∃ t0, alookup key u.items = some (.table t0) ∧ t0.implicit = true ∧
      u' = u.setItems (areplace key (.table table) u.items)) := by
  unfold finStdF at h
  split at h
  · rename_i t0 ha
    split at h
    · rename_i hi
      simp at h
      exact Or.inr ⟨t0, ha, hi, h.symm⟩
    · simp at h
  · simp at h
  · rename_i ha
    simp at h
    exact Or.inl ⟨ha, h.symm⟩

theorem finStdF_aset (key : Bytes) (table u u' : Tbl) (h : finStdF key table u = some u') :
    u' = u.setItems (aset key (.table table) u.items) := by
  rcases finStdF_some _ _ _ _ h with ⟨hn, e⟩ | ⟨t0, ha, _, e⟩
  · rw [aset_of_none _ _ _ hn]; exact e
  · rw [aset_of_some _ _ _ _ ha]; exact e

theorem finStdF_pres (P : Option Nat → Prop) (key : Bytes) (table u u' : Tbl) (h : finStdF key table u = some u')
    (hv : ∀ t0, alookup key u.items = some (.table t0) → PresP P t0 table) : PresP P u u' := by
  rcases finStdF_some _ _ _ _ h with ⟨hn, hu⟩ | ⟨t0, ha, _, hu⟩
  · subst hu
    exact presP_of_keeps _ _ _ fun k item hk => alookup_append_old _ _ _ _ _ hk
  · subst hu
    refine presP_update P _ _ key (fun k0 hk => alookup_areplace_other _ _ _ _ hk) fun item h0 => ?_
    rw [ha] at h0; injection h0 with h0; subst h0
    exact ⟨_, alookup_areplace_same _ _ _ (by simp [ha]), table, rfl, hv t0 ha⟩

theorem finF_some {isArray : Bool} {key : Bytes} {table u u' : Tbl} (h : finF isArray key table u = some u') :
    (isArray = true ∧ ∃ ts, (alookup key u.items).getD (.aot []) = .aot ts ∧
        u' = u.setItems (aset key (.aot (ts ++ [table])) u.items)) ∨
    (isArray = false ∧ finStdF key table u = some u') := by
  unfold finF at h
  cases isArray with
  | true => exact Or.inl ⟨rfl, finArrF_some _ _ _ _ (by simpa using h)⟩
  | false => exact Or.inr ⟨rfl, by simpa using h⟩

theorem finF_places (isArray : Bool) (key : Bytes) (table u u' : Tbl) (h : finF isArray key table u = some u') :
    lookupTbl u' [key] = some table := by
  rcases finF_some h with ⟨_, ts, _, rfl⟩ | ⟨_, h2⟩
  · simp [lookupTbl, alookup_aset_same]
  · rw [finStdF_aset _ _ _ _ h2]; simp [lookupTbl, alookup_aset_same]

def probeF (key : Bytes) : Tbl → Option Tbl := fun parent =>
  match alookup key parent.items with
  | some (.table t) => if t.implicit && !t.dotted then some parent else none
  | some _ => none
  | none => some parent

def eraseF (key : Bytes) : Tbl → Option Tbl := fun parent => some (parent.setItems (aerase key parent.items))

def tableAt (u : Tbl) (key : Bytes) : Option Tbl :=
  match alookup key u.items with
  | some (.table x) => some x
  | _ => none

theorem find_eq (key : Bytes) (t : Tbl) (p : List Bytes) :
    startTable.find key t p = (lookupTbl t p).bind (fun u => tableAt u key) := by
  induction p generalizing t with
  | nil =>
    simp only [startTable.find, lookupTbl, Option.bind_some, tableAt]
    cases alookup key t.items with
    | none => rfl
    | some it => cases it <;> rfl
  | cons k ks ih =>
    simp only [startTable.find, lookupTbl]
    cases alookup k t.items with
    | none => rfl
    | some it =>
      cases it with
      | value v => rfl
      | table sub => exact ih sub
      | aot ts =>
        simp only []
        have : ts.getLast? = ts.reverse.head? := by simp
        rw [this]
        cases ts.reverse with
        | nil => rfl
        | cons l r => exact ih l

theorem startTable_eq (st : ParseState) (path : List Bytes) :
    startTable st path =
      match splitLast path with
      | none => none
      | some (pp, key) =>
        match descend st.root pp false (probeF key) with
        | none => none
        | some _ =>
          match descend st.root pp false (eraseF key) with
          | none => none
          | some root' =>
            some { st with root := root', position := st.position + 1,
                           current := .mk ((startTable.find key st.root pp).getD st.current).items false false (some (st.position + 1)),
                           currentIsArray := false, currentPath := path } := by
  unfold startTable
  cases splitLast path with
  | none => rfl
  | some pr =>
    obtain ⟨pp, key⟩ := pr
    simp only []
    show (match (match descend st.root pp false (probeF key) with | none => none | some _ => some (none : Option Tbl)) with
          | none => none | some _ => _) = _
    cases descend st.root pp false (probeF key) with
    | none => rfl
    | some r0 => rfl

theorem startTable_some (st st' : ParseState) (path : List Bytes) (h : startTable st path = some st') :
    ∃ pp key r0 root', path = pp ++ [key] ∧ descend st.root pp false (probeF key) = some r0 ∧
      descend st.root pp false (eraseF key) = some root' ∧
      st' = { st with root := root', position := st.position + 1,
                      current := .mk ((startTable.find key st.root pp).getD st.current).items false false (some (st.position + 1)),
                      currentIsArray := false, currentPath := path } := by
  rw [startTable_eq] at h
  split at h
  · simp at h
  · rename_i pp key hs
    split at h
    · simp at h
    · rename_i r0 hp
      split at h
      · simp at h
      · rename_i root' he
        simp at h
        exact ⟨pp, key, r0, root', splitLast_some _ _ _ hs, hp, he, h.symm⟩

/-- what `[… key]` finds under `key` in the parent table `u`: `none` = the header is refused,
    `some none` = the key is free, `some (some t0)` = an implicit table no dotted key made, taken over -/
def reopen (u : Tbl) (key : Bytes) : Option (Option Tbl) :=
  match alookup key u.items with
  | none => some none
  | some (.table t0) => if t0.implicit && !t0.dotted then some (some t0) else none
  | some _ => none

theorem reopen_some {u : Tbl} {key : Bytes} {o : Option Tbl} (h : reopen u key = some o) :
    (alookup key u.items = none ∧ o = none) ∨
    ∃ t0, alookup key u.items = some (.table t0) ∧ t0.implicit = true ∧ t0.dotted = false ∧ o = some t0 := by
  unfold reopen at h
  cases ha : alookup key u.items with
  | none => rw [ha] at h; injection h with h; exact Or.inl ⟨rfl, h.symm⟩
  | some it =>
    rw [ha] at h
    cases it with
    | value v => cases h
    | aot ts => cases h
    | table t0 =>
      simp only [] at h
      by_cases hc : (t0.implicit && !t0.dotted) = true
      · rw [if_pos hc] at h; injection h with h
        simp at hc
        exact Or.inr ⟨t0, rfl, hc.1, hc.2, h.symm⟩
      · rw [if_neg hc] at h; cases h

theorem tableAt_of_focus {t u : Tbl} {p : List Bytes} (h : focus false t p = some u) (key : Bytes) :
    (lookupTbl t p).bind (fun w => tableAt w key) = tableAt u key := by
  have ht := focus_target h
  unfold target at ht
  cases hl : lookupTbl t p with
  | none => rw [hl] at ht; rw [← ht]; rfl
  | some w => rw [hl] at ht; rw [← ht]; rfl

theorem startTable_append (sf : ParseState) (pp : List Bytes) (key : Bytes) :
    startTable sf (pp ++ [key]) = (focus false sf.root pp).bind fun u => (reopen u key).map fun o =>
      { sf with root := plug false sf.root pp (u.setItems (aerase key u.items)), position := sf.position + 1,
                current := .mk (o.getD sf.current).items false false (some (sf.position + 1)),
                currentIsArray := false, currentPath := pp ++ [key] } := by
  rw [startTable_eq, splitLast_append]
  cases hu : focus false sf.root pp with
  | none => simp only [descend_eq, hu, Option.bind_none]
  | some u =>
    simp only [descend_eq, hu, Option.bind_some, find_eq, tableAt_of_focus hu, eraseF, Option.map_some]
    unfold reopen probeF tableAt
    cases alookup key u.items with
    | none => rfl
    | some it =>
      cases it with
      | value v => rfl
      | aot ts => rfl
      | table t0 => by_cases hc : (t0.implicit && !t0.dotted) = true <;> simp [hc]

def arrStartF (key : Bytes) : Tbl → Option Tbl := fun parent =>
  match alookup key parent.items with
  | some (.aot _) => some parent
  | some _ => none
  | none => some (parent.setItems (parent.items ++ [(key, .aot [])]))

theorem arrStartF_some {key : Bytes} {u u' : Tbl} (h : arrStartF key u = some u') :
    (∃ ts, alookup key u.items = some (.aot ts) ∧ u' = u) ∨
    (alookup key u.items = none ∧ u' = u.setItems (u.items ++ [(key, .aot [])])) := by
  unfold arrStartF at h
  split at h
  · rename_i ts ha
    exact Or.inl ⟨ts, ha, by simpa using h.symm⟩
  · cases h
  · rename_i hn
    exact Or.inr ⟨hn, by simpa using h.symm⟩

theorem startArrayTable_def (st : ParseState) (path : List Bytes) :
    startArrayTable st path =
      match splitLast path with
      | none => none
      | some (pp, key) =>
        match descend st.root pp false (arrStartF key) with
        | none => none
        | some root' =>
          some { st with root := root', position := st.position + 1,
                         current := .mk st.current.items false false (some (st.position + 1)),
                         currentIsArray := true, currentPath := path } := by
  unfold startArrayTable
  cases splitLast path with
  | none => rfl
  | some pr => obtain ⟨pp, key⟩ := pr; rfl

theorem startArrayTable_some (st st' : ParseState) (path : List Bytes) (h : startArrayTable st path = some st') :
    ∃ pp key root', path = pp ++ [key] ∧ descend st.root pp false (arrStartF key) = some root' ∧
      st' = { st with root := root', position := st.position + 1,
                      current := .mk st.current.items false false (some (st.position + 1)),
                      currentIsArray := true, currentPath := path } := by
  rw [startArrayTable_def] at h
  split at h
  · cases h
  · rename_i pp key hs
    split at h
    · cases h
    · rename_i root' he
      injection h with h
      exact ⟨pp, key, root', splitLast_some _ _ _ hs, he, h.symm⟩

theorem startArrayTable_append (st : ParseState) (pp : List Bytes) (key : Bytes) :
    startArrayTable st (pp ++ [key]) = (focus false st.root pp).bind fun u => (arrStartF key u).map fun u' =>
      { st with root := plug false st.root pp u', position := st.position + 1,
                current := .mk st.current.items false false (some (st.position + 1)),
                currentIsArray := true, currentPath := pp ++ [key] } := by
  rw [startArrayTable_def, splitLast_append]
  simp only [descend_eq]
  cases focus false st.root pp with
  | none => rfl
  | some u => simp only [Option.bind_some]; cases arrStartF key u <;> rfl

theorem arrStartF_pres (P : Option Nat → Prop) (key : Bytes) (u u' : Tbl) (h : arrStartF key u = some u') : PresP P u u' := by
  rcases arrStartF_some h with ⟨_, _, rfl⟩ | ⟨_, rfl⟩
  · exact PresP.refl _ _
  · exact presP_of_keeps _ _ _ fun k item hk => alookup_append_old _ _ _ _ _ hk

def WF (t : Tbl) : Prop := ∀ p u, lookupTbl t p = some u → (u.items.map Prod.fst).Nodup

def ItemWF (i : Item) : Prop :=
  match i with
  | .value _ => True
  | .table s => WF s
  | .aot ts => ∀ l, ts.getLast? = some l → WF l

theorem wf_of_items (u : Tbl) (hn : (u.items.map Prod.fst).Nodup)
    (h : ∀ k item, alookup k u.items = some item → ItemWF item) : WF u := by
  intro p v hl
  cases p with
  | nil => simp [lookupTbl] at hl; subst hl; exact hn
  | cons k r =>
    rw [lookupTbl] at hl
    cases ha : alookup k u.items with
    | none => simp [ha] at hl
    | some it =>
      have hi := h k it ha
      cases it with
      | value x => simp [ha] at hl
      | table sub => simp only [ha] at hl; exact hi r v hl
      | aot ts =>
        simp only [ha] at hl
        cases hg : ts.getLast? with
        | none => simp [hg] at hl
        | some l => simp only [hg] at hl; exact hi l hg r v hl

theorem wf_nodup (u : Tbl) (h : WF u) : (u.items.map Prod.fst).Nodup := h [] u rfl

theorem wf_items (u : Tbl) (h : WF u) (k : Bytes) (item : Item) (ha : alookup k u.items = some item) : ItemWF item := by
  cases item with
  | value x => trivial
  | table sub =>
    intro p v hl
    exact h (k :: p) v (by simp [lookupTbl, ha, hl])
  | aot ts =>
    intro l hg p v hl
    exact h (k :: p) v (by simp [lookupTbl, ha, hg, hl])

theorem wf_of_nil (u : Tbl) (h : u.items = []) : WF u :=
  wf_of_items u (by simp [h]) (by intro k item ha; simp [h, alookup] at ha)

theorem wf_congr_items (u u' : Tbl) (he : u'.items = u.items) (h : WF u) : WF u' :=
  wf_of_items u' (by rw [he]; exact wf_nodup u h) (by intro k item ha; rw [he] at ha; exact wf_items u h k item ha)

theorem wf_aset (t : Tbl) (k : Bytes) (item : Item) (h : WF t) (hi : ItemWF item) :
    WF (t.setItems (aset k item t.items)) := by
  apply wf_of_items
  · exact aset_nodup k item t.items (wf_nodup t h)
  · intro k0 it ha
    by_cases hk : k0 = k
    · subst hk
      simp [alookup_aset_same] at ha; subst ha; exact hi
    · simp [alookup_aset_other _ _ _ _ hk] at ha
      exact wf_items t h k0 it ha

theorem wf_append (t : Tbl) (k : Bytes) (item : Item) (h : WF t) (hn : alookup k t.items = none) (hi : ItemWF item) :
    WF (t.setItems (t.items ++ [(k, item)])) := by
  rw [← aset_of_none k item t.items hn]; exact wf_aset t k item h hi

theorem wf_aerase (t : Tbl) (k : Bytes) (h : WF t) : WF (t.setItems (aerase k t.items)) := by
  have hn := wf_nodup t h
  apply wf_of_items
  · exact aerase_nodup k _ hn
  · intro k0 it ha
    by_cases hk : k0 = k
    · subst hk
      simp [alookup_aerase_same k0 t.items hn] at ha
    · simp [alookup_aerase_other _ _ _ hk] at ha
      exact wf_items t h k0 it ha

theorem plug_wf {d : Bool} {t u : Tbl} {p : List Bytes} (h : focus d t p = some u) (hw : WF t) :
    WF u ∧ ∀ x, WF x → WF (plug d t p x) :=
  focus_induct (motive := fun t p u => WF t → WF u ∧ ∀ x, WF x → WF (plug d t p x)) (fun _ hw => ⟨hw, fun _ hx => hx⟩)
    (fun t k ks sub u he _ _ ih hw => by
      have hsub : WF sub := by
        cases hx : alookup k t.items with
        | none => simp [hx] at he; subst he; exact wf_of_nil _ rfl
        | some it => simp [hx] at he; subst he; exact wf_items t hw k _ hx
      refine ⟨(ih hsub).1, fun x hx => ?_⟩
      rw [plug_cons_table ks x he]
      exact wf_aset t k _ hw ((ih hsub).2 x hx))
    (fun t k ks init l u ha _ _ ih hw => by
      have hl : WF l := wf_items t hw k _ ha l (by simp)
      refine ⟨(ih hl).1, fun x hx => ?_⟩
      rw [plug_cons_aot ks x ha]
      refine wf_aset t k _ hw fun m hm => ?_
      simp at hm; subst hm
      exact (ih hl).2 x hx) h hw

theorem descend_wf (t t' : Tbl) (path : List Bytes) (d : Bool) (f : Tbl → Option Tbl)
    (h : descend t path d f = some t') (hw : WF t)
    (hf : ∀ u', WF (target t path d) → f (target t path d) = some u' → WF u') : WF t' := by
  obtain ⟨u, u', hu, hfu, rfl⟩ := (descend_some_iff ..).1 h
  rw [focus_target hu] at hf
  exact (plug_wf hu hw).2 u' (hf u' (plug_wf hu hw).1 hfu)

/-- the key of the header is free in its parent table (what `start_table` establishes by taking the
    entry out) -/
def Vacant (root : Tbl) (q : List Bytes) : Prop :=
  ∀ pp key u, q = pp ++ [key] → lookupTbl root pp = some u → alookup key u.items = none

theorem vacant_target (root : Tbl) (pp : List Bytes) (key : Bytes) (hv : Vacant root (pp ++ [key])) :
    alookup key (target root pp false).items = none := by
  unfold target
  cases hl : lookupTbl root pp with
  | none => rfl
  | some u => exact hv pp key u rfl hl

inductive Stmt where
  | kv (path : List Bytes) (key : Bytes) (v : Val)
  | std (path : List Bytes)
  | arr (path : List Bytes)

def step (st : ParseState) : Stmt → Option ParseState
  | .kv p k v => onKeyval st p k v
  | .std p => onStdHeader st p
  | .arr p => onArrayHeader st p

def run : ParseState → List Stmt → Option ParseState
  | st, [] => some st
  | st, s :: r => match step st s with
    | some st' => run st' r
    | none => none

/-- invariant of reachable states: distinct keys in every table `lookupTbl` reaches (through the last
    element of each array of tables; earlier elements and inline tables are not covered), and the key
    of an open `[table]` section is vacant in the finalized part (`vac`: no proof here reads it; it is
    the hypothesis `T09_finalize_preserves_std` asks for) -/
structure Inv (st : ParseState) : Prop where
  wfRoot : WF st.root
  wfCur : WF st.current
  vac : st.currentIsArray = false → Vacant st.root st.currentPath

theorem inv_init : Inv {} :=
  ⟨wf_of_nil _ rfl, wf_of_nil _ rfl, fun _ pp key u h => by cases pp <;> simp at h⟩

theorem finF_wf (isArray : Bool) (key : Bytes) (cur u u' : Tbl) (hc : WF cur) (hu : WF u)
    (h : finF isArray key cur u = some u') : WF u' := by
  rcases finF_some h with ⟨_, ts, _, rfl⟩ | ⟨_, h2⟩
  · refine wf_aset u key _ hu fun m hm => ?_
    simp at hm; subst hm; exact hc
  · rw [finStdF_aset _ _ _ _ h2]; exact wf_aset u key _ hu hc

theorem finalize_wf (st sf : ParseState) (hi : Inv st) (h : finalizeTable st = some sf) : WF sf.root := by
  rcases finalizeTable_some st sf h with ⟨_, _, hst⟩ | ⟨pp, key, root', hp, hd, hst⟩
  · subst hst; exact hi.wfCur
  · subst hst
    exact descend_wf _ _ _ _ _ hd hi.wfRoot fun u' hw hf => finF_wf _ _ _ _ _ hi.wfCur hw hf

theorem finalize_fields (st sf : ParseState) (h : finalizeTable st = some sf) :
    sf.current = Tbl.empty ∧ sf.currentPath = [] ∧ sf.currentIsArray = st.currentIsArray ∧ sf.position = st.position := by
  rcases finalizeTable_some st sf h with ⟨_, _, hst⟩ | ⟨pp, key, root', hp, hd, hst⟩ <;> subst hst <;> exact ⟨rfl, rfl, rfl, rfl⟩

theorem finalize_of_into (st : ParseState) (V : Tbl) (h : intoDocument st = some V) :
    finalizeTable st = some { st with current := Tbl.empty, currentPath := [], root := V } := by
  unfold intoDocument at h
  cases hf : finalizeTable st with
  | none => simp [hf] at h
  | some sf =>
    simp [hf] at h
    rcases finalizeTable_some st sf hf with ⟨_, _, e⟩ | ⟨pp, key, root', _, _, e⟩
    · subst e; simp at h; subst h; rfl
    · subst e; simp at h; subst h; rfl

theorem finF_mono (P : Option Nat → Prop) (isArray : Bool) (key : Bytes) (cur c u u' : Tbl) (hc : PresP P cur c)
    (h : finF isArray key cur u = some u') : ∃ u'', finF isArray key c u = some u'' ∧ PresP P u' u'' := by
  rcases finF_some h with ⟨rfl, ts, he, rfl⟩ | ⟨rfl, h2⟩
  · refine ⟨u.setItems (aset key (.aot (ts ++ [c])) u.items), by simp [finF, finArrF, he], ?_⟩
    refine presP_update P _ _ key (fun k0 hk => by simp [alookup_aset_other _ _ _ _ hk]) fun item h0 => ?_
    simp [alookup_aset_same] at h0; subst h0
    exact ⟨_, by simp [alookup_aset_same], itemPres_last P ts cur c hc⟩
  rcases finStdF_some _ _ _ _ h2 with ⟨hn, rfl⟩ | ⟨t0, ha, hi, rfl⟩
  · refine ⟨u.setItems (u.items ++ [(key, .table c)]), by simp [finF, finStdF, hn], ?_⟩
    refine presP_update P _ _ key (fun k0 hk => by simp [alookup_append_other _ _ _ _ hk]) fun item h0 => ?_
    simp [alookup_append_new _ _ _ hn] at h0; subst h0
    exact ⟨.table c, by simp [alookup_append_new _ _ _ hn], c, rfl, hc⟩
  · have hs : (alookup key u.items).isSome := by simp [ha]
    refine ⟨u.setItems (areplace key (.table c) u.items), by simp [finF, finStdF, ha, hi], ?_⟩
    refine presP_update P _ _ key (fun k0 hk => by simp [alookup_areplace_other _ _ _ _ hk]) fun item h0 => ?_
    simp [alookup_areplace_same _ _ _ hs] at h0; subst h0
    exact ⟨.table c, by simp [alookup_areplace_same _ _ _ hs], c, rfl, hc⟩

/-- A key/value statement: the document "if the input ended here" only grows, because closing the
    section is monotone in the section table (`finF_mono` under `descend_mono`). -/
theorem kv_step (P : Option Nat → Prop) (st st1 sf : ParseState) (path : List Bytes) (key : Bytes) (v : Val)
    (hi : Inv st) (h : onKeyval st path key v = some st1) (hf : finalizeTable st = some sf) :
    ∃ sf1, finalizeTable st1 = some sf1 ∧ PresP P sf.root sf1.root ∧ Inv st1 := by
  obtain ⟨c, hd, hst⟩ := onKeyval_some st st1 path key v h
  have hpc : PresP P st.current c := by
    refine descend_pres P _ _ _ _ _ hd ?_
    intro u' hu
    obtain ⟨_, e, _⟩ := kvF_some _ _ _ _ _ hu
    subst e
    exact presP_of_keeps _ _ _ fun k item hk => alookup_append_old _ _ _ _ _ hk
  have hwc : WF c := by
    refine descend_wf _ _ _ _ _ hd hi.wfCur ?_
    intro u' hw hu
    obtain ⟨hn, e, _⟩ := kvF_some _ _ _ _ _ hu
    subst e
    exact wf_append _ _ _ hw hn trivial
  subst hst
  have hinv : Inv { st with current := c } := ⟨hi.wfRoot, hwc, hi.vac⟩
  rcases finalizeTable_some st sf hf with ⟨hp, he, e⟩ | ⟨pp, key', root', hp, hdd, e⟩
  · subst e
    refine ⟨{ st with current := Tbl.empty, currentPath := [], root := c }, ?_, hpc, hinv⟩
    rw [finalizeTable_eq]
    simp [hp, splitLast, he]
  · subst e
    obtain ⟨b, hb, hpb⟩ := descend_mono P _ _ _ _ _ (finF st.currentIsArray key' c) hdd
      (fun u' hu => finF_mono P _ _ _ _ _ _ hpc hu)
    refine ⟨{ st with current := Tbl.empty, currentPath := [], root := b }, ?_, hpb, hinv⟩
    rw [finalizeTable_of_path { st with current := c } pp key' hp]
    simp [hb]


theorem std_step (P : Option Nat → Prop) (sf st1 : ParseState) (path : List Bytes)
    (hw : WF sf.root) (hcur : sf.current = Tbl.empty) (h : startTable sf path = some st1) :
    ∃ sf1, finalizeTable st1 = some sf1 ∧ PresP P sf.root sf1.root ∧ Inv st1 := by
  cases hsp : splitLast path with
  | none => rw [startTable_eq, hsp] at h; cases h
  | some pr =>
    obtain ⟨pp, key⟩ := pr
    have hp := splitLast_some _ _ _ hsp
    subst hp
    rw [startTable_append] at h
    cases hu : focus false sf.root pp with
    | none => rw [hu] at h; cases h
    | some u =>
      rw [hu, Option.bind_some] at h
      cases ho : reopen u key with
      | none => rw [ho] at h; cases h
      | some o =>
        rw [ho] at h
        injection h with h
        dsimp only at h
        obtain ⟨hwu, hwp⟩ := plug_wf hu hw
        -- take the entry out, then close the new section: in all, `u` with `key ↦ cur1`
        generalize hue : u.setItems (aerase key u.items) = ue at h
        generalize hc1 : Tbl.mk (o.getD sf.current).items false false (some (sf.position + 1)) = cur1 at h
        have hvac : alookup key ue.items = none := by rw [← hue]; exact alookup_aerase_same _ _ (wf_nodup _ hwu)
        have hwe : WF ue := by rw [← hue]; exact wf_aerase _ _ hwu
        have hbase : WF (o.getD sf.current) ∧ ∀ t0, alookup key u.items = some (.table t0) → PresP P t0 cur1 := by
          rcases reopen_some ho with ⟨hn, rfl⟩ | ⟨t0, ha, _, _, rfl⟩
          · exact ⟨by rw [Option.getD_none, hcur]; exact wf_of_nil _ rfl, fun t0 h0 => by rw [hn] at h0; cases h0⟩
          · refine ⟨wf_items u hwu key _ ha, fun t1 h1 => ?_⟩
            rw [ha] at h1; injection h1 with h1; injection h1 with h1; subst h1
            rw [← hc1]
            exact presP_of_keeps _ _ _ fun k item hk => hk
        have hwc : WF cur1 := by rw [← hc1]; exact wf_congr_items (o.getD sf.current) _ rfl hbase.1
        have hfin : finalizeTable st1 = some
            { st1 with current := Tbl.empty, currentPath := [], root := plug false sf.root pp (ue.setItems (ue.items ++ [(key, .table cur1)])) } := by
          rw [finalizeTable_append st1 pp key (by rw [← h])]
          have e1 : st1.root = plug false sf.root pp ue := by rw [← h]
          have e2 : st1.currentIsArray = false := by rw [← h]
          have e3 : st1.current = cur1 := by rw [← h]
          rw [e1, e2, e3, focus_plug hu, Option.bind_some]
          simp only [finF, finStdF, hvac, Bool.false_eq_true, if_false, Option.map_some, plug_plug hu]
        refine ⟨_, hfin, (plug_pres P hu).trans (plug_mono P hu ?_), ?_⟩
        · refine presP_update P _ _ key (fun k0 hk => by
            rw [← hue]; simp only [items_setItems]
            rw [alookup_append_other _ _ _ _ hk, alookup_aerase_other _ _ _ hk]) fun item h0 => ?_
          rcases reopen_some ho with ⟨hn, _⟩ | ⟨t0, ha, _, _, _⟩
          · rw [hn] at h0; cases h0
          · rw [ha] at h0; injection h0 with h0; subst h0
            exact ⟨.table cur1, by simp [alookup_append_new _ _ _ hvac], cur1, rfl, hbase.2 t0 ha⟩
        · rw [← h]
          refine ⟨hwp ue hwe, hwc, fun _ pp' key' w hq hl => ?_⟩
          obtain ⟨h1, h2⟩ := List.append_inj' hq rfl
          simp at h2; subst h1; subst h2
          simp only [lookupTbl_plug hu, Option.some.injEq] at hl
          subst hl; exact hvac


theorem arrStartF_then_fin (key : Bytes) (cur u u' : Tbl) (h : arrStartF key u = some u') :
    ∃ u'', finArrF key cur u' = some u'' := by
  rcases arrStartF_some h with ⟨ts, ha, rfl⟩ | ⟨hn, rfl⟩
  · exact ⟨_, by simp [finArrF, ha]; rfl⟩
  · exact ⟨_, by simp [finArrF, alookup_append_new _ _ _ hn]; rfl⟩

theorem arrStartF_wf (key : Bytes) (u u' : Tbl) (hw : WF u) (h : arrStartF key u = some u') : WF u' := by
  rcases arrStartF_some h with ⟨_, _, rfl⟩ | ⟨hn, rfl⟩
  · exact hw
  · exact wf_append _ _ _ hw hn (by intro l hl; simp at hl)

/-- `[[array]]`: opening and closing act on the same parent table, so closing the new section is one
    `descend` with `arrStartF` then `finF` (`descend_descend`); both keep indexed paths. -/
theorem arr_step (sf st1 : ParseState) (path : List Bytes)
    (hw : WF sf.root) (hcur : sf.current = Tbl.empty) (h : startArrayTable sf path = some st1) :
    ∃ sf1, finalizeTable st1 = some sf1 ∧ PresP (fun s => s.isSome) sf.root sf1.root ∧ Inv st1 := by
  obtain ⟨pp, key, root1, hp, hd, hst⟩ := startArrayTable_some sf st1 path h
  let cur1 : Tbl := .mk sf.current.items false false (some (sf.position + 1))
  have hp1 : PresP (fun s => s.isSome) sf.root root1 :=
    descend_pres _ _ _ _ _ _ hd fun u' hu => arrStartF_pres _ _ _ _ hu
  let G : Tbl → Option Tbl := fun u => (arrStartF key u).bind (finF true key cur1)
  obtain ⟨b, hb, hp2⟩ := descend_mono (fun s => s.isSome) _ _ _ _ _ G hd (by
    intro u' hu
    obtain ⟨u'', hf⟩ := arrStartF_then_fin key cur1 _ _ hu
    exact ⟨u'', by simp [G, hu, finF, hf], finArrF_pres _ _ _ _ hf⟩)
  have hfin : finalizeTable st1 = some { st1 with current := Tbl.empty, currentPath := [], root := b } := by
    rw [finalizeTable_of_path st1 pp key (by rw [hst]; exact hp)]
    have e1 : st1.root = root1 := by rw [hst]
    have e2 : st1.currentIsArray = true := by rw [hst]
    have e3 : st1.current = cur1 := by rw [hst]
    rw [e1, e2, e3, descend_descend _ _ _ _ _ hd, hb]
    rfl
  refine ⟨_, hfin, PresP.trans hp1 hp2, ?_⟩
  rw [hst]
  refine ⟨?_, ?_, ?_⟩
  · exact descend_wf _ _ _ _ _ hd hw fun u' hwu hu => arrStartF_wf _ _ _ hwu hu
  · exact wf_of_nil _ (by simp [hcur]; rfl)
  · intro hc; simp at hc

theorem PresP.weaken {P Q : Option Nat → Prop} (hPQ : ∀ s, Q s → P s) {t t' : Tbl} (h : PresP P t t') : PresP Q t t' :=
  fun ip k x hq hx => h ip k x (fun e he => hPQ _ (hq e he)) hx

theorem step_view (st st1 sf : ParseState) (s : Stmt) (hi : Inv st) (h : step st s = some st1)
    (hf : finalizeTable st = some sf) :
    ∃ sf1, finalizeTable st1 = some sf1 ∧ PresP (fun s => s.isSome) sf.root sf1.root ∧ Inv st1 := by
  have hw := finalize_wf st sf hi hf
  have hc := (finalize_fields st sf hf).1
  cases s with
  | kv p k v => exact kv_step _ st st1 sf p k v hi h hf
  | std p =>
    simp only [step, onStdHeader, hf] at h
    exact std_step _ sf st1 p hw hc h
  | arr p =>
    simp only [step, onArrayHeader, hf] at h
    exact arr_step sf st1 p hw hc h

theorem run_view (st st' sf : ParseState) (stmts : List Stmt) (hi : Inv st) (h : run st stmts = some st')
    (hf : finalizeTable st = some sf) :
    ∃ sf', finalizeTable st' = some sf' ∧ PresP (fun s => s.isSome) sf.root sf'.root ∧ Inv st' := by
  induction stmts generalizing st sf with
  | nil => simp [run] at h; subst h; exact ⟨sf, hf, PresP.refl _ _, hi⟩
  | cons s r ih =>
    rw [run] at h
    cases hs : step st s with
    | none => simp [hs] at h
    | some st1 =>
      simp only [hs] at h
      obtain ⟨sf1, hf1, hp1, hi1⟩ := step_view st st1 sf s hi hs hf
      obtain ⟨sf', hf', hp', hi'⟩ := ih st1 sf1 hi1 h hf1
      exact ⟨sf', hf', PresP.trans hp1 hp', hi'⟩

theorem run_append (st : ParseState) (a b : List Stmt) :
    run st (a ++ b) = (run st a).bind (fun st1 => run st1 b) := by
  induction a generalizing st with
  | nil => rfl
  | cons s r ih =>
    simp only [List.cons_append, run]
    cases step st s with
    | none => rfl
    | some st1 => exact ih st1

end TomlVerif.Lemmas.State09
