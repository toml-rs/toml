import TomlVerif.Lemmas.DeLocated15LocTy
import TomlVerif.Lemmas.Spans14Keys
/-! For C15 (and, through `decodeSp`, C14): a located error's span is one of the spans the parser recorded in the node
    (`nodeSpans`, the collection `allSpans` of Lemmas/CstSpans.lean restricted to an item), a failing element of a
    sequence is located inside the element, and the despanned tree records no span. -/
namespace TomlVerif.Lemmas.DeLocated15
open TomlVerif TomlVerif.Model TomlVerif.Model.DeTyped TomlVerif.Model.Cst TomlVerif.Model.DeLocated
open TomlVerif.Lemmas.Cst03
open TomlVerif.Lemmas.Spans14 (mem_kvsSpans mem_elemsSpans mem_tblsSpans)

/-- every span recorded in an item (values, keys, tables, arrays of tables, their decor) -/
def nodeSpans : CItem → List Span
  | .value v => valSpans v
  | .table t => tblSpans t
  | .aot ts sp => tblsSpans ts ++ optSp sp

theorem keySpan_mem (k : CKey) (sp : Span) (h : keySpan k = some sp) : sp ∈ keySpans k := by
  unfold keySpan at h
  unfold keySpans
  cases hr : k.repr with
  | empty => rw [hr] at h; simp [Raw.span] at h
  | spanned a b => rw [hr] at h; simp only [Raw.span, Option.some.injEq] at h; subst h; simp [rawSp]

theorem span_mem (it : CItem) (sp : Span) (h : it.span = some sp) : sp ∈ nodeSpans it := by
  cases it with
  | value v =>
    cases v with
    | scalar x r d =>
      simp only [CItem.span, CVal.span] at h
      cases r with
      | empty => simp [Raw.span] at h
      | spanned a b => simp only [Raw.span, Option.some.injEq] at h; subst h; simp [nodeSpans, valSpans, rawSp]
    | arr items t c d s =>
      simp only [CItem.span, CVal.span] at h; subst h; simp [nodeSpans, valSpans, optSp]
    | inl items p i dt d s =>
      simp only [CItem.span, CVal.span] at h; subst h; simp [nodeSpans, valSpans, optSp]
  | table t =>
    cases t with
    | mk items i d p dc s =>
      simp only [CItem.span, CTbl.span] at h; subst h; simp [nodeSpans, tblSpans, optSp]
  | aot ts s => simp only [CItem.span] at h; subst h; simp [nodeSpans, optSp]

theorem itemsSpans_cons (k : CKey) (it : CItem) (r : List (CKey × CItem)) :
    itemsSpans ((k, it) :: r) = keySpans k ++ nodeSpans it ++ itemsSpans r := by
  cases it <;> rfl

theorem mem_itemsSpans' {sp : Span} {k : CKey} {v : CItem} : ∀ {items : List (CKey × CItem)}, (k, v) ∈ items →
    (sp ∈ keySpans k ∨ sp ∈ nodeSpans v) → sp ∈ itemsSpans items
  | [], h, _ => by cases h
  | (k0, v0) :: r, h, hs => by
    rw [itemsSpans_cons]
    rcases List.mem_cons.1 h with h | h
    · cases h
      rcases hs with hs | hs
      · exact List.mem_append_left _ (List.mem_append_left _ hs)
      · exact List.mem_append_left _ (List.mem_append_right _ hs)
    · exact List.mem_append_right _ (mem_itemsSpans' h hs)

theorem bare_spans (x : Val) : nodeSpans (bareItem x) = [] := by
  simp [bareItem, nodeSpans, valSpans, rawSp, decorSp, optRawSp]

/-- the spans recorded in the entries / elements of a node (not its own span, decor, `trailing`, `preamble`) -/
def childSpans : CItem → List Span
  | .value (.scalar _ _ _) => []
  | .value (.arr items _ _ _ _) => elemsSpans items
  | .value (.inl items _ _ _ _ _) => kvsSpans items
  | .table t => itemsSpans t.items
  | .aot ts _ => tblsSpans ts

theorem entries_child (it : CItem) (es : List (CKey × CItem)) (h : citemEntries it = some es) (k : CKey) (v : CItem)
    (hm : (k, v) ∈ es) (sp : Span) (hs : sp ∈ keySpans k ∨ sp ∈ nodeSpans v) : sp ∈ childSpans it := by
  rcases citemEntries_ok h with ⟨t, rfl, rfl⟩ | ⟨items, p, i, dt, d, s, rfl, rfl⟩ | ⟨items, a, b, r, d, rfl, rfl⟩
  · exact mem_itemsSpans' hm hs
  · obtain ⟨kv, hkv0, hkv⟩ := List.mem_map.1 hm
    cases hkv
    exact mem_kvsSpans (k := kv.1) (v := kv.2) hkv0 hs
  · -- the entries of a bare inline table carry no span
    obtain ⟨kv, _, hkv⟩ := List.mem_map.1 hm
    cases hkv
    rcases hs with hs | hs
    · simp [bareKey, keySpans, rawSp, decorSp, optRawSp] at hs
    · simp [bare_spans] at hs

theorem elems_child (it : CItem) (l : List CItem) (h : citemElems it = some l) (v : CItem) (hm : v ∈ l) (sp : Span)
    (hs : sp ∈ nodeSpans v) : sp ∈ childSpans it := by
  rcases citemElems_ok h with ⟨ts, s, rfl, rfl⟩ | ⟨items, t, c, d, s, rfl, rfl⟩ | ⟨items, r, d, rfl, rfl⟩
  · obtain ⟨y, hy0, rfl⟩ := List.mem_map.1 hm
    exact mem_tblsSpans hy0 hs
  · obtain ⟨y, hy0, rfl⟩ := List.mem_map.1 hm
    exact mem_elemsSpans hy0 hs
  · obtain ⟨y, _, rfl⟩ := List.mem_map.1 hm
    simp [bare_spans] at hs

theorem childSpans_sub (it : CItem) (sp : Span) (h : sp ∈ childSpans it) : sp ∈ nodeSpans it := by
  cases it with
  | value v => cases v <;> simp_all [childSpans, nodeSpans, valSpans]
  | table t => cases t; simp_all [childSpans, nodeSpans, tblSpans, CTbl.items]
  | aot ts s => simp_all [childSpans, nodeSpans]

theorem entries_sub (it : CItem) (es : List (CKey × CItem)) (h : citemEntries it = some es) (k : CKey) (v : CItem)
    (hm : (k, v) ∈ es) (sp : Span) (hs : sp ∈ keySpans k ∨ sp ∈ nodeSpans v) : sp ∈ nodeSpans it :=
  childSpans_sub it sp (entries_child it es h k v hm sp hs)

theorem mem_of_own_or_child {it : CItem} {sp : Span} (h : it.span = some sp ∨ sp ∈ childSpans it) :
    sp ∈ nodeSpans it :=
  h.elim (span_mem it sp) (childSpans_sub it sp)

theorem loc_span_child {it : CItem} {ks : List Bytes} {o : Option Span} (h : Loc it ks o) :
    ∀ sp, o = some sp → it.span = some sp ∨ sp ∈ childSpans it := by
  induction h with
  | pending => intro sp h; cases h
  | key hc hm => intro sp h; exact Or.inr (entries_child _ _ hc _ _ hm sp (Or.inl (keySpan_mem _ sp h)))
  | @entry _ es k v ks sp0 hc hm _ ih =>
    intro sp h
    cases hs : sp0 with
    | some s0 =>
      rw [hs] at h
      simp only [Option.isNone_some, Bool.false_eq_true, if_false, Option.some.injEq] at h
      subst h
      exact Or.inr (entries_child _ _ hc _ _ hm _ (Or.inr (mem_of_own_or_child (ih _ hs))))
    | none =>
      rw [hs] at h
      simp only [Option.isNone_none, if_true] at h
      unfold entrySpan at h
      cases hv : v.span with
      | some s1 =>
        rw [hv] at h
        simp only [Option.some.injEq] at h
        subst h
        exact Or.inr (entries_child _ _ hc _ _ hm _ (Or.inr (span_mem v _ hv)))
      | none =>
        rw [hv] at h
        exact Or.inr (entries_child _ _ hc _ _ hm _ (Or.inl (keySpan_mem _ sp h)))
  | elem hl hm _ ih => intro sp h; exact Or.inr (elems_child _ _ hl _ hm sp (mem_of_own_or_child (ih sp h)))
  | variant hc _ ih =>
    intro sp h
    exact Or.inr (entries_child _ _ hc _ _ (List.mem_cons_self ..) sp (Or.inr (mem_of_own_or_child (ih sp h))))
  | index hc hm _ _ ih =>
    intro sp h; exact Or.inr (entries_child _ _ hc _ _ hm sp (Or.inr (mem_of_own_or_child (ih sp h))))
  | fallback _ => intro sp h; exact Or.inl h

/-- what `ArraySeqAccess::next_element_seed` returns for a failing element `x` with the span `a` that encloses what is
    recorded inside it: the element's error, located at its own span if it had one (a span inside `a`), else at `a` -/
theorem elem_error_inside (fl : TomlValue.Flavour) (t : Ty) (x : CItem) (ex : LErr) (a : Span)
    (hx : decodeLoc fl t x = .error ex) (hsp : x.span = some a)
    (henc : ∀ sp ∈ childSpans x, a.1 ≤ sp.1 ∧ sp.2 ≤ a.2) :
    ∃ sp, atSpan x.span (decodeLoc fl t x) = .error ⟨some sp, ex.keys⟩ ∧ a.1 ≤ sp.1 ∧ sp.2 ≤ a.2 ∧
      (ex.span = none → sp = a) ∧ (∀ s, ex.span = some s → sp = s) := by
  have hloc := loc_ty fl t x ex hx
  rw [hx, hsp]
  cases hs : ex.span with
  | none =>
    refine ⟨a, by simp [atSpan, hs], Nat.le_refl _, Nat.le_refl _, fun _ => rfl, ?_⟩
    intro s h; cases h
  | some s =>
    have hin : a.1 ≤ s.1 ∧ s.2 ≤ a.2 := by
      rcases loc_span_child hloc s hs with h | h
      · rw [hsp] at h; cases h; exact ⟨Nat.le_refl _, Nat.le_refl _⟩
      · exact henc s h
    refine ⟨s, ?_, hin.1, hin.2, ?_, ?_⟩
    · simp only [atSpan, hs, Option.isNone_some, Bool.false_eq_true, if_false]
      congr 1
      cases ex; simp_all
    · intro h; cases h
    · intro s' h; cases h; rfl

theorem despanKey_spans (k : CKey) : keySpans (despanKey k) = [] := by
  simp [despanKey, keySpans, rawSp, decorSp, optRawSp]

mutual
theorem despanVal_spans : ∀ v : CVal, valSpans (despanVal v) = []
  | .scalar x r d => by simp [despanVal, valSpans, rawSp, decorSp, optRawSp]
  | .arr items t c d sp => by
    simp [despanVal, valSpans, rawSp, decorSp, optRawSp, optSp, despanVals_spans items]
  | .inl items p i dt d sp => by
    simp [despanVal, valSpans, rawSp, decorSp, optRawSp, optSp, despanKvs_spans items]
theorem despanVals_spans : ∀ l : List CVal, elemsSpans (despanVals l) = []
  | [] => by simp [despanVals, elemsSpans]
  | v :: r => by simp [despanVals, elemsSpans, despanVal_spans v, despanVals_spans r]
theorem despanKvs_spans : ∀ l : List (CKey × CVal), kvsSpans (despanKvs l) = []
  | [] => by simp [despanKvs, kvsSpans]
  | (k, v) :: r => by simp [despanKvs, kvsSpans, despanKey_spans, despanVal_spans v, despanKvs_spans r]
end

mutual
theorem despanItem_spans : ∀ it : CItem, nodeSpans (despanItem it) = []
  | .value v => by simp [despanItem, nodeSpans, despanVal_spans v]
  | .table t => by simp [despanItem, nodeSpans, despanTbl_spans t]
  | .aot ts sp => by simp [despanItem, nodeSpans, optSp, despanTbls_spans ts]
theorem despanTbl_spans : ∀ t : CTbl, tblSpans (despanTbl t) = []
  | .mk items i d p dc sp => by
    simp [despanTbl, tblSpans, decorSp, optRawSp, optSp, despanItems_spans items]
theorem despanTbls_spans : ∀ l : List CTbl, tblsSpans (despanTbls l) = []
  | [] => by simp [despanTbls, tblsSpans]
  | t :: r => by simp [despanTbls, tblsSpans, despanTbl_spans t, despanTbls_spans r]
theorem despanItems_spans : ∀ l : List (CKey × CItem), itemsSpans (despanItems l) = []
  | [] => by simp [despanItems, itemsSpans]
  | (k, v) :: r => by
    rw [despanItems, itemsSpans_cons, despanKey_spans, despanItem_spans v, despanItems_spans r]; rfl
end

end TomlVerif.Lemmas.DeLocated15
