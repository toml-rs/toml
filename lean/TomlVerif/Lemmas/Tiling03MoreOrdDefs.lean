import TomlVerif.Lemmas.Tiling03NestV
import TomlVerif.Lemmas.CstRun
/-! C03, documents whose sections are NOT in pre-order — the class `ordRunV`: `nestRunV` with the
    header check `pathOkO` (`pathOk` without "names the last item") in place of `pathOk`; and
    the inclusion `nestRunV ⊆ ordRunV`. -/
namespace TomlVerif.Lemmas.Tiling03More
open TomlVerif TomlVerif.Spec TomlVerif.Model TomlVerif.Model.Strings TomlVerif.Model.Value
open TomlVerif.Model.Cst TomlVerif.Model.Encode TomlVerif.Lemmas.Suffix03 TomlVerif.Lemmas.Cst03
open TomlVerif.Lemmas.LastByte03 TomlVerif.Lemmas.Tiling03 TomlVerif.Lemmas.Tiling03Hdr
open TomlVerif.Lemmas.Tiling03Nest

/-! ### the class -/

/-- the spelling check of a segment that names an existing entry -/
def segChk (inp : Bytes) (leaf : Bool) (k : CKey) (items : Items) : Bool :=
  match ckeyOf k.key items with
  | some k' => if leaf then sameLeaf inp k k' else sameSeg inp k k'
  | none => false

/-- the header check, on the root after `finalize_table`, for a header with parent path `pp` and
    last key `key` (`a`: `[[…]]`): every segment that names an existing table (at ANY place among
    the items of its parent) is spelled like the stored key, no table on the way is a dotted-key
    table, a segment naming an array of tables goes to its last element; the last key is new, or
    (for `[[…]]`) names an array of tables with the same spelling.  (A `[t]` header on an existing
    implicit table `t` — which the parser accepts, moving `t` to the end of its parent — is
    excluded, as in `pathOk`.) -/
def pathOkO (inp : Bytes) (a : Bool) (key : CKey) : CTbl → List CKey → Bool
  | t, [] => !t.dotted && (match clookup key.key t.items with
      | none => true
      | some (.aot _ _) => a && segChk inp true key t.items
      | some _ => false)
  | t, k :: ks => !t.dotted && (match clookup k.key t.items with
      | none => true
      | some (.table sub) => segChk inp false k t.items && pathOkO inp a key sub ks
      | some (.aot ts _) => segChk inp false k t.items &&
          (match ts.reverse with
           | l :: _ => pathOkO inp a key l ks
           | [] => false)
      | some (.value _) => false)

theorem pathOkO_dotted {inp : Bytes} {a : Bool} {key : CKey} {t : CTbl} {pp : List CKey}
    (h : pathOkO inp a key t pp = true) : t.dotted = false := by
  cases pp <;> simp only [pathOkO, Bool.and_eq_true, Bool.not_eq_true'] at h <;> exact h.1

theorem pathOkO_empty (inp : Bytes) (a : Bool) (key : CKey) (t : CTbl) (hi : t.items = []) (hd : t.dotted = false) :
    ∀ pp, pathOkO inp a key t pp = true
  | [] => by simp [pathOkO, hi, hd, clookup]
  | k :: ks => by simp [pathOkO, hi, hd, clookup]

/-- the header check for one reading of the line (`a`: as `[[…]]`): `r` is the text after the
    opening bracket(s), `st1` the state after `finalize_table` -/
def hdrChkO (inp : Bytes) (a : Bool) (st1 : CState) (r : Bytes) : Bool :=
  match ckeyPath inp.length r with
  | .ok ks _ =>
    (match splitLast ks with
     | some (pp, key) => pathOkO inp a key st1.root pp
     | none => true)
  | _ => true

/-- the check of a header line (`hdrLineOk` with `pathOkO`) -/
def hdrLineOkO (inp : Bytes) (st : CState) (s : Bytes) : Bool :=
  match finalizeTable st with
  | none => true
  | some st1 =>
    (match s with
     | 0x5B :: 0x5B :: r => hdrChkO inp true st1 r
     | _ => true) &&
    (match s with
     | 0x5B :: r => hdrChkO inp false st1 r
     | _ => true)

/-- the run checker: `runOkV` with `hdrLineOkO` at header lines -/
def runOkO (inp : Bytes) : Nat → CState → Bytes → Bool
  | 0, _, _ => true
  | fuel + 1, st, s =>
    let n := inp.length
    match s with
    | [] => true
    | b :: r =>
      if b == 0x23 then
        let r1 := dropComment r
        match r1 with
        | [] => true
        | _ => match newline? r1 with
          | some r2 =>
            let (st', r3) := parseWs n (onWs st (pos n s) (pos n r2)) r2
            runOkO inp fuel st' r3
          | none => true
      else if b == 0x5B then
        hdrLineOkO inp st s &&
        (match ctableLine n st s with
         | some (st', r1) =>
           let (st'', r2) := parseWs n st' r1
           runOkO inp fuel st'' r2
         | none => true)
      else if b == 0x0A || b == 0x0D then
        match newline? s with
        | some r1 =>
          let (st', r2) := parseWs n (onWs st (pos n s) (pos n r1)) r1
          runOkO inp fuel st' r2
        | none => true
      else
        kvLineOkV inp st s &&
        (match ckeyvalLine n st s with
         | some (st', r1) =>
           let (st'', r2) := parseWs n st' r1
           runOkO inp fuel st'' r2
         | none => true)

theorem runOkO_with (inp : Bytes) : ∀ (fuel : Nat) (st : CState) (s : Bytes),
    runOkO inp fuel st s = runOkWith (hdrLineOkO inp) (kvLineOkV inp) inp.length fuel st s
  | 0, _, _ => rfl
  | fuel + 1, st, s => by
    unfold runOkO runOkWith
    simp only [runOkO_with inp fuel]
    rfl

/-- the source-side class: the checked run of `parse_document`, sections in any order -/
def ordRunV (s : Bytes) : Bool :=
  let n := s.length
  let s0 := Doc.stripBom s
  let (st0, s1) := parseWs n {} s0
  runOkO s (s1.length + 1) st0 s1

/-! ### `nestRunV ⊆ ordRunV` -/

theorem ckeyOf_append_none (k : Bytes) : ∀ (a b : Items), clookup k a = none → ckeyOf k (a ++ b) = ckeyOf k b
  | [], b, _ => rfl
  | (k', v) :: r, b, h => by
    unfold clookup at h
    split at h
    · cases h
    · rename_i hk
      simp only [List.cons_append, ckeyOf, hk]
      exact ckeyOf_append_none k r b h

theorem lastEntry_ckeyOf (k : Bytes) (items init : Items) (k' : CKey) (it : CItem)
    (h : lastEntry k items = some (init, k', it)) : clookup k items = some it ∧ ckeyOf k items = some k' := by
  obtain ⟨e1, e2, e3, e4⟩ := lastEntry_some _ _ _ _ _ h
  refine ⟨e4, ?_⟩
  rw [e1, ckeyOf_append_none _ _ _ e3]
  simp [ckeyOf, e2]

theorem pathOk_O (inp : Bytes) (a : Bool) (key : CKey) : ∀ (pp : List CKey) (t : CTbl),
    pathOk inp a key t pp = true → pathOkO inp a key t pp = true
  | [], t, h => by
    simp only [pathOk, Bool.and_eq_true] at h
    obtain ⟨hdot, h⟩ := h
    simp only [pathOkO, Bool.and_eq_true]
    refine ⟨hdot, ?_⟩
    cases hl : clookup key.key t.items with
    | none => rfl
    | some y =>
      rw [hl] at h
      simp only [Bool.and_eq_true] at h
      obtain ⟨ha, h⟩ := h
      split at h
      · rename_i init k' ts asp hle
        obtain ⟨e1, e2⟩ := lastEntry_ckeyOf _ _ _ _ _ hle
        rw [hl] at e1
        injection e1 with e1
        subst e1
        simp [segChk, e2, ha, h]
      · cases h
  | k :: ks, t, h => by
    simp only [pathOk, Bool.and_eq_true] at h
    obtain ⟨hdot, h⟩ := h
    simp only [pathOkO, Bool.and_eq_true]
    refine ⟨hdot, ?_⟩
    cases hl : clookup k.key t.items with
    | none => rfl
    | some y =>
      rw [hl] at h
      simp only [] at h
      split at h
      · rename_i init k' sub hle
        obtain ⟨e1, e2⟩ := lastEntry_ckeyOf _ _ _ _ _ hle
        rw [hl] at e1
        injection e1 with e1
        subst e1
        simp only [Bool.and_eq_true] at h
        simp only [segChk, e2, Bool.false_eq_true, if_false, Bool.and_eq_true]
        exact ⟨h.1, pathOk_O inp a key ks sub h.2⟩
      · rename_i init k' ts asp hle
        obtain ⟨e1, e2⟩ := lastEntry_ckeyOf _ _ _ _ _ hle
        rw [hl] at e1
        injection e1 with e1
        subst e1
        simp only [Bool.and_eq_true] at h
        simp only [segChk, e2, Bool.false_eq_true, if_false, Bool.and_eq_true]
        refine ⟨h.1, ?_⟩
        have h2 := h.2
        split at h2
        · rename_i l rest hrev
          simp only [hrev]
          exact pathOk_O inp a key ks l h2
        · cases h2
      · cases h

theorem hdrLineOk_O (inp : Bytes) (st : CState) (s : Bytes) (h : hdrLineOk inp st s = true) :
    hdrLineOkO inp st s = true :=
  -- both checks unfold to `hdrLineOkWith` of their path predicate
  hdrLineOkWith_mono (fun a key t pp => pathOk_O inp a key pp t) st s h

/-- the class of `T03_doc_tiling_sourceV` is inside `ordRunV` -/
theorem nestRunV_O (s : Bytes) (h : nestRunV s = true) : ordRunV s = true := by
  unfold nestRunV at h
  unfold ordRunV
  simp only [] at h ⊢
  rw [runOkV_with] at h
  rw [runOkO_with]
  exact runOkWith_mono _ (hdrLineOk_O s) (fun _ _ h => h) _ _ _ h

end TomlVerif.Lemmas.Tiling03More
