import TomlVerif.Lemmas.Walk06
/-! Built tables satisfy `OkT`; under `OkT` the printer's visit is the walk
    `visT`, every visited table is printable (`VisitOk`), and the whole document round-trips. -/
namespace TomlVerif.Lemmas.Encode06e
open TomlVerif TomlVerif.Spec TomlVerif.Model TomlVerif.Model.Encode06 TomlVerif.Model.State
open TomlVerif.Lemmas.Encode06b TomlVerif.Lemmas.Encode06c TomlVerif.Lemmas.Encode06d
open TomlVerif.Props.C06 TomlVerif.Spec.Encode06 TomlVerif.Lemmas.State09

mutual
theorem visit_eq_T : ∀ (t : DTbl) (n : Nat) (P : List Bytes) (a : Bool), OkT t n → visitNested t P a 0 = (visT t P a, 0)
  | .mk items imp pos, n, P, a, h => by
    rw [OkT] at h
    obtain ⟨_, hpos, _, _, hi⟩ := h
    subst hpos
    rw [visitNested, visT]
    simp only [visit_eq_items items n P hi]
theorem visit_eq_items : ∀ (items : List (Bytes × DItem)) (n : Nat) (P : List Bytes), OkItems items n →
    visitItems items P 0 = (visItems items P, 0)
  | [], _, _, _ => by rw [visitItems, visItems]
  | (k, .value v) :: r, n, P, h => by
    rw [OkItems] at h
    rw [visitItems, visItems, visit_eq_items r n P h.2]
  | (k, .table t) :: r, n, P, h => by
    rw [OkItems, OkI] at h
    rw [visitItems, visItems]
    simp only [visit_eq_T t (n + 1) (P ++ [k]) false h.1, visit_eq_items r n P h.2]
  | (k, .aot ts) :: r, n, P, h => by
    rw [OkItems, OkI] at h
    rw [visitItems, visItems]
    simp only [visit_eq_aot ts (n + 1) (P ++ [k]) h.1.2, visit_eq_items r n P h.2]
theorem visit_eq_aot : ∀ (ts : List DTbl) (n : Nat) (P : List Bytes), OkTs ts n → visitAot ts P 0 = (visAot ts P, 0)
  | [], _, _, _ => by rw [visitAot, visAot]
  | t :: r, n, P, h => by
    rw [OkTs] at h
    rw [visitAot, visAot]
    simp only [visit_eq_T t n P true h.1, visit_eq_aot r n P h.2]
end

theorem bodyOk_of_items : ∀ (items : List (Bytes × DItem)) (n : Nat), OkItems items n → BodyOk (getValues items)
  | [], _, _ => by simp [getValues, BodyOk]
  | (k, .value v) :: r, n, h => by
    rw [OkItems, OkI] at h
    rw [getValues, BodyOk]
    exact ⟨h.1, bodyOk_of_items r n h.2⟩
  | (k, .table t) :: r, n, h => by
    rw [OkItems] at h
    simp only [getValues]
    exact bodyOk_of_items r n h.2
  | (k, .aot ts) :: r, n, h => by
    rw [OkItems] at h
    simp only [getValues]
    exact bodyOk_of_items r n h.2

mutual
theorem visitOk_T : ∀ (t : DTbl) (P : List Bytes) (a : Bool), OkT t P.length →
    ∀ v ∈ visT t P a, VisitOk v ∧ v.lastPos = 0
  | .mk items imp pos, P, a, h => by
    have h' := h
    rw [OkT] at h'
    obtain ⟨himp, _, hlen, _, hi⟩ := h'
    intro v hv
    rw [visT, List.mem_cons] at hv
    rcases hv with hv | hv
    · subst hv
      exact ⟨⟨hlen, himp, bodyOk_of_items items _ hi⟩, rfl⟩
    · exact visitOk_items items P hi v hv
theorem visitOk_items : ∀ (items : List (Bytes × DItem)) (P : List Bytes), OkItems items P.length →
    ∀ v ∈ visItems items P, VisitOk v ∧ v.lastPos = 0
  | [], _, _ => by intro v hv; rw [visItems] at hv; cases hv
  | (k, .value x) :: r, P, h => by
    rw [OkItems] at h
    intro v hv
    rw [visItems] at hv
    exact visitOk_items r P h.2 v hv
  | (k, .table t) :: r, P, h => by
    rw [OkItems, OkI] at h
    intro v hv
    rw [visItems, List.mem_append] at hv
    rcases hv with hv | hv
    · exact visitOk_T t (P ++ [k]) false (by simpa using h.1) v hv
    · exact visitOk_items r P h.2 v hv
  | (k, .aot ts) :: r, P, h => by
    rw [OkItems, OkI] at h
    intro v hv
    rw [visItems, List.mem_append] at hv
    rcases hv with hv | hv
    · exact visitOk_aot ts (P ++ [k]) (by simpa using h.1.2) v hv
    · exact visitOk_items r P h.2 v hv
theorem visitOk_aot : ∀ (ts : List DTbl) (P : List Bytes), OkTs ts P.length →
    ∀ v ∈ visAot ts P, VisitOk v ∧ v.lastPos = 0
  | [], _, _ => by intro v hv; rw [visAot] at hv; cases hv
  | t :: r, P, h => by
    rw [OkTs] at h
    intro v hv
    rw [visAot, List.mem_append] at hv
    rcases hv with hv | hv
    · exact visitOk_T t P true h.1 v hv
    · exact visitOk_aot r P h.2 v hv
end

/-- for a table without positions the stable sort changes nothing: the text is that of the walk -/
theorem printDoc_eq (t : DTbl) (h : OkT t 0) : printDoc t = visitTables (visT t [] false) true := by
  unfold printDoc
  rw [visit_eq_T t 0 [] false h]
  simp only [DEFAULT_ROOT_DECOR, List.nil_append, List.append_nil]
  rw [T06_sort_identity _ (fun w hw => (visitOk_T t [] false h w hw).2)]

mutual
def BuiltI : DItem → Prop
  | .value v => GoodV v ∧ decorOf v = {}
  | .table t => BuiltT t
  | .aot ts => BuiltTs ts
def BuiltT : DTbl → Prop
  | .mk items imp pos => imp = false ∧ pos = none ∧ (items.map Prod.fst).Nodup ∧ BuiltItems items
def BuiltTs : List DTbl → Prop
  | [] => True
  | t :: r => BuiltT t ∧ BuiltTs r
def BuiltItems : List (Bytes × DItem) → Prop
  | [] => True
  | (_, i) :: r => BuiltI i ∧ BuiltItems r
end

theorem builtItems_iff (l : List (Bytes × DItem)) : BuiltItems l ↔ ∀ kv ∈ l, BuiltI kv.2 := by
  induction l with
  | nil => simp [BuiltItems]
  | cons x r ih => obtain ⟨k, i⟩ := x; simp [BuiltItems, ih]

mutual
theorem built_item : ∀ i : BItem, BuiltI (buildItem i)
  | .value v => by rw [buildItem, BuiltI]; exact ⟨good_build v, decorOf_buildVal v⟩
  | .table t => by rw [buildItem, BuiltI]; exact built_tbl t
  | .aot ts => by rw [buildItem, BuiltI]; exact built_tbls ts
theorem built_tbl : ∀ t : BTbl, BuiltT (buildTbl t)
  | .mk items => by
    rw [buildTbl, BuiltT]
    have := fold_aset BuiltI (buildItems items) [] (built_items items) (by simp) (by simp)
    exact ⟨rfl, rfl, this.2, (builtItems_iff _).2 this.1⟩
theorem built_tbls : ∀ l : List BTbl, BuiltTs (buildTbls l)
  | [] => by simp [buildTbls, BuiltTs]
  | t :: r => by rw [buildTbls, BuiltTs]; exact ⟨built_tbl t, built_tbls r⟩
theorem built_items : ∀ l : List (Bytes × BItem), ∀ kv ∈ buildItems l, BuiltI kv.2
  | [] => by simp [buildItems]
  | (k, i) :: r => by
    intro kv hkv
    simp only [buildItems, List.mem_cons] at hkv
    rcases hkv with hkv | hkv
    · subst hkv; exact built_item i
    · exact built_items r kv hkv
end

mutual
theorem ok_item : ∀ (i : DItem) (n : Nat), BuiltI i → LeavesOkI i → NoEmptyAotI i → n + 1 + depthI i < Value.LIMIT → OkI i n
  | .value v, n, hb, hl, _, hd => by
    rw [BuiltI] at hb
    rw [LeavesOkI] at hl
    rw [depthI] at hd
    rw [OkI]
    exact ⟨hb.1, hb.2, hl, by omega⟩
  | .table t, n, hb, hl, hne, hd => by
    rw [BuiltI] at hb
    rw [LeavesOkI] at hl
    rw [NoEmptyAotI] at hne
    rw [depthI] at hd
    rw [OkI]
    exact ok_tbl t (n + 1) hb hl hne (by omega)
  | .aot ts, n, hb, hl, hne, hd => by
    rw [BuiltI] at hb
    rw [LeavesOkI] at hl
    rw [NoEmptyAotI] at hne
    rw [depthI] at hd
    rw [OkI]
    exact ⟨hne.1, ok_tbls ts (n + 1) hb hl hne.2 (by omega)⟩
theorem ok_tbl : ∀ (t : DTbl) (n : Nat), BuiltT t → LeavesOkT t → NoEmptyAotT t → n + depthT t < Value.LIMIT → OkT t n
  | .mk items imp pos, n, hb, hl, hne, hd => by
    rw [BuiltT] at hb
    rw [LeavesOkT] at hl
    rw [NoEmptyAotT] at hne
    rw [depthT] at hd
    rw [OkT]
    exact ⟨hb.1, hb.2.1, by omega, hb.2.2.1, ok_items items n hb.2.2.2 hl hne (by omega)⟩
theorem ok_tbls : ∀ (ts : List DTbl) (n : Nat), BuiltTs ts → LeavesOkTs ts → NoEmptyAotTs ts → n + depthTs ts < Value.LIMIT →
    OkTs ts n
  | [], _, _, _, _, _ => by rw [OkTs]; trivial
  | t :: r, n, hb, hl, hne, hd => by
    rw [BuiltTs] at hb
    rw [LeavesOkTs] at hl
    rw [NoEmptyAotTs] at hne
    rw [depthTs] at hd
    rw [OkTs]
    exact ⟨ok_tbl t n hb.1 hl.1 hne.1 (by omega), ok_tbls r n hb.2 hl.2 hne.2 (by omega)⟩
theorem ok_items : ∀ (items : List (Bytes × DItem)) (n : Nat), BuiltItems items → LeavesOkItems items →
    NoEmptyAotItems items → n + 1 + depthItems items < Value.LIMIT → OkItems items n
  | [], _, _, _, _, _ => by rw [OkItems]; trivial
  | (k, i) :: r, n, hb, hl, hne, hd => by
    rw [BuiltItems] at hb
    rw [LeavesOkItems] at hl
    rw [NoEmptyAotItems] at hne
    rw [depthItems] at hd
    rw [OkItems]
    exact ⟨ok_item i n hb.1 hl.1 hne.1 (by omega), ok_items r n hb.2 hl.2 hne.2 (by omega)⟩
end


theorem doc_roundtrip (t : DTbl) (h : OkT t 0) :
    (Doc.parseDocument (printDoc t)).map eraseTbl = some (expectT t) := by
  rw [printDoc_eq t h, parseDocument_visits _ (fun v hv => (visitOk_T t [] false h v hv).1)]
  obtain ⟨items, imp, pos⟩ := t
  obtain ⟨T, hT, he⟩ := run_visT items imp pos h
  rw [hT, Option.map_some, he]

end TomlVerif.Lemmas.Encode06e
