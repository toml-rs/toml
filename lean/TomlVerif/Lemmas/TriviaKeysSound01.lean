import TomlVerif.Lemmas.AstValueQ01
import TomlVerif.Lemmas.ValueBytes01
import TomlVerif.Lemmas.Consumed
/-! Soundness of the trivia and key parsers: what `dropWs`, `wsCommentNewline`, `simpleKey`, `keyPath`
    consume is the rendering of well-formed syntax (converse of `wcn_exact`, `keyPath_path`). -/
namespace TomlVerif.Lemmas.Sound01
open TomlVerif TomlVerif.Spec TomlVerif.Model TomlVerif.Model.Strings TomlVerif.Model.Value
open TomlVerif.Spec.AstValue TomlVerif.Spec.AstValueQ TomlVerif.Lemmas.Value01

theorem dropWs_split (s : Bytes) :
    ∃ w, AllWs w ∧ s = w ++ dropWs s ∧ ∀ b r, dropWs s = b :: r → isWschar b = false := by
  rw [S02.dropWs_eq]
  refine ⟨s.takeWhile isWschar, fun b hb => List.all_eq_true.1 List.all_takeWhile b hb,
    List.takeWhile_append_dropWhile.symm, fun b r e => ?_⟩
  have h := List.head_dropWhile_not isWschar (l := s) (by rw [e]; simp)
  simpa [e] using h

theorem dropWs_length (s : Bytes) : (dropWs s).length ≤ s.length :=
  (Suffix03.dropWs_suffix s).length_le

theorem dropComment_split (s : Bytes) :
    ∃ body, (∀ b ∈ body, isNonEol b = true) ∧ s = body ++ dropComment s := by
  rw [Suffix03.dropComment_eq]
  exact ⟨_, fun b hb => List.all_eq_true.1 List.all_takeWhile b hb, List.takeWhile_append_dropWhile.symm⟩

theorem newline_split (s r : Bytes) (h : newline? s = some r) : ∃ c, s = nlBytes c ++ r :=
  S02.newline?_inv s r h

theorem wcnWF_cons (p : Piece) (w : Wcn) (hp : p.WF) (hw : WcnWF w) : WcnWF (p :: w) :=
  List.forall_mem_cons.2 ⟨hp, hw⟩

theorem wcnWF_nil : WcnWF [] := List.forall_mem_nil _

theorem not_trivia_of (b : UInt8) (h1 : isWschar b = false) (h2 : (b == 0x23) = false)
    (h3 : (b == 0x0A || b == 0x0D) = false) : isTrivia b = false := by
  simp only [Bool.or_eq_false_iff] at h3
  simp [isTrivia, h1, h2, h3.1, h3.2]

theorem suffix_fuel {s X r : Bytes} {f : Nat} (hs : s = X ++ r) (hX : 0 < X.length) (hl : s.length < f + 1) :
    r.length < f := by
  rw [hs, List.length_append] at hl; omega

theorem wcn_sound : ∀ (fuel : Nat) (s r : Bytes), wsCommentNewline fuel s = some r →
    ∃ w : Wcn, WcnWF w ∧ s = renderWcn w ++ r ∧ (s.length < fuel → NoTriviaHead r) := by
  intro fuel
  induction fuel with
  | zero =>
    intro s r h
    simp only [wsCommentNewline] at h
    injection h with h; subst h
    exact ⟨[], wcnWF_nil, rfl, by intro h; simp at h⟩
  | succ f ih =>
    intro s r h
    obtain ⟨ws, hws, es, hhd⟩ := dropWs_split s
    unfold wsCommentNewline at h
    simp only [] at h
    have hpw : (Piece.ws ws).WF := hws
    -- the blanks alone, when the loop stops behind them
    have stop : dropWs s = r → NoTriviaHead r →
        ∃ w : Wcn, WcnWF w ∧ s = renderWcn w ++ r ∧ (s.length < f + 1 → NoTriviaHead r) := by
      intro e hnt
      refine ⟨[.ws ws], wcnWF_cons _ _ hpw wcnWF_nil, ?_, fun _ => hnt⟩
      rw [e] at es
      simpa [renderWcn, Piece.render] using es
    -- a comment or a line end `p` behind the blanks, then the rest of the loop
    have more : ∀ (p : Piece) (r' : Bytes), p.WF → 0 < p.render.length → dropWs s = p.render ++ r' →
        wsCommentNewline f r' = some r →
        ∃ w : Wcn, WcnWF w ∧ s = renderWcn w ++ r ∧ (s.length < f + 1 → NoTriviaHead r) := by
      intro p r' hp hpos e hrec
      obtain ⟨w, hw, e', hnt⟩ := ih r' r hrec
      have hs : s = (ws ++ p.render) ++ r' := by rw [es, e, List.append_assoc]
      refine ⟨.ws ws :: p :: w, wcnWF_cons _ _ hpw (wcnWF_cons _ _ hp hw), ?_, fun hl => hnt (suffix_fuel hs ?_ hl)⟩
      · rw [hs, e']; simp [renderWcn, Piece.render]
      · rw [List.length_append]; exact Nat.lt_of_lt_of_le hpos (Nat.le_add_left _ _)
    cases hs1 : dropWs s with
    | nil => rw [hs1] at h; injection h with h; exact stop (hs1.trans h) (by rw [← h]; trivial)
    | cons b r0 =>
      rw [hs1] at h
      simp only [] at h
      have hbw := hhd b r0 hs1
      by_cases hb : (b == 0x23) = true
      · rw [if_pos hb] at h
        have hb' : b = 0x23 := eq_of_beq hb
        subst hb'
        cases hnl : newline? (dropComment r0) with
        | none => rw [hnl] at h; cases h
        | some r' =>
          rw [hnl] at h
          obtain ⟨body, hbody, eb⟩ := dropComment_split r0
          obtain ⟨c, ec⟩ := newline_split _ _ hnl
          refine more (.comment body c) r' hbody (by simp [Piece.render]) ?_ h
          rw [hs1, eb, ec]; simp [Piece.render]
      rw [if_neg hb] at h
      by_cases hb2 : (b == 0x0A || b == 0x0D) = true
      · rw [if_pos hb2] at h
        cases hnl : newline? (b :: r0) with
        | none => rw [hnl] at h; cases h
        | some r' =>
          rw [hnl] at h
          obtain ⟨c, ec⟩ := newline_split _ _ hnl
          refine more (.nl c) r' trivial (S02.nlBytes_length_pos c) ?_ h
          rw [hs1, ec]; rfl
      · rw [if_neg hb2] at h
        injection h with h
        refine stop (hs1.trans h) ?_
        rw [← h]
        exact not_trivia_of b hbw (by simpa using hb) (by simpa using hb2)

theorem takeUnquoted_spec (s : Bytes) :
    (∀ b ∈ (Key.takeUnquoted s).1, isUnquotedChar b = true) ∧ s = (Key.takeUnquoted s).1 ++ (Key.takeUnquoted s).2 := by
  rw [S02.takeUnquoted_eq]
  exact ⟨fun b hb => List.all_eq_true.1 List.all_takeWhile b hb, List.takeWhile_append_dropWhile.symm⟩

theorem simpleKey_sound (s k r : Bytes) (h : Key.simpleKey s = .ok k r) :
    ∃ raw, s = raw ++ r ∧ KeyText raw k := by
  unfold Key.simpleKey at h
  split at h
  · cases h
  · rename_i b t
    split at h
    · obtain ⟨cs, hw, e, hv⟩ := TomlVerif.Props.C02Strings.T02_basic_sound _ _ _ h
      exact ⟨_, e, Or.inr (Or.inl ⟨cs, hw, rfl, hv⟩)⟩
    · split at h
      · obtain ⟨hw, e⟩ := TomlVerif.Props.C02Strings.T02_literal_sound _ _ _ h
        exact ⟨_, e, Or.inr (Or.inr ⟨hw, rfl⟩)⟩
      · unfold Key.unquotedKey at h
        have hsp := takeUnquoted_spec (b :: t)
        split at h
        · cases h
        · rename_i k' r' hne heq
          injection h with h1 h2
          subst h1 h2
          rw [heq] at hsp
          refine ⟨k', hsp.2, Or.inl ⟨rfl, ?_, hsp.1⟩⟩
          exact fun hk => hne hk

theorem keyPathAux_sound : ∀ (fuel : Nat) (s : Bytes) (acc ks : List Bytes) (r : Bytes),
    keyPathAux fuel s acc = .ok ks r →
    ∃ (first : QKey) (more : List QKey), first.WF ∧ (∀ x ∈ more, x.WF) ∧
      s = first.render ++ (renderQKeySep more ++ r) ∧ ks = acc ++ first.key :: more.map QKey.key := by
  intro fuel
  induction fuel with
  | zero => intro s acc ks r h; simp [keyPathAux] at h
  | succ f ih =>
    intro s acc ks r h
    obtain ⟨pre, hpre, es, _⟩ := dropWs_split s
    unfold keyPathAux at h
    split at h
    · rename_i k r0 hk
      obtain ⟨raw, eraw, hkt⟩ := simpleKey_sound _ _ _ hk
      obtain ⟨post, hpost, er0, _⟩ := dropWs_split r0
      simp only [] at h
      have hone : ∀ r1, dropWs r0 = r1 →
          s = (QKey.mk pre raw k post).render ++ (renderQKeySep [] ++ r1) := by
        intro r1 e1
        rw [es, eraw, er0, e1]; simp [QKey.render, renderQKeySep]
      split at h
      · rename_i r2 hr1
        cases hrec : keyPathAux f r2 (acc ++ [k]) with
        | bt =>
          rw [hrec] at h
          simp only [] at h
          injection h with h1 h2
          subst h1
          refine ⟨⟨pre, raw, k, post⟩, [], ⟨hpre, hpost, hkt⟩, (fun x hx => by cases hx), ?_, by simp⟩
          rw [← h2]; exact hone _ rfl
        | cut => rw [hrec] at h; simp at h
        | ok ks' r' =>
          rw [hrec] at h
          simp only [] at h
          injection h with h1 h2
          subst h1 h2
          obtain ⟨first', more', hf', hm', e', eks⟩ := ih _ _ _ _ hrec
          refine ⟨⟨pre, raw, k, post⟩, first' :: more', ⟨hpre, hpost, hkt⟩, ?_, ?_, ?_⟩
          · intro x hx
            rcases List.mem_cons.1 hx with rfl | hx
            · exact hf'
            · exact hm' x hx
          · rw [es, eraw, er0, hr1, e']; simp [QKey.render, renderQKeySep]
          · rw [eks]; simp
      · injection h with h1 h2
        subst h1
        refine ⟨⟨pre, raw, k, post⟩, [], ⟨hpre, hpost, hkt⟩, (fun x hx => by cases hx), ?_, by simp⟩
        rw [← h2]; exact hone _ rfl
    · cases h
    · cases h

theorem keyPath_sound (s : Bytes) (ks : List Bytes) (r : Bytes) (h : keyPath s = .ok ks r) :
    ∃ k : QDKey, k.WF ∧ s = k.render ++ r ∧ k.keys = ks := by
  unfold keyPath at h
  split at h
  · rename_i ks' r' hk
    split at h
    · cases h
    · rename_i hl
      injection h with h1 h2
      subst h1 h2
      obtain ⟨first, more, hf, hm, e, eks⟩ := keyPathAux_sound _ _ _ _ _ hk
      refine ⟨⟨first, more⟩, ⟨hf, hm, ?_⟩, by simp [QDKey.render, e], by simp [QDKey.keys, eks]⟩
      rw [eks] at hl
      simp at hl
      omega
  · rename_i hne
    exact absurd h (by intro h'; exact hne _ _ h')

end TomlVerif.Lemmas.Sound01
