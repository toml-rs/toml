import TomlVerif.Lemmas.Tiling03Doc
import TomlVerif.Lemmas.Tiling03Seg
/-! C03, nested documents — the class: a checker that follows the parse run and, at every
    `descend` step that finds an existing table, compares the spelling of the key just read with
    the spelling of the stored key (the only one the printer will see). -/
namespace TomlVerif.Lemmas.Tiling03Nest
open TomlVerif TomlVerif.Spec TomlVerif.Model TomlVerif.Model.Strings TomlVerif.Model.Value
open TomlVerif.Model.Cst TomlVerif.Model.Encode TomlVerif.Lemmas.Cst03 TomlVerif.Lemmas.Tiling03
open TomlVerif.Lemmas.Tiling03Hdr

/-- the entry for `k` when it is the last item of the list (and the only one for `k`) -/
def lastEntry (k : Bytes) (items : Items) : Option (Items × CKey × CItem) :=
  match splitLast items with
  | some (init, (k', it)) => if k'.key == k && (clookup k init).isNone then some (init, k', it) else none
  | none => none

/-- the header check, on the root after `finalize_table`, for a header with parent path `pp` and
    last key `key` (`a`: `[[…]]`): every segment that names an existing table names the LAST item
    of its parent (so the new section follows everything below it: pre-order), is spelled like the
    stored key, and is not a dotted-key table; the last key is new, or (for `[[…]]`) names the last
    item, an array of tables, with the same spelling -/
def pathOk (inp : Bytes) (a : Bool) (key : CKey) : CTbl → List CKey → Bool
  | t, [] => !t.dotted && (match clookup key.key t.items with
      | none => true
      | some _ => a && (match lastEntry key.key t.items with
          | some (_, k', .aot _ _) => sameLeaf inp key k'
          | _ => false))
  | t, k :: ks => !t.dotted && (match clookup k.key t.items with
      | none => true
      | some _ => match lastEntry k.key t.items with
          | some (_, k', .table sub) => sameSeg inp k k' && pathOk inp a key sub ks
          | some (_, k', .aot ts _) => sameSeg inp k k' &&
              (match ts.reverse with
               | l :: _ => pathOk inp a key l ks
               | [] => false)
          | _ => false)

mutual
/-- a table body as key/value lines build it: simple values and dotted-key tables of the same -/
def bodyOk : List (CKey × CItem) → Bool
  | [] => true
  | (_, it) :: r =>
    match it with
    | .value v => simpleVal v && bodyOk r
    | .table t => bodyTbl t && bodyOk r
    | .aot _ _ => false
def bodyTbl : CTbl → Bool
  | .mk items _ dot _ _ _ => dot && bodyOk items
end

/-- the dotted-key check, on the current table, for a key/value line with key path `path`:
    every prefix segment that names an existing (dotted) table names the LAST item of its parent
    (adjacent dotted keys) and is spelled like the stored key -/
def dottedOk (inp : Bytes) : CTbl → List CKey → Bool
  | _, [] => true
  | t, k :: ks => match clookup k.key t.items with
      | none => true
      | some _ => match lastEntry k.key t.items with
          | some (_, k', .table sub) => sameSeg inp k k' && sub.dotted && dottedOk inp sub ks
          | _ => false

/-- the header check for one reading of the line (`a`: as `[[…]]`): `r` is the text after the
    opening bracket(s), `st1` the state after `finalize_table` -/
def hdrChk (inp : Bytes) (a : Bool) (st1 : CState) (r : Bytes) : Bool :=
  match ckeyPath inp.length r with
  | .ok ks _ =>
    (match splitLast ks with
     | some (pp, key) => pathOk inp a key st1.root pp
     | none => true)
  | _ => true

/-- the check of a header line (both readings of the line are checked; for `[[a]]` the reading
    as `[` … `]` has no key path, so only the reading `ctableLine` takes counts) -/
def hdrLineOk (inp : Bytes) (st : CState) (s : Bytes) : Bool :=
  match finalizeTable st with
  | none => true
  | some st1 =>
    (match s with
     | 0x5B :: 0x5B :: r => hdrChk inp true st1 r
     | _ => true) &&
    (match s with
     | 0x5B :: r => hdrChk inp false st1 r
     | _ => true)

/-- the check of a key/value line; `dot`: dotted keys are admitted -/
def kvLineOk (inp : Bytes) (dot : Bool) (st : CState) (s : Bytes) : Bool :=
  match ckeyPath inp.length s with
  | .ok ks (0x3D :: r1) =>
    (match cvalue inp.length (3 * r1.length + 4) (ks.length - 1) (dropWs r1) with
     | .ok v _ =>
       simpleVal v &&
       (match splitLast ks with
        | some (path, _) => (dot || path.isEmpty) && dottedOk inp st.current path
        | none => true)
     | _ => true)
  | _ => true

/-- the run checker: `clines` with the line checks (the control flow is that of `clines`) -/
def runOk (inp : Bytes) (dot : Bool) : Nat → CState → Bytes → Bool
  | 0, _, _ => true
  | fuel + 1, st, s =>
    let n := inp.length
    match s with
    | [] => true
    | b :: r =>
      if b == 0x23 then
        let r1 := dropComment r
        match r1 with
        | [] => true
        | _ => match newline? r1 with
          | some r2 =>
            let (st', r3) := parseWs n (onWs st (pos n s) (pos n r2)) r2
            runOk inp dot fuel st' r3
          | none => true
      else if b == 0x5B then
        hdrLineOk inp st s &&
        (match ctableLine n st s with
         | some (st', r1) =>
           let (st'', r2) := parseWs n st' r1
           runOk inp dot fuel st'' r2
         | none => true)
      else if b == 0x0A || b == 0x0D then
        match newline? s with
        | some r1 =>
          let (st', r2) := parseWs n (onWs st (pos n s) (pos n r1)) r1
          runOk inp dot fuel st' r2
        | none => true
      else
        kvLineOk inp dot st s &&
        (match ckeyvalLine n st s with
         | some (st', r1) =>
           let (st'', r2) := parseWs n st' r1
           runOk inp dot fuel st'' r2
         | none => true)

/-- the source-side class: the checked run of `parse_document` -/
def nestRun (dot : Bool) (s : Bytes) : Bool :=
  let n := s.length
  let s0 := Doc.stripBom s
  let (st0, s1) := parseWs n {} s0
  runOk s dot (s1.length + 1) st0 s1

end TomlVerif.Lemmas.Tiling03Nest
