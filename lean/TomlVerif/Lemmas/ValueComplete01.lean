import TomlVerif.Lemmas.AstValueQ01
import TomlVerif.Lemmas.KeyPathComplete01
import TomlVerif.Props.C02Strings
/-! Completeness of `value` over the syntax with quoted keys (`QVal`): every well-formed tree below the nesting
    limit is read back exactly.  Keys of the grammar are key segments (`toKeySeg_ok`), so dotted keys go through
    `Lemmas/KeyPathComplete01.lean`; the syntax with bare keys only (`AVal`) is the fragment `ofAVal`. -/

namespace TomlVerif.Lemmas.Sound01C
open TomlVerif TomlVerif.Spec TomlVerif.Model TomlVerif.Model.Strings TomlVerif.Model.Value
open TomlVerif.Spec.AstValue TomlVerif.Spec.AstValueQ TomlVerif.Lemmas.Value01

theorem simpleKey_text (raw key Z : Bytes) (h : KeyText raw key)
    (hZ : ∀ b r, Z = b :: r → isUnquotedChar b = false) :
    Key.simpleKey (raw ++ Z) = .ok key Z ∧ ∃ b t, raw = b :: t ∧ isWschar b = false := by
  rcases h with ⟨rfl, hne, hk⟩ | ⟨cs, hw, rfl, rfl⟩ | ⟨hw, rfl⟩
  · refine ⟨simpleKey_bare raw Z hne hk hZ, ?_⟩
    cases raw with
    | nil => exact absurd rfl hne
    | cons b t => exact ⟨b, t, rfl, unquoted_not_ws b (hk b (by simp))⟩
  · refine ⟨?_, 0x22, _, rfl, by decide⟩
    have := TomlVerif.Props.C02Strings.T02_basic_general cs Z hw
    simp only [AstString.renderBasic, List.cons_append] at this ⊢
    simpa [Key.simpleKey] using this
  · refine ⟨?_, 0x27, _, rfl, by decide⟩
    have := TomlVerif.Props.C02Strings.T02_literal_general key Z hw
    simp only [AstString.renderLiteral, List.cons_append, AstString.semLiteral] at this ⊢
    simpa [Key.simpleKey] using this

end TomlVerif.Lemmas.Sound01C

namespace TomlVerif.Spec.AstDocQ
open TomlVerif TomlVerif.Spec TomlVerif.Model TomlVerif.Model.Value TomlVerif.Spec.AstValue
open TomlVerif.Spec.AstValueQ TomlVerif.Spec.AstDoc

def toKeySeg (k : QKey) : KeySeg := ⟨k.pre, k.raw, k.key, k.post⟩
def toKeyPath (k : QDKey) : KeyPath := ⟨toKeySeg k.first, k.more.map toKeySeg⟩

theorem toKeySeg_render (k : QKey) : (toKeySeg k).render = k.render := by
  simp [toKeySeg, KeySeg.render, QKey.render]

theorem renderSep_to (l : List QKey) : renderSep (l.map toKeySeg) = renderQKeySep l := by
  induction l with
  | nil => rfl
  | cons k l ih => simp [renderSep, renderQKeySep, ih, toKeySeg_render]

theorem toKeyPath_render (k : QDKey) : (toKeyPath k).render = k.render := by
  simp [toKeyPath, KeyPath.render, QDKey.render, renderSep_to, toKeySeg_render]

theorem map_name_to (l : List QKey) : (l.map toKeySeg).map KeySeg.name = l.map QKey.key := by
  induction l with
  | nil => rfl
  | cons k l ih => simp [toKeySeg]

theorem toKeyPath_names (k : QDKey) : (toKeyPath k).names = k.keys := by
  show (toKeySeg k.first).name :: (k.more.map toKeySeg).map KeySeg.name = _
  rw [map_name_to]; rfl
theorem toKeyPath_path (k : QDKey) : (toKeyPath k).path = k.path := by
  show (splitKeys k.first.key ((k.more.map toKeySeg).map KeySeg.name)).1 = _
  rw [map_name_to]; rfl
theorem toKeyPath_last (k : QDKey) : (toKeyPath k).last = k.last := by
  show (splitKeys k.first.key ((k.more.map toKeySeg).map KeySeg.name)).2 = _
  rw [map_name_to]; rfl
theorem toKeyPath_more_length (k : QDKey) : (toKeyPath k).more.length = k.more.length := by simp [toKeyPath]

theorem toKeySeg_ok (k : QKey) (h : k.WF) : KeySegOK (toKeySeg k) :=
  ⟨h.1, h.2.1, fun rest hr => (TomlVerif.Lemmas.Sound01C.simpleKey_text k.raw k.key rest h.2.2 hr).1⟩

theorem toKeyPath_ok (k : QDKey) (h : k.WF) : (toKeyPath k).OK := by
  refine ⟨toKeySeg_ok _ h.1, ?_, by simpa [toKeyPath] using h.2.2⟩
  intro x hx
  simp only [toKeyPath, List.mem_map] at hx
  obtain ⟨y, hy, rfl⟩ := hx
  exact toKeySeg_ok y (h.2.1 y hy)

end TomlVerif.Spec.AstDocQ

namespace TomlVerif.Lemmas.Sound01C
open TomlVerif TomlVerif.Spec TomlVerif.Model TomlVerif.Model.Strings TomlVerif.Model.Value
open TomlVerif.Spec.AstValue TomlVerif.Spec.AstValueQ TomlVerif.Spec.AstDocQ TomlVerif.Lemmas.Value01
open TomlVerif.Lemmas.Sound01 (renderItemsSepQ_cons renderPairsSepQ_cons)
open TomlVerif.Lemmas.ValueParse (value_close arrayElems_stop value_arr_ok arrayValues_comma arrayValues_nocomma inl_stop
  value_inl_ok)

theorem keyPath_dottedQ (k : QDKey) (Y : Bytes) (hk : k.WF) :
    keyPath (k.render ++ 0x3D :: Y) = .ok k.keys (0x3D :: Y) := by
  have := Doc01.keyPath_path (toKeyPath k) (0x3D :: Y) (toKeyPath_ok k hk) (Doc01.pathFollow_eq Y)
  rwa [toKeyPath_render, toKeyPath_names] at this

theorem splitLast_keysQ (k : QDKey) : splitLast k.keys = some (k.path, k.last) :=
  splitLast_splitKeys _ _

theorem render_headQ : ∀ a : QVal, WFQ a → ∃ b r, renderQ a = b :: r ∧ isFollowByte b = false
  | .scalar t, h => by
    obtain ⟨⟨b, r, h1, h2, _⟩, _⟩ := wfQ_scalar.1 h
    exact ⟨b, r, by simp [renderQ, h1], h2⟩
  | .arr items tc tail, _ => ⟨0x5B, _, by rw [renderQ], by decide⟩
  | .inl items tail, _ => ⟨0x7B, _, by rw [renderQ], by decide⟩

theorem noTrivia_renderQ (a : QVal) (h : WFQ a) (X : Bytes) : NoTriviaHead (renderQ a ++ X) := by
  obtain ⟨b, r, e, hb⟩ := render_headQ a h
  rw [e]; exact not_trivia_of_not_follow b hb

def ValGoalQ (a : QVal) : Prop :=
  ∀ d fuel rest, d + depthQ a < LIMIT → ValFollowS rest → 2 * (renderQ a).length ≤ fuel →
    value fuel d (renderQ a ++ rest) = .ok (semQ a) rest

/-- `ValGoalQ` without the follow condition: `]` and `}` end a container whatever comes next -/
def ContGoalQ (a : QVal) : Prop :=
  ∀ d fuel rest, d + depthQ a < LIMIT → 2 * (renderQ a).length ≤ fuel →
    value fuel d (renderQ a ++ rest) = .ok (semQ a) rest

def closeTailQ (tc : Bool) (tail : Wcn) (rest : Bytes) : Bytes :=
  (if tc then [0x2C] else []) ++ (renderWcn tail ++ 0x5D :: rest)

/-- The element loop on rendered elements in front of `closeTailQ` returns their values and hands back what it did
    not read: without a trailing comma `tail` is read as the trivia behind the last value, so `]` is left; behind a
    trailing comma the loop finds no value and gives the input back from that comma on.  Fuel: a turn of the loop
    and the `value` call inside it take one unit each and consume at least one byte, hence `2 * length`; the last
    turn, which only finds `]`, takes the `+ 2` (the turn, and the `value` call that backtracks). -/
def ItemsGoalQ (l : List (Wcn × QVal × Wcn)) : Prop :=
  l ≠ [] → ∀ d g tc tail rest acc, WcnWF tail → d + depthItemsQ l < LIMIT → 2 * (renderItemsQ l).length + 2 ≤ g →
    arrayElems g d (renderItemsQ l ++ closeTailQ tc tail rest) acc =
      .ok (acc ++ semItemsQ l) (if tc then 0x2C :: (renderWcn tail ++ 0x5D :: rest) else 0x5D :: rest)

def PairsGoalQ (l : List (QDKey × Bytes × QVal × Bytes)) : Prop :=
  l ≠ [] → ∀ d g tail rest acc, AllWs tail → d + depthPairsQ l < LIMIT → 2 * (renderPairsQ l).length + 2 ≤ g →
    inlineKeyvals g d (renderPairsQ l ++ (tail ++ 0x7D :: rest)) acc = .ok (acc ++ flatPairsQ l) (0x7D :: rest)

/-! Fuel and depth arithmetic of the two loops, as lemmas over `Nat` variables in the shape
    `simp only [List.length_append, …]` leaves at the call site (`P`, `V`, `Q` … are the lengths of the pieces of one
    element or entry, `R` of what follows the comma): `omega` called inside `items_stepQ` / `pairs_stepQ` would have to
    digest their whole context, which is slow to check. -/

theorem max_lt_left {d a b L : Nat} (h : d + max a b < L) : d + a < L := by omega
theorem max_lt_right {d a b L : Nat} (h : d + max a b < L) : d + b < L := by omega
theorem items_fuel_val {P V Q S g : Nat} (h : 2 * (P + (V + (Q + S))) + 2 ≤ g + 1) : 2 * V ≤ g := by omega
theorem items_fuel_rest {P V Q R g : Nat} (h : 2 * (P + (V + (Q + (R + 1)))) + 2 ≤ g + 1) : 2 * R + 2 ≤ g := by omega
theorem items_fuel_two {P V Q S g : Nat} (hV : 0 < V) (h : 2 * (P + (V + (Q + S))) + 2 ≤ g + 1) : ∃ g2, g = g2 + 2 :=
  Nat.exists_eq_add_of_le' (by omega)
theorem pairs_fuel_val {K W V X S g : Nat} (h : 2 * (K + (W + (V + (X + S)) + 1)) + 2 ≤ g + 1) : 2 * V ≤ g := by omega
theorem pairs_fuel_rest {K W V X R g : Nat} (h : 2 * (K + (W + (V + (X + (R + 1))) + 1)) + 2 ≤ g + 1) :
    2 * R + 2 ≤ g := by omega

theorem depth_succ {d D L : Nat} (h : d + (1 + D) < L) : d + 1 < L ∧ d + 1 + D < L := by omega
theorem arr_fuel {R C T z fuel : Nat} (h : 2 * (R + (C + (T + (z + 1))) + 1) ≤ fuel) :
    ∃ f0, fuel = f0 + 2 ∧ 2 ≤ f0 ∧ 2 * R + 2 ≤ f0 := by
  obtain ⟨f0, rfl⟩ := Nat.exists_eq_add_of_le' (show 2 ≤ fuel by omega)
  exact ⟨f0, rfl, by omega, by omega⟩
theorem inl_fuel {R T z fuel : Nat} (h : 2 * (R + (T + (z + 1)) + 1) ≤ fuel) :
    ∃ f0, fuel = f0 + 2 ∧ 2 * R + 2 ≤ f0 + 1 := by
  obtain ⟨f0, rfl⟩ := Nat.exists_eq_add_of_le' (show 2 ≤ fuel by omega)
  exact ⟨f0, rfl, by omega⟩

theorem render_posQ (a : QVal) (h : WFQ a) : 0 < (renderQ a).length := by
  obtain ⟨b, r, e, _⟩ := render_headQ a h
  rw [e]; simp

theorem items_stepQ (pre : Wcn) (v : QVal) (post : Wcn) (l' : List (Wcn × QVal × Wcn))
    (hpre : WcnWF pre) (hv : WFQ v) (hpost : WcnWF post) (ihv : ValGoalQ v) (ihl : ItemsGoalQ l') :
    ItemsGoalQ ((pre, v, post) :: l') := by
  intro _ d g tc tail rest acc htail hdep hg
  have hvpos := render_posQ v hv
  simp only [depthItemsQ] at hdep
  simp only [renderItemsQ, List.length_append] at hg
  obtain ⟨g0, rfl⟩ := succ_of_lt hg
  simp only [renderItemsQ, semItemsQ, List.append_assoc]
  have hV := noTrivia_renderQ v hv
  have hdv := max_lt_left hdep
  cases l' with
  | nil =>
    simp only [renderItemsSepQ, List.nil_append, List.length_nil] at hg ⊢
    cases tc with
    | true =>
      -- `pre v post , tail ]`: after the comma no element follows, the loop gives the comma back
      simp only [closeTailQ, ↓reduceIte, List.cons_append, List.nil_append]
      have h2 := ihv d g0 (renderWcn post ++ 0x2C :: (renderWcn tail ++ 0x5D :: rest)) hdv
        (followS_wcn_append post _ hpost (followS_of_head 0x2C _ (by decide) (by decide))) (items_fuel_val hg)
      obtain ⟨g2, rfl⟩ := items_fuel_two hvpos hg
      exact arrayElems_elem_comma _ d pre post _ _ _ _ acc hpre hpost (hV _) h2
        (arrayElems_stop (g2 + 1) d _ _ _ (wcn_exact_len tail _ htail (by decide : isTrivia 0x5D = false)) (value_close _ _ _))
    | false =>
      -- `pre v post tail ]`: the trivia after the value runs up to the bracket
      simp only [closeTailQ, Bool.false_eq_true, ↓reduceIte, List.nil_append]
      have h2 := ihv d g0 (renderWcn post ++ (renderWcn tail ++ 0x5D :: rest)) hdv
        (followS_wcn_append post _ hpost (followS_wcn_append tail _ htail (followS_of_head 0x5D _ (by decide) (by decide))))
        (items_fuel_val hg)
      have e : renderWcn post ++ (renderWcn tail ++ 0x5D :: rest) = renderWcn (post ++ tail) ++ 0x5D :: rest := by
        rw [renderWcn_append, List.append_assoc]
      rw [e] at h2 ⊢
      exact arrayElems_elem_last g0 d pre (post ++ tail) _ _ _ acc hpre (List.forall_mem_append.2 ⟨hpost, htail⟩) (hV _) h2
        (by decide : isTrivia 0x5D = false) (by intro t ht; simp at ht)
  | cons p' l'' =>
    rw [renderItemsSepQ_cons] at hg ⊢
    simp only [List.cons_append, List.length_cons] at hg ⊢
    have h2 := ihv d g0 (renderWcn post ++ 0x2C :: (renderItemsQ (p' :: l'') ++ closeTailQ tc tail rest)) hdv
      (followS_wcn_append post _ hpost (followS_of_head 0x2C _ (by decide) (by decide))) (items_fuel_val hg)
    have h4 := ihl (List.cons_ne_nil _ _) d g0 tc tail rest (acc ++ [semQ v]) htail (max_lt_right hdep)
      (items_fuel_rest hg)
    obtain ⟨a', v', b'⟩ := p'
    simp only [semItemsQ, List.append_assoc, List.cons_append, List.nil_append] at h4 ⊢
    exact arrayElems_elem_more g0 d pre post _ _ _ _ _ acc _ hpre hpost (hV _) h2 h4

theorem pairs_stepQ (k : QDKey) (w1 : Bytes) (v : QVal) (w2 : Bytes) (l' : List (QDKey × Bytes × QVal × Bytes))
    (hk : k.WF) (hw1 : AllWs w1) (hv : WFQ v) (hw2 : AllWs w2) (ihv : ValGoalQ v) (ihl : PairsGoalQ l') :
    PairsGoalQ ((k, w1, v, w2) :: l') := by
  intro _ d g tail rest acc htail hdep hg
  simp only [depthPairsQ] at hdep
  simp only [renderPairsQ, List.length_append, List.length_cons] at hg
  obtain ⟨g0, rfl⟩ := succ_of_lt hg
  simp only [renderPairsQ, flatPairsQ, List.append_assoc, List.cons_append]
  have hlen : k.keys.length - 1 = k.more.length := by simp [QDKey.keys]
  have hdv : d + (k.keys.length - 1) + depthQ v < LIMIT := by
    rw [hlen, Nat.add_assoc]; exact max_lt_left hdep
  have hdk : d + (k.keys.length - 1) < LIMIT := Nat.lt_of_le_of_lt (Nat.le_add_right _ _) hdv
  cases l' with
  | nil =>
    -- `k = w1 v w2 tail }`: the blanks after the value run up to the brace
    simp only [renderPairsSepQ, List.nil_append, List.length_nil] at hg ⊢
    have h2 := ihv (d + (k.keys.length - 1)) g0 (w2 ++ (tail ++ 0x7D :: rest)) hdv
      (followS_ws_append _ _ hw2 (followS_ws_append _ _ htail (followS_of_head 0x7D _ (by decide) (by decide))))
      (pairs_fuel_val hg)
    rw [← List.append_assoc w2 tail] at h2 ⊢
    exact inl_entry_last g0 d _ w1 _ (w2 ++ tail) _ _ k.keys _ _ acc (keyPath_dottedQ k _ hk) (splitLast_keysQ k)
      hdk hw1 (fun b hb => (List.mem_append.1 hb).elim (hw2 b) (htail b)) (noTrivia_renderQ v hv _) h2
      (by intro b t e; injection e with e _; subst e; decide)
  | cons p' l'' =>
    rw [renderPairsSepQ_cons] at hg ⊢
    simp only [List.cons_append, List.length_cons] at hg ⊢
    have h2 := ihv (d + (k.keys.length - 1)) g0 (w2 ++ 0x2C :: (renderPairsQ (p' :: l'') ++ (tail ++ 0x7D :: rest)))
      hdv (followS_ws_append _ _ hw2 (followS_of_head 0x2C _ (by decide) (by decide))) (pairs_fuel_val hg)
    have h4 := ihl (List.cons_ne_nil _ _) d g0 tail rest (acc ++ [(k.path, k.last, semQ v)]) htail (max_lt_right hdep)
      (pairs_fuel_rest hg)
    obtain ⟨k', a', v', b'⟩ := p'
    simp only [flatPairsQ, List.append_assoc, List.cons_append, List.nil_append] at h4 ⊢
    exact inl_entry_more g0 d _ w1 _ w2 _ _ _ k.keys _ _ acc _ _ (keyPath_dottedQ k _ hk) (splitLast_keysQ k)
      hdk hw1 hw2 (noTrivia_renderQ v hv _) h2 h4

theorem item_head_neQ (pre : Wcn) (v : QVal) (Z : Bytes) (hpre : WcnWF pre) (hv : WFQ v) :
    ∀ t, renderWcn pre ++ (renderQ v ++ Z) ≠ 0x5D :: t := by
  intro t he
  rcases wcn_head pre hpre with h | ⟨b, r, h, hb⟩
  · obtain ⟨b, r, e, hb⟩ := render_headQ v hv
    rw [h, e] at he
    simp at he
    rw [he.1] at hb
    revert hb; decide
  · rw [h] at he
    simp at he
    rw [he.1] at hb
    revert hb; decide

theorem scalar_caseQ (t : ScalarTok) (h : ScalarOK t) : ValGoalQ (.scalar t) := by
  intro d fuel rest _ hfol hfuel
  obtain ⟨⟨b, r, e, _⟩, h2⟩ := h
  simp only [renderQ, semQ] at hfuel ⊢
  exact h2 fuel d rest (by rw [e] at hfuel; simp at hfuel; omega) hfol

theorem arr_caseQ (items : List (Wcn × QVal × Wcn)) (tc : Bool) (tail : Wcn) (hwf : WFItemsQ items)
    (hit : ItemsGoalQ items) (htail : WcnWF tail) (htc : items = [] → tc = false) : ContGoalQ (.arr items tc tail) := by
  intro d fuel rest hdep hfuel
  simp only [renderQ, depthQ, semQ, List.length_cons, List.length_append, List.length_nil] at hdep hfuel ⊢
  obtain ⟨f0, rfl, hf2, hfr⟩ := arr_fuel hfuel
  obtain ⟨hd1, hdi⟩ := depth_succ hdep
  simp only [List.cons_append]
  apply value_arr_ok (f0 + 1) d _ rest _ hd1
  have e : renderItemsQ items ++ ((if tc = true then [0x2C] else []) ++ (renderWcn tail ++ [0x5D])) ++ rest
      = renderItemsQ items ++ closeTailQ tc tail rest := by simp [closeTailQ]
  rw [e]
  cases items with
  | nil =>
    rw [htc rfl]
    simp only [renderItemsQ, List.nil_append, closeTailQ, semItemsQ, Bool.false_eq_true, if_false]
    exact arrayValues_empty f0 (d + 1) tail rest htail hf2
  | cons p l =>
    obtain ⟨pre, v, post⟩ := p
    obtain ⟨hpre, hv, _, _⟩ := wfItemsQ_cons.1 hwf
    have hs : ∀ t, renderItemsQ ((pre, v, post) :: l) ++ closeTailQ tc tail rest ≠ 0x5D :: t := by
      simp only [renderItemsQ, List.append_assoc]
      exact item_head_neQ pre v _ hpre hv
    have hne : semItemsQ ((pre, v, post) :: l) ≠ [] := by simp [semItemsQ]
    have h := hit (List.cons_ne_nil _ _) (d + 1) f0 tc tail rest [] htail hdi hfr
    simp only [List.nil_append] at h
    cases tc with
    | true =>
      simp only [if_true] at h
      exact arrayValues_comma f0 (d + 1) _ _ _ _ hs hne h
        (wcn_exact_len tail _ htail (by decide : isTrivia 0x5D = false))
    | false =>
      simp only [Bool.false_eq_true, if_false] at h
      exact arrayValues_nocomma f0 (d + 1) _ _ _ _ hs hne h (by intro t ht; simp at ht)
        (wcn_stop _ _ (by decide : isTrivia 0x5D = false))

theorem inl_caseQ (items : List (QDKey × Bytes × QVal × Bytes)) (tail : Bytes)
    (hp : PairsGoalQ items) (htail : AllWs tail) (hnd : (tableFromPairs (flatPairsQ items) []).isSome = true) :
    ContGoalQ (.inl items tail) := by
  intro d fuel rest hdep hfuel
  simp only [renderQ, depthQ, semQ, List.length_cons, List.length_append, List.length_nil] at hdep hfuel ⊢
  obtain ⟨f0, rfl, hfr⟩ := inl_fuel hfuel
  obtain ⟨hd1, hdi⟩ := depth_succ hdep
  simp only [List.cons_append, List.append_assoc, List.nil_append]
  have hc : dropWs (0x7D :: rest) = 0x7D :: rest := dropWs_head _ _ (by decide)
  obtain ⟨tbl, ht⟩ := Option.isSome_iff_exists.1 hnd
  rw [ht, Option.getD_some]
  cases items with
  | nil =>
    have hd : dropWs (tail ++ 0x7D :: rest) = 0x7D :: rest := by rw [dropWs_allws _ _ htail]; exact hc
    simp only [renderPairsQ, List.nil_append]
    exact value_inl_ok _ d _ _ rest [] tbl hd1 (inl_stop f0 (d + 1) _ [] (keyPath_close _ rest hd)) ht hd
  | cons p l =>
    have h := hp (List.cons_ne_nil _ _) (d + 1) (f0 + 1) tail rest [] htail hdi hfr
    simp only [List.nil_append] at h
    exact value_inl_ok _ d _ _ rest _ _ hd1 h ht hc

mutual
theorem val_okQ : ∀ a : QVal, WFQ a → ValGoalQ a
  | .scalar t, h => scalar_caseQ t (wfQ_scalar.1 h)
  | .arr items tc tail, h => by
    obtain ⟨hi, htail, htc⟩ := wfQ_arr.1 h
    exact fun d fuel rest hd _ hf => arr_caseQ items tc tail hi (items_okQ items hi) htail htc d fuel rest hd hf
  | .inl items tail, h => by
    obtain ⟨hp, htail, hsome⟩ := wfQ_inl.1 h
    exact fun d fuel rest hd _ hf => inl_caseQ items tail (pairs_okQ items hp) htail hsome d fuel rest hd hf
theorem items_okQ : ∀ l : List (Wcn × QVal × Wcn), WFItemsQ l → ItemsGoalQ l
  | [], _ => fun h => absurd rfl h
  | (pre, v, post) :: l, h => by
    obtain ⟨hpre, hv, hpost, hl⟩ := wfItemsQ_cons.1 h
    exact items_stepQ pre v post l hpre hv hpost (val_okQ v hv) (items_okQ l hl)
theorem pairs_okQ : ∀ l : List (QDKey × Bytes × QVal × Bytes), WFPairsQ l → PairsGoalQ l
  | [], _ => fun h => absurd rfl h
  | (k, w1, v, w2) :: l, h => by
    obtain ⟨hk, hw1, hv, hw2, hl⟩ := wfPairsQ_cons.1 h
    exact pairs_stepQ k w1 v w2 l hk hw1 hv hw2 (val_okQ v hv) (pairs_okQ l hl)
end

theorem cont_okQ (a : QVal) (h : WFQ a) (hc : ∀ t, a ≠ .scalar t) : ContGoalQ a := by
  cases a with
  | scalar t => exact absurd rfl (hc t)
  | arr items tc tail =>
    obtain ⟨hi, htail, htc⟩ := wfQ_arr.1 h
    exact arr_caseQ items tc tail hi (items_okQ items hi) htail htc
  | inl items tail =>
    obtain ⟨hp, htail, hsome⟩ := wfQ_inl.1 h
    exact inl_caseQ items tail (pairs_okQ items hp) htail hsome

end TomlVerif.Lemmas.Sound01C
