import TomlVerif.Lemmas.Macro19ParseLeaf
import TomlVerif.Lemmas.DocGrammar01
/-! C19: the grammar tree (`QDoc`, Lemmas/AstDocQ01.lean) whose rendering is `textOf ds` and whose
    statements are `stmtsOf ds`; with `stmtsOfText_iff`
    (Lemmas/DocGrammar01.lean) the TOML parser reads the canonical text as those statements. -/
namespace TomlVerif.Lemmas.Macro19c
open TomlVerif TomlVerif.Spec TomlVerif.Model TomlVerif.Model.Macro TomlVerif.Lemmas.Macro19 TomlVerif.Lemmas.Macro19b
open TomlVerif.Spec.AstValue TomlVerif.Spec.AstValueQ TomlVerif.Spec.AstDoc TomlVerif.Spec.AstDocQ
open TomlVerif.Model.Value TomlVerif.Lemmas.Value01 TomlVerif.Lemmas.State09
open TomlVerif.Spec.AstString (BasicChar renderBasic semBasic wfBasic)

def segKey (s : Seg) : Bytes :=
  match s.head with
  | .str _ val => val
  | _ => segText s

def keyStrs (k : MKey) : List Bytes := segKey k.head :: k.tail.map segKey

def qkeyOf (pre post : Bytes) (s : Seg) : QKey := ⟨pre, segText s, segKey s, post⟩

/-- the components after the first; `post` goes behind the last one -/
def moreOf (post : Bytes) : List Seg → List QKey
  | [] => []
  | [s] => [qkeyOf [] post s]
  | s :: t :: r => qkeyOf [] [] s :: moreOf post (t :: r)

/-- the dotted key with `pre` in front and `post` behind -/
def qdkeyOf (pre post : Bytes) (k : MKey) : QDKey :=
  match k.tail with
  | [] => ⟨qkeyOf pre post k.head, []⟩
  | t :: r => ⟨qkeyOf pre [] k.head, moreOf post (t :: r)⟩

theorem moreOf_render (post : Bytes) : ∀ (l : List Seg), l ≠ [] → renderQKeySep (moreOf post l) = dottedText l ++ post
  | [], h => absurd rfl h
  | [s], _ => by simp [moreOf, renderQKeySep, qkeyOf, QKey.render, dottedText]
  | s :: t :: r, _ => by
    have := moreOf_render post (t :: r) (by simp)
    simp only [moreOf, renderQKeySep, this]
    simp [qkeyOf, QKey.render, dottedText]

theorem qdkeyOf_render (pre post : Bytes) (k : MKey) : (qdkeyOf pre post k).render = pre ++ (keyText k ++ post) := by
  obtain ⟨hd, tl⟩ := k
  cases tl with
  | nil => simp [qdkeyOf, QDKey.render, renderQKeySep, qkeyOf, QKey.render, keyText, dottedText]
  | cons t r =>
    simp only [qdkeyOf, QDKey.render, moreOf_render post (t :: r) (by simp)]
    simp [qkeyOf, QKey.render, keyText]

theorem moreOf_keys (post : Bytes) : ∀ l : List Seg, (moreOf post l).map QKey.key = l.map segKey
  | [] => rfl
  | [s] => by simp [moreOf, qkeyOf]
  | s :: t :: r => by
    have := moreOf_keys post (t :: r)
    simp only [moreOf, List.map_cons, this]
    simp [qkeyOf]

theorem moreOf_length (post : Bytes) : ∀ l : List Seg, (moreOf post l).length = l.length
  | [] => rfl
  | [s] => rfl
  | s :: t :: r => by simp [moreOf, moreOf_length post (t :: r)]

theorem qdkeyOf_keys (pre post : Bytes) (k : MKey) : (qdkeyOf pre post k).keys = keyStrs k := by
  obtain ⟨hd, tl⟩ := k
  cases tl with
  | nil => simp [qdkeyOf, QDKey.keys, keyStrs, qkeyOf]
  | cons t r => simp [qdkeyOf, QDKey.keys, keyStrs, qkeyOf, moreOf_keys]

theorem qdkeyOf_more_length (pre post : Bytes) (k : MKey) : (qdkeyOf pre post k).more.length = k.tail.length := by
  obtain ⟨hd, tl⟩ := k
  cases tl with
  | nil => simp [qdkeyOf]
  | cons t r => simp [qdkeyOf, moreOf_length]

theorem qdkeyOf_split (pre post : Bytes) (k : MKey) :
    State.splitLast (keyStrs k) = some ((qdkeyOf pre post k).path, (qdkeyOf pre post k).last) := by
  have h := qdkeyOf_keys pre post k
  have := TomlVerif.Lemmas.InlineKeys01.splitKeys_append ((qdkeyOf pre post k).more.map QKey.key) (qdkeyOf pre post k).first.key
  rw [← h]
  unfold QDKey.keys
  rw [← this]
  exact TomlVerif.Lemmas.State09.splitLast_append _ _

theorem identAtom_path (a : KAtom) (h : identAtom a = true) : pathStr a.tt = some (atomText a) := by
  cases a <;> simp [identAtom] at h
  rfl

theorem segStr_idents (a : KAtom) (l : List KAtom) (ha : identAtom a = true) (hl : l.all identAtom = true) :
    segStr (a.tt :: l.map KAtom.tt) = some (atomText a ++ dashedText l) := by
  induction l generalizing a with
  | nil => simp [segStr, identAtom_path a ha, dashedText]
  | cons b r ih =>
    simp only [List.all_cons, Bool.and_eq_true] at hl
    have := ih b hl.1 hl.2
    simp only [List.map_cons] at this ⊢
    rw [segStr]
    · simp [identAtom_path a ha, this, dashedText]
    · intro h; cases h

theorem seg_path (s : Seg) (h : segOk s = true) : segStr s.tts = some (segKey s) := by
  obtain ⟨hd, tl⟩ := s
  cases hd with
  | ident w =>
    simp only [segOk, Bool.and_eq_true] at h
    have := segStr_idents (.ident w) tl (by simpa [identAtom] using h.1) h.2
    simpa [Seg.tts, segKey, segText] using this
  | str raw val =>
    simp only [segOk, Bool.and_eq_true, List.isEmpty_iff] at h
    obtain ⟨_, rfl⟩ := h
    simp [Seg.tts, segKey, segStr, pathStr, KAtom.tt, KAtom.tok]
  | _ => simp [segOk] at h

theorem segs_path (l : List Seg) (h : l.all segOk = true) : segsStr (l.map Seg.tts) = some (l.map segKey) := by
  induction l with
  | nil => rfl
  | cons s r ih =>
    simp only [List.all_cons, Bool.and_eq_true] at h
    simp [segsStr, seg_path s h.1, ih h.2]

theorem key_path (k : MKey) (h : keyOk k = true) : k.path = some (keyStrs k) := by
  simp only [keyOk, Bool.and_eq_true] at h
  have := segs_path (k.head :: k.tail) (by simp [h.1.1, h.1.2])
  simpa [MKey.path, MKey.segs, keyStrs] using this

theorem idCont_unquoted : ∀ b : Byte, isIdCont b = true → isUnquotedChar b = true := forall_byte (by decide +kernel)

theorem ident_unquoted (w : Bytes) (h : identOk w = true) : w ≠ [] ∧ ∀ b ∈ w, isUnquotedChar b = true := by
  cases w with
  | nil => simp [identOk] at h
  | cons c t =>
    simp only [identOk, Bool.and_eq_true] at h
    refine ⟨by simp, ?_⟩
    intro b hb
    rcases List.mem_cons.1 hb with rfl | hb
    · exact idCont_unquoted _ (idStart_facts _ h.1.1).2
    · exact idCont_unquoted _ (List.all_eq_true.1 h.1.2 b hb)

theorem dashed_unquoted (l : List KAtom) (h : l.all identAtom = true) : ∀ b ∈ dashedText l, isUnquotedChar b = true := by
  induction l with
  | nil => intro b hb; simp [dashedText] at hb
  | cons a r ih =>
    simp only [List.all_cons, Bool.and_eq_true] at h
    intro b hb
    simp only [dashedText, List.mem_cons, List.mem_append] at hb
    rcases hb with rfl | hb | hb
    · decide
    · cases a <;> simp [identAtom] at h
      rename_i w
      exact (ident_unquoted w h.1).2 b (by simpa [atomText, KAtom.tok, tokText] using hb)
    · exact ih h.2 b hb

theorem qkeyOf_wf (pre post : Bytes) (s : Seg) (h1 : AllWs pre) (h2 : AllWs post) (h : segOk s = true) :
    (qkeyOf pre post s).WF := by
  refine ⟨h1, h2, ?_⟩
  obtain ⟨hd, tl⟩ := s
  cases hd with
  | ident w =>
    simp only [segOk, Bool.and_eq_true] at h
    left
    obtain ⟨hne, hu⟩ := ident_unquoted w h.1
    refine ⟨rfl, ?_, ?_⟩
    · simp [qkeyOf, segKey, segText, atomText, KAtom.tok, tokText, hne]
    · intro b hb
      simp only [qkeyOf, segKey, segText, atomText, KAtom.tok, tokText, List.mem_append] at hb
      rcases hb with hb | hb
      · exact hu b hb
      · exact dashed_unquoted tl h.2 b hb
  | str raw val =>
    simp only [segOk, Bool.and_eq_true, List.isEmpty_iff] at h
    obtain ⟨hs, rfl⟩ := h
    obtain ⟨cs, rfl, rfl, _, hwf⟩ := strOk_spec raw val hs
    right; left
    exact ⟨cs, hwf, by simp [qkeyOf, segText, atomText, KAtom.tok, tokText, dashedText], by simp [qkeyOf, segKey]⟩
  | _ => simp [segOk] at h

theorem moreOf_wf (post : Bytes) (hp : AllWs post) : ∀ l : List Seg, l.all segOk = true → ∀ x ∈ moreOf post l, x.WF
  | [], _ => by intro x hx; cases hx
  | [s], h => by
    intro x hx
    simp only [moreOf, List.mem_singleton] at hx
    subst hx
    exact qkeyOf_wf [] post s AllWs.nil hp (by simpa using h)
  | s :: t :: r, h => by
    intro x hx
    have h' : segOk s = true ∧ (t :: r).all segOk = true := by
      have := h; simp only [List.all_cons, Bool.and_eq_true] at this ⊢; exact this
    simp only [moreOf, List.mem_cons] at hx
    rcases hx with rfl | hx
    · exact qkeyOf_wf [] [] s AllWs.nil AllWs.nil h'.1
    · exact moreOf_wf post hp (t :: r) h'.2 x (by simpa [moreOf] using hx)

theorem qdkeyOf_wf (pre post : Bytes) (k : MKey) (h1 : AllWs pre) (h2 : AllWs post) (h : keyOk k = true) :
    (qdkeyOf pre post k).WF := by
  have hl := qdkeyOf_more_length pre post k
  simp only [keyOk, Bool.and_eq_true, decide_eq_true_eq] at h
  obtain ⟨⟨hh, ht⟩, hlim⟩ := h
  obtain ⟨hd, tl⟩ := k
  cases tl with
  | nil =>
    refine ⟨qkeyOf_wf pre post hd h1 h2 hh, ?_, ?_⟩
    · intro x hx; simp [qdkeyOf] at hx
    · simpa [qdkeyOf] using hlim
  | cons t r =>
    refine ⟨qkeyOf_wf pre [] hd h1 AllWs.nil hh, moreOf_wf post h2 (t :: r) ht, ?_⟩
    rw [hl]; exact hlim

mutual
def qvalOf : MTree → QVal
  | .leaf a => .scalar ⟨leafText a, leafVal a⟩
  | .arr items tr => .arr (qitems true items) (tr && !items.isEmpty) []
  | .tbl es _ => .inl (qpairs true es) []
/-- array items; every item but the first has a blank in front -/
def qitems : Bool → List MTree → List (Wcn × QVal × Wcn)
  | _, [] => []
  | first, a :: r => ((if first then [] else [.ws [0x20]]), qvalOf a, []) :: qitems false r
/-- entries `key = value`; every key but the first has a blank in front -/
def qpairs : Bool → List (MKey × MTree) → List (QDKey × Bytes × QVal × Bytes)
  | _, [] => []
  | first, (k, a) :: r => (qdkeyOf (if first then [] else [0x20]) [0x20] k, [0x20], qvalOf a, []) :: qpairs false r
end

mutual
theorem qvalOf_render : ∀ v : MTree, renderQ (qvalOf v) = valText v
  | .leaf a => by simp [qvalOf, renderQ, valText]
  | .arr items tr => by simp [qvalOf, renderQ, valText, qitems_render items, renderWcn]
  | .tbl es tr => by simp [qvalOf, renderQ, valText, qpairs_render es]
theorem qitems_render : ∀ l : List MTree, renderItemsQ (qitems true l) = itemsText l
  | [] => by simp [qitems, renderItemsQ, itemsText]
  | a :: r => by simp [qitems, renderItemsQ, itemsText, qvalOf_render a, qitemsSep_render r, renderWcn]
theorem qitemsSep_render : ∀ l : List MTree, renderItemsSepQ (qitems false l) = itemsSepText l
  | [] => by simp [qitems, renderItemsSepQ, itemsSepText]
  | a :: r => by
    simp [qitems, renderItemsSepQ, itemsSepText, qvalOf_render a, qitemsSep_render r, renderWcn, Piece.render]
theorem qpairs_render : ∀ l : List (MKey × MTree), renderPairsQ (qpairs true l) = entriesText l
  | [] => by simp [qpairs, renderPairsQ, entriesText]
  | (k, a) :: r => by
    simp [qpairs, renderPairsQ, entriesText, qvalOf_render a, qpairsSep_render r, qdkeyOf_render]
theorem qpairsSep_render : ∀ l : List (MKey × MTree), renderPairsSepQ (qpairs false l) = entriesSepText l
  | [] => by simp [qpairs, renderPairsSepQ, entriesSepText]
  | (k, a) :: r => by
    simp [qpairs, renderPairsSepQ, entriesSepText, qvalOf_render a, qpairsSep_render r, qdkeyOf_render]
end

mutual
theorem qvalOf_depth : ∀ v : MTree, depthQ (qvalOf v) = mdepth v
  | .leaf a => by simp [qvalOf, depthQ, mdepth]
  | .arr items tr => by simp [qvalOf, depthQ, mdepth, qitems_depth items true]
  | .tbl es tr => by simp [qvalOf, depthQ, mdepth, qpairs_depth es true]
theorem qitems_depth : ∀ (l : List MTree) (first : Bool), depthItemsQ (qitems first l) = mdepthL l
  | [], _ => by simp [qitems, depthItemsQ, mdepthL]
  | a :: r, first => by simp [qitems, depthItemsQ, mdepthL, qvalOf_depth a, qitems_depth r false]
theorem qpairs_depth : ∀ (l : List (MKey × MTree)) (first : Bool), depthPairsQ (qpairs first l) = mdepthE l
  | [], _ => by simp [qpairs, depthPairsQ, mdepthE]
  | (k, a) :: r, first => by
    simp [qpairs, depthPairsQ, mdepthE, qvalOf_depth a, qpairs_depth r false, qdkeyOf_more_length]
end

theorem wcnWF_sp : WcnWF [.ws [0x20]] := by
  intro p hp; simp at hp; subst hp
  exact AllWs.sp

mutual
theorem qvalOf_sem : ∀ v : MTree, valOk v = true → ∀ x, refV v = some x → semQ (qvalOf v) = x ∧ WFQ (qvalOf v)
  | .leaf a, h, x, hx => by
    simp only [valOk] at h
    obtain ⟨m, hs, rfl⟩ := refV_leaf hx
    have hv : leafVal a = mvalV m := by simp [leafVal, hs]
    refine ⟨by simp [qvalOf, semQ, hv], ?_⟩
    rw [qvalOf, WFQ, hv]
    exact leaf_scalarOK a h m hs
  | .arr items tr, h, x, hx => by
    simp only [valOk] at h
    obtain ⟨xs, hv, rfl⟩ := refV_arr hx
    obtain ⟨h1, h2⟩ := qitems_sem items h true xs hv
    refine ⟨by simp [qvalOf, semQ, h1], ?_⟩
    rw [qvalOf, WFQ]
    refine ⟨h2, TomlVerif.Lemmas.Sound01.wcnWF_nil, ?_⟩
    intro e
    cases items with
    | nil => simp
    | cons a r => simp [qitems] at e
  | .tbl es tr, h, x, hx => by
    simp only [valOk, Bool.and_eq_true] at h
    obtain ⟨pairs, items, he, ht, rfl⟩ := refV_tbl hx
    obtain ⟨h1, h2⟩ := qpairs_sem es h.1 true pairs he
    refine ⟨by simp [qvalOf, semQ, h1, ht], ?_⟩
    rw [qvalOf, WFQ]
    exact ⟨h2, AllWs.nil, by rw [h1, ht]; rfl⟩
theorem qitems_sem : ∀ (l : List MTree), itemsOk l = true → ∀ (first : Bool) (xs : List Val), refVs l = some xs →
    semItemsQ (qitems first l) = xs ∧ WFItemsQ (qitems first l)
  | [], _, first, xs, hx => by
    simp only [refVs] at hx
    injection hx with hx; subst hx
    simp [qitems, semItemsQ, WFItemsQ]
  | a :: r, h, first, xs, hx => by
    simp only [itemsOk, Bool.and_eq_true] at h
    obtain ⟨v, vs, ha, hr, rfl⟩ := refVs_cons hx
    obtain ⟨a1, a2⟩ := qvalOf_sem a h.1 v ha
    obtain ⟨r1, r2⟩ := qitems_sem r h.2 false vs hr
    refine ⟨by simp [qitems, semItemsQ, a1, r1], ?_⟩
    rw [qitems, WFItemsQ]
    refine ⟨?_, a2, TomlVerif.Lemmas.Sound01.wcnWF_nil, r2⟩
    cases first
    · exact wcnWF_sp
    · exact TomlVerif.Lemmas.Sound01.wcnWF_nil
theorem qpairs_sem : ∀ (l : List (MKey × MTree)), entriesOk l = true → ∀ (first : Bool)
    (ps : List (List Bytes × Bytes × Val)), refEs l = some ps →
    flatPairsQ (qpairs first l) = ps ∧ WFPairsQ (qpairs first l)
  | [], _, first, ps, hx => by
    simp only [refEs] at hx
    injection hx with hx; subst hx
    simp [qpairs, flatPairsQ, WFPairsQ]
  | (k, a) :: r, h, first, ps, hx => by
    simp only [entriesOk, Bool.and_eq_true] at h
    simp only [refEs, key_path k h.1.1, Option.bind_some,
      qdkeyOf_split (if first then [] else [0x20]) [0x20] k] at hx
    cases ha : refV a with
    | none => simp [ha] at hx
    | some v =>
      cases hr : refEs r with
      | none => simp [ha, hr] at hx
      | some ps' =>
        simp only [ha, hr] at hx
        injection hx with hx; subst hx
        obtain ⟨a1, a2⟩ := qvalOf_sem a h.1.2 v ha
        obtain ⟨r1, r2⟩ := qpairs_sem r h.2 false ps' hr
        refine ⟨by simp [qpairs, flatPairsQ, a1, r1], ?_⟩
        rw [qpairs, WFPairsQ]
        refine ⟨qdkeyOf_wf _ _ k ?_ AllWs.sp h.1.1, AllWs.sp, a2, AllWs.nil, r2⟩
        cases first
        · exact AllWs.sp
        · exact AllWs.nil
end

def qlineOf : DStmt → QLine
  | .kv k v => .keyval (qdkeyOf [] [0x20] k) [0x20] (qvalOf v) [] none
  | .std k => .std [] (qdkeyOf [] [] k) [] none
  | .arr k => .aot [] (qdkeyOf [] [] k) [] none

def qdocOf (ds : List DStmt) : QDoc := ⟨false, ds.map fun s => (qlineOf s, false), none⟩

theorem qlineOf_render (s : DStmt) : (qlineOf s).render = stmtText s := by
  cases s <;> simp [qlineOf, QLine.render, stmtText, qdkeyOf_render, qvalOf_render, commentBytes]

theorem qdocOf_render (ds : List DStmt) : (qdocOf ds).render = textOf ds := by
  simp only [qdocOf, QDoc.render, bomBytes, Bool.false_eq_true, if_false, List.nil_append, renderLastQ, List.append_nil]
  induction ds with
  | nil => rfl
  | cons s r ih => simp [renderLinesQ, textOf, qlineOf_render, nlBytes, ih]

theorem qlineOf_stmt (s : DStmt) (h : stmtOk s = true) (x : Stmt) (hx : stmtOf s = some x) :
    (qlineOf s).stmt = some x ∧ (qlineOf s).WF := by
  cases s with
  | kv k v =>
    simp only [stmtOk, Bool.and_eq_true, decide_eq_true_eq] at h
    obtain ⟨⟨hk, hv⟩, hd⟩ := h
    simp only [stmtOf, key_path k hk, Option.bind_some, qdkeyOf_split [] [0x20] k] at hx
    cases ha : refV v with
    | none => simp [ha] at hx
    | some y =>
      simp only [ha] at hx
      injection hx with hx; subst hx
      obtain ⟨a1, a2⟩ := qvalOf_sem v hv y ha
      refine ⟨by simp [qlineOf, QLine.stmt, a1], ?_⟩
      exact ⟨qdkeyOf_wf _ _ k AllWs.nil AllWs.sp hk, AllWs.sp, a2,
        by rw [qdkeyOf_more_length, qvalOf_depth]; exact hd, AllWs.nil, TomlVerif.Lemmas.SoundDoc01.commentOK_none⟩
  | std k =>
    simp only [stmtOk] at h
    simp only [stmtOf, key_path k h, Option.map_some] at hx
    injection hx with hx; subst hx
    exact ⟨by simp [qlineOf, QLine.stmt, qdkeyOf_keys],
      AllWs.nil, qdkeyOf_wf _ _ k AllWs.nil AllWs.nil h, AllWs.nil, TomlVerif.Lemmas.SoundDoc01.commentOK_none⟩
  | arr k =>
    simp only [stmtOk] at h
    simp only [stmtOf, key_path k h, Option.map_some] at hx
    injection hx with hx; subst hx
    exact ⟨by simp [qlineOf, QLine.stmt, qdkeyOf_keys],
      AllWs.nil, qdkeyOf_wf _ _ k AllWs.nil AllWs.nil h, AllWs.nil, TomlVerif.Lemmas.SoundDoc01.commentOK_none⟩

theorem qdocOf_stmts (ds : List DStmt) (h : synOk ds = true) : ∀ ss, stmtsOf ds = some ss →
    (qdocOf ds).stmts = ss ∧ (qdocOf ds).WF := by
  induction ds with
  | nil =>
    intro ss hs
    simp only [stmtsOf] at hs
    injection hs with hs; subst hs
    refine ⟨rfl, ?_, ?_⟩
    · intro p hp; simp [qdocOf] at hp
    · intro l hl; simp [qdocOf] at hl
  | cons s r ih =>
    intro ss hs
    simp only [synOk, List.all_cons, Bool.and_eq_true] at h
    simp only [stmtsOf] at hs
    cases hx : stmtOf s with
    | none => simp [hx] at hs
    | some x =>
      cases hr : stmtsOf r with
      | none => simp [hx, hr] at hs
      | some xs =>
        simp only [hx, hr] at hs
        injection hs with hs; subst hs
        obtain ⟨l1, l2⟩ := qlineOf_stmt s h.1 x hx
        obtain ⟨r1, r2⟩ := ih h.2 xs hr
        refine ⟨?_, ?_, ?_⟩
        · simp only [qdocOf, QDoc.stmts, stmtsLastQ, List.append_nil, List.map_cons, stmtsLinesQ, l1] at r1 ⊢
          rw [r1]
        · intro p hp
          simp only [qdocOf, List.map_cons, List.mem_cons] at hp
          rcases hp with rfl | hp
          · exact l2
          · exact r2.1 p hp
        · intro l hl; simp [qdocOf] at hl

theorem stmtsOfText_textOf (ds : List DStmt) (h : synOk ds = true) (ss : List Stmt) (hs : stmtsOf ds = some ss) :
    TomlVerif.Lemmas.SoundDoc01U.stmtsOfText (textOf ds) = some ss := by
  obtain ⟨h1, h2⟩ := qdocOf_stmts ds h ss hs
  exact (TomlVerif.Lemmas.SoundDoc01U.stmtsOfText_iff _ _).2 ⟨qdocOf ds, h2, qdocOf_render ds, h1⟩

end TomlVerif.Lemmas.Macro19c
