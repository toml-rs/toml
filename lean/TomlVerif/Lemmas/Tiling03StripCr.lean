import TomlVerif.Lemmas.CstInduct
import TomlVerif.Lemmas.Tiling03Eol
import TomlVerif.Lemmas.Tiling03ValueClasses
/-! Printer-side relation between the real printer (`f = stripCr`) and the verbatim concatenation
    (`f = id`): the former is the latter with some CR bytes deleted (`DropCr`). No parser involved;
    structural induction over the printer of `Model/Encode.lean`. -/
namespace TomlVerif.Lemmas.Tiling03Hdr
open TomlVerif TomlVerif.Model TomlVerif.Model.Cst TomlVerif.Model.Encode TomlVerif.Lemmas.Cst03
open TomlVerif.Lemmas.Tiling03

theorem encRaw_dropCr (inp : Bytes) (r : Raw) :
    DropCr (encRaw stripCr inp r) (encRaw id inp r) := by
  simp only [encRaw, id]; exact DropCr.stripCr _

theorem prefixEncode_dropCr (inp : Bytes) (d : Decor) (dflt : Bytes) :
    DropCr (prefixEncode stripCr inp d dflt) (prefixEncode id inp d dflt) := by
  unfold prefixEncode
  cases d.pre with
  | none => exact DropCr.refl _
  | some r => exact encRaw_dropCr inp r

theorem suffixEncode_dropCr (inp : Bytes) (d : Decor) (dflt : Bytes) :
    DropCr (suffixEncode stripCr inp d dflt) (suffixEncode id inp d dflt) := by
  unfold suffixEncode
  cases d.suf with
  | none => exact DropCr.refl _
  | some r => exact encRaw_dropCr inp r

theorem encodeKeyPathAux_dropCr (inp : Bytes) (leaf : Decor) (dp ds : Bytes) :
    ∀ (ks : List CKey) (first : Bool),
      DropCr (encodeKeyPathAux stripCr inp leaf dp ds first ks)
             (encodeKeyPathAux id inp leaf dp ds first ks)
  | [], first => by simp only [encodeKeyPathAux]; exact DropCr.nil
  | k :: rest, first => by
    simp only [encodeKeyPathAux]
    refine DropCr.append (DropCr.append (DropCr.append ?_ (DropCr.refl _)) ?_)
      (encodeKeyPathAux_dropCr inp leaf dp ds rest false)
    · cases first
      · exact DropCr.append (DropCr.refl _) (prefixEncode_dropCr inp _ _)
      · exact prefixEncode_dropCr inp _ _
    · cases rest.isEmpty
      · exact suffixEncode_dropCr inp _ _
      · exact suffixEncode_dropCr inp _ _

theorem encodeKeyPath_dropCr (inp : Bytes) (ks : List CKey) (dp ds : Bytes) :
    DropCr (encodeKeyPath stripCr inp ks dp ds) (encodeKeyPath id inp ks dp ds) := by
  unfold encodeKeyPath
  cases ks.getLast? with
  | none => exact DropCr.nil
  | some l => exact encodeKeyPathAux_dropCr inp l.leaf dp ds ks true

private theorem inlEntry_dropCr (inp : Bytes) (i len : Nat) (kp : List CKey) (v : CVal)
    (hv : ∀ dp ds, DropCr (encodeValue stripCr inp v dp ds) (encodeValue id inp v dp ds)) :
    DropCr
      ((if i != 0 then [0x2C] else []) ++ encodeKeyPath stripCr inp kp [0x20] [0x20] ++ [0x3D]
        ++ encodeValue stripCr inp v [0x20] (if i + 1 == len then [0x20] else []))
      ((if i != 0 then [0x2C] else []) ++ encodeKeyPath id inp kp [0x20] [0x20] ++ [0x3D]
        ++ encodeValue id inp v [0x20] (if i + 1 == len then [0x20] else [])) :=
  DropCr.append (DropCr.append (DropCr.append (DropCr.refl _) (encodeKeyPath_dropCr inp kp _ _))
    (DropCr.refl _)) (hv _ _)

theorem encode_dropCr (inp : Bytes) :
    (∀ (v : CVal) (dp ds : Bytes), DropCr (encodeValue stripCr inp v dp ds) (encodeValue id inp v dp ds)) ∧
    (∀ (l : List CVal) (first : Bool), DropCr (encodeElems stripCr inp l first) (encodeElems id inp l first)) ∧
    (∀ (l : List (CKey × CVal)) (parent : List CKey) (i len : Nat),
      (encodeInl stripCr inp l parent i len).2 = (encodeInl id inp l parent i len).2 ∧
      DropCr (encodeInl stripCr inp l parent i len).1 (encodeInl id inp l parent i len).1) := by
  refine cval_induct ?_ ?_ ?_ ?_ ?_ ?_ ?_
  · intro _ repr decor dp ds
    simp only [encodeValue]
    exact DropCr.append (DropCr.append (prefixEncode_dropCr inp _ _) (DropCr.refl _))
      (suffixEncode_dropCr inp _ _)
  · intro items trailing comma decor _ hitems dp ds
    simp only [encodeValue]
    exact DropCr.append (DropCr.append (DropCr.append (DropCr.append (DropCr.append (DropCr.append
      (prefixEncode_dropCr inp _ _) (DropCr.refl _)) (hitems true))
      (DropCr.refl _)) (encRaw_dropCr inp _)) (DropCr.refl _)) (suffixEncode_dropCr inp _ _)
  · intro items preamble _ _ decor _ hitems dp ds
    simp only [encodeValue]
    exact DropCr.append (DropCr.append (DropCr.append (DropCr.append (DropCr.append
      (prefixEncode_dropCr inp _ _) (DropCr.refl _)) (encRaw_dropCr inp _))
      (hitems [] 0 (countInl items)).2) (DropCr.refl _))
      (suffixEncode_dropCr inp _ _)
  · intro _
    simp only [encodeElems]; exact DropCr.nil
  · intro v r hv hr first
    simp only [encodeElems]
    refine DropCr.append ?_ (hr false)
    cases first
    · exact DropCr.append (DropCr.refl _) (hv _ _)
    · exact hv _ _
  · intro _ i _
    rw [encodeInl, encodeInl]; exact ⟨rfl, DropCr.nil⟩
  · intro k v r hv hsub hr parent i len
    by_cases hu : undotted v = true
    · have h2 := hr parent (i + 1) len
      rw [encodeInl_cons_undotted _ inp k v hu, encodeInl_cons_undotted _ inp k v hu]
      exact ⟨h2.1, DropCr.append (inlEntry_dropCr inp i len _ _ hv) h2.2⟩
    · cases v with
      | scalar a b c => exact absurd rfl hu
      | arr a b c d e => exact absurd rfl hu
      | inl sub pre imp dot dec sp =>
        have hdot : dot = true := by cases dot <;> simp [undotted] at hu ⊢
        subst hdot
        have h1 := hsub sub pre imp true dec sp rfl (parent ++ [k]) i len
        have h2 := hr parent (encodeInl id inp sub (parent ++ [k]) i len).2 len
        rw [encodeInl_cons_dotted, encodeInl_cons_dotted, h1.1]
        exact ⟨h2.1, DropCr.append h1.2 h2.2⟩

theorem encodeValue_dropCr (inp : Bytes) : ∀ (v : CVal) (dp ds : Bytes),
    DropCr (encodeValue stripCr inp v dp ds) (encodeValue id inp v dp ds) :=
  (encode_dropCr inp).1

theorem encodeElems_dropCr (inp : Bytes) : ∀ (l : List CVal) (first : Bool),
    DropCr (encodeElems stripCr inp l first) (encodeElems id inp l first) :=
  (encode_dropCr inp).2.1

theorem encodeInl_dropCr (inp : Bytes) : ∀ (l : List (CKey × CVal)) (parent : List CKey) (i len : Nat),
    (encodeInl stripCr inp l parent i len).2 = (encodeInl id inp l parent i len).2 ∧
    DropCr (encodeInl stripCr inp l parent i len).1 (encodeInl id inp l parent i len).1 :=
  (encode_dropCr inp).2.2

theorem encodeBody_dropCr (inp : Bytes) : ∀ (l : List (List CKey × CVal)),
    DropCr (encodeBody stripCr inp l) (encodeBody id inp l)
  | [] => by simp only [encodeBody]; exact DropCr.nil
  | (kp, v) :: r => by
    simp only [encodeBody]
    exact DropCr.append (DropCr.append (DropCr.append (DropCr.append
      (encodeKeyPath_dropCr inp kp _ _) (DropCr.refl _)) (encodeValue_dropCr inp v _ _))
      (DropCr.refl _)) (encodeBody_dropCr inp r)

/-- `[[t]]` and a visible `[t]` write the same concatenation (`hdr`); the root and a hidden implicit
    table write no header -/
theorem visitTable_dropCr (inp : Bytes) (e : Entry) (ft : Bool) :
    (visitTable stripCr inp e ft).2 = (visitTable id inp e ft).2 ∧
    DropCr (visitTable stripCr inp e ft).1 (visitTable id inp e ft).1 := by
  have hdr : ∀ (open_ close : Bytes),
      DropCr (prefixEncode stripCr inp e.tbl.decor (if ft then [] else [0x0A]) ++ open_
          ++ encodeKeyPath stripCr inp e.path [] [] ++ close ++ suffixEncode stripCr inp e.tbl.decor [] ++ [0x0A])
        (prefixEncode id inp e.tbl.decor (if ft then [] else [0x0A]) ++ open_
          ++ encodeKeyPath id inp e.path [] [] ++ close ++ suffixEncode id inp e.tbl.decor [] ++ [0x0A]) :=
    fun _ _ => DropCr.append (DropCr.append (DropCr.append (DropCr.append (DropCr.append
      (prefixEncode_dropCr inp _ _) (DropCr.refl _)) (encodeKeyPath_dropCr inp _ _ _))
      (DropCr.refl _)) (suffixEncode_dropCr inp _ _)) (DropCr.refl _)
  have body := encodeBody_dropCr inp (valuesTbl e.tbl.items [])
  simp only [visitTable]
  by_cases hroot : e.path.isEmpty = true
  · simp only [if_pos hroot]
    exact ⟨trivial, DropCr.append DropCr.nil body⟩
  simp only [if_neg hroot]
  by_cases harr : e.isArr = true
  · simp only [if_pos harr]
    exact ⟨trivial, DropCr.append (hdr _ _) body⟩
  simp only [if_neg harr]
  by_cases hvis : (!(e.tbl.implicit && (valuesTbl e.tbl.items []).isEmpty)) = true
  · simp only [if_pos hvis]
    exact ⟨trivial, DropCr.append (hdr _ _) body⟩
  · simp only [if_neg hvis]
    exact ⟨trivial, DropCr.append DropCr.nil body⟩

theorem visitTables_dropCr (inp : Bytes) : ∀ (l : List Entry) (ft : Bool),
    DropCr (visitTables stripCr inp l ft) (visitTables id inp l ft)
  | [], _ => by simp only [visitTables]; exact DropCr.nil
  | e :: r, ft => by
    simp only [visitTables]
    rw [(visitTable_dropCr inp e ft).1]
    exact DropCr.append (visitTable_dropCr inp e ft).2 (visitTables_dropCr inp r _)

theorem printDocG_dropCr (inp : Bytes) (d : CDoc) :
    DropCr (printDocG stripCr inp d) (printDocG id inp d) := by
  simp only [printDocG]
  exact DropCr.append (DropCr.append (DropCr.append (prefixEncode_dropCr inp _ _)
    (visitTables_dropCr inp _ true)) (suffixEncode_dropCr inp _ _)) (encRaw_dropCr inp _)

end TomlVerif.Lemmas.Tiling03Hdr
