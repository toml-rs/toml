import TomlVerif.Lemmas.ValueParse
import TomlVerif.Lemmas.TokenDatetime
import TomlVerif.Lemmas.TokenNumbers
import TomlVerif.Props.C02Strings
/-! What the token parsers of the model consume. `Adv r s`: the rest `r` is a strict suffix of the
    input `s`. `LastNe r s`: moreover the consumed text does not end in a line feed. Strings,
    numbers and date-times have `X_last`, and the strict-suffix fact read off it (`X_suffix`, stated
    with `Adv` spelled out); keywords have both, each from `keyword_eq`; keys, dotted keys and
    escapes have `X_adv` only, the helpers that may consume nothing or a line feed a suffix fact.
    For whole values the order is the reverse: `value_adv` first, by the induction over parses, and
    `value_lastNe` from it. Hence the two namespaces `Suffix03` and `LastByte03` alternate. -/
namespace TomlVerif.Lemmas.Suffix03
open TomlVerif TomlVerif.Spec TomlVerif.Model TomlVerif.Lemmas.ValueParse

def Adv (r s : Bytes) : Prop := r <:+ s ∧ r.length < s.length

theorem Adv.suffix {r s : Bytes} (h : Adv r s) : r <:+ s := h.1

theorem Adv.length_lt {r s : Bytes} (h : Adv r s) : r.length < s.length := h.2

theorem adv_tail (b : UInt8) (s : Bytes) : Adv s (b :: s) := ⟨List.suffix_cons b s, Nat.lt_succ_self _⟩

theorem Adv.trans_suffix {a b c : Bytes} (h1 : Adv a b) (h2 : b <:+ c) : Adv a c := by
  refine ⟨h1.suffix.trans h2, ?_⟩
  have := h2.length_le
  have := h1.length_lt
  omega

theorem suffix_trans_adv {a b c : Bytes} (h1 : a <:+ b) (h2 : Adv b c) : Adv a c := by
  refine ⟨h1.trans h2.suffix, ?_⟩
  have := h1.length_le
  have := h2.length_lt
  omega

theorem adv_cons {r s : Bytes} (b : UInt8) (h : r <:+ s) : Adv r (b :: s) := suffix_trans_adv h (adv_tail b s)

theorem Adv.trans {a b c : Bytes} (h1 : Adv a b) (h2 : Adv b c) : Adv a c :=
  h1.trans_suffix h2.suffix

theorem newline?_adv {s r : Bytes} (h : Strings.newline? s = some r) : Adv r s := by
  unfold Strings.newline? at h
  split at h
  · injection h with h; subst h; exact adv_tail _ _
  · injection h with h; subst h; exact (adv_tail _ _).trans (adv_tail _ _)
  · cases h

theorem newline?_suffix {s r : Bytes} (h : Strings.newline? s = some r) : r <:+ s :=
  (newline?_adv h).suffix

theorem dropComment_eq (s : Bytes) : Value.dropComment s = s.dropWhile isNonEol := by
  induction s with
  | nil => rfl
  | cons b r ih => unfold Value.dropComment; rw [List.dropWhile_cons, ih]

theorem dropComment_suffix (s : Bytes) : Value.dropComment s <:+ s :=
  dropComment_eq s ▸ List.dropWhile_suffix _

theorem dropWs_suffix (s : Bytes) : Strings.dropWs s <:+ s :=
  S02.dropWs_eq s ▸ List.dropWhile_suffix _

theorem dropWsNewline_suffix (fuel : Nat) (s : Bytes) : Strings.dropWsNewline fuel s <:+ s := by
  induction fuel generalizing s with
  | zero => unfold Strings.dropWsNewline; exact List.suffix_refl _
  | succ n ih =>
    unfold Strings.dropWsNewline
    split
    · exact List.suffix_refl _
    · rename_i b r
      split
      · exact (ih r).trans (List.suffix_cons b r)
      · split
        · rename_i r' hnl
          exact (ih r').trans (newline?_suffix hnl)
        · exact List.suffix_refl _

theorem escapeSeqChar_adv (s c r : Bytes) (h : Strings.escapeSeqChar s = .ok c r) : Adv r s := by
  obtain ⟨e, _, rfl, _⟩ := S02.escapeSeqChar_inv s c r h
  refine ⟨List.suffix_append _ _, ?_⟩
  have := S02.escaped_tail_length_pos e
  simp only [List.length_append]
  omega

theorem takeUnquoted_suffix (s : Bytes) : (Key.takeUnquoted s).2 <:+ s := by
  rw [S02.takeUnquoted_eq]; exact List.dropWhile_suffix _

theorem takeUnquoted_length (s : Bytes) :
    (Key.takeUnquoted s).1.length + (Key.takeUnquoted s).2.length = s.length := by
  rw [S02.takeUnquoted_eq, ← List.length_append, List.takeWhile_append_dropWhile]

theorem unquotedKey_adv (s k r : Bytes) (h : Key.unquotedKey s = .ok k r) : Adv r s := by
  unfold Key.unquotedKey at h
  have h1 := takeUnquoted_suffix s
  have h2 := takeUnquoted_length s
  split at h
  · cases h
  · rename_i k' r' hne ht
    injection h with e1 e2; subst e1; subst e2
    rw [ht] at h1 h2
    refine ⟨h1, ?_⟩
    cases k' with
    | nil => exact absurd rfl hne
    | cons x xs => simp only [List.length_cons] at h2; omega

theorem startsWith_eq (p s r : Bytes) (h : Numbers.startsWith p s = some r) : s = p ++ r := by
  unfold Numbers.startsWith at h
  split at h
  · rename_i ht
    injection h with h; subst h
    have ht' : s.take p.length = p := by simpa using ht
    have := List.take_append_drop p.length s
    rw [ht'] at this
    exact this.symm
  · cases h

theorem keyword_eq (kw s r : Bytes) (h : Numbers.keyword kw s = .ok () r) : kw ≠ [] ∧ s = kw ++ r := by
  unfold Numbers.keyword at h
  split at h
  · split at h
    · split at h
      · rename_i r' hs
        injection h with h1 h2; subst h2
        exact ⟨by simp, startsWith_eq _ _ _ hs⟩
      · cases h
    · cases h
  · cases h

theorem keyword_suffix (kw s r : Bytes) (h : Numbers.keyword kw s = .ok () r) :
    r <:+ s ∧ r.length < s.length := by
  obtain ⟨hne, rfl⟩ := keyword_eq kw s r h
  refine ⟨List.suffix_append _ _, ?_⟩
  have := List.length_pos_iff.mpr hne
  simp only [List.length_append]
  omega

end TomlVerif.Lemmas.Suffix03

namespace TomlVerif.Lemmas.LastByte03
open TomlVerif TomlVerif.Spec TomlVerif.Model TomlVerif.Lemmas.Suffix03 TomlVerif.Lemmas.ValueParse
open TomlVerif.Lemmas.Numbers11 (GoodGroups joinU joinU_text signBytes fracBytes integer_inv floatLit_inv)

def LastNe (r s : Bytes) : Prop := ∃ (t : Bytes) (b : UInt8), s = t ++ b :: r ∧ b ≠ 0x0A

def OrEq (r s : Bytes) : Prop := r = s ∨ LastNe r s

theorem lastNe_tail {b : UInt8} (s : Bytes) (hb : b ≠ 0x0A) : LastNe s (b :: s) :=
  ⟨[], b, rfl, hb⟩

theorem LastNe.adv {r s : Bytes} (h : LastNe r s) : Adv r s := by
  obtain ⟨t, b, e, _⟩ := h
  refine ⟨⟨t ++ [b], by rw [e]; simp⟩, ?_⟩
  rw [e, List.length_append, List.length_cons]
  omega

theorem LastNe.trans_suffix {a b c : Bytes} (h1 : LastNe a b) (h2 : b <:+ c) : LastNe a c := by
  obtain ⟨t, x, e, hx⟩ := h1
  obtain ⟨u, hu⟩ := h2
  refine ⟨u ++ t, x, ?_, hx⟩
  rw [← hu, e, List.append_assoc]

theorem LastNe.cons {a b : Bytes} (h : LastNe a b) (x : UInt8) : LastNe a (x :: b) :=
  h.trans_suffix (List.suffix_cons x b)

theorem LastNe.suffix {a b : Bytes} (h : LastNe a b) : a <:+ b := h.adv.suffix

theorem LastNe.trans {a b c : Bytes} (h1 : LastNe a b) (h2 : LastNe b c) : LastNe a c :=
  h1.trans_suffix h2.suffix

theorem OrEq.trans_lastNe {a b c : Bytes} (h1 : OrEq a b) (h2 : LastNe b c) : LastNe a c := by
  cases h1 with
  | inl e => subst e; exact h2
  | inr h => exact h.trans h2

theorem OrEq.cons {a b : Bytes} (h : OrEq a b) {x : UInt8} (hx : x ≠ 0x0A) : LastNe a (x :: b) :=
  h.trans_lastNe (lastNe_tail b hx)

theorem LastNe.getLast {r s t : Bytes} (h : LastNe r s) (hs : s = t ++ r) :
    t.getLast? ≠ some 0x0A := by
  obtain ⟨u, x, e, hx⟩ := h
  have e2 : t ++ r = (u ++ [x]) ++ r := by rw [← hs, e]; simp
  have e3 : t = u ++ [x] := List.append_cancel_right e2
  subst e3
  simp only [List.getLast?_append, List.getLast?_singleton]
  intro hc
  simp at hc
  exact hx hc

theorem digit_ne_lf {b : UInt8} (h : isDigit b = true) : b ≠ 0x0A := ne_of_class h (by decide)

/-- enough for `string_last`: the parsers accept only renderings of the grammar (`T02_string_sound`) -/
theorem stringAst_render_last (a : AstString.StringAst) : ∃ t q, a.render = t ++ [q] ∧ q ≠ 0x0A := by
  cases a with
  | basic cs => exact ⟨0x22 :: cs.flatMap AstString.BasicChar.render, 0x22, rfl, by decide⟩
  | literal bs => exact ⟨0x27 :: bs, 0x27, rfl, by decide⟩
  | mlBasic a =>
    exact ⟨0x22 :: 0x22 :: 0x22 :: (AstString.firstNlBytes a.firstNl ++ (a.items.flatMap AstString.MlbItem.render ++ [0x22, 0x22])),
      0x22, by simp [AstString.StringAst.render, AstString.MlBasic.render], by decide⟩
  | mlLiteral a =>
    exact ⟨0x27 :: 0x27 :: 0x27 :: (AstString.firstNlBytes a.firstNl ++ (a.items.flatMap AstString.MllItem.render ++ [0x27, 0x27])),
      0x27, by simp [AstString.StringAst.render, AstString.MlLiteral.render], by decide⟩

theorem lastNe_render (a : AstString.StringAst) (r : Bytes) : LastNe r (a.render ++ r) := by
  obtain ⟨t, q, e, hq⟩ := stringAst_render_last a
  exact ⟨t, q, by rw [e]; simp, hq⟩

theorem string_last (s v r : Bytes) (h : Strings.string s = .ok v r) : LastNe r s := by
  obtain ⟨a, _, _, rfl, _⟩ := Props.C02Strings.T02_string_sound s v r h
  exact lastNe_render a r

theorem basicString_last (s v r : Bytes) (h : Strings.basicString s = .ok v r) : LastNe r s := by
  obtain ⟨cs, _, rfl, _⟩ := Props.C02Strings.T02_basic_sound s v r h
  exact lastNe_render (.basic cs) r

theorem literalString_last (s v r : Bytes) (h : Strings.literalString s = .ok v r) : LastNe r s := by
  obtain ⟨_, rfl⟩ := Props.C02Strings.T02_literal_sound s v r h
  exact lastNe_render (.literal v) r

theorem startsWith_last (p : Bytes) (b : UInt8) (s r : Bytes) (hb : b ≠ 0x0A)
    (h : Numbers.startsWith (p ++ [b]) s = some r) : LastNe r s := by
  refine ⟨p, b, ?_, hb⟩
  rw [startsWith_eq _ _ _ h]; simp

theorem keyword_last (p : Bytes) (b : UInt8) (s r : Bytes) (hb : b ≠ 0x0A)
    (h : Numbers.keyword (p ++ [b]) s = .ok () r) : LastNe r s :=
  ⟨p, b, by rw [(keyword_eq _ s r h).2]; simp, hb⟩

theorem lastNe_joinU {isD : Byte → Bool} (hD : ∀ b, isD b = true → b ≠ 0x0A) {groups : List Bytes}
    (hg : GoodGroups isD groups) (pre rest : Bytes) : LastNe rest (pre ++ joinU groups ++ rest) := by
  obtain ⟨_, t, b, e, hb⟩ := joinU_text hg
  exact ⟨pre ++ t, b, by simp [e], hD b hb⟩

theorem integer_last (s r : Bytes) (n : Int) (h : Numbers.integer s = .ok n r) : LastNe r s := by
  rcases (integer_inv s r n h).2 with ⟨c, isD, base, groups, hR, hg, rfl, _, _⟩ | ⟨sign, groups, hg, _, rfl, _, _⟩
  · have hD : ∀ b, isD b = true → b ≠ 0x0A := by
      rcases hR with ⟨_, rfl, _⟩ | ⟨_, rfl, _⟩ | ⟨_, rfl, _⟩
      all_goals exact fun _ h => ne_of_class h (by decide)
    exact lastNe_joinU hD hg [0x30, c] r
  · exact lastNe_joinU (fun _ => digit_ne_lf) hg (signBytes sign) r

theorem floatLit_last (s r : Bytes) (l : Numbers.FloatLit) (h : Numbers.floatLit s = .ok l r) :
    LastNe r s := by
  obtain ⟨sign, ig, _, _, ⟨fg, hf, _, rfl, _⟩ | ⟨frac, e, esign, eg, _, _, he, _, rfl, _⟩⟩ := floatLit_inv s r l h
  · have := lastNe_joinU (fun _ => digit_ne_lf) hf (signBytes sign ++ joinU ig ++ [0x2E]) r
    simpa only [List.append_assoc, List.cons_append, List.nil_append] using this
  · have := lastNe_joinU (fun _ => digit_ne_lf) he
      (signBytes sign ++ joinU ig ++ (fracBytes frac ++ e :: signBytes esign)) r
    simpa only [List.append_assoc, List.cons_append] using this

theorem specialFloat_last (s r : Bytes) (b : Nat) (h : Numbers.specialFloat s = .ok b r) :
    LastNe r s := by
  unfold Numbers.specialFloat at h
  split at h
  rename_i neg t hs
  have hs' : t <:+ s := by
    split at hs
    · injection hs with _ hs; subst hs; exact List.suffix_cons _ _
    · injection hs with _ hs; subst hs; exact List.suffix_cons _ _
    · injection hs with _ hs; subst hs; exact List.suffix_refl _
  simp only [] at h
  split at h
  · rename_i t' hw
    injection h with h1 h2; subst h2
    exact (startsWith_last [0x69, 0x6E] 0x66 _ _ (by decide) hw).trans_suffix hs'
  · split at h
    · rename_i t' hw
      injection h with h1 h2; subst h2
      exact (startsWith_last [0x6E, 0x61] 0x6E _ _ (by decide) hw).trans_suffix hs'
    · cases h

theorem float_last (s r : Bytes) (b : Nat) (h : Numbers.float s = .ok b r) : LastNe r s := by
  unfold Numbers.float at h
  split at h
  · rename_i l rest hl
    simp only [] at h
    split at h
    · cases h
    · injection h with h1 h2; subst h2
      exact floatLit_last _ _ _ hl
  · cases h
  · exact specialFloat_last _ _ _ h

theorem digits2_last (s r : Bytes) (v : Nat) (h : Datetime.digits2 s = some (v, r)) : LastNe r s := by
  unfold Datetime.digits2 at h
  split at h
  · split at h
    · rename_i hd
      injection h with h; injection h with h1 h2; subst h2
      exact (lastNe_tail _ (digit_ne_lf (Bool.and_eq_true_iff.mp hd).2)).cons _
    · cases h
  · cases h

theorem digits4_last (s r : Bytes) (v : Nat) (h : Datetime.digits4 s = some (v, r)) : LastNe r s := by
  unfold Datetime.digits4 at h
  split at h
  · split at h
    · rename_i hd
      injection h with h; injection h with h1 h2; subst h2
      exact (((lastNe_tail _ (digit_ne_lf (Bool.and_eq_true_iff.mp hd).2)).cons _).cons _).cons _
    · cases h
  · cases h

theorem takeDigits_orEq (s : Bytes) : OrEq (Datetime.takeDigits s).2 s := by
  induction s with
  | nil => exact Or.inl rfl
  | cons b t ih =>
    unfold Datetime.takeDigits
    split
    · rename_i hb
      exact Or.inr (ih.cons (digit_ne_lf hb))
    · exact Or.inl rfl

theorem takeDigits_last (s : Bytes) (h : (Datetime.takeDigits s).1 ≠ []) :
    LastNe (Datetime.takeDigits s).2 s := by
  cases s with
  | nil => exact absurd rfl h
  | cons b t =>
    unfold Datetime.takeDigits at h ⊢
    split
    · rename_i hb
      exact (takeDigits_orEq t).cons (digit_ne_lf hb)
    · rename_i hb
      rw [if_neg hb] at h
      exact absurd rfl h

theorem secfracOpt_orEq (s : Bytes) : OrEq (Datetime.Doc.secfracOpt s).2 s := by
  unfold Datetime.Doc.secfracOpt
  split
  · rename_i t
    split
    · exact Or.inl rfl
    · rename_i ds t' hne ht
      have := takeDigits_last t (by
        rw [ht]
        intro e
        exact hne e)
      rw [ht] at this
      exact Or.inr (this.cons _)
  · exact Or.inl rfl

theorem fullDate_last (s r : Bytes) (d : Datetime.Date) (h : Datetime.Doc.fullDate s = .ok d r) :
    LastNe r s := by
  obtain ⟨r1, r2, h4, hm, hd, _⟩ := (Datetime12.fullDate_ok_iff s r d).1 h
  exact ((((digits2_last _ _ _ hd).cons _).trans (digits2_last _ _ _ hm)).cons _).trans (digits4_last _ _ _ h4)

theorem partialTime_last (s r : Bytes) (t : Datetime.Time) (h : Datetime.Doc.partialTime s = .ok t r) :
    LastNe r s := by
  obtain ⟨r1, r2, r3, hh, hm, hs, hf, _⟩ := (Datetime12.partialTime_ok_iff s r t).1 h
  have hf' : OrEq r r3 := by have := secfracOpt_orEq r3; rwa [hf] at this
  exact ((((hf'.trans_lastNe (digits2_last _ _ _ hs)).cons _).trans (digits2_last _ _ _ hm)).cons _).trans
    (digits2_last _ _ _ hh)

theorem timeOffset_last (s r : Bytes) (o : Datetime.Offset) (h : Datetime.Doc.timeOffset s = .ok o r) :
    LastNe r s := by
  rcases (Datetime12.timeOffset_ok_text s r o).1 h with ⟨c, hc, rfl, _⟩ | ⟨c, hh, mm, _, _, hm, rfl, _⟩
  · refine lastNe_tail _ ?_
    rcases hc with rfl | rfl <;> decide
  · -- the minutes are the last two digits
    have := digits2_last _ r mm ((Datetime12.digits2_iff _ _ _).2 ⟨by omega, rfl⟩)
    exact (this.trans_suffix ((List.suffix_cons _ _).trans (List.suffix_append _ _))).cons c

theorem dateTime_last (s r : Bytes) (d : Datetime.Datetime) (h : Datetime.Doc.dateTime s = .ok d r) :
    LastNe r s := by
  cases Datetime12.dateTime_ok h with
  | date hd _ => exact fullDate_last _ _ _ hd
  | dateTime hd _ ht _ => exact ((partialTime_last _ _ _ ht).cons _).trans (fullDate_last _ _ _ hd)
  | offset hd _ ht ho =>
    exact (((timeOffset_last _ _ _ ho).trans (partialTime_last _ _ _ ht)).cons _).trans (fullDate_last _ _ _ hd)
  | time _ ht => exact partialTime_last _ _ _ ht

theorem scalarParse_lastNe {s r : Bytes} {v : Val} (h : ScalarParse s v r) : LastNe r s := by
  cases h with
  | str _ h => exact string_last _ _ _ h
  | dt _ h => exact dateTime_last _ _ _ h
  | float _ _ h => exact float_last _ _ _ h
  | int _ _ _ h => exact integer_last _ _ _ h
  | tt h => exact keyword_last [0x74, 0x72, 0x75] 0x65 _ _ (by decide) h
  | ff h => exact keyword_last [0x66, 0x61, 0x6C, 0x73] 0x65 _ _ (by decide) h
  | inf h => exact startsWith_last [0x69, 0x6E] 0x66 _ _ (by decide) h
  | nan h => exact startsWith_last [0x6E, 0x61] 0x6E _ _ (by decide) h

end TomlVerif.Lemmas.LastByte03

namespace TomlVerif.Lemmas.Suffix03
open TomlVerif TomlVerif.Spec TomlVerif.Model TomlVerif.Lemmas.ValueParse

theorem string_suffix (s r : Bytes) (v : Bytes) (h : Strings.string s = .ok v r) :
    r <:+ s ∧ r.length < s.length := (LastByte03.string_last s v r h).adv

theorem simpleKey_adv (s k r : Bytes) (h : Key.simpleKey s = .ok k r) : Adv r s := by
  unfold Key.simpleKey at h
  split at h
  · cases h
  · split at h
    · exact (LastByte03.basicString_last _ _ _ h).adv
    · split at h
      · exact (LastByte03.literalString_last _ _ _ h).adv
      · exact unquotedKey_adv _ _ _ h

theorem integer_suffix (s r : Bytes) (n : Int) (h : Numbers.integer s = .ok n r) :
    r <:+ s ∧ r.length < s.length := (LastByte03.integer_last s r n h).adv

theorem float_suffix (s r : Bytes) (b : Nat) (h : Numbers.float s = .ok b r) :
    r <:+ s ∧ r.length < s.length := (LastByte03.float_last s r b h).adv

theorem dateTime_suffix (s r : Bytes) (d : Datetime.Datetime) (h : Datetime.Doc.dateTime s = .ok d r) :
    r <:+ s ∧ r.length < s.length := (LastByte03.dateTime_last s r d h).adv

theorem keyPathAux_ok : ∀ (f : Nat) (s : Bytes) (acc ks : List Bytes) (r : Bytes),
    Value.keyPathAux f s acc = .ok ks r → Adv r s ∧ ks ≠ [] := by
  intro f
  induction f with
  | zero => intro s acc ks r h; unfold Value.keyPathAux at h; cases h
  | succ g ih =>
    intro s acc ks r h
    unfold Value.keyPathAux at h
    cases hk : Key.simpleKey (Strings.dropWs s) with
    | bt => rw [hk] at h; cases h
    | cut => rw [hk] at h; cases h
    | ok k r0 =>
      rw [hk] at h
      simp only [] at h
      have first : Adv (Strings.dropWs r0) s :=
        suffix_trans_adv (dropWs_suffix r0) ((simpleKey_adv _ _ _ hk).trans_suffix (dropWs_suffix s))
      have one : acc ++ [k] ≠ [] := by simp
      split at h
      · rename_i r2 heq
        cases hr : Value.keyPathAux g r2 (acc ++ [k]) with
        | bt => rw [hr] at h; injection h with h1 h2; subst h1 h2; exact ⟨first, one⟩
        | cut => rw [hr] at h; cases h
        | ok ks' r' =>
          rw [hr] at h; injection h with h1 h2; subst h1 h2
          obtain ⟨a, n⟩ := ih _ _ _ _ hr
          exact ⟨(a.trans (adv_tail _ _)).trans (heq ▸ first), n⟩
      · injection h with h1 h2; subst h1 h2; exact ⟨first, one⟩

theorem keyPath_ok {s : Bytes} {ks : List Bytes} {r : Bytes} (h : Value.keyPath s = .ok ks r) :
    Adv r s ∧ ks ≠ [] ∧ ks.length < Value.LIMIT := by
  unfold Value.keyPath at h
  cases hk : Value.keyPathAux (s.length + 1) s [] with
  | bt => rw [hk] at h; cases h
  | cut => rw [hk] at h; cases h
  | ok ks' r' =>
    rw [hk] at h
    simp only [] at h
    split at h
    · cases h
    · rename_i hl
      injection h with h1 h2; subst h1 h2
      exact ⟨(keyPathAux_ok _ _ _ _ _ hk).1, (keyPathAux_ok _ _ _ _ _ hk).2, by omega⟩

theorem wcn_suffix : ∀ (fuel : Nat) (s r : Bytes), Value.wsCommentNewline fuel s = some r → r <:+ s := by
  intro fuel
  induction fuel with
  | zero => intro s r h; unfold Value.wsCommentNewline at h; injection h with h; subst h; exact List.suffix_refl _
  | succ g ih =>
    intro s r h
    unfold Value.wsCommentNewline at h
    simp only [] at h
    have hs1 := dropWs_suffix s
    split at h
    · injection h with h; subst h; exact hs1
    · rename_i b t heq
      rw [heq] at hs1
      split at h
      · split at h
        · rename_i r' hn
          exact (ih _ _ h).trans ((newline?_suffix hn).trans
            ((dropComment_suffix t).trans ((List.suffix_cons b t).trans hs1)))
        · cases h
      · split at h
        · split at h
          · rename_i r' hn
            exact (ih _ _ h).trans ((newline?_suffix hn).trans (heq ▸ hs1))
          · cases h
        · injection h with h; subst h; exact heq ▸ hs1

theorem parse_adv : ∀ f,
    (∀ d s v r, Value.value f d s = .ok v r → Adv r s) ∧
    (∀ d s vs r, Value.arrayValues f d s = .ok vs r → r <:+ s) ∧
    (∀ d s acc vs r, Value.arrayElems f d s acc = .ok vs r → r <:+ s) ∧
    (∀ d s acc kvs r, Value.inlineKeyvals f d s acc = .ok kvs r → r <:+ s) := by
  intro f
  have elem : ∀ {s s1 s2 s3 : Bytes}, wcn s = some s1 → Adv s2 s1 → wcn s2 = some s3 → s3 <:+ s :=
    fun hw hv hw2 => (wcn_suffix _ _ _ hw2).trans (hv.suffix.trans (wcn_suffix _ _ _ hw))
  have entry : ∀ {s r1 r2 : Bytes} {ks : List Bytes}, Value.keyPath s = .ok ks (0x3D :: r1) →
      Adv r2 (Strings.dropWs r1) → Strings.dropWs r2 <:+ s :=
    fun hk hv => (dropWs_suffix _).trans (hv.suffix.trans ((dropWs_suffix _).trans
      ((List.suffix_cons _ _).trans (keyPath_ok hk).1.suffix)))
  obtain ⟨hV, hA, hE, hK⟩ := parse_induction
    (PV := fun _ s _ r => Adv r s) (PA := fun _ s _ r => r <:+ s)
    (PE := fun _ s _ r => r <:+ s) (PK := fun _ s _ r => r <:+ s)
    (scalar := fun _ _ _ _ hs => (LastByte03.scalarParse_lastNe hs).adv)
    (arr := fun _ _ _ _ _ ih => adv_cons _ ((List.suffix_cons _ _).trans ih))
    (inl := fun _ _ _ r1 _ _ _ ih _ hc =>
      adv_cons _ (((List.suffix_cons _ _).trans (hc ▸ dropWs_suffix r1)).trans ih))
    (avEmpty := fun _ _ => List.suffix_refl _)
    (avElems := fun _ _ vs r0 _ ih hw => (wcn_suffix _ _ _ hw).trans ((afterComma_suffix vs r0).trans ih))
    (aeNil := fun _ _ => List.suffix_refl _)
    (aeOne := fun _ _ _ _ _ _ hw ihv hw2 => elem hw ihv hw2)
    (aeCons := fun _ _ _ _ _ _ _ _ _ hw ihv hw2 ihe => ihe.trans ((List.suffix_cons _ _).trans (elem hw ihv hw2)))
    (ikNil := fun _ _ => List.suffix_refl _)
    (ikOne := fun _ _ _ _ _ _ _ _ hk _ ihv _ => entry hk ihv)
    (ikCons := fun _ _ _ _ _ _ _ _ _ _ _ _ hk _ ihv _ hc ihk =>
      ihk.trans ((List.suffix_cons _ _).trans (hc ▸ entry hk ihv)))
    f
  exact ⟨hV, hA, fun d s acc vs r h => (hE d s acc vs r h).elim fun _ h => h.2,
    fun d s acc kvs r h => (hK d s acc kvs r h).elim fun _ h => h.2⟩

theorem value_adv {f d : Nat} {s r : Bytes} {v : Val} (h : Value.value f d s = .ok v r) : Adv r s :=
  (parse_adv f).1 d s v r h

end TomlVerif.Lemmas.Suffix03

namespace TomlVerif.Lemmas.LastByte03
open TomlVerif TomlVerif.Model TomlVerif.Lemmas.Suffix03 TomlVerif.Lemmas.ValueParse

theorem dropWhile_consumed (p : UInt8 → Bool) (s t : Bytes) (h : s = t ++ s.dropWhile p) :
    ∀ b ∈ t, p b = true := by
  have e : t = s.takeWhile p :=
    List.append_cancel_right (h.symm.trans List.takeWhile_append_dropWhile.symm)
  rw [e]
  exact List.all_eq_true.mp List.all_takeWhile

theorem dropWs_consumed_ne_lf (s t : Bytes) (h : s = t ++ Strings.dropWs s) :
    ∀ b ∈ t, b ≠ 0x0A :=
  fun b hb => ne_of_class (dropWhile_consumed _ s t (S02.dropWs_eq s ▸ h) b hb) (by decide)

theorem dropComment_consumed_ne_lf (s t : Bytes) (h : s = t ++ Value.dropComment s) :
    ∀ b ∈ t, b ≠ 0x0A :=
  fun b hb => ne_of_class (dropWhile_consumed _ s t (dropComment_eq s ▸ h) b hb) (by decide)

/-- an array ends with `]`, an inline table with `}` -/
theorem value_lastNe {f d : Nat} {s r : Bytes} {v : Val} (h : Value.value f d s = .ok v r) : LastNe r s := by
  cases f with
  | zero => unfold Value.value at h; cases h
  | succ f =>
    cases value_ok h with
    | scalar hs => exact scalarParse_lastNe hs
    | arr _ hav =>
      exact ((lastNe_tail r (by decide)).trans_suffix ((parse_adv f).2.1 _ _ _ _ hav)).cons _
    | inl _ hik _ hc =>
      exact ((lastNe_tail r (by decide)).trans_suffix
        ((hc ▸ dropWs_suffix _).trans ((parse_adv f).2.2.2 _ _ _ _ _ hik))).cons _

theorem scalar_last_ne_lf (d : Nat) (s r t : Bytes) (v : Val)
    (h : Value.value 1 d s = .ok v r) (hs : s = t ++ r) : t.getLast? ≠ some 0x0A :=
  (value_lastNe h).getLast hs

theorem scalar_consumed_ne_nil (d : Nat) (s r t : Bytes) (v : Val)
    (h : Value.value 1 d s = .ok v r) (hs : s = t ++ r) : t ≠ [] := by
  intro e; subst e
  have := (value_adv h).length_lt
  simp only [List.nil_append] at hs
  subst hs
  omega

end TomlVerif.Lemmas.LastByte03
