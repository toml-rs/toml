import TomlVerif.Lemmas.Edit08
/-! Navigation on the decorated tree commutes with erasure to the plain ordered tree
    (`Spec/OrderedPlain.lean`: `toPlain ∘ eraseTbl`): path updates (`pupd`, `refine_*`) and lookups (`plook`,
    `look_*`). -/
namespace TomlVerif.Lemmas.Refine08
open TomlVerif TomlVerif.Model TomlVerif.Model.Cst TomlVerif.Model.Edit TomlVerif.Lemmas.Edit08
open TomlVerif.Spec.OrderedPlain

def plainT (t : CTbl) : Plain := toPlain (eraseTbl t)
def plainV (v : CVal) : Plain := valToPlain (eraseVal v)
def plainA (ts : List CTbl) : Plain := .arr (tblsToPlain (eraseTbls ts))
def plainI (it : CItem) : Plain := itemToPlain (eraseItem it)

theorem plainItems_eq_mapKv : ∀ l : List (CKey × CItem), itemEntriesToPlain (eraseItems l) = mapKv plainI l
  | [] => rfl
  | (k, it) :: r => by simp only [eraseItems, itemEntriesToPlain, mapKv_cons, plainI, plainItems_eq_mapKv r]

theorem plainKvs_eq_mapKv : ∀ l : List (CKey × CVal), valEntriesToPlain (eraseKvs l) = mapKv plainV l
  | [] => rfl
  | (k, v) :: r => by simp only [eraseKvs, valEntriesToPlain, mapKv_cons, plainV, plainKvs_eq_mapKv r]

theorem plainVals_eq_map : ∀ l : List CVal, valsToPlain (eraseVals l) = l.map plainV
  | [] => rfl
  | v :: r => by simp only [eraseVals, valsToPlain, List.map_cons, plainV, plainVals_eq_map r]

theorem plainTbls_eq_map : ∀ l : List CTbl, tblsToPlain (eraseTbls l) = l.map plainT
  | [] => rfl
  | t :: r => by simp only [eraseTbls, tblsToPlain, List.map_cons, plainT, plainTbls_eq_map r]

theorem plainV_arr (items : List CVal) (tr : Raw) (c : Bool) (d : Decor) (sp : Option Span) :
    plainV (.arr items tr c d sp) = .arr (items.map plainV) := by
  rw [← plainVals_eq_map]; simp only [plainV, eraseVal, valToPlain]

theorem plainV_inl (items : List (CKey × CVal)) (pre : Raw) (imp dot : Bool) (d : Decor) (sp : Option Span) :
    plainV (.inl items pre imp dot d sp) = .tbl (mapKv plainV items) := by
  rw [← plainKvs_eq_mapKv]; simp only [plainV, eraseVal, valToPlain]

theorem plainT_mk (items : List (CKey × CItem)) (imp dot : Bool) (p : Option Nat) (dec : Decor) (sp : Option Span) :
    plainT (.mk items imp dot p dec sp) = .tbl (mapKv plainI items) := by
  rw [← plainItems_eq_mapKv]; simp only [plainT, eraseTbl, toPlain]

theorem plainI_value (v : CVal) : plainI (.value v) = plainV v := by
  simp only [plainI, plainV, eraseItem, itemToPlain]

theorem plainI_table (t : CTbl) : plainI (.table t) = plainT t := by
  simp only [plainI, plainT, eraseItem, itemToPlain]

theorem plainA_eq (ts : List CTbl) : plainA ts = .arr (ts.map plainT) := by
  rw [← plainTbls_eq_map]; rfl

theorem plainI_aot (ts : List CTbl) (sp : Option Span) : plainI (.aot ts sp) = plainA ts := rfl

mutual
/-- apply `f` to the node a path leads to in a plain tree: tables select by key, arrays by index -/
def pupd (f : Plain → Option Plain) : List Seg → Plain → Option Plain
  | [], x => f x
  | _ :: _, .scalar _ => none
  | s :: r, .arr xs =>
    match s.idx with
    | some i => (pupdNth f i r xs).map .arr
    | none => none
  | s :: r, .tbl es =>
    match s.key with
    | some k => (pupdKey f k r es).map .tbl
    | none => none
def pupdNth (f : Plain → Option Plain) : Nat → List Seg → List Plain → Option (List Plain)
  | _, _, [] => none
  | 0, r, x :: rest => (pupd f r x).map fun x' => x' :: rest
  | i + 1, r, x :: rest => (pupdNth f i r rest).map fun rest' => x :: rest'
def pupdKey (f : Plain → Option Plain) (k : Bytes) : List Seg → List (Bytes × Plain) → Option (List (Bytes × Plain))
  | _, [] => none
  | r, (k', x) :: rest =>
    if k' == k then (pupd f r x).map fun x' => (k', x') :: rest
    else (pupdKey f k r rest).map fun rest' => (k', x) :: rest'
end

structure Refines (u : Upd) (f : Plain → Option Plain) : Prop where
  tbl : ∀ t t', u.tbl t = some t' → f (plainT t) = some (plainT t')
  val : ∀ v v', u.val v = some v' → f (plainV v) = some (plainV v')
  aot : ∀ ts ts', u.aot ts = some ts' → f (plainA ts) = some (plainA ts')

variable {u : Upd} {f : Plain → Option Plain}

/- The walks are stated over the entry lists read by key text (`mapKv plainV l`, `l.map plainV`, `mapKv plainI l`,
   `l.map plainT`); `refine_elems`, `refine_kvs`, `refine_items`, `refine_nth` state the list components over
   the erased lists and follow through `plainVals_eq_map`, `plainKvs_eq_mapKv`, `plainItems_eq_mapKv`,
   `plainTbls_eq_map`. -/
theorem refine_vals (hr : Refines u f) :
    (∀ p v v', updVal u p v = some v' → pupd f p (plainV v) = some (plainV v')) ∧
    (∀ k r l l', updKvs u k r l = some l' → pupdKey f k r (mapKv plainV l) = some (mapKv plainV l')) ∧
    (∀ i r l l', updElems u i r l = some l' → pupdNth f i r (l.map plainV) = some (l'.map plainV)) := by
  refine updVal_rel u ?here ?arr ?inl ?zero ?succ ?hit ?miss
  case here => intro v v' h; simpa only [pupd] using hr.val v v' h
  case arr => intro s r i items items' tr c d sp hi ih; simp only [plainV_arr, pupd, hi, ih, Option.map_some]
  case inl => intro s r k items items' pre imp dot d sp hi ih; simp only [plainV_inl, pupd, hi, ih, Option.map_some]
  case zero => intro r v v' rest ih; simp only [List.map_cons, pupdNth, ih, Option.map_some]
  case succ => intro i r v rest rest' ih; simp only [List.map_cons, pupdNth, ih, Option.map_some]
  case hit => intro k r k' v v' rest hk ih; simp only [mapKv_cons, pupdKey, hk, if_true, ih, Option.map_some]
  case miss =>
    intro k r k' v rest rest' hk ih
    simp only [mapKv_cons, pupdKey, hk, Bool.false_eq_true, if_false, ih, Option.map_some]

theorem refine_val (hr : Refines u f) : ∀ (p : List Seg) (v v' : CVal), updVal u p v = some v' →
    pupd f p (plainV v) = some (plainV v') :=
  (refine_vals hr).1

theorem refine_elems (hr : Refines u f) : ∀ (i : Nat) (r : List Seg) (items items' : List CVal),
    updElems u i r items = some items' →
    pupdNth f i r (valsToPlain (eraseVals items)) = some (valsToPlain (eraseVals items')) := by
  simpa only [plainVals_eq_map] using (refine_vals hr).2.2

theorem refine_kvs (hr : Refines u f) (k : Bytes) : ∀ (r : List Seg) (items items' : List (CKey × CVal)),
    updKvs u k r items = some items' →
    pupdKey f k r (valEntriesToPlain (eraseKvs items)) = some (valEntriesToPlain (eraseKvs items')) := by
  simpa only [plainKvs_eq_mapKv] using (refine_vals hr).2.1 k

theorem refine_tbls (hr : Refines u f) :
    (∀ p t t', updTbl u p t = some t' → pupd f p (plainT t) = some (plainT t')) ∧
    (∀ k r l l', updItems u k r l = some l' → pupdKey f k r (mapKv plainI l) = some (mapKv plainI l')) ∧
    (∀ r it it', updItem u r it = some it' → pupd f r (plainI it) = some (plainI it')) ∧
    (∀ i r l l', updNth u i r l = some l' → pupdNth f i r (l.map plainT) = some (l'.map plainT)) := by
  refine updTbl_rel u ?here ?mk ?value ?table ?aotHere ?aot ?zero ?succ ?hit ?miss
  case here => intro t t' h; simpa only [pupd] using hr.tbl t t' h
  case mk => intro s r k items items' imp dot p dec sp hi ih; simp only [plainT_mk, pupd, hi, ih, Option.map_some]
  case value => intro r v v' h; simpa only [plainI_value] using refine_val hr r v v' h
  case table => intro r t t' ih; simpa only [plainI_table] using ih
  case aotHere => intro ts ts' sp h; simpa only [plainI_aot, pupd] using hr.aot ts ts' h
  case aot => intro s r i ts ts' sp hi ih; simp only [plainI_aot, plainA_eq, pupd, hi, ih, Option.map_some]
  case zero => intro r t t' rest ih; simp only [List.map_cons, pupdNth, ih, Option.map_some]
  case succ => intro i r t rest rest' ih; simp only [List.map_cons, pupdNth, ih, Option.map_some]
  case hit => intro k r k' it it' rest hk ih; simp only [mapKv_cons, pupdKey, hk, if_true, ih, Option.map_some]
  case miss =>
    intro k r k' it rest rest' hk ih
    simp only [mapKv_cons, pupdKey, hk, Bool.false_eq_true, if_false, ih, Option.map_some]

theorem refine_tbl (hr : Refines u f) : ∀ (p : List Seg) (t t' : CTbl), updTbl u p t = some t' →
    pupd f p (plainT t) = some (plainT t') :=
  (refine_tbls hr).1

theorem refine_items (hr : Refines u f) (k : Bytes) : ∀ (r : List Seg) (items items' : List (CKey × CItem)),
    updItems u k r items = some items' →
    pupdKey f k r (itemEntriesToPlain (eraseItems items)) = some (itemEntriesToPlain (eraseItems items')) := by
  simpa only [plainItems_eq_mapKv] using (refine_tbls hr).2.1 k

theorem refine_item (hr : Refines u f) : ∀ (r : List Seg) (it it' : CItem), updItem u r it = some it' →
    pupd f r (plainI it) = some (plainI it') :=
  (refine_tbls hr).2.2.1

theorem refine_nth (hr : Refines u f) : ∀ (i : Nat) (r : List Seg) (ts ts' : List CTbl),
    updNth u i r ts = some ts' →
    pupdNth f i r (tblsToPlain (eraseTbls ts)) = some (tblsToPlain (eraseTbls ts')) := by
  simpa only [plainTbls_eq_map] using (refine_tbls hr).2.2.2

end TomlVerif.Lemmas.Refine08

namespace TomlVerif.Lemmas.Refine08b
open TomlVerif TomlVerif.Model TomlVerif.Model.Cst TomlVerif.Model.Edit TomlVerif.Lemmas.Edit08
open TomlVerif.Lemmas.Refine08 TomlVerif.Spec.OrderedPlain

def plainN : Node → Plain
  | .tbl t => plainT t
  | .val v => plainV v
  | .aot ts _ => plainA ts

theorem plainI_nodeItem (n : Node) : plainI (nodeItem n) = plainN n := by
  cases n <;> simp only [nodeItem, plainN, plainI_table, plainI_value, plainI_aot]

mutual
def plook : List Seg → Plain → Option Plain
  | [], x => some x
  | _ :: _, .scalar _ => none
  | s :: r, .arr xs =>
    match s.idx with
    | some i => plookNth i r xs
    | none => none
  | s :: r, .tbl es =>
    match s.key with
    | some k => plookKey k r es
    | none => none
def plookNth : Nat → List Seg → List Plain → Option Plain
  | _, _, [] => none
  | 0, r, x :: _ => plook r x
  | i + 1, r, _ :: rest => plookNth i r rest
def plookKey (k : Bytes) : List Seg → List (Bytes × Plain) → Option Plain
  | _, [] => none
  | r, (k', x) :: rest => if k' == k then plook r x else plookKey k r rest
end

theorem look_vals :
    (∀ p v n, lookupVal p v = some n → plook p (plainV v) = some (plainN n)) ∧
    (∀ k r l n, lookupKvs k r l = some n → plookKey k r (mapKv plainV l) = some (plainN n)) ∧
    (∀ i r l n, lookupElems i r l = some n → plookNth i r (l.map plainV) = some (plainN n)) := by
  refine lookupVal_rel ?here ?arr ?inl ?zero ?succ ?hit ?miss
  case here => intro v; simp only [plook, plainN]
  case arr => intro s r i items tr c d sp n hi ih; simp only [plainV_arr, plook, hi, ih]
  case inl => intro s r k items pre imp dot d sp n hi ih; simp only [plainV_inl, plook, hi, ih]
  case zero => intro r v rest n ih; simp only [List.map_cons, plookNth, ih]
  case succ => intro i r v rest n ih; simp only [List.map_cons, plookNth, ih]
  case hit => intro k r k' v rest n hk ih; simp only [mapKv_cons, plookKey, hk, if_true, ih]
  case miss => intro k r k' v rest n hk ih; simp only [mapKv_cons, plookKey, hk, Bool.false_eq_true, if_false, ih]

theorem look_val : ∀ (p : List Seg) (v : CVal) (n : Node), lookupVal p v = some n →
    plook p (plainV v) = some (plainN n) :=
  look_vals.1

theorem look_elems : ∀ (i : Nat) (r : List Seg) (items : List CVal) (n : Node),
    lookupElems i r items = some n → plookNth i r (valsToPlain (eraseVals items)) = some (plainN n) := by
  simpa only [plainVals_eq_map] using look_vals.2.2

theorem look_kvs (k : Bytes) : ∀ (r : List Seg) (items : List (CKey × CVal)) (n : Node),
    lookupKvs k r items = some n → plookKey k r (valEntriesToPlain (eraseKvs items)) = some (plainN n) := by
  simpa only [plainKvs_eq_mapKv] using look_vals.2.1 k

theorem look_tbls :
    (∀ p t n, lookupTbl p t = some n → plook p (plainT t) = some (plainN n)) ∧
    (∀ k r l n, lookupItems k r l = some n → plookKey k r (mapKv plainI l) = some (plainN n)) ∧
    (∀ r it n, lookupItem r it = some n → plook r (plainI it) = some (plainN n)) ∧
    (∀ i r l n, lookupNth i r l = some n → plookNth i r (l.map plainT) = some (plainN n)) := by
  refine lookupTbl_rel ?here ?mk ?value ?table ?aotHere ?aot ?zero ?succ ?hit ?miss
  case here => intro t; simp only [plook, plainN]
  case mk => intro s r k items imp dot p dec sp n hi ih; simp only [plainT_mk, plook, hi, ih]
  case value => intro r v n h; simpa only [plainI_value] using look_val r v n h
  case table => intro r t n ih; simpa only [plainI_table] using ih
  case aotHere => intro ts sp; simp only [plainI_aot, plainN, plook]
  case aot => intro s r i ts sp n hi ih; simp only [plainI_aot, plainA_eq, plook, hi, ih]
  case zero => intro r t rest n ih; simp only [List.map_cons, plookNth, ih]
  case succ => intro i r t rest n ih; simp only [List.map_cons, plookNth, ih]
  case hit => intro k r k' it rest n hk ih; simp only [mapKv_cons, plookKey, hk, if_true, ih]
  case miss => intro k r k' it rest n hk ih; simp only [mapKv_cons, plookKey, hk, Bool.false_eq_true, if_false, ih]

theorem look_tbl : ∀ (p : List Seg) (t : CTbl) (n : Node), lookupTbl p t = some n →
    plook p (plainT t) = some (plainN n) :=
  look_tbls.1

theorem look_items (k : Bytes) : ∀ (r : List Seg) (items : List (CKey × CItem)) (n : Node),
    lookupItems k r items = some n → plookKey k r (itemEntriesToPlain (eraseItems items)) = some (plainN n) := by
  simpa only [plainItems_eq_mapKv] using look_tbls.2.1 k

theorem look_item : ∀ (r : List Seg) (it : CItem) (n : Node), lookupItem r it = some n →
    plook r (plainI it) = some (plainN n) :=
  look_tbls.2.2.1

theorem look_nth : ∀ (i : Nat) (r : List Seg) (ts : List CTbl) (n : Node),
    lookupNth i r ts = some n → plookNth i r (tblsToPlain (eraseTbls ts)) = some (plainN n) := by
  simpa only [plainTbls_eq_map] using look_tbls.2.2.2

end TomlVerif.Lemmas.Refine08b
