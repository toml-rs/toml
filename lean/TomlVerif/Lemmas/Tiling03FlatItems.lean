import TomlVerif.Lemmas.Tiling03FlatPrint
/-! Item lists on the way to a flat document (C03): lists of the flat class and their lookups, the
    "witness" items that keep a document outside the class, and how `cset` / `creplace` / `cerase` /
    `descend` act on witnesses. -/
namespace TomlVerif.Lemmas.Tiling03
open TomlVerif TomlVerif.Model TomlVerif.Model.Cst

def isValueItem : CItem → Bool
  | .value _ => true
  | _ => false

theorem simpleBody_creplace (k : Bytes) (x : CItem) (hx : isValueItem x = false)
    (l : List (CKey × CItem)) (y : CItem) (h : clookup k l = some y) : simpleBody (creplace k x l) = false := by
  obtain ⟨A, k0, B, _, _, _, _, hr⟩ := Tiling03Hdr.clookup_split k y l h
  rw [hr x, simpleBody_append]
  cases x <;> simp [simpleBody, isValueItem] at hx ⊢

theorem simpleBody_cset (k : CKey) (x : CItem) (hx : isValueItem x = false) (l : List (CKey × CItem)) :
    simpleBody (cset k x l) = false := by
  unfold cset
  split
  · rename_i y hy; exact simpleBody_creplace k.key x hx l y hy
  · rw [simpleBody_append]
    cases x <;> simp [simpleBody, isValueItem] at hx ⊢

theorem descend_cons_notSimple (t t' : CTbl) (k : CKey) (ks : List CKey) (dotted : Bool) (f : CTbl → Option CTbl)
    (h : descend t (k :: ks) dotted f = some t') : simpleBody t'.items = false := by
  -- what `descend` writes at the head key is a table or an array of tables
  obtain ⟨x, rfl, hx⟩ := Tiling03Hdr.descend_cons_shape _ _ _ _ _ _ h
  rw [Tiling03Hdr.setItems_items]
  rcases hx with ⟨_, _, _, _, rfl⟩ | ⟨_, _, _, _, _, _, rfl⟩ <;> exact simpleBody_cset _ _ rfl _

theorem descend_notSimple (t t' : CTbl) (pp : List CKey) (d : Bool) (f : CTbl → Option CTbl)
    (hf : ∀ p', f t = some p' → simpleBody p'.items = false) (h : descend t pp d f = some t') :
    simpleBody t'.items = false := by
  cases pp with
  | nil => rw [Tiling03Hdr.descend_nil] at h; exact hf _ h
  | cons k ks => exact descend_cons_notSimple _ _ _ _ _ _ h

end TomlVerif.Lemmas.Tiling03

namespace TomlVerif.Lemmas.Tiling03Hdr
open TomlVerif TomlVerif.Spec TomlVerif.Model TomlVerif.Model.Strings TomlVerif.Model.Value
open TomlVerif.Model.Cst TomlVerif.Model.Encode TomlVerif.Lemmas.Cst03 TomlVerif.Lemmas.Tiling03

theorem flatItems_append : ∀ (a b : Items), flatItems (a ++ b) = (flatItems a && flatItems b)
  | [], b => by simp [flatItems]
  | (k, .value v) :: r, b => by simp [flatItems, flatItems_append r b, Bool.and_assoc]
  | (k, .table t) :: r, b => by simp [flatItems, flatItems_append r b, Bool.and_assoc]
  | (k, .aot [] _) :: r, b => by simp [flatItems]
  | (k, .aot [t] _) :: r, b => by simp [flatItems, flatItems_append r b, Bool.and_assoc]
  | (k, .aot (_ :: _ :: _) _) :: r, b => by simp [flatItems]

theorem simple_flat : ∀ (l : Items), simpleBody l = true →
    flatItems l = true ∧ entriesOf l = [] ∧ rootValues l = l
  | [], _ => ⟨rfl, rfl, rfl⟩
  | (k, .value v) :: r, h => by
    simp only [simpleBody, Bool.and_eq_true] at h
    obtain ⟨a, b, c⟩ := simple_flat r h.2
    simp [flatItems, entriesOf, rootValues, h.1, a, b, c]
  | (k, .table _) :: r, h => by simp [simpleBody] at h
  | (k, .aot _ _) :: r, h => by simp [simpleBody] at h

theorem simple_lookup (l : Items) (k : Bytes) (y : CItem) (hs : simpleBody l = true) (h : clookup k l = some y) :
    ∃ v, y = .value v := by
  obtain ⟨A, k0, B, rfl, _⟩ := clookup_split k y l h
  rw [simpleBody_append, Bool.and_eq_true] at hs
  cases y with
  | value v => exact ⟨v, rfl⟩
  | table _ => simp [simpleBody] at hs
  | aot _ _ => simp [simpleBody] at hs

theorem flat_lookup_table (l : Items) (k : Bytes) (t : CTbl) (hs : flatItems l = true)
    (h : clookup k l = some (.table t)) : leafTbl t = true := by
  obtain ⟨A, k0, B, rfl, _⟩ := clookup_split k _ l h
  rw [flatItems_append, Bool.and_eq_true] at hs
  simp only [flatItems, Bool.and_eq_true] at hs
  exact hs.2.1

theorem flat_lookup_aot (l : Items) (k : Bytes) (ts : List CTbl) (sp : Option Span) (hs : flatItems l = true)
    (h : clookup k l = some (.aot ts sp)) : ts ≠ [] := by
  obtain ⟨A, k0, B, rfl, _⟩ := clookup_split k _ l h
  rw [flatItems_append, Bool.and_eq_true] at hs
  rintro rfl
  simp [flatItems] at hs

def wItem : CItem → Bool
  | .value v => !simpleVal v
  | .table t => t.dotted || !simpleBody t.items
  | .aot ts _ => decide (2 ≤ ts.length) || ts.any (fun t => !simpleBody t.items)

def anyW (l : Items) : Bool := l.any (fun kv => wItem kv.2)

theorem anyW_append (a b : Items) : anyW (a ++ b) = (anyW a || anyW b) := by
  simp [anyW]

theorem anyW_cons (kv : CKey × CItem) (r : Items) : anyW (kv :: r) = (wItem kv.2 || anyW r) := by
  simp [anyW]

theorem anyW_notSimple : ∀ l : Items, anyW l = true → simpleBody l = false
  | [], h => by simp [anyW] at h
  | (k, .value v) :: r, h => by
    rw [anyW_cons] at h
    simp only [Bool.or_eq_true] at h
    rcases h with h | h
    · simp [wItem] at h; simp [simpleBody, h]
    · simp [simpleBody, anyW_notSimple r h]
  | (k, .table _) :: r, _ => by simp [simpleBody]
  | (k, .aot _ _) :: r, _ => by simp [simpleBody]

theorem leafTbl_not_w (t : CTbl) (h : leafTbl t = true) : t.dotted = false ∧ simpleBody t.items = true := by
  obtain ⟨items, imp, dot, p, dec, sp⟩ := t
  obtain ⟨_, hdot, _, _, _, hb⟩ := leafTbl_mk.1 h
  exact ⟨hdot, hb⟩

theorem anyW_notFlat : ∀ l : Items, anyW l = true → flatItems l = false
  | [], h => by simp [anyW] at h
  | (k, .value v) :: r, h => by
    rw [anyW_cons] at h
    simp only [Bool.or_eq_true] at h
    rcases h with h | h
    · simp [wItem] at h; simp [flatItems, h]
    · simp [flatItems, anyW_notFlat r h]
  | (k, .table t) :: r, h => by
    rw [anyW_cons] at h
    simp only [Bool.or_eq_true] at h
    rcases h with h | h
    · cases hl : leafTbl t with
      | false => simp [flatItems, hl]
      | true =>
        obtain ⟨h1, h2⟩ := leafTbl_not_w t hl
        simp [wItem, h1, h2] at h
    · simp [flatItems, anyW_notFlat r h]
  | (k, .aot [] _) :: r, _ => by simp [flatItems]
  | (k, .aot [t] _) :: r, h => by
    rw [anyW_cons] at h
    simp only [Bool.or_eq_true] at h
    rcases h with h | h
    · cases hl : leafTbl t with
      | false => simp [flatItems, hl]
      | true =>
        obtain ⟨h1, h2⟩ := leafTbl_not_w t hl
        simp [wItem, h2] at h
    · simp [flatItems, anyW_notFlat r h]
  | (k, .aot (_ :: _ :: _) _) :: r, _ => by simp [flatItems]

theorem anyW_creplace (k : Bytes) (x : CItem) : ∀ l : Items, anyW l = true →
    (∀ y, clookup k l = some y → wItem y = true → wItem x = true) → anyW (creplace k x l) = true
  | [], h, _ => by simp [anyW] at h
  | (k', v) :: r, h, hx => by
    rw [anyW_cons] at h
    simp only [Bool.or_eq_true] at h
    unfold creplace
    split
    · rename_i hk
      rw [anyW_cons]
      simp only [Bool.or_eq_true]
      rcases h with h | h
      · exact Or.inl (hx v (by simp [clookup, hk]) h)
      · exact Or.inr h
    · rename_i hk
      rw [anyW_cons]
      simp only [Bool.or_eq_true]
      rcases h with h | h
      · exact Or.inl h
      · exact Or.inr (anyW_creplace k x r h (fun y hy => hx y (by simp only [clookup, hk]; exact hy)))

theorem anyW_creplace_new (k : Bytes) (x : CItem) (hx : wItem x = true) (l : Items) (y : CItem)
    (h : clookup k l = some y) : anyW (creplace k x l) = true := by
  obtain ⟨A, k0, B, _, _, _, _, hr⟩ := clookup_split k y l h
  rw [hr x, anyW_append, anyW_cons]; simp [hx]

theorem anyW_cset_new (k : CKey) (x : CItem) (hx : wItem x = true) (l : Items) : anyW (cset k x l) = true := by
  unfold cset
  split
  · rename_i y hy; exact anyW_creplace_new _ _ hx l y hy
  · rw [anyW_append]; simp [anyW, hx]

theorem anyW_cset (k : CKey) (x : CItem) (l : Items) (h : anyW l = true)
    (hx : ∀ y, clookup k.key l = some y → wItem y = true → wItem x = true) : anyW (cset k x l) = true := by
  unfold cset
  split
  · exact anyW_creplace _ _ l h hx
  · rw [anyW_append, h]; rfl

theorem anyW_cerase (k : Bytes) : ∀ l : Items, anyW l = true →
    (∀ y, clookup k l = some y → wItem y = false) → anyW (cerase k l) = true
  | [], h, _ => by simp [anyW] at h
  | (k', v) :: r, h, hx => by
    rw [anyW_cons] at h
    simp only [Bool.or_eq_true] at h
    unfold cerase
    split
    · rename_i hk
      rcases h with h | h
      · have := hx v (by simp [clookup, hk])
        rw [this] at h; cases h
      · exact h
    · rename_i hk
      rw [anyW_cons]
      simp only [Bool.or_eq_true]
      rcases h with h | h
      · exact Or.inl h
      · exact Or.inr (anyW_cerase k r h (fun y hy => hx y (by simp only [clookup, hk]; exact hy)))

theorem descend_dotted (t t' : CTbl) (path : List CKey) (d : Bool) (f : CTbl → Option CTbl)
    (hf : ∀ p p', f p = some p' → p'.dotted = p.dotted)
    (h : descend t path d f = some t') : t'.dotted = t.dotted := by
  cases path with
  | nil => rw [descend_nil] at h; exact hf _ _ h
  | cons k ks =>
    obtain ⟨x, e, _⟩ := descend_cons_shape _ _ _ _ _ _ h
    subst e; simp

theorem descend_cons_insert_w (t t' : CTbl) (k : CKey) (ks : List CKey) (d : Bool) (f : CTbl → Option CTbl)
    (hf : ∀ p p', f p = some p' → simpleBody p'.items = false)
    (h : descend t (k :: ks) d f = some t') : anyW t'.items = true := by
  obtain ⟨x, e, hx⟩ := descend_cons_shape _ _ _ _ _ _ h
  subst e
  rw [setItems_items]
  apply anyW_cset_new
  rcases hx with ⟨sub, sub', _, hd, e⟩ | ⟨init, l, l', sp, _, hd, e⟩
  · subst e
    have := descend_notSimple _ _ _ _ _ (hf _) hd
    simp [wItem, this]
  · subst e
    have := descend_notSimple _ _ _ _ _ (hf _) hd
    simp [wItem, this]

theorem descend_cons_w (t t' : CTbl) (k : CKey) (ks : List CKey) (d : Bool) (f : CTbl → Option CTbl)
    (hf1 : ∀ p p', f p = some p' → simpleBody p.items = false → simpleBody p'.items = false)
    (hf2 : ∀ p p', f p = some p' → p'.dotted = p.dotted)
    (hw : anyW t.items = true) (h : descend t (k :: ks) d f = some t') : anyW t'.items = true := by
  obtain ⟨x, e, hx⟩ := descend_cons_shape _ _ _ _ _ _ h
  subst e
  rw [setItems_items]
  apply anyW_cset _ _ _ hw
  intro y hy hwy
  rw [hy] at hx
  simp only [Option.getD_some] at hx
  rcases hx with ⟨sub, sub', e1, hd, e⟩ | ⟨init, l, l', sp, e1, hd, e⟩
  · subst e; subst e1
    simp only [wItem, Bool.or_eq_true, Bool.not_eq_true'] at hwy ⊢
    rcases hwy with hwy | hwy
    · left; rw [descend_dotted _ _ _ _ _ hf2 hd]; exact hwy
    · right; exact descend_notSimple _ _ _ _ _ (fun _ h => hf1 _ _ h hwy) hd
  · subst e; subst e1
    simp only [wItem, Bool.or_eq_true, decide_eq_true_eq, List.any_append, List.length_append] at hwy ⊢
    rcases hwy with hwy | hwy | hwy
    · exact Or.inl hwy
    · exact Or.inr (Or.inl hwy)
    · right; right
      simp only [List.any_cons, List.any_nil, Bool.or_false, Bool.not_eq_true'] at hwy ⊢
      exact descend_notSimple _ _ _ _ _ (fun _ h => hf1 _ _ h hwy) hd

end TomlVerif.Lemmas.Tiling03Hdr
