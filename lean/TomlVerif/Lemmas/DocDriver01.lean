import TomlVerif.Lemmas.DocGrammar01
/-! The line driver with its state (`keyvalLine`, `tableLine`, `lines`, `parseDocument`) against the document syntax
    `QDoc`, read off: each function of `Model/Doc.lean` is its stateless counterpart followed by a step of the state
    machine (`Lemmas/DocStmts.lean`), and the stateless one accepts exactly the renderings of well-formed trees and
    returns their statements (`Lemmas/DocGrammar01.lean`). -/
namespace TomlVerif.Lemmas.SoundDoc01
open TomlVerif TomlVerif.Spec TomlVerif.Model TomlVerif.Model.Strings TomlVerif.Model.Value
open TomlVerif.Model.State TomlVerif.Model.Doc
open TomlVerif.Spec.AstValue TomlVerif.Spec.AstValueQ TomlVerif.Spec.AstDoc TomlVerif.Spec.AstDocQ
open TomlVerif.Lemmas.Value01 TomlVerif.Lemmas.State09 TomlVerif.Lemmas.SoundDoc01U
open TomlVerif.Lemmas.Doc01 (LineEnd)

theorem parseDocument_sound (s : Bytes) (t : Tbl) (h : parseDocument s = some t) :
    ∃ d : QDoc, d.WF ∧ d.render = s ∧ (run {} d.stmts).bind intoDocument = some t := by
  rw [parseDocument_factor] at h
  cases hl : stmtsOfText s with
  | none => rw [hl] at h; cases h
  | some l =>
    rw [hl, Option.bind_some] at h
    obtain ⟨d, hwf, hr, hst⟩ := (stmtsOfText_iff s l).1 hl
    exact ⟨d, hwf, hr, by rw [hst]; exact h⟩

end TomlVerif.Lemmas.SoundDoc01

namespace TomlVerif.Lemmas.SoundDoc01C
open TomlVerif TomlVerif.Spec TomlVerif.Model TomlVerif.Model.Strings TomlVerif.Model.Value
open TomlVerif.Model.State TomlVerif.Model.Doc
open TomlVerif.Spec.AstValue TomlVerif.Spec.AstValueQ TomlVerif.Spec.AstDoc TomlVerif.Spec.AstDocQ
open TomlVerif.Lemmas.State09 TomlVerif.Lemmas.SoundDoc01U
open TomlVerif.Lemmas.Doc01 (LineEnd)

theorem keyvalLine_endQ (st : ParseState) (k : QDKey) (w1 : Bytes) (v : QVal) (w2 : Bytes) (cm : Option Bytes)
    (T more : Bytes) (hwf : (QLine.keyval k w1 v w2 cm).WF) (hT : LineEnd T more) :
    keyvalLine st ((QLine.keyval k w1 v w2 cm).render ++ T) =
      (onKeyval st k.path k.last (semQ v)).map fun st' => (st', more) := by
  rw [keyvalLine_factor, keyvalStmt_end k w1 v w2 cm T more hwf hT]
  rfl

theorem lines_runQ (ls : List (QLine × Bool)) (last : Option QLine) (st : ParseState) (fuel : Nat)
    (hls : ∀ p ∈ ls, p.1.WF) (hl : ∀ l, last = some l → l.WF)
    (hf : (dropWs (renderLinesQ ls ++ renderLastQ last)).length < fuel) :
    lines fuel st (dropWs (renderLinesQ ls ++ renderLastQ last)) = run st (stmtsLinesQ ls ++ stmtsLastQ last) := by
  rw [lines_factor, linesS_run ls last fuel hls hl hf]
  rfl

theorem parseDocument_renderQ (d : QDoc) (hwf : d.WF) :
    parseDocument d.render = (run {} d.stmts).bind intoDocument := by
  rw [parseDocument_factor, stmtsOfText_render d hwf]
  rfl

theorem bind_run_cons (st : ParseState) (x : Stmt) (o : Option (List Stmt)) :
    (o.map fun l => x :: l).bind (run st) = (step st x).bind fun st' => o.bind (run st') := by
  cases o with
  | none => cases step st x <;> rfl
  | some ls => exact run_cons st x ls

theorem lines_line_nlQ (f : Nat) (st : ParseState) (l : QLine) (c : Bool) (more : Bytes) (hwf : l.WF) :
    lines (f + 1) st (dropWs (l.render ++ (nlBytes c ++ more))) =
      (match l.stmt with | none => some st | some x => step st x).bind fun st' => lines f st' (dropWs more) := by
  rw [lines_factor, linesS_line_nl f l c more hwf]
  simp only [lines_factor]
  unfold consStmt
  cases l.stmt with
  | none => cases linesS f (dropWs more) <;> rfl
  | some x => exact bind_run_cons st x _

end TomlVerif.Lemmas.SoundDoc01C

namespace TomlVerif.Lemmas.Doc01
open TomlVerif TomlVerif.Spec TomlVerif.Model TomlVerif.Model.Strings TomlVerif.Model.Value
open TomlVerif.Model.State TomlVerif.Model.Doc
open TomlVerif.Spec.AstValue TomlVerif.Spec.AstValueQ TomlVerif.Spec.AstDoc TomlVerif.Spec.AstDocQ
open TomlVerif.Lemmas.State09 TomlVerif.Lemmas.SoundDoc01C TomlVerif.Lemmas.SoundDoc01U
open TomlVerif.Lemmas.Value01 (commentBytes)

theorem keyvalLine_end (st : ParseState) (p : KeyPath) (w1 : Bytes) (v : AVal) (w2 : Bytes) (cm : Option Bytes)
    (T more : Bytes) (hwf : (Line.keyval p w1 v w2 cm).WF) (hT : LineEnd T more) :
    keyvalLine st ((Line.keyval p w1 v w2 cm).render ++ T) =
      (onKeyval st p.path p.last (sem v)).map fun st' => (st', more) := by
  have := keyvalLine_endQ st (ofKeyPath p) w1 (ofAVal v) w2 cm T more (ofLine_wf (.keyval p w1 v w2 cm) hwf) hT
  rwa [show (QLine.keyval (ofKeyPath p) w1 (ofAVal v) w2 cm).render = (Line.keyval p w1 v w2 cm).render from
    ofLine_render (.keyval p w1 v w2 cm), ofKeyPath_path, ofKeyPath_last, ofAVal_sem] at this

theorem stdLine_end (st : ParseState) (p : KeyPath) (w2 : Bytes) (cm : Option Bytes) (T more : Bytes)
    (hp : p.OK) (hw2 : AllWs w2) (hc : CommentOK cm) (hT : LineEnd T more) :
    tableLine st (0x5B :: (p.render ++ 0x5D :: (w2 ++ (commentBytes cm ++ T)))) =
      (onStdHeader st p.names).map fun st' => (st', more) := by
  have := stdStmt_end (ofKeyPath p) w2 cm T more (ofKeyPath_wf p hp) hw2 hc hT
  rw [ofKeyPath_render, ofKeyPath_keys] at this
  rw [tableLine_factor, this]; rfl

theorem aotLine_end (st : ParseState) (p : KeyPath) (w2 : Bytes) (cm : Option Bytes) (T more : Bytes)
    (hp : p.OK) (hw2 : AllWs w2) (hc : CommentOK cm) (hT : LineEnd T more) :
    tableLine st (0x5B :: 0x5B :: (p.render ++ 0x5D :: 0x5D :: (w2 ++ (commentBytes cm ++ T)))) =
      (onArrayHeader st p.names).map fun st' => (st', more) := by
  have := aotStmt_end (ofKeyPath p) w2 cm T more (ofKeyPath_wf p hp) hw2 hc hT
  rw [ofKeyPath_render, ofKeyPath_keys] at this
  rw [tableLine_factor, this]; rfl

end TomlVerif.Lemmas.Doc01
