import TomlVerif.Lemmas.CstParse
import TomlVerif.Lemmas.CstSpans
/-! Classes of values for C03.  `FixOn f inp`: a transformation of decor texts that leaves the pieces
    of the input alone (`id` always, `stripCr` on CR-free input), so that one tiling argument serves the
    verbatim and the real printer.  `simpleVal`: every inline table has one-segment keys, so
    `table_from_pairs` stores each pair where it was written; `undotted`: not an inline table made by a
    dotted key, which the inline-table printer writes as one `key = value` entry. -/
namespace TomlVerif.Lemmas.Tiling03
open TomlVerif TomlVerif.Spec TomlVerif.Model TomlVerif.Model.Strings TomlVerif.Model.Value
open TomlVerif.Model.Cst TomlVerif.Model.Encode TomlVerif.Lemmas.Suffix03 TomlVerif.Lemmas.Cst03

structure FixOn (f : Bytes → Bytes) (inp : Bytes) : Prop where
  nil : f [] = []
  sub : ∀ t, t <:+: inp → f t = t

theorem FixOn.id (inp : Bytes) : FixOn id inp := ⟨rfl, fun _ _ => rfl⟩

theorem FixOn.stripCr (inp : Bytes) (h : ∀ b ∈ inp, b ≠ 0x0D) : FixOn stripCr inp := by
  refine ⟨rfl, ?_⟩
  intro t ht
  apply stripCr_of_noCr
  intro b hb
  exact h b (ht.subset hb)

theorem slice_infix (inp : Bytes) (a b : Nat) : slice inp a b <:+: inp := by
  unfold slice
  exact (List.take_prefix _ _).isInfix.trans (List.drop_suffix _ _).isInfix

theorem encRaw_fix {f : Bytes → Bytes} {inp : Bytes} (hf : FixOn f inp) (r : Raw) :
    encRaw f inp r = rawText inp r := by
  unfold encRaw
  cases r with
  | empty => exact hf.nil
  | spanned a b => exact hf.sub _ (slice_infix inp a b)

theorem dropWs_idem : ∀ s : Bytes, dropWs (dropWs s) = dropWs s
  | [] => by simp [dropWs]
  | b :: r => by
    by_cases h : isWschar b = true
    · have : dropWs (b :: r) = dropWs r := by rw [dropWs]; simp [h]
      rw [this]; exact dropWs_idem r
    · have : dropWs (b :: r) = b :: r := by rw [dropWs]; simp [h]
      rw [this, this]

theorem rawBetween_self (n : Nat) (s : Bytes) : rawBetween n s s = .empty := by
  simp [rawBetween, Raw.withSpan]

export TomlVerif.Lemmas.Tiling03More (vsplitLast_some vsplitLast_none vsplitLast_snoc)

mutual
def simpleVal : CVal → Bool
  | .scalar _ _ _ => true
  | .arr items _ _ _ _ => simpleVals items
  | .inl items _ imp dot _ _ => !imp && !dot && simpleKvs items
def simpleVals : List CVal → Bool
  | [] => true
  | v :: r => simpleVal v && simpleVals r
def simpleKvs : List (CKey × CVal) → Bool
  | [] => true
  | (_, v) :: r => simpleVal v && simpleKvs r
end

theorem simpleVal_setDecor (v : CVal) (d : Decor) : simpleVal (v.setDecor d) = simpleVal v := by
  cases v <;> simp [CVal.setDecor, simpleVal]

theorem simpleKvs_mem : ∀ (l : List (CKey × CVal)), simpleKvs l = true → ∀ kv ∈ l, simpleVal kv.2 = true
  | [], _, kv, hm => by cases hm
  | (k, v) :: r, h, kv, hm => by
    simp only [simpleKvs, Bool.and_eq_true] at h
    rcases List.mem_cons.1 hm with e | hm
    · subst e; exact h.1
    · exact simpleKvs_mem r h.2 kv hm

theorem simpleKvs_of_mem : ∀ (l : List (CKey × CVal)), (∀ kv ∈ l, simpleVal kv.2 = true) → simpleKvs l = true
  | [], _ => rfl
  | (k, v) :: r, h => by
    simp only [simpleKvs, Bool.and_eq_true]
    exact ⟨h (k, v) (by simp), simpleKvs_of_mem r (fun kv hm => h kv (List.mem_cons_of_mem _ hm))⟩

theorem simpleVals_append : ∀ (a b : List CVal), simpleVals (a ++ b) = (simpleVals a && simpleVals b)
  | [], b => by simp [simpleVals]
  | v :: r, b => by simp [simpleVals, simpleVals_append r b, Bool.and_assoc]

/-- an inline table entry created by a dotted key -/
def impInl : CVal → Bool
  | .inl _ _ imp _ _ _ => imp
  | _ => false

def anyImp (items : List (CKey × CVal)) : Bool := items.any (fun kv => impInl kv.2)

def undotted : CVal → Bool
  | .inl _ _ _ dot _ _ => !dot
  | _ => true

theorem undotted_setDecor (v : CVal) (d : Decor) : undotted (v.setDecor d) = undotted v := by
  cases v <;> simp [CVal.setDecor, undotted]

theorem cvalue_undotted {n fuel d : Nat} {s r : Bytes} {v : CVal} (h : cvalue n fuel d s = .ok v r) :
    undotted v = true ∧ v.decor = emptyDecor := by
  cases fuel with
  | zero => rw [Tiling03More.cvalue_zero] at h; cases h
  | succ fuel =>
    rcases Tiling03More.cvalue_ok h with ⟨_, _, _, _, _, _, _, rfl⟩ | ⟨_, _, _, _, _, _, _, _, _, rfl⟩ |
      ⟨_, _, _, _, _, _, _, rfl⟩ <;> exact ⟨rfl, rfl⟩

theorem simpleVal_undotted (v : CVal) (h : simpleVal v = true) : undotted v = true := by
  cases v <;> simp [simpleVal, undotted] at h ⊢
  exact h.1.2

theorem simpleVal_impInl (v : CVal) (h : simpleVal v = true) : impInl v = false := by
  cases v <;> simp [simpleVal, impInl] at h ⊢
  exact h.1.1

theorem simpleKvs_anyImp (l : List (CKey × CVal)) (h : simpleKvs l = true) : anyImp l = false := by
  unfold anyImp
  rw [List.any_eq_false]
  intro kv hm
  simp [simpleVal_impInl kv.2 (simpleKvs_mem l h kv hm)]

theorem anyImp_creplace (k : Bytes) (y : CVal) (hy : impInl y = true) :
    ∀ (items : List (CKey × CVal)) (x : CVal), clookup k items = some x → anyImp (creplace k y items) = true
  | [], _, h => by simp [clookup] at h
  | (k', v') :: r, x, h => by
    unfold clookup at h
    unfold creplace
    split at h
    · rename_i hk; simp [hk, anyImp, hy]
    · rename_i hk
      simp only [hk]
      have := anyImp_creplace k y hy r x h
      simp only [anyImp, List.any_cons, Bool.false_eq_true, ↓reduceIte] at this ⊢
      simp [this]

theorem cinlInsert_anyImp (ks : List CKey) (items : List (CKey × CVal)) (td pe : Bool) (key : CKey) (v : CVal)
    (items' : List (CKey × CVal)) (h : cinlInsert items td ks pe key v = some items') :
    (anyImp items = true → anyImp items' = true) ∧ (ks ≠ [] → anyImp items' = true) := by
  cases ks with
  | nil =>
    unfold cinlInsert at h
    split at h
    · cases h
    · split at h
      · cases h
      · injection h with h; subst h
        exact ⟨fun h => by simp [anyImp] at h ⊢; exact Or.inl h, fun h => absurd rfl h⟩
  | cons k ks =>
    unfold cinlInsert at h
    split at h
    · split at h
      · injection h with h; subst h
        have : anyImp (items ++ [(k, newDottedInl ‹_›)]) = true := by simp [anyImp, newDottedInl, impInl]
        exact ⟨fun _ => this, fun _ => this⟩
      · cases h
    · rename_i sub pre imp dot dec sp hlook
      split at h
      · cases h
      · rename_i himp
        split at h
        · injection h with h; subst h
          have himp' : imp = true := by simpa using himp
          have := anyImp_creplace k.key (.inl ‹_› pre imp dot dec sp) (by simp [impInl, himp']) items _ hlook
          exact ⟨fun _ => this, fun _ => this⟩
        · cases h
    · cases h

theorem ctableFromPairs_anyImp : ∀ (kvs : List (List CKey × CKey × CVal)) (acc items : List (CKey × CVal)),
    ctableFromPairs kvs acc = some items → anyImp acc = true → anyImp items = true
  | [], acc, items, h, ha => by
    unfold ctableFromPairs at h; injection h with h; subst h; exact ha
  | (path, key, v) :: rest, acc, items, h, ha => by
    unfold ctableFromPairs at h
    split at h
    · rename_i acc' hins
      exact ctableFromPairs_anyImp rest acc' items h ((cinlInsert_anyImp _ _ _ _ _ _ _ hins).1 ha)
    · cases h

theorem ctableFromPairs_simple : ∀ (kvs : List (List CKey × CKey × CVal)) (acc items : List (CKey × CVal)),
    ctableFromPairs kvs acc = some items → anyImp items = false →
    (∀ p ∈ kvs, p.1 = []) ∧ items = acc ++ kvs.map (fun p => (p.2.1, p.2.2))
  | [], acc, items, h, _ => by
    unfold ctableFromPairs at h; injection h with h; subst h; simp
  | (path, key, v) :: rest, acc, items, h, hno => by
    unfold ctableFromPairs at h
    split at h
    · rename_i acc' hins
      have hacc' : anyImp acc' = false := by
        cases hc : anyImp acc' with
        | false => rfl
        | true => rw [ctableFromPairs_anyImp rest acc' items h hc] at hno; cases hno
      have hpath : path = [] := by
        cases path with
        | nil => rfl
        | cons k ks =>
          have := (cinlInsert_anyImp _ _ _ _ _ _ _ hins).2 (by simp)
          rw [this] at hacc'; cases hacc'
      subst hpath
      obtain ⟨ih1, ih2⟩ := ctableFromPairs_simple rest acc' items h hno
      unfold cinlInsert at hins
      split at hins
      · cases hins
      · split at hins
        · cases hins
        · injection hins with hins; subst hins
          refine ⟨?_, by rw [ih2]; simp⟩
          intro p hp
          rcases List.mem_cons.1 hp with e | hp
          · subst e; rfl
          · exact ih1 p hp
    · cases h

theorem encodeInl_cons_dotted (f : Bytes → Bytes) (inp : Bytes) (k : CKey) (sub : List (CKey × CVal)) (pre : Raw)
    (imp : Bool) (dec : Decor) (sp : Option Span) (r : List (CKey × CVal)) (parent : List CKey) (i len : Nat) :
    encodeInl f inp ((k, .inl sub pre imp true dec sp) :: r) parent i len =
      ((encodeInl f inp sub (parent ++ [k]) i len).1 ++
          (encodeInl f inp r parent (encodeInl f inp sub (parent ++ [k]) i len).2 len).1,
        (encodeInl f inp r parent (encodeInl f inp sub (parent ++ [k]) i len).2 len).2) := by
  rw [encodeInl]; rfl

theorem encodeInl_cons_undotted (f : Bytes → Bytes) (inp : Bytes) (k : CKey) (v : CVal) (hv : undotted v = true)
    (r : List (CKey × CVal)) (parent : List CKey) (i len : Nat) :
    encodeInl f inp ((k, v) :: r) parent i len =
      ((if i != 0 then [0x2C] else []) ++ encodeKeyPath f inp (parent ++ [k]) [0x20] [0x20] ++ [0x3D]
          ++ encodeValue f inp v [0x20] (if i + 1 == len then [0x20] else [])
          ++ (encodeInl f inp r parent (i + 1) len).1,
        (encodeInl f inp r parent (i + 1) len).2) := by
  cases v with
  | scalar a b c => rw [encodeInl]
  | arr a b c d e => rw [encodeInl]
  | inl sub pre imp dot dec sp =>
    have : dot = false := by simpa [undotted] using hv
    subst this
    rw [encodeInl]; simp

theorem countInl_simple : ∀ (items : List (CKey × CVal)), (∀ kv ∈ items, undotted kv.2 = true) →
    countInl items = items.length
  | [], _ => by simp [countInl]
  | (k, v) :: r, h => by
    have hu := h (k, v) (by simp)
    have ih := countInl_simple r (fun kv hm => h kv (List.mem_cons_of_mem _ hm))
    cases v <;> simp [countInl, countVal, ih] <;> try omega
    simp [undotted] at hu
    simp [hu]; omega

end TomlVerif.Lemmas.Tiling03
