import TomlVerif.Model.Encode
import TomlVerif.Lemmas.Consumed
import TomlVerif.Lemmas.CstEraseKey
/-! Shared by C03 and C14: CR stripping, the end of a line, the spans a decorated tree records
    (`valSpans` … `allSpans`) and that they lie within the input (`AllW`), slices of the input, the
    printer under `setDecor`. -/
namespace TomlVerif.Lemmas.Cst03
open TomlVerif TomlVerif.Spec TomlVerif.Model TomlVerif.Model.Strings TomlVerif.Model.Value
open TomlVerif.Model.Cst TomlVerif.Model.Encode TomlVerif.Lemmas.Suffix03

theorem stripCr_append (a b : Bytes) : stripCr (a ++ b) = stripCr a ++ stripCr b := by
  simp [stripCr]

theorem stripCr_idem (s : Bytes) : stripCr (stripCr s) = stripCr s := by
  simp [stripCr, List.filter_filter]

theorem stripCr_noCr (s : Bytes) : ∀ b ∈ stripCr s, b ≠ 0x0D := by
  intro b hb
  simp [stripCr] at hb
  exact hb.2

theorem stripCr_of_noCr (s : Bytes) (h : ∀ b ∈ s, b ≠ 0x0D) : stripCr s = s := by
  unfold stripCr
  rw [List.filter_eq_self]
  intro b hb
  simpa using h b hb

theorem trailEnd_suffix (s : Bytes) : trailEnd s <:+ s := by
  unfold trailEnd
  simp only []
  have hs1 : dropWs s <:+ s := dropWs_suffix s
  generalize dropWs s = s1 at hs1 ⊢
  split
  · rename_i r
    exact (Suffix03.dropComment_suffix r).trans ((List.suffix_cons _ r).trans hs1)
  · exact hs1

theorem lineTrailing_cases (s r : Bytes) (h : lineTrailing s = .ok () r) :
    (trailEnd s = [] ∧ r = []) ∨ newline? (trailEnd s) = some r := by
  have key : lineTrailing s = (match trailEnd s with
      | [] => .ok () []
      | _ => match newline? (trailEnd s) with
        | some r => .ok () r
        | none => .bt) := rfl
  rw [key] at h
  split at h
  · rename_i heq; injection h with _ h; subst h; exact Or.inl ⟨heq, rfl⟩
  · split at h
    · rename_i r' hnl; injection h with _ h; subst h; exact Or.inr hnl
    · cases h

theorem lineTrailing_suffix (s r : Bytes) (h : lineTrailing s = .ok () r) : r <:+ trailEnd s := by
  rcases lineTrailing_cases s r h with ⟨_, rfl⟩ | hnl
  · exact List.nil_suffix
  · exact (newline?_adv hnl).1

def rawSp : Raw → List Span
  | .empty => []
  | .spanned a b => [(a, b)]

def optRawSp : Option Raw → List Span
  | none => []
  | some r => rawSp r

def decorSp (d : Decor) : List Span := optRawSp d.pre ++ optRawSp d.suf

def optSp : Option Span → List Span
  | none => []
  | some s => [s]

def keySpans (k : CKey) : List Span := rawSp k.repr ++ decorSp k.leaf ++ decorSp k.dotted

def keysSpans : List CKey → List Span
  | [] => []
  | k :: r => keySpans k ++ keysSpans r

mutual
def valSpans : CVal → List Span
  | .scalar _ r d => rawSp r ++ decorSp d
  | .arr items t _ d sp => elemsSpans items ++ rawSp t ++ decorSp d ++ optSp sp
  | .inl items p _ _ d sp => kvsSpans items ++ rawSp p ++ decorSp d ++ optSp sp
def elemsSpans : List CVal → List Span
  | [] => []
  | v :: r => valSpans v ++ elemsSpans r
def kvsSpans : List (CKey × CVal) → List Span
  | [] => []
  | (k, v) :: r => keySpans k ++ valSpans v ++ kvsSpans r
end

mutual
def tblSpans : CTbl → List Span
  | .mk items _ _ _ d sp => itemsSpans items ++ decorSp d ++ optSp sp
def itemsSpans : List (CKey × CItem) → List Span
  | [] => []
  | (k, it) :: r =>
    keySpans k ++ (match it with
      | .value v => valSpans v
      | .table t => tblSpans t
      | .aot ts sp => tblsSpans ts ++ optSp sp) ++ itemsSpans r
def tblsSpans : List CTbl → List Span
  | [] => []
  | t :: r => tblSpans t ++ tblsSpans r
end

def allSpans (d : CDoc) : List Span := tblSpans d.root ++ rawSp d.trailing

def Within (lo hi : Nat) (sp : Span) : Prop := lo ≤ sp.1 ∧ sp.1 ≤ sp.2 ∧ sp.2 ≤ hi

def AllW (lo hi : Nat) (l : List Span) : Prop := ∀ sp ∈ l, Within lo hi sp

theorem AllW.nil (lo hi : Nat) : AllW lo hi [] := by intro sp h; cases h

theorem AllW.append {lo hi : Nat} {a b : List Span} (ha : AllW lo hi a) (hb : AllW lo hi b) : AllW lo hi (a ++ b) := by
  intro sp h
  rcases List.mem_append.1 h with h | h
  · exact ha sp h
  · exact hb sp h

theorem AllW.mono {lo hi lo' hi' : Nat} {l : List Span} (h : AllW lo hi l) (h1 : lo' ≤ lo) (h2 : hi ≤ hi') : AllW lo' hi' l := by
  intro sp hm
  have := h sp hm
  unfold Within at *
  omega

theorem AllW.of_subset {lo hi : Nat} {a b : List Span} (hb : AllW lo hi b) (h : ∀ sp ∈ a, sp ∈ b) : AllW lo hi a :=
  fun sp hm => hb sp (h sp hm)

theorem withSpan_allW {lo hi a b : Nat} (h : Within lo hi (a, b)) : AllW lo hi (rawSp (Raw.withSpan a b)) := by
  unfold Raw.withSpan
  split
  · exact AllW.nil _ _
  · intro sp hm
    simp [rawSp] at hm
    subst hm
    exact h

theorem rawBetween_allW (n lo hi : Nat) (s r : Bytes) (h1 : lo ≤ pos n s) (h2 : pos n s ≤ pos n r) (h3 : pos n r ≤ hi) :
    AllW lo hi (rawSp (rawBetween n s r)) :=
  withSpan_allW ⟨h1, h2, h3⟩

theorem pos_nil (n : Nat) : pos n [] = n := by simp [pos]

theorem pos_of_append (p s : Bytes) : pos (p ++ s).length s = p.length := by
  simp [pos]

theorem slice_mid (p t r : Bytes) : slice (p ++ (t ++ r)) p.length (p.length + t.length) = t := by
  unfold slice
  simp

theorem rawText_between (inp s t r : Bytes) (hs : s <:+ inp) (hr : s = t ++ r) :
    rawText inp (rawBetween inp.length s r) = t := by
  obtain ⟨p, hp⟩ := hs
  subst hr
  subst hp
  unfold rawBetween Raw.withSpan
  have e1 : pos (p ++ (t ++ r)).length (t ++ r) = p.length := pos_of_append p (t ++ r)
  have e2 : pos (p ++ (t ++ r)).length r = p.length + t.length := by
    have := pos_of_append (p ++ t) r
    simpa [List.append_assoc] using this
  rw [e1, e2]
  split
  · rename_i h
    have : t.length = 0 := by
      have := of_decide_eq_true (by simpa using h : decide (p.length = p.length + t.length) = true)
      omega
    simp [rawText, List.length_eq_zero_iff.1 this]
  · simp only [rawText]
    exact slice_mid p t r

mutual
def flatVal : CVal → Bool
  | .scalar _ _ _ => true
  | .arr items _ _ _ _ => flatVals items
  | .inl _ _ _ _ _ _ => false
def flatVals : List CVal → Bool
  | [] => true
  | v :: r => flatVal v && flatVals r
end

theorem setDecor_decor (v : CVal) (d : Decor) : (v.setDecor d).decor = d := by
  cases v <;> rfl

theorem span_setDecor (v : CVal) (d : Decor) : (v.setDecor d).span = v.span := by
  cases v <;> rfl

theorem valSpans_setDecor (v : CVal) (d : Decor) (h : v.decor = emptyDecor) :
    ∀ sp ∈ valSpans (v.setDecor d), sp ∈ valSpans v ∨ sp ∈ decorSp d := by
  intro sp hm
  -- `setDecor` only swaps the decor, and the decor it replaces (`emptyDecor`) records no span; what
  -- is left is a reshuffle of memberships
  cases v <;> simp only [CVal.setDecor, valSpans, List.mem_append] at hm ⊢ <;> simp only [CVal.decor] at h <;> subst h <;> grind

theorem encodeValue_setDecor (f : Bytes → Bytes) (hf : f [] = []) (inp : Bytes) (v : CVal) (a b : Raw)
    (h : v.decor = emptyDecor) (dp ds dp' ds' : Bytes) :
    encodeValue f inp (v.setDecor (Decor.new a b)) dp ds
      = encRaw f inp a ++ encodeValue f inp v dp' ds' ++ encRaw f inp b := by
  cases v <;> simp only [CVal.decor] at h <;> subst h <;>
    simp [CVal.setDecor, encodeValue, prefixEncode, suffixEncode, Decor.new, emptyDecor, encRaw, rawText, hf]

theorem encodeValue_default_irrel (f : Bytes → Bytes) (inp : Bytes) (v : CVal) (a b : Raw)
    (h : v.decor = Decor.new a b) (dp ds dp' ds' : Bytes) :
    encodeValue f inp v dp ds = encodeValue f inp v dp' ds' := by
  cases v <;> simp only [CVal.decor] at h <;> subst h <;>
    simp [encodeValue, prefixEncode, suffixEncode, Decor.new]

theorem encodeElems_false (f : Bytes → Bytes) (inp : Bytes) (l : List CVal)
    (hd : ∀ v ∈ l, ∃ a b, v.decor = Decor.new a b) (hne : l ≠ []) :
    encodeElems f inp l false = [0x2C] ++ encodeElems f inp l true := by
  cases l with
  | nil => exact absurd rfl hne
  | cons v r =>
    obtain ⟨a, b, hv⟩ := hd v (by simp)
    simp only [encodeElems]
    rw [encodeValue_default_irrel f inp v a b hv [0x20] [] [] []]
    simp

theorem rawText_empty (inp : Bytes) : rawText inp .empty = [] := rfl

end TomlVerif.Lemmas.Cst03

namespace TomlVerif.Lemmas.Tiling03
open TomlVerif TomlVerif.Model

theorem stripBom_split (s : Bytes) : ∃ base, s = base ++ Doc.stripBom s := by
  unfold Doc.stripBom
  split
  · exact ⟨[0xEF, 0xBB, 0xBF], rfl⟩
  · exact ⟨[], rfl⟩

end TomlVerif.Lemmas.Tiling03
