import TomlVerif.Lemmas.Macro19Agree
import TomlVerif.Lemmas.InlineKeys01
/-! C19: a syntactic condition on value trees under which `refV` is defined, i.e. `table_from_pairs` accepts the
    entries of every inline table (`refV_of_WFs`): every literal evaluates, every key token is accepted by `concat!`,
    and within each inline table no full key is a prefix of (or equal to) another one — no duplicate keys, no
    dotted key through a defined key. -/
namespace TomlVerif.Lemmas.Macro19b
open TomlVerif TomlVerif.Model TomlVerif.Model.Macro TomlVerif.Lemmas.Macro19 TomlVerif.Model.Value
open TomlVerif.Lemmas.State09 TomlVerif.Lemmas.InlineKeys01

def keyPaths : List (MKey × MTree) → Option (List (List Bytes))
  | [] => some []
  | (k, _) :: r =>
    match k.path, keyPaths r with
    | some p, some ps => some (p :: ps)
    | _, _ => none

mutual
/-- `MTree.WF` is `refV` defined; `WFs` is the syntactic condition that implies it (`wf_of_WFs`) -/
def MTree.WFs : MTree → Prop
  | .leaf a => ∃ m, a.sem = .ok m
  | .arr items _ => WFsL items
  | .tbl es _ => WFsE es ∧ ∃ ps, keyPaths es = some ps ∧ ps.Pairwise Incomp
def WFsL : List MTree → Prop
  | [] => True
  | a :: r => a.WFs ∧ WFsL r
def WFsE : List (MKey × MTree) → Prop
  | [] => True
  | (_, a) :: r => a.WFs ∧ WFsE r
end

theorem key_path_ne (k : MKey) (ks : List Bytes) (h : k.path = some ks) : ks ≠ [] := by
  unfold MKey.path MKey.segs at h
  simp only [segsStr] at h
  split at h
  · simp at h; subst h; simp
  · simp at h

theorem mvalV_notImplicit (m : MVal) : NotImplicit (mvalV m) := by
  intro sub d h
  cases m <;> simp [mvalV] at h

mutual
theorem refV_of_WFs (a : MTree) : a.WFs → ∃ v, refV a = some v ∧ NotImplicit v := by
  intro h
  match a with
  | .leaf m =>
    obtain ⟨x, hx⟩ := h
    exact ⟨mvalV x, by simp [refV, hx], mvalV_notImplicit x⟩
  | .arr items tr =>
    simp only [MTree.WFs] at h
    obtain ⟨vs, hvs⟩ := refVs_of_WFsL items h
    exact ⟨.arr vs, by simp [refV, hvs], by intro sub d e; cases e⟩
  | .tbl es tr =>
    simp only [MTree.WFs] at h
    obtain ⟨he, ps, hps, hinc⟩ := h
    obtain ⟨pairs, hp1, hp2, hp3⟩ := refEs_of_WFsE es he ps hps
    obtain ⟨items, hit, _, _⟩ := tableFromPairs_ok pairs [] inv_nil hp3 (by rw [hp2]; exact hinc)
      (by intro e _ p hp; simp [leafKeys] at hp)
    exact ⟨.inl items false false, by simp [refV, hp1, hit], by intro sub d e; cases e⟩
theorem refVs_of_WFsL (l : List MTree) : WFsL l → ∃ vs, refVs l = some vs := by
  intro h
  match l with
  | [] => exact ⟨[], rfl⟩
  | a :: r =>
    simp only [WFsL] at h
    obtain ⟨v, hv, _⟩ := refV_of_WFs a h.1
    obtain ⟨vs, hvs⟩ := refVs_of_WFsL r h.2
    exact ⟨v :: vs, by simp [refVs, hv, hvs]⟩
theorem refEs_of_WFsE (l : List (MKey × MTree)) : WFsE l → ∀ ps, keyPaths l = some ps →
    ∃ pairs, refEs l = some pairs ∧ pairs.map fullKey = ps ∧ ∀ e ∈ pairs, NotImplicit e.2.2 := by
  intro h ps hps
  match l with
  | [] => simp [keyPaths] at hps; subst hps; exact ⟨[], rfl, rfl, by simp⟩
  | (k, a) :: r =>
    simp only [WFsE] at h
    simp only [keyPaths] at hps
    cases hk : k.path with
    | none => simp [hk] at hps
    | some ks =>
      cases hr : keyPaths r with
      | none => simp [hk, hr] at hps
      | some ps' =>
        simp [hk, hr] at hps; subst hps
        obtain ⟨v, hv, hni⟩ := refV_of_WFs a h.1
        obtain ⟨pairs, hp1, hp2, hp3⟩ := refEs_of_WFsE r h.2 ps' hr
        obtain ⟨p, key, hpk⟩ : ∃ p key, ks = p ++ [key] := by
          rcases List.eq_nil_or_concat ks with e | ⟨p, key, e⟩
          · exact absurd e (key_path_ne k ks hk)
          · exact ⟨p, key, by rw [e, List.concat_eq_append]⟩
        refine ⟨(p, key, v) :: pairs, ?_, ?_, ?_⟩
        · simp [refEs, hk, hpk, splitLast_append, hv, hp1]
        · simp [fullKey, hpk, hp2]
        · intro e he
          simp only [List.mem_cons] at he
          rcases he with he | he
          · subst he; exact hni
          · exact hp3 e he
end

theorem wf_of_WFs (a : MTree) (h : a.WFs) : a.WF := by
  obtain ⟨v, hv, _⟩ := refV_of_WFs a h
  simp [MTree.WF, hv]

end TomlVerif.Lemmas.Macro19b
