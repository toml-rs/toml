import TomlVerif.Lemmas.SerOf07
/-! C07, reading back: the repaired `toml::value::ValueSerializer` (`valSer ⟨true, true⟩`) refuses every typed
    value without a `toml::Value` inside (`hasValue ty = false`) that the document serializer refuses (`strict_err`):
    what it accepts is a supported value (`valSer_strict_ok`).

    Stated over typed values because on raw serde calls it is false: `valMap` takes any key that `valSer` turns into a
    string (a `char`, `Some(str)`), `serKey` / `unsupportedMap` do not; the maps of the type grammar have `str` keys only,
    which is what `valMap_err` asks for. -/
namespace TomlVerif.Lemmas.SerTyped07
open TomlVerif TomlVerif.Model TomlVerif.Model.TomlValue TomlVerif.Model.DeRoutes TomlVerif.Model.DeTyped
open TomlVerif.Model.SerTyped TomlVerif.Model.Ser TomlVerif.Spec TomlVerif.Spec.Serde
open TomlVerif.Lemmas.Ser07Text TomlVerif.Lemmas.Ser07

def strictFx : ValFix := ⟨true, true⟩

def IsErr {α} (e : Except SerErr α) : Prop := ∃ x, e = .error x

theorem valSeq_err (f : SVal → Prop) (hf : ∀ v, f v → unsupported v = true → IsErr (valSer strictFx v)) :
    ∀ vs : List SVal, (∀ v ∈ vs, f v) → unsupportedList vs = true → IsErr (valSeq strictFx vs)
  | [], _, h => by simp [unsupportedList] at h
  | v :: r, hall, h => by
    simp only [unsupportedList, Bool.or_eq_true] at h
    unfold valSeq
    cases hv : valSer strictFx v with
    | error e => exact ⟨e, rfl⟩
    | ok x =>
      have hr : unsupportedList r = true := by
        rcases h with h | h
        · obtain ⟨e, he⟩ := hf v (hall v (by simp)) h
          rw [hv] at he; cases he
        · exact h
      obtain ⟨e, he⟩ := valSeq_err f hf r (fun v' hv' => hall v' (by simp [hv'])) hr
      simp only [he]
      exact ⟨e, rfl⟩

theorem mem_mapO {α β} (f : α → Option β) : ∀ (l : List α) (vs : List β), mapO f l = some vs →
    ∀ b ∈ vs, ∃ a ∈ l, f a = some b
  | [], vs, h, b, hb => by simp only [mapO, Option.some.injEq] at h; subst h; simp at hb
  | a :: r, vs, h, b, hb => by
    obtain ⟨b', l', rfl, hb', hl⟩ := mapO_cons f a r vs h
    rcases List.mem_cons.1 hb with rfl | hb
    · exact ⟨a, by simp, hb'⟩
    · obtain ⟨a', ha', h'⟩ := mem_mapO f r l' hl b hb
      exact ⟨a', by simp [ha'], h'⟩

theorem valMap_err (f : SVal → Prop) (hf : ∀ v, f v → unsupported v = true → IsErr (valSer strictFx v)) :
    ∀ (kvs : List (SVal × SVal)) (acc : List (Bytes × V)), (∀ kv ∈ kvs, (∃ s, kv.1 = .str s) ∧ f kv.2) →
      unsupportedMap kvs = true → IsErr (valMap strictFx kvs acc)
  | [], _, _, h => by simp [unsupportedMap] at h
  | (k, v) :: r, acc, hall, h => by
    obtain ⟨⟨s, hk⟩, hfv⟩ := hall (k, v) (by simp)
    simp only at hk hfv
    subst hk
    have hall' : ∀ kv ∈ r, (∃ s, kv.1 = .str s) ∧ f kv.2 := fun kv hkv => hall kv (by simp [hkv])
    by_cases hn : v = .none
    · subst hn
      have e0 : valMap strictFx ((SVal.str s, SVal.none) :: r) acc = valMap strictFx r acc := rfl
      rw [e0]
      exact valMap_err f hf r acc hall' (by simpa [unsupportedMap, expectedKey] using h)
    · have h' : unsupported v = true ∨ unsupportedMap r = true := by
        simpa [unsupportedMap_cons _ r hn, expectedKey] using h
      rw [valMap_cons strictFx _ r acc hn]
      simp only [valSer, strOfV]
      cases hv : valSer strictFx v with
      | error e => cases e <;> exact ⟨_, rfl⟩
      | ok x =>
        have hr : unsupportedMap r = true := by
          rcases h' with h' | h'
          · obtain ⟨e, he⟩ := hf v hfv h'
            rw [hv] at he; cases he
          · exact h'
        exact valMap_err f hf r _ hall' hr

mutual
theorem strict_err (nm : Bytes) (hnm : (nm == dtName) = false) : ∀ (ty : Ty) (d : Dec) (v : SVal),
    hasValue ty = false → serOf nm ty d = some v → unsupported v = true → IsErr (valSer strictFx v)
  | .bool, d, v, _, h, hu | .f64, d, v, _, h, hu | .f32, d, v, _, h, hu | .string, d, v, _, h, hu
  | .char, d, v, _, h, hu => by cases serOf_step h; simp [unsupported] at hu
  | .int _ _, d, v, _, h, hu => by
    cases serOf_step h
    simp only [valSer]
    split
    · exact ⟨_, rfl⟩
    · split
      · exact ⟨_, rfl⟩
      · rename_i h1 h2
        simp only [Bool.not_eq_true] at h1 h2
        simp [unsupported, intOk, h1, h2] at hu
  | .unit, d, v, _, h, _ => by cases serOf_step h; exact ⟨_, rfl⟩
  | .datetime, d, v, _, h, hu | .date, d, v, _, h, hu | .time, d, v, _, h, hu => by
    cases serOf_step h
    simp [unsupported, badDatetimeFields, hasDtField] at hu
    simp [valSer, valFields, strictFx, aset, alookup, valDatetime, hu]; exact ⟨_, rfl⟩
  | .value, _, _, hv, _, _ => by simp [hasValue] at hv
  | .ignored, d, v, _, h, _ => by cases serOf_step h
  | .option t, d, v, hv, h, hu => by
    cases serOf_step h with
    | none => exact ⟨_, rfl⟩
    | some _ d' v' hv' =>
      simp only [unsupported] at hu
      simp only [valSer]
      exact strict_err nm hnm t d' v' (by simpa [hasValue] using hv) hv' hu
  | .newtype t, d, v, hv, h, hu => by
    cases serOf_step h
    rename_i d' v' hv'
    simp only [unsupported] at hu
    simp only [valSer]
    exact strict_err nm hnm t _ v' (by simpa [hasValue] using hv) hv' hu
  | .seq t, d, v, hv, h, hu => by
    cases serOf_step h
    rename_i l vs hvs
    simp only [unsupported] at hu
    obtain ⟨e, he⟩ := valSeq_err (fun v' => ∃ d', serOf nm t d' = some v')
      (fun v' ⟨d', hd'⟩ hu' => strict_err nm hnm t d' v' (by simpa [hasValue] using hv) hd' hu') vs
      (fun v' hv' => by obtain ⟨a, _, ha⟩ := mem_mapO _ l vs hvs v' hv'; exact ⟨a, ha⟩) hu
    simp only [valSer, he]; exact ⟨_, rfl⟩
  | .tuple ts, d, v, hv, h, hu => by
    cases serOf_step h
    rename_i l vs hvs
    simp only [unsupported] at hu
    obtain ⟨e, he⟩ := strict_err_tys nm hnm ts _ vs (by simpa [hasValue] using hv) hvs hu
    simp only [valSer, he]; exact ⟨_, rfl⟩
  | .map t, d, v, hv, h, hu => by
    cases serOf_step h
    rename_i l kvs hkvs
    simp only [unsupported] at hu
    obtain ⟨e, he⟩ := valMap_err (fun v' => ∃ d', serOf nm t d' = some v')
      (fun v' ⟨d', hd'⟩ hu' => strict_err nm hnm t d' v' (by simpa [hasValue] using hv) hd' hu') kvs []
      (fun kv hkv => by
        obtain ⟨a, _, ha⟩ := mem_mapO _ l kvs hkvs kv hkv
        simp only [Option.map_eq_some_iff] at ha
        obtain ⟨v', hv', rfl⟩ := ha
        exact ⟨⟨_, rfl⟩, a.2, hv'⟩) hu
    simp only [valSer, he]; exact ⟨_, rfl⟩
  | .struct fs, d, v, hv, h, hu => by
    cases serOf_step h
    rename_i l fields hf
    simp only [unsupported, hnm, Bool.false_eq_true, if_false] at hu
    obtain ⟨e, he⟩ := strict_err_fields nm hnm fs _ fields [] (by simpa [hasValue] using hv) hf hu
    simp only [valSer, he]; exact ⟨_, rfl⟩
  | .enum vs, d, v, hv, h, hu => by
    simp only [serOf] at h
    exact strict_err_variants nm hnm vs d v (by simpa [hasValue] using hv) h hu
theorem strict_err_tys (nm : Bytes) (hnm : (nm == dtName) = false) : ∀ (ts : Tys) (l : List Dec) (vs : List SVal),
    hasValueTys ts = false → serOfTys nm ts l = some vs → unsupportedList vs = true → IsErr (valSeq strictFx vs)
  | .nil, l, vs, _, h, hu => by rw [(serOfTys_nil h).2] at hu; simp [unsupportedList] at hu
  | .cons t r, l, vs, hv, h, hu => by
    simp only [hasValueTys, Bool.or_eq_false_iff] at hv
    obtain ⟨d, l, v, vs', rfl, rfl, h1, h2⟩ := serOfTys_cons h
    simp only [unsupportedList, Bool.or_eq_true] at hu
    unfold valSeq
    cases hq : valSer strictFx v with
    | error e => exact ⟨e, rfl⟩
    | ok x =>
      have hr : unsupportedList vs' = true := by
        rcases hu with hu | hu
        · obtain ⟨e, he⟩ := strict_err nm hnm t d v hv.1 h1 hu
          rw [hq] at he; cases he
        · exact hu
      obtain ⟨e, he⟩ := strict_err_tys nm hnm r l vs' hv.2 h2 hr
      simp only [he]; exact ⟨e, rfl⟩
theorem strict_err_fields (nm : Bytes) (hnm : (nm == dtName) = false) : ∀ (fs : Fields) (l : List (Bytes × Dec))
    (fields : List (Bytes × SVal)) (acc : List (Bytes × V)), hasValueFields fs = false →
    serOfFields nm fs l = some fields → unsupportedFields fields = true → IsErr (valFields strictFx fields acc)
  | .nil, l, vs, _, _, h, hu => by rw [(serOfFields_nil h).2] at hu; simp [unsupportedFields] at hu
  | .cons name t dflt r, l, vs, acc, hv, h, hu => by
    simp only [hasValueFields, Bool.or_eq_false_iff] at hv
    obtain ⟨k, d, l, v, vs', rfl, rfl, h1, h2⟩ := serOfFields_cons h
    by_cases hn : v = .none
    · subst hn
      have e0 : valFields strictFx ((name, SVal.none) :: vs') acc = valFields strictFx vs' acc := rfl
      rw [e0]
      exact strict_err_fields nm hnm r l vs' acc hv.2 h2 (by simpa [unsupportedFields] using hu)
    · rw [unsupportedFields_cons name vs' hn, Bool.or_eq_true] at hu
      rw [valFields_cons strictFx name vs' acc hn]
      cases hq : valSer strictFx v with
      | error e => cases e <;> exact ⟨_, rfl⟩
      | ok x =>
        have hr : unsupportedFields vs' = true := by
          rcases hu with hu | hu
          · obtain ⟨e, he⟩ := strict_err nm hnm t d v hv.1 h1 hu
            rw [hq] at he; cases he
          · exact hu
        exact strict_err_fields nm hnm r l vs' _ hv.2 h2 hr
theorem strict_err_shape (nm : Bytes) (hnm : (nm == dtName) = false) : ∀ (s : Shape) (n : Bytes) (d : Dec) (v : SVal),
    hasValueShape s = false → serOfShape nm s n d = some v → unsupported v = true → IsErr (valSer strictFx v)
  | .unit, n, d, v, _, h, hu => by cases serOfShape_step h; simp [unsupported] at hu
  | .newtype t, n, d, v, hv, h, hu => by
    cases serOfShape_step h
    rename_i d' v' hv'
    simp only [unsupported] at hu
    obtain ⟨e, he⟩ := strict_err nm hnm t _ v' (by simpa [hasValueShape] using hv) hv' hu
    simp only [valSer, he]; exact ⟨_, rfl⟩
  | .tuple ts, n, d, v, hv, h, hu => by
    cases serOfShape_step h
    rename_i l vs hvs
    simp only [unsupported] at hu
    obtain ⟨e, he⟩ := strict_err_tys nm hnm ts _ vs (by simpa [hasValueShape] using hv) hvs hu
    simp only [valSer, he]; exact ⟨_, rfl⟩
  | .struct fs, n, d, v, hv, h, hu => by
    cases serOfShape_step h
    rename_i l fields hf
    simp only [unsupported] at hu
    obtain ⟨e, he⟩ := strict_err_fields nm hnm fs _ fields [] (by simpa [hasValueShape] using hv) hf hu
    simp only [valSer, he]; exact ⟨_, rfl⟩
theorem strict_err_variants (nm : Bytes) (hnm : (nm == dtName) = false) : ∀ (vs : Variants) (d : Dec) (v : SVal),
    hasValueVariants vs = false → serOfVariants nm vs d = some v → unsupported v = true → IsErr (valSer strictFx v)
  | .nil, d, v, _, h, _ => by simp [serOfVariants] at h
  | .cons name s r, d, v, hv, h, hu => by
    simp only [hasValueVariants, Bool.or_eq_false_iff] at hv
    rcases serOfVariants_cons h with h | h
    · exact strict_err_shape nm hnm s name d v hv.1 h hu
    · exact strict_err_variants nm hnm r d v hv.2 h hu
end

theorem valSer_strict_ok (nm : Bytes) (hnm : (nm == dtName) = false) (ty : Ty) (d : Dec) (v : SVal) (x : V)
    (hv : hasValue ty = false) (hs : serOf nm ty d = some v) (h : valSer strictFx v = .ok x) :
    unsupported v = false := by
  cases hu : unsupported v with
  | false => rfl
  | true =>
    obtain ⟨e, he⟩ := strict_err nm hnm ty d v hv hs hu
    cases he.symm.trans h

end TomlVerif.Lemmas.SerTyped07
