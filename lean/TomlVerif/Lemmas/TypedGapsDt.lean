import TomlVerif.Lemmas.TypedGapsValue
/-! C07, reading back, `toml::Value` inside a typed value: the date-time structs among the serde calls of a typed
    value are those `toml_datetime` produces, `toml::Value` leaves included. -/
namespace TomlVerif.Lemmas.TypedGaps
open TomlVerif TomlVerif.Model TomlVerif.Model.TomlValue TomlVerif.Model.DeRoutes TomlVerif.Model.DeTyped
open TomlVerif.Model.SerTyped TomlVerif.Model.Ser TomlVerif.Spec TomlVerif.Spec.Serde
open TomlVerif.Lemmas.Ser07Text TomlVerif.Lemmas.Ser07
open TomlVerif.Lemmas.SerTyped07
open TomlVerif.Lemmas.RoundTrip17 (mem_serOrder)

theorem dtShapeMap_leaf : ∀ M : List (Bytes × TV), (∀ e ∈ M, dtShape true (svalOfSer (serCalls e.2)) = true) →
    dtShapeMap true (svalOfSerMap (M.map fun e => (e.1, serCalls e.2))) = true
  | [], _ => rfl
  | (k, v) :: r, h => by
    simp only [List.map_cons, svalOfSerMap, dtShapeMap, Bool.and_eq_true]
    exact ⟨h (k, v) (by simp), dtShapeMap_leaf r (fun e he => h e (by simp [he]))⟩

mutual
theorem dtShape_leaf : ∀ v : TV, dtShape true (svalOfSer (serCalls v)) = true
  | .str _ => rfl
  | .int _ => rfl
  | .float _ => rfl
  | .bool _ => rfl
  | .dt d => by
    simp [serCalls, svalOfSer, svalOfSerFields, dtShape, isDtFields, ← dtName_eq, ← dtField_eq]
  | .arr l => by
    simp only [serCalls, svalOfSer, dtShape]
    exact dtShape_leafList l
  | .tbl items => by
    simp only [serCalls, svalOfSer, dtShape, serOrderSer_serCallsPairs]
    exact dtShapeMap_leaf _ (fun e he => dtShape_leafPairs items e ((mem_serOrder items e).1 he))
theorem dtShape_leafList : ∀ l : List TV, dtShapeList true (svalOfSerList (serCallsList l)) = true
  | [] => rfl
  | v :: r => by
    simp only [serCallsList, svalOfSerList, dtShapeList, Bool.and_eq_true]
    exact ⟨dtShape_leaf v, dtShape_leafList r⟩
theorem dtShape_leafPairs : ∀ l : List (Bytes × TV), ∀ e ∈ l, dtShape true (svalOfSer (serCalls e.2)) = true
  | [], e, he => by cases he
  | (k, a) :: r, e, he => by
    rcases List.mem_cons.1 he with he | he
    · rw [he]; exact dtShape_leaf a
    · exact dtShape_leafPairs r e he
end

mutual
theorem serOf_wfDatetimeV (nm : Bytes) (hnm : (nm == dtName) = false) : ∀ (ty : Ty) (d : Dec) (v : SVal),
    serOf nm ty d = some v → dtShape true v = true
  | .bool, d, v, h | .int _ _, d, v, h | .f64, d, v, h | .f32, d, v, h | .string, d, v, h | .char, d, v, h
  | .unit, d, v, h => by cases serOf_step h; rfl
  | .datetime, d, v, h | .date, d, v, h | .time, d, v, h => by cases serOf_step h; simp [dtShape, isDtFields]
  | .value, d, v, h => by cases serOf_step h; exact dtShape_leaf _
  | .ignored, d, v, h => by cases serOf_step h
  | .option t, d, v, h => by
    cases serOf_step h with
    | none => rfl
    | some _ d' v' hv' => rw [dtShape]; exact serOf_wfDatetimeV nm hnm t d' v' hv'
  | .newtype t, d, v, h => by
    cases serOf_step h with
    | newtype _ d' v' hv' => rw [dtShape]; exact serOf_wfDatetimeV nm hnm t d' v' hv'
  | .seq t, d, v, h => by
    cases serOf_step h with
    | seq _ l vs hvs =>
      rw [dtShape]
      exact dtShapeList_mapO _ (fun a v' ha => serOf_wfDatetimeV nm hnm t a v' ha) l vs hvs
  | .tuple ts, d, v, h => by
    cases serOf_step h with
    | tuple _ l vs hvs => rw [dtShape]; exact serOfTys_wfV nm hnm ts l vs hvs
  | .map t, d, v, h => by
    cases serOf_step h with
    | map _ l kvs hkvs =>
      rw [dtShape]
      refine dtShapeMap_mapO _ ?_ l kvs hkvs
      intro a kv ha
      obtain ⟨v', hv', rfl⟩ := Option.map_eq_some_iff.1 ha
      exact serOf_wfDatetimeV nm hnm t a.2 v' hv'
  | .struct fs, d, v, h => by
    cases serOf_step h with
    | struct _ l fields hf =>
      rw [dtShape, if_neg (by rw [hnm]; exact Bool.false_ne_true)]
      exact serOfFields_wfV nm hnm fs l fields hf
  | .enum vs, d, v, h => by
    cases serOf_step h with
    | enum _ _ _ h' => exact serOfVariants_wfV nm hnm vs d v h'
theorem serOfTys_wfV (nm : Bytes) (hnm : (nm == dtName) = false) : ∀ (ts : Tys) (l : List Dec) (vs : List SVal),
    serOfTys nm ts l = some vs → dtShapeList true vs = true
  | .nil, l, vs, h => by rw [(serOfTys_nil h).2]; rfl
  | .cons t r, l, vs, h => by
    obtain ⟨d, l', v, vs', rfl, rfl, h1, h2⟩ := serOfTys_cons h
    simp [dtShapeList, serOf_wfDatetimeV nm hnm t d v h1, serOfTys_wfV nm hnm r l' vs' h2]
theorem serOfFields_wfV (nm : Bytes) (hnm : (nm == dtName) = false) : ∀ (fs : Fields) (l : List (Bytes × Dec))
    (fields : List (Bytes × SVal)), serOfFields nm fs l = some fields →
    dtShapeFields true fields = true
  | .nil, l, vs, h => by rw [(serOfFields_nil h).2]; rfl
  | .cons name t dflt r, l, vs, h => by
    obtain ⟨k, d, l', v, vs', rfl, rfl, h1, h2⟩ := serOfFields_cons h
    simp [dtShapeFields, serOf_wfDatetimeV nm hnm t d v h1, serOfFields_wfV nm hnm r l' vs' h2]
theorem serOfShape_wfV (nm : Bytes) (hnm : (nm == dtName) = false) : ∀ (s : Shape) (n : Bytes) (d : Dec) (v : SVal),
    serOfShape nm s n d = some v → dtShape true v = true
  | .unit, n, d, v, h => by cases serOfShape_step h; rfl
  | .newtype t, n, d, v, h => by
    cases serOfShape_step h with
    | newtype _ _ _ d' v' hv' => rw [dtShape]; exact serOf_wfDatetimeV nm hnm t d' v' hv'
  | .tuple ts, n, d, v, h => by
    cases serOfShape_step h with
    | tuple _ _ _ l vs hvs => rw [dtShape]; exact serOfTys_wfV nm hnm ts l vs hvs
  | .struct fs, n, d, v, h => by
    cases serOfShape_step h with
    | struct _ _ _ l fields hf => rw [dtShape]; exact serOfFields_wfV nm hnm fs l fields hf
theorem serOfVariants_wfV (nm : Bytes) (hnm : (nm == dtName) = false) : ∀ (vs : Variants) (d : Dec) (v : SVal),
    serOfVariants nm vs d = some v → dtShape true v = true
  | .nil, d, v, h => by simp [serOfVariants] at h
  | .cons name s r, d, v, h => by
    rcases serOfVariants_cons h with h | h
    · exact serOfShape_wfV nm hnm s name d v h
    · exact serOfVariants_wfV nm hnm r d v h
end

end TomlVerif.Lemmas.TypedGaps

namespace TomlVerif.Lemmas.SerTyped07
open TomlVerif TomlVerif.Model TomlVerif.Model.DeTyped TomlVerif.Model.SerTyped TomlVerif.Spec TomlVerif.Spec.Serde
open TomlVerif.Lemmas.TypedGaps

theorem serOfFields_wf (nm : Bytes) (hnm : (nm == dtName) = false) : ∀ (fs : Fields) (l : List (Bytes × Dec))
    (fields : List (Bytes × SVal)), hasValueFields fs = false → serOfFields nm fs l = some fields →
    dtShapeFields true fields = true :=
  fun fs l fields _ h => serOfFields_wfV nm hnm fs l fields h
theorem serOfShape_wf (nm : Bytes) (hnm : (nm == dtName) = false) : ∀ (s : Shape) (n : Bytes) (d : Dec) (v : SVal),
    hasValueShape s = false → serOfShape nm s n d = some v → dtShape true v = true :=
  fun s n d v _ h => serOfShape_wfV nm hnm s n d v h
theorem serOfVariants_wf (nm : Bytes) (hnm : (nm == dtName) = false) : ∀ (vs : Variants) (d : Dec) (v : SVal),
    hasValueVariants vs = false → serOfVariants nm vs d = some v → dtShape true v = true :=
  fun vs d v _ h => serOfVariants_wfV nm hnm vs d v h

end TomlVerif.Lemmas.SerTyped07
