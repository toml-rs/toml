import TomlVerif.Lemmas.RoundTrip17Lines
import TomlVerif.Lemmas.TomlValue17
import TomlVerif.Model.DeText
import TomlVerif.Lemmas.Ser07Text
/-! Round trip of `toml::Value` trees, the printed document as statements. The printer emits sections in the sense of
    `Lemmas/Sections.lean` (`subs_emit`, `entry_emit`, `elems_emit`: an induction along `emitSubs` / `emitItem` /
    `emitAot` that does not mention the state machine), so the definition state machine accepts the statements of
    `emitDoc` and builds a table which, read as plain data (`dataTbl`), is the tree in document order `docTbl`: every
    table's own values first, then its sub-tables and arrays of tables (`run_emitDocD`). What the deserializer
    presents of a table is a function of its data (`presV`). -/
namespace TomlVerif.Lemmas.RoundTrip17
open TomlVerif.Model.DeText
open TomlVerif TomlVerif.Spec TomlVerif.Model TomlVerif.Model.TomlValue TomlVerif.Model.DeRoutes
open TomlVerif.Model.State
open TomlVerif.Lemmas.State09 TomlVerif.Lemmas.Encode06d TomlVerif.Lemmas.StmtBlocks

mutual
/-- the sub-tables and arrays of tables of a table, each again with its own values first -/
def docSubs : List (Bytes × TV) → List (Bytes × TV)
  | [] => []
  | (k, v) :: r => docItem k v ++ docSubs r
def docItem (k : Bytes) : TV → List (Bytes × TV)
  | .tbl items => [(k, .tbl (ownValues items ++ docSubs items))]
  | .arr l => if isAotList l then [(k, .arr (docAot l))] else []
  | _ => []
def docAot : List TV → List TV
  | [] => []
  | .tbl items :: r => .tbl (ownValues items ++ docSubs items) :: docAot r
  | _ :: r => docAot r
end

def docTbl (items : List (Bytes × TV)) : List (Bytes × TV) := ownValues items ++ docSubs items

/-- the entries printed as `[table]` / `[[array]]` sections -/
def subsOf (items : List (Bytes × TV)) : List (Bytes × TV) := items.filter fun e => !(kindOf e.2 == .value)

def subKeys (items : List (Bytes × TV)) : List Bytes := (subsOf items).map Prod.fst

theorem subKeys_sub (items : List (Bytes × TV)) (k : Bytes) (h : k ∈ subKeys items) : k ∈ items.map Prod.fst := by
  simp only [subKeys, subsOf, List.mem_map, List.mem_filter] at h
  obtain ⟨e, ⟨he, _⟩, rfl⟩ := h
  exact List.mem_map_of_mem he

theorem presOfTbls_append (a b : List Tbl) : presOfTbls (a ++ b) = presOfTbls a ++ presOfTbls b := by
  induction a with
  | nil => rfl
  | cons x r ih => simp [presOfTbls, ih]

theorem kvRun_eq (l : List (Bytes × TV)) :
    (l.map fun e => TomlValue.Stmt.kv e.1 e.2).map stmtOf = kvRun (valOfPairs l) := by
  induction l with
  | nil => rfl
  | cons x r ih => obtain ⟨k, v⟩ := x; simp [stmtOf, kvRun, valOfPairs] at ih ⊢; exact ih

theorem ownKvs_stmts (items : List (Bytes × TV)) : (ownKvs items).map stmtOf = kvRun (valOfPairs (ownValues items)) :=
  kvRun_eq (ownValues items)

theorem keys_split (items : List (Bytes × TV)) (hn : (items.map Prod.fst).Nodup) :
    (subKeys items).Nodup ∧ ((ownValues items).map Prod.fst).Nodup ∧
    (∀ k ∈ subKeys items, k ∉ (ownValues items).map Prod.fst) :=
  Sections.filter_keys_split (fun e => kindOf e.2 == .value) items hn

theorem emitItem_value (path : List Bytes) (v : TV) (h : (kindOf v == .value) = true) : emitItem path v = [] := by
  cases v with
  | tbl items => simp [kindOf] at h
  | arr l =>
    rw [emitItem]
    simp only [kindOf] at h
    split
    · rename_i hc; simp [hc] at h
    · rfl
  | _ => simp [emitItem]

theorem docItem_value (k : Bytes) (v : TV) (h : (kindOf v == .value) = true) : docItem k v = [] := by
  cases v with
  | tbl items => simp [kindOf] at h
  | arr l =>
    rw [docItem]
    simp only [kindOf] at h
    split
    · rename_i hc; simp [hc] at h
    · rfl
  | _ => simp [docItem]

end TomlVerif.Lemmas.RoundTrip17

namespace TomlVerif.Lemmas.Ser07TextF
open TomlVerif.Model.DeText
open TomlVerif TomlVerif.Spec TomlVerif.Spec.Serde TomlVerif.Model TomlVerif.Model.TomlValue TomlVerif.Model.DeRoutes
open TomlVerif.Model.State
open TomlVerif.Lemmas.State09 TomlVerif.Lemmas.Encode06d TomlVerif.Lemmas.StmtBlocks
open TomlVerif.Lemmas.RoundTrip17 TomlVerif.Lemmas.Ser07Text TomlVerif.Lemmas.Sections


mutual
def vOf : TV → V
  | .str s => .sc (.str s)
  | .int n => .sc (.int n)
  | .float b => .sc (.float b)
  | .bool b => .sc (.bool b)
  | .dt d => .sc (.dt d)
  | .arr l => .arr (vOfList l)
  | .tbl items => .inl (vOfPs items)
def vOfList : List TV → List V
  | [] => []
  | v :: r => vOf v :: vOfList r
def vOfPs : List (Bytes × TV) → List (Bytes × V)
  | [] => []
  | (k, v) :: r => (k, vOf v) :: vOfPs r
end

mutual
theorem dataVal_valOf : ∀ v : TV, dataVal (valOf v) = vOf v
  | .str _ | .int _ | .float _ | .bool _ | .dt _ => by simp [valOf, dataVal, vOf]
  | .arr l => by simp [valOf, dataVal, vOf, dataVals_valOf l]
  | .tbl items => by simp [valOf, dataVal, vOf, dataPairs_valOf items]
theorem dataVals_valOf : ∀ l : List TV, dataVals (valOfList l) = vOfList l
  | [] => by simp [valOfList, dataVals, vOfList]
  | v :: r => by simp [valOfList, dataVals, vOfList, dataVal_valOf v, dataVals_valOf r]
theorem dataPairs_valOf : ∀ l : List (Bytes × TV), dataPairs (valOfPairs l) = vOfPs l
  | [] => by simp [valOfPairs, dataPairs, vOfPs]
  | (k, v) :: r => by simp [valOfPairs, dataPairs, vOfPs, dataVal_valOf v, dataPairs_valOf r]
end

theorem dataItems_valItemsV (l : List (Bytes × TV)) : dataItems (valItemsV (valOfPairs l)) = vOfPs l := by
  induction l with
  | nil => simp [valItemsV, valOfPairs, dataItems, vOfPs]
  | cons x r ih => obtain ⟨k, v⟩ := x; simp [valItemsV, valOfPairs, dataItems, dataItem, vOfPs, dataVal_valOf, ih]

theorem dataItems_append (a b : List (Bytes × Item)) : dataItems (a ++ b) = dataItems a ++ dataItems b := by
  induction a with
  | nil => rfl
  | cons x r ih => obtain ⟨k, i⟩ := x; simp [dataItems, ih]

theorem vOfPs_append (a b : List (Bytes × TV)) : vOfPs (a ++ b) = vOfPs a ++ vOfPs b := by
  induction a with
  | nil => rfl
  | cons x r ih => obtain ⟨k, i⟩ := x; simp [vOfPs, ih]

theorem dataTbls_append (a b : List Tbl) : dataTbls (a ++ b) = dataTbls a ++ dataTbls b := by
  induction a with
  | nil => rfl
  | cons x r ih => simp [dataTbls, ih]


/-- one entry printed as a table or as an array of tables, below tables `R` that may not exist yet -/
def ClaimItemD (v : TV) : Prop :=
  ∀ st V U A R key, intoDocument st = some V → lookupTbl V A = some U → alookup (headKey R key) U.items = none →
    ∃ st' I, run st ((emitItem (A ++ R ++ [key]) v).map stmtOf) = some st' ∧
      intoDocument st' = descend V A false (appendF [nest R key I]) ∧
      dataItems [(key, I)] = vOfPs (docItem key v)

/-- further elements of an array of tables -/
def ClaimAotMoreD (l : List TV) : Prop :=
  ∀ st V W P key pre, intoDocument st = some V → lookupTbl V P = some W → alookup key W.items = some (.aot pre) →
    ∃ st' ts', run st ((emitAot (P ++ [key]) l).map stmtOf) = some st' ∧
      intoDocument st' = descend V P false (setF key (.aot (pre ++ ts'))) ∧ dataTbls ts' = vOfList (docAot l)

theorem sect_of (items : List (Bytes × TV)) (hn : (items.map Prod.fst).Nodup) (its : List (Bytes × Item))
    (hk : its.map Prod.fst = subKeys items) : Sect (valOfPairs (ownValues items)) its := by
  obtain ⟨_, h2, h3⟩ := keys_split items hn
  rw [Sect, keys_valOfPairs, hk]
  exact ⟨h2, h3⟩

theorem data_tblE (items : List (Bytes × TV)) (its : List (Bytes × Item)) (hd : dataItems its = vOfPs (docSubs items)) :
    dataTbl (tblE (valIts (valOfPairs (ownValues items)) ++ its)) = vOfPs (ownValues items ++ docSubs items) := by
  rw [tblE, dataTbl, dataItems_append, vOfPs_append, valIts, dataItems_erase, dataItems_valItemsV, hd]

theorem emitItem_visible (path : List Bytes) (hne : path ≠ []) (items : List (Bytes × TV))
    (hvis : (!items.isEmpty && (ownValues items).isEmpty) = false) :
    (emitItem path (.tbl items)).map stmtOf =
      State09.Stmt.std path :: kvRun (valOfPairs (ownValues items)) ++ (emitSubs path items).map stmtOf := by
  rw [emitItem, tableStmts, TomlValue17.headerOf_of_ne hne, hvis]
  simp [stmtOf, ownKvs_stmts]

/-- a table whose header is hidden: not empty, no values of its own -/
theorem emitItem_hidden (path : List Bytes) (hne : path ≠ []) (items : List (Bytes × TV)) (h1 : items ≠ [])
    (h2 : ownValues items = []) : emitItem path (.tbl items) = emitSubs path items := by
  have hie : items.isEmpty = false := by simpa using h1
  rw [emitItem, tableStmts, TomlValue17.headerOf_of_ne hne]
  simp [ownKvs, h2, hie]

theorem emitAot_tbl (path : List Bytes) (hne : path ≠ []) (items : List (Bytes × TV)) (r : List TV) :
    (emitAot path (.tbl items :: r)).map stmtOf =
      State09.Stmt.arr path :: kvRun (valOfPairs (ownValues items)) ++ (emitSubs path items).map stmtOf ++
        (emitAot path r).map stmtOf := by
  rw [emitAot, tableStmts, TomlValue17.headerOf_of_ne hne]
  simp [stmtOf, ownKvs_stmts]

theorem subKeys_ne_nil (items : List (Bytes × TV)) (h1 : items ≠ []) (h2 : ownValues items = []) : subKeys items ≠ [] := by
  cases items with
  | nil => exact absurd rfl h1
  | cons x r =>
    cases hx : kindOf x.2 == .value with
    | true => simp [ownValues, hx] at h2
    | false => simp [subKeys, subsOf, hx]

theorem docAot_ne_nil (l : List TV) (h : isAotList l = true) : docAot l ≠ [] := by
  cases l with
  | nil => simp [isAotList] at h
  | cons v r => cases v <;> simp_all [isAotList, TV.isTable, docAot]

theorem data_table (k : Bytes) (items : List (Bytes × TV)) (T : Tbl)
    (h : dataTbl T = vOfPs (ownValues items ++ docSubs items)) :
    dataItems [(k, .table T)] = vOfPs (docItem k (.tbl items)) := by
  simp [dataItems, dataItem, docItem, vOfPs, vOf, h]

-- of `OkF fl` only the distinct keys are used: the float printer does not matter for the sections
mutual
theorem subs_emit (fl : FloatText) : ∀ (items : List (Bytes × TV)) (P : List Bytes), OkFPs fl items →
    (items.map Prod.fst).Nodup →
    ∃ its, Subs P ((emitSubs P items).map stmtOf) its ∧ its.map Prod.fst = subKeys items ∧
      dataItems its = vOfPs (docSubs items)
  | [], P, _, _ => ⟨[], Subs.nil P, rfl, rfl⟩
  | (k, v) :: r, P, h, hn => by
    rw [OkFPs] at h
    rw [List.map_cons, List.nodup_cons] at hn
    obtain ⟨its, h1, h2, h3⟩ := subs_emit fl r P h.2 hn.2
    cases hv : kindOf v == .value with
    | true =>
      refine ⟨its, ?_, by simp [subKeys, subsOf, hv, h2], ?_⟩
      · rw [emitSubs, emitItem_value _ v hv]; exact h1
      · rw [docSubs, docItem_value k v hv]; exact h3
    | false =>
      obtain ⟨i, hi, hd⟩ := entry_emit fl v (P ++ [k]) h.1 hv (by simp)
      refine ⟨(k, i) :: its, ?_, by simp [subKeys, subsOf, hv, h2], ?_⟩
      · rw [emitSubs, List.map_append]
        exact Subs.cons hi h1 fun hm => hn.1 (subKeys_sub r k (h2 ▸ hm))
      · rw [docSubs, vOfPs_append, ← h3, ← hd k]; rfl
theorem entry_emit (fl : FloatText) : ∀ (v : TV) (path : List Bytes), OkF fl v → (kindOf v == .value) = false →
    path ≠ [] → ∃ i, Entry path ((emitItem path v).map stmtOf) i ∧ ∀ k, dataItems [(k, i)] = vOfPs (docItem k v)
  | .tbl items, path, h, _, hne => by
    rw [OkF] at h
    obtain ⟨its, h1, h2, h3⟩ := subs_emit fl items path h.1 h.2.1
    cases hvis : (!items.isEmpty && (ownValues items).isEmpty) with
    | false =>
      refine ⟨.table (tblE (valIts (valOfPairs (ownValues items)) ++ its)), ?_,
        fun k => data_table k items _ (data_tblE items its h3)⟩
      rw [emitItem_visible path hne items hvis]
      exact Entry.table (sect_of items h.2.1 its h2) h1
    | true =>
      simp only [Bool.and_eq_true, Bool.not_eq_eq_eq_not, Bool.not_true, List.isEmpty_eq_false_iff,
        List.isEmpty_iff] at hvis
      refine ⟨.table (tblE its), ?_, fun k => data_table k items _ (by rw [tblE, dataTbl, hvis.2, h3]; rfl)⟩
      rw [emitItem_hidden path hne items hvis.1 hvis.2]
      refine Entry.hidden (fun e0 => subKeys_ne_nil items hvis.1 hvis.2 ?_) h1
      rw [← h2, e0]; rfl
  | .arr l, path, h, hk, hne => by
    rw [OkF] at h
    have haot : isAotList l = true := by
      cases ha : isAotList l with
      | false => simp [kindOf, ha] at hk
      | true => rfl
    obtain ⟨ts, h4, h5⟩ := elems_emit fl l path h hne
    -- `Elems` also relates the empty array to no tables; that there is an element is read off the data,
    -- since `elems_emit` says nothing else about the length of `ts`
    refine ⟨.aot ts, ?_, fun k => by simp [docItem, haot, dataItems, dataItem, vOfPs, vOf, h5]⟩
    rw [emitItem, if_pos haot]
    refine Entry.aot (fun e0 => docAot_ne_nil l haot ?_) h4
    rw [e0] at h5
    cases hd : docAot l with
    | nil => rfl
    | cons x y => rw [hd] at h5; simp [dataTbls, vOfList] at h5
  | .str _, _, _, hk, _ | .int _, _, _, hk, _ | .float _, _, _, hk, _ | .bool _, _, _, hk, _ | .dt _, _, _, hk, _ => by
    simp [kindOf] at hk
theorem elems_emit (fl : FloatText) : ∀ (l : List TV) (path : List Bytes), OkFs fl l → path ≠ [] →
    ∃ ts, Elems path ((emitAot path l).map stmtOf) ts ∧ dataTbls ts = vOfList (docAot l)
  | [], path, _, _ => ⟨[], Elems.nil path, rfl⟩
  | v :: r, path, h, hne => by
    rw [OkFs] at h
    obtain ⟨ts, h4, h5⟩ := elems_emit fl r path h.2 hne
    cases v with
    | tbl items =>
      rw [OkF] at h
      obtain ⟨its, h1, h2, h3⟩ := subs_emit fl items path h.1.1 h.1.2.1
      refine ⟨tblE (valIts (valOfPairs (ownValues items)) ++ its) :: ts, ?_, ?_⟩
      · rw [emitAot_tbl path hne]
        exact Elems.cons (sect_of items h.1.2.1 its h2) h1 h4
      · rw [dataTbls, docAot, vOfList, vOf, data_tblE items its h3, h5]
    | _ => exact ⟨ts, by simpa only [emitAot] using h4, by simpa only [docAot] using h5⟩
end

theorem claim_itemD (fl : FloatText) : ∀ v : TV, OkF fl v → (kindOf v == .value) = false → ClaimItemD v := by
  intro v h hk st V U A R key hV hU hk'
  obtain ⟨i, hi, hd⟩ := entry_emit fl v (A ++ R ++ [key]) h hk (by simp)
  obtain ⟨st', I, h1, h2, h3⟩ := entry_claim hi st V U A R key rfl hV hU hk'
  exact ⟨st', I, h1, h2, by rw [← hd key, ← h3]; simp [dataItems, dataItem_erase]⟩

theorem claim_aotMoreD (fl : FloatText) : ∀ l : List TV, OkFs fl l → ClaimAotMoreD l := by
  intro l h st V W P key pre hV hW hk
  obtain ⟨ts, ht, hd⟩ := elems_emit fl l (P ++ [key]) h (by simp)
  obtain ⟨st', ts', h1, h2, h3⟩ := (elems_claim ht).1 st V W P key pre rfl hV hW hk
  exact ⟨st', ts', h1, h2, by rw [← hd, ← h3, dataTbls_erase]⟩

theorem run_emitDocD (fl : FloatText) (items : List (Bytes × TV)) (h : OkFPs fl items) (hn : (items.map Prod.fst).Nodup) :
    ∃ T, (run {} ((emitDoc items).map stmtOf)).bind intoDocument = some T ∧
      dataTbl T = vOfPs (docTbl items) := by
  obtain ⟨its, h1, h2, h3⟩ := subs_emit fl items [] h hn
  obtain ⟨T, hT, he⟩ := run_sections _ _ its (sect_of items hn its h2) h1
  have e : (emitDoc items).map stmtOf = kvRun (valOfPairs (ownValues items)) ++ (emitSubs [] items).map stmtOf := by
    rw [TomlValue17.emitDoc_eq, List.map_append, ownKvs_stmts]
  refine ⟨T, e ▸ hT, ?_⟩
  rw [← dataTbl_erase, he, docTbl]
  exact data_tblE items its h3

end TomlVerif.Lemmas.Ser07TextF

namespace TomlVerif.Lemmas.RoundTrip17
open TomlVerif.Model.DeText
open TomlVerif TomlVerif.Spec TomlVerif.Spec.Serde TomlVerif.Model TomlVerif.Model.TomlValue TomlVerif.Model.DeRoutes
open TomlVerif.Model.State
open TomlVerif.Lemmas.State09 TomlVerif.Lemmas.Encode06d TomlVerif.Lemmas.StmtBlocks
open TomlVerif.Lemmas.Ser07Text TomlVerif.Lemmas.Ser07TextF

mutual
/-- what the deserializer presents of plain data: a date-time as the private one-entry map -/
def presV : V → Pres
  | .sc (.str s) => .string s
  | .sc (.int n) => .i64 n
  | .sc (.float b) => .f64 b
  | .sc (.bool b) => .bool b
  | .sc (.dt d) => dtMap d
  | .arr xs => .seq (presVs xs)
  | .inl kvs => .map (presKVs kvs)
def presVs : List V → List Pres
  | [] => []
  | x :: r => presV x :: presVs r
def presKVs : List (Bytes × V) → List (Bytes × Pres)
  | [] => []
  | (k, x) :: r => (k, presV x) :: presKVs r
end

mutual
theorem presV_dataVal : ∀ v : Val, presOfVal v = presV (dataVal v)
  | .str _ | .int _ | .float _ | .bool _ | .dt _ => by simp [presOfVal, dataVal, presV]
  | .arr l => by simp [presOfVal, dataVal, presV, presV_dataVals l]
  | .inl items _ _ => by simp [presOfVal, dataVal, presV, presV_dataPairs items]
theorem presV_dataVals : ∀ l : List Val, presOfVals l = presVs (dataVals l)
  | [] => by simp [presOfVals, dataVals, presVs]
  | v :: r => by simp [presOfVals, dataVals, presVs, presV_dataVal v, presV_dataVals r]
theorem presV_dataPairs : ∀ l : List (Bytes × Val), presOfValPairs l = presKVs (dataPairs l)
  | [] => by simp [presOfValPairs, dataPairs, presKVs]
  | (k, v) :: r => by simp [presOfValPairs, dataPairs, presKVs, presV_dataVal v, presV_dataPairs r]
end

mutual
theorem presV_dataItem : ∀ i : Item, presOfItem i = presV (dataItem i)
  | .value v => by simp [presOfItem, dataItem, presV_dataVal v]
  | .table t => by simp [presOfItem, dataItem, presV, presV_dataTbl t]
  | .aot ts => by simp [presOfItem, dataItem, presV, presV_dataTbls ts]
theorem presV_dataTbl : ∀ t : Tbl, presOfTbl t = .map (presKVs (dataTbl t))
  | .mk items _ _ _ => by simp [presOfTbl, dataTbl, presV_dataItems items]
theorem presV_dataTbls : ∀ ts : List Tbl, presOfTbls ts = presVs (dataTbls ts)
  | [] => by simp [presOfTbls, dataTbls, presVs]
  | t :: r => by simp [presOfTbls, dataTbls, presVs, presV, presV_dataTbl t, presV_dataTbls r]
theorem presV_dataItems : ∀ l : List (Bytes × Item), presOfItems l = presKVs (dataItems l)
  | [] => by simp [presOfItems, dataItems, presKVs]
  | (k, i) :: r => by simp [presOfItems, dataItems, presKVs, presV_dataItem i, presV_dataItems r]
end

mutual
theorem presV_vOf : ∀ v : TV, presV (vOf v) = presEdit v
  | .str _ | .int _ | .float _ | .bool _ | .dt _ => by simp [vOf, presV, presEdit]
  | .arr l => by simp [vOf, presV, presEdit, presVs_vOfList l]
  | .tbl items => by simp [vOf, presV, presEdit, presKVs_vOfPs items]
theorem presVs_vOfList : ∀ l : List TV, presVs (vOfList l) = presEditList l
  | [] => by simp [vOfList, presVs, presEditList]
  | v :: r => by simp [vOfList, presVs, presEditList, presV_vOf v, presVs_vOfList r]
theorem presKVs_vOfPs : ∀ l : List (Bytes × TV), presKVs (vOfPs l) = presEditPairs l
  | [] => by simp [vOfPs, presKVs, presEditPairs]
  | (k, v) :: r => by simp [vOfPs, presKVs, presEditPairs, presV_vOf v, presKVs_vOfPs r]
end

theorem presOfVals_valOf : ∀ l : List TV, presOfVals (valOfList l) = presEditList l :=
  fun l => by rw [presV_dataVals, dataVals_valOf, presVs_vOfList]
theorem presOfValPairs_valOf : ∀ l : List (Bytes × TV), presOfValPairs (valOfPairs l) = presEditPairs l :=
  fun l => by rw [presV_dataPairs, dataPairs_valOf, presKVs_vOfPs]

/-- `ClaimItemD` with what the deserializer presents in place of the data -/
def ClaimItem (v : TV) : Prop :=
  ∀ st V U A R key, intoDocument st = some V → lookupTbl V A = some U → alookup (headKey R key) U.items = none →
    ∃ st' I, run st ((emitItem (A ++ R ++ [key]) v).map stmtOf) = some st' ∧
      intoDocument st' = descend V A false (appendF [nest R key I]) ∧
      presOfItems [(key, I)] = presEditPairs (docItem key v)

/-- `ClaimAotMoreD` with what the deserializer presents in place of the data -/
def ClaimAotMore (l : List TV) : Prop :=
  ∀ st V W P key pre, intoDocument st = some V → lookupTbl V P = some W → alookup key W.items = some (.aot pre) →
    ∃ st' ts', run st ((emitAot (P ++ [key]) l).map stmtOf) = some st' ∧
      intoDocument st' = descend V P false (setF key (.aot (pre ++ ts'))) ∧ presOfTbls ts' = presEditList (docAot l)


theorem claim_item : ∀ v : TV, OkV v → (kindOf v == .value) = false → ClaimItem v := by
  intro v h hk st V U A R key hV hU hk'
  obtain ⟨st', I, hrun, hdoc, hp⟩ := claim_itemD noFloat v (okV_okF _ v h) hk st V U A R key hV hU hk'
  exact ⟨st', I, hrun, hdoc, by rw [presV_dataItems, hp, presKVs_vOfPs]⟩

theorem claim_aotMore : ∀ l : List TV, OkVs l → ClaimAotMore l := by
  intro l h st V W P key pre hV hW hk
  obtain ⟨st', ts', hrun, hdoc, hp⟩ := claim_aotMoreD noFloat l (okVs_okFs _ l h) st V W P key pre hV hW hk
  exact ⟨st', ts', hrun, hdoc, by rw [presV_dataTbls, hp, presVs_vOfList]⟩

end TomlVerif.Lemmas.RoundTrip17
