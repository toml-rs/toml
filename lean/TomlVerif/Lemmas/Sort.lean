import TomlVerif.Spec.OrdMap
/-! Insertion sort, once.  The model and the specification define it several times (`Spec.OrdMap.stableSort`,
    `Spec.OrderedPlain.sortByKey`, `Edit.sortByCKey`, `Encode.sortEntries`, …), each with an insert function of its
    own, some over `Type`, some over any universe.  `InsertionSort le ins srt` says that `ins` puts an element in
    front of the first one it is `le`, and that `srt` sorts by inserting; everything is proved from these four
    equations, for an arbitrary comparison `le : α → α → Bool`, and so holds of each of those functions
    (`stableSort_is` here; the instances for the other sorts are in `Lemmas/SortModel.lean`). -/
namespace TomlVerif.Lemmas.Sort
open TomlVerif.Spec.OrdMap

universe u v

structure InsertionSort {α : Type u} (le : α → α → Bool) (ins : α → List α → List α) (srt : List α → List α) :
    Prop where
  ins_nil : ∀ x, ins x [] = [x]
  ins_cons : ∀ x y r, ins x (y :: r) = if le x y = true then x :: y :: r else y :: ins x r
  srt_nil : srt [] = []
  srt_cons : ∀ x r, srt (x :: r) = ins x (srt r)

theorem stableSort_is {α : Type} (le : α → α → Bool) : InsertionSort le (orderedInsert le) (stableSort le) :=
  ⟨fun _ => rfl, fun _ _ _ => rfl, rfl, fun _ _ => rfl⟩

namespace InsertionSort
variable {α : Type u} {le : α → α → Bool} {ins : α → List α → List α} {srt : List α → List α}
variable (h : InsertionSort le ins srt)
include h

theorem perm_ins (x : α) (l : List α) : (ins x l).Perm (x :: l) := by
  induction l with
  | nil => rw [h.ins_nil]
  | cons y ys ih =>
    rw [h.ins_cons]
    by_cases hxy : le x y = true
    · rw [if_pos hxy]
    · rw [if_neg hxy]
      exact (List.Perm.cons y ih).trans (List.Perm.swap x y ys)

theorem perm (l : List α) : (srt l).Perm l := by
  induction l with
  | nil => rw [h.srt_nil]
  | cons x xs ih => rw [h.srt_cons]; exact (h.perm_ins x _).trans (List.Perm.cons x ih)

theorem mem (y : α) (l : List α) : y ∈ srt l ↔ y ∈ l := (h.perm l).mem_iff

theorem sorted_ins (total : ∀ a b, le a b = true ∨ le b a = true)
    (trans : ∀ a b c, le a b = true → le b c = true → le a c = true)
    (x : α) (s : List α) (hs : s.Pairwise fun a b => le a b = true) :
    (ins x s).Pairwise fun a b => le a b = true := by
  induction s with
  | nil => rw [h.ins_nil]; exact List.pairwise_singleton _ _
  | cons y ys ih =>
    rw [List.pairwise_cons] at hs
    rw [h.ins_cons]
    by_cases hxy : le x y = true
    · rw [if_pos hxy, List.pairwise_cons, List.pairwise_cons]
      refine ⟨fun z hz => ?_, hs.1, hs.2⟩
      rcases List.mem_cons.1 hz with rfl | hz
      · exact hxy
      · exact trans x y z hxy (hs.1 z hz)
    · rw [if_neg hxy, List.pairwise_cons]
      refine ⟨fun z hz => ?_, ih hs.2⟩
      rcases List.mem_cons.1 ((h.perm_ins x ys).mem_iff.1 hz) with rfl | hz
      · exact (total z y).resolve_left hxy
      · exact hs.1 z hz

theorem sorted (total : ∀ a b, le a b = true ∨ le b a = true)
    (trans : ∀ a b c, le a b = true → le b c = true → le a c = true) (l : List α) :
    (srt l).Pairwise fun a b => le a b = true := by
  induction l with
  | nil => rw [h.srt_nil]; exact List.Pairwise.nil
  | cons x xs ih => rw [h.srt_cons]; exact h.sorted_ins total trans x _ ih

section map
variable {β : Type v} {le' : β → β → Bool} {ins' : β → List β → List β} {srt' : List β → List β}
variable (h' : InsertionSort le' ins' srt') (f : α → β) (hf : ∀ a b, le a b = le' (f a) (f b))
include h' hf

theorem map_ins (x : α) (l : List α) : (ins x l).map f = ins' (f x) (l.map f) := by
  induction l with
  | nil => rw [h.ins_nil, List.map_nil, h'.ins_nil]; rfl
  | cons y ys ih =>
    rw [h.ins_cons, List.map_cons, h'.ins_cons, ← hf]
    by_cases hxy : le x y = true
    · rw [if_pos hxy, if_pos hxy]; rfl
    · rw [if_neg hxy, if_neg hxy, List.map_cons, ih]

theorem map (l : List α) : (srt l).map f = srt' (l.map f) := by
  induction l with
  | nil => rw [h.srt_nil, List.map_nil, h'.srt_nil]
  | cons x xs ih => rw [h.srt_cons, List.map_cons, h'.srt_cons, h.map_ins h' f hf, ih]

end map

theorem eq {ins' : α → List α → List α} {srt' : List α → List α} (h' : InsertionSort le ins' srt') (l : List α) :
    srt l = srt' l := by
  have := h.map h' id (fun _ _ => rfl) l
  rwa [List.map_id, List.map_id] at this

/-- a tie class: `p` selects elements that are pairwise `le` (e.g. all elements with one sort key) -/
theorem filter_ins_tie (p : α → Bool) (hp : ∀ a z, p a = true → p z = true → le a z = true) (a : α) (s : List α) :
    (ins a s).filter p = if p a = true then a :: s.filter p else s.filter p := by
  induction s with
  | nil => rw [h.ins_nil]; simp [List.filter_cons]
  | cons y ys ih =>
    rw [h.ins_cons]
    by_cases hay : le a y = true
    · rw [if_pos hay, List.filter_cons]
    · rw [if_neg hay, List.filter_cons, ih]
      by_cases hy : p y = true
      · have hpa : p a = false := by
          cases hpa : p a with
          | false => rfl
          | true => exact absurd (hp a y hpa hy) hay
        simp [hy, hpa]
      · simp [hy]

theorem filter_tie (p : α → Bool) (hp : ∀ a z, p a = true → p z = true → le a z = true) (l : List α) :
    (srt l).filter p = l.filter p := by
  induction l with
  | nil => rw [h.srt_nil]
  | cons x xs ih => rw [h.srt_cons, h.filter_ins_tie p hp, ih, List.filter_cons]

theorem ins_of_le (x : α) : ∀ l : List α, (∀ y ∈ l, le x y = true) → ins x l = x :: l
  | [], _ => h.ins_nil x
  | y :: r, hl => by rw [h.ins_cons, if_pos (hl y List.mem_cons_self)]

theorem ins_of_not_le (x : α) : ∀ l : List α, (∀ y ∈ l, le x y = false) → ins x l = l ++ [x]
  | [], _ => h.ins_nil x
  | y :: r, hl => by
    rw [h.ins_cons, if_neg (by rw [hl y List.mem_cons_self]; exact Bool.false_ne_true),
      ins_of_not_le x r fun z hz => hl z (List.mem_cons_of_mem _ hz), List.cons_append]

theorem ins_append_last (x e : α) (hxe : le x e = true) : ∀ m : List α, ins x (m ++ [e]) = ins x m ++ [e]
  | [] => by rw [List.nil_append, h.ins_cons, if_pos hxe, h.ins_nil]; rfl
  | y :: r => by
    rw [List.cons_append, h.ins_cons, h.ins_cons]
    by_cases hxy : le x y = true
    · rw [if_pos hxy, if_pos hxy]; rfl
    · rw [if_neg hxy, if_neg hxy, ins_append_last x e hxe r]; rfl

theorem append_max (e : α) : ∀ (l1 l2 : List α), (∀ x ∈ l1 ++ l2, le e x = false ∧ le x e = true) →
    srt (l1 ++ [e] ++ l2) = srt (l1 ++ l2) ++ [e]
  | [], l2, hl => by
    rw [List.nil_append, List.nil_append, List.singleton_append, h.srt_cons]
    exact h.ins_of_not_le e _ fun y hy => (hl y (by simpa using (h.mem y l2).1 hy)).1
  | x :: r, l2, hl => by
    have ih := append_max e r l2 fun y hy => hl y (by
      simp only [List.cons_append, List.mem_cons]; exact Or.inr hy)
    simp only [List.cons_append, h.srt_cons] at ih ⊢
    rw [ih, h.ins_append_last x e (hl x (by simp)).2]

theorem filter_ins_of_sorted (trans : ∀ a b c, le a b = true → le b c = true → le a c = true) (p : α → Bool) (x : α) :
    ∀ l : List α, (l.Pairwise fun a b => le a b = true) →
      (ins x l).filter p = if p x = true then ins x (l.filter p) else l.filter p
  | [], _ => by cases hp : p x <;> simp [h.ins_nil, hp]
  | y :: r, hl => by
    rw [List.pairwise_cons] at hl
    have ih := filter_ins_of_sorted trans p x r hl.2
    rw [h.ins_cons]
    by_cases hle : le x y = true
    · rw [if_pos hle]
      cases hp : p x with
      | false => simp [List.filter_cons, hp]
      | true =>
        rw [List.filter_cons, hp, if_pos rfl, if_pos rfl, h.ins_of_le x ((y :: r).filter p)]
        intro z hz
        rcases List.mem_cons.1 (List.mem_filter.1 hz).1 with rfl | hz'
        · exact hle
        · exact trans x y z hle (hl.1 z hz')
    · rw [if_neg hle, List.filter_cons, ih]
      cases hpy : p y <;> cases hp : p x <;> simp [hpy, h.ins_cons, hle]

theorem filter (total : ∀ a b, le a b = true ∨ le b a = true)
    (trans : ∀ a b c, le a b = true → le b c = true → le a c = true)
    (p : α → Bool) : ∀ l : List α, srt (l.filter p) = (srt l).filter p
  | [] => by rw [List.filter_nil, h.srt_nil, List.filter_nil]
  | x :: r => by
    rw [h.srt_cons, h.filter_ins_of_sorted trans p x _ (h.sorted total trans r), ← filter total trans p r,
      List.filter_cons]
    cases hp : p x <;> simp [h.srt_cons]

end InsertionSort
end TomlVerif.Lemmas.Sort
