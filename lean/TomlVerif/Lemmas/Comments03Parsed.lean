import TomlVerif.Lemmas.Comments03PrintTbl
/-! C03, "every comment is kept" — the parser side.  Every value the format-preserving parser
    builds satisfies `VD`, by induction over the results of the parser (`cvalue_induct`); `TDc` is a
    tree invariant in the sense of `CstInv.lean`, so the root of every parsed document satisfies it. -/
namespace TomlVerif.Lemmas.Tiling03More
open TomlVerif TomlVerif.Spec TomlVerif.Model TomlVerif.Model.Strings TomlVerif.Model.Value
open TomlVerif.Model.Cst TomlVerif.Model.Encode TomlVerif.Lemmas.Cst03
open TomlVerif.Lemmas.Refine08c TomlVerif.Lemmas.Spans14

/-! ### keys: only the last key of a path carries a leaf decor -/

def LeafBare (ks : List CKey) : Prop := ∀ k ∈ ks, k.leaf = {}

theorem takePre_leaf (k : CKey) : (takePre k).2.leaf = k.leaf := by
  unfold takePre
  split <;> rfl

theorem fixLeaf_path_leaf (ks : List CKey) (h : LeafBare ks) (path : List CKey) (key : CKey)
    (hs : Value.splitLast (fixLeaf ks) = some (path, key)) : LeafBare path := by
  cases ks with
  | nil => simp [fixLeaf, Value.splitLast] at hs
  | cons first rest =>
    rw [fixLeaf_cons] at hs
    have hall : LeafBare ((takePre first).2 :: rest) := by
      intro x hx
      rcases List.mem_cons.1 hx with hx | hx
      · subst hx; rw [takePre_leaf]; exact h first (by simp)
      · exact h x (List.mem_cons_of_mem _ hx)
    split at hs
    · have e := vsplitLast_some _ _ _ hs
      intro x hx
      exact hall x (by rw [e]; exact List.mem_append_left _ hx)
    · rename_i init last hsl
      have e := vsplitLast_some _ _ _ hsl
      rw [vsplitLast_snoc] at hs
      injection hs with hs
      injection hs with h1 h2
      subst h1
      intro x hx
      exact hall x (by rw [e]; exact List.mem_append_left _ hx)

theorem ckeyPath_path_leaf (n : Nat) (s r : Bytes) (ks path : List CKey) (key : CKey)
    (h : ckeyPath n s = .ok ks r) (hs : Value.splitLast ks = some (path, key)) : LeafBare path := by
  obtain ⟨ks0, hk, _, rfl⟩ := ckeyPath_ok h
  exact fixLeaf_path_leaf ks0 (ckeyPathAux_all (S := fun _ => True) (fun _ _ _ _ _ => ⟨rfl, fun _ _ => trivial⟩)
    _ _ _ _ _ trivial hk (fun _ hx => by cases hx)) path key hs

def KvsD' (l : List (CKey × CVal)) : Prop := ∀ kv ∈ l, DotBare kv.1 kv.2 ∧ VD kv.2

theorem KvsD_iff : ∀ l : List (CKey × CVal), KvsD l ↔ KvsD' l
  | [] => by simp [KvsD, KvsD']
  | (k, v) :: r => by
    rw [KvsD, KvsD_iff r]
    simp [KvsD']

theorem VsD_iff : ∀ l : List CVal, VsD l ↔ ∀ v ∈ l, VD v
  | [] => by simp [VsD]
  | v :: r => by rw [VsD, VsD_iff r]; simp

theorem KvsD'.nil : KvsD' [] := by intro kv h; cases h

theorem KvsD'.snoc {l : List (CKey × CVal)} {k : CKey} {v : CVal} (hl : KvsD' l) (hb : DotBare k v) (hv : VD v) :
    KvsD' (l ++ [(k, v)]) := by
  intro kv h
  rcases List.mem_append.1 h with h | h
  · exact hl kv h
  · simp only [List.mem_singleton] at h; subst h; exact ⟨hb, hv⟩

theorem KvsD'.lookup {l : List (CKey × CVal)} {k : Bytes} {v : CVal} (h : KvsD' l) (hl : clookup k l = some v) : VD v := by
  induction l with
  | nil => simp [clookup] at hl
  | cons kv r ih =>
    obtain ⟨k', v'⟩ := kv
    unfold clookup at hl
    split at hl
    · injection hl with hl; subst hl; exact (h (k', v') (by simp)).2
    · exact ih (fun x hx => h x (List.mem_cons_of_mem _ hx)) hl

theorem KvsD'.creplace : ∀ (l : List (CKey × CVal)) (k : Bytes) (v0 v : CVal), KvsD' l → clookup k l = some v0 →
    VD v → (∀ k', DotBare k' v0 → DotBare k' v) → KvsD' (creplace k v l)
  | [], _, _, _, _, hl, _, _ => by simp [clookup] at hl
  | (k', v') :: r, k, v0, v, h, hl, hv, hb => by
    unfold clookup at hl
    unfold Cst.creplace
    split at hl
    · rename_i hk
      injection hl with hl; subst hl
      rw [if_pos hk]
      intro kv hkv
      rcases List.mem_cons.1 hkv with hkv | hkv
      · subst hkv; exact ⟨hb k' (h (k', v') (by simp)).1, hv⟩
      · exact h kv (List.mem_cons_of_mem _ hkv)
    · rename_i hk
      rw [if_neg hk]
      intro kv hkv
      rcases List.mem_cons.1 hkv with hkv | hkv
      · subst hkv; exact h (k', v') (by simp)
      · exact KvsD'.creplace r k v0 v (fun x hx => h x (List.mem_cons_of_mem _ hx)) hl hv hb kv hkv

theorem DotBare_of_notDotted (k : CKey) (v : CVal) (h : notDottedInl v = true) : DotBare k v := by
  cases v with
  | scalar _ _ _ => trivial
  | arr _ _ _ _ _ => trivial
  | inl sub pre imp dot dec sp =>
    have : dot = false := by simpa [notDottedInl] using h
    subst this
    intro hh; cases hh

theorem VD_setDecor (v : CVal) (d : Decor) : VD (v.setDecor d) ↔ VD v := by
  cases v <;> simp [CVal.setDecor, VD]

theorem cinlInsert_D {pathEmpty : Bool} {key : CKey} {v : CVal} (hv : VD v) (hnd : notDottedInl v = true) :
    ∀ (path : List CKey) (items : List (CKey × CVal)) (tblDotted : Bool) (items' : List (CKey × CVal)),
    cinlInsert items tblDotted path pathEmpty key v = some items' →
    KvsD' items → LeafBare path → KvsD' items' := by
  refine cinlInsert_induction ?_ ?_ ?_
  · intro items _ hit _
    exact hit.snoc (DotBare_of_notDotted key v hnd) hv
  · intro items k ks sub _ ih hit hpath
    refine hit.snoc (fun _ => ⟨hpath k (by simp), rfl, rfl⟩) ?_
    simp only [newDottedInl, VD]
    exact (KvsD_iff _).2 (ih KvsD'.nil fun x hx => hpath x (List.mem_cons_of_mem _ hx))
  · intro items k ks sub pre dot dec sp sub' hl ih hit hpath
    have hx : VD (.inl sub pre true dot dec sp) := hit.lookup hl
    simp only [VD] at hx
    refine KvsD'.creplace _ _ _ _ hit hl ?_ (fun k' hb => hb)
    simp only [VD]
    exact (KvsD_iff _).2 (ih ((KvsD_iff _).1 hx) fun x hx => hpath x (List.mem_cons_of_mem _ hx))

theorem ctableFromPairs_D : ∀ (kvs : List (List CKey × CKey × CVal)) (acc items : List (CKey × CVal)),
    ctableFromPairs kvs acc = some items →
    (∀ x ∈ kvs, VD x.2.2 ∧ notDottedInl x.2.2 = true ∧ LeafBare x.1) → KvsD' acc → KvsD' items := by
  intro kvs
  induction kvs with
  | nil =>
    intro acc items h _ hacc
    simp [ctableFromPairs] at h
    subst h
    exact hacc
  | cons x rest ih =>
    intro acc items h hn hacc
    obtain ⟨path, key, v⟩ := x
    unfold ctableFromPairs at h
    split at h
    · rename_i acc' hins
      have hx := hn (path, key, v) (by simp)
      exact ih _ _ h (fun y hy => hn y (List.mem_cons_of_mem _ hy))
        (cinlInsert_D hx.1 hx.2.1 _ _ _ _ hins hacc hx.2.2)
    · cases h

theorem cvalue_VD (n fuel d : Nat) (s r : Bytes) (v : CVal) (h : cvalue n fuel d s = .ok v r) : VD v := by
  refine cvalue_induct (P := VD) (fun _ _ _ _ _ => trivial) ?_ ?_ h
  · intro vs _ _ _ hvs
    exact (VsD_iff vs).2 fun v hv => by
      obtain ⟨v0, dec, h0, rfl⟩ := hvs v hv; exact (VD_setDecor _ _).2 h0
  · intro kvs items _ _ hkvs hitems
    refine (KvsD_iff _).2 (ctableFromPairs_D _ _ _ hitems (fun t ht => ?_) KvsD'.nil)
    obtain ⟨⟨s, ks, r, hk, hsl⟩, _, _, _, _, v0, dec, hv0, h0, e⟩ := hkvs t ht
    rw [e]
    exact ⟨(VD_setDecor _ _).2 h0, by rw [notDottedInl_setDecor]; exact cvalue_notDotted _ _ _ _ _ _ hv0,
      ckeyPath_path_leaf _ _ _ _ _ _ hk hsl⟩

def DecRule : Bool → Bool → Decor → Prop := fun imp dot dec => (imp = true ∨ dot = true) → dec = {}

def ValD (v : CVal) : Prop := notDottedInl v = true ∧ VD v

theorem TsDc_iff (l : List CTbl) : TsDc l ↔ ∀ t ∈ l, t.fr NotDot ∧ TDc t := by
  induction l with
  | nil => simp [TsDc]
  | cons t r ih => simp [TsDc, ih, CTbl.fr, NotDot]

theorem IDc_iff (l : List (CKey × CItem)) : IDc l ↔ AllKV (fun _ => True) (ItemInv ValD NotDot TDc) l := by
  induction l with
  | nil => simp [IDc, AllKV]
  | cons kv r ih =>
    obtain ⟨k, it⟩ := kv
    rw [AllKV.cons, ← ih]
    cases it <;> simp [IDc, ItemInv, ValD, TsDc_iff]

theorem TDc_iff (t : CTbl) : TDc t ↔ t.fr DecRule ∧ AllKV (fun _ => True) (ItemInv ValD NotDot TDc) t.items := by
  cases t
  simp only [TDc, IDc_iff, CTbl.items, CTbl.fr, DecRule, CTbl.implicit, CTbl.dotted, CTbl.decor]

theorem dcTree : TreeInv ValD DecRule NotDot TDc where
  tbl := TDc_iff
  setDecor v d h := ⟨(notDottedInl_setDecor v d).trans h.1, (VD_setDecor v d).2 h.2⟩
  implicit _ _ := rfl
  plain _ h := by rcases h with h | h <;> cases h

end TomlVerif.Lemmas.Tiling03More
