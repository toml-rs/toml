import TomlVerif.Lemmas.Ser07TextCanon
/-! C07 at the TEXT level, the depth bound: the table `a = [[…[1]…]]` with `n` array levels (`nestV n`).
    Every printer of the routes writes it as the one line `deepText n`, whatever the layout (a one-element array stays
    on one line). Below the limit the text theorem (`parse_fmtText`) applies to it; from the limit on the line is a
    key, `=` and `LIMIT` opening brackets, on which `value` gives up (`Depth05.arrays_rejected`). So
    `depthSKVs kvs < LIMIT` in the text theorems cannot be weakened. -/
namespace TomlVerif.Lemmas.Ser07Text
open TomlVerif TomlVerif.Model TomlVerif.Model.Ser TomlVerif.Spec TomlVerif.Spec.Serde
open TomlVerif.Model.TomlValue TomlVerif.Model.Encode06
open TomlVerif.Model.Value (LIMIT)
open TomlVerif.Model.Strings (dropWs)
open TomlVerif.Lemmas.Ser07

def nestV : Nat → V
  | 0 => .sc (.int 1)
  | n + 1 => .arr [nestV n]

/-- `[`ⁿ `1` `]`ⁿ -/
def nestText (n : Nat) : Bytes := List.replicate n 0x5B ++ (0x31 :: List.replicate n 0x5D)

/-- `a = [[…[1]…]]` and a newline -/
def deepText (n : Nat) : Bytes := [0x61, 0x20, 0x3D, 0x20] ++ (nestText n ++ [0x0A])

theorem nestText_succ (n : Nat) : nestText (n + 1) = 0x5B :: (nestText n ++ [0x5D]) := by
  rw [nestText, nestText, List.replicate_succ, List.replicate_succ' (n := n) (a := (0x5D : UInt8))]; simp

theorem nestV_ok (disp : FloatDisp) : ∀ n, LeavesOkS disp (nestV n) ∧ NodupS (nestV n) ∧ depthS (nestV n) = n
  | 0 => ⟨by rw [nestV, LeavesOkS, ScalarOkS]; decide, by rw [nestV, NodupS]; trivial, by rw [nestV, depthS]⟩
  | n + 1 => by
    obtain ⟨a, b, c⟩ := nestV_ok disp n
    rw [nestV, LeavesOkS, NodupS, depthS]
    simp only [LeavesOkSs, NodupSs, depthSs, a, b, c, and_self, Nat.max_zero, Nat.add_comm]

theorem serFields_single (k : Bytes) {v : SVal} {x : V} (hv : v ≠ .none) (h : serValue v = .ok x) :
    serFields [(k, v)] [] = .ok [(k, x)] := by
  rw [serFields_cons k [] [] hv, h]; rfl

theorem serDocument_single (name k : Bytes) {v : SVal} {x : V} (hn : (name == dtName) = false) (hv : v ≠ .none)
    (h : serValue v = .ok x) : serDocument (.struct name [(k, v)]) = .ok [(k, x)] := by
  rw [serDocument, serValue, hn, if_neg Bool.false_ne_true, serFields_single k hv h]

theorem tomlDocument_single (name k : Bytes) {v : SVal} {x : V} (hv : v ≠ .none) (h : serValue v = .ok x) :
    tomlDocument false (.struct name [(k, v)]) = .ok [(k, x)] := by
  rw [tomlDocument, if_neg Bool.false_ne_true, serFields_single k hv h]

theorem renderVal_nest (fl : FloatText) (p : Bool) : ∀ n, renderVal fl p (tvOf (nestV n)) = nestText n
  | 0 => by rw [nestV, tvOf, renderVal]; decide
  | n + 1 => by
    rw [nestV, tvOf, tvList, tvList, renderVal, if_pos (by simp), renderElems, renderElems, renderVal_nest fl p n,
      nestText_succ]
    simp

theorem notTable_nest : ∀ n, (tvOf (nestV n)).isTable = false
  | 0 => rfl
  | _ + 1 => rfl

/-- a root table with one entry that stays a value is printed as the line `key = value` -/
theorem fmtText_deep (disp : FloatDisp) (p : Bool) (n : Nat) : fmtText disp p [([0x61], nestV n)] = deepText n := by
  have hk : kindOf (tvOf (nestV n)) = .value := by
    cases n with
    | zero => rfl
    | succ m => simp [nestV, tvOf, tvList, kindOf, isAotList, notTable_nest m]
  have he : emitItem [[0x61]] (tvOf (nestV n)) = [] := by
    cases n with
    | zero => rfl
    | succ m => simp [nestV, tvOf, tvList, emitItem, isAotList, notTable_nest m]
  have hr : renderKey [0x61] = [0x61] := by decide +kernel
  simp [fmtText, tvKVs, emitDoc, tableStmts, headerOf, ownKvs, ownValues, emitSubs, he, hk, renderStmts,
    renderVal_nest, hr, sp, deepText]

theorem encodeValue_nest (disp : FloatDisp) : ∀ (n : Nat) (dflt : Bytes × Bytes),
    encodeValue (dvOf disp (nestV n)) dflt = dflt.1 ++ (nestText n ++ dflt.2)
  | 0, dflt => by
    rw [nestV, dvOf, encodeValue, withDecor]
    have : Numbers.writeInt 1 = [0x31] := by decide +kernel
    simp [this, nestText]
  | n + 1, dflt => by
    rw [nestV, dvOf, dvOfList, dvOfList, encodeValue, withDecor, encodeElems, encodeElems, if_pos rfl,
      encodeValue_nest disp n, nestText_succ]
    simp [DEFAULT_LEADING_VALUE_DECOR]

/-- the same for `Display for DocumentMut` on `to_document`'s tree: one visited table (the root), its body one line -/
theorem printDoc_deep (disp : FloatDisp) (n : Nat) : printDoc (editDoc disp [([0x61], nestV n)]) = deepText n := by
  have hr : reprKey [0x61] = [0x61] := by decide +kernel
  simp [printDoc, editDoc, rootItems, visitNested, visitItems, sortByPos, insertByPos, visitTables, visitTable,
    getValues, encodeBody, encodeKeyPath, encodeKeyPathAux, encodeValue_nest, hr, DEFAULT_ROOT_DECOR,
    DEFAULT_KEY_DECOR, DEFAULT_VALUE_DECOR, DTbl.items, deepText]

/-- a document whose first line is a key, `=` and a value on which `value` gives up is rejected -/
theorem parseDocument_cut (s : Bytes) (b : UInt8) (r r1 : Bytes) (ks : List Bytes)
    (hs : dropWs (Doc.stripBom s) = b :: r)
    (hb : (b == 0x23) = false ∧ (b == 0x5B) = false ∧ (b == 0x0A || b == 0x0D) = false)
    (hk : Value.keyPath (b :: r) = .ok ks (0x3D :: r1))
    (hv : Value.value (3 * r1.length + 4) (ks.length - 1) (dropWs r1) = .cut) : Doc.parseDocument s = none := by
  have hl : Doc.keyvalLine {} (b :: r) = none := by
    unfold Doc.keyvalLine
    simp only [hk, hv, ite_self]
  unfold Doc.parseDocument
  simp only [hs, List.length_cons, Doc.lines, hb.1, hb.2.1, hb.2.2, Bool.false_eq_true, if_false, hl]

theorem deepText_parses (n : Nat) : (Doc.parseDocument (deepText n)).isSome = decide (n < LIMIT) := by
  by_cases hn : n < LIMIT
  · obtain ⟨a, b, c⟩ := nestV_ok (fun _ => []) n
    have h := parse_fmtText (fun _ => []) false [([0x61], nestV n)] ⟨⟨b, trivial⟩, by simp⟩ ⟨a, trivial⟩
      (by rw [depthSKVs, depthSKVs, c]; exact Nat.lt_of_le_of_lt (Nat.le_of_eq (Nat.max_zero n)) hn)
    rw [fmtText_deep] at h
    rw [decide_eq_true hn]
    cases hp : Doc.parseDocument (deepText n) with
    | none => rw [hp] at h; cases h
    | some T => rfl
  · rw [decide_eq_false hn, parseDocument_cut (deepText n) 0x61 _ (0x20 :: (nestText n ++ [0x0A])) [[0x61]] rfl
      (by decide) ?_ ?_]
    · rfl
    · have h := Doc01.keyPath_path ⟨⟨[], Encode06.reprKey [0x61], [0x61], [0x20]⟩, []⟩
        (0x3D :: 0x20 :: (nestText n ++ [0x0A]))
        ⟨Encode06b.keyseg_repr _ _ _ Spec.AstValue.AllWs.nil Spec.AstValue.AllWs.sp, nofun, by decide⟩
        (Doc01.pathFollow_eq _)
      rw [show (Spec.AstDoc.KeyPath.render ⟨⟨[], Encode06.reprKey [0x61], [0x61], [0x20]⟩, []⟩) = [0x61, 0x20]
        by decide +kernel] at h
      exact h
    · obtain ⟨m, rfl⟩ : ∃ m, n = m + 1 := ⟨n - 1, by simp [LIMIT] at hn; omega⟩
      have h1 : isWschar 0x20 = true := by decide
      have h2 : isWschar 0x5B = false := by decide
      have e : dropWs (0x20 :: (nestText (m + 1) ++ [0x0A])) =
          List.replicate (m + 1) 0x5B ++ (0x31 :: List.replicate (m + 1) 0x5D ++ [0x0A]) := by
        rw [nestText, List.replicate_succ]; simp [dropWs, h1, h2]
      rw [e]
      exact Depth05.arrays_rejected (m + 1) 0 _ _ (Nat.le_add_left 1 m) (by rw [Nat.zero_add]; exact Nat.le_of_not_lt hn)

end TomlVerif.Lemmas.Ser07Text
