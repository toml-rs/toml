import TomlVerif.Lemmas.CstInduct
import TomlVerif.Lemmas.Render03Rebuild
import TomlVerif.Lemmas.Tiling03Inline
/-! Value-level "same data" (C03): the tree invariant of `table_from_pairs` outputs on the
    format-preserving side, and what it says about the flattened entry list the printer writes. -/
namespace TomlVerif.Lemmas.Tiling03More.VS
open TomlVerif TomlVerif.Spec TomlVerif.Model TomlVerif.Model.Strings TomlVerif.Model.Value
open TomlVerif.Model.Cst TomlVerif.Model.Encode TomlVerif.Lemmas.Suffix03 TomlVerif.Lemmas.Cst03
open TomlVerif.Lemmas.Tiling03 TomlVerif.Spec.AstValue TomlVerif.Spec.AstValueQ

section Iok
variable (GK : CKey → Prop) (G : Nat → CVal → Prop)

mutual
/-- every stored key is `GK`; a leaf `m` dotted levels below a list taken at level `n` is `G (n + m)` -/
def IokL : Nat → VItems → Prop
  | _, [] => True
  | n, (k, v) :: r => GK k ∧ IokV n v ∧ IokL n r
def IokV : Nat → CVal → Prop
  | n, .inl sub pre imp dot dec sp =>
    (dot = true → IokL (n + 1) sub) ∧ (dot = false → G n (.inl sub pre imp dot dec sp))
  | n, .scalar a b c => G n (.scalar a b c)
  | n, .arr a b c d e => G n (.arr a b c d e)
end

theorem IokL_append (n : Nat) : ∀ (a b : VItems), IokL GK G n (a ++ b) ↔ IokL GK G n a ∧ IokL GK G n b
  | [], b => by simp [IokL]
  | (k, v) :: r, b => by simp only [List.cons_append, IokL, IokL_append n r b, and_assoc]

theorem IokV_leaf (n : Nat) (v : CVal) (hu : undotted v = true) (hg : G n v) : IokV GK G n v := by
  cases v with
  | scalar a b c => rw [IokV]; exact hg
  | arr a b c d e => rw [IokV]; exact hg
  | inl sub pre imp dot dec sp =>
    have : dot = false := by simpa [undotted] using hu
    subst this
    rw [IokV]
    exact ⟨(fun h => by cases h), fun _ => hg⟩

theorem cinlInsert_Iok (hGimp : ∀ n v, G n v → impInl v = false) {pe : Bool} {key : CKey} {v : CVal}
    (hkey : GK key) (hu : undotted v = true) :
    ∀ (path : List CKey) (items : VItems) (td : Bool) (items' : VItems),
    cinlInsert items td path pe key v = some items' →
    ∀ n, IokL GK G n items → (∀ k ∈ path, GK k) → G (n + path.length) v → IokL GK G n items' := by
  refine cinlInsert_induction ?_ ?_ ?_
  · intro items _ n hit _ hg
    rw [IokL_append]
    exact ⟨hit, by rw [IokL]; exact ⟨hkey, IokV_leaf GK G n v hu hg, by rw [IokL]; trivial⟩⟩
  · intro items k ks sub _ ih n hit hpath hg
    have hsub := ih (n + 1) (by rw [IokL]; trivial) (fun k' hk' => hpath k' (List.mem_cons_of_mem _ hk'))
      (by rw [Nat.add_assoc, Nat.add_comm 1]; exact hg)
    rw [IokL_append]
    refine ⟨hit, ?_⟩
    rw [IokL]
    refine ⟨hpath k (by simp), ?_, by rw [IokL]; trivial⟩
    rw [newDottedInl, IokV]
    exact ⟨fun _ => hsub, fun h => by cases h⟩
  · intro items k ks sub pre dot dec sp sub' hl ih n hit hpath hg
    obtain ⟨before, k0, after, e, _, _, _, hrep⟩ := Tiling03Hdr.clookup_split k.key _ items hl
    rw [e, IokL_append, IokL] at hit
    obtain ⟨hb, hk0, hv0, ha⟩ := hit
    rw [IokV] at hv0
    cases dot with
    | false =>
      have := hGimp _ _ (hv0.2 rfl)
      simp [impInl] at this
    | true =>
      have hsub' := ih (n + 1) (hv0.1 rfl) (fun k' hk' => hpath k' (List.mem_cons_of_mem _ hk'))
        (by rw [Nat.add_assoc, Nat.add_comm 1]; exact hg)
      rw [hrep, IokL_append, IokL]
      refine ⟨hb, hk0, ?_, ha⟩
      rw [IokV]
      exact ⟨fun _ => hsub', fun h => by cases h⟩

theorem ctableFromPairs_Iok (hGimp : ∀ n v, G n v → impInl v = false) :
    ∀ (kvs : List Triple) (acc items : VItems), ctableFromPairs kvs acc = some items → IokL GK G 0 acc →
    (∀ t ∈ kvs, (∀ k ∈ t.1, GK k) ∧ GK t.2.1 ∧ G t.1.length t.2.2 ∧ undotted t.2.2 = true) →
    IokL GK G 0 items
  | [], acc, items, h, ha, _ => by
    simp only [ctableFromPairs] at h; injection h with h; subst h; exact ha
  | (path, key, v) :: rest, acc, items, h, ha, hl => by
    unfold ctableFromPairs at h
    split at h
    · rename_i acc' hi
      obtain ⟨h1, h2, h3, h4⟩ := hl (path, key, v) (List.mem_cons_self ..)
      refine ctableFromPairs_Iok hGimp rest acc' items h ?_ (fun e he => hl e (List.mem_cons_of_mem _ he))
      exact cinlInsert_Iok GK G hGimp h2 h4 path acc false acc' hi 0 ha h1 (by simpa using h3)
    · cases h

/-- `rel` is the path of the entry below `P`, the entry's own key included: hence `m + 1` -/
theorem Iok_entries :
    (∀ (v : CVal) (n : Nat) (P : List CKey) (k : CKey), GK k → IokV GK G n v →
      ∀ e ∈ valuesVal v (P ++ [k]), ∃ rel m, e.1 = P ++ rel ∧ m + 1 = n + rel.length ∧ (∀ k ∈ rel, GK k) ∧ G m e.2) ∧
    (∀ (items : VItems) (n : Nat) (P : List CKey), IokL GK G n items →
      ∀ e ∈ valuesInl items P, ∃ rel m, e.1 = P ++ rel ∧ m + 1 = n + rel.length ∧ (∀ k ∈ rel, GK k) ∧ G m e.2) := by
  have leaf : ∀ (v : CVal) (n : Nat) (P : List CKey) (k : CKey), GK k → G n v →
      ∀ e ∈ [(P ++ [k], v)], ∃ rel m, e.1 = P ++ rel ∧ m + 1 = n + rel.length ∧ (∀ k ∈ rel, GK k) ∧ G m e.2 := by
    intro v n P k hk h e he
    simp only [List.mem_singleton] at he
    subst he
    exact ⟨[k], n, rfl, by simp, by simpa using hk, h⟩
  refine And.imp_right And.right
    (cval_induct (Q := fun _ => True) ?_ ?_ ?_ trivial (fun _ _ _ _ => trivial) ?_ ?_)
  · intro a b c n P k hk h
    rw [IokV] at h
    simpa only [valuesVal] using leaf _ n P k hk h
  · intro a b c d e' _ n P k hk h
    rw [IokV] at h
    simpa only [valuesVal] using leaf _ n P k hk h
  · intro sub pre imp dot dec sp hsub n P k hk h e he
    rw [IokV] at h
    cases dot with
    | false =>
      simp only [valuesVal, Bool.false_eq_true, if_false] at he
      exact leaf _ n P k hk (h.2 rfl) e he
    | true =>
      simp only [valuesVal, if_true] at he
      obtain ⟨rel, m, e1, e2, e3, e4⟩ := hsub (n + 1) (P ++ [k]) (h.1 rfl) e he
      refine ⟨k :: rel, m, by rw [e1]; simp, by simp; omega, ?_, e4⟩
      intro k' hk'
      rcases List.mem_cons.1 hk' with rfl | hk'
      · exact hk
      · exact e3 k' hk'
  · intro n P _ e he
    rw [valuesInl_nil] at he; cases he
  · intro k v r hv _ hr n P h e he
    rw [IokL] at h
    rw [valuesInl_cons] at he
    rcases List.mem_append.1 he with he | he
    · exact hv n P k h.1 h.2.1 e he
    · exact hr n P h.2.2 e he

theorem IokV_entries : ∀ (v : CVal) (n : Nat) (P : List CKey) (k : CKey), GK k → IokV GK G n v →
    ∀ e ∈ valuesVal v (P ++ [k]), ∃ rel m, e.1 = P ++ rel ∧ m + 1 = n + rel.length ∧ (∀ k ∈ rel, GK k) ∧ G m e.2 :=
  (Iok_entries GK G).1

end Iok

def eTriple (e : List CKey × CVal) : STriple :=
  ((keysOf e.1).dropLast, (keysOf e.1).getLast?.getD [], eraseVal e.2)

def preP (p : List Bytes) (e : STriple) : STriple := (p ++ e.1, e.2.1, e.2.2)

theorem eTriple_snoc (P : List CKey) (k : CKey) (v : CVal) : eTriple (P ++ [k], v) = (keysOf P, k.key, eraseVal v) := by
  simp [eTriple, keysOf]

def LeafG (v : CVal) : Prop := undotted v = true ∧ impInl v = false ∧ SLeaf (eraseVal v)

theorem values_sflat (GK : CKey → Prop) (G : Nat → CVal → Prop) (hG : ∀ n v, G n v → LeafG v) :
    (∀ (v : CVal) (n : Nat) (P : List CKey) (k : CKey), IokV GK G n v →
      (valuesVal v (P ++ [k])).map eTriple = (sflatV k.key (eraseVal v)).map (preP (keysOf P))) ∧
    (∀ (items : VItems) (n : Nat) (P : List CKey), IokL GK G n items →
      (valuesInl items P).map eTriple = (sflat (eraseKvs items)).map (preP (keysOf P))) := by
  refine And.imp_right And.right
    (cval_induct (Q := fun _ => True) ?_ ?_ ?_ trivial (fun _ _ _ _ => trivial) ?_ ?_)
  · intro a b c n P k h
    rw [IokV] at h
    rw [sflatV_leaf _ _ (hG _ _ h).2.2]
    simp [valuesVal, eTriple_snoc, preP]
  · intro a b c d e' _ n P k h
    rw [IokV] at h
    rw [sflatV_leaf _ _ (hG _ _ h).2.2]
    simp [valuesVal, eTriple_snoc, preP]
  · intro sub pre imp dot dec sp hsub n P k h
    rw [IokV] at h
    cases dot with
    | false =>
      rw [sflatV_leaf _ _ (hG _ _ (h.2 rfl)).2.2]
      simp [valuesVal, eTriple_snoc, preP]
    | true =>
      simp only [valuesVal, if_true, eraseVal, sflatV]
      rw [hsub (n + 1) (P ++ [k]) (h.1 rfl), List.map_map]
      apply List.map_congr_left
      intro e _
      simp [preP, consK, keysOf]
  · intro n P _
    simp [valuesInl_nil, eraseKvs, sflat]
  · intro k v r hv _ hr n P h
    rw [IokL] at h
    rw [valuesInl_cons, eraseKvs, sflat, List.map_append, List.map_append, hv n P k h.2.1, hr n P h.2.2]

theorem valuesVal_sflat (G : Nat → CVal → Prop) (hG : ∀ n v, G n v → LeafG v) :
    ∀ (v : CVal) (n : Nat) (P : List CKey) (k : CKey), IokV (fun _ => True) G n v →
    (valuesVal v (P ++ [k])).map eTriple = (sflatV k.key (eraseVal v)).map (preP (keysOf P)) :=
  (values_sflat _ G hG).1

end TomlVerif.Lemmas.Tiling03More.VS
