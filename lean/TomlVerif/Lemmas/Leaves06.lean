import TomlVerif.Lemmas.ScalarTokens01
import TomlVerif.Model.Encode06
/-! The default representations of strings, booleans, integers and the special floats are scalar tokens
    (`ScalarOK`: `value` reads them back before every continuation in which a value may end; finite floats:
    `Props/C06.lean`, date-times: `Scalars01.scalarOK_datetime`), and the contexts the printer puts a value in
    (`LeafFollow`) are such continuations. -/
namespace TomlVerif.Lemmas.Encode06
open TomlVerif TomlVerif.Spec TomlVerif.Model TomlVerif.Model.Encode06 TomlVerif.Model.Value
open TomlVerif.Model.Numbers TomlVerif.Model.Datetime TomlVerif.Lemmas.Numbers11 TomlVerif.Lemmas.Datetime12
open TomlVerif.Props.C12 TomlVerif.Spec.AstValue

/-- what the printer writes after a value: end of text, a newline (table body), `,` / `]`
    (array), `,` or ` }` (inline table) -/
def LeafFollow (rest : Bytes) : Prop :=
  ∀ b r, rest = b :: r → b = 0x0A ∨ b = 0x2C ∨ b = 0x5D ∨ (b = 0x20 ∧ ∃ r', r = 0x7D :: r')

theorem leafFollow_nil : LeafFollow [] := by intro b r h; cases h

theorem LeafFollow.valFollowS {rest : Bytes} (h : LeafFollow rest) : ValFollowS rest := by
  refine ⟨?_, ?_⟩
  · cases rest with
    | nil => trivial
    | cons b r =>
      rcases h b r rfl with h | h | h | ⟨h, _⟩ <;> subst h <;> (show isFollowByte _ = true; decide)
  · intro b r e
    rcases h _ _ e with h | h | h | ⟨_, r', h⟩
    · cases h
    · cases h
    · cases h
    · injection h with h _; subst h; decide

theorem _root_.TomlVerif.Spec.AstValue.ScalarOK.leaf {t : ScalarTok} (h : ScalarOK t) (rest : Bytes) (fuel d : Nat)
    (hr : LeafFollow rest) : value (fuel + 1) d (t.tok ++ rest) = .ok t.v rest :=
  h.2 (fuel + 1) d rest (Nat.succ_pos _) hr.valFollowS

theorem scalarOK_reprString (s : Bytes) : ScalarOK ⟨reprString s, .str s⟩ := by
  unfold reprString
  have h := Props.C10.T10_value_default_total s
  cases hw : Write.writeValue .default s with
  | none => rw [hw] at h; cases h
  | some tok => exact Scalars01.scalarOK_string .default s tok hw

theorem strBytes_true : strBytes "true" = [0x74, 0x72, 0x75, 0x65] := by rw [strBytes_eq rfl]; rfl
theorem strBytes_false : strBytes "false" = [0x66, 0x61, 0x6C, 0x73, 0x65] := by rw [strBytes_eq rfl]; rfl
theorem strBytes_nan : strBytes "nan" = [0x6E, 0x61, 0x6E] := by rw [strBytes_eq rfl]; rfl
theorem strBytes_mnan : strBytes "-nan" = [0x2D, 0x6E, 0x61, 0x6E] := by rw [strBytes_eq rfl]; rfl
theorem strBytes_zero : strBytes "0.0" = [0x30, 0x2E, 0x30] := by rw [strBytes_eq rfl]; rfl
theorem strBytes_mzero : strBytes "-0.0" = [0x2D, 0x30, 0x2E, 0x30] := by rw [strBytes_eq rfl]; rfl

theorem scalarOK_reprBool (b : Bool) : ScalarOK ⟨reprBool b, .bool b⟩ := by
  cases b
  · simp only [reprBool, strBytes_false, Bool.false_eq_true, if_false]; exact Value01.scalarOK_false
  · simp only [reprBool, strBytes_true, if_true]; exact Value01.scalarOK_true

theorem scalarOK_writeInt (n : Int) (hn : inI64 n = true) : ScalarOK ⟨writeInt n, .int n⟩ := by
  have hsp := natDigits_spec n.natAbs
  have hg : GoodGroups isDigit [natDigits n.natAbs] := by
    refine ⟨by simp, ?_⟩
    intro g hgm
    simp only [List.mem_singleton] at hgm
    subst hgm
    exact ⟨hsp.1, hsp.2.1⟩
  have hz : NoLeadingZero [natDigits n.natAbs] := by
    intro g0 gs h; injection h with h1 h2; exact ⟨(hsp.2.2.2 g0 h1).2, h2.symm⟩
  have := Scalars01.scalarOK_dec (if n < 0 then some true else none) [natDigits n.natAbs] hg hz
    (by rw [decValue_writeInt]; exact hn)
  rw [← writeInt_eq, decValue_writeInt] at this
  exact this

theorem dateTime_nondigit_bt (b : Byte) (r : Bytes) (hb : isDigit b = false) : Doc.dateTime (b :: r) = .bt := by
  have h4 : digits4 (b :: r) = none := by
    unfold digits4; split
    · rename_i heq; injection heq with h1 _; subst h1; simp [hb]
    · rfl
  have h2 : digits2 (b :: r) = none := by
    unfold digits2; split
    · rename_i heq; injection heq with h1 _; subst h1; simp [hb]
    · rfl
  simp [Doc.dateTime, Doc.fullDate, Doc.partialTime, h4, h2]

theorem float_minus_letter (k : Byte) (r : Bytes) (hk : k = 0x69 ∨ k = 0x6E) :
    float (0x2D :: k :: r) = specialBody Ieee.signBit (k :: r) := by
  unfold float
  rw [Sound01.floatLit_bt_of_decInt _ (by rw [decInt_minus]; exact Sound01.decBody_bt_letter _ _ _ _ hk),
    specialFloat_minus]

theorem value_minus_special (rest : Bytes) (fuel d : Nat) :
    value (fuel + 1) d (0x2D :: 0x6E :: 0x61 :: 0x6E :: rest) = .ok (.float (Ieee.signBit + Ieee.nanBits)) rest ∧
    value (fuel + 1) d (0x2D :: 0x69 :: 0x6E :: 0x66 :: rest) = .ok (.float (Ieee.signBit + Ieee.infBits)) rest := by
  have hn : startsWith [0x6E, 0x61, 0x6E] (0x6E :: 0x61 :: 0x6E :: rest) = some rest :=
    Sound01.startsWith_self [0x6E, 0x61, 0x6E] rest
  have hi : startsWith [0x69, 0x6E, 0x66] (0x69 :: 0x6E :: 0x66 :: rest) = some rest :=
    Sound01.startsWith_self [0x69, 0x6E, 0x66] rest
  constructor
  · refine Scalars01.value_float fuel d _ _ rest _ (by decide) (dateTime_nondigit_bt _ _ (by decide)) ?_
    rw [float_minus_letter _ _ (Or.inr rfl)]
    simp only [specialBody, startsWith_cons_ne _ _ (by decide : (0x6E : Byte) ≠ 0x69), hn]
  · refine Scalars01.value_float fuel d _ _ rest _ (by decide) (dateTime_nondigit_bt _ _ (by decide)) ?_
    rw [float_minus_letter _ _ (Or.inl rfl)]
    simp only [specialBody, hi]

theorem scalarOK_special (neg : Bool) :
    ScalarOK ⟨(if neg then [0x2D] else []) ++ [0x6E, 0x61, 0x6E], .float ((if neg then Ieee.signBit else 0) + Ieee.nanBits)⟩ ∧
    ScalarOK ⟨(if neg then [0x2D] else []) ++ [0x69, 0x6E, 0x66], .float ((if neg then Ieee.signBit else 0) + Ieee.infBits)⟩ := by
  cases neg
  · exact ⟨Sound01.scalarOK_nan, Sound01.scalarOK_inf⟩
  · exact ⟨Sound01.scalarOK_of_local _ _ 0x2D _ rfl (by decide) (by decide) (by decide)
        (fun f d rest _ => (value_minus_special rest f d).1),
      Sound01.scalarOK_of_local _ _ 0x2D _ rfl (by decide) (by decide) (by decide)
        (fun f d rest _ => (value_minus_special rest f d).2)⟩

theorem reprFloat_nan (bits : Nat) (disp : Bytes) (he : bits / 2 ^ 52 % 2 ^ 11 = 2047) (hm : bits % 2 ^ 52 ≠ 0) :
    reprFloat bits disp = (if bits / 2 ^ 63 == 1 then [0x2D] else []) ++ [0x6E, 0x61, 0x6E] := by
  have hm' : (bits % 2 ^ 52 != 0) = true := by simpa using hm
  have he' : (bits / 2 ^ 52 % 2 ^ 11 == 2047) = true := by simpa using he
  unfold reprFloat
  simp only [he', hm', writeFloat, strBytes_nan, strBytes_mnan, Bool.and_self, if_true]
  split <;> rfl

end TomlVerif.Lemmas.Encode06
