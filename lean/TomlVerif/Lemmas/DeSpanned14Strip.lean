import TomlVerif.Lemmas.DeSpanned14Ranges
/-! For Props/C14SpannedFull.lean and Props/C14SpannedUniform.lean: the condition under which `Spanned` wrappers are
    transparent (`Ok`), and forgetting the wrappers (`stripDec`) through the combinators, the key deserializer, serde's
    string deserializers and the `visit_map` of a derived struct. -/
namespace TomlVerif.Lemmas.DeSpanned14
open TomlVerif TomlVerif.Model TomlVerif.Model.DeTyped TomlVerif.Model.Cst TomlVerif.Model.DeLocated
open TomlVerif.Model.DeSpanned TomlVerif.Lemmas.DeLocated15

def noSp : KeyTy → Bool
  | .string => true
  | .newtype k => noSp k
  | .spanned _ => false

/-- no `Spanned` inside a `Spanned` of a key type -/
def keyOk : KeyTy → Bool
  | .string => true
  | .newtype k => keyOk k
  | .spanned k => noSp k

/-- not `Spanned<_>` itself (what serde's `StringDeserializer` can be asked for) -/
def strOk : STy → Bool
  | .spanned _ => false
  | _ => true

/-- `missing_field` answers for the wrapper type as for the stripped type (`Spanned<Option<T>>` is the wrapper type for
which it does not) -/
def missAgree (t : STy) : Bool :=
  match missingSp t, missingField (strip t) with
  | some _, .ok _ => true
  | none, .error _ => true
  | _, _ => false

def missAll : SFields → Bool
  | .nil => true
  | .cons _ t _ r => missAgree t && missAll r

mutual
/-- `Ok t it`: decoding `it` into `t`, every node a `Spanned` of the type meets has an `item_span`, every key a `Spanned`
key type meets has a span and the key type has no `Spanned` inside `Spanned`, no struct field is a `Spanned<Option<_>>`
(more exactly: `missing_field` agrees), and where a date-time is read as a map / struct (serde's string deserializers) the
key type is `String` and the value type is not `Spanned<_>`. (`OkSeq fs []` asks nothing: it is `True` for every `fs`.) -/
def Ok : STy → CItem → Prop
  | .plain _, _ => True
  | .spanned t, it => (itemSpan it).isSome = true ∧ Ok t it
  | .option t, it => Ok t it
  | .newtype t, it => Ok t it
  | .seq t, it => ∀ l, citemElems it = some l → ∀ x ∈ l, Ok t x
  | .map kt t, it =>
    ∀ es, locMapEntries it = some es → ∀ kv ∈ es,
      (match kv.2 with
       | .item k i => keyOk kt = true ∧ ((keySpan k).isSome = true ∨ noSp kt = true) ∧ Ok t i
       | .str _ => kt = .string ∧ strOk t = true)
  | .struct fs, it =>
    missAll fs = true ∧ (∀ es, locMapEntries it = some es → ∀ kv ∈ es, OkEntry fs kv.1 kv.2) ∧
      (∀ l, citemElems it = some l → OkSeq fs l)
  | .enum vs, it => ∀ k p, citemEntries it = some [(k, p)] → OkVariants vs k.key p
def OkEntry : SFields → Bytes → LSrc → Prop
  | .nil, _, _ => True
  | .cons name t _ r, k, src =>
    if name == k then (match src with | .item _ i => Ok t i | .str _ => strOk t = true) else OkEntry r k src
def OkSeq : SFields → List CItem → Prop
  | .nil, _ => True
  | .cons _ _ _ r, [] => OkSeq r []
  | .cons _ t _ r, i :: l => Ok t i ∧ OkSeq r l
def OkVariants : SVariants → Bytes → CItem → Prop
  | .nil, _, _ => True
  | .cons name s r, k, p => if name == k then OkShape s p else OkVariants r k p
def OkShape : SShape → CItem → Prop
  | .unit, _ => True
  | .newtype t, p => Ok t p
end

theorem lmap_lmap {α β γ} (f : β → γ) (g : α → β) (x : LR α) : lmap f (lmap g x) = lmap (fun a => f (g a)) x := by
  cases x <;> rfl

theorem lmap_atSpan {α β} (f : α → β) (sp : Option Span) (x : LR α) : lmap f (atSpan sp x) = atSpan sp (lmap f x) := by
  cases x <;> rfl

theorem lmap_inEntry {α β} (f : α → β) (sp : Option Span) (k : Bytes) (x : LR α) :
    lmap f (inEntry sp k x) = inEntry sp k (lmap f x) := by
  cases x <;> rfl

theorem lmap_lcons {α β} (h : α → β) (a : LR α) (l : LR (List α)) :
    lmap (List.map h) (lcons a l) = lcons (lmap h a) (lmap (List.map h) l) := by
  cases a <;> cases l <;> rfl

theorem lmap_mapL {α β γ} (h : β → γ) (f : α → LR β) (g : α → LR γ) : ∀ l : List α, (∀ a ∈ l, lmap h (f a) = g a) →
    lmap (List.map h) (mapL f l) = mapL g l
  | [], _ => rfl
  | a :: r, hh => by
    simp only [mapL, lmap_lcons]
    rw [hh a (List.mem_cons_self ..), lmap_mapL h f g r fun x hx => hh x (List.mem_cons_of_mem _ hx)]

theorem lmap_congr {α β} (f g : α → β) (x : LR α) (h : ∀ a, f a = g a) : lmap f x = lmap g x := by
  cases x with
  | ok a => simp [lmap, h]
  | error e => rfl

theorem stripDecs_eq_map : ∀ l : List SDec, stripDecs l = l.map stripDec
  | [] => by simp [stripDecs]
  | d :: r => by simp [stripDecs, stripDecs_eq_map r]

theorem stripEntries_eq_map : ∀ l : List (SKey × SDec), stripEntries l = l.map fun kd => (stripKey kd.1, stripDec kd.2)
  | [] => by simp [stripEntries]
  | (k, d) :: r => by simp [stripEntries, stripEntries_eq_map r]

theorem stripNamed_eq_map : ∀ l : List (Bytes × SDec), stripNamed l = l.map fun kd => (kd.1, stripDec kd.2)
  | [] => by simp [stripNamed]
  | (k, d) :: r => by simp [stripNamed, stripNamed_eq_map r]

theorem decodeKey_noSp (k : Bytes) (sp : Option Span) : ∀ kt : KeyTy, noSp kt = true →
    ∃ key, decodeKey kt k sp = .ok key ∧ stripKey key = k
  | .string, _ => ⟨.str k, rfl, rfl⟩
  | .newtype kt, h => by
    obtain ⟨key, hk, hs⟩ := decodeKey_noSp k sp kt (by simpa [noSp] using h)
    exact ⟨.newtype key, by simp [decodeKey, hk, lmap], by simpa [stripKey] using hs⟩
  | .spanned _, h => by simp [noSp] at h

theorem decodeKey_ok (k : Bytes) (sp : Option Span) : ∀ kt : KeyTy, keyOk kt = true → (sp.isSome = true ∨ noSp kt = true) →
    ∃ key, decodeKey kt k sp = .ok key ∧ stripKey key = k
  | .string, _, _ => ⟨.str k, rfl, rfl⟩
  | .newtype kt, h, h2 => by
    obtain ⟨key, hk, hs⟩ := decodeKey_ok k sp kt (by simpa [keyOk] using h) (by simpa [noSp] using h2)
    exact ⟨.newtype key, by simp [decodeKey, hk, lmap], by simpa [stripKey] using hs⟩
  | .spanned kt, h, h2 => by
    cases sp with
    | none => simp [noSp] at h2
    | some ab =>
      obtain ⟨a, b⟩ := ab
      obtain ⟨key, hk, hs⟩ := decodeKey_noSp k none kt (by simpa [keyOk] using h)
      exact ⟨.spanned a b key, by simp [decodeKey, hk, lmap], by simpa [stripKey] using hs⟩

theorem unitOnlySp_strip : ∀ (vs : SVariants) (s : Bytes),
    rmap stripDec (unitOnlySp vs s) = unitOnlyVariant (stripVariants vs) s
  | .nil, s => rfl
  | .cons n sh r, s => by
    unfold unitOnlySp
    simp only [stripVariants, unitOnlyVariant]
    split
    · cases sh <;> simp [stripShape, rmap, stripDec, fail]
    · exact unitOnlySp_strip r s

theorem decodeStrSp_strip (t : STy) (s : Bytes) (h : strOk t = true) :
    rmap stripDec (decodeStrSp t s) = decodeStrDe (strip t) s := by
  cases t with
  | plain t =>
    simp only [decodeStrSp, strip]
    cases decodeStrDe t s <;> simp [rmap, stripDec]
  | spanned t => simp [strOk] at h
  | enum vs => simp only [decodeStrSp, strip, decodeStrDe]; exact unitOnlySp_strip vs s
  | option t => simp [decodeStrSp, strip, decodeStrDe, rmap, fail]
  | newtype t => simp [decodeStrSp, strip, decodeStrDe, rmap, fail]
  | seq t => simp [decodeStrSp, strip, decodeStrDe, rmap, fail]
  | map k t => simp [decodeStrSp, strip, decodeStrDe, rmap, fail]
  | struct fs => simp [decodeStrSp, strip, decodeStrDe, rmap, fail]

theorem lmap_liftV {α β} (f : α → β) (r : R α) : lmap f (liftV r) = liftV (rmap f r) := by
  cases r <;> rfl

theorem hasName_strip (k : Bytes) : ∀ fs : SFields, (stripFields fs).hasName k = fs.hasName k
  | .nil => rfl
  | .cons n t d r => by simp [stripFields, Fields.hasName, SFields.hasName, hasName_strip k r]

theorem walk_strip (known : Bytes → Bool) (fS : Bytes → LSrc → LR (Option SDec)) (fL : Bytes → LSrc → LR (Option Dec)) :
    ∀ (es : List (Bytes × LSrc)) (seen : List Bytes),
    (∀ kv ∈ es, lmap (Option.map stripDec) (fS kv.1 kv.2) = fL kv.1 kv.2) →
    lmap stripNamed (walkG visitorErr known fS seen es) = walkEntries visitorErr known fL seen es
  | [], _, _ => by simp [walkG, walkEntries, lmap, stripNamed]
  | (k, s) :: r, seen, h => by
    have hh := h (k, s) (List.mem_cons_self ..)
    have ih := fun seen' => walk_strip known fS fL r seen' fun kv hkv => h kv (List.mem_cons_of_mem _ hkv)
    unfold walkG walkEntries
    by_cases hc : (known k && seen.contains k) = true
    · rw [if_pos hc, if_pos hc]; rfl
    · rw [if_neg hc, if_neg hc]
      simp only [] at hh
      rw [← hh]
      cases hf : fS k s with
      | error e => rfl
      | ok o =>
        cases o with
        | none => simpa [lmap] using ih seen
        | some d =>
          have := ih (k :: seen)
          simp only [lmap, Option.map_some]
          cases hw : walkG visitorErr known fS (k :: seen) r with
          | error e => rw [hw] at this; simp only [lmap] at this; rw [← this]
          | ok ds => rw [hw] at this; simp only [lmap] at this; rw [← this]; simp [stripNamed]

theorem alookup_stripNamed (name : Bytes) (ds : List (Bytes × SDec)) :
    alookup name (stripNamed ds) = (alookup name ds).map stripDec := by
  rw [stripNamed_eq_map]; exact State09.alookup_mapV stripDec name ds

theorem filled_strip {t : STy} (h : missAgree t = true) (dflt : Bool) (o : Option SDec) :
    filled (strip t) dflt (o.map stripDec) = (filledSp t dflt o).map stripDec := by
  unfold filled filledSp
  cases o with
  | some d => rfl
  | none =>
    cases dflt with
    | true => rfl
    | false =>
      unfold missAgree at h
      simp only [Option.map_none, Bool.false_eq_true, if_false]
      cases hms : missingSp t with
      | none => rw [hms] at h; cases hmf : missingField (strip t) with
        | ok d => rw [hmf] at h; cases h
        | error e => rfl
      | some d => rw [hms] at h; cases hmf : missingField (strip t) with
        | error e => rw [hmf] at h; cases h
        | ok d' =>
          -- both are `None`
          cases t with
          | option t0 => cases hms; cases hmf; rfl
          | plain t0 => cases t0 <;> cases hms; cases hmf; rfl
          | _ => cases hms

theorem fill_strip : ∀ (fs : SFields) (ds : List (Bytes × SDec)), missAll fs = true →
    lmap stripNamed (fillSp fs ds) = fillFields visitorErr (stripFields fs) (stripNamed ds)
  | .nil, ds, _ => by simp [fillSp, fillFields, stripFields, lmap, stripNamed]
  | .cons name t dflt r, ds, h => by
    simp only [missAll, Bool.and_eq_true] at h
    rw [fillSp_cons, stripFields, fillFields_cons, alookup_stripNamed, filled_strip h.1, ← fill_strip r ds h.2]
    cases filledSp t dflt (alookup name ds) with
    | none => rfl
    | some d => cases fillSp r ds <;> simp [lmap, Except.map, stripNamed]

end TomlVerif.Lemmas.DeSpanned14
