import TomlVerif.Lemmas.Tiling03MoreComments
import TomlVerif.Lemmas.Tiling03Eol
import TomlVerif.Lemmas.Tiling03ValueClasses
import TomlVerif.Lemmas.CstInduct
/-! C03, "every comment is kept" — the scanner side: a comment found in a piece of trivia is a
    CR-free contiguous piece of it, so it survives the deletion of CRs the printer applies to
    every decor text; and every decor piece is a slice of the input. -/
namespace TomlVerif.Lemmas.Tiling03More
open TomlVerif TomlVerif.Model TomlVerif.Model.Cst TomlVerif.Model.Encode TomlVerif.Lemmas.Cst03
open TomlVerif.Lemmas.Tiling03Hdr

def CF (c : Bytes) : Prop := ∀ b ∈ c, b ≠ 0x0D

theorem commentsAux_spec : ∀ t : Bytes,
    (∀ c, c ∈ commentsAux t none → c <:+: t ∧ CF c) ∧
    (∀ acc c, CF acc → c ∈ commentsAux t (some acc) →
      (∃ x, c = acc ++ x ∧ x <+: t ∧ CF x) ∨ (c <:+: t ∧ CF c))
  | [] => by
    constructor
    · intro c h; simp [commentsAux] at h
    · intro acc c _ h
      simp only [commentsAux, List.mem_singleton] at h
      subst h
      exact Or.inl ⟨[], by simp, ⟨[], by simp⟩, fun _ hb => by cases hb⟩
  | b :: r => by
    obtain ⟨ih1, ih2⟩ := commentsAux_spec r
    constructor
    · intro c h
      unfold commentsAux at h
      split at h
      · rename_i hb
        have hb' : b = 0x23 := by simpa using hb
        have hacc : CF [0x23] := by
          intro x hx; simp only [List.mem_singleton] at hx; subst hx; decide
        rcases ih2 [0x23] c hacc h with ⟨x, e, ⟨q, hq⟩, hx⟩ | ⟨hi, hc⟩
        · subst e; subst hb'
          refine ⟨⟨[], q, by rw [← hq]; simp⟩, ?_⟩
          intro y hy
          rcases List.mem_append.1 hy with hy | hy
          · exact hacc y hy
          · exact hx y hy
        · exact ⟨List.infix_cons (a := b) hi, hc⟩
      · obtain ⟨hi, hc⟩ := ih1 c h
        exact ⟨List.infix_cons (a := b) hi, hc⟩
    · intro acc c hacc h
      unfold commentsAux at h
      split at h
      · simp only [List.mem_cons] at h
        rcases h with h | h
        · subst h
          exact Or.inl ⟨[], by simp, ⟨b :: r, by simp⟩, fun _ hb => by cases hb⟩
        · obtain ⟨hi, hc⟩ := ih1 c h
          exact Or.inr ⟨List.infix_cons (a := b) hi, hc⟩
      · rename_i hb
        have hb' : b ≠ 0x0D := by
          intro e; subst e; simp at hb
        have hacc' : CF (acc ++ [b]) := by
          intro y hy
          rcases List.mem_append.1 hy with hy | hy
          · exact hacc y hy
          · simp only [List.mem_singleton] at hy; subst hy; exact hb'
        rcases ih2 (acc ++ [b]) c hacc' h with ⟨x, e, ⟨q, hq⟩, hx⟩ | ⟨hi, hc⟩
        · refine Or.inl ⟨b :: x, by rw [e]; simp, ⟨q, by rw [← hq]; simp⟩, ?_⟩
          intro y hy
          simp only [List.mem_cons] at hy
          rcases hy with hy | hy
          · subst hy; exact hb'
          · exact hx y hy
        · exact Or.inr ⟨List.infix_cons (a := b) hi, hc⟩

theorem commentsIn_infix (t c : Bytes) (h : c ∈ commentsIn t) : c <:+: t ∧ (∀ b ∈ c, b ≠ 0x0D) :=
  (commentsAux_spec t).1 c h

theorem commentsIn_stripCr (t c : Bytes) (h : c ∈ commentsIn t) : c <:+: stripCr t := by
  obtain ⟨hi, hc⟩ := commentsIn_infix t c h
  exact DropCr.infix_noCr (DropCr.stripCr t) hi hc

example : commentsIn (strBytes " # a\r\n\t#b\n") = [strBytes "# a", strBytes "#b"] := by decide +kernel

theorem rawText_infix (inp : Bytes) (r : Raw) : rawText inp r <:+: inp := by
  cases r with
  | empty => exact List.nil_infix
  | spanned a b => exact Tiling03.slice_infix inp a b

theorem decorPieces_infix (inp : Bytes) (d : Decor) : ∀ p ∈ decorPieces inp d, p <:+: inp := by
  intro p hp
  unfold decorPieces at hp
  rcases List.mem_append.1 hp with hp | hp
  · cases hd : d.pre with
    | none => rw [hd] at hp; cases hp
    | some r => rw [hd] at hp; simp only [List.mem_singleton] at hp; subst hp; exact rawText_infix inp r
  · cases hd : d.suf with
    | none => rw [hd] at hp; cases hp
    | some r => rw [hd] at hp; simp only [List.mem_singleton] at hp; subst hp; exact rawText_infix inp r

theorem valPieces_infix_all (inp : Bytes) :
    (∀ (v : CVal) (p : Bytes), p ∈ valPieces inp v → p <:+: inp) ∧
    (∀ (items : List CVal) (p : Bytes), p ∈ elemsPieces inp items → p <:+: inp) ∧
    (∀ (items : List (CKey × CVal)) (p : Bytes), p ∈ kvsPieces inp items → p <:+: inp) := by
  refine cval_induct ?_ ?_ ?_ ?_ ?_ ?_ ?_
  · intro _ _ dec p hp
    rw [valPieces] at hp
    exact decorPieces_infix inp dec p hp
  · intro items tr _ dec _ ih p hp
    rw [valPieces] at hp
    rcases List.mem_append.1 hp with hp | hp
    · rcases List.mem_append.1 hp with hp | hp
      · exact decorPieces_infix inp dec p hp
      · exact ih p hp
    · simp only [List.mem_singleton] at hp; subst hp; exact rawText_infix inp tr
  · intro items pre _ _ dec _ ih p hp
    rw [valPieces] at hp
    rcases List.mem_append.1 hp with hp | hp
    · rcases List.mem_append.1 hp with hp | hp
      · exact decorPieces_infix inp dec p hp
      · simp only [List.mem_singleton] at hp; subst hp; exact rawText_infix inp pre
    · exact ih p hp
  · intro p hp; rw [elemsPieces] at hp; cases hp
  · intro v r ihv ihr p hp
    rw [elemsPieces] at hp
    rcases List.mem_append.1 hp with hp | hp
    · exact ihv p hp
    · exact ihr p hp
  · intro p hp; rw [kvsPieces] at hp; cases hp
  · intro k v r ihv _ ihr p hp
    rw [kvsPieces] at hp
    rcases List.mem_append.1 hp with hp | hp
    · rcases List.mem_append.1 hp with hp | hp
      · exact decorPieces_infix inp k.leaf p hp
      · exact ihv p hp
    · exact ihr p hp

theorem valPieces_infix (inp : Bytes) : ∀ (v : CVal) (p : Bytes), p ∈ valPieces inp v → p <:+: inp :=
  (valPieces_infix_all inp).1
theorem tblPieces_infix_all (inp : Bytes) :
    (∀ (items : List (CKey × CItem)) (p : Bytes), p ∈ itemsPieces inp items → p <:+: inp) ∧
    (∀ (t : CTbl) (p : Bytes), p ∈ tblPieces inp t → p <:+: inp) ∧
    (∀ (ts : List CTbl) (p : Bytes), p ∈ tblsPieces inp ts → p <:+: inp) := by
  refine items_induct ?_ ?_ ?_ ?_ ?_ ?_ ?_
  · intro p hp; rw [itemsPieces] at hp; cases hp
  · intro k v r ihr p hp
    rw [itemsPieces] at hp
    rcases List.mem_append.1 hp with hp | hp
    · rcases List.mem_append.1 hp with hp | hp
      · exact decorPieces_infix inp k.leaf p hp
      · exact valPieces_infix inp v p hp
    · exact ihr p hp
  · intro k t r iht ihr p hp
    rw [itemsPieces] at hp
    rcases List.mem_append.1 hp with hp | hp
    · exact iht p hp
    · exact ihr p hp
  · intro k ts _ r ihts ihr p hp
    rw [itemsPieces] at hp
    rcases List.mem_append.1 hp with hp | hp
    · exact ihts p hp
    · exact ihr p hp
  · intro items _ _ _ dec _ ih p hp
    rw [tblPieces] at hp
    rcases List.mem_append.1 hp with hp | hp
    · exact decorPieces_infix inp dec p hp
    · exact ih p hp
  · intro p hp; rw [tblsPieces] at hp; cases hp
  · intro t r iht ihr p hp
    rw [tblsPieces] at hp
    rcases List.mem_append.1 hp with hp | hp
    · exact iht p hp
    · exact ihr p hp

theorem tblPieces_infix (inp : Bytes) : ∀ (t : CTbl) (p : Bytes), p ∈ tblPieces inp t → p <:+: inp :=
  (tblPieces_infix_all inp).2.1

end TomlVerif.Lemmas.Tiling03More
