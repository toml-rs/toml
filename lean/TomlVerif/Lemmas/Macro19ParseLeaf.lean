import TomlVerif.Lemmas.Macro19Text
import TomlVerif.Lemmas.Macro19Agree
import TomlVerif.Lemmas.ScalarTokens01
import TomlVerif.Lemmas.ValEq
import TomlVerif.Props.C02Strings
/-! C19: the TOML value parser reads the text of a leaf as the value the macro's literal evaluation gives
    (`leaf_scalarOK`: a scalar token, `ScalarOK` of Spec/AstValue.lean, for `mvalV m`, under `leafOk`). For the shapes
    with a blank between date and time the macro puts a `T` there; `dateTime_sp`: the date-time parser treats the two
    alike. -/
namespace TomlVerif.Lemmas.Macro19c

section DateTimeBlank
open TomlVerif TomlVerif.Spec TomlVerif.Model TomlVerif.Model.Datetime TomlVerif.Lemmas.Sound01

/-- a date is exactly ten bytes -/
theorem fullDate_local10 (s r : Bytes) (d : Date) (h : Doc.fullDate s = .ok d r) :
    ∃ tok, s = tok ++ r ∧ tok.length = 10 ∧ ∀ r', Doc.fullDate (tok ++ r') = .ok d r' := by
  obtain ⟨e, hy, hm, hd⟩ := (Datetime12.fullDate_ok_text s r d).1 h
  have := Datetime12.maxDays_le d.year d.month
  refine ⟨Std.displayDate d, e, ?_, fun r' => (Datetime12.fullDate_ok_text _ r' d).2 ⟨rfl, hy, hm, hd⟩⟩
  rw [Std.displayDate, Datetime12.pad4_eq _ (by omega), Datetime12.pad2_eq _ (by omega), Datetime12.pad2_eq _ (by omega)]
  rfl

theorem dateTime_sp (a b c d : Byte) (X W : Bytes) (hl : (a :: b :: c :: d :: 0x2D :: X).length = 10)
    (ha : isDigit a = true) (hb : isDigit b = true) (hc : isDigit c = true) (hd : isDigit d = true) (dt : Datetime)
    (h : Doc.dateTime ((a :: b :: c :: d :: 0x2D :: X) ++ 0x54 :: W) = .ok dt []) :
    Doc.dateTime ((a :: b :: c :: d :: 0x2D :: X) ++ 0x20 :: W) = .ok dt [] := by
  cases hf : Doc.fullDate ((a :: b :: c :: d :: 0x2D :: X) ++ 0x54 :: W) with
  | bt => exact absurd hf (fullDate_ne_bt a b c d _ ha hb hc hd)
  | cut => unfold Doc.dateTime at h; rw [hf] at h; cases h
  | ok dd r =>
    obtain ⟨tok, e, hlen, loc⟩ := fullDate_local10 _ _ _ hf
    obtain ⟨e1, e2⟩ := List.append_inj e (by rw [hl, hlen])
    subst e1 e2
    have hf2 := loc (0x20 :: W)
    unfold Doc.dateTime at h ⊢
    rw [hf] at h
    rw [hf2]
    have t1 : Doc.isTimeDelim 0x54 = true := by decide
    have t2 : Doc.isTimeDelim 0x20 = true := by decide
    simp only [t1, t2, if_true] at h ⊢
    cases hp : Doc.partialTime W with
    | bt => rw [hp] at h; simp only [] at h; injection h with _ h; cases h
    | cut => rw [hp] at h; cases h
    | ok t r'' => rw [hp] at h; simpa using h

end DateTimeBlank

open TomlVerif TomlVerif.Spec TomlVerif.Model TomlVerif.Model.Macro TomlVerif.Lemmas.Macro19 TomlVerif.Lemmas.Macro19b
open TomlVerif.Spec.AstValue TomlVerif.Model.Value TomlVerif.Lemmas.Value01 TomlVerif.Lemmas.Scalars01
open TomlVerif.Lemmas.Numbers11 TomlVerif.Model.Numbers
open TomlVerif.Spec.AstString (BasicChar renderBasic semBasic wfBasic)

def signOpt : Sign → Option Bool
  | .none => none
  | .plus => some false
  | .minus => some true

theorem signBytes_signOpt (s : Sign) : signBytes (signOpt s) = signText s := by cases s <;> rfl
theorem isNegSign_signOpt (s : Sign) : isNegSign (signOpt s) = s.neg := by cases s <;> rfl

theorem stripUs_digits (ds : Bytes) (h : ds.all isDigit = true) : stripUs ds = ds := by
  unfold stripUs
  rw [List.filter_eq_self]
  intro b hb
  have := List.all_eq_true.1 h b hb
  have : b ≠ 0x5F := by intro e; subst e; revert this; decide
  simpa using this

theorem digit_not_radix (b : Byte) (h : isDigit b = true) : b ≠ 0x78 ∧ b ≠ 0x6F ∧ b ≠ 0x62 := by
  simpa [isRadix, Bool.or_eq_false_iff, and_assoc] using (digit_facts2 b h).2.2.2.1

theorem intLit_dec (body : Bytes) (hne : body ≠ []) (hd : body.all isDigit = true) :
    intLitValue body = some (natOfDigitsBase 10 body) := by
  have h2 : ∀ a c r, body = a :: c :: r → c ≠ 0x78 ∧ c ≠ 0x6F ∧ c ≠ 0x62 := by
    intro a c r e; subst e
    simp at hd
    exact digit_not_radix c hd.2.1
  unfold intLitValue
  split
  · rename_i ds; exact absurd rfl (h2 _ _ _ rfl).1
  · rename_i ds; exact absurd rfl (h2 _ _ _ rfl).2.1
  · rename_i ds; exact absurd rfl (h2 _ _ _ rfl).2.2
  · simp only [stripUs_digits body hd, hd, Bool.true_and]
    have : body.isEmpty = false := by simpa using hne
    simp [this]

theorem decOk_groups (body : Bytes) (h : decOk body = true) :
    GoodGroups isDigit [body] ∧ NoLeadingZero [body] := by
  obtain ⟨hne, hd, _⟩ := decOk_facts body h
  refine ⟨⟨by simp, ?_⟩, ?_⟩
  · intro g hg
    simp at hg; subst hg
    exact ⟨hne, List.all_eq_true.1 hd⟩
  · intro g0 gs e
    simp only [List.cons.injEq] at e
    obtain ⟨e1, e2⟩ := e
    subst e1
    simp only [decOk, Bool.and_eq_true] at h
    refine ⟨by simpa using h.2, e2.symm⟩

theorem inI64_small (n : Nat) (h : n ≤ i32Max + 1) : inI64 (n : Int) = true ∧ inI64 (-(n : Int)) = true := by
  simp only [i32Max] at h
  have h' : (n : Int) ≤ 2147483648 := by omega
  unfold inI64 i64Min i64Max
  refine ⟨?_, ?_⟩
  · have a : (-9223372036854775808 : Int) ≤ (n : Int) := by omega
    have b : (n : Int) ≤ 9223372036854775807 := by omega
    simp [a, b]
  · have a : (-9223372036854775808 : Int) ≤ -(n : Int) := by omega
    have b : -(n : Int) ≤ 9223372036854775807 := by omega
    simp [a, b]

theorem int_scalarOK (s : Sign) (body : Bytes) (h : decOk body = true) (m : MVal)
    (hs : (MacroVal.int s body).sem = .ok m) : ScalarOK ⟨signText s ++ body, mvalV m⟩ := by
  obtain ⟨hne, hd, _⟩ := decOk_facts body h
  obtain ⟨hg, hz⟩ := decOk_groups body h
  have hv : decValue (signOpt s) [body] =
      if s.neg then -((natOfDigitsBase 10 body : Nat) : Int) else ((natOfDigitsBase 10 body : Nat) : Int) := by
    simp [decValue, isNegSign_signOpt]
  simp only [MacroVal.sem, litValue, List.isEmpty_nil, Bool.not_true, Bool.false_eq_true, if_false,
    intLit_dec body hne hd] at hs
  have key : ∃ n : Nat, n = natOfDigitsBase 10 body ∧ n ≤ i32Max + 1 ∧
      m = .int (if s.neg then -(n : Int) else (n : Int)) := by
    refine ⟨_, rfl, ?_⟩
    cases hn : s.neg with
    | true =>
      simp only [hn, if_true] at hs
      split at hs
      · rename_i hle; injection hs with hs; exact ⟨hle, hs.symm⟩
      · cases hs
    | false =>
      simp only [hn, Bool.false_eq_true, if_false] at hs
      split at hs
      · rename_i hle; injection hs with hs; exact ⟨by omega, hs.symm⟩
      · cases hs
  obtain ⟨n, hn, hle, rfl⟩ := key
  have hin : inI64 (decValue (signOpt s) [body]) = true := by
    rw [hv, ← hn]
    cases s.neg
    · exact (inI64_small n hle).1
    · exact (inI64_small n hle).2
  have := scalarOK_dec (signOpt s) [body] hg hz hin
  rw [hv, ← hn, signBytes_signOpt] at this
  simpa [joinU, tailGroups, mvalV] using this

theorem roundDecimal_neg (m : Nat) (e : Int) :
    Ieee.roundDecimal true m e = Ieee.signBit + Ieee.roundDecimal false m e := by
  simp only [Ieee.roundDecimal, if_true, Bool.false_eq_true, if_false, Nat.zero_add, Nat.add_zero,
    apply_ite (Ieee.signBit + ·)]

theorem bits_neg (i f : Bytes) (en : Bool) (ed : Bytes) :
    FloatLit.bits ⟨true, i, f, en, ed⟩ = Ieee.signBit + FloatLit.bits ⟨false, i, f, en, ed⟩ := by
  simp only [FloatLit.bits]
  exact roundDecimal_neg _ _

theorem isInf_sign (b : Nat) : Ieee.isInfBits (Ieee.signBit + b) = Ieee.isInfBits b := by
  simp [Ieee.isInfBits, Nat.add_mod_left]

theorem floatLitBits_frac (ip fp : Bytes) (hi : ip.all isDigit = true) (hf : fp.all isDigit = true) :
    floatLitBits (ip ++ 0x2E :: fp) =
      if Ieee.isInfBits (FloatLit.bits ⟨false, ip, fp, false, []⟩) then none
      else some (FloatLit.bits ⟨false, ip, fp, false, []⟩) := by
  have hs : stripUs (ip ++ 0x2E :: fp) = ip ++ 0x2E :: fp := by
    have e : stripUs (ip ++ 0x2E :: fp) = stripUs ip ++ 0x2E :: stripUs fp := by simp [stripUs]
    rw [e, stripUs_digits ip hi, stripUs_digits fp hf]
  have h1 : spanP isDigit (ip ++ 0x2E :: fp) = (ip, 0x2E :: fp) := spanP_append isDigit ip _ hi (by simp [Hd, isDigit, inR])
  have h2 : spanP isDigit fp = (fp, []) := by
    have := spanP_append isDigit fp [] hf trivial
    simpa using this
  unfold floatLitBits
  simp only [hs, h1, h2]

theorem float_scalarOK (s : Sign) (body : Bytes) (h : fracOk body = true) (m : MVal)
    (hs : (MacroVal.float s body).sem = .ok m) : ScalarOK ⟨signText s ++ body, mvalV m⟩ := by
  obtain ⟨ip, fp, rfl, hip, hfne, hf⟩ := fracOk_facts body h
  obtain ⟨hne, hd, hh⟩ := decOk_facts ip hip
  obtain ⟨hg, hz⟩ := decOk_groups ip hip
  have hgf : GoodGroups isDigit [fp] := ⟨by simp, by intro g hg; simp at hg; subst hg; exact ⟨hfne, List.all_eq_true.1 hf⟩⟩
  simp only [MacroVal.sem, litValue, List.isEmpty_nil, Bool.not_true, Bool.false_eq_true, if_false, if_true,
    floatLitBits_frac ip fp hd hf] at hs
  cases hinf : Ieee.isInfBits (FloatLit.bits ⟨false, ip, fp, false, []⟩) with
  | true => simp [hinf] at hs
  | false =>
    simp only [hinf, Bool.false_eq_true, if_false] at hs
    injection hs with hs
    subst hs
    have hl := floatLit_frac (signOpt s) [ip] [fp] [] hg hz hgf trivial
    simp only [joinU, tailGroups, List.append_nil, List.flatten_cons, List.flatten_nil, signBytes_signOpt,
      isNegSign_signOpt] at hl
    have hbits : FloatLit.bits ⟨s.neg, ip, fp, false, []⟩ =
        (if s.neg then FloatLit.bits ⟨false, ip, fp, false, []⟩ + Ieee.signBit else FloatLit.bits ⟨false, ip, fp, false, []⟩) := by
      cases s.neg
      · simp
      · simp [bits_neg, Nat.add_comm]
    have hfl : float (signText s ++ ip ++ 0x2E :: fp) =
        .ok (if s.neg then FloatLit.bits ⟨false, ip, fp, false, []⟩ + Ieee.signBit else FloatLit.bits ⟨false, ip, fp, false, []⟩) [] := by
      unfold float
      rw [hl]
      simp only [hbits]
      cases s.neg
      · simp [hinf]
      · simp [Nat.add_comm _ Ieee.signBit, isInf_sign, hinf]
    obtain ⟨d0, ip', rfl, hd0⟩ := hh
    have htail : ∀ b ∈ ip' ++ 0x2E :: fp, isDigit b = true ∨ b = 0x5F ∨ b = 0x2E := by
      intro b hb
      rcases List.mem_append.1 hb with hb | hb
      · left; simp at hd; exact hd.2 b hb
      · rcases List.mem_cons.1 hb with rfl | hb
        · right; right; rfl
        · left; exact List.all_eq_true.1 hf b hb
    have hdt : ∀ c, Datetime.Doc.dateTime (c :: d0 :: (ip' ++ 0x2E :: fp)) = .bt := fun c => by
      have := dateTime_bt_of c (d0 :: ip' ++ 0x2E :: fp) [] (numTail_nil _ (by
        intro b hb
        rcases List.mem_cons.1 hb with rfl | hb
        · exact Or.inl hd0
        · exact htail b hb))
      simpa using this
    refine (TomlVerif.Lemmas.Sound01.scalarOK_iff _ _).2 ?_
    cases s with
    | none =>
      simp only [signText, List.nil_append, List.cons_append, Sign.neg] at hfl ⊢
      exact value_float 0 0 d0 _ [] _ (by simp [hd0]) (by
        have := dateTime_bt_of d0 (ip' ++ 0x2E :: fp) [] (numTail_nil _ htail)
        simpa using this) hfl
    | _ =>
      simp only [signText, List.cons_append, List.nil_append, Sign.neg] at hfl ⊢
      refine value_float 0 0 _ _ [] _ ?_ (hdt _) hfl
      decide

theorem special_scalarOK (s : Sign) (nan : Bool) (m : MVal) (hs : (MacroVal.special s nan).sem = .ok m) :
    ScalarOK ⟨signText s ++ (if nan then bNan else bInf), mvalV m⟩ := by
  simp only [MacroVal.sem] at hs
  injection hs with hs
  subst hs
  refine (TomlVerif.Lemmas.Sound01.scalarOK_iff _ _).2 ?_
  cases s <;> cases nan <;> exact TomlVerif.Lemmas.ValEq.okIs_sound _ _ _ (by decide +kernel)

theorem bool_scalarOK (b : Bool) : ScalarOK ⟨if b then bTrue else bFalse, .bool b⟩ := by
  cases b
  · exact scalarOK_false
  · exact scalarOK_true

theorem str_scalarOK (raw val : Bytes) (h : strOk raw val = true) : ScalarOK ⟨raw, .str val⟩ := by
  obtain ⟨cs, rfl, rfl, _, hwf⟩ := strOk_spec raw val h
  refine (TomlVerif.Lemmas.Sound01.scalarOK_iff _ _).2 ?_
  have := TomlVerif.Props.C02Strings.T02_string_dispatch (.basic cs) [] hwf (Or.inr (by simp))
  simp only [AstString.StringAst.render, AstString.StringAst.sem, List.append_nil] at this
  have e : renderBasic cs = 0x22 :: (cs.flatMap BasicChar.render ++ [0x22]) := rfl
  rw [e] at this ⊢
  rw [value_str 0 0 0x22 _ (Or.inl rfl), this]
  rfl

theorem plain4_cases (n : Num) (h : plainN 4 n = true) :
    ∃ a b c d, n = ⟨[a, b, c, d], [], false⟩ ∧
      isDigit a = true ∧ isDigit b = true ∧ isDigit c = true ∧ isDigit d = true := by
  obtain ⟨body, sf, fl⟩ := n
  simp only [plainN, Bool.and_eq_true, beq_iff_eq, Bool.not_eq_true', List.isEmpty_iff] at h
  obtain ⟨⟨⟨h1, h2⟩, h3⟩, h4⟩ := h
  subst h3 h4
  match body, h1, h2 with
  | [a, b, c, d], _, h2 =>
    simp at h2
    exact ⟨a, b, c, d, rfl, h2.1, h2.2.1, h2.2.2.1, h2.2.2.2⟩

theorem plain2_cases (n : Num) (h : plainN 2 n = true) : ∃ a b, n = ⟨[a, b], [], false⟩ := by
  obtain ⟨body, sf, fl⟩ := n
  simp only [plainN, Bool.and_eq_true, beq_iff_eq, Bool.not_eq_true', List.isEmpty_iff] at h
  obtain ⟨⟨⟨h1, h2⟩, h3⟩, h4⟩ := h
  subst h3 h4
  match body, h1 with
  | [a, b], _ => exact ⟨a, b, rfl⟩

theorem stringify_sp (yr mo day : Num) (h1 : plainN 4 yr = true) (h2 : plainN 2 mo = true) (h3 : plainN 2 day = true)
    (X : List TT) (W : Bytes) (hX : stringifyAll X = some W) :
    ∃ T, stringifyAll (yr.tt :: dash :: mo.tt :: dash :: day.tt :: identT :: X) = some T ∧
      ∀ d, Datetime.Doc.dateTime T = .ok d [] →
        Datetime.Doc.dateTime (numText yr ++ 0x2D :: (numText mo ++ 0x2D :: (numText day ++ 0x20 :: W))) = .ok d [] := by
  obtain ⟨a, b, c, d, rfl, ha, hb, hc, hd⟩ := plain4_cases yr h1
  obtain ⟨m1, m2, rfl⟩ := plain2_cases mo h2
  obtain ⟨d1, d2, rfl⟩ := plain2_cases day h3
  refine ⟨[a, b, c, d, 0x2D, m1, m2, 0x2D, d1, d2] ++ 0x54 :: W, ?_, fun dt hdt => ?_⟩
  · simp [stringifyAll, stringifyTT, Num.tt, dash, pc, identT, hX]
  · simpa [numText] using dateTime_sp a b c d [m1, m2, 0x2D, d1, d2] W rfl ha hb hc hd dt hdt

theorem stringify_dt (f : DtForm) (h : dtOk f = true) :
    ∃ T, stringifyAll f.text = some T ∧ ∀ d, Datetime.Doc.dateTime T = .ok d [] → Datetime.Doc.dateTime (dtText f) = .ok d [] := by
  cases f <;> simp only [dtOk, Bool.and_eq_true, Bool.false_eq_true] at h
  case odtSp yr mo day hr mi sec tzh tzm =>
    exact stringify_sp yr mo day h.1.1.1.1.1.1.1 h.1.1.1.1.1.1.2 h.1.1.1.1.1.2 _
      (numText hr ++ 0x3A :: (numText mi ++ 0x3A :: (numText sec ++ 0x2D :: (numText tzh ++ 0x3A :: numText tzm))))
      (by simp [stringifyAll, stringifyTT, Num.tt, numText, dash, colon, pc])
  case ldtSp yr mo day hr mi sec =>
    exact stringify_sp yr mo day h.1.1.1.1.1 h.1.1.1.1.2 h.1.1.1.2 _
      (numText hr ++ 0x3A :: (numText mi ++ 0x3A :: numText sec))
      (by simp [stringifyAll, stringifyTT, Num.tt, numText, colon, pc])
  -- the shapes without a blank are stringified as they are written
  all_goals
    exact ⟨dtText _, by simp [DtForm.text, DtForm.toks, dtText, stringifyAll, stringifyTT, Num.tt, numText, dash, colon, pc],
      fun _ hd => hd⟩

theorem dt_scalarOK (f : DtForm) (h : dtOk f = true) (m : MVal) (hs : (MacroVal.dt f).sem = .ok m) :
    ScalarOK ⟨dtText f, mvalV m⟩ := by
  obtain ⟨T, hT, htr⟩ := stringify_dt f h
  simp only [MacroVal.sem, dtValue, hT] at hs
  cases hp : Datetime.Std.fromStr T with
  | none => simp [hp] at hs
  | some d =>
    simp only [hp] at hs
    injection hs with hs
    subst hs
    rw [TomlVerif.Props.C12.T12_agree] at hp
    have hdt : Datetime.Doc.dateTime (dtText f) = .ok d [] := by
      apply htr
      unfold Datetime.Doc.parseAll at hp
      split at hp
      · rename_i d' heq; injection hp with hp; subst hp; exact heq
      · cases hp
    obtain ⟨b, r, e, hb⟩ := (dt_step f h).2
    refine (TomlVerif.Lemmas.Sound01.scalarOK_iff _ _).2 ?_
    rw [e] at hdt ⊢
    exact value_dt 0 0 b r [] d (by simp [hb]) hdt

/-- the value of a leaf as the parser's tree has it (`false` where the macro does not evaluate the literal) -/
def leafVal (a : MacroVal) : Val :=
  match a.sem with
  | .ok m => mvalV m
  | _ => .bool false

theorem leaf_scalarOK (a : MacroVal) (h : leafOk a = true) (m : MVal) (hs : a.sem = .ok m) :
    ScalarOK ⟨leafText a, mvalV m⟩ := by
  cases a with
  | int s body => exact int_scalarOK s body h m hs
  | float s body => exact float_scalarOK s body h m hs
  | special s nan => exact special_scalarOK s nan m hs
  | bool b =>
    simp only [MacroVal.sem] at hs
    injection hs with hs; subst hs
    exact bool_scalarOK b
  | str raw val =>
    simp only [MacroVal.sem] at hs
    injection hs with hs; subst hs
    exact str_scalarOK raw val h
  | dt f => exact dt_scalarOK f h m hs
  | _ => simp [leafOk] at h

end TomlVerif.Lemmas.Macro19c
