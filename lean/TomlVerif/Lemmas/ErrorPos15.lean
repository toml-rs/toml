import TomlVerif.Model.ErrorPos
/-! Lemmas for C15: structure of valid UTF-8 (whole characters, boundaries, slices, the number of characters
    `charCount`), `lineStartOf`, `charSpan`, and the encoder: `Utf8.encode` of a scalar value is one valid character. -/
namespace TomlVerif.Lemmas.ErrorPos15
open TomlVerif TomlVerif.Spec TomlVerif.Model.ErrorPos

theorem lead_not_cont (b : Byte)
    (h : b < 0x80 ∨ (0xC2 ≤ b ∧ b ≤ 0xDF) ∨ (0xE0 ≤ b ∧ b ≤ 0xEF) ∨ (0xF0 ≤ b ∧ b ≤ 0xF4)) :
    Utf8.isCont b = false := by
  simp only [Utf8.isCont, UInt8.lt_iff_toNat_lt, UInt8.le_iff_toNat_le, UInt8.reduceToNat, Bool.and_eq_false_imp,
    decide_eq_true_eq, decide_eq_false_iff_not] at h ⊢
  omega

theorem sub_cont (b lo hi : Byte) (h1 : 0x80 ≤ lo) (h2 : hi ≤ 0xBF) (h : lo ≤ b ∧ b ≤ hi) : Utf8.isCont b = true := by
  simp only [Utf8.isCont, Bool.and_eq_true, decide_eq_true_eq]
  exact ⟨UInt8.le_trans h1 h.1, UInt8.le_trans h.2 h2⟩

theorem ascii_not_cont (b : Byte) (h : b < 0x80) : Utf8.isCont b = false := lead_not_cont b (Or.inl h)

theorem not_cont_not_ascii_lead : ∀ b : Byte, ¬ b < 0x80 → Utf8.isCont b = false →
    (0xC2 ≤ b ∧ b ≤ 0xDF) ∨ (0xE0 ≤ b ∧ b ≤ 0xEF) ∨ (0xF0 ≤ b ∧ b ≤ 0xF4) ∨
    ¬ (b < 0x80 ∨ (0xC2 ≤ b ∧ b ≤ 0xDF) ∨ (0xE0 ≤ b ∧ b ≤ 0xEF) ∨ (0xF0 ≤ b ∧ b ≤ 0xF4)) := by
  intro b
  simp only [UInt8.lt_iff_toNat_lt, UInt8.le_iff_toNat_le, UInt8.reduceToNat]
  omega

theorem lead_ranges (b : Byte) :
    ((0xC2 ≤ b ∧ b ≤ 0xDF) → ¬ b < 0x80) ∧
    ((0xE0 ≤ b ∧ b ≤ 0xEF) → ¬ b < 0x80 ∧ ¬ (0xC2 ≤ b ∧ b ≤ 0xDF)) ∧
    ((0xF0 ≤ b ∧ b ≤ 0xF4) → ¬ b < 0x80 ∧ ¬ (0xC2 ≤ b ∧ b ≤ 0xDF) ∧ ¬ (0xE0 ≤ b ∧ b ≤ 0xEF)) := by
  simp only [UInt8.lt_iff_toNat_lt, UInt8.le_iff_toNat_le, UInt8.reduceToNat]
  omega

/-- the second byte of a three-byte character (Table 3-7 narrows it after `E0` and `ED`) -/
def sub3 (b0 b1 : Byte) : Bool :=
  if b0 == 0xE0 then 0xA0 ≤ b1 && b1 ≤ 0xBF else if b0 == 0xED then 0x80 ≤ b1 && b1 ≤ 0x9F else Utf8.isCont b1

/-- the second byte of a four-byte character (narrowed after `F0` and `F4`) -/
def sub4 (b0 b1 : Byte) : Bool :=
  if b0 == 0xF0 then 0x90 ≤ b1 && b1 ≤ 0xBF else if b0 == 0xF4 then 0x80 ≤ b1 && b1 ≤ 0x8F else Utf8.isCont b1

theorem sub3_cont (b0 b1 : Byte) (h : sub3 b0 b1 = true) : Utf8.isCont b1 = true := by
  unfold sub3 at h
  split at h
  · exact sub_cont b1 0xA0 0xBF (by decide) (by decide) (by simpa using h)
  · split at h
    · exact sub_cont b1 0x80 0x9F (by decide) (by decide) (by simpa using h)
    · exact h

theorem sub4_cont (b0 b1 : Byte) (h : sub4 b0 b1 = true) : Utf8.isCont b1 = true := by
  unfold sub4 at h
  split at h
  · exact sub_cont b1 0x90 0xBF (by decide) (by decide) (by simpa using h)
  · split at h
    · exact sub_cont b1 0x80 0x8F (by decide) (by decide) (by simpa using h)
    · exact h

theorem valid1_unfold (b0 : Byte) (y : Bytes) (h : b0 < 0x80) : Utf8.valid (b0 :: y) = Utf8.valid y := by
  conv => lhs; unfold Utf8.valid
  rw [if_pos h]

theorem valid2_unfold (b0 b1 : Byte) (y : Bytes) (h : 0xC2 ≤ b0 ∧ b0 ≤ 0xDF) :
    Utf8.valid (b0 :: b1 :: y) = (Utf8.isCont b1 && Utf8.valid y) := by
  conv => lhs; unfold Utf8.valid
  rw [if_neg ((lead_ranges b0).1 h), if_pos (by simpa using h)]

theorem valid3_unfold (b0 b1 b2 : Byte) (y : Bytes) (h : 0xE0 ≤ b0 ∧ b0 ≤ 0xEF) :
    Utf8.valid (b0 :: b1 :: b2 :: y) = (sub3 b0 b1 && Utf8.isCont b2 && Utf8.valid y) := by
  have h0 := (lead_ranges b0).2.1 h
  conv => lhs; unfold Utf8.valid
  rw [if_neg h0.1, if_neg (by simpa using h0.2), if_pos (by simpa using h)]
  rfl

theorem valid4_unfold (b0 b1 b2 b3 : Byte) (y : Bytes) (h : 0xF0 ≤ b0 ∧ b0 ≤ 0xF4) :
    Utf8.valid (b0 :: b1 :: b2 :: b3 :: y) =
      (sub4 b0 b1 && Utf8.isCont b2 && Utf8.isCont b3 && Utf8.valid y) := by
  have h0 := (lead_ranges b0).2.2 h
  conv => lhs; unfold Utf8.valid
  rw [if_neg h0.1, if_neg (by simpa using h0.2.1), if_neg (by simpa using h0.2.2), if_pos (by simpa using h)]
  rfl

/-- `b0 :: c` is one whole character: a non-continuation byte, then continuation bytes only (none after an ASCII byte),
    and self-contained (validity of `b0 :: c ++ y` is validity of `y`) -/
structure IsChar (b0 : Byte) (c : Bytes) : Prop where
  lead : Utf8.isCont b0 = false
  cont : ∀ x ∈ c, Utf8.isCont x = true
  ascii : b0 < 0x80 ↔ c = []
  self : ∀ y, Utf8.valid (b0 :: (c ++ y)) = Utf8.valid y

theorem valid_cons_cases (b0 : Byte) (rest : Bytes) (h : Utf8.valid (b0 :: rest) = true) :
    ∃ c r, rest = c ++ r ∧ IsChar b0 c ∧ Utf8.valid r = true := by
  unfold Utf8.valid at h
  by_cases h0 : b0 < 0x80
  · rw [if_pos h0] at h
    exact ⟨[], rest, rfl, ⟨lead_not_cont b0 (Or.inl h0), nofun, ⟨fun _ => rfl, fun _ => h0⟩,
      fun y => valid1_unfold b0 y h0⟩, h⟩
  rw [if_neg h0] at h
  have hasc {c0 : Byte} {cs : Bytes} : b0 < 0x80 ↔ c0 :: cs = [] := ⟨fun hh => absurd hh h0, nofun⟩
  by_cases h1 : 0xC2 ≤ b0 ∧ b0 ≤ 0xDF
  · rw [if_pos (by simpa using h1)] at h
    match rest, h with
    | b1 :: r, h =>
      rw [Bool.and_eq_true] at h
      exact ⟨[b1], r, rfl, ⟨lead_not_cont b0 (Or.inr (Or.inl h1)), by simpa using h.1, hasc,
        fun y => by rw [List.singleton_append, valid2_unfold _ _ _ h1, h.1, Bool.true_and]⟩, h.2⟩
  rw [if_neg (by simpa using h1)] at h
  by_cases h2 : 0xE0 ≤ b0 ∧ b0 ≤ 0xEF
  · rw [if_pos (by simpa using h2)] at h
    match rest, h with
    | b1 :: b2 :: r, h =>
      have h : (sub3 b0 b1 && Utf8.isCont b2 && Utf8.valid r) = true := h
      simp only [Bool.and_eq_true] at h
      obtain ⟨⟨hb1, hb2⟩, hr⟩ := h
      exact ⟨[b1, b2], r, rfl, ⟨lead_not_cont b0 (Or.inr (Or.inr (Or.inl h2))),
        by simp [sub3_cont _ _ hb1, hb2], hasc,
        fun y => by rw [List.cons_append, List.singleton_append, valid3_unfold _ _ _ _ h2, hb1, hb2]; rfl⟩, hr⟩
  rw [if_neg (by simpa using h2)] at h
  by_cases h3 : 0xF0 ≤ b0 ∧ b0 ≤ 0xF4
  · rw [if_pos (by simpa using h3)] at h
    match rest, h with
    | b1 :: b2 :: b3 :: r, h =>
      have h : (sub4 b0 b1 && Utf8.isCont b2 && Utf8.isCont b3 && Utf8.valid r) = true := h
      simp only [Bool.and_eq_true] at h
      obtain ⟨⟨⟨hb1, hb2⟩, hb3⟩, hr⟩ := h
      exact ⟨[b1, b2, b3], r, rfl, ⟨lead_not_cont b0 (Or.inr (Or.inr (Or.inr h3))),
        by simp [sub4_cont _ _ hb1, hb2, hb3], hasc,
        fun y => by
          rw [List.cons_append, List.cons_append, List.singleton_append, valid4_unfold _ _ _ _ _ h3, hb1, hb2, hb3]
          rfl⟩, hr⟩
  rw [if_neg (by simpa using h3)] at h
  cases h

/-- a valid string is a concatenation of whole characters: induction one character at a time -/
theorem valid_induction {P : Bytes → Prop} (nil : P [])
    (char : ∀ b0 c r, IsChar b0 c → Utf8.valid r = true → P r → P (b0 :: (c ++ r))) :
    ∀ s, Utf8.valid s = true → P s
  | [], _ => nil
  | b0 :: rest, hv => by
    obtain ⟨c, r, hrest, hc, hr⟩ := valid_cons_cases b0 rest hv
    have : r.length < (b0 :: rest).length := by rw [hrest, List.length_cons, List.length_append]; omega
    rw [hrest]
    exact char b0 c r hc hr (valid_induction nil char r hr)
termination_by s => s.length

theorem valid_head_not_cont (b0 : Byte) (rest : Bytes) (h : Utf8.valid (b0 :: rest) = true) :
    Utf8.isCont b0 = false := by
  obtain ⟨c, r, _, hc, _⟩ := valid_cons_cases b0 rest h
  exact hc.lead

theorem isBoundary_zero (s : Bytes) : Utf8.isBoundary s 0 = true := by simp [Utf8.isBoundary]
theorem isBoundary_length (s : Bytes) : Utf8.isBoundary s s.length = true := by simp [Utf8.isBoundary]

theorem isBoundary_cases (s : Bytes) (a : Nat) (h : Utf8.isBoundary s a = true) :
    a = 0 ∨ a = s.length ∨ ∃ b, s[a]? = some b ∧ Utf8.isCont b = false := by
  unfold Utf8.isBoundary at h
  simp only [Bool.or_eq_true, beq_iff_eq] at h
  rcases h with (h | h) | h
  · exact Or.inl h
  · exact Or.inr (Or.inl h)
  · right; right
    split at h
    · rename_i b hb; exact ⟨b, hb, by simpa using h⟩
    · simp at h

theorem isBoundary_of_get (s : Bytes) (a : Nat) (b : Byte) (h : s[a]? = some b) (hb : Utf8.isCont b = false) :
    Utf8.isBoundary s a = true := by
  simp [Utf8.isBoundary, h, hb]

theorem valid_split (s : Bytes) (hv : Utf8.valid s = true) :
    ∀ a, a ≤ s.length → Utf8.isBoundary s a = true →
      Utf8.valid (s.take a) = true ∧ Utf8.valid (s.drop a) = true := by
  refine valid_induction (P := fun s => ∀ a, a ≤ s.length → Utf8.isBoundary s a = true →
    Utf8.valid (s.take a) = true ∧ Utf8.valid (s.drop a) = true) ?_ ?_ s hv
  · intro a _ _; rw [List.take_nil, List.drop_nil]; exact ⟨rfl, rfl⟩
  · intro b0 c r hc hr ih a ha hb
    have hv : Utf8.valid (b0 :: (c ++ r)) = true := by rw [hc.self]; exact hr
    cases a with
    | zero => exact ⟨rfl, hv⟩
    | succ a0 =>
      by_cases hlt : a0 < c.length
      · -- a boundary cannot fall on a continuation byte of the first character
        exfalso
        rcases isBoundary_cases _ _ hb with h | h | ⟨b, hg, hnc⟩
        · omega
        · simp at h; omega
        · have : (b0 :: (c ++ r))[a0 + 1]? = some c[a0] := by
            simp [List.getElem?_append_left hlt]
          rw [this] at hg
          have hcc := hc.cont c[a0] (List.getElem_mem hlt)
          simp only [Option.some.injEq] at hg
          rw [hg] at hcc
          rw [hcc] at hnc
          exact Bool.noConfusion hnc
      · obtain ⟨a', rfl⟩ : ∃ a', a0 = c.length + a' := ⟨a0 - c.length, by omega⟩
        simp only [List.length_cons, List.length_append] at ha
        have hbr : Utf8.isBoundary r a' = true := by
          rcases isBoundary_cases _ _ hb with h | h | ⟨b, hg, hnc⟩
          · omega
          · simp only [List.length_cons, List.length_append] at h
            have : a' = r.length := by omega
            subst this; exact isBoundary_length r
          · have : (b0 :: (c ++ r))[c.length + a' + 1]? = r[a']? := by
              simp [List.getElem?_append_right]
            rw [this] at hg
            exact isBoundary_of_get r a' b hg hnc
        have ht : (b0 :: (c ++ r)).take (c.length + a' + 1) = b0 :: (c ++ r.take a') := by
          simp [List.take_append, List.take_of_length_le]
        have hd : (b0 :: (c ++ r)).drop (c.length + a' + 1) = r.drop a' := by
          simp [List.drop_append]
        rw [ht, hd, hc.self]
        exact ih a' (by omega) hbr

theorem valid_take (s : Bytes) (a : Nat) (hv : Utf8.valid s = true) (ha : a ≤ s.length)
    (hb : Utf8.isBoundary s a = true) : Utf8.valid (s.take a) = true :=
  (valid_split s hv a ha hb).1

theorem valid_drop (s : Bytes) (a : Nat) (hv : Utf8.valid s = true) (ha : a ≤ s.length)
    (hb : Utf8.isBoundary s a = true) : Utf8.valid (s.drop a) = true :=
  (valid_split s hv a ha hb).2

theorem boundary_after_ascii (s : Bytes) (j : Nat) (x : Byte) (hv : Utf8.valid s = true)
    (hg : s[j]? = some x) (hx : x < 0x80) : Utf8.isBoundary s (j + 1) = true := by
  have hj : j < s.length := by
    rcases Nat.lt_or_ge j s.length with h | h
    · exact h
    · rw [List.getElem?_eq_none h] at hg; cases hg
  have hbj : Utf8.isBoundary s j = true := isBoundary_of_get s j x hg (ascii_not_cont x hx)
  have hd := valid_drop s j hv (by omega) hbj
  have hde : s.drop j = x :: s.drop (j + 1) := by
    rw [List.drop_eq_getElem_cons hj]
    congr 1
    rw [List.getElem?_eq_getElem hj] at hg
    exact Option.some.inj hg
  rw [hde] at hd
  rw [valid1_unfold _ _ hx] at hd
  by_cases hl : j + 1 = s.length
  · rw [hl]; exact isBoundary_length s
  · have hj1 : j + 1 < s.length := by omega
    rw [List.drop_eq_getElem_cons hj1] at hd
    exact isBoundary_of_get s (j + 1) s[j + 1] (List.getElem?_eq_getElem hj1) (valid_head_not_cont _ _ hd)


/-- the index just after the last LF strictly before position `n` (0 if none), by a scan backwards from `n` -/
def lastLfEnd (s : Bytes) : Nat → Nat
  | 0 => 0
  | n + 1 => if s[n]? = some 0x0A then n + 1 else lastLfEnd s n

theorem lastLfEnd_le (s : Bytes) : ∀ n, lastLfEnd s n ≤ n := by
  intro n
  induction n with
  | zero => simp [lastLfEnd]
  | succ n ih => unfold lastLfEnd; split <;> omega

theorem lastLfEnd_after_lf (s : Bytes) : ∀ n, lastLfEnd s n = 0 ∨
    ∃ j, lastLfEnd s n = j + 1 ∧ s[j]? = some 0x0A := by
  intro n
  induction n with
  | zero => simp [lastLfEnd]
  | succ n ih =>
    unfold lastLfEnd; split
    · rename_i h; exact Or.inr ⟨n, rfl, h⟩
    · exact ih

theorem lastLfEnd_no_lf (s : Bytes) : ∀ n j, lastLfEnd s n ≤ j → j < n → s[j]? ≠ some 0x0A := by
  intro n
  induction n with
  | zero => intro j _ h; omega
  | succ n ih =>
    intro j h1 h2
    unfold lastLfEnd at h1
    split at h1
    · omega
    · rename_i hne
      by_cases hj : j = n
      · subst hj; exact hne
      · exact ih j h1 (by omega)

/-- the reversed `take (n + 1)` is `s[n] :: reverse (take n)`: an LF found at index 0 gives `n + 1`, one found at `k + 1`
    gives what the search in `take n` gives -/
theorem lineStartOf_take (s : Bytes) : ∀ n, n ≤ s.length → lineStartOf (s.take n) = lastLfEnd s n := by
  intro n
  induction n with
  | zero => intro _; simp [lineStartOf, lastLfEnd]
  | succ n ih =>
    intro hn
    have hlt : n < s.length := by omega
    have ih' := ih (by omega)
    unfold lineStartOf at ih' ⊢
    have hlen : (s.take n).length = n := by simp [List.length_take]; omega
    rw [hlen] at ih'
    rw [List.take_succ_eq_append_getElem hlt, List.reverse_append]
    simp only [List.reverse_cons, List.reverse_nil, List.nil_append, List.singleton_append,
      List.findIdx?_cons, List.length_append, List.length_cons, List.length_nil, hlen]
    unfold lastLfEnd
    rw [List.getElem?_eq_getElem hlt]
    by_cases hx : s[n] = 0x0A
    · simp [hx]
    · simp only [beq_iff_eq, hx, if_false, Option.some.injEq]
      rw [← ih']
      cases hf : List.findIdx? (fun x => x == 0x0A) (s.take n).reverse with
      | none => simp
      | some k => simp


theorem lastLfEnd_boundary (s : Bytes) (hv : Utf8.valid s = true) (n : Nat) :
    Utf8.isBoundary s (lastLfEnd s n) = true := by
  rcases lastLfEnd_after_lf s n with h | ⟨j, h, hg⟩
  · rw [h]; exact isBoundary_zero s
  · rw [h]; exact boundary_after_ascii s j 0x0A hv hg (by decide)

/-- the predicate winnow tests at index `i`: in range and `is_utf8_char_boundary` -/
def startAt (s : Bytes) (i : Nat) : Bool :=
  match s[i]? with | some b => isCharStart b | none => false

theorem startAt_boundary (s : Bytes) (i : Nat) (h : startAt s i = true) : Utf8.isBoundary s i = true := by
  unfold startAt at h
  split at h
  · rename_i b hb
    exact isBoundary_of_get s i b hb (by simpa [isCharStart] using h)
  · simp at h

theorem charSpan_of_lt (s : Bytes) (o : Nat) (ho : o < s.length) :
    charSpan s o =
      (((List.range (o + 1)).reverse.find? (startAt s)).getD 0,
       ((List.range' (o + 1) (s.length - (o + 1))).find? (startAt s)).getD s.length) := by
  unfold charSpan
  have h1 : (o == s.length) = false := by simp; omega
  have h2 : min (o + 1) s.length = o + 1 := by omega
  simp only [h1, h2]
  rfl

/-- the start of the span: the last character start at or before `o` (0 if none) -/
theorem charSpan_start_facts (s : Bytes) (o : Nat) (ho : o < s.length) :
    (charSpan s o).1 ≤ o ∧ Utf8.isBoundary s (charSpan s o).1 = true := by
  rw [charSpan_of_lt s o ho]
  simp only []
  cases hf : (List.range (o + 1)).reverse.find? (startAt s) with
  | none => exact ⟨Nat.zero_le _, isBoundary_zero s⟩
  | some i =>
    have hm := List.mem_of_find?_eq_some hf
    have hp := List.find?_some hf
    simp only [List.mem_reverse, List.mem_range] at hm
    exact ⟨by simp only [Option.getD_some]; omega, startAt_boundary s i hp⟩

/-- the end of the span: the first character start after `o` (the end of the text if none) -/
theorem charSpan_end_facts (s : Bytes) (o : Nat) (ho : o < s.length) :
    o < (charSpan s o).2 ∧ (charSpan s o).2 ≤ s.length ∧ Utf8.isBoundary s (charSpan s o).2 = true := by
  rw [charSpan_of_lt s o ho]
  simp only []
  cases hf : (List.range' (o + 1) (s.length - (o + 1))).find? (startAt s) with
  | none => exact ⟨ho, Nat.le_refl _, isBoundary_length s⟩
  | some i =>
    have hm := List.mem_of_find?_eq_some hf
    have hp := List.find?_some hf
    simp only [List.mem_range'_1] at hm
    exact ⟨by simp only [Option.getD_some]; omega, by simp only [Option.getD_some]; omega, startAt_boundary s i hp⟩

theorem charCount_le_length (x : Bytes) : charCount x ≤ x.length := by
  unfold charCount; exact List.length_filter_le _ _

theorem charCount_eq_length_iff (x : Bytes) :
    charCount x = x.length ↔ ∀ b ∈ x, Utf8.isCont b = false := by
  unfold charCount
  rw [List.length_filter_eq_length_iff]
  simp [isCharStart]

theorem valid_no_cont_ascii (x : Bytes) (hv : Utf8.valid x = true) :
    (∀ b ∈ x, Utf8.isCont b = false) → ∀ b ∈ x, b < 0x80 := by
  refine valid_induction (P := fun x => (∀ b ∈ x, Utf8.isCont b = false) → ∀ b ∈ x, b < 0x80) ?_ ?_ x hv
  · intro _ b hb; cases hb
  · intro b0 c r hc _ ih hnc
    -- a continuation byte of the first character would contradict `hnc`
    have hcnil : c = [] := by
      cases c with
      | nil => rfl
      | cons c0 cs =>
        have h1 := hc.cont c0 (by simp)
        have h2 := hnc c0 (by simp)
        rw [h1] at h2; exact Bool.noConfusion h2
    subst hcnil
    intro b hb
    rcases List.mem_cons.mp hb with h | h
    · rw [h]; exact hc.ascii.mpr rfl
    · exact ih (fun b hb => hnc b (List.mem_cons_of_mem _ hb)) b h

theorem find_rev_range (p : Nat → Bool) : ∀ n,
    ((List.range n).reverse.find? p = none → ∀ j, j < n → p j = false) ∧
    (∀ i, (List.range n).reverse.find? p = some i → ∀ j, i < j → j < n → p j = false) := by
  intro n
  induction n with
  | zero => simp
  | succ n ih =>
    rw [List.range_succ, List.reverse_append]
    simp only [List.reverse_cons, List.reverse_nil, List.nil_append, List.singleton_append, List.find?_cons]
    cases hp : p n with
    | true =>
      simp only []
      refine ⟨fun h => (by cases h), ?_⟩
      intro i hi j h1 h2
      simp only [Option.some.injEq] at hi
      omega
    | false =>
      simp only []
      refine ⟨?_, ?_⟩
      · intro h j hj
        by_cases hjn : j = n
        · subst hjn; exact hp
        · exact ih.1 h j (by omega)
      · intro i hi j h1 h2
        by_cases hjn : j = n
        · subst hjn; exact hp
        · exact ih.2 i hi j h1 (by omega)

theorem find_range' (p : Nat → Bool) : ∀ k st,
    ((List.range' st k).find? p = none → ∀ j, st ≤ j → j < st + k → p j = false) ∧
    (∀ i, (List.range' st k).find? p = some i → ∀ j, st ≤ j → j < i → p j = false) := by
  intro k
  induction k with
  | zero => intro st; simp; intro j h1 h2; omega
  | succ k ih =>
    intro st
    rw [List.range'_succ]
    simp only [List.find?_cons]
    cases hp : p st with
    | true =>
      simp only []
      refine ⟨fun h => (by cases h), ?_⟩
      intro i hi j h1 h2
      simp only [Option.some.injEq] at hi
      omega
    | false =>
      simp only []
      refine ⟨?_, ?_⟩
      · intro h j h1 h2
        by_cases hjn : j = st
        · subst hjn; exact hp
        · exact (ih (st + 1)).1 h j (by omega) (by omega)
      · intro i hi j h1 h2
        by_cases hjn : j = st
        · subst hjn; exact hp
        · exact (ih (st + 1)).2 i hi j (by omega) h2

theorem isBoundary_inner (s : Bytes) (j : Nat) (h0 : 0 < j) (hl : j < s.length) :
    Utf8.isBoundary s j = startAt s j := by
  unfold Utf8.isBoundary startAt
  have h1 : (j == 0) = false := by simp; omega
  have h2 : (j == s.length) = false := by simp; omega
  rw [h1, h2, List.getElem?_eq_getElem hl]
  simp [isCharStart]

theorem valid_append (x y : Bytes) (hv : Utf8.valid x = true) : Utf8.valid (x ++ y) = Utf8.valid y := by
  refine valid_induction (P := fun x => Utf8.valid (x ++ y) = Utf8.valid y) rfl ?_ x hv
  intro b0 c r hc _ ih
  rw [List.cons_append, List.append_assoc, hc.self, ih]

theorem charCount_append (x y : Bytes) : charCount (x ++ y) = charCount x + charCount y := by
  simp [charCount, List.filter_append]

theorem charCount_nil : charCount [] = 0 := rfl

theorem charCount_cons_start (b : Byte) (x : Bytes) (h : Utf8.isCont b = false) :
    charCount (b :: x) = charCount x + 1 := by
  simp [charCount, isCharStart, h]

theorem charCount_cons_cont (b : Byte) (x : Bytes) (h : Utf8.isCont b = true) :
    charCount (b :: x) = charCount x := by
  simp [charCount, isCharStart, h]

theorem ofNat_range {lo n hi : Nat} (h1 : lo ≤ n) (h2 : n ≤ hi) (h3 : hi < 256) :
    UInt8.ofNat lo ≤ UInt8.ofNat n ∧ UInt8.ofNat n ≤ UInt8.ofNat hi := by
  simp only [UInt8.le_iff_toNat_le, UInt8.toNat_ofNat_of_lt' (Nat.lt_of_le_of_lt h2 h3),
    UInt8.toNat_ofNat_of_lt' (Nat.lt_of_le_of_lt (Nat.le_trans h1 h2) h3), UInt8.toNat_ofNat_of_lt' h3]
  exact ⟨h1, h2⟩

theorem tail_cont {r : Nat} (h : r < 64) : Utf8.isCont (UInt8.ofNat (0x80 + r)) = true := by
  have h12 := ofNat_range (lo := 0x80) (n := 0x80 + r) (hi := 0xBF) (by omega) (by omega) (by omega)
  simp only [Utf8.isCont, Bool.and_eq_true, decide_eq_true_eq]
  exact h12

/-- the second byte after `E0 + q1`: Table 3-7 asks `A0..BF` after `E0` and `80..9F` after `ED` -/
theorem sub3_enc {q1 q2 : Nat} (h1 : q1 < 16) (h2 : q2 < 64) (ha : q1 = 0 → 32 ≤ q2) (hb : q1 = 13 → q2 < 32) :
    sub3 (UInt8.ofNat (0xE0 + q1)) (UInt8.ofNat (0x80 + q2)) = true := by
  have e1 := UInt8.toNat_ofNat_of_lt' (n := 0xE0 + q1) (show _ < 256 by omega)
  have e2 := UInt8.toNat_ofNat_of_lt' (n := 0x80 + q2) (show _ < 256 by omega)
  generalize UInt8.ofNat (0xE0 + q1) = b0 at e1 ⊢
  generalize UInt8.ofNat (0x80 + q2) = b1 at e2 ⊢
  simp only [sub3, Utf8.isCont, UInt8.le_iff_toNat_le, ← UInt8.toNat_inj, beq_iff_eq, UInt8.reduceToNat]
  split
  · simp only [Bool.and_eq_true, decide_eq_true_eq]; omega
  · split <;> simp only [Bool.and_eq_true, decide_eq_true_eq] <;> omega

/-- the second byte after `F0 + q1`: `90..BF` after `F0` and `80..8F` after `F4` -/
theorem sub4_enc {q1 q2 : Nat} (h1 : q1 < 5) (h2 : q2 < 64) (ha : q1 = 0 → 16 ≤ q2) (hb : q1 = 4 → q2 < 16) :
    sub4 (UInt8.ofNat (0xF0 + q1)) (UInt8.ofNat (0x80 + q2)) = true := by
  have e1 := UInt8.toNat_ofNat_of_lt' (n := 0xF0 + q1) (show _ < 256 by omega)
  have e2 := UInt8.toNat_ofNat_of_lt' (n := 0x80 + q2) (show _ < 256 by omega)
  generalize UInt8.ofNat (0xF0 + q1) = b0 at e1 ⊢
  generalize UInt8.ofNat (0x80 + q2) = b1 at e2 ⊢
  simp only [sub4, Utf8.isCont, UInt8.le_iff_toNat_le, ← UInt8.toNat_inj, beq_iff_eq, UInt8.reduceToNat]
  split
  · simp only [Bool.and_eq_true, decide_eq_true_eq]; omega
  · split <;> simp only [Bool.and_eq_true, decide_eq_true_eq] <;> omega

theorem encode_valid_count (cp : Nat) (hs : Utf8.isScalar cp = true) :
    Utf8.valid (Utf8.encode cp) = true ∧ charCount (Utf8.encode cp) = 1 := by
  have hs' : cp < 0xD800 ∨ (0xE000 ≤ cp ∧ cp < 0x110000) := by
    simpa [Utf8.isScalar] using hs
  have m64 (n : Nat) : n % 64 < 64 := Nat.mod_lt _ (by decide)
  unfold Utf8.encode
  by_cases h1 : cp < 0x80
  · rw [if_pos h1]
    have hlt : UInt8.ofNat cp < 0x80 := by
      rw [UInt8.lt_iff_toNat_lt, UInt8.toNat_ofNat_of_lt' (show cp < 256 by omega)]; exact h1
    exact ⟨by rw [valid1_unfold _ _ hlt]; rfl, by rw [charCount_cons_start _ _ (ascii_not_cont _ hlt)]; rfl⟩
  rw [if_neg h1]
  by_cases h2 : cp < 0x800
  · rw [if_pos h2]
    have hrange := ofNat_range (lo := 0xC2) (n := 0xC0 + cp / 64) (hi := 0xDF) (by omega) (by omega) (by omega)
    have ht := tail_cont (m64 cp)
    refine ⟨?_, ?_⟩
    · rw [valid2_unfold _ _ _ hrange, ht]; rfl
    · rw [charCount_cons_start _ _ (lead_not_cont _ (.inr (.inl hrange))), charCount_cons_cont _ _ ht]; rfl
  rw [if_neg h2]
  by_cases h3 : cp < 0x10000
  · rw [if_pos h3]
    have hrange := ofNat_range (lo := 0xE0) (n := 0xE0 + cp / 4096) (hi := 0xEF) (by omega) (by omega) (by omega)
    -- surrogates are excluded: after `ED` the second byte stays below `A0`
    have hsub := sub3_enc (q1 := cp / 4096) (q2 := cp / 64 % 64) (by omega) (m64 _) (by omega) (by omega)
    have ht1 := tail_cont (m64 (cp / 64))
    have ht := tail_cont (m64 cp)
    refine ⟨?_, ?_⟩
    · rw [valid3_unfold _ _ _ _ hrange, hsub, ht]; rfl
    · rw [charCount_cons_start _ _ (lead_not_cont _ (.inr (.inr (.inl hrange)))), charCount_cons_cont _ _ ht1,
        charCount_cons_cont _ _ ht]; rfl
  · rw [if_neg h3]
    have hrange := ofNat_range (lo := 0xF0) (n := 0xF0 + cp / 262144) (hi := 0xF4) (by omega) (by omega) (by omega)
    -- at most `10FFFF`: after `F4` the second byte stays below `90`
    have hsub := sub4_enc (q1 := cp / 262144) (q2 := cp / 4096 % 64) (by omega) (m64 _) (by omega) (by omega)
    have ht1 := tail_cont (m64 (cp / 4096))
    have ht2 := tail_cont (m64 (cp / 64))
    have ht := tail_cont (m64 cp)
    refine ⟨?_, ?_⟩
    · rw [valid4_unfold _ _ _ _ _ hrange, hsub, ht2, ht]; rfl
    · rw [charCount_cons_start _ _ (lead_not_cont _ (.inr (.inr (.inr hrange)))), charCount_cons_cont _ _ ht1,
        charCount_cons_cont _ _ ht2, charCount_cons_cont _ _ ht]; rfl

end TomlVerif.Lemmas.ErrorPos15
