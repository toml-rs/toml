import TomlVerif.Lemmas.DeLocated15Loc
/-! Lemmas for Props/C14Spanned.lean: every range a `Spanned` delivers is the `item_span` of a node of the tree or the
    span of one of its keys (`ranges_ty`, the induction over the wrapper grammar for `T14_spanned_ranges`). -/
namespace TomlVerif.Lemmas.DeSpanned14
open TomlVerif TomlVerif.Model TomlVerif.Model.DeTyped TomlVerif.Model.Cst TomlVerif.Model.DeLocated
open TomlVerif.Model.DeSpanned TomlVerif.Lemmas.DeLocated15

def keyRanges : SKey → List Span
  | .str _ => []
  | .newtype k => keyRanges k
  | .spanned a b k => (a, b) :: keyRanges k

mutual
def ranges : SDec → List Span
  | .plain _ => []
  | .spanned a b d => (a, b) :: ranges d
  | .dflt => []
  | .none => []
  | .some d => ranges d
  | .newtype d => ranges d
  | .seq l => rangesL l
  | .map l => rangesM l
  | .struct l => rangesN l
  | .vUnit _ => []
  | .vNewtype _ d => ranges d
def rangesL : List SDec → List Span
  | [] => []
  | d :: r => ranges d ++ rangesL r
def rangesM : List (SKey × SDec) → List Span
  | [] => []
  | (k, d) :: r => keyRanges k ++ ranges d ++ rangesM r
def rangesN : List (Bytes × SDec) → List Span
  | [] => []
  | (_, d) :: r => ranges d ++ rangesN r
end

theorem mem_rangesL {s : Span} : ∀ {l : List SDec}, s ∈ rangesL l → ∃ d ∈ l, s ∈ ranges d
  | [], h => by simp [rangesL] at h
  | d :: r, h => by
    simp only [rangesL, List.mem_append] at h
    rcases h with h | h
    · exact ⟨d, List.mem_cons_self .., h⟩
    · obtain ⟨x, hx, hs⟩ := mem_rangesL h
      exact ⟨x, List.mem_cons_of_mem _ hx, hs⟩

theorem mem_rangesM {s : Span} : ∀ {l : List (SKey × SDec)}, s ∈ rangesM l → ∃ kd ∈ l, s ∈ keyRanges kd.1 ∨ s ∈ ranges kd.2
  | [], h => by simp [rangesM] at h
  | (k, d) :: r, h => by
    simp only [rangesM, List.mem_append] at h
    rcases h with (h | h) | h
    · exact ⟨(k, d), List.mem_cons_self .., Or.inl h⟩
    · exact ⟨(k, d), List.mem_cons_self .., Or.inr h⟩
    · obtain ⟨x, hx, hs⟩ := mem_rangesM h
      exact ⟨x, List.mem_cons_of_mem _ hx, hs⟩

theorem mem_rangesN {s : Span} : ∀ {l : List (Bytes × SDec)}, s ∈ rangesN l → ∃ kd ∈ l, s ∈ ranges kd.2
  | [], h => by simp [rangesN] at h
  | (k, d) :: r, h => by
    simp only [rangesN, List.mem_append] at h
    rcases h with h | h
    · exact ⟨(k, d), List.mem_cons_self .., h⟩
    · obtain ⟨x, hx, hs⟩ := mem_rangesN h
      exact ⟨x, List.mem_cons_of_mem _ hx, hs⟩

theorem rangesN_mem {s : Span} {k : Bytes} {d : SDec} : ∀ {l : List (Bytes × SDec)}, (k, d) ∈ l → s ∈ ranges d → s ∈ rangesN l
  | (k0, d0) :: r, h, hs => by
    simp only [rangesN, List.mem_append]
    rcases List.mem_cons.1 h with h | h
    · cases h; exact Or.inl hs
    · exact Or.inr (rangesN_mem h hs)

/-- `Sub it n`: `n` is `it` or a node below it (through table entries and array elements) -/
inductive Sub : CItem → CItem → Prop where
  | refl (it : CItem) : Sub it it
  | entry {it : CItem} {es : List (CKey × CItem)} {k : CKey} {v n : CItem} :
      citemEntries it = some es → (k, v) ∈ es → Sub v n → Sub it n
  | elem {it : CItem} {l : List CItem} {v n : CItem} : citemElems it = some l → v ∈ l → Sub v n → Sub it n

/-- a range is good for `it`: the `item_span` of a node of `it`, or the span of a key of a node of `it` -/
def Good (it : CItem) (s : Span) : Prop :=
  ∃ n, Sub it n ∧ (itemSpan n = some s ∨ ∃ es k v, citemEntries n = some es ∧ (k, v) ∈ es ∧ keySpan k = some s)

def GoodAll (it : CItem) (l : List Span) : Prop := ∀ s ∈ l, Good it s

theorem Good.entry {it v : CItem} {es : List (CKey × CItem)} {k : CKey} {s : Span}
    (hc : citemEntries it = some es) (hm : (k, v) ∈ es) (h : Good v s) : Good it s := by
  obtain ⟨n, hn, h⟩ := h
  exact ⟨n, .entry hc hm hn, h⟩

theorem Good.elem {it v : CItem} {l : List CItem} {s : Span}
    (hc : citemElems it = some l) (hm : v ∈ l) (h : Good v s) : Good it s := by
  obtain ⟨n, hn, h⟩ := h
  exact ⟨n, .elem hc hm hn, h⟩

theorem atSpan_ok {α} (sp : Option Span) (x : LR α) (a : α) (h : atSpan sp x = .ok a) : x = .ok a := by
  cases x with
  | ok b => simpa [atSpan] using h
  | error e => simp [atSpan] at h

theorem inEntry_ok {α} (sp : Option Span) (k : Bytes) (x : LR α) (a : α) (h : inEntry sp k x = .ok a) : x = .ok a := by
  cases x with
  | ok b => simpa [inEntry] using h
  | error e => simp [inEntry] at h

theorem lmap_ok {α β} (f : α → β) (x : LR α) (b : β) (h : lmap f x = .ok b) : ∃ a, x = .ok a ∧ b = f a := by
  cases x with
  | ok a => simp only [lmap, Except.ok.injEq] at h; exact ⟨a, rfl, h.symm⟩
  | error e => simp [lmap] at h

theorem lcons_ok {α} (x : LR α) (l : LR (List α)) (r : List α) (h : lcons x l = .ok r) :
    ∃ a t, x = .ok a ∧ l = .ok t ∧ r = a :: t := by
  cases x with
  | error e => simp [lcons] at h
  | ok a =>
    cases l with
    | error e => simp [lcons] at h
    | ok t => simp only [lcons, Except.ok.injEq] at h; exact ⟨a, t, rfl, rfl, h.symm⟩

theorem mapL_ok {α β} (f : α → LR β) : ∀ (l : List α) (r : List β), mapL f l = .ok r → ∀ b ∈ r, ∃ a ∈ l, f a = .ok b
  | [], r, h, b, hb => by simp only [mapL, Except.ok.injEq] at h; subst h; cases hb
  | a :: t, r, h, b, hb => by
    obtain ⟨x, t', hx, ht, rfl⟩ := lcons_ok _ _ _ h
    rcases List.mem_cons.1 hb with hb | hb
    · subst hb; exact ⟨a, List.mem_cons_self .., hx⟩
    · obtain ⟨y, hy, hf⟩ := mapL_ok f t t' ht b hb
      exact ⟨y, List.mem_cons_of_mem _ hy, hf⟩

theorem walkG_ok {ε σ δ} {dup : ε} (known : Bytes → Bool) (f : Bytes → σ → Except ε (Option δ))
    (es : List (Bytes × σ)) (seen : List Bytes) (ds : List (Bytes × δ)) (h : walkG dup known f seen es = .ok ds) :
    ∀ kd ∈ ds, ∃ kv ∈ es, f kv.1 kv.2 = .ok (some kd.2) := by
  have := walkG_inv dup known f es seen
  rw [h] at this
  exact this

/-- `DeLocated15.filled` for the wrapper grammar -/
def filledSp (t : STy) (dflt : Bool) : Option SDec → Option SDec
  | some d => some d
  | none => if dflt then some .dflt else missingSp t

theorem fillSp_cons (name : Bytes) (t : STy) (dflt : Bool) (r : SFields) (ds : List (Bytes × SDec)) :
    fillSp (.cons name t dflt r) ds =
      match filledSp t dflt (alookup name ds) with
      | some d => (fillSp r ds).map fun l => (name, d) :: l
      | none => vfail := by
  conv => lhs; unfold fillSp
  generalize fillSp r ds = rest
  unfold filledSp
  cases alookup name ds with
  | some d => cases rest <;> rfl
  | none =>
    cases dflt with
    | true => cases rest <;> rfl
    | false => cases missingSp t <;> cases rest <;> rfl

theorem missingSp_ranges {t : STy} {d : SDec} (h : missingSp t = some d) : ranges d = [] := by
  unfold missingSp at h
  split at h <;> cases h <;> rfl

theorem filledSp_ranges {t : STy} {dflt : Bool} {name : Bytes} {ds : List (Bytes × SDec)} {d : SDec}
    (h : filledSp t dflt (alookup name ds) = some d) : ∀ s ∈ ranges d, s ∈ rangesN ds := by
  intro s hs
  unfold filledSp at h
  cases ha : alookup name ds with
  | some d0 =>
    rw [ha] at h; cases h
    exact rangesN_mem (State09.mem_of_alookup name d ds ha) hs
  | none =>
    rw [ha] at h
    cases dflt with
    | true => cases h; cases hs
    | false => rw [missingSp_ranges h] at hs; cases hs

theorem fillSp_ranges : ∀ (fs : SFields) (ds l : List (Bytes × SDec)), fillSp fs ds = .ok l →
    ∀ s ∈ rangesN l, s ∈ rangesN ds
  | .nil, ds, l, h, s, hs => by
    simp only [fillSp, Except.ok.injEq] at h; subst h; simp [rangesN] at hs
  | .cons name t dflt r, ds, l, h, s, hs => by
    rw [fillSp_cons] at h
    cases hf : filledSp t dflt (alookup name ds) with
    | none => rw [hf] at h; cases h
    | some d =>
      rw [hf] at h
      cases hr : fillSp r ds with
      | error e => rw [hr] at h; cases h
      | ok l' =>
        rw [hr] at h; cases h
        simp only [rangesN, List.mem_append] at hs
        exact hs.elim (filledSp_ranges hf s) (fillSp_ranges r ds l' hr s)

theorem cover_some {a b : Option Span} {s : Span} (h : cover a b = some s) : a.isSome = true ∨ b.isSome = true := by
  cases a <;> cases b <;> simp_all [cover]

theorem keyRanges_none (kt : KeyTy) (k : Bytes) : ∀ key, decodeKey kt k none = .ok key → keyRanges key = [] := by
  induction kt with
  | string => intro key h; simp only [decodeKey, Except.ok.injEq] at h; subst h; rfl
  | newtype kt ih =>
    intro key h
    obtain ⟨a, ha, rfl⟩ := lmap_ok _ _ _ h
    simpa [keyRanges] using ih a ha
  | spanned kt _ => intro key h; simp [decodeKey, vfail] at h

theorem keyRanges_of (kt : KeyTy) (k : Bytes) (sp : Option Span) : ∀ key, decodeKey kt k sp = .ok key →
    ∀ s ∈ keyRanges key, sp = some s := by
  induction kt with
  | string => intro key h; simp only [decodeKey, Except.ok.injEq] at h; subst h; simp [keyRanges]
  | newtype kt ih =>
    intro key h
    obtain ⟨a, ha, rfl⟩ := lmap_ok _ _ _ h
    simpa [keyRanges] using ih a ha
  | spanned kt _ =>
    intro key h
    cases sp with
    | none => simp [decodeKey, vfail] at h
    | some ab =>
      obtain ⟨a, b⟩ := ab
      obtain ⟨x, hx, rfl⟩ := lmap_ok _ _ _ h
      intro s hs
      simp only [keyRanges, List.mem_cons, keyRanges_none kt k x hx, List.not_mem_nil, or_false] at hs
      rw [hs]

theorem liftV_ok {α} (r : R α) (a : α) (h : liftV r = .ok a) : r = .ok a := by
  cases r with
  | ok b => simpa [liftV] using h
  | error e => simp [liftV, vfail] at h

theorem unitOnlySp_ranges : ∀ (vs : SVariants) (s : Bytes) (d : SDec), unitOnlySp vs s = .ok d → ranges d = []
  | .nil, s, d, h => by simp [unitOnlySp, fail] at h
  | .cons n sh r, s, d, h => by
    unfold unitOnlySp at h
    split at h
    · cases sh with
      | unit => simp only [Except.ok.injEq] at h; subst h; rfl
      | newtype t => simp [fail] at h
    · exact unitOnlySp_ranges r s d h

theorem decodeStrSp_ranges (t : STy) (s : Bytes) (d : SDec) (h : decodeStrSp t s = .ok d) : ranges d = [] := by
  cases t with
  | plain t =>
    unfold decodeStrSp at h
    simp only [] at h
    cases hd : decodeStrDe t s with
    | ok x => rw [hd] at h; simp only [rmap, Except.ok.injEq] at h; subst h; rfl
    | error e => rw [hd] at h; simp [rmap] at h
  | enum vs => unfold decodeStrSp at h; simp only [] at h; exact unitOnlySp_ranges vs s d h
  | _ => simp [decodeStrSp, fail] at h

def EntryGood (src : LSrc) (d : SDec) : Prop :=
  match src with
  | .item _ i => GoodAll i (ranges d)
  | .str _ => ranges d = []

theorem entryGood_to_good (it : CItem) (es : List (Bytes × LSrc)) (h : locMapEntries it = some es) (key : Bytes) (src : LSrc)
    (hm : (key, src) ∈ es) (d : SDec) (he : EntryGood src d) : GoodAll it (ranges d) := by
  cases src with
  | str s => simp only [EntryGood] at he; intro x hx; rw [he] at hx; cases hx
  | item k i =>
    obtain ⟨ces, hc, hmem, _⟩ := srcs_item_mem it es h key k i hm
    intro x hx
    exact Good.entry hc hmem (he x hx)

mutual
theorem ranges_ty (fl : TomlValue.Flavour) : ∀ (t : STy) (it : CItem) (d : SDec), decodeSp fl t it = .ok d →
    GoodAll it (ranges d)
  | .plain t, it, d, h => by
    unfold decodeSp at h
    obtain ⟨a, _, rfl⟩ := lmap_ok _ _ _ h
    intro s hs; simp [ranges] at hs
  | .spanned t, it, d, h => by
    unfold decodeSp at h
    cases hsp : itemSpan it with
    | none => rw [hsp] at h; cases hs : it.span <;> simp [atSpan, vfail, visitorErr] at h
    | some ab =>
      obtain ⟨a, b⟩ := ab
      rw [hsp] at h
      simp only [] at h
      obtain ⟨x, hx, rfl⟩ := lmap_ok _ _ _ h
      intro s hs
      simp only [ranges, List.mem_cons] at hs
      rcases hs with hs | hs
      · subst hs; exact ⟨it, .refl it, Or.inl hsp⟩
      · exact ranges_ty fl t it x hx s hs
  | .option t, it, d, h => by
    unfold decodeSp at h
    obtain ⟨x, hx, rfl⟩ := lmap_ok _ _ _ (atSpan_ok _ _ _ h)
    simpa [ranges] using ranges_ty fl t it x hx
  | .newtype t, it, d, h => by
    unfold decodeSp at h
    obtain ⟨x, hx, rfl⟩ := lmap_ok _ _ _ (atSpan_ok _ _ _ h)
    simpa [ranges] using ranges_ty fl t it x hx
  | .seq t, it, d, h => by
    unfold decodeSp at h
    have h := atSpan_ok _ _ _ h
    cases hl : citemElems it with
    | none => rw [hl] at h; simp [vfail] at h
    | some l =>
      rw [hl] at h
      simp only [] at h
      obtain ⟨r, hr, rfl⟩ := lmap_ok _ _ _ h
      intro s hs
      simp only [ranges] at hs
      obtain ⟨x, hx, hsx⟩ := mem_rangesL hs
      obtain ⟨a, ha, hf⟩ := mapL_ok _ l r hr x hx
      exact Good.elem hl ha (ranges_ty fl t a x (atSpan_ok _ _ _ hf) s hsx)
  | .map kt t, it, d, h => by
    unfold decodeSp at h
    have h := atSpan_ok _ _ _ h
    cases hl : locMapEntries it with
    | none => rw [hl] at h; simp [vfail] at h
    | some es =>
      rw [hl] at h
      simp only [] at h
      obtain ⟨r, hr, rfl⟩ := lmap_ok _ _ _ h
      intro s hs
      simp only [ranges] at hs
      obtain ⟨kd, hkd, hsx⟩ := mem_rangesM hs
      obtain ⟨kv, hkv, hf⟩ := mapL_ok _ es r hr kd hkd
      obtain ⟨key, src⟩ := kv
      cases src with
      | item k i =>
        simp only [] at hf
        obtain ⟨ces, hc, hmem, _⟩ := srcs_item_mem it es hl key k i hkv
        cases hk : atSpan (keySpan k) (decodeKey kt k.key (keySpan k)) with
        | error e => rw [hk] at hf; cases hf
        | ok key0 =>
          rw [hk] at hf
          simp only [] at hf
          obtain ⟨x, hx, rfl⟩ := lmap_ok _ _ _ hf
          rcases hsx with hsx | hsx
          · have := keyRanges_of kt k.key (keySpan k) key0 (atSpan_ok _ _ _ hk) s hsx
            exact ⟨it, .refl it, Or.inr ⟨ces, k, i, hc, hmem, this⟩⟩
          · exact Good.entry hc hmem (ranges_ty fl t i x (inEntry_ok _ _ _ _ hx) s hsx)
      | str s0 =>
        simp only [] at hf
        cases hk : decodeKeyStr kt key with
        | error e => rw [hk] at hf; cases hf
        | ok key0 =>
          rw [hk] at hf
          simp only [] at hf
          obtain ⟨x, hx, rfl⟩ := lmap_ok _ _ _ hf
          have hk0 : keyRanges key0 = [] := by
            cases kt <;> simp [decodeKeyStr, vfail] at hk
            subst hk; rfl
          have hx0 := decodeStrSp_ranges t s0 x (liftV_ok _ _ hx)
          simp only [hk0, hx0] at hsx
          rcases hsx with hsx | hsx <;> cases hsx
  | .struct fs, it, d, h => by
    unfold decodeSp at h
    have h := atSpan_ok _ _ _ h
    cases hl : locMapEntries it with
    | some es =>
      rw [hl] at h
      simp only [] at h
      cases hw : walkG visitorErr fs.hasName (fun k src => decodeSpEntry fl fs k src) [] es with
      | error e => rw [hw] at h; cases h
      | ok ds =>
        rw [hw] at h
        simp only [] at h
        obtain ⟨l, hfill, rfl⟩ := lmap_ok _ _ _ h
        intro s hs
        simp only [ranges] at hs
        obtain ⟨kd, hkd, hsx⟩ := mem_rangesN (fillSp_ranges fs ds l hfill s hs)
        obtain ⟨kv, hkv, hf⟩ := walkG_ok _ _ es [] ds hw kd hkd
        exact entryGood_to_good it es hl kv.1 kv.2 hkv kd.2 (ranges_entry fl fs kv.1 kv.2 kd.2 hf) s hsx
    | none =>
      rw [hl] at h
      simp only [] at h
      cases hle : citemElems it with
      | none => rw [hle] at h; simp [vfail] at h
      | some l =>
        rw [hle] at h
        simp only [] at h
        obtain ⟨r, hr, rfl⟩ := lmap_ok _ _ _ h
        intro s hs
        simp only [ranges] at hs
        obtain ⟨x, hx, hg⟩ := ranges_fseq fl fs l r hr s hs
        exact Good.elem hle hx hg
  | .enum vs, it, d, h => by
    unfold decodeSp at h
    have h := atSpan_ok _ _ _ h
    split at h
    · rw [unitOnlySp_ranges vs _ d (liftV_ok _ _ h)]
      intro s hs; cases hs
    · cases hc : citemEntries it with
      | none => rw [hc] at h; simp [failAt] at h
      | some es =>
        rw [hc] at h
        match es, hc, h with
        | [], _, h => simp [failAt] at h
        | [(k, p)], hc, h =>
          simp only [] at h
          intro s hs
          exact Good.entry hc (List.mem_cons_self ..) (ranges_variants fl vs k p d h s hs)
        | _ :: _ :: _, _, h => simp [failAt] at h
theorem ranges_entry (fl : TomlValue.Flavour) : ∀ (fs : SFields) (k : Bytes) (src : LSrc) (d : SDec),
    decodeSpEntry fl fs k src = .ok (some d) → EntryGood src d
  | .nil, k, src, d, h => by unfold decodeSpEntry at h; simp at h
  | .cons name t dflt r, k, src, d, h => by
    unfold decodeSpEntry at h
    split at h
    · obtain ⟨x, hx, hd⟩ := lmap_ok _ _ _ h
      simp only [Option.some.injEq] at hd
      subst hd
      cases src with
      | item key i => exact ranges_ty fl t i d (inEntry_ok _ _ _ _ hx)
      | str s => exact decodeStrSp_ranges t s d (liftV_ok _ _ hx)
    · exact ranges_entry fl r k src d h
theorem ranges_fseq (fl : TomlValue.Flavour) : ∀ (fs : SFields) (l : List CItem) (r : List (Bytes × SDec)),
    decodeSpFieldsSeq fl fs l = .ok r → ∀ s ∈ rangesN r, ∃ x ∈ l, Good x s
  | .nil, l, r, h, s, hs => by
    unfold decodeSpFieldsSeq at h; simp only [Except.ok.injEq] at h; subst h; simp [rangesN] at hs
  | .cons name t dflt rest, [], r, h, s, hs => by
    unfold decodeSpFieldsSeq at h
    split at h
    · obtain ⟨x, hx, rfl⟩ := lmap_ok _ _ _ h
      simp only [rangesN, ranges, List.nil_append] at hs
      obtain ⟨y, hy, _⟩ := ranges_fseq fl rest [] x hx s hs
      cases hy
    · simp [vfail] at h
  | .cons name t dflt rest, i :: l, r, h, s, hs => by
    unfold decodeSpFieldsSeq at h
    obtain ⟨a, tl, ha, htl, rfl⟩ := lcons_ok _ _ _ h
    obtain ⟨x, hx, rfl⟩ := lmap_ok _ _ _ ha
    simp only [rangesN, List.mem_append] at hs
    rcases hs with hs | hs
    · exact ⟨i, List.mem_cons_self .., ranges_ty fl t i x (atSpan_ok _ _ _ hx) s hs⟩
    · obtain ⟨y, hy, hg⟩ := ranges_fseq fl rest l tl htl s hs
      exact ⟨y, List.mem_cons_of_mem _ hy, hg⟩
theorem ranges_variants (fl : TomlValue.Flavour) : ∀ (vs : SVariants) (k : CKey) (p : CItem) (d : SDec),
    decodeSpVariants fl vs k p = .ok d → GoodAll p (ranges d)
  | .nil, k, p, d, h => by unfold decodeSpVariants at h; simp [failAt] at h
  | .cons name sh r, k, p, d, h => by
    unfold decodeSpVariants at h
    split at h
    · exact ranges_shape fl sh name p d h
    · exact ranges_variants fl r k p d h
theorem ranges_shape (fl : TomlValue.Flavour) : ∀ (sh : SShape) (n : Bytes) (p : CItem) (d : SDec),
    decodeSpShape fl sh n p = .ok d → GoodAll p (ranges d)
  | .unit, n, p, d, h => by
    unfold decodeSpShape at h
    obtain ⟨x, _, rfl⟩ := lmap_ok _ _ _ h
    intro s hs; simp [ranges] at hs
  | .newtype t, n, p, d, h => by
    unfold decodeSpShape at h
    obtain ⟨x, hx, rfl⟩ := lmap_ok _ _ _ h
    simpa [ranges] using ranges_ty fl t p x hx
end

end TomlVerif.Lemmas.DeSpanned14
