import TomlVerif.Lemmas.Same03Spine
import TomlVerif.Lemmas.Same03Line
/-! C03, same data — the parse-state invariants, for the largest class `genRun2`.  `PhaseF f` says
    what the printer over `f` writes for a state; `finalize_table`, a header line and a key/value
    line of the class are followed on that text, whatever `f`.  On top of it, at `f = stripCr`:
    `AInvT2` reads the text as grammar lines whose statements give the erased state; `GInvG2` keeps
    the body of the current section as groups of lines. -/
namespace TomlVerif.Lemmas.Tiling03More.Gen
open TomlVerif TomlVerif.Spec TomlVerif.Model TomlVerif.Model.Strings TomlVerif.Model.Value
open TomlVerif.Model.Cst TomlVerif.Model.Encode TomlVerif.Lemmas.Suffix03 TomlVerif.Lemmas.Cst03
open TomlVerif.Lemmas.LastByte03 TomlVerif.Lemmas.Tiling03 TomlVerif.Lemmas.Tiling03Hdr
open TomlVerif.Lemmas.Tiling03Nest TomlVerif.Lemmas.Tiling03More TomlVerif.Lemmas.Tiling03More.VS
open TomlVerif.Lemmas.Tiling03More.Tko TomlVerif.Lemmas.Tiling03More.Nad
open TomlVerif.Spec.AstValue TomlVerif.Spec.AstValueQ TomlVerif.Spec.AstDoc TomlVerif.Spec.AstDocQ
open TomlVerif.Lemmas.Value01 (commentBytes)
open TomlVerif.Lemmas.State09 (Stmt run step run_append)

/-- `PhaseF stripCr` (`phaseT2_eq`), written out because fixed statements mention it -/
def PhaseT2 (inp : Bytes) (st : CState) (T : Bytes) : Prop :=
  (st.root = CTbl.empty ∧ st.currentPath = [] ∧
    ∃ items imp sp, st.current = .mk items imp false none {} sp ∧ MixOk inp items ∧
      (∀ X, nsItems stripCr inp items X = []) ∧ gk2Items inp items ∧
      T = encodeBody stripCr inp (valuesTbl items [])) ∨
  (∃ pp key items q lead trail sp SP, st.currentPath = pp ++ [key] ∧
    st.current = .mk items false false (some q) (Decor.new lead trail) sp ∧ MixOk inp items ∧
    gk2Items inp items ∧ SpineA2 inp st.currentIsArray key st.root pp SP ∧ st.root.dotted = false ∧
    (∀ x ∈ Nof inp st.root items SP, x.2.1 = true ∧ x.1 < st.position) ∧ PosInj (Nof inp st.root items SP) ∧
    T = entText stripCr inp st.root [] false ++ flatP (sortP (pairsN (Nof inp st.root items SP)))
          ++ entText stripCr inp st.current SP st.currentIsArray)

/-- `T` is what the printer over the decor transformation `f` writes for the state if the input
    ends here: before the first header the body of the root; after a header the root, the sorted
    summary of all finished tables and of the sub-tables a take-over moved into the current one,
    then the current section.  The same-data proof below reads `T` at `f = stripCr` as grammar
    lines, the verbatim proof of `Lemmas/Verbatim03Ord.lean` reads it as the source consumed so
    far. -/
def PhaseF (f : Bytes → Bytes) (inp : Bytes) (st : CState) (T : Bytes) : Prop :=
  (st.root = CTbl.empty ∧ st.currentPath = [] ∧
    ∃ items imp sp, st.current = .mk items imp false none {} sp ∧ MixOk inp items ∧
      (∀ X, nsItems f inp items X = []) ∧ gk2Items inp items ∧
      T = encodeBody f inp (valuesTbl items [])) ∨
  (∃ pp key items q lead trail sp SP, st.currentPath = pp ++ [key] ∧
    st.current = .mk items false false (some q) (Decor.new lead trail) sp ∧ MixOk inp items ∧
    gk2Items inp items ∧ SpineA2 inp st.currentIsArray key st.root pp SP ∧ st.root.dotted = false ∧
    (∀ x ∈ NofF f inp st.root items SP, x.2.1 = true ∧ x.1 < st.position) ∧ PosInj (NofF f inp st.root items SP) ∧
    T = entText f inp st.root [] false ++ flatP (sortP (pairsN (NofF f inp st.root items SP)))
          ++ entText f inp st.current SP st.currentIsArray)

theorem phaseT2_eq (inp : Bytes) (st : CState) (T : Bytes) : PhaseT2 inp st T = PhaseF stripCr inp st T := rfl

theorem phaseF_current {f : Bytes → Bytes} {inp : Bytes} {st : CState} {T : Bytes} (h : PhaseF f inp st T) :
    ∃ items imp p dec sp, st.current = .mk items imp false p dec sp ∧ MixOk inp items ∧ gk2Items inp items := by
  rcases h with ⟨_, _, items, imp, sp, h1, h2, _, h3, _⟩ | ⟨_, _, items, q, lead, trail, sp, _, _, h1, h2, h3, _⟩
  · exact ⟨items, imp, none, {}, sp, h1, h2, h3⟩
  · exact ⟨items, false, some q, _, sp, h1, h2, h3⟩

/-- the text of the state is the rendering of well-formed grammar lines `ls` whose statements, run
    from the initial state, give the erased state; `tr` is the pending trivia, of kind `Tv` -/
def AInvT2 (Tv : Bytes → Prop) (inp : Bytes) (st : CState) (s : Bytes) : Prop :=
  ∃ ls T tr, (∀ p ∈ ls, QLine.WF p.1) ∧ T = renderLinesQ ls ∧
    run {} (stmtsLinesQ ls) = some (eraseState st) ∧
    PhaseT2 inp st T ∧ PInvT st ∧ gk2Items inp st.root.items ∧
    TrailIs inp.length st.trailing tr s ∧ tr ++ s <:+ inp ∧ Tv tr

theorem ainv2_onWs (Tv Tv' : Bytes → Prop) (inp : Bytes) (st : CState) (w s' : Bytes)
    (h : AInvT2 Tv inp st (w ++ s')) (hext : ∀ tr, Tv tr → Tv' (tr ++ w)) :
    AInvT2 Tv' inp (onWs st (pos inp.length (w ++ s')) (pos inp.length s')) s' := by
  obtain ⟨e1, e2, e3, e4, e5⟩ := onWs_fields st (pos inp.length (w ++ s')) (pos inp.length s')
  obtain ⟨ls, T, tr, a1, a2, a3, a4, a5, a6, a7, a8, a9⟩ := h
  refine ⟨ls, T, tr ++ w, a1, a2, by rw [onWs_erase]; exact a3, ?_, ?_, by rw [e1]; exact a6,
    trailIs_onWs _ st tr w s' a7, by simpa [List.append_assoc] using a8, hext tr a9⟩
  · unfold PhaseT2; rw [e1, e2, e3, e4, e5]; exact a4
  · unfold PInvT; rw [e1, e2, e3, e5]; exact a5

theorem ainv2_consume (Tv Tv' : Bytes → Prop) (inp : Bytes) (st : CState) (s s' : Bytes)
    (h : AInvT2 Tv inp st s) (hext : ∃ w, s = w ++ s' ∧ ∀ tr, Tv tr → Tv' (tr ++ w)) :
    AInvT2 Tv' inp (onWs st (pos inp.length s) (pos inp.length s')) s' := by
  obtain ⟨w, hw, he⟩ := hext
  subst hw
  exact ainv2_onWs Tv Tv' inp st w s' h he

theorem ainv2_parseWs (inp : Bytes) (st : CState) (s : Bytes) (h : AInvT2 TrivOK inp st s) :
    AInvT2 TrivOK inp (parseWs inp.length st s).1 (parseWs inp.length st s).2 := by
  obtain ⟨w, hw, e, _⟩ := Sound01.dropWs_split s
  exact ainv2_consume TrivOK TrivOK inp st s (dropWs s) h ⟨w, e, fun tr ht => triv_ws tr w ht hw⟩

theorem ainv2_parseWs_end (inp : Bytes) (st : CState) (h : AInvT2 TrivEnd inp st []) :
    AInvT2 TrivEnd inp (parseWs inp.length st []).1 (parseWs inp.length st []).2 :=
  ainv2_consume TrivEnd TrivEnd inp st [] [] h ⟨[], rfl, fun tr ht => by simpa using ht⟩

theorem ainv2_end (inp : Bytes) (st : CState) (s : Bytes) (h : AInvT2 TrivOK inp st s) : AInvT2 TrivEnd inp st s := by
  obtain ⟨ls, T, tr, a1, a2, a3, a4, a5, a6, a7, a8, a9⟩ := h
  exact ⟨ls, T, tr, a1, a2, a3, a4, a5, a6, a7, a8, triv_end tr a9⟩

/-- `finalize_table` does not change the text.  The triple of the current table has the largest
    position; filing it somewhere in the root permutes the summary (`fin_spineT2`), two
    permutations of each other with distinct positions have the same sort (`sortP_pairs_perm`),
    and the largest triple lands last (`sortP_new_max`), where the text of the current section
    already stood. -/
theorem finalize_F (f : Bytes → Bytes) (inp : Bytes) (st st1 : CState) (T : Bytes) (hfin : finalizeTable st = some st1)
    (hsh : PhaseF f inp st T) (hP : PInvT st) (hg : gk2Items inp st.root.items) :
    rootTextO f inp st1.root = T ∧ st1.root.dotted = false ∧
    st1.trailing = st.trailing ∧ st1.position = st.position ∧ st1.current = CTbl.empty ∧
    st1.root.pos = none ∧ st1.root.decor.pre = none ∧ st1.root.decor.suf = none ∧
    (∀ x ∈ nsItems f inp st1.root.items [], x.2.1 = true ∧ x.1 ≤ st.position) ∧
    PosInj (nsItems f inp st1.root.items []) ∧
    gk2Items inp st1.root.items ∧ tiTbl st1.root = true := by
  obtain ⟨p1, p2, p3, p4, p5, p6⟩ := hP
  rcases finalize_cases st st1 hfin with ⟨hp, _, e⟩ | ⟨pp', key', root', hp, hd, e⟩
  · subst e
    rcases hsh with ⟨_, _, items, imp, sp, a3, a4, a4n, a4g, aT⟩ | ⟨pp, key, _, _, _, _, _, _, b1, _⟩
    · simp only []
      have hti : tiTbl st.current = true := p5
      rw [a3] at hti ⊢
      -- after `simp only []` the three clauses on `trailing`, `position`, `current` read `True`
      refine ⟨?_, rfl, trivial, trivial, trivial, rfl, rfl, rfl, ?_, ?_, a4g, hti⟩
      · simp only [rootTextO, CTbl.items]
        rw [a4n [], entText_root, aT]
        simp [pairsN, sortP, sortG, flatP, CTbl.items]
      · simp only [CTbl.items]
        rw [a4n []]
        intro x hx; cases hx
      · simp only [CTbl.items]
        rw [a4n []]
        intro a ha; cases ha
    · rw [hp] at b1; exact absurd b1.symm (by simp)
  · subst e
    rcases hsh with ⟨_, a2, _⟩ | ⟨pp, key, items, q, lead, trail, sp, SP, b1, b2, b3, b3g, b4, b4d, c6, c7, bT⟩
    · rw [a2] at hp; exact absurd hp.symm (by simp)
    · rw [b1] at hp
      obtain ⟨e1, e2⟩ := List.append_singleton_inj.mp hp
      subst e1; subst e2
      have hne : st.currentPath ≠ [] := by rw [b1]; simp
      have hq : q = st.position := by
        have := p6 hne
        rw [b2] at this
        simpa [CTbl.pos] using this
      subst hq
      have hcd : st.current.dotted = false := by rw [b2]; rfl
      have hcq : st.current.pos = some st.position := p6 hne
      have hgc : gk2Items inp st.current.items := by rw [b2]; exact b3g
      obtain ⟨⟨l1, l2, i1, i2⟩, i3, i4⟩ := fin_spineT2 f inp st.currentIsArray key st.current hcd hgc
        pp st.root root' [] SP b4 hg hd
      have hs := descend_setItems _ (finFn_setItems st.currentIsArray key st.current) pp _ _ _ hd
      have hti' : tiTbl root' = true :=
        descend_ti _ (fun p p' h ht => finFn_ti st.currentIsArray key st.current p p' p5 h ht) pp _ _ _ p4 hd
      generalize he : ((st.position, true, entText f inp st.current SP st.currentIsArray) : Nat × Bool × Bytes) = e at *
      have hcurN : nsTbl f inp st.current ([] ++ SP) st.currentIsArray = e :: nsItems f inp items SP := by
        rw [nsTbl_eq, hdN_some f inp st.current _ _ st.position hcd hcq, ← he, b2]
        simp [CTbl.items, CTbl.decor, Decor.new]
      rw [hcurN] at i2
      unfold NofF at c6 c7 bT
      rw [i1] at c6 c7 bT
      generalize hD : nsItems f inp items SP = D at *
      have hperm : (l1 ++ e :: (D ++ l2)).Perm (e :: (l1 ++ l2 ++ D)) :=
        List.perm_middle.trans (List.Perm.cons e (by rw [List.append_assoc]; exact List.Perm.append_left l1 List.perm_append_comm))
      have hi2 : nsItems f inp root'.items [] = l1 ++ e :: (D ++ l2) := by
        rw [i2]; simp [List.append_assoc]
      have hlt : ∀ x ∈ l1 ++ l2 ++ D, x.1 < e.1 := by
        intro x hx; rw [← he]; exact (c6 x hx).2
      have hinj : PosInj (e :: (l1 ++ l2 ++ D)) := posInj_cons e _ c7 hlt
      simp only []
      refine ⟨?_, by rw [hs]; simpa using b4d, trivial, trivial,
        trivial, by rw [hs]; exact p1, by rw [hs]; exact p2, by rw [hs]; exact p3, ?_, ?_, i4, hti'⟩
      · rw [bT]
        simp only [rootTextO]
        rw [entText_tbl_congr f inp st.root root' [] false (by rw [hs]; simp) (by rw [hs]; simp) (i3 []), hi2,
          ← sortP_pairs_perm _ _ hperm.symm hinj]
        have hmax : ∀ y ∈ ([] : PT) ++ pairsN (l1 ++ l2 ++ D), y.1 < e.1 := by
          intro y hy
          obtain ⟨x, hx, ex⟩ := mem_pairsN (by simpa using hy)
          rw [ex]; exact hlt x (by simpa [List.append_assoc] using hx)
        have hsort := sortP_new_max (e.1, e.2.2) [] (pairsN (l1 ++ l2 ++ D)) hmax
        have hone : pairsN (e :: (l1 ++ l2 ++ D)) = [] ++ [(e.1, e.2.2)] ++ pairsN (l1 ++ l2 ++ D) := rfl
        rw [hone, hsort, flatP_append, ← he]
        simp [flatP, List.append_assoc]
      · intro x hx
        rw [hi2] at hx
        have hx' := hperm.mem_iff.1 hx
        rcases List.mem_cons.1 hx' with hx' | hx'
        · rw [hx', ← he]; exact ⟨rfl, Nat.le_refl _⟩
        · have := c6 x hx'
          exact ⟨this.1, Nat.le_of_lt this.2⟩
      · rw [hi2]; exact posInj_perm hperm.symm hinj

/-- a header line of the class, on the text the printer will write: it grows AT ITS END by the
    header under the stored keys `SP = storedPath …` of the path (a take-over moves the table to
    the end of its parent, and its position is the largest); the new section is empty unless a
    `[t]` header took a table over -/
theorem header_phase (f : Bytes → Bytes) (inp : Bytes) (st st' : CState) (s r r2 : Bytes) (isArr : Bool) (ks : List CKey)
    (T : Bytes) (hs : s <:+ inp) (hsr : s = (if isArr then [0x5B, 0x5B] else [0x5B]) ++ r)
    (hk : ckeyPath inp.length r = .ok ks ((if isArr then [0x5D, 0x5D] else [0x5D]) ++ r2))
    (ho : (if isArr then onArrayHeader st ks (rawBetween inp.length r2 (trailEnd r2)) (pos inp.length s, pos inp.length r2)
        else onStdHeader st ks (rawBetween inp.length r2 (trailEnd r2)) (pos inp.length s, pos inp.length r2)) = some st')
    (hok : hdrLineOkT2 inp st s = true)
    (hsh : PhaseF f inp st T) (hP : PInvT st) (hg : gk2Items inp st.root.items) :
    ∃ SP, keysOf SP = keysOf ks ∧ (∀ k ∈ SP, GKey inp k) ∧ SP ≠ [] ∧
      PhaseF f inp st' (T ++ hdrText f inp
        (Decor.new (takeTrailing st.trailing) (rawBetween inp.length r2 (trailEnd r2))) SP isArr) ∧
      PInvT st' ∧ gk2Items inp st'.root.items ∧ onlySubs st'.current.items = true ∧ st'.trailing = none ∧
      (∃ st1 pp key, finalizeTable st = some st1 ∧ ks = pp ++ [key] ∧ SP = storedPath isArr key st1.root pp ∧
        ((isArr = true ∨ findTable key.key st1.root pp = none) → st'.current.items = [])) := by
  have hr : r <:+ inp := (hsr ▸ List.suffix_append _ r).trans hs
  have hksG := ckeyPath_GK inp r _ ks hr hk
  obtain ⟨st1, pp, key, root', hfin, hks, hroot, hst'⟩ := header_frame st st' isArr ks _ _ ho
  have hsl : splitLast ks = some (pp, key) := by rw [hks]; exact vsplitLast_snoc pp key
  have hpo := hdrLineOkWith_use (p := pathOkT2 inp) st st1 isArr r _ ks pp key
    (show hdrLineOkT2 inp st _ = true by rw [← hsr]; exact hok) hfin hk hsl
  obtain ⟨f1, f2, f3, f4, f5, f6, f7, f8, f9, f9i, f10, f11⟩ := finalize_F f inp st st1 T hfin hsh hP hg
  obtain ⟨ci, hci⟩ : ∃ ci, ci = (if isArr then st1.current.items
      else ((findTable key.key st1.root pp).getD st1.current).items) := ⟨_, rfl⟩
  rw [← hci] at hst'
  have hc1 : ∀ tk, findTable key.key st1.root pp = some tk → isArr = false → ci = tk.items := by
    intro tk htk ha; rw [hci, ha, htk]; rfl
  have hc2 : findTable key.key st1.root pp = none → ci = [] := by
    intro hn
    cases isArr with
    | true => rw [hci, if_pos rfl, f5]; rfl
    | false => rw [hci, if_neg (by simp), hn, f5]; rfl
  have hc3 : (isArr = true ∨ findTable key.key st1.root pp = none) → ci = [] := by
    rintro (ha | hn)
    · rw [hci, ha, if_pos rfl, f5]; rfl
    · exact hc2 hn
  obtain ⟨⟨SP, Hd, K, l1, l2, iS, i1, jh, j1, j2, j3, j4⟩, i2, i4⟩ := start_spineT2 f inp isArr key
    (hksG key (by rw [hks]; simp)) pp st1.root root' []
    (fun k hk' => hksG k (by rw [hks]; exact List.mem_append_left _ hk')) hpo f10 f11 hroot
  have hs' := descend_setItems _ (startFn_setItems isArr key) pp _ _ _ hroot
  have hti' : tiTbl root' = true := descend_ti _ (startFn_ti isArr key) pp _ _ _ f11 hroot
  have hHd : Hd = [] := by
    cases Hd with
    | nil => rfl
    | cons x rest =>
      have h1 := jh x (by simp)
      have h2 := (f9 x (by rw [j1]; simp)).1
      rw [h1] at h2; cases h2
  subst hHd
  simp only [List.nil_append] at j1
  have hcur : K = nsItems f inp ci ([] ++ SP) ∧ MixOk inp ci ∧ gk2Items inp ci ∧ nodupK ci = true ∧
      tiItems ci = true ∧ valuesTbl ci [] = [] ∧ onlySubs ci = true := by
    cases hft : findTable key.key st1.root pp with
    | none =>
      obtain ⟨k1, _⟩ := j3 hft
      rw [hc2 hft, k1]
      exact ⟨rfl, mixOk_nil inp, gk2_nil inp, rfl, rfl, rfl, rfl⟩
    | some tk =>
      obtain ⟨ka, k1, k2, k3, k4, k5⟩ := j4 tk hft
      obtain ⟨n1, n2, _⟩ := tiTbl_parts tk k5
      rw [hc1 tk hft ka, k1]
      exact ⟨rfl, mixOk_onlySubs inp _ k3, k4, n1, n2, valuesTbl_onlySubs _ _ k3, k3⟩
  obtain ⟨hK, hmix, hgci, hndci, htici, hvci, hsubs⟩ := hcur
  simp only [List.nil_append] at hK
  obtain ⟨s1, s2, s3⟩ := spineA2_facts inp isArr key pp root' SP i1
  have hSPk : keysOf SP = keysOf ks := by rw [s1, hks]
  have hperm : (nsItems f inp st1.root.items []).Perm (NofF f inp root' ci SP) := by
    unfold NofF
    rw [j1, j2, ← hK, List.append_assoc, List.append_assoc]
    exact List.Perm.append_left l1 List.perm_append_comm
  subst hst'
  refine ⟨SP, hSPk, s2, s3, ?_, ?_, i4, hsubs, rfl, st1, pp, key, hfin, hks, iS, hc3⟩
  · right
    refine ⟨pp, key, ci, st1.position + 1, takeTrailing st1.trailing, rawBetween inp.length r2 (trailEnd r2),
      some (pos inp.length s, pos inp.length r2), SP, hks, rfl, hmix, hgci, i1, (by simp only []; rw [hs']; simpa using f2), ?_, posInj_perm hperm f9i, ?_⟩
    · intro x hx
      have := f9 x (hperm.mem_iff.2 hx)
      exact ⟨this.1, by simp only []; omega⟩
    · simp only []
      rw [← sortP_pairs_perm _ _ hperm f9i,
        entText_tbl_congr f inp st1.root root' [] false (by rw [hs']; simp) (by rw [hs']; simp) (i2 [])]
      have hroot1 : entText f inp st1.root [] false ++ flatP (sortP (pairsN (nsItems f inp st1.root.items []))) = T := f1
      rw [hroot1, entText_explicit, f3, hvci]
      simp [encodeBody]
  · refine ⟨by simp only []; rw [hs']; exact f6, by simp only []; rw [hs']; exact f7,
      by simp only []; rw [hs']; exact f8, hti', ?_, fun _ => rfl⟩
    show tiTbl (CTbl.mk ci false false _ _ _) = true
    simp [tiTbl, hndci, htici]

theorem header_step_T2 (inp : Bytes) (st st' : CState) (s r3 : Bytes)
    (h : ctableLine inp.length st s = some (st', r3)) (hok : hdrLineOkT2 inp st s = true)
    (hI : AInvT2 TrivOK inp st s) : AInvT2 TrivOK inp st' r3 ∧ onlySubs st'.current.items = true := by
  have hrest := ctableLine_rest h
  obtain ⟨isArr, r, ks, r2, hsr, hk, hlt, ho⟩ := table_frame _ _ _ _ _ h
  obtain ⟨ls, T, tr, a1, a2, a3, hsh, hP, hg, a7, a8, a9⟩ := hI
  have hs : s <:+ inp := (List.suffix_append tr s).trans a8
  have hstep : step (eraseState st) (if isArr then .arr (keysOf ks) else .std (keysOf ks)) = some (eraseState st') := by
    cases isArr with
    | false =>
      simp only [Bool.false_eq_true, if_false] at ho ⊢
      show State.onStdHeader (eraseState st) (keysOf ks) = _
      rw [← onStdHeader_erase st ks _ _, ho]; rfl
    | true =>
      simp only [if_true] at ho ⊢
      show State.onArrayHeader (eraseState st) (keysOf ks) = _
      rw [← onArrayHeader_erase st ks _ _, ho]; rfl
  obtain ⟨SP, p1, p2, p3, p4, p5, p6, p7, p8, _⟩ := header_phase stripCr inp st st' s r r2 isArr ks T hs hsr hk ho hok
    ((phaseT2_eq inp st T).mp hsh) hP hg
  obtain ⟨tl, line, l1', l2', l3', l4'⟩ := hdr_line_q inp isArr s r r2 tr ks SP st.trailing hsr hk a7 a8 a9 p1 p2 p3
  rw [l4'] at p4
  refine ⟨⟨ls ++ (tl ++ [(line, false)]), T ++ renderLinesQ (tl ++ [(line, false)]), [],
    lines_wf ls tl line a1 l1' l2', by rw [renderLinesQ_append ls, a2], run_line ls tl line _ _ _ a3 l1' l3' hstep,
    (phaseT2_eq _ _ _).mpr p4, p5, p6, by rw [p8]; exact Or.inl ⟨rfl, rfl⟩, by simpa using hrest.trans hs, triv_nil⟩, p7⟩

/-- `AInvT2` with the current section opened up: the run `lsPre` stops right after the header line
    (`hdrStateG`), and the lines of the body are kept as one group per entry of the flattened body
    (`Aligned`), because the printer regroups dotted keys and a line may land in the middle -/
def GInvG2 (Tv : Bytes → Prop) (inp : Bytes) (st : CState) (s : Bytes) : Prop :=
  ∃ lsPre groups T tr base body, (∀ p ∈ lsPre, QLine.WF p.1) ∧ st.current.items = base ++ body ∧
    onlySubs base = true ∧ bodyOkN body = true ∧
    Aligned inp groups (valuesTbl body []) ∧ T = renderLinesQ (lsPre ++ groups.flatten) ∧
    run {} (stmtsLinesQ lsPre) = some (hdrStateG st base) ∧
    PhaseT2 inp st T ∧ PInvT st ∧ gk2Items inp st.root.items ∧
    TrailIs inp.length st.trailing tr s ∧ tr ++ s <:+ inp ∧ Tv tr

theorem phaseT2_dotted {inp : Bytes} {st : CState} {T : Bytes} (h : PhaseT2 inp st T) : st.current.dotted = false := by
  obtain ⟨_, _, _, _, _, h1, _⟩ := phaseF_current ((phaseT2_eq inp st T).mp h)
  rw [h1]; rfl

theorem ginv2_ainvT2 (Tv : Bytes → Prop) (inp : Bytes) (st : CState) (s : Bytes) (h : GInvG2 Tv inp st s) :
    AInvT2 Tv inp st s := by
  obtain ⟨lsPre, groups, T, tr, base, body, n1, hi, hbase, hbn, n2, n3, n4, hsh, hP, hg, a7, a8, a9⟩ := h
  refine ⟨lsPre ++ groups.flatten, T, tr, ?_, n3, ?_, hsh, hP, hg, a7, a8, a9⟩
  · exact List.forall_mem_append.2 ⟨n1, aligned_wf inp _ _ n2⟩
  · rw [stmtsLinesQ_append, run_append, n4, aligned_stmts inp _ _ n2]
    exact run_bodyG st base body hi (phaseT2_dotted hsh) hbn (tiTbl_parts _ hP.current).1

theorem ainvT2_ginv2_subs (Tv : Bytes → Prop) (inp : Bytes) (st : CState) (s : Bytes) (h : AInvT2 Tv inp st s)
    (hsub : onlySubs st.current.items = true) : GInvG2 Tv inp st s := by
  obtain ⟨ls, T, tr, a1, a2, a3, hsh, hP, hg, a7, a8, a9⟩ := h
  refine ⟨ls, [], T, tr, st.current.items, [], a1, by simp, hsub, rfl, by simp [valuesTbl, Aligned],
    by simpa using a2, ?_, hsh, hP, hg, a7, a8, a9⟩
  rw [a3]
  unfold hdrStateG
  rw [← eraseTbl_items, State09.setItems_self]; rfl

theorem ginv2_consume (Tv Tv' : Bytes → Prop) (inp : Bytes) (st : CState) (s s' : Bytes)
    (h : GInvG2 Tv inp st s) (hext : ∃ w, s = w ++ s' ∧ ∀ tr, Tv tr → Tv' (tr ++ w)) :
    GInvG2 Tv' inp (onWs st (pos inp.length s) (pos inp.length s')) s' := by
  obtain ⟨w, rfl, hext⟩ := hext
  obtain ⟨e1, e2, e3, e4, e5⟩ := onWs_fields st (pos inp.length (w ++ s')) (pos inp.length s')
  obtain ⟨lsPre, groups, T, tr, base, body, n1, hi, hbase, hbn, n2, n3, n4, a4, a5, a6, a7, a8, a9⟩ := h
  refine ⟨lsPre, groups, T, tr ++ w, base, body, n1, by rw [e2]; exact hi, hbase, hbn, n2, n3, ?_, ?_, ?_,
    by rw [e1]; exact a6, trailIs_onWs _ st tr w s' a7, by simpa [List.append_assoc] using a8, hext tr a9⟩
  · unfold hdrStateG; rw [onWs_erase, e2]; exact n4
  · unfold PhaseT2; rw [e1, e2, e3, e4, e5]; exact a4
  · unfold PInvT; rw [e1, e2, e3, e5]; exact a5

theorem ginv2_parseWs (inp : Bytes) (st : CState) (s : Bytes) (h : GInvG2 TrivOK inp st s) :
    GInvG2 TrivOK inp (parseWs inp.length st s).1 (parseWs inp.length st s).2 := by
  obtain ⟨w, hw, e, _⟩ := Sound01.dropWs_split s
  exact ginv2_consume TrivOK TrivOK inp st s (dropWs s) h ⟨w, e, fun tr ht => triv_ws tr w ht hw⟩

theorem ginv2_parseWs_end (inp : Bytes) (st : CState) (h : GInvG2 TrivEnd inp st []) :
    GInvG2 TrivEnd inp (parseWs inp.length st []).1 (parseWs inp.length st []).2 :=
  ginv2_consume TrivEnd TrivEnd inp st [] [] h ⟨[], rfl, fun tr ht => by simpa using ht⟩

theorem ginv2_end (inp : Bytes) (st : CState) (s : Bytes) (h : GInvG2 TrivOK inp st s) : GInvG2 TrivEnd inp st s := by
  obtain ⟨lsPre, groups, T, tr, base, body, n1, hi, hbase, hbn, n2, n3, n4, a4, a5, a6, a7, a8, a9⟩ := h
  exact ⟨lsPre, groups, T, tr, base, body, n1, hi, hbase, hbn, n2, n3, n4, a4, a5, a6, a7, a8, triv_end tr a9⟩

theorem header_step_G2 (inp : Bytes) (st st' : CState) (s r3 : Bytes)
    (h : ctableLine inp.length st s = some (st', r3)) (hok : hdrLineOkT2 inp st s = true)
    (hI : GInvG2 TrivOK inp st s) : GInvG2 TrivOK inp st' r3 :=
  have h2 := header_step_T2 inp st st' s r3 h hok (ginv2_ainvT2 TrivOK inp st s hI)
  ainvT2_ginv2_subs TrivOK inp st' r3 h2.1 h2.2

theorem phaseF_body (f : Bytes → Bytes) (inp : Bytes) (st : CState) (T : Bytes) (items : Items) (imp : Bool) (p : Option Nat)
    (dec : Decor) (sp : Option Span) (hsh : PhaseF f inp st T) (hcur : st.current = .mk items imp false p dec sp) :
    ∃ H, T = H ++ encodeBody f inp (valuesTbl items []) ∧
      ∀ ci sp', MixOk inp ci → (∀ g X, nsItems g inp ci X = nsItems g inp items X) →
        (gk2Items inp items → gk2Items inp ci) →
        PhaseF f inp { st with current := .mk ci imp false p dec sp', trailing := none }
          (H ++ encodeBody f inp (valuesTbl ci [])) := by
  rcases hsh with ⟨b1, b2, items0, imp0, sp0, b3, b4, b4n, b5, bT⟩ | ⟨pp, key', items0, q, lead, trail, sp0, SP, b1, b2, b3, b3g, b4, b4d, c6, c7, bT⟩
  · rw [hcur] at b3
    injection b3 with e1 e2 e3 e4 e5 e6
    subst e1; subst e2; subst e4; subst e5
    refine ⟨[], by simpa using bT, ?_⟩
    intro ci sp' k2 kns kgk
    left
    exact ⟨b1, b2, ci, imp, _, rfl, k2, fun Y => by rw [kns f Y]; exact b4n Y, kgk b5, by simp⟩
  · rw [hcur] at b2
    injection b2 with e1 e2 e3 e4 e5 e6
    subst e1; subst e2; subst e4; subst e5
    refine ⟨entText f inp st.root [] false ++ flatP (sortP (pairsN (NofF f inp st.root items SP)))
      ++ hdrText f inp (Decor.new lead trail) SP st.currentIsArray, ?_, ?_⟩
    · rw [bT, hcur, entText_explicit]; simp only [List.append_assoc]
    · intro ci sp' k2 kns kgk
      right
      have hN : NofF f inp st.root ci SP = NofF f inp st.root items SP := by unfold NofF; rw [kns f SP]
      refine ⟨pp, key', ci, q, lead, trail, _, SP, b1, rfl, k2, kgk b3g, b4, b4d, ?_, ?_, ?_⟩
      · simp only []; rw [hN]; exact c6
      · simp only []; rw [hN]; exact c7
      · simp only []
        rw [hN, entText_explicit]
        simp only [List.append_assoc]

theorem keyval_step_G2 (inp : Bytes) (st st' : CState) (s r3 : Bytes)
    (h : ckeyvalLine inp.length st s = some (st', r3)) (hok : kvLineOkN inp st s = true)
    (hI : GInvG2 TrivOK inp st s) : GInvG2 TrivOK inp st' r3 := by
  obtain ⟨lsPre, groups, T, tr, base, body, n1, hi, hbase, hbn, n2, n3, n4, hsh, hP, hg, a7, a8, a9⟩ := hI
  have hs : s <:+ inp := (List.suffix_append tr s).trans a8
  have hrest := ckeyvalLine_rest h
  obtain ⟨ks, r1, v, r2, path, key, c, hk, hv, hlt, hsl, hd, he⟩ := keyval_frame _ _ _ _ _ h
  have hlim := ckeyvalLine_limit _ _ _ _ _ _ h hk
  clear h
  subst he
  have hdo := kvLineOkN_use inp st s r1 r2 ks path key v hok hk hv hsl
  have hks := vsplitLast_some _ _ _ hsl
  have hksG := ckeyPath_GK inp s _ ks hs hk
  have hpathG : ∀ k ∈ path, GKey inp k := fun k hk' => hksG k (by rw [hks]; exact List.mem_append_left _ hk')
  have hund0 := (cvalue_undotted hv).1
  have hund : undotted (kvVal inp.length v r1 r2) = true := by
    unfold kvVal; rw [undotted_setDecor]; exact hund0
  obtain ⟨items, imp, p, dec, sp, hcur, hmix, hgi⟩ := phaseF_current ((phaseT2_eq inp st T).mp hsh)
  have hitems : items = base ++ body := by rw [← hi, hcur]; rfl
  subst hitems
  have hbg : bodyG inp body := gk2_bodyG inp body (bodyOkN_U _ hbn) ((gk2Items_append inp base body).1 hgi).2
  have hcm := kvCur_mk st (kvVal inp.length v r1 r2) (base ++ body) imp false p dec sp hcur
  have hci : (kvCur st (kvVal inp.length v r1 r2)).items = base ++ body := by
    rw [(kvCur_fields st (kvVal inp.length v r1 r2)).1, hcur]; rfl
  have hdo' : dottedOkN (kvCur st (kvVal inp.length v r1 r2)) path = true := by
    rw [dottedOkN_items st.current _ (by rw [hci, hcur]; rfl)]; exact hdo
  obtain ⟨body', k1, k2n, k2g, X, L1, L2, k3a, k3, k4, k5⟩ := kv_descendG inp (kvFn path (kvKey st key) (kvVal inp.length v r1 r2)) (kvKey st key)
    (kvVal inp.length v r1 r2) hund (fun p p' hp => kvFn_facts _ _ _ _ _ hp) path _ c base body hci hbase hdo' hbn hbg hpathG hd
  have htic : tiTbl c = true := by
    refine descend_ti _ (kvFn_ti path (kvKey st key) (kvVal inp.length v r1 r2)) path _ _ _ ?_ hd
    rw [hcm]
    have := hP.current
    rw [hcur] at this
    exact this
  have hc' : c = .mk (base ++ body') imp false p dec (kvCur st (kvVal inp.length v r1 r2)).span := by
    rw [k1]
    conv => lhs; rw [hcm]
    simp [CTbl.setItems, CTbl.dotted, CTbl.implicit, CTbl.pos, CTbl.decor, CTbl.span]
  clear k1
  have hvb : ∀ b : Items, valuesTbl (base ++ b) [] = valuesTbl b [] := by
    intro b; rw [valuesTbl_append, valuesTbl_onlySubs _ _ hbase]; rfl
  have hmb := (mixOk_append inp _ _).1 hmix
  have hU := bodyOkN_U _ hbn
  have hU' := bodyOkN_U _ k2n
  obtain ⟨tl, line, l1, l2, l3, l4⟩ := kv_line_q inp st s r1 r2 tr ks path X key v hk hv hsl hlim a7 a8 a9 k4 k5
  have hgrp : Grp inp (tl ++ [(line, false)]) (X ++ [kvKey st key], kvVal inp.length v r1 r2) := by
    refine ⟨?_, ?_, ?_⟩
    · exact List.forall_mem_append.2 ⟨fun q hq => (l1 q hq).1, by simpa using l2⟩
    · rw [← l4]
      simp only [encodeBody, List.append_assoc, List.append_nil]
    · rw [stmtsLinesQ_append, trivLines_stmts tl l1, stmtOf_snoc]
      simp only [stmtsLinesQ, l3, List.nil_append, k4]
      unfold kvVal
      rw [eraseVal_setDecor]
      rfl
  rw [k3a] at n2
  obtain ⟨G1, G2, eG, g1, g2⟩ := aligned_split inp L1 L2 groups n2
  have hal : Aligned inp (G1 ++ ([tl ++ [(line, false)]] ++ G2))
      (L1 ++ ([(X ++ [kvKey st key], kvVal inp.length v r1 r2)] ++ L2)) :=
    aligned_append inp _ _ _ _ g1 (aligned_append inp [_] _ [_] _ ⟨hgrp, trivial⟩ g2)
  obtain ⟨H, hT, hph⟩ := phaseF_body stripCr inp st T (base ++ body) imp p dec sp ((phaseT2_eq inp st T).mp hsh) hcur
  have hH : renderLinesQ lsPre = H := by
    rw [n3, renderLinesQ_append, aligned_render inp _ _ n2, hvb, k3a] at hT
    exact List.append_cancel_right hT
  subst hc'
  refine ⟨lsPre, G1 ++ ([tl ++ [(line, false)]] ++ G2), H ++ encodeBody stripCr inp (valuesTbl (base ++ body') []), [],
    base, body', n1, rfl, hbase, k2n, ?_, ?_, ?_, (phaseT2_eq _ _ _).mpr (hph (base ++ body') _ ?_ ?_ ?_), ?_, hg, Or.inl ⟨rfl, rfl⟩,
    by simpa using hrest.trans hs, triv_nil⟩
  · rw [k3]; simpa [List.append_assoc] using hal
  · rw [renderLinesQ_append, aligned_render inp _ _ hal, hH, hvb, k3]; simp [List.append_assoc]
  · rw [n4]; unfold hdrStateG eraseState
    simp only [hcur, eraseTbl_mk]
    rfl
  · exact (mixOk_append inp _ _).2 ⟨hmb.1, mixOk_body inp _ hU' k2g⟩
  · intro f Y
    rw [nsItems_append, nsItems_append, bodyOkU_ns f inp _ hU' Y, bodyOkU_ns f inp _ hU Y]
  · intro hgk
    exact (gk2Items_append inp _ _).2 ⟨((gk2Items_append inp _ _).1 hgk).1, bodyG_gk2 inp _ hU' k2g⟩
  · obtain ⟨p1, p2, p3, p4, p5, p6⟩ := hP
    refine ⟨p1, p2, p3, p4, htic, ?_⟩
    intro hne
    have := p6 hne
    rw [hcur] at this
    exact this

end TomlVerif.Lemmas.Tiling03More.Gen
