import TomlVerif.Lemmas.Tiling03NestV
import TomlVerif.Lemmas.Tiling03PositionsSpine
import TomlVerif.Lemmas.Verbatim03Ord
import TomlVerif.Lemmas.Bytes
/-! C03, documents with dotted keys inside inline tables (`nestRunV`) — the tree a checked run builds
    is in position order (`preorder_of_runV`): the shape of the parse state (`RootPhU` before the first
    header, `HdrPhU` after one) and its positions (`PInv`) go through `finalize_table`, the two kinds
    of lines and recorded trivia (`SInv`).  What such a document prints (`nest_doc_textV`) is not proved
    here: it is the result `ord_doc_tiling` for the wider class `ordRunV` read through the class
    inclusion, and the results for `nestRun` are read through `nestRun dot ⊆ nestRunV`. -/
namespace TomlVerif.Lemmas.Tiling03More
open TomlVerif TomlVerif.Spec TomlVerif.Model TomlVerif.Model.Strings TomlVerif.Model.Value
open TomlVerif.Model.Cst TomlVerif.Model.Encode TomlVerif.Lemmas.Suffix03 TomlVerif.Lemmas.Cst03
open TomlVerif.Lemmas.LastByte03 TomlVerif.Lemmas.Tiling03 TomlVerif.Lemmas.Tiling03Hdr
open TomlVerif.Lemmas.Tiling03Nest

/-- after a header: the root has the spine of the header path, the current table is the
    section being read -/
def HdrPhU (inp : Bytes) (st : CState) : Prop :=
  ∃ pp key items q lead trail sp, st.currentPath = pp ++ [key] ∧
    st.current = .mk items false false (some q) (Decor.new lead trail) sp ∧ bodyOkU items = true ∧
    SpineP inp st.currentIsArray key st.root pp

/-- the position invariant of a parse state: the root carries no decor; after a header the
    entries of the root are in position order with `entOk`, none beyond `st.position`, which is
    the position of the section being read -/
def PInv (st : CState) : Prop :=
  st.root.decor.pre = none ∧ st.root.decor.suf = none ∧
  (st.currentPath ≠ [] → good 0 (sumTbl st.root true false) = true ∧
    lastOf 0 (sumTbl st.root true false) ≤ st.position ∧ st.current.pos = some st.position)

theorem pinv_congr (st st' : CState) (h1 : st'.root = st.root) (h2 : st'.current.pos = st.current.pos)
    (h3 : st'.currentPath = st.currentPath) (h4 : st'.position = st.position) (h : PInv st) : PInv st' := by
  unfold PInv at h ⊢
  rw [h1, h2, h3, h4]; exact h

theorem pinv_onWs (st : CState) (a b : Nat) (h : PInv st) : PInv (onWs st a b) := by
  obtain ⟨e1, e2, e3, _, e5⟩ := onWs_fields st a b
  exact pinv_congr st _ e1 (by rw [e2]) e3 e5 h

theorem pinv_init : PInv {} := ⟨rfl, rfl, fun h => absurd rfl h⟩

theorem pinv_keyval (n : Nat) (st st' : CState) (s r3 : Bytes) (h : ckeyvalLine n st s = some (st', r3))
    (hP : PInv st) : PInv st' := by
  obtain ⟨ks, r1, v, r2, path, key, c, _, _, _, _, hd, he⟩ := keyval_frame _ _ _ _ _ h
  subst he
  have hs := descend_setItems _ (fun p p' hp => by rw [(kvFn_facts _ _ _ _ _ hp).1]; simp) path _ _ _ hd
  have hpos : c.pos = st.current.pos := by
    rw [hs, ← (kvCur_fields st (kvVal n v r1 r2)).2.2.2.1]
    simp [CTbl.setItems, CTbl.pos]
  exact pinv_congr st _ rfl hpos rfl rfl hP

theorem finalize_pinv (inp : Bytes) (st st1 : CState) (hfin : finalizeTable st = some st1)
    (hsh : RootPhU st ∨ HdrPhU inp st) (hP : PInv st) :
    st1.root.decor.pre = none ∧ st1.root.decor.suf = none ∧ good 0 (sumTbl st1.root true false) = true ∧
    lastOf 0 (sumTbl st1.root true false) ≤ st.position ∧ st1.position = st.position := by
  rcases finalize_cases st st1 hfin with ⟨hp, _, e⟩ | ⟨pp', key', root', hp, hd, e⟩
  · subst e
    rcases hsh with ⟨_, _, items, imp, sp, a3, a4⟩ | ⟨pp, key, _, _, _, _, _, b1, _⟩
    · simp only []
      rw [a3, sumTbl_eq]
      simp only [CTbl.items, bodyOkU_sum items a4, List.append_nil]
      refine ⟨rfl, rfl, ?_, ?_, trivial⟩
      · simp [hdSum, CTbl.dotted, okFlag, good]
      · simp [hdSum, CTbl.dotted, CTbl.pos, lastOf]
    · rw [hp] at b1; exact absurd b1.symm (by simp)
  · subst e
    rcases hsh with ⟨_, a2, _⟩ | ⟨pp, key, items, q, lead, trail, sp, b1, b2, b3, b4⟩
    · rw [a2] at hp; exact absurd hp.symm (by simp)
    · rw [b1] at hp
      obtain ⟨e1, e2⟩ := List.append_singleton_inj.mp hp
      subst e1; subst e2
      obtain ⟨p1, p2, p3⟩ := hP
      have hne : st.currentPath ≠ [] := by rw [b1]; simp
      obtain ⟨g1, g2, g3⟩ := p3 hne
      have hq : q = st.position := by
        rw [b2] at g3
        simpa [CTbl.pos] using g3
      have hcd : st.current.dotted = false := by rw [b2]; rfl
      obtain ⟨i1, i2⟩ := fin_sum inp st.currentIsArray key st.current hcd pp st.root root' b4 hd true false
      have hcur : sumTbl st.current false st.currentIsArray = [(some q, true)] := by
        rw [b2, sumTbl_eq]
        simp only [CTbl.items, bodyOkU_sum items b3, List.append_nil]
        simp [hdSum, CTbl.dotted, CTbl.pos, okFlag, CTbl.decor, Decor.new]
      simp only []
      rw [i2, i1, hcur, good_append, lastOf_append]
      refine ⟨p1, p2, ?_, ?_, trivial⟩
      · rw [g1]
        simp only [good, Bool.true_and, Option.getD_some, Bool.and_true, decide_eq_true_eq]
        omega
      · simp only [lastOf, Option.getD_some]
        omega

/-- a header line that passes its check: what `header_cases` says of the line, and the path check
    on the root after `finalize_table` -/
theorem hdr_line_frame (inp : Bytes) (st st' : CState) (s r3 : Bytes)
    (h : ctableLine inp.length st s = some (st', r3)) (hok : hdrLineOk inp st s = true) :
    ∃ (a : Bool) (r2 : Bytes) (ks pp : List CKey) (key : CKey) (st1 : CState) (root' : CTbl),
      finalizeTable st = some st1 ∧ ks = pp ++ [key] ∧ pathOk inp a key st1.root pp = true ∧
      descend st1.root pp false (if a then arrFn key else eraseFn key) = some root' ∧
      st' = ⟨root', none, st1.position + 1,
        .mk (if a then st1.current else (findTable key.key st1.root pp).getD st1.current).items
          false false (some (st1.position + 1))
          (Decor.new (takeTrailing st1.trailing) (rawBetween inp.length r2 (trailEnd r2)))
          (some (pos inp.length s, pos inp.length r2)), a, ks⟩ := by
  obtain ⟨a, r, ks, r2, st1, pp, key, root', rfl, hk, _, hfin, hsl, _, hroot, hst'⟩ := CstState.header_cases h
  exact ⟨a, r2, ks, pp, key, st1, root', hfin, vsplitLast_some _ _ _ hsl,
    hdrLineOkWith_use (p := pathOk inp) st st1 a r _ ks pp key hok hfin hk hsl, hroot, hst'⟩

theorem pinv_header (inp : Bytes) (st st' : CState) (s r3 : Bytes)
    (h : ctableLine inp.length st s = some (st', r3)) (hok : hdrLineOk inp st s = true)
    (hsh : RootPhU st ∨ HdrPhU inp st) (hP : PInv st) : PInv st' := by
  obtain ⟨a, r2, ks, pp, key, st1, root', hfin, _, hpo, hroot, hst'⟩ := hdr_line_frame inp st st' s r3 h hok
  obtain ⟨f1, f2, f3, f4, f5⟩ := finalize_pinv inp st st1 hfin hsh hP
  obtain ⟨⟨n, i1⟩, i2⟩ := start_sum inp a key pp st1.root root' hpo hroot true false
  subst hst'
  refine ⟨by simp only []; rw [i2]; exact f1, by simp only []; rw [i2]; exact f2, fun _ => ?_⟩
  simp only []
  rw [i1, good_append, lastOf_append, f3, good_nones, lastOf_nones]
  refine ⟨rfl, ?_, rfl⟩
  omega

def SInv (inp : Bytes) (st : CState) : Prop := (RootPhU st ∨ HdrPhU inp st) ∧ PInv st

theorem sinv_onWs (inp : Bytes) (st : CState) (a b : Nat) (h : SInv inp st) : SInv inp (onWs st a b) := by
  obtain ⟨e1, e2, e3, e4, _⟩ := onWs_fields st a b
  refine ⟨?_, pinv_onWs st a b h.2⟩
  unfold RootPhU HdrPhU; rw [e1, e2, e3, e4]; exact h.1

theorem sinv_header (inp : Bytes) (st st' : CState) (s r3 : Bytes)
    (h : ctableLine inp.length st s = some (st', r3)) (hok : hdrLineOk inp st s = true) (hI : SInv inp st) :
    SInv inp st' := by
  refine ⟨?_, pinv_header inp st st' s r3 h hok hI.1 hI.2⟩
  obtain ⟨a, r2, ks, pp, key, st1, root', hfin, hks, hpo, hroot, hst'⟩ := hdr_line_frame inp st st' s r3 h hok
  obtain ⟨i1, _, _, _, i6⟩ := start_spine inp a key pp st1.root root' hpo hroot
  have f5 : st1.current = CTbl.empty := by
    rcases finalize_cases st st1 hfin with ⟨_, _, e⟩ | ⟨_, _, _, _, _, e⟩ <;> rw [e]
  -- the section starts empty: nothing is taken over from a table the path names
  have hnil : (if a then st1.current else (findTable key.key st1.root pp).getD st1.current).items = [] := by
    rw [f5]
    cases a with
    | true => rfl
    | false => rw [i6 rfl]; rfl
  rw [hnil] at hst'
  subst hst'
  exact Or.inr ⟨pp, key, [], _, _, _, _, hks, rfl, rfl, i1⟩

theorem nest_currentU {inp : Bytes} {st : CState} (h : RootPhU st ∨ HdrPhU inp st) :
    ∃ items imp p dec sp, st.current = .mk items imp false p dec sp ∧ bodyOkU items = true ∧
      (st.currentPath ≠ [] → imp = false) := by
  rcases h with ⟨_, a2, items, imp, sp, h1, h2⟩ | ⟨pp, key, items, q, lead, trail, sp, _, h1, h2, _⟩
  · exact ⟨items, imp, none, {}, sp, h1, h2, fun hne => absurd a2 hne⟩
  · exact ⟨items, false, some q, _, sp, h1, h2, fun _ => rfl⟩

theorem shape_setCurrent_nU (inp : Bytes) (st : CState) (items items' : Items) (imp : Bool) (p : Option Nat)
    (dec : Decor) (sp sp' : Option Span) (h : RootPhU st ∨ HdrPhU inp st) (hc : st.current = .mk items imp false p dec sp)
    (hs : bodyOkU items' = true) :
    RootPhU { st with current := .mk items' imp false p dec sp', trailing := none } ∨
    HdrPhU inp { st with current := .mk items' imp false p dec sp', trailing := none } := by
  rcases h with ⟨a1, a2, itemsA, impA, spA, a3, a4⟩ | ⟨pp, key, itemsB, q, lead, trail, spB, b1, b2, b3, b4⟩
  · left
    rw [hc] at a3
    injection a3 with e1 e2 e3 e4 e5 e6
    subst e2; subst e4; subst e5
    exact ⟨a1, a2, items', imp, sp', rfl, hs⟩
  · right
    rw [hc] at b2
    injection b2 with e1 e2 e3 e4 e5 e6
    subst e2; subst e4; subst e5
    exact ⟨pp, key, items', q, lead, trail, sp', b1, rfl, hs, b4⟩

theorem sinv_keyval (inp : Bytes) (st st' : CState) (s r3 : Bytes)
    (h : ckeyvalLine inp.length st s = some (st', r3)) (hok : kvLineOkV inp st s = true) (hI : SInv inp st) :
    SInv inp st' := by
  refine ⟨?_, pinv_keyval inp.length st st' s r3 h hI.2⟩
  obtain ⟨ks, r1, v, r2, path, key, c, hk, hv, hlt, hsl, hd, he⟩ := keyval_frame _ _ _ _ _ h
  subst he
  obtain ⟨_, hdo⟩ := kvLineOkV_use inp st s r1 r2 ks path key v hok hk hv hsl
  obtain ⟨items, imp, p, dec, sp, hcur, hbody, _⟩ := nest_currentU hI.1
  have hcm := kvCur_mk st (kvVal inp.length v r1 r2) items imp false p dec sp hcur
  have hci : (kvCur st (kvVal inp.length v r1 r2)).items = items := by
    rw [(kvCur_fields st (kvVal inp.length v r1 r2)).1, hcur]; rfl
  have hund0 := cvalue_undotted hv
  have hund : undotted (kvVal inp.length v r1 r2) = true := by
    unfold kvVal; rw [undotted_setDecor]; exact hund0.1
  have hdo' : dottedOk inp (kvCur st (kvVal inp.length v r1 r2)) path = true := by
    rw [dottedOk_items inp st.current _ (by rw [hci, hcur]; rfl)]; exact hdo
  obtain ⟨k1, k2, _⟩ := kv_descendU id inp (kvFn path (kvKey st key) (kvVal inp.length v r1 r2)) (kvKey st key)
    (kvVal inp.length v r1 r2) hund (fun p p' hp => (kvFn_facts _ _ _ _ _ hp).1) path _ c [] [] hdo'
    (by rw [hci]; exact hbody) .nil hd
  have hc' : c = .mk c.items imp false p dec (kvCur st (kvVal inp.length v r1 r2)).span := by
    conv => lhs; rw [k1, hcm]
    simp [CTbl.setItems, CTbl.dotted, CTbl.implicit, CTbl.pos, CTbl.decor, CTbl.span]
  rw [hc']
  exact shape_setCurrent_nU inp st items c.items imp p dec sp _ hI.1 hcur k2

theorem preorder_of_runV (s : Bytes) (d : CDoc) (h : parseCst s = some d) (hrun : nestRunV s = true) :
    preorderDoc d = true := by
  obtain ⟨stf, st', hcl, hfin, rfl⟩ := parseCst_ok h
  unfold nestRunV at hrun
  simp only [] at hrun
  rw [runOkV_with] at hrun
  have hI : SInv s stf := by
    refine clines_runOkWith (I := fun st _ => SInv s st) (E := SInv s) (fun _ h => h)
      (fun st _ _ h => sinv_onWs s _ _ _ (sinv_onWs s st _ _ h)) (fun st _ h => sinv_onWs s st _ _ h)
      (fun st _ _ _ _ h => sinv_onWs s st _ _ h) (fun st _ _ _ h => sinv_onWs s st _ _ h)
      (sinv_header s) (sinv_keyval s) _ _ _ stf hcl hrun ?_
    exact sinv_onWs s _ _ _ ⟨Or.inl ⟨rfl, rfl, [], false, some (0, 0), rfl, rfl⟩, pinv_init⟩
  obtain ⟨q1, q2, q3, _, _⟩ := finalize_pinv s stf st' hfin hI.1 hI.2
  exact preorder_of_good _ q1 q2 q3

/-- what a document of the class prints: the class is inside `ordRunV` (headers in any order),
    whose result `ord_doc_tiling` is -/
theorem nest_doc_textV (f : Bytes → Bytes) (s : Bytes) (d : CDoc) (hf : FixOn f s)
    (h : parseCst s = some d) (hrun : nestRunV s = true) :
    ∃ out eol, printDocG f s d = out ++ eol ∧ EolRel out (Doc.stripBom s) ∧
      (eol = [] ∨ (eol = [0x0A] ∧ (Doc.stripBom s).getLast? ≠ some 0x0A)) :=
  ord_doc_tiling f s d hf h (nestRunV_O s hrun)

theorem kvLineOk_V (inp : Bytes) (dot : Bool) (st : CState) (s : Bytes)
    (h : kvLineOk inp dot st s = true) : kvLineOkV inp st s = true := by
  unfold kvLineOk at h
  unfold kvLineOkV
  split
  · rename_i ks r1 hk
    rw [hk] at h
    simp only [] at h ⊢
    split
    · rename_i v r2 hv
      rw [hv] at h
      simp only [Bool.and_eq_true] at h ⊢
      refine ⟨(okValue_of_simple inp _).1 _ _ _ _ hv h.1, ?_⟩
      have h2 := h.2
      split
      · rename_i path key hsl
        rw [hsl] at h2
        exact (Bool.and_eq_true _ _ ▸ h2).2
      · rfl
    · rfl
  · rfl

/-- the classes of `T03_doc_tiling_run` (dotted keys admitted or not) are inside `nestRunV`: the
    same run, a weaker check of the values -/
theorem nestRun_V (dot : Bool) (s : Bytes) (h : nestRun dot s = true) : nestRunV s = true := by
  unfold nestRun at h
  unfold nestRunV
  simp only [] at h ⊢
  rw [runOk_with] at h
  rw [runOkV_with]
  exact runOkWith_mono _ (fun _ _ h => h) (kvLineOk_V s dot) _ _ _ h

def exLine : Bytes := strBytes "k . l = { a.b = 1, a.c = [ {p.q = 2} ] } # c\n"

/-- `kvLineOkV_use`, `keyval_text_nV`, `sinv_keyval`, `kvLineOk_V`: the line is accepted on
    the initial state, passes `kvLineOkV` and fails `kvLineOk` (its value is not `simpleVal`);
    `ckeyvalLine_rest`: the rest is empty -/
example : ((ckeyvalLine exLine.length {} exLine).map fun p => p.2.isEmpty) = some true ∧
    kvLineOkV exLine {} exLine = true ∧ kvLineOk exLine true {} exLine = false ∧
    nestRunV exLine = true := by
  rw [exLine, strBytes_eq rfl]
  decide +kernel

/-- `nestRun_V`: a document in `nestRun true` -/
example : nestRun true (strBytes "a.b = {x = 1}\na.c = 2\n[t]\n") = true ∧
    nestRunV (strBytes "a.b = {x = 1}\na.c = 2\n[t]\n") = true := by
  simp only [strBytes_eq rfl]
  decide +kernel

end TomlVerif.Lemmas.Tiling03More

namespace TomlVerif.Lemmas.Tiling03Nest
open TomlVerif TomlVerif.Spec TomlVerif.Model TomlVerif.Model.Strings TomlVerif.Model.Value
open TomlVerif.Model.Cst TomlVerif.Model.Encode TomlVerif.Lemmas.Suffix03 TomlVerif.Lemmas.Cst03
open TomlVerif.Lemmas.LastByte03 TomlVerif.Lemmas.Tiling03 TomlVerif.Lemmas.Tiling03Hdr

/-- the text written by the printer over a decor transformation fixing the pieces of the source is
    the source without its BOM, with the CR of the CR LF ends of key/value and header lines dropped, plus a final LF
    when the last such line ended at the end of input -/
theorem nest_doc_tiling (f : Bytes → Bytes) (s : Bytes) (d : CDoc) (hf : FixOn f s) (dot : Bool)
    (h : parseCst s = some d) (hrun : nestRun dot s = true) :
    ∃ out eol, printDocG f s d = out ++ eol ∧ EolRel out (Doc.stripBom s) ∧
      (eol = [] ∨ (eol = [0x0A] ∧ (Doc.stripBom s).getLast? ≠ some 0x0A)) :=
  Tiling03More.nest_doc_textV f s d hf h (Tiling03More.nestRun_V dot s hrun)

end TomlVerif.Lemmas.Tiling03Nest
