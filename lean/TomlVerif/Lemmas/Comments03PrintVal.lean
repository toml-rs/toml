import TomlVerif.Lemmas.CstInduct
import TomlVerif.Lemmas.Comments03Scan
import TomlVerif.Lemmas.Tiling03Line
/-! C03, "every comment is kept" — the printer side for values: every decor piece of a value
    (`valPieces`) is written by `encode_value`, provided the inline tables created for dotted
    keys inside `{…}` are bare (`VD`: no decor, no preamble, no leaf decor on their key — the
    printer flattens them and writes none of these). -/
namespace TomlVerif.Lemmas.Tiling03More
open TomlVerif TomlVerif.Spec TomlVerif.Model TomlVerif.Model.Strings TomlVerif.Model.Value
open TomlVerif.Model.Cst TomlVerif.Model.Encode TomlVerif.Lemmas.Cst03
open TomlVerif.Lemmas.Tiling03 TomlVerif.Lemmas.Tiling03Hdr TomlVerif.Lemmas.Tiling03Nest

def DotBare (k : CKey) : CVal → Prop
  | .inl _ pre _ dot dec _ => dot = true → k.leaf = {} ∧ dec = {} ∧ pre = .empty
  | _ => True

mutual
def VD : CVal → Prop
  | .scalar _ _ _ => True
  | .arr items _ _ _ _ => VsD items
  | .inl items _ _ _ _ _ => KvsD items
def VsD : List CVal → Prop
  | [] => True
  | v :: r => VD v ∧ VsD r
def KvsD : List (CKey × CVal) → Prop
  | [] => True
  | (k, v) :: r => (DotBare k v ∧ VD v) ∧ KvsD r
end

theorem decorPieces_cases (f : Bytes → Bytes) (inp : Bytes) (d : Decor) (p : Bytes) (h : p ∈ decorPieces inp d) :
    (∀ dp, prefixEncode f inp d dp = f p) ∨ (∀ ds, suffixEncode f inp d ds = f p) := by
  unfold decorPieces at h
  rcases List.mem_append.1 h with h | h
  · left
    intro dp
    cases hp : d.pre with
    | none => rw [hp] at h; cases h
    | some r =>
      rw [hp] at h
      simp only [List.mem_singleton] at h
      subst h
      simp [prefixEncode, hp, encRaw]
  · right
    intro ds
    cases hp : d.suf with
    | none => rw [hp] at h; cases h
    | some r =>
      rw [hp] at h
      simp only [List.mem_singleton] at h
      subst h
      simp [suffixEncode, hp, encRaw]

theorem decorPieces_default (inp : Bytes) : decorPieces inp {} = [] := rfl

theorem keyPath_leaf_pre (f : Bytes → Bytes) (inp : Bytes) (path : List CKey) (L : CKey) (dp ds : Bytes) :
    prefixEncode f inp L.leaf dp <:+: encodeKeyPath f inp (path ++ [L]) dp ds := by
  rw [encodeKeyPath_split]
  exact List.infix_append_of_infix_left (List.infix_refl _)

theorem keyPath_leaf_suf (f : Bytes → Bytes) (inp : Bytes) (path : List CKey) (L : CKey) (dp ds : Bytes) :
    suffixEncode f inp L.leaf ds <:+: encodeKeyPath f inp (path ++ [L]) dp ds := by
  rw [encodeKeyPath_split]
  refine List.infix_append_of_infix_right ?_
  cases path with
  | nil => exact List.infix_append_of_infix_right (List.infix_refl _)
  | cons k r =>
    simp only [kpTail]
    exact List.infix_append_of_infix_right (List.infix_append_of_infix_right (List.infix_refl _))

theorem keyPath_leaf (f : Bytes → Bytes) (inp : Bytes) (path : List CKey) (L : CKey) (dp ds p : Bytes)
    (h : p ∈ decorPieces inp L.leaf) : f p <:+: encodeKeyPath f inp (path ++ [L]) dp ds := by
  rcases decorPieces_cases f inp L.leaf p h with h | h
  · rw [← h dp]; exact keyPath_leaf_pre f inp path L dp ds
  · rw [← h ds]; exact keyPath_leaf_suf f inp path L dp ds

theorem entry_printed (f : Bytes → Bytes) (inp : Bytes) (k : CKey) (v : CVal) (parent : List CKey)
    (a kdp kds vdp vds : Bytes)
    (hv : ∀ p, p ∈ valPieces inp v → f p <:+: encodeValue f inp v vdp vds) :
    ∀ p, p ∈ decorPieces inp k.leaf ++ valPieces inp v →
      f p <:+: a ++ encodeKeyPath f inp (parent ++ [k]) kdp kds ++ [0x3D] ++ encodeValue f inp v vdp vds := by
  intro p hp
  rcases List.mem_append.1 hp with hp | hp
  · exact List.infix_append_of_infix_left (List.infix_append_of_infix_left (List.infix_append_of_infix_right (keyPath_leaf f inp parent k kdp kds p hp)))
  · exact List.infix_append_of_infix_right (hv p hp)

/-- an entry that is a dotted inline table (bare by `DotBare`) hands its entries to the entry loop -/
theorem pieces_printed (f : Bytes → Bytes) (hf0 : f [] = []) (inp : Bytes) :
    (∀ (v : CVal), VD v → ∀ (dp ds p : Bytes), p ∈ valPieces inp v → f p <:+: encodeValue f inp v dp ds) ∧
    (∀ (items : List CVal), VsD items →
      ∀ (first : Bool) (p : Bytes), p ∈ elemsPieces inp items → f p <:+: encodeElems f inp items first) ∧
    (∀ (items : List (CKey × CVal)), KvsD items →
      ∀ (parent : List CKey) (i len : Nat) (p : Bytes), p ∈ kvsPieces inp items →
        f p <:+: (encodeInl f inp items parent i len).1) := by
  refine Cst03.cval_induct ?_ ?_ ?_ ?_ ?_ ?_ ?_
  · intro a repr dec _ dp ds p hp
    rw [valPieces] at hp
    rw [encodeValue]
    rcases decorPieces_cases f inp dec p hp with h | h
    · rw [← h dp]; exact List.infix_append_of_infix_left (List.infix_append_of_infix_left (List.infix_refl _))
    · rw [← h ds]; exact List.infix_append_of_infix_right (List.infix_refl _)
  · intro items tr comma dec sp hitems hv dp ds p hp
    rw [valPieces] at hp
    rw [encodeValue]
    rw [VD] at hv
    rcases List.mem_append.1 hp with hp | hp
    · rcases List.mem_append.1 hp with hp | hp
      · rcases decorPieces_cases f inp dec p hp with h | h
        · rw [← h dp]
          exact List.infix_append_of_infix_left (List.infix_append_of_infix_left (List.infix_append_of_infix_left (List.infix_append_of_infix_left (List.infix_append_of_infix_left (List.infix_append_of_infix_left (List.infix_refl _))))))
        · rw [← h ds]; exact List.infix_append_of_infix_right (List.infix_refl _)
      · exact List.infix_append_of_infix_left (List.infix_append_of_infix_left (List.infix_append_of_infix_left (List.infix_append_of_infix_left (List.infix_append_of_infix_right (hitems hv true p hp)))))
    · simp only [List.mem_singleton] at hp
      subst hp
      exact List.infix_append_of_infix_left (List.infix_append_of_infix_left (List.infix_append_of_infix_right (List.infix_refl _)))
  · intro items pre imp dot dec sp hitems hv dp ds p hp
    rw [valPieces] at hp
    rw [encodeValue]
    rw [VD] at hv
    rcases List.mem_append.1 hp with hp | hp
    · rcases List.mem_append.1 hp with hp | hp
      · rcases decorPieces_cases f inp dec p hp with h | h
        · rw [← h dp]
          exact List.infix_append_of_infix_left (List.infix_append_of_infix_left (List.infix_append_of_infix_left (List.infix_append_of_infix_left (List.infix_append_of_infix_left (List.infix_refl _)))))
        · rw [← h ds]; exact List.infix_append_of_infix_right (List.infix_refl _)
      · simp only [List.mem_singleton] at hp
        subst hp
        exact List.infix_append_of_infix_left (List.infix_append_of_infix_left (List.infix_append_of_infix_left (List.infix_append_of_infix_right (List.infix_refl _))))
    · exact List.infix_append_of_infix_left (List.infix_append_of_infix_left (List.infix_append_of_infix_right (hitems hv [] 0 (countInl items) p hp)))
  · intro _ _ p hp
    rw [elemsPieces] at hp; cases hp
  · intro v r hv hr hvs first p hp
    rw [elemsPieces] at hp
    rw [encodeElems]
    rw [VsD] at hvs
    rcases List.mem_append.1 hp with hp | hp
    · refine List.infix_append_of_infix_left ?_
      cases first with
      | true => simp only [if_true]; exact hv hvs.1 [] [] p hp
      | false =>
        simp only [Bool.false_eq_true, if_false]
        exact List.infix_append_of_infix_right (hv hvs.1 [0x20] [] p hp)
    · exact List.infix_append_of_infix_right (hr hvs.2 false p hp)
  · intro _ _ _ _ p hp
    rw [kvsPieces] at hp; cases hp
  · intro k v r hv hsub hr hkv parent i len p hp
    rw [kvsPieces] at hp
    rw [KvsD] at hkv
    obtain ⟨⟨hb, hvd⟩, hrd⟩ := hkv
    by_cases hu : undotted v = true
    · rw [encodeInl_cons_undotted f inp k v hu]
      rcases List.mem_append.1 hp with hp | hp
      · refine List.infix_append_of_infix_left ?_
        exact entry_printed f inp k v parent _ _ _ _ _ (hv hvd _ _) p hp
      · exact List.infix_append_of_infix_right (hr hrd parent _ len p hp)
    · cases v with
      | scalar a b c => exact absurd rfl hu
      | arr a b c d e => exact absurd rfl hu
      | inl sub pre imp dot dec sp =>
        have hdot : dot = true := by cases dot <;> simp [undotted] at hu ⊢
        subst hdot
        rw [encodeInl_cons_dotted]
        rw [valPieces] at hp
        rw [VD] at hvd
        obtain ⟨e1, e2, e3⟩ := hb rfl
        rw [e1, e2, e3] at hp
        simp only [decorPieces_default, List.nil_append, rawText, List.cons_append, List.mem_cons] at hp
        rcases hp with hp | hp
        · subst hp; rw [hf0]; exact List.nil_infix
        · rcases List.mem_append.1 hp with hp | hp
          · exact List.infix_append_of_infix_left (hsub sub pre imp true dec sp rfl hvd (parent ++ [k]) i len p hp)
          · exact List.infix_append_of_infix_right (hr hrd parent _ len p hp)

theorem valPieces_printed (f : Bytes → Bytes) (hf0 : f [] = []) (inp : Bytes) : ∀ (v : CVal), VD v →
    ∀ (dp ds p : Bytes), p ∈ valPieces inp v → f p <:+: encodeValue f inp v dp ds :=
  (pieces_printed f hf0 inp).1
theorem elemsPieces_printed (f : Bytes → Bytes) (hf0 : f [] = []) (inp : Bytes) : ∀ (items : List CVal), VsD items →
    ∀ (first : Bool) (p : Bytes), p ∈ elemsPieces inp items → f p <:+: encodeElems f inp items first :=
  (pieces_printed f hf0 inp).2.1
theorem kvsPieces_printed (f : Bytes → Bytes) (hf0 : f [] = []) (inp : Bytes) : ∀ (items : List (CKey × CVal)), KvsD items →
    ∀ (parent : List CKey) (i len : Nat) (p : Bytes), p ∈ kvsPieces inp items →
      f p <:+: (encodeInl f inp items parent i len).1 :=
  (pieces_printed f hf0 inp).2.2

end TomlVerif.Lemmas.Tiling03More
