import TomlVerif.Lemmas.Render03Keys
import TomlVerif.Props.C01Sound
/-! Value-level "same data" (C03): every parsed value is RENDERABLE — its printed text is the
    rendering of a well-formed grammar tree denoting the erased value (`cvalue_renderable`): scalars
    by the soundness of the semantic parser; an inline table is reassembled from its flattened,
    regrouped entries by `tableFromPairs_rebuild`. -/
namespace TomlVerif.Lemmas.Tiling03More.VS
open TomlVerif TomlVerif.Spec TomlVerif.Model TomlVerif.Model.Strings TomlVerif.Model.Value
open TomlVerif.Model.Cst TomlVerif.Model.Encode TomlVerif.Lemmas.Suffix03 TomlVerif.Lemmas.Cst03
open TomlVerif.Lemmas.Tiling03 TomlVerif.Spec.AstValue TomlVerif.Spec.AstValueQ TomlVerif.Lemmas.Spans14
open TomlVerif.Lemmas.Refine08c TomlVerif.Lemmas.Refine08bSem

def Piece.noCr : Piece → Piece
  | .ws bs => .ws bs
  | .nl _ => .nl false
  | .comment body _ => .comment body false

theorem piece_strip (p : Piece) (hp : p.WF) : (Piece.noCr p).WF ∧ (Piece.noCr p).render = stripCr p.render := by
  cases p with
  | ws bs => exact ⟨hp, (allWs_strip bs hp).symm⟩
  | nl c => exact ⟨trivial, by cases c <;> rfl⟩
  | comment body c =>
    refine ⟨hp, ?_⟩
    have hb : stripCr body = body := stripCr_of_noCr body fun b hb => (Lemmas.Value01.nonEol_not_nl b (hp b hb)).2
    have e : stripCr (0x23 :: (body ++ nlBytes c)) = 0x23 :: (stripCr body ++ stripCr (nlBytes c)) := by
      rw [← stripCr_append]; rfl
    simp only [Piece.noCr, Piece.render]
    rw [e, hb]
    cases c <;> rfl

theorem wcn_strip : ∀ (w : Wcn), WcnWF w → ∃ w' : Wcn, WcnWF w' ∧ renderWcn w' = stripCr (renderWcn w)
  | [], _ => ⟨[], Sound01.wcnWF_nil, rfl⟩
  | p :: w, h => by
    obtain ⟨w', h1, h2⟩ := wcn_strip w (fun q hq => h q (List.mem_cons_of_mem _ hq))
    obtain ⟨p1, p2⟩ := piece_strip p (h p (by simp))
    exact ⟨Piece.noCr p :: w', Sound01.wcnWF_cons _ _ p1 h1, by simp only [renderWcn, stripCr_append, p2, h2]⟩

theorem wcn_text (inp s r : Bytes) (fuel : Nat) (hs : s <:+ inp) (h : wsCommentNewline fuel s = some r) :
    ∃ w' : Wcn, WcnWF w' ∧ renderWcn w' = encRaw stripCr inp (rawBetween inp.length s r) := by
  obtain ⟨w, hw, e, _⟩ := Sound01.wcn_sound fuel s r h
  obtain ⟨w', h1, h2⟩ := wcn_strip w hw
  refine ⟨w', h1, ?_⟩
  simp only [encRaw]
  rw [rawText_between inp s (renderWcn w) r hs e, h2]

theorem LeafG_setDecor (v : CVal) (d : Decor) : LeafG (v.setDecor d) ↔ LeafG v := by
  unfold LeafG
  rw [eraseVal_setDecor]
  cases v <;> simp [CVal.setDecor, undotted, impInl]

theorem SLeaf_notInl (v : Val) (h : notInlVal v = true) : SLeaf v := by
  intro sub imp dot e
  subst e
  simp [notInlVal] at h

theorem cvalue_leafG {n fuel d : Nat} {s r : Bytes} {v : CVal} (h : cvalue n fuel d s = .ok v r) : LeafG v := by
  cases fuel with
  | zero => rw [cvalue_zero] at h; cases h
  | succ fuel =>
    rcases cvalue_ok h with ⟨_, _, _, _, _, _, _, rfl⟩ | ⟨_, _, _, _, _, _, _, _, _, rfl⟩ |
      ⟨_, _, v0, _, _, _, hv, rfl⟩
    · exact ⟨rfl, rfl, fun _ _ _ e => by simp [eraseVal] at e⟩
    · refine ⟨rfl, rfl, fun _ _ _ e => ?_⟩
      simp only [eraseVal] at e
      injection e with _ e2 e3
      exact ⟨e2.symm, e3.symm⟩
    · exact ⟨rfl, rfl, SLeaf_notInl v0 (scalar_notInl d _ _ _ hv)⟩

def R1 (inp : Bytes) (fuel : Nat) : Prop :=
  ∀ d s v r, s <:+ inp → cvalue inp.length fuel d s = .ok v r → RV inp d v

def R2 (inp : Bytes) (fuel : Nat) : Prop :=
  ∀ d s vs comma tr r, s <:+ inp → carrayValues inp.length fuel d s = .ok (vs, comma, tr) r →
    ∃ (qitems : List (Wcn × QVal × Wcn)) (tail : Wcn), WFItemsQ qitems ∧ WcnWF tail ∧
      renderItemsQ qitems = encodeElems stripCr inp vs true ∧ renderWcn tail = encRaw stripCr inp tr ∧
      semItemsQ qitems = eraseVals vs ∧ (depthItemsQ qitems = 0 ∨ d + depthItemsQ qitems < LIMIT)

def R3 (inp : Bytes) (fuel : Nat) : Prop :=
  ∀ d s acc vs r, s <:+ inp → carrayElems inp.length fuel d s acc = .ok vs r →
    ∃ (new : List CVal) (qitems : List (Wcn × QVal × Wcn)), vs = acc ++ new ∧
      (∀ v ∈ new, ∃ a b, v.decor = Decor.new a b) ∧ WFItemsQ qitems ∧
      renderItemsQ qitems = encodeElems stripCr inp new true ∧
      semItemsQ qitems = eraseVals new ∧ (depthItemsQ qitems = 0 ∨ d + depthItemsQ qitems < LIMIT)

/-- `clean` (no scalar holds an inline table) is what lets the erasure commute with
    `table_from_pairs` (`ctableFromPairs_erase`). -/
structure TripleOK (inp : Bytes) (d : Nat) (t : Triple) : Prop where
  path : ∀ k ∈ t.1, GKey inp k
  key : GKey inp t.2.1
  val : GVal inp d t.1.length t.2.2
  clean : VOK cleanPr t.2.2

/-- `new = [] ∨ dropWs r = r`: after a pair the blanks are consumed,
    so the preamble the parser records is empty unless there is no pair — the printer writes the
    preamble BEFORE the pairs, the grammar has the blanks after them. -/
def R4 (inp : Bytes) (fuel : Nat) : Prop :=
  ∀ d s acc kvs r, s <:+ inp → cinlineKeyvals inp.length fuel d s acc = .ok kvs r →
    ∃ new : List Triple, kvs = acc ++ new ∧ (new = [] ∨ dropWs r = r) ∧ ∀ t ∈ new, TripleOK inp d t

theorem rstep4 (inp : Bytes) (fuel : Nat) (ih1 : R1 inp fuel) (ih4 : R4 inp fuel) : R4 inp (fuel + 1) := by
  intro d s acc kvs r hinp h
  rcases cinlineKeyvals_ok h with ⟨rfl, _⟩ |
    ⟨ks, r1, v, r2, path, key, v', new, hk, hlim, hv, hsl, hv', e, hnew⟩
  · exact ⟨[], by simp, .inl rfl, fun t ht => nomatch ht⟩
  have hgk := ckeyPath_GK inp s _ ks hinp hk
  have hr1 : r1 <:+ inp := ((List.suffix_cons _ _).trans (Tiling03More.ckeyPath_adv hk).1).trans hinp
  have hr1' : dropWs r1 <:+ inp := (Suffix03.dropWs_suffix r1).trans hr1
  have hrv := ih1 _ _ _ _ hr1' hv
  have hleaf := cvalue_leafG hv
  have hr2 : r2 <:+ inp := (cvalue_adv hv).1.trans hr1'
  have eks := vsplitLast_some _ _ _ hsl
  have hlen : ks.length - 1 = path.length := by rw [eks]; simp
  have htriple : TripleOK inp d (path, key, v') := by
    subst hv'
    refine ⟨fun k hk => hgk k (by rw [eks]; exact List.mem_append_left _ hk), hgk key (by rw [eks]; simp),
      ⟨?_, ?_, ?_, (LeafG_setDecor _ _).2 hleaf⟩, VOK_setDecor (cvalue_clean _ _ _ _ _ _ hv) (DecOK_clean _)⟩
    · rw [setDecor_decor]
      exact DecWs_new inp _ _ (dropWs_rawText inp r1 hr1) (dropWs_rawText inp r2 hr2)
    · rw [RV_setDecor]; simp only []; rw [← hlen]; exact hrv
    · simp only []; rw [← hlen]; omega
  rcases hnew with ⟨rfl, rfl, _⟩ | ⟨hne, r4, heq, hrec⟩
  · exact ⟨_, e, .inr (dropWs_idem r2), fun t ht => by
      simp only [List.mem_singleton] at ht; subst ht; exact htriple⟩
  · have hr4 : r4 <:+ inp := (List.suffix_cons _ r4).trans (heq ▸ (Suffix03.dropWs_suffix r2).trans hr2)
    obtain ⟨new', e1, e2, e3⟩ := ih4 _ _ _ _ _ hr4 hrec
    have : new' = new := List.append_cancel_left (by rw [← e1, e, List.append_assoc]; rfl)
    subst this
    refine ⟨_, e, .inr (e2.resolve_left hne), fun t ht => ?_⟩
    rcases List.mem_cons.1 ht with ht | ht
    · subst ht; exact htriple
    · exact e3 t ht

theorem rstep3 (inp : Bytes) (fuel : Nat) (ih1 : R1 inp fuel) (ih3 : R3 inp fuel) : R3 inp (fuel + 1) := by
  intro d s acc vs r hinp h
  rcases carrayElems_ok h with ⟨rfl, _⟩ | ⟨s1, v, s2, s3, v', new, hw1, hv, hw2, hv', e, hnew⟩
  · exact ⟨[], [], by simp, (fun v hv => nomatch hv), (by rw [WFItemsQ]; trivial),
      (by simp [renderItemsQ, encodeElems]), (by simp [semItemsQ, eraseVals]), .inl (by simp [depthItemsQ])⟩
  obtain ⟨w1, hs1⟩ := wcn_suffix _ _ _ hw1
  have hs1inp : s1 <:+ inp := (hs1 ▸ List.suffix_append w1 s1).trans hinp
  obtain ⟨q1, hq1, eq1⟩ := wcn_text inp s s1 _ hinp hw1
  obtain ⟨q, qwf, qr, qs, qd⟩ := ih1 _ _ _ _ hs1inp hv
  have hs2inp : s2 <:+ inp := (cvalue_adv hv).1.trans hs1inp
  obtain ⟨w2, hs3⟩ := wcn_suffix _ _ _ hw2
  obtain ⟨q2, hq2, eq2⟩ := wcn_text inp s2 s3 _ hs2inp hw2
  have hd' : ∃ a b, v'.decor = Decor.new a b := ⟨_, _, by rw [hv', setDecor_decor]⟩
  have hev : eraseVal v' = eraseVal v := by rw [hv', eraseVal_setDecor]
  have htext : ∀ dp ds, encodeValue stripCr inp v' dp ds = renderWcn q1 ++ (renderQ q ++ renderWcn q2) := by
    intro dp ds
    rw [encodeValue_core, hv', setDecor_decor, core_setDecor, eq1, eq2, qr]
    simp [prefixEncode, suffixEncode, Decor.new]
  rcases hnew with ⟨rfl, rfl, _⟩ | ⟨hne, s4, rfl, hrec⟩
  · refine ⟨[v'], [(q1, q, q2)], e, ?_, ?_, ?_, ?_, ?_⟩
    · intro x hx; simp at hx; subst hx; exact hd'
    · rw [WFItemsQ, WFItemsQ]; exact ⟨hq1, qwf, hq2, trivial⟩
    · simp [renderItemsQ, renderItemsSepQ, encodeElems, htext]
    · simp [semItemsQ, eraseVals, hev, qs]
    · simp only [depthItemsQ]
      rcases qd with qd | qd
      · left; rw [qd]; simp
      · right; simpa using qd
  · have hs4inp : s4 <:+ inp := (List.suffix_cons _ s4).trans ((hs3 ▸ List.suffix_append w2 _).trans hs2inp)
    obtain ⟨new', qitems', hvs, hdecs, hwf', hr', hsem', hdep'⟩ := ih3 _ _ _ _ _ hs4inp hrec
    have : new' = new := List.append_cancel_left (by rw [← hvs, e, List.append_assoc]; rfl)
    subst this
    obtain ⟨p, l, hpl⟩ : ∃ p l, qitems' = p :: l := by
      cases qitems' with
      | nil =>
        exfalso
        simp only [semItemsQ] at hsem'
        cases new' with
        | nil => exact hne rfl
        | cons a b => simp [eraseVals] at hsem'
      | cons p l => exact ⟨p, l, rfl⟩
    refine ⟨v' :: new', (q1, q, q2) :: qitems', e, ?_, ?_, ?_, ?_, ?_⟩
    · intro x hx
      rcases List.mem_cons.1 hx with hx | hx
      · subst hx; exact hd'
      · exact hdecs x hx
    · exact wfItemsQ_cons.2 ⟨hq1, qwf, hq2, hwf'⟩
    · simp only [renderItemsQ, encodeElems, if_true]
      rw [htext, encodeElems_false stripCr inp new' hdecs hne, ← hr', hpl, Sound01.renderItemsSepQ_cons]
      simp
    · simp [semItemsQ, eraseVals, hev, qs, hsem']
    · simp only [depthItemsQ]
      rcases qd with qd | qd <;> rcases hdep' with hdep' | hdep'
      · left; rw [qd, hdep']; simp
      · right; rw [qd]; simpa using hdep'
      · right; rw [hdep']; simpa using qd
      · right; omega

theorem rstep2 (inp : Bytes) (fuel : Nat) (ih3 : R3 inp fuel) : R2 inp (fuel + 1) := by
  intro d s vs comma tr r hinp h
  rcases carrayValues_ok h with ⟨t, rfl, rfl, rfl, rfl, rfl⟩ | ⟨_, r0, r1, hel, hc, hw, rfl⟩
  · exact ⟨[], [], (by rw [WFItemsQ]; trivial), Sound01.wcnWF_nil, (by simp [renderItemsQ, encodeElems]),
      (by simp [renderWcn, encRaw, rawText, stripCr]), (by simp [semItemsQ, eraseVals]), .inl (by simp [depthItemsQ])⟩
  · obtain ⟨new, qitems, hvs, _, hwf, hr, hsem, hdep⟩ := ih3 _ _ _ _ _ hinp hel
    have hr0 : r0 <:+ inp := (carrayElems_rest hel).trans hinp
    have hr1 : r1 <:+ inp := by
      rcases hc with ⟨_, _, rfl⟩ | ⟨_, rfl⟩
      · exact (List.suffix_cons _ _).trans hr0
      · exact hr0
    simp only [List.nil_append] at hvs
    subst hvs
    obtain ⟨w', hw1, hw2⟩ := wcn_text inp r1 _ _ hr1 hw
    exact ⟨qitems, w', hwf, hw1, hr, hw2, hsem, hdep⟩

theorem preP_nil (l : List STriple) : l.map (preP []) = l := by
  induction l with
  | nil => rfl
  | cons e l ih => obtain ⟨a, b, c⟩ := e; simp [preP, ih]

theorem inline_pairs (inp : Bytes) (d : Nat) (hlim : d + 1 < LIMIT) (kvs : List Triple) (items : VItems)
    (hit : ctableFromPairs kvs [] = some items) (hkvs : ∀ t ∈ kvs, TripleOK inp (d + 1) t) :
    ∃ pairs : List (QDKey × Bytes × QVal × Bytes), WFPairsQ pairs ∧
      renderPairsQ pairs = (encodeInl stripCr inp items [] 0 (countInl items)).1 ∧
      tableFromPairs (flatPairsQ pairs) [] = some (eraseKvs items) ∧ d + 1 + depthPairsQ pairs < LIMIT := by
  have hiok : IokL (GKey inp) (GVal inp (d + 1)) 0 items := by
    refine ctableFromPairs_Iok (GKey inp) (GVal inp (d + 1)) (fun _ _ h => h.leaf.2.1) kvs [] items hit (by rw [IokL]; trivial) ?_
    intro t ht
    obtain ⟨hpath, hkey, hval, _⟩ := hkvs t ht
    exact ⟨hpath, hkey, hval, hval.leaf.1⟩
  have hent : ∀ e ∈ valuesInl items [], EOK inp (d + 1) e := by
    intro e he
    obtain ⟨rel, m, e1, e2, e3, e4⟩ := (Iok_entries (GKey inp) (GVal inp (d + 1))).2 items 0 [] hiok e he
    simp only [List.nil_append] at e1
    exact ⟨m, by rw [e1]; omega, by rw [e1]; exact e3, e4⟩
  obtain ⟨pairs, p1, p2, p3, p4⟩ := entries_pairs inp (d + 1) (by omega) hlim (valuesInl items []) 0 (countInl items) hent
  simp only [bne_self_eq_false, Bool.false_eq_true, if_false] at p2
  have hpairsOK : PairsOK kvs := fun t ht => (hkvs t ht).clean
  have herase := ctableFromPairs_erase kvs [] hpairsOK AllKV.nil
  rw [hit] at herase
  simp only [Option.map_some] at herase
  have hrb : RbL (eraseKvs items) := by
    refine tableFromPairs_Rb (eraseTriples kvs) (eraseKvs []) (eraseKvs items) herase.symm (by simp [eraseKvs, RbL]) ?_
    intro e he
    simp only [eraseTriples, List.mem_map] at he
    obtain ⟨t, ht, rfl⟩ := he
    exact (hkvs t ht).val.leaf.2.2
  have hflat : flatPairsQ pairs = sflat (eraseKvs items) := by
    rw [p3, (values_sflat (GKey inp) (GVal inp (d + 1)) (fun _ _ h => h.leaf)).2 items 0 [] hiok]
    exact preP_nil _
  refine ⟨pairs, p1, ?_, ?_, p4⟩
  · rw [p2, encodeInl_values]
  · rw [hflat]; exact tableFromPairs_rebuild _ hrb

theorem ctableFromPairs_nil_items (items : VItems) (h : ctableFromPairs [] [] = some items) : items = [] := by
  simp only [ctableFromPairs] at h; injection h with h; exact h.symm

theorem rstep1 (inp : Bytes) (fuel : Nat) (ih2 : R2 inp fuel) (ih4 : R4 inp fuel) : R1 inp (fuel + 1) := by
  intro d s v r hinp h
  rcases cvalue_ok h with ⟨r0, vs, comma, tr, rfl, hlim, hav, rfl⟩ |
    ⟨r0, kvs, r1, items, rfl, hlim, hkv, hit, heq, rfl⟩ | ⟨b, r0, v0, rfl, _, _, hv, rfl⟩
  · have hr0 : r0 <:+ inp := (List.suffix_cons _ r0).trans hinp
    obtain ⟨qitems, tail, hwf, htl, hren, htr, hsem, hdep⟩ := ih2 _ _ _ _ _ _ hr0 hav
    refine ⟨.arr qitems (comma && !vs.isEmpty) tail, ?_, ?_, ?_, ?_⟩
    · refine wfQ_arr.2 ⟨hwf, htl, ?_⟩
      intro e
      subst e
      simp only [semItemsQ] at hsem
      cases vs with
      | nil => simp
      | cons a l => simp [eraseVals] at hsem
    · simp only [renderQ, core, CVal.setDecor, encodeValue, prefixEncode, suffixEncode, hren, htr]
      simp
    · simp [semQ, eraseVal, hsem]
    · right
      simp only [depthQ]
      omega
  · have hr0 : r0 <:+ inp := (List.suffix_cons _ r0).trans hinp
    have hr1 : r1 <:+ inp := (cinlineKeyvals_rest hkv).trans hr0
    obtain ⟨new, e1, e2, e3⟩ := ih4 _ _ _ _ _ hr0 hkv
    simp only [List.nil_append] at e1
    subst e1
    obtain ⟨pairs, p1, p2, p3, p4⟩ := inline_pairs inp d (by omega) kvs items hit e3
    have hT : AllWs (encRaw stripCr inp (rawBetween inp.length r1 (dropWs r1))) := by
      simp only [encRaw]
      rw [allWs_strip _ (dropWs_rawText inp r1 hr1)]
      exact dropWs_rawText inp r1 hr1
    have hcomm : encRaw stripCr inp (rawBetween inp.length r1 (dropWs r1)) ++ renderPairsQ pairs
        = renderPairsQ pairs ++ encRaw stripCr inp (rawBetween inp.length r1 (dropWs r1)) := by
      rcases e2 with e2 | e2
      · subst e2
        have := ctableFromPairs_nil_items items hit
        subst this
        rw [p2]
        simp [encodeInl]
      · rw [e2, rawBetween_self]
        simp [encRaw, rawText, stripCr]
    refine ⟨.inl pairs (encRaw stripCr inp (rawBetween inp.length r1 (dropWs r1))), ?_, ?_, ?_, ?_⟩
    · exact wfQ_inl.2 ⟨p1, hT, by rw [p3]; rfl⟩
    · simp only [renderQ, core, CVal.setDecor, encodeValue, prefixEncode, suffixEncode, ← p2]
      simp only [List.nil_append, List.append_nil, List.append_assoc, List.cons_append]
      rw [← List.append_assoc, ← List.append_assoc, hcomm]
    · simp [semQ, eraseVal, p3]
    · right
      simp only [depthQ]
      omega
  · obtain ⟨a, hw, e, hsem, hdep⟩ := TomlVerif.Props.C01Sound.T01_value_sound 1 d (b :: r0) r v0 hv
    refine ⟨a, hw, ?_, hsem, hdep⟩
    simp only [core, CVal.setDecor, encodeValue, prefixEncode, suffixEncode]
    rw [rawText_between inp (b :: r0) (renderQ a) r hinp e]
    simp

theorem rmain (inp : Bytes) : ∀ fuel : Nat, R1 inp fuel ∧ R2 inp fuel ∧ R3 inp fuel ∧ R4 inp fuel := by
  refine fuel_induct4 ⟨?_, ?_, ?_, ?_⟩ (rstep1 inp) (rstep2 inp) (rstep3 inp) (rstep4 inp)
  · intro d s v r _ h; rw [cvalue_zero] at h; cases h
  · intro d s vs comma tr r _ h; rw [carrayValues_zero] at h; cases h
  · intro d s acc vs r _ h; rw [carrayElems_zero] at h; cases h
  · intro d s acc kvs r _ h; rw [cinlineKeyvals_zero] at h; cases h

theorem cvalue_renderable (inp : Bytes) (fuel d : Nat) (s r : Bytes) (v : CVal) (hs : s <:+ inp)
    (h : cvalue inp.length fuel d s = .ok v r) :
    ∃ q : QVal, WFQ q ∧ renderQ q = encodeValue stripCr inp v [] [] ∧ semQ q = eraseVal v ∧
      (depthQ q = 0 ∨ d + depthQ q < LIMIT) := by
  obtain ⟨q, h1, h2, h3, h4⟩ := (rmain inp fuel).1 d s v r hs h
  have hdec := (cvalue_undotted h).2
  refine ⟨q, h1, ?_, h3, h4⟩
  rw [h2, encodeValue_core, hdec]
  simp [prefixEncode, suffixEncode, emptyDecor, Decor.new, encRaw, rawText, stripCr]

end TomlVerif.Lemmas.Tiling03More.VS
