import TomlVerif.Lemmas.TomlValue17
import TomlVerif.Lemmas.Lines06
/-! C17 at text level: the printed document is the concatenation of one piece of text per statement
    (`stmtTexts`, `renderStmts_flatten`); a piece begins with `[` or with a blank line and `[` exactly when its
    statement is a header (`startsHeader_stmtText`, `stmtTexts_class`). `SegBlock`, a block shape on lists of pieces, holds
    of every list (`segBlock_all`). -/
namespace TomlVerif.Lemmas.RoundTrip17
open TomlVerif TomlVerif.Model TomlVerif.Model.TomlValue
open TomlVerif.Lemmas.TomlValue17 (headerFirst)
open TomlVerif.Lemmas.Encode06c (reprKey_head)
open TomlVerif.Lemmas.Doc01 (keyhead_facts)

/-- the text of one statement; `lead`: a blank line separates a header from what precedes it -/
def stmtText (fl : FloatText) (p : Bool) (lead : Bool) : TomlValue.Stmt → Bytes
  | .header path => (if lead then [0x0A] else []) ++ [0x5B] ++ renderPath path ++ [0x5D, 0x0A]
  | .aotHeader path => (if lead then [0x0A] else []) ++ [0x5B, 0x5B] ++ renderPath path ++ [0x5D, 0x5D, 0x0A]
  | .kv k v => renderKey k ++ sp ++ [0x3D] ++ sp ++ renderVal fl p v ++ [0x0A]

/-- the pieces of the printed document, one per statement: a header is preceded by a blank line unless it is the
    very first line (`first`, which is cleared by the first header) -/
def stmtTexts (fl : FloatText) (p : Bool) : Bool → List TomlValue.Stmt → List Bytes
  | _, [] => []
  | first, .header path :: r => stmtText fl p (!first) (.header path) :: stmtTexts fl p false r
  | first, .aotHeader path :: r => stmtText fl p (!first) (.aotHeader path) :: stmtTexts fl p false r
  | first, .kv k v :: r => stmtText fl p false (.kv k v) :: stmtTexts fl p first r

theorem renderStmts_flatten (fl : FloatText) (p : Bool) : ∀ (l : List TomlValue.Stmt) (first : Bool),
    renderStmts fl p first l = (stmtTexts fl p first l).flatten
  | [], _ => by simp [renderStmts, stmtTexts]
  | .header path :: r, first => by
    rw [renderStmts, stmtTexts, List.flatten_cons, ← renderStmts_flatten fl p r false]
    cases first <;> simp [stmtText]
  | .aotHeader path :: r, first => by
    rw [renderStmts, stmtTexts, List.flatten_cons, ← renderStmts_flatten fl p r false]
    cases first <;> simp [stmtText]
  | .kv k v :: r, first => by
    rw [renderStmts, stmtTexts, List.flatten_cons, ← renderStmts_flatten fl p r first]
    simp [stmtText]

/-- a piece of text that begins like a header line: `[`, possibly after one blank line -/
def startsHeader : Bytes → Bool
  | 0x5B :: _ => true
  | 0x0A :: 0x5B :: _ => true
  | _ => false

theorem startsHeader_stmtText (fl : FloatText) (p lead : Bool) (s : TomlValue.Stmt) :
    startsHeader (stmtText fl p lead s) = s.isHeader := by
  cases s with
  | header path | aotHeader path => cases lead <;> simp [stmtText, startsHeader, TomlValue.Stmt.isHeader]
  | kv k v =>
    obtain ⟨b, t, e, hb⟩ := reprKey_head k
    have e' : renderKey k = b :: t := e
    obtain ⟨_, _, h5b, h0a, _, _⟩ := keyhead_facts b hb
    simp only [stmtText, e', List.cons_append, TomlValue.Stmt.isHeader]
    unfold startsHeader
    split
    · rename_i h; injection h with h _; exact absurd h h5b
    · rename_i h; injection h with h _; exact absurd h h0a
    · rfl

theorem stmtText_ends (fl : FloatText) (p lead : Bool) (s : TomlValue.Stmt) :
    ∃ a, stmtText fl p lead s = a ++ [0x0A] := by
  cases s with
  | header path => exact ⟨(if lead then [0x0A] else []) ++ [0x5B] ++ renderPath path ++ [0x5D], by simp [stmtText]⟩
  | aotHeader path =>
    exact ⟨(if lead then [0x0A] else []) ++ [0x5B, 0x5B] ++ renderPath path ++ [0x5D, 0x5D], by simp [stmtText]⟩
  | kv k v => exact ⟨_, rfl⟩

theorem stmtTexts_class (fl : FloatText) (p : Bool) : ∀ (l : List TomlValue.Stmt) (first : Bool),
    (stmtTexts fl p first l).map startsHeader = l.map TomlValue.Stmt.isHeader
  | [], _ => rfl
  | .header path :: r, first => by
    simp only [stmtTexts, List.map_cons, startsHeader_stmtText, stmtTexts_class fl p r]
  | .aotHeader path :: r, first => by
    simp only [stmtTexts, List.map_cons, startsHeader_stmtText, stmtTexts_class fl p r]
  | .kv k v :: r, first => by
    simp only [stmtTexts, List.map_cons, startsHeader_stmtText, stmtTexts_class fl p r]

theorem stmtTexts_append (fl : FloatText) (p : Bool) : ∀ (a b : List TomlValue.Stmt) (first : Bool),
    stmtTexts fl p first (a ++ b) = stmtTexts fl p first a ++ stmtTexts fl p (first && a.all fun s => !s.isHeader) b
  | [], b, first => by simp [stmtTexts]
  | .header path :: r, b, first => by
    simp only [List.cons_append, stmtTexts, stmtTexts_append fl p r b false]
    simp [TomlValue.Stmt.isHeader]
  | .aotHeader path :: r, b, first => by
    simp only [List.cons_append, stmtTexts, stmtTexts_append fl p r b false]
    simp [TomlValue.Stmt.isHeader]
  | .kv k v :: r, b, first => by
    simp only [List.cons_append, stmtTexts, stmtTexts_append fl p r b first]
    simp [TomlValue.Stmt.isHeader]

def segHeaderFirst : List Bytes → Prop
  | [] => True
  | s :: _ => startsHeader s = true

/-- `Block` on the pieces of text: at most one header piece (`[…]` / `[[…]]`, possibly after a blank line), then
    pieces that do not begin like a header, then blocks each beginning with a header piece. It holds of every list
    of pieces (`segBlock_all`); what is said about the order of lines is in `T17_root_values_first_text`. -/
inductive SegBlock : List Bytes → Prop where
  | mk (hdr kvs : List Bytes) (subs : List (List Bytes)) :
      hdr.length ≤ 1 → (∀ s ∈ hdr, startsHeader s = true) → (∀ s ∈ kvs, startsHeader s = false) →
      (∀ b ∈ subs, SegBlock b) → (∀ b ∈ subs, segHeaderFirst b) → SegBlock (hdr ++ kvs ++ subs.flatten)

theorem segHeaderFirst_of (fl : FloatText) (p : Bool) (l : List TomlValue.Stmt) (first : Bool) (h : headerFirst l) :
    segHeaderFirst (stmtTexts fl p first l) := by
  cases l with
  | nil => trivial
  | cons s r =>
    have hs : s.isHeader = true := h
    cases s with
    | header path | aotHeader path => simp only [stmtTexts, segHeaderFirst, startsHeader_stmtText]; rfl
    | kv k v => simp [TomlValue.Stmt.isHeader] at hs

/-- `SegBlock` holds of every list of pieces, for the reason `Block` holds of every statement list
    (`TomlValue17.block_all`): cut before each piece that begins like a header. -/
theorem segBlock_all (l : List Bytes) : SegBlock l := by
  obtain ⟨run, pieces, rfl, h1, h2⟩ := TomlValue17.split_runs startsHeader l
  refine SegBlock.mk [] run pieces (Nat.zero_le _) nofun h1 (fun b hb => ?_) (fun b hb => ?_)
  · obtain ⟨h, t, rfl, hh, ht⟩ := h2 b hb
    have := SegBlock.mk [h] t [] (Nat.le_refl _) (by simpa using hh) ht nofun nofun
    simpa using this
  · obtain ⟨h, t, rfl, hh, _⟩ := h2 b hb
    exact hh

end TomlVerif.Lemmas.RoundTrip17
