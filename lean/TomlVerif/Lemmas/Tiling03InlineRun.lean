import TomlVerif.Lemmas.Tiling03KeyPath
import TomlVerif.Lemmas.Tiling03Inline
/-! C03, dotted keys inside inline tables — the source-side class `dottedInlRun`: a checker that
    follows the run of the value parser (`cvalue` / `carrayValues` / `carrayElems` /
    `cinlineKeyvals`: the same fuel, and the same steps along a successful run) and, for every
    inline table met, runs `table_from_pairs` on its pairs with the adjacency/spelling check
    `pairsOk`.  Under the check
    what `cvalue` consumed is what the printer writes (`cvalue_tiling_dotted`, for any decor
    transformation that fixes the pieces of the input); values without dotted keys pass it
    wherever they stand (`okValue_of_simple`). -/
namespace TomlVerif.Lemmas.Tiling03More
open TomlVerif TomlVerif.Spec TomlVerif.Model TomlVerif.Model.Strings TomlVerif.Model.Value
open TomlVerif.Model.Cst TomlVerif.Model.Encode TomlVerif.Lemmas.Suffix03 TomlVerif.Lemmas.Cst03
open TomlVerif.Lemmas.Tiling03 TomlVerif.Lemmas.Tiling03Hdr TomlVerif.Lemmas.Tiling03Nest

mutual
def okValue (inp : Bytes) : Nat → Nat → Bytes → Bool
  | 0, _, _ => true
  | fuel + 1, d, s =>
    match s with
    | [] => true
    | b :: r =>
      if b == 0x5B then okArrayValues inp fuel (d + 1) r
      else if b == 0x7B then
        okInlineKeyvals inp fuel (d + 1) r &&
        (match cinlineKeyvals inp.length fuel (d + 1) r [] with
         | .ok kvs _ => pairsOk inp kvs []
         | _ => true)
      else true
def okArrayValues (inp : Bytes) : Nat → Nat → Bytes → Bool
  | 0, _, _ => true
  | fuel + 1, d, s =>
    match s with
    | 0x5D :: _ => true
    | _ => okArrayElems inp fuel d s
/-- an element that `carrayElems` reads and then gives back — no trivia after it — is not checked -/
def okArrayElems (inp : Bytes) : Nat → Nat → Bytes → Bool
  | 0, _, _ => true
  | fuel + 1, d, s =>
    match wsCommentNewline (s.length + 1) s with
    | none => true
    | some s1 =>
      match cvalue inp.length fuel d s1 with
      | .ok _ s2 =>
        (match wsCommentNewline (s2.length + 1) s2 with
         | none => true
         | some s3 =>
           okValue inp fuel d s1 &&
           (match s3 with
            | 0x2C :: s4 => okArrayElems inp fuel d s4
            | _ => true))
      | _ => true
def okInlineKeyvals (inp : Bytes) : Nat → Nat → Bytes → Bool
  | 0, _, _ => true
  | fuel + 1, d, s =>
    match ckeyPath inp.length s with
    | .ok ks (0x3D :: r1) =>
      okValue inp fuel (d + (ks.length - 1)) (dropWs r1) &&
      (match cvalue inp.length fuel (d + (ks.length - 1)) (dropWs r1) with
       | .ok _ r2 =>
         (match dropWs r2 with
          | 0x2C :: r4 => okInlineKeyvals inp fuel d r4
          | _ => true)
       | _ => true)
    | _ => true
end

/-- the source-side class: the checked run of `parse_value`.  `dottedInlRun s = true` says: in
    every inline table of `s`, at every pair `k1 . … . kn . key = value`, each `ki` that names an
    entry that already exists names the LAST entry of its table so far (the dotted keys with a
    common prefix are adjacent), that entry is a dotted inline table (made by an earlier dotted
    key), and `ki` is spelled — key text and white space around it — like the key stored for that
    entry (the spelling of its first occurrence). -/
def dottedInlRun (s : Bytes) : Bool := okValue s (3 * s.length + 4) 0 s

theorem pairsOk_simple (inp : Bytes) : ∀ (kvs : List Triple) (acc : VItems), (∀ p ∈ kvs, p.1 = []) →
    pairsOk inp kvs acc = true
  | [], _, _ => rfl
  | (path, key, v) :: rest, acc, h => by
    have hp : path = [] := h (path, key, v) (by simp)
    subst hp
    unfold pairsOk
    simp only [insOk, Bool.true_and]
    split
    · exact pairsOk_simple inp rest _ (fun p hm => h p (List.mem_cons_of_mem _ hm))
    · rfl

theorem okValue_arr (inp : Bytes) (fuel d : Nat) (r : Bytes) :
    okValue inp (fuel + 1) d (0x5B :: r) = okArrayValues inp fuel (d + 1) r := by
  unfold okValue; rfl

theorem okValue_inl (inp : Bytes) (fuel d : Nat) (r : Bytes) :
    okValue inp (fuel + 1) d (0x7B :: r) =
      (okInlineKeyvals inp fuel (d + 1) r &&
        (match cinlineKeyvals inp.length fuel (d + 1) r [] with
         | .ok kvs _ => pairsOk inp kvs []
         | _ => true)) := by
  unfold okValue; rfl

theorem okValue_scalar (inp : Bytes) (fuel d : Nat) (b : UInt8) (r : Bytes)
    (h1 : (b == 0x5B) = false) (h2 : (b == 0x7B) = false) : okValue inp (fuel + 1) d (b :: r) = true := by
  unfold okValue
  simp only [h1, h2, Bool.false_eq_true, if_false]

theorem okArrayValues_elems (inp : Bytes) (fuel d : Nat) (s : Bytes) (hs : ∀ t, s ≠ 0x5D :: t) :
    okArrayValues inp (fuel + 1) d s = okArrayElems inp fuel d s := by
  unfold okArrayValues
  split
  · rename_i t; exact absurd rfl (hs t)
  · rfl

theorem okArrayElems_stop (inp : Bytes) (fuel d : Nat) (s : Bytes) (h : ElemsStop inp.length fuel d s) :
    okArrayElems inp (fuel + 1) d s = true := by
  unfold okArrayElems
  rcases h with h | ⟨s1, hw, h | ⟨v, s2, hv, hw2⟩⟩
  · simp only [h]
  · simp only [hw, h]
  · simp only [hw, hv, hw2]

theorem okArrayElems_elem (inp : Bytes) (fuel d : Nat) (s s1 s2 s3 : Bytes) (v : CVal)
    (hw1 : wsCommentNewline (s.length + 1) s = some s1) (hv : cvalue inp.length fuel d s1 = .ok v s2)
    (hw2 : wsCommentNewline (s2.length + 1) s2 = some s3) :
    okArrayElems inp (fuel + 1) d s =
      (okValue inp fuel d s1 &&
        (match (generalizing := false) s3 with
         | 0x2C :: s4 => okArrayElems inp fuel d s4
         | _ => true)) := by
  conv => lhs; unfold okArrayElems
  simp only [hw1, hv, hw2]

theorem okInlineKeyvals_pair (inp : Bytes) (fuel d : Nat) (s r1 r2 : Bytes) (ks : List CKey) (v : CVal)
    (hk : ckeyPath inp.length s = .ok ks (0x3D :: r1))
    (hv : cvalue inp.length fuel (d + (ks.length - 1)) (dropWs r1) = .ok v r2) :
    okInlineKeyvals inp (fuel + 1) d s =
      (okValue inp fuel (d + (ks.length - 1)) (dropWs r1) &&
        (match dropWs r2 with
         | 0x2C :: r4 => okInlineKeyvals inp fuel d r4
         | _ => true)) := by
  conv => lhs; unfold okInlineKeyvals
  simp only [hk, hv]

/-- values without dotted keys pass the checked run, wherever they stand: no hypothesis on the
    input, none on the printer -/
theorem okValue_of_simple (inp : Bytes) : ∀ fuel : Nat,
    (∀ d s v r, cvalue inp.length fuel d s = .ok v r → simpleVal v = true → okValue inp fuel d s = true) ∧
    (∀ d s vs comma tr r, carrayValues inp.length fuel d s = .ok (vs, comma, tr) r → simpleVals vs = true →
      okArrayValues inp fuel d s = true) ∧
    (∀ d s acc vs r, carrayElems inp.length fuel d s acc = .ok vs r →
      ∀ new, vs = acc ++ new → simpleVals new = true → okArrayElems inp fuel d s = true) ∧
    (∀ d s acc kvs r, cinlineKeyvals inp.length fuel d s acc = .ok kvs r →
      ∀ new, kvs = acc ++ new → (∀ p ∈ new, simpleVal p.2.2 = true) → okInlineKeyvals inp fuel d s = true) := by
  refine fuel_induct4 ⟨?_, ?_, ?_, ?_⟩ ?_ ?_ ?_ ?_
  · intro d s v r h; rw [cvalue_zero] at h; cases h
  · intro d s vs comma tr r h; rw [carrayValues_zero] at h; cases h
  · intro d s acc vs r h; rw [carrayElems_zero] at h; cases h
  · intro d s acc kvs r h; rw [cinlineKeyvals_zero] at h; cases h
  · intro fuel ih2 ih4 d s v r h hsv
    rcases cvalue_ok h with ⟨r0, vs, comma, tr, rfl, _, hav, rfl⟩ |
      ⟨r0, kvs, r1, items, rfl, _, hkv, htp, heq, rfl⟩ | ⟨b, r0, v0, rfl, hb1, hb2, hv, rfl⟩
    · rw [okValue_arr]; exact ih2 _ _ _ _ _ _ hav hsv
    · simp only [simpleVal, Bool.and_eq_true] at hsv
      obtain ⟨hpaths, hitems⟩ := ctableFromPairs_simple _ _ _ htp (simpleKvs_anyImp _ hsv.2)
      simp only [List.nil_append] at hitems
      have hmem : ∀ p ∈ kvs, simpleVal p.2.2 = true := fun p hp =>
        simpleKvs_mem items hsv.2 _ (by rw [hitems]; exact List.mem_map_of_mem (f := fun p => (p.2.1, p.2.2)) hp)
      rw [okValue_inl, hkv, Bool.and_eq_true]
      exact ⟨ih4 _ _ _ _ _ hkv kvs (List.nil_append _).symm hmem, pairsOk_simple inp kvs [] hpaths⟩
    · exact okValue_scalar inp fuel d b r0 hb1 hb2
  · intro fuel ih3 d s vs comma tr r h hsv
    rcases carrayValues_ok h with ⟨t, rfl, rfl, rfl, rfl, rfl⟩ | ⟨hnot, r0, r1, hel, _⟩
    · unfold okArrayValues; rfl
    · rw [okArrayValues_elems inp fuel d s hnot]; exact ih3 _ _ _ _ _ hel vs (List.nil_append _).symm hsv
  · intro fuel ih1 ih3 d s acc vs r h new0 e0 hsv
    rcases carrayElems_ok h with ⟨rfl, rfl, hstop⟩ | ⟨s1, v, s2, s3, v', new, hw1, hv, hw2, hv', e, hnew⟩
    · exact okArrayElems_stop inp fuel d r hstop
    have : new0 = v' :: new := List.append_cancel_left (e0.symm.trans e)
    subst this
    simp only [simpleVals, Bool.and_eq_true] at hsv
    rw [okArrayElems_elem inp fuel d s s1 s2 s3 v hw1 hv hw2, Bool.and_eq_true]
    refine ⟨ih1 _ _ _ _ hv (by rw [← simpleVal_setDecor v, ← hv']; exact hsv.1), ?_⟩
    rcases hnew with ⟨rfl, rfl, hend⟩ | ⟨_, s4, rfl, hrec⟩
    · split
      · rename_i s4
        obtain ⟨r', hrec⟩ := hend s4 rfl
        exact ih3 _ _ _ _ _ hrec [] (List.append_nil _).symm rfl
      · rfl
    · exact ih3 _ _ _ _ _ hrec new (by rw [e, List.append_assoc]; rfl) hsv.2
  · intro fuel ih1 ih4 d s acc kvs r h new0 e0 hsv
    rcases cinlineKeyvals_ok h with ⟨rfl, rfl, hbt⟩ |
      ⟨ks, r1, v, r2, path, key, v', new, hk, _, hv, hsl, hv', e, hnew⟩
    · unfold okInlineKeyvals; simp only [hbt]
    have : new0 = (path, key, v') :: new := List.append_cancel_left (e0.symm.trans e)
    subst this
    rw [okInlineKeyvals_pair inp fuel d s r1 r2 ks v hk hv, Bool.and_eq_true]
    refine ⟨ih1 _ _ _ _ hv (by rw [← simpleVal_setDecor v, ← hv']; exact hsv (path, key, v') (by simp)), ?_⟩
    rcases hnew with ⟨rfl, rfl, hstop⟩ | ⟨_, r4, heq, hrec⟩
    · split
      · rename_i r4 heq
        obtain ⟨r', hrec⟩ := hstop r4 heq
        exact ih4 _ _ _ _ _ hrec [] (List.append_nil _).symm (fun p hp => nomatch hp)
      · rfl
    · rw [heq]
      exact ih4 _ _ _ _ _ hrec new (by rw [e, List.append_assoc]; rfl)
        (fun p hp => hsv p (List.mem_cons_of_mem _ hp))

/-! `R1`–`R4`: what each of the four functions consumed (`t`, with `s = t ++ r`) is what the printer
    writes for its result, provided the checker passed on the same input with the same fuel.  The two
    loops speak of the elements they added to their accumulator (`new`). -/

def R1 (f : Bytes → Bytes) (inp : Bytes) (fuel : Nat) : Prop :=
  ∀ d s v r, s <:+ inp → cvalue inp.length fuel d s = .ok v r →
    ∃ t, s = t ++ r ∧ (okValue inp fuel d s = true → ∀ dp ds, encodeValue f inp v dp ds = t)

def R2 (f : Bytes → Bytes) (inp : Bytes) (fuel : Nat) : Prop :=
  ∀ d s vs comma tr r, s <:+ inp → carrayValues inp.length fuel d s = .ok (vs, comma, tr) r →
    ∃ t, s = t ++ r ∧
      (okArrayValues inp fuel d s = true →
        encodeElems f inp vs true ++ (if comma && !vs.isEmpty then [0x2C] else []) ++ encRaw f inp tr = t)

def R3 (f : Bytes → Bytes) (inp : Bytes) (fuel : Nat) : Prop :=
  ∀ d s acc vs r, s <:+ inp → carrayElems inp.length fuel d s acc = .ok vs r →
    ∃ new t, vs = acc ++ new ∧ s = t ++ r ∧ (∀ v ∈ new, ∃ a b, v.decor = Decor.new a b) ∧
      (okArrayElems inp fuel d s = true → encodeElems f inp new true = t)

/-- `new = [] → r = s`, `new ≠ [] → dropWs r = r`: after a pair the blanks are consumed, without a
    pair nothing is — so the preamble recorded between the pairs and `}` is the blanks of an empty
    table, or empty; the printer writes it before the pairs, the source has it after them -/
def R4 (f : Bytes → Bytes) (inp : Bytes) (fuel : Nat) : Prop :=
  ∀ d s acc kvs r, s <:+ inp → cinlineKeyvals inp.length fuel d s acc = .ok kvs r →
    ∃ new t, kvs = acc ++ new ∧ s = t ++ r ∧ (new = [] → r = s) ∧ (new ≠ [] → dropWs r = r) ∧
      (∀ p ∈ new, (∃ a b, p.2.2.decor = Decor.new a b) ∧ undotted p.2.2 = true) ∧
      (okInlineKeyvals inp fuel d s = true → encTriples f inp new true = t)

theorem rstep4 (f : Bytes → Bytes) (inp : Bytes) (hf : FixOn f inp) (fuel : Nat)
    (ih1 : R1 f inp fuel) (ih4 : R4 f inp fuel) : R4 f inp (fuel + 1) := by
  intro d s acc kvs r hinp h
  rcases cinlineKeyvals_ok h with ⟨rfl, rfl, _⟩ |
    ⟨ks, r1, v, r2, path, key, v', new, hk, _, hv, hsl, hv', e, hnew⟩
  · exact ⟨[], [], by simp, by simp, fun _ => rfl, fun h => absurd rfl h, (fun p hp => nomatch hp),
      fun _ => by simp [encTriples]⟩
  have hkp := ckeyPath_tiling f inp hf s _ ks hinp hk [0x20] [0x20]
  generalize htk : encodeKeyPath f inp ks [0x20] [0x20] = tk at hkp
  have hr1 : r1 <:+ s := (List.suffix_cons _ _).trans ⟨tk, hkp.symm⟩
  obtain ⟨w1, hw1⟩ := Suffix03.dropWs_suffix r1
  have hr1' : dropWs r1 <:+ inp := ((Suffix03.dropWs_suffix r1).trans hr1).trans hinp
  obtain ⟨tv, htv, hvt⟩ := ih1 _ _ _ _ hr1' hv
  obtain ⟨hund, hdec⟩ := cvalue_undotted hv
  have hr2 : r2 <:+ inp := (htv ▸ List.suffix_append tv r2).trans hr1'
  obtain ⟨w2, hw2⟩ := Suffix03.dropWs_suffix r2
  have hokE := okInlineKeyvals_pair inp fuel d s r1 r2 ks v hk hv
  have hks := vsplitLast_some _ _ _ hsl
  have hd' : (∃ a b, v'.decor = Decor.new a b) ∧ undotted v' = true :=
    ⟨⟨_, _, by rw [hv', setDecor_decor]⟩, by rw [hv', undotted_setDecor]; exact hund⟩
  have htext : s = (tk ++ [0x3D] ++ w1 ++ tv ++ w2) ++ dropWs r2 := by
    rw [hkp]
    simp only [List.append_assoc, List.cons_append, List.nil_append]
    rw [hw2, ← htv, hw1]
  have hentry : okValue inp fuel (d + (ks.length - 1)) (dropWs r1) = true →
      encodeKeyPath f inp (path ++ [key]) [0x20] [0x20] ++ [0x3D] ++ encodeValue f inp v' [] []
        = tk ++ [0x3D] ++ w1 ++ tv ++ w2 := by
    intro hokv
    rw [← hks, htk, hv', encodeValue_setDecor f hf.nil inp v _ _ hdec [] [] [] [], hvt hokv [] [],
      encRaw_fix hf, encRaw_fix hf,
      rawText_between inp r1 w1 (dropWs r1) (hr1.trans hinp) hw1.symm,
      rawText_between inp r2 w2 (dropWs r2) hr2 hw2.symm]
    simp [List.append_assoc]
  rcases hnew with ⟨rfl, rfl, _⟩ | ⟨hne, r4, heq, hrec⟩
  · refine ⟨[(path, key, v')], _, e, htext, by simp, fun _ => dropWs_idem r2, ?_, ?_⟩
    · intro p hp; simp at hp; subst hp; exact hd'
    · intro hok
      rw [hokE, Bool.and_eq_true] at hok
      simp only [encTriples, if_true, List.nil_append, List.append_nil]
      exact hentry hok.1
  · have hr4 : r4 <:+ inp := (List.suffix_cons _ r4).trans (heq ▸ ((Suffix03.dropWs_suffix r2).trans hr2))
    obtain ⟨new', t', hkvs, ht', _, hcons, hdecs, htile⟩ := ih4 _ _ _ _ _ hr4 hrec
    have : new' = new := List.append_cancel_left (by rw [← hkvs, e, List.append_assoc]; rfl)
    subst this
    refine ⟨(path, key, v') :: new', (tk ++ [0x3D] ++ w1 ++ tv ++ w2) ++ [0x2C] ++ t', e, ?_, by simp,
      fun _ => hcons hne, ?_, ?_⟩
    · rw [htext, heq, ht']; simp
    · intro p hp
      rcases List.mem_cons.1 hp with e | hp
      · subst e; exact hd'
      · exact hdecs p hp
    · intro hok
      rw [hokE, heq, Bool.and_eq_true] at hok
      simp only [] at hok
      have hrest := htile hok.2
      simp only [encTriples, if_true, List.nil_append]
      rw [encTriples_false f inp _ hne]
      rw [hrest]
      have e := congrArg (fun x => x ++ ([0x2C] ++ t')) (hentry hok.1)
      simpa [List.append_assoc] using e

theorem rstep1 (f : Bytes → Bytes) (inp : Bytes) (hf : FixOn f inp) (fuel : Nat)
    (ih2 : R2 f inp fuel) (ih4 : R4 f inp fuel) : R1 f inp (fuel + 1) := by
  intro d s v r hinp h
  rcases cvalue_ok h with ⟨r0, vs, comma, tr, rfl, _, hav, rfl⟩ |
    ⟨r0, kvs, r1, items, rfl, _, hkv, htp, heq, rfl⟩ | ⟨b, r0, v0, rfl, hb1, hb2, hv, rfl⟩
  · have hr0 : r0 <:+ inp := (List.suffix_cons _ r0).trans hinp
    obtain ⟨t, ht, htile⟩ := ih2 _ _ _ _ _ _ hr0 hav
    refine ⟨[0x5B] ++ t ++ [0x5D], by simp [ht], ?_⟩
    intro hok dp ds
    rw [okValue_arr] at hok
    have hb2 := htile hok
    simp only [encodeValue, prefixEncode, suffixEncode, emptyDecor, Decor.new, encRaw, rawText_empty, hf.nil]
    simp only [encRaw] at hb2
    rw [← hb2]; simp
  · have hr0 : r0 <:+ inp := (List.suffix_cons _ r0).trans hinp
    obtain ⟨new, t, hkvs, ht, hnil, hcons, hdecs, htile⟩ := ih4 _ _ _ _ _ hr0 hkv
    simp only [List.nil_append] at hkvs
    subst hkvs
    obtain ⟨wp, hwp⟩ := Suffix03.dropWs_suffix r1
    have hr1 : r1 <:+ inp := (ht ▸ List.suffix_append t r1).trans hr0
    refine ⟨[0x7B] ++ t ++ wp ++ [0x7D], by rw [ht, ← hwp, heq]; simp, ?_⟩
    intro hok
    rw [okValue_inl, hkv, Bool.and_eq_true] at hok
    have htext := htile hok.1
    have hbody := inl_body_text f inp kvs items hok.2 (fun p hp => (hdecs p hp).2)
      (fun p hp => (hdecs p hp).1) htp
    intro dp ds
    simp only [encodeValue, prefixEncode, suffixEncode, emptyDecor, Decor.new, rawText_empty, encRaw_fix hf]
    rw [hbody, htext, rawText_between inp r1 wp (dropWs r1) hr1 hwp.symm]
    by_cases hne : kvs = []
    · subst hne
      simp [encTriples] at htext
      subst htext
      simp
    · -- after a non-empty list of pairs the blanks are already consumed
      have := hcons hne
      rw [this] at hwp
      have : wp = [] := by
        have := congrArg List.length hwp
        simpa using this
      subst this
      simp
  · obtain ⟨t, ht⟩ := (value_adv hv).1
    refine ⟨t, ht.symm, ?_⟩
    intro _ dp ds
    simp only [encodeValue, prefixEncode, suffixEncode, emptyDecor, Decor.new, encRaw, rawText_empty, hf.nil]
    rw [rawText_between inp (b :: r0) t r hinp ht.symm]
    simp

theorem rstep2 (f : Bytes → Bytes) (inp : Bytes) (hf : FixOn f inp) (fuel : Nat) (ih3 : R3 f inp fuel) : R2 f inp (fuel + 1) := by
  intro d s vs comma tr r hinp h
  rcases carrayValues_ok h with ⟨t, rfl, rfl, rfl, rfl, rfl⟩ | ⟨hnot, r0, r1, hel, hc, hw, rfl⟩
  · exact ⟨[], by simp, fun _ => by simp [encodeElems, encRaw, rawText_empty, hf.nil]⟩
  · have hokE := okArrayValues_elems inp fuel d s hnot
    obtain ⟨new, t, hvs, ht, hdec, htile⟩ := ih3 _ _ _ _ _ hinp hel
    simp only [List.nil_append] at hvs
    subst hvs
    obtain ⟨w, hw2⟩ := wcn_suffix _ _ _ hw
    have hr0 : r0 <:+ inp := (ht ▸ List.suffix_append t r0).trans hinp
    rcases hc with ⟨rfl, hne, rfl⟩ | ⟨rfl, rfl⟩
    · refine ⟨t ++ [0x2C] ++ w, by rw [ht, ← hw2]; simp, ?_⟩
      intro hfl
      rw [encRaw_fix hf, rawText_between inp r1 w r ((List.suffix_cons _ r1).trans hr0) hw2.symm,
        htile (hokE ▸ hfl)]
      simp [hne]
    · refine ⟨t ++ w, by rw [ht, ← hw2]; simp, ?_⟩
      intro hfl
      rw [encRaw_fix hf, rawText_between inp r1 w r hr0 hw2.symm, htile (hokE ▸ hfl)]
      simp

theorem rstep3 (f : Bytes → Bytes) (inp : Bytes) (hf : FixOn f inp) (fuel : Nat)
    (ih1 : R1 f inp fuel) (ih3 : R3 f inp fuel) : R3 f inp (fuel + 1) := by
  intro d s acc vs r hinp h
  rcases carrayElems_ok h with ⟨rfl, rfl, _⟩ | ⟨s1, v, s2, s3, v', new, hw1, hv, hw2, hv', e, hnew⟩
  · exact ⟨[], [], by simp, by simp, (fun v hv => nomatch hv), fun _ => by simp [encodeElems]⟩
  obtain ⟨w1, hs1⟩ := wcn_suffix _ _ _ hw1
  have hs1inp : s1 <:+ inp := (hs1 ▸ List.suffix_append w1 s1).trans hinp
  obtain ⟨tok, htok, hvt⟩ := ih1 _ _ _ _ hs1inp hv
  have hdec := (cvalue_undotted hv).2
  obtain ⟨w2, hs3⟩ := wcn_suffix _ _ _ hw2
  have hokE := okArrayElems_elem inp fuel d s s1 s2 s3 v hw1 hv hw2
  have hs2inp : s2 <:+ inp := (htok ▸ List.suffix_append tok s2).trans hs1inp
  have hd' : ∃ a b, v'.decor = Decor.new a b := ⟨_, _, by rw [hv', setDecor_decor]⟩
  have hel : okValue inp fuel d s1 = true → ∀ dp ds, encodeValue f inp v' dp ds = w1 ++ tok ++ w2 := by
    intro hfl dp ds
    rw [hv', encodeValue_setDecor f hf.nil inp v _ _ hdec dp ds [] [], hvt hfl [] [],
      encRaw_fix hf, encRaw_fix hf,
      rawText_between inp s w1 s1 hinp hs1.symm, rawText_between inp s2 w2 s3 hs2inp hs3.symm]
  rcases hnew with ⟨rfl, rfl, _⟩ | ⟨hne, s4, rfl, hrec⟩
  · refine ⟨[v'], w1 ++ tok ++ w2, e, by rw [← hs1, htok, ← hs3]; simp, ?_, ?_⟩
    · intro x hx; simp at hx; subst hx; exact hd'
    · intro hok
      rw [hokE, Bool.and_eq_true] at hok
      simp [encodeElems, hel hok.1]
  · have hs4inp : s4 <:+ inp := (List.suffix_cons _ s4).trans ((hs3 ▸ List.suffix_append w2 _).trans hs2inp)
    obtain ⟨new', t', hvs, ht', hdecs, htile⟩ := ih3 _ _ _ _ _ hs4inp hrec
    have : new' = new := List.append_cancel_left (by rw [← hvs, e, List.append_assoc]; rfl)
    subst this
    refine ⟨v' :: new', w1 ++ tok ++ w2 ++ [0x2C] ++ t', e, ?_, ?_, ?_⟩
    · rw [← hs1, htok, ← hs3, ht']; simp
    · intro x hx
      rcases List.mem_cons.1 hx with hx | hx
      · subst hx; exact hd'
      · exact hdecs x hx
    · intro hok
      rw [hokE, Bool.and_eq_true] at hok
      simp only [] at hok
      simp only [encodeElems, if_true]
      rw [hel hok.1, encodeElems_false f inp new' hdecs hne, htile hok.2]
      simp

theorem rvalue_main (f : Bytes → Bytes) (inp : Bytes) (hf : FixOn f inp) :
    ∀ fuel : Nat, R1 f inp fuel ∧ R2 f inp fuel ∧ R3 f inp fuel ∧ R4 f inp fuel := by
  refine fuel_induct4 ⟨?_, ?_, ?_, ?_⟩ (rstep1 f inp hf) (rstep2 f inp hf) (rstep3 f inp hf) (rstep4 f inp hf)
  · intro d s v r _ h; rw [cvalue_zero] at h; cases h
  · intro d s vs comma tr r _ h; rw [carrayValues_zero] at h; cases h
  · intro d s acc vs r _ h; rw [carrayElems_zero] at h; cases h
  · intro d s acc kvs r _ h; rw [cinlineKeyvals_zero] at h; cases h

theorem cvalue_tiling_dotted (f : Bytes → Bytes) (inp : Bytes) (hf : FixOn f inp) (fuel d : Nat) (s r : Bytes)
    (v : CVal) (hs : s <:+ inp) (h : cvalue inp.length fuel d s = .ok v r) :
    ∃ t, s = t ++ r ∧ (okValue inp fuel d s = true → ∀ dp ds, encodeValue f inp v dp ds = t) :=
  (rvalue_main f inp hf fuel).1 d s v r hs h

def exSimpleSrc : Bytes := strBytes "{a = 1, \"b c\" = [2]}"

/-- `pairsOk_simple`: the pairs of `exSimpleSrc` have one-segment keys -/
example : (match cinlineKeyvals exSimpleSrc.length 100 1 (exSimpleSrc.drop 1) [] with
    | .ok kvs _ => kvs.length == 2 && kvs.all (fun p => p.1.isEmpty)
    | _ => false) = true := by decide +kernel

/-- `cvalue_tiling_dotted` (and the four statements `R1`–`R4` behind it) on `exSrc`: the value
    parser accepts the text and the checked run passes -/
example : (match cvalue exSrc.length (3 * exSrc.length + 4) 0 exSrc with
    | .ok _ r => r.isEmpty
    | _ => false) = true ∧ okValue exSrc (3 * exSrc.length + 4) 0 exSrc = true := by decide +kernel

end TomlVerif.Lemmas.Tiling03More
