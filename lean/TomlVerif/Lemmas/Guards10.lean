import TomlVerif.Model.Write
import TomlVerif.Lemmas.Bytes
/-! The writer's choice of style.  Of `ValueMetrics::calculate` and `KeyMetrics::calculate`, the fields the
    guards read as functions of the bytes (`escape_codes`, `newline`, `unquoted`, `single_quotes` exactly; of
    `max_seq_single_quotes` what the two literal guards need); then what an offered style says about the string
    itself, which is all the rest of C10 uses. -/
namespace TomlVerif.Lemmas
open TomlVerif TomlVerif.Spec TomlVerif.Model.Write

/-- bytes that set `escape_codes` in `ValueMetrics::calculate` -/
def escCodeByte (b : UInt8) : Bool := b != 0x5C && b != 0x09 && b != 0x0A && isCtlByte b

/-- no run of more than two `q` in `s`, given `k` of them immediately before -/
def noTriple (q : UInt8) : Nat → Bytes → Bool
  | _, [] => true
  | k, b :: s => if b == q then decide (k + 1 ≤ 2) && noTriple q (k + 1) s else noTriple q 0 s

theorem vmStep_fields (m : ValueMetrics) (ps pd : Nat) (b : UInt8) :
    (vmStep (m, ps, pd) b).1.escapeCodes = (m.escapeCodes || escCodeByte b) ∧
    (vmStep (m, ps, pd) b).1.newline = (m.newline || b == 0x0A) ∧
    (vmStep (m, ps, pd) b).1.maxSingle = (if b == 0x27 then max m.maxSingle (ps + 1) else m.maxSingle) ∧
    (vmStep (m, ps, pd) b).2.1 = (if b == 0x27 then ps + 1 else 0) := by
  by_cases h1 : b = 0x27
  · subst h1; simp [vmStep, escCodeByte, isCtlByte]
  by_cases h2 : b = 0x22
  · subst h2; simp [vmStep, escCodeByte, isCtlByte]
  by_cases h3 : b = 0x5C
  · subst h3; simp [vmStep, escCodeByte, isCtlByte]
  by_cases h4 : b = 0x09
  · subst h4; simp [vmStep, escCodeByte, isCtlByte]
  by_cases h5 : b = 0x0A
  · subst h5; simp [vmStep, escCodeByte, isCtlByte]
  cases h6 : isCtlByte b <;> simp [vmStep, escCodeByte, h1, h2, h3, h4, h5, h6]

/-- the third conjunct (the maximum never falls) is what lets the fourth and fifth go through the induction -/
theorem vm_fold (s : Bytes) : ∀ (st : ValueMetrics × Nat × Nat),
    (s.foldl vmStep st).1.escapeCodes = (st.1.escapeCodes || s.any escCodeByte) ∧
    (s.foldl vmStep st).1.newline = (st.1.newline || s.any (· == 0x0A)) ∧
    st.1.maxSingle ≤ (s.foldl vmStep st).1.maxSingle ∧
    ((s.foldl vmStep st).1.maxSingle ≤ 2 → noTriple 0x27 st.2.1 s = true) ∧
    ((s.foldl vmStep st).1.maxSingle = 0 → s.all (· != 0x27) = true) := by
  induction s with
  | nil => intro st; simp [noTriple]
  | cons b s ih =>
    intro st
    obtain ⟨m, ps, pd⟩ := st
    obtain ⟨i1, i2, i3, i4, i5⟩ := ih (vmStep (m, ps, pd) b)
    simp only [List.foldl_cons]
    obtain ⟨f1, f2, f3, f4⟩ := vmStep_fields m ps pd b
    rw [f1] at i1
    rw [f2] at i2
    rw [f3] at i3
    rw [f4] at i4
    refine ⟨?_, ?_, ?_, ?_, ?_⟩
    · rw [i1]; simp [Bool.or_assoc]
    · rw [i2]; simp [Bool.or_assoc]
    · split at i3
      · exact Nat.le_trans (Nat.le_max_left _ _) i3
      · exact i3
    · intro h
      have := i4 h
      by_cases hb : b = 0x27
      · subst hb
        simp at i3 this
        simp [noTriple, this]; omega
      · simp [hb] at this
        simp [noTriple, hb, this]
    · intro h
      have h5 := i5 h
      by_cases hb : b = 0x27
      · subst hb; simp at i3; omega
      · simp [hb, h5]

/-- bytes that set `escape_codes` in `KeyMetrics::calculate` -/
def kEscCode (b : UInt8) : Bool := b != 0x27 && b != 0x22 && b != 0x5C && b != 0x09 && isCtlByte b

theorem kmStep_fields (m : KeyMetrics) (b : UInt8) :
    (kmStep m b).unquoted = (m.unquoted && isKeyBareByte b) ∧
    (kmStep m b).singleQuotes = (m.singleQuotes || b == 0x27) ∧
    (kmStep m b).escapeCodes = (m.escapeCodes || kEscCode b) := by
  by_cases h1 : b = 0x27
  · subst h1; simp [kmStep, kEscCode, isCtlByte, isKeyBareByte, inR]
  by_cases h2 : b = 0x22
  · subst h2; simp [kmStep, kEscCode, isCtlByte, isKeyBareByte, inR]
  by_cases h3 : b = 0x5C
  · subst h3; simp [kmStep, kEscCode, isCtlByte, isKeyBareByte, inR]
  by_cases h4 : b = 0x09
  · subst h4; simp [kmStep, kEscCode, isCtlByte, isKeyBareByte, inR]
  cases h5 : isCtlByte b <;> cases h0 : isKeyBareByte b <;> simp [kmStep, kEscCode, h0, h1, h2, h3, h4, h5]

theorem km_fold (s : Bytes) : ∀ m : KeyMetrics,
    (s.foldl kmStep m).unquoted = (m.unquoted && s.all isKeyBareByte) ∧
    (s.foldl kmStep m).singleQuotes = (m.singleQuotes || s.any (· == 0x27)) ∧
    (s.foldl kmStep m).escapeCodes = (m.escapeCodes || s.any kEscCode) := by
  induction s with
  | nil => intro m; simp
  | cons b s ih =>
    intro m
    obtain ⟨i1, i2, i3⟩ := ih (kmStep m b)
    obtain ⟨f1, f2, f3⟩ := kmStep_fields m b
    simp only [List.foldl_cons]
    rw [i1, i2, i3, f1, f2, f3]
    simp [Bool.and_assoc, Bool.or_assoc]

theorem bare_is_unquoted (b : UInt8) : isKeyBareByte b = isUnquotedChar b := by
  unfold isKeyBareByte isUnquotedChar; rw [Bool.or_comm (inR 0x61 0x7A b)]
theorem value_literal_ok : ∀ b : UInt8, escCodeByte b = false → b ≠ 0x27 → b ≠ 0x0A → isLiteralChar b = true :=
  forall_byte (by decide +kernel)
/-- the key pass counts the line feed among the escape codes, the value pass does not: otherwise the same bytes -/
theorem key_literal_ok (b : UInt8) (h : kEscCode b = false) (h1 : b ≠ 0x27) : isLiteralChar b = true := by
  by_cases hA : b = 0x0A
  · subst hA; exact absurd h (by decide)
  · refine value_literal_ok b ?_ h1 hA
    have h2 : b ≠ 0x22 → escCodeByte b = false := by
      intro h2; simpa [kEscCode, escCodeByte, h1, h2, hA] using h
    by_cases hq : b = 0x22
    · subst hq; decide
    · exact h2 hq

/-- bytes allowed raw inside a multi-line literal body -/
def mllOK (b : UInt8) : Bool := isMllChar b || b == 0x27 || b == 0x0A

theorem mll_ok_of_no_esc (b : UInt8) (h : escCodeByte b = false) : mllOK b = true := by
  unfold mllOK
  by_cases h1 : b = 0x27
  · simp [h1]
  by_cases h2 : b = 0x0A
  · simp [h2]
  simp [Spec.isMllChar, value_literal_ok b h h1 h2]

theorem vAsLiteral_some (m : ValueMetrics) (e) (h : vAsLiteral m = some e) :
    e = .literal ∧ m.escapeCodes = false ∧ m.maxSingle = 0 ∧ m.newline = false := by
  unfold vAsLiteral at h
  split at h
  · simp at h
  · rename_i hc; simp at hc h; exact ⟨h.symm, hc.1.1, hc.1.2, hc.2⟩

theorem vAsMlLiteral_some (m : ValueMetrics) (e) (h : vAsMlLiteral m = some e) :
    e = .mlLiteral ∧ m.escapeCodes = false ∧ m.maxSingle ≤ 2 := by
  unfold vAsMlLiteral at h
  split at h
  · simp at h
  · rename_i hc; simp at hc h; exact ⟨h.symm, hc.1, hc.2⟩

theorem vAsBasicPretty_some (m : ValueMetrics) (e) (h : vAsBasicPretty m = some e) : e = .basic := by
  unfold vAsBasicPretty at h; split at h <;> simp at h; exact h.symm

theorem vAsMlBasicPretty_some (m : ValueMetrics) (e) (h : vAsMlBasicPretty m = some e) : e = .mlBasic := by
  unfold vAsMlBasicPretty at h; split at h <;> simp at h; exact h.symm

theorem kAsLiteral_some (m : KeyMetrics) (e) (h : kAsLiteral m = some e) :
    e = some .literal ∧ m.escapeCodes = false ∧ m.singleQuotes = false := by
  unfold kAsLiteral at h
  split at h
  · simp at h
  · rename_i hc; simp at hc h; exact ⟨h.symm, hc.1, hc.2⟩

theorem kAsBasicPretty_some (m : KeyMetrics) (e) (h : kAsBasicPretty m = some e) : e = some .basic := by
  unfold kAsBasicPretty at h; split at h <;> simp at h; exact h.symm

theorem kAsUnquoted_some (m : KeyMetrics) (e) (h : kAsUnquoted m = some e) : e = none ∧ m.unquoted = true := by
  unfold kAsUnquoted at h
  split at h
  · rename_i hc; simp at h; exact ⟨h.symm, hc⟩
  · simp at h

theorem valueMetrics_newline (s : Bytes) : (valueMetrics s).newline = s.any (· == 0x0A) := by
  simpa [valueMetrics] using (vm_fold s ({}, 0, 0)).2.1

theorem newline_head (s : Bytes) (h : (valueMetrics s).newline = false) : s.head? ≠ some 0x0A := by
  rw [valueMetrics_newline] at h
  cases s with
  | nil => simp
  | cons b t => simp at h ⊢; exact h.1

theorem literal_offered (s : Bytes) (e : Encoding) (h : vAsLiteral (valueMetrics s) = some e) :
    e = .literal ∧ s.all isLiteralChar = true := by
  obtain ⟨he, hm⟩ := vAsLiteral_some _ _ h
  obtain ⟨f1, f2, _, _, f5⟩ := vm_fold s ({}, 0, 0)
  unfold valueMetrics at hm
  rw [f1, f2] at hm
  have q := f5 hm.2.1
  simp at hm q
  refine ⟨he, ?_⟩
  simp only [List.all_eq_true]
  intro b hb
  exact value_literal_ok b (hm.1 b hb) (by simpa using q b hb) (hm.2.2 b hb)

theorem mlLiteral_offered (s : Bytes) (e : Encoding) (h : vAsMlLiteral (valueMetrics s) = some e) :
    e = .mlLiteral ∧ noTriple 0x27 0 s = true ∧ s.all mllOK = true := by
  obtain ⟨he, hm⟩ := vAsMlLiteral_some _ _ h
  obtain ⟨f1, _, _, f4, _⟩ := vm_fold s ({}, 0, 0)
  unfold valueMetrics at hm
  refine ⟨he, f4 hm.2, ?_⟩
  rw [f1] at hm
  have h1 := hm.1
  simp at h1
  simp only [List.all_eq_true]
  intro b hb
  exact mll_ok_of_no_esc b (h1 b hb)

theorem kLiteral_offered (s : Bytes) (e : Option Encoding) (h : kAsLiteral (keyMetrics s) = some e) :
    e = some .literal ∧ s.all isLiteralChar = true := by
  obtain ⟨he, hm⟩ := kAsLiteral_some _ _ h
  obtain ⟨_, k2, k3⟩ := km_fold s { unquoted := !s.isEmpty }
  unfold keyMetrics at hm
  rw [k2, k3] at hm
  simp at hm
  refine ⟨he, ?_⟩
  simp only [List.all_eq_true]
  intro b hb
  exact key_literal_ok b (hm.1 b hb) (hm.2 b hb)

theorem unquoted_offered (s : Bytes) (e : Option Encoding) (h : kAsUnquoted (keyMetrics s) = some e) :
    e = none ∧ s ≠ [] ∧ s.all isUnquotedChar = true := by
  obtain ⟨he, hm⟩ := kAsUnquoted_some _ _ h
  obtain ⟨k1, _, _⟩ := km_fold s { unquoted := !s.isEmpty }
  unfold keyMetrics at hm
  rw [k1] at hm
  simp only [Bool.and_eq_true] at hm
  refine ⟨he, by intro e; subst e; simp at hm, ?_⟩
  have := hm.2
  simp only [List.all_eq_true] at this ⊢
  intro b hb; rw [← bare_is_unquoted]; exact this b hb

end TomlVerif.Lemmas
