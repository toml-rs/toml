import TomlVerif.Spec.AstString
import TomlVerif.Model.Key
import TomlVerif.Lemmas.Bytes
/-! C02, strings below the multi-line bodies: escapes, the two single-line kinds, bare keys (`takeUnquoted`,
    `simpleKey_bare`), and what the multi-line kinds need of white space, line continuations and the opening
    delimiter.  Every grammar-conformant spelling decodes to its specified value (`…_general`), and only such
    spellings are accepted (`…_sound`, `…_inv`). -/
namespace TomlVerif.Lemmas.S02
open TomlVerif TomlVerif.Spec TomlVerif.Spec.AstString TomlVerif.Model TomlVerif.Model.Strings TomlVerif.Lemmas

theorem hexVal_eq : ∀ b : UInt8, hexVal b = if isHexdig b then some (hexDigitVal b) else none :=
  forall_byte (by decide +kernel)

theorem hexdig_of_hexVal (b : UInt8) (v : Nat) (h : hexVal b = some v) : isHexdig b = true ∧ v = hexDigitVal b := by
  rw [hexVal_eq] at h
  by_cases hb : isHexdig b = true
  · rw [if_pos hb] at h; exact ⟨hb, (Option.some.inj h).symm⟩
  · rw [if_neg hb] at h; cases h

theorem hexN_digits (ds : Bytes) : ∀ (r : Bytes) (acc : Nat), ds.all isHexdig = true →
    hexN ds.length (ds ++ r) acc = some (ds.foldl (fun a d => a * 16 + hexDigitVal d) acc, r) := by
  induction ds with
  | nil => intro r acc _; simp [hexN]
  | cons d ds ih =>
    intro r acc h
    simp only [List.all_cons, Bool.and_eq_true] at h
    simp [hexN, hexVal_eq, h.1, ih r _ h.2]

theorem hexN_inv : ∀ (n : Nat) (s : Bytes) (acc cp : Nat) (r : Bytes), hexN n s acc = some (cp, r) →
    ∃ ds : Bytes, ds.length = n ∧ ds.all isHexdig = true ∧ s = ds ++ r ∧
      cp = ds.foldl (fun a d => a * 16 + hexDigitVal d) acc := by
  intro n
  induction n with
  | zero =>
    intro s acc cp r h
    simp [hexN] at h
    exact ⟨[], rfl, rfl, by simp [h.2], by simp [h.1]⟩
  | succ n ih =>
    intro s acc cp r h
    cases s with
    | nil => simp [hexN] at h
    | cons b t =>
      unfold hexN at h
      cases hv : hexVal b with
      | none => simp [hv] at h
      | some v =>
        simp only [hv] at h
        obtain ⟨hb, hv'⟩ := hexdig_of_hexVal b v hv
        obtain ⟨ds, hl, ha, hs, hc⟩ := ih t _ cp r h
        refine ⟨b :: ds, by simp [hl], by simp [hb, ha], by simp [hs], ?_⟩
        simp [hc, hv']

theorem hexescape_digits (ds r : Bytes) (h : ds.all isHexdig = true) :
    hexescape ds.length (ds ++ r) =
      if Utf8.isScalar (hexValue ds) then .ok (Utf8.encode (hexValue ds)) r else .cut := by
  have e : hexN ds.length (ds ++ r) 0 = some (hexValue ds, r) := hexN_digits ds r 0 h
  unfold hexescape
  rw [e]

theorem escapeSeqChar_table (c : UInt8) (r : Bytes) :
    escapeSeqChar (c :: r) =
      match escMeaning c with
      | some v => .ok [v] r
      | none => if c = 0x75 then hexescape 4 r else if c = 0x55 then hexescape 8 r else .cut := by
  unfold escapeSeqChar escMeaning
  by_cases h1 : c = 0x22
  · subst h1; rfl
  by_cases h2 : c = 0x5C
  · subst h2; rfl
  by_cases h3 : c = 0x62
  · subst h3; rfl
  by_cases h4 : c = 0x66
  · subst h4; rfl
  by_cases h5 : c = 0x6E
  · subst h5; rfl
  by_cases h6 : c = 0x72
  · subst h6; rfl
  by_cases h7 : c = 0x74
  · subst h7; rfl
  simp [h1, h2, h3, h4, h5, h6, h7]

theorem escapeSeqChar_wf (e : Escaped) (t : Bytes) (h : e.wf = true) :
    escapeSeqChar (e.tail ++ t) = .ok e.sem t := by
  cases e with
  | simple c =>
    simp only [Escaped.wf] at h
    simp only [Escaped.tail, List.cons_append, List.nil_append, escapeSeqChar_table, Escaped.sem]
    cases hm : escMeaning c with
    | none => simp [hm] at h
    | some v => rfl
  | u4 h0 h1 h2 h3 =>
    simp only [Escaped.wf, Bool.and_eq_true] at h
    have := hexescape_digits [h0, h1, h2, h3] t h.1
    simp only [h.2, if_true, List.length_cons, List.length_nil] at this
    simp only [Escaped.tail, List.cons_append, List.nil_append, escapeSeqChar_table, Escaped.sem]
    simpa [escMeaning] using this
  | u8 h0 h1 h2 h3 h4 h5 h6 h7 =>
    simp only [Escaped.wf, Bool.and_eq_true] at h
    have := hexescape_digits [h0, h1, h2, h3, h4, h5, h6, h7] t h.1
    simp only [h.2, if_true, List.length_cons, List.length_nil] at this
    simp only [Escaped.tail, List.cons_append, List.nil_append, escapeSeqChar_table, Escaped.sem]
    simpa [escMeaning] using this

/-- neither white space nor a newline has a meaning as an escape letter -/
theorem escaped_tail_head (e : Escaped) (h : e.wf = true) :
    ∃ c u, e.tail = c :: u ∧ isWschar c = false ∧ c ≠ 0x0A ∧ c ≠ 0x0D := by
  cases e with
  | simple c =>
    refine ⟨c, [], rfl, ?_, ?_, ?_⟩
    · cases hw : isWschar c with
      | false => rfl
      | true =>
        simp only [isWschar, Bool.or_eq_true, beq_iff_eq] at hw
        rcases hw with rfl | rfl <;> exact absurd h (by decide)
    · rintro rfl; exact absurd h (by decide)
    · rintro rfl; exact absurd h (by decide)
  | u4 h0 h1 h2 h3 => exact ⟨0x75, _, rfl, by decide, by decide, by decide⟩
  | u8 h0 h1 h2 h3 h4 h5 h6 h7 => exact ⟨0x55, _, rfl, by decide, by decide, by decide⟩

theorem escaped_tail_length_pos (e : Escaped) : 0 < e.tail.length := by
  cases e <;> simp [Escaped.tail]

theorem escapeSeqChar_inv (s c r : Bytes) (h : escapeSeqChar s = .ok c r) :
    ∃ e : Escaped, e.wf = true ∧ s = e.tail ++ r ∧ c = e.sem := by
  cases s with
  | nil => simp [escapeSeqChar] at h
  | cons b t =>
    rw [escapeSeqChar_table] at h
    cases hm : escMeaning b with
    | some v =>
      simp only [hm] at h
      injection h with h1 h2
      exact ⟨.simple b, by simp [Escaped.wf, hm], by simp [Escaped.tail, h2], by simp [Escaped.sem, hm, h1]⟩
    | none =>
      simp only [hm] at h
      have hex : ∀ n, hexescape n t = .ok c r → ∃ ds : Bytes, ds.length = n ∧ ds.all isHexdig = true ∧
          t = ds ++ r ∧ Utf8.isScalar (hexValue ds) = true ∧ c = Utf8.encode (hexValue ds) := by
        intro n hh
        unfold hexescape at hh
        cases hn : hexN n t 0 with
        | none => simp [hn] at hh
        | some p =>
          obtain ⟨cp, r'⟩ := p
          simp only [hn] at hh
          by_cases hs : Utf8.isScalar cp = true
          · simp only [hs, if_true] at hh
            injection hh with h1 h2
            obtain ⟨ds, hl, ha, hs', hc⟩ := hexN_inv n t 0 cp r' hn
            have hv : hexValue ds = cp := by simp [hexValue, hc]
            exact ⟨ds, hl, ha, by rw [hs', h2], by rw [hv]; exact hs, by rw [hv]; exact h1.symm⟩
          · simp [hs] at hh
      by_cases hu : b = 0x75
      · subst hu
        simp only [if_true] at h
        obtain ⟨ds, hl, ha, ht, hs, hc⟩ := hex 4 h
        match ds, hl with
        | [h0, h1, h2, h3], _ =>
          exact ⟨.u4 h0 h1 h2 h3, by simp only [Escaped.wf, ha, hs]; rfl, by simp [Escaped.tail, ht],
            by simp [Escaped.sem, hc]⟩
      · by_cases hU : b = 0x55
        · subst hU
          simp only [hu, if_false, if_true] at h
          obtain ⟨ds, hl, ha, ht, hs, hc⟩ := hex 8 h
          match ds, hl with
          | [h0, h1, h2, h3, h4, h5, h6, h7], _ =>
            exact ⟨.u8 h0 h1 h2 h3 h4 h5 h6 h7, by simp only [Escaped.wf, ha, hs]; rfl,
              by simp [Escaped.tail, ht], by simp [Escaped.sem, hc]⟩
        · simp [hu, hU] at h

theorem basicChar_render_length_pos (c : BasicChar) : 0 < c.render.length := by
  cases c <;> simp [BasicChar.render, Escaped.render]

theorem bslash_not_unescaped : isBasicUnescaped 0x5C = false := by decide
theorem quote_not_unescaped : isBasicUnescaped 0x22 = false := by decide

theorem basicUnescaped_ne (b : UInt8) (h : isBasicUnescaped b = true) :
    b ≠ 0x22 ∧ b ≠ 0x0A ∧ b ≠ 0x0D ∧ b ≠ 0x5C := by
  refine ⟨?_, ?_, ?_, ?_⟩ <;> (rintro rfl; exact absurd h (by decide))

theorem wfBasic_cons (c : BasicChar) (cs : List BasicChar) : wfBasic (c :: cs) = (c.wf && wfBasic cs) := rfl

theorem basic_char_step (fuel : Nat) (c : BasicChar) (t acc : Bytes) (h : c.wf = true) :
    basicBody (fuel + 1) (c.render ++ t) acc = basicBody fuel t (acc ++ c.sem) := by
  cases c with
  | raw b =>
    simp only [BasicChar.wf] at h
    simp [BasicChar.render, BasicChar.sem, basicBody, h]
  | escaped e =>
    simp only [BasicChar.wf] at h
    simp only [BasicChar.render, BasicChar.sem, Escaped.render, List.cons_append]
    conv => lhs; unfold basicBody
    simp only [bslash_not_unescaped, escapeSeqChar_wf e t h]
    simp

theorem basic_body_general (cs : List BasicChar) : ∀ (fuel : Nat) (rest acc : Bytes), wfBasic cs = true →
    (cs.flatMap BasicChar.render ++ 0x22 :: rest).length < fuel →
    basicBody fuel (cs.flatMap BasicChar.render ++ 0x22 :: rest) acc = .ok (acc ++ semBasic cs) rest := by
  induction cs with
  | nil =>
    intro fuel rest acc _ hf
    cases fuel with
    | zero => simp at hf
    | succ f => simp [basicBody, quote_not_unescaped, semBasic]
  | cons c cs ih =>
    intro fuel rest acc hw hf
    simp only [wfBasic, List.all_cons, Bool.and_eq_true] at hw
    cases fuel with
    | zero => simp at hf
    | succ f =>
      simp only [List.flatMap_cons, List.append_assoc] at hf ⊢
      rw [basic_char_step f c _ acc hw.1, ih f rest _ hw.2]
      · simp [semBasic]
      · have := basicChar_render_length_pos c
        simp only [List.length_append] at hf ⊢; omega

theorem basic_body_sound : ∀ (fuel : Nat) (s acc v rest : Bytes), basicBody fuel s acc = .ok v rest →
    ∃ cs : List BasicChar, wfBasic cs = true ∧ s = cs.flatMap BasicChar.render ++ 0x22 :: rest ∧
      v = acc ++ semBasic cs := by
  intro fuel
  induction fuel with
  | zero => intro s acc v rest h; simp [basicBody] at h
  | succ f ih =>
    intro s acc v rest h
    cases s with
    | nil => simp [basicBody] at h
    | cons b r =>
      unfold basicBody at h
      simp only [] at h
      by_cases hu : isBasicUnescaped b = true
      · simp only [hu, if_true] at h
        obtain ⟨cs, hw, hs, hv⟩ := ih r _ v rest h
        refine ⟨.raw b :: cs, ?_, ?_, ?_⟩
        · rw [wfBasic_cons, hw]; simp [BasicChar.wf, hu]
        · simp [BasicChar.render, hs]
        · simp [semBasic, BasicChar.sem, hv]
      · simp only [hu] at h
        by_cases hb : b = 0x5C
        · subst hb
          simp only [beq_self_eq_true, if_true] at h
          cases he : escapeSeqChar r with
          | bt => simp [he] at h
          | cut => simp [he] at h
          | ok c r' =>
            simp only [he] at h
            obtain ⟨e, hew, hes, hec⟩ := escapeSeqChar_inv r c r' he
            obtain ⟨cs, hw, hs, hv⟩ := ih r' _ v rest h
            refine ⟨.escaped e :: cs, ?_, ?_, ?_⟩
            · rw [wfBasic_cons, hw]; simp [BasicChar.wf, hew]
            · simp [BasicChar.render, Escaped.render, hes, hs]
            · simp [semBasic, BasicChar.sem, hv, hec]
        · have hb' : (b == 0x5C) = false := by simpa using hb
          simp only [hb'] at h
          by_cases hq : b = 0x22
          · subst hq
            simp at h
            exact ⟨[], rfl, by simp [h.2], by simp [semBasic, h.1]⟩
          · have hq' : (b == 0x22) = false := by simpa using hq
            simp [hq'] at h

theorem span_append {p : UInt8 → Bool} (s t : Bytes) (hs : s.all p = true) (ht : ∀ x r, t = x :: r → p x = false) :
    (s ++ t).takeWhile p = s ∧ (s ++ t).dropWhile p = t := by
  have hs' : ∀ a ∈ s, p a = true := by simpa using hs
  rw [List.takeWhile_append_of_pos hs', List.dropWhile_append_of_pos hs']
  cases t with
  | nil => simp
  | cons x r => simp [ht x r rfl]

theorem takeLiteral_eq (s : Bytes) : takeLiteral s = (s.takeWhile isLiteralChar, s.dropWhile isLiteralChar) := by
  induction s with
  | nil => rfl
  | cons b r ih => by_cases hb : isLiteralChar b = true <;> simp [takeLiteral, hb, ih]

theorem takeLiteral_spec (s : Bytes) : (takeLiteral s).1.all isLiteralChar = true ∧
    s = (takeLiteral s).1 ++ (takeLiteral s).2 := by
  rw [takeLiteral_eq]; exact ⟨List.all_takeWhile, List.takeWhile_append_dropWhile.symm⟩

theorem takeLiteral_all (s t : Bytes) (hs : s.all isLiteralChar = true) (ht : ∀ x r, t = x :: r → isLiteralChar x = false) :
    takeLiteral (s ++ t) = (s, t) := by
  rw [takeLiteral_eq, (span_append s t hs ht).1, (span_append s t hs ht).2]

theorem takeUnquoted_eq (s : Bytes) :
    Key.takeUnquoted s = (s.takeWhile isUnquotedChar, s.dropWhile isUnquotedChar) := by
  induction s with
  | nil => rfl
  | cons b r ih => by_cases hb : isUnquotedChar b = true <;> simp [Key.takeUnquoted, hb, ih]

theorem takeUnquoted_all (s t : Bytes) (hs : s.all isUnquotedChar = true) (ht : ∀ x r, t = x :: r → isUnquotedChar x = false) :
    Key.takeUnquoted (s ++ t) = (s, t) := by
  rw [takeUnquoted_eq, (span_append s t hs ht).1, (span_append s t hs ht).2]

theorem _root_.TomlVerif.Lemmas.Value01.unquoted_not_quote (b : UInt8) (h : isUnquotedChar b = true) :
    (b == 0x22) = false ∧ (b == 0x27) = false :=
  ⟨beq_eq_false_iff_ne.2 (ne_of_class h (by decide)), beq_eq_false_iff_ne.2 (ne_of_class h (by decide))⟩

theorem _root_.TomlVerif.Lemmas.Value01.simpleKey_bare (key Z : Bytes) (hne : key ≠ []) (hk : ∀ b ∈ key, isUnquotedChar b = true)
    (hZ : ∀ b r, Z = b :: r → isUnquotedChar b = false) : Key.simpleKey (key ++ Z) = .ok key Z := by
  cases key with
  | nil => exact absurd rfl hne
  | cons b key =>
    have hb := Value01.unquoted_not_quote b (hk b (by simp))
    have ht := takeUnquoted_all (b :: key) Z (List.all_eq_true.2 hk) hZ
    simp only [List.cons_append] at ht
    simp [Key.simpleKey, hb.1, hb.2, Key.unquotedKey, ht]

theorem newline?_nlBytes (c : Bool) (t : Bytes) : newline? (nlBytes c ++ t) = some t := by
  cases c <;> simp [nlBytes, newline?]

theorem nlBytes_length_pos (c : Bool) : 0 < (nlBytes c).length := by cases c <;> simp [nlBytes]

theorem nlBytes_head (c : Bool) : ∃ x u, nlBytes c = x :: u ∧ isWschar x = false ∧ (x = 0x0A ∨ x = 0x0D) := by
  cases c
  · exact ⟨0x0A, [], rfl, by decide, Or.inl rfl⟩
  · exact ⟨0x0D, [0x0A], rfl, by decide, Or.inr rfl⟩

theorem newline?_none (x : UInt8) (t : Bytes) (h1 : x ≠ 0x0A) (h2 : x ≠ 0x0D) : newline? (x :: t) = none := by
  unfold newline?
  split
  · rename_i r h; injection h with h _; exact absurd h h1
  · rename_i r h; injection h with h _; exact absurd h h2
  · rfl

theorem newline?_inv (s r' : Bytes) (h : newline? s = some r') : ∃ c, s = nlBytes c ++ r' := by
  unfold newline? at h
  split at h
  · injection h with h; subst h; exact ⟨false, rfl⟩
  · injection h with h; subst h; exact ⟨true, rfl⟩
  · cases h

theorem dropWs_eq (s : Bytes) : dropWs s = s.dropWhile isWschar := by
  induction s with
  | nil => rfl
  | cons b r ih => unfold dropWs; rw [List.dropWhile_cons, ih]

theorem dropWs_all (ws : Bytes) (x : UInt8) (t : Bytes) (h : ws.all isWschar = true) (hx : isWschar x = false) :
    dropWs (ws ++ x :: t) = x :: t := by
  rw [dropWs_eq, List.dropWhile_append_of_pos (by simpa using h), List.dropWhile_cons_of_neg (by simp [hx])]

theorem dropWs_inv (s : Bytes) : ∃ ws1 : Bytes, ws1.all isWschar = true ∧ s = ws1 ++ dropWs s :=
  ⟨s.takeWhile isWschar, by simp, by rw [dropWs_eq, List.takeWhile_append_dropWhile]⟩

theorem mlbEscapedNl_none_of_head (fuel : Nat) (c : UInt8) (u : Bytes) (hw : isWschar c = false)
    (h1 : c ≠ 0x0A) (h2 : c ≠ 0x0D) : mlbEscapedNl fuel (c :: u) = none := by
  simp [mlbEscapedNl, dropWs, hw, newline?_none c u h1 h2]

/-- `t` is where `*( wschar / newline )` stops -/
def Fix (t : Bytes) : Prop := ∀ b u, t = b :: u → isWschar b = false ∧ newline? (b :: u) = none

theorem dropWsNewline_fix (fuel : Nat) (t : Bytes) (h : Fix t) : dropWsNewline fuel t = t := by
  cases fuel with
  | zero => rfl
  | succ f =>
    cases t with
    | nil => rfl
    | cons x u =>
      obtain ⟨h1, h2⟩ := h x u rfl
      simp [dropWsNewline, h1, h2]

theorem wsnl_render_length_pos (w : WsNl) : 0 < w.render.length := by
  cases w with
  | ws b => simp [WsNl.render]
  | nl c => exact nlBytes_length_pos c

theorem dropWsNewline_more (more : List WsNl) : ∀ (fuel : Nat) (t : Bytes), more.all WsNl.wf = true → Fix t →
    (more.flatMap WsNl.render).length ≤ fuel →
    dropWsNewline fuel (more.flatMap WsNl.render ++ t) = t := by
  induction more with
  | nil => intro fuel t _ hs _; simpa using dropWsNewline_fix fuel t hs
  | cons w more ih =>
    intro fuel t hw hs hf
    simp only [List.all_cons, Bool.and_eq_true] at hw
    have hpos := wsnl_render_length_pos w
    simp only [List.flatMap_cons, List.length_append] at hf
    cases fuel with
    | zero => omega
    | succ f =>
      cases w with
      | ws b =>
        simp only [WsNl.wf] at hw
        simp only [List.flatMap_cons, WsNl.render, List.cons_append, List.nil_append]
        unfold dropWsNewline
        simp only [hw.1, if_true]
        exact ih f t hw.2 hs (by omega)
      | nl c =>
        obtain ⟨x, u, hxu, hxw, _⟩ := nlBytes_head c
        have hn := newline?_nlBytes c (more.flatMap WsNl.render ++ t)
        simp only [List.flatMap_cons, WsNl.render, List.append_assoc]
        rw [hxu] at hn ⊢
        simp only [List.cons_append] at hn ⊢
        unfold dropWsNewline
        simp only [hxw, hn]
        exact ih f t hw.2 hs (by omega)

theorem dropWsNewline_inv : ∀ (fuel : Nat) (s : Bytes), s.length < fuel →
    ∃ more : List WsNl, more.all WsNl.wf = true ∧ s = more.flatMap WsNl.render ++ dropWsNewline fuel s ∧
      Fix (dropWsNewline fuel s) := by
  intro fuel
  induction fuel with
  | zero => intro s h; omega
  | succ f ih =>
    intro s hl
    cases s with
    | nil => exact ⟨[], rfl, rfl, by intro b u h; cases h⟩
    | cons b r =>
      simp only [List.length_cons] at hl
      by_cases hb : isWschar b = true
      · obtain ⟨more, h1, h2, h3⟩ := ih r (by omega)
        have e : dropWsNewline (f + 1) (b :: r) = dropWsNewline f r := by simp [dropWsNewline, hb]
        rw [e]
        refine ⟨.ws b :: more, by simp [WsNl.wf, hb, h1], ?_, h3⟩
        simp only [List.flatMap_cons, WsNl.render, List.cons_append, List.nil_append]
        rw [← h2]
      · have hb' : isWschar b = false := by simpa using hb
        cases hn : newline? (b :: r) with
        | none =>
          have e : dropWsNewline (f + 1) (b :: r) = b :: r := by simp [dropWsNewline, hb', hn]
          rw [e]
          refine ⟨[], rfl, by simp, ?_⟩
          intro b' u e
          injection e with e1 e2; subst e1; subst e2
          exact ⟨hb', hn⟩
        | some r' =>
          obtain ⟨c, hc⟩ := newline?_inv _ _ hn
          have hlen : r'.length < f := by
            have := congrArg List.length hc
            have hp := nlBytes_length_pos c
            simp only [List.length_cons, List.length_append] at this
            omega
          obtain ⟨more, h1, h2, h3⟩ := ih r' hlen
          have e : dropWsNewline (f + 1) (b :: r) = dropWsNewline f r' := by simp [dropWsNewline, hb', hn]
          rw [e]
          refine ⟨.nl c :: more, by simp [WsNl.wf, h1], ?_, h3⟩
          simp only [List.flatMap_cons, WsNl.render, List.append_assoc]
          rw [← h2]; exact hc

theorem mlBasicString_bt_of_second (x : UInt8) (t : Bytes) (hx : x ≠ 0x22) : mlBasicString (0x22 :: x :: t) = .bt := by
  unfold mlBasicString; split
  · rename_i r h; injection h with _ h; injection h with h _; exact absurd h hx
  · rfl

theorem mlBasicString_bt_of_third (rest : Bytes) (h : rest.head? ≠ some 0x22) : mlBasicString (0x22 :: 0x22 :: rest) = .bt := by
  unfold mlBasicString; split
  · rename_i r e; injection e with _ e; injection e with _ e; subst e; exact absurd rfl h
  · rfl

theorem mlLiteralString_bt_of_second (x : UInt8) (t : Bytes) (hx : x ≠ 0x27) : mlLiteralString (0x27 :: x :: t) = .bt := by
  unfold mlLiteralString; split
  · rename_i r h; injection h with _ h; injection h with h _; exact absurd h hx
  · rfl

theorem mlLiteralString_bt_of_third (rest : Bytes) (h : rest.head? ≠ some 0x27) : mlLiteralString (0x27 :: 0x27 :: rest) = .bt := by
  unfold mlLiteralString; split
  · rename_i r e; injection e with _ e; injection e with _ e; subst e; exact absurd rfl h
  · rfl

end TomlVerif.Lemmas.S02
