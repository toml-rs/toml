import TomlVerif.Lemmas.Good07
/-! C07, reading back (decoder side): introduction rules of `Good` for maps, derived structs and derived enums. -/
namespace TomlVerif.Lemmas.SerTyped07
open TomlVerif TomlVerif.Model TomlVerif.Model.TomlValue TomlVerif.Model.DeRoutes TomlVerif.Model.DeTyped
open TomlVerif.Model.DeText (presOfItem presOfVal presOfTbl presOfVals presOfValPairs presOfTbls presOfItems)
open TomlVerif.Model.SerTyped TomlVerif.Lemmas.DeTyped13 TomlVerif.Lemmas.DeRoutes13

theorem goodPairs_edit (fl : Flavour) (t : Ty) (c : EditCfg) (f : Bytes × ESrc → R (Bytes × Dec))
    (hf : ∀ k i, f (k, ESrc.item i) = rmap (fun d => (k, d)) (decodeEdit c fl t i)) :
    ∀ (es : List (Bytes × Item)) (nds : List (Bytes × Dec)),
    GoodPairs fl t (pairsTV es) nds → mapE f (es.map fun kv => (kv.1, ESrc.item kv.2)) = .ok nds
  | [], [], _ => rfl
  | [], _ :: _, h => by simp [pairsTV, GoodPairs] at h
  | _ :: _, [], h => by simp [pairsTV, GoodPairs] at h
  | (k, i) :: es, (k', d) :: ds, h => by
    simp only [pairsTV, List.map_cons, GoodPairs] at h
    obtain ⟨hk, hg, hr⟩ := h
    subst hk
    have ih := goodPairs_edit fl t c f hf es ds hr
    simp only [List.map_cons, mapE]
    rw [ih, hf, hg.1 c i rfl]; rfl

theorem goodPairs_value (fl : Flavour) (t : Ty) (cv : ValueCfg) : ∀ (es : List (Bytes × TV)) (nds : List (Bytes × Dec)),
    GoodPairs fl t es nds →
    mapE (fun kv : Bytes × TV => rmap (fun d => (kv.1, d)) (decodeValue cv fl t kv.2)) es = .ok nds
  | [], [], _ => rfl
  | [], _ :: _, h => by simp [GoodPairs] at h
  | _ :: _, [], h => by simp [GoodPairs] at h
  | (k, w) :: es, (k', d) :: ds, h => by
    simp only [GoodPairs] at h
    obtain ⟨hk, hg, hr⟩ := h
    subst hk
    simp only [mapE]
    rw [goodPairs_value fl t cv es ds hr, hg.2 cv]; rfl

theorem good_map (fl : Flavour) (t : Ty) (es : List (Bytes × TV)) (nds : List (Bytes × Dec))
    (h : GoodPairs fl t es nds) : Good fl (.map t) (.tbl es) (.map (collectSorted [] nds)) := by
  constructor
  · intro c it hit
    obtain ⟨es0, hk, he⟩ := kind_of_tbl hit
    obtain ⟨_, _, h3, _⟩ := view_entries hk
    unfold decodeEdit
    subst he
    rw [h3]
    simp only []
    rw [goodPairs_edit fl t c _ (fun k i => rfl) es0 nds h]; rfl
  · intro cv
    unfold decodeValue
    simp only [valueMapEntries]
    rw [goodPairs_value fl t cv es nds h]; rfl

theorem goodFields_edit (fl : Flavour) (c : EditCfg) : ∀ (fs : Fields) (es : List (Bytes × Item)) (nds : List (Bytes × Dec)),
    GoodFields fl fs (pairsTV es) nds →
    decodeEditFields c fl fs (es.map fun kv => (kv.1, ESrc.item kv.2)) = .ok nds
  | .nil, es, nds, h => by simp only [GoodFields] at h; rw [decodeEditFields, h]
  | .cons name t dflt r, es, nds, h => by
    simp only [GoodFields] at h
    obtain ⟨nd, rest, hn, hm, hr⟩ := h
    subst hn
    rw [decodeEditFields, goodFields_edit fl c r es rest hr, alookup_map]
    rw [pairsTV, alookup_map] at hm
    cases hl : alookup name es with
    | none =>
      rw [hl] at hm
      simp only [Option.map_none] at hm ⊢
      cases dflt with
      | true => simp only [if_true] at hm; subst hm; rfl
      | false => simp only [Bool.false_eq_true, if_false] at hm ⊢; rw [hm]; rfl
    | some i =>
      rw [hl] at hm
      simp only [Option.map_some] at hm ⊢
      rw [hm.1 c i rfl]; rfl

theorem goodFields_value (fl : Flavour) (cv : ValueCfg) : ∀ (fs : Fields) (es : List (Bytes × TV)) (nds : List (Bytes × Dec)),
    GoodFields fl fs es nds → decodeValueFields cv fl fs es = .ok nds
  | .nil, es, nds, h => by simp only [GoodFields] at h; rw [decodeValueFields, h]
  | .cons name t dflt r, es, nds, h => by
    simp only [GoodFields] at h
    obtain ⟨nd, rest, hn, hm, hr⟩ := h
    subst hn
    rw [decodeValueFields, goodFields_value fl cv r es rest hr]
    cases hl : alookup name es with
    | none =>
      rw [hl] at hm
      simp only at hm ⊢
      cases dflt with
      | true => simp only [if_true] at hm; subst hm; rfl
      | false => simp only [Bool.false_eq_true, if_false] at hm ⊢; rw [hm]; rfl
    | some w =>
      rw [hl] at hm
      simp only at hm ⊢
      rw [hm.2 cv]; rfl

/-- the body shared by `deserialize_struct` and `struct_variant` on a table -/
theorem struct_body_edit (fl : Flavour) (c : EditCfg) (fs : Fields) (W : List (Bytes × Dec) → Dec) (it : Item)
    (es : List (Bytes × TV)) (nds : List (Bytes × Dec)) (hit : plainItem it = .tbl es)
    (hd : dupField fs (es.map Prod.fst) = false) (h : GoodFields fl fs es nds) :
    (match editMapEntries it with
     | some es =>
       if dupField fs (es.map Prod.fst) then fail else
       rmap W (decodeEditFields c fl fs es)
     | none =>
       match itemElems it with
       | some l =>
         rmap W (decodeEditFieldsSeq c fl fs l)
       | none => fail) = .ok (W nds) := by
  obtain ⟨es0, hk, he⟩ := kind_of_tbl hit
  obtain ⟨_, _, h3, _⟩ := view_entries hk
  subst he
  rw [h3]
  rw [pairsTV_keys] at hd
  simp only [srcKeys, hd, Bool.false_eq_true, if_false, goodFields_edit fl c fs es0 nds h]; rfl

theorem struct_body_value (fl : Flavour) (cv : ValueCfg) (fs : Fields) (W : List (Bytes × Dec) → Dec)
    (es : List (Bytes × TV)) (nds : List (Bytes × Dec))
    (hd : dupField fs (es.map Prod.fst) = false) (h : GoodFields fl fs es nds) :
    (match valueMapEntries (.tbl es) with
     | some es =>
       if dupField fs (es.map Prod.fst) then fail else
       rmap W (decodeValueFields cv fl fs es)
     | none =>
       match TV.tbl es with
       | .arr l =>
         if cv.trailingCheck && l.length > fs.length then fail else
         rmap W (decodeValueFieldsSeq cv fl fs l)
       | _ => (fail : R Dec)) = .ok (W nds) := by
  simp only [valueMapEntries, hd, Bool.false_eq_true, if_false, goodFields_value fl cv fs es nds h]; rfl

theorem good_struct (fl : Flavour) (fs : Fields) (es : List (Bytes × TV)) (nds : List (Bytes × Dec))
    (hd : dupField fs (es.map Prod.fst) = false) (h : GoodFields fl fs es nds) :
    Good fl (.struct fs) (.tbl es) (.struct nds) := by
  constructor
  · intro c it hit
    unfold decodeEdit
    exact struct_body_edit fl c fs Dec.struct it es nds hit hd h
  · intro cv
    unfold decodeValue
    exact struct_body_value fl cv fs Dec.struct es nds hd h

theorem dupField_nodup (fs : Fields) : ∀ ks : List Bytes, ks.Nodup → dupField fs ks = false
  | [], _ => rfl
  | k :: r, h => by
    rw [List.nodup_cons] at h
    have : r.contains k = false := by
      cases hc : r.contains k with
      | false => rfl
      | true => exact absurd (by simpa using hc) h.1
    simp [dupField, dupField_nodup fs r h.2]
    intro _; exact h.1

theorem good_enum_str (fl : Flavour) (vs : Variants) (s : Bytes) (nd : Dec) (h : unitOnlyVariant vs s = .ok nd) :
    Good fl (.enum vs) (.str s) nd := by
  constructor
  · intro c it hit
    rw [item_of_str hit]
    unfold decodeEdit
    exact h
  · intro cv
    unfold decodeValue
    exact h

/-- a payload below the variant key, of the shape the serializers produce for that kind of variant -/
def GoodShape (fl : Flavour) : Shape → Bytes → TV → Dec → Prop
  | .unit, _, _, _ => False
  | .newtype t, n, p, nd => ∃ nd', nd = .vNewtype n nd' ∧ Good fl t p nd'
  | .tuple ts, n, p, nd => ∃ ws nds, p = .arr ws ∧ nd = .vTuple n nds ∧ GoodTys fl ts ws nds
  | .struct fs, n, p, nd => ∃ es nds, p = .tbl es ∧ nd = .vStruct n nds ∧
      (∀ k ∈ es.map Prod.fst, fs.hasName k = true) ∧ dupField fs (es.map Prod.fst) = false ∧ GoodFields fl fs es nds

def GoodVariants (fl : Flavour) : Variants → Bytes → TV → Dec → Prop
  | .nil, _, _, _ => False
  | .cons name s r, k, p, nd => if name == k then GoodShape fl s name p nd else GoodVariants fl r k p nd

theorem any_not_hasName (fs : Fields) : ∀ (es : List (Bytes × Item)),
    (∀ k ∈ es.map Prod.fst, fs.hasName k = true) → (es.any fun kv => !fs.hasName kv.1) = false
  | [], _ => rfl
  | (k, i) :: r, h => by
    simp only [List.any_cons, Bool.or_eq_false_iff, Bool.not_eq_false']
    exact ⟨h k (by simp), any_not_hasName fs r (fun k' hk' => h k' (by simp at hk' ⊢; exact .inr hk'))⟩

theorem goodShape_edit (fl : Flavour) (c : EditCfg) (s : Shape) (n : Bytes) (i : Item) (nd : Dec)
    (h : GoodShape fl s n (plainItem i) nd) : decodeEditShape c fl s n i = .ok nd := by
  cases s with
  | unit => simp [GoodShape] at h
  | newtype t =>
    obtain ⟨nd', hn, hg⟩ := h
    unfold decodeEditShape
    rw [hg.1 c i rfl, hn]; rfl
  | tuple ts =>
    obtain ⟨ws, nds, hp, hn, hg⟩ := h
    obtain ⟨l, hk, hl⟩ := kind_of_arr hp
    obtain ⟨h1, _⟩ := view_elems hk
    unfold decodeEditShape
    subst hl
    have hlen := goodTys_length fl ts _ nds hg
    rw [List.length_map] at hlen
    rw [h1]
    simp only [hlen, beq_self_eq_true, if_true, goodTys_edit fl c ts l nds hg, hn]; rfl
  | struct fs =>
    obtain ⟨es, nds, hp, hn, hkeys, hd, hg⟩ := h
    unfold decodeEditShape
    have hbody := struct_body_edit fl c fs (Dec.vStruct n) i es nds hp hd hg
    obtain ⟨es0, hk, he⟩ := kind_of_tbl hp
    obtain ⟨_, h2, _⟩ := view_entries hk
    subst he
    rw [pairsTV_keys] at hkeys
    rw [h2]
    simp only [any_not_hasName fs es0 hkeys, Bool.and_false, Bool.false_eq_true, if_false]
    rw [hn]; exact hbody

theorem goodShape_value (fl : Flavour) (cv : ValueCfg) (s : Shape) (n : Bytes) (p : TV) (nd : Dec)
    (h : GoodShape fl s n p nd) : decodeValueShape cv fl s n p = .ok nd := by
  cases s with
  | unit => simp [GoodShape] at h
  | newtype t =>
    obtain ⟨nd', hn, hg⟩ := h
    unfold decodeValueShape
    rw [hg.2 cv, hn]; rfl
  | tuple ts =>
    obtain ⟨ws, nds, hp, hn, hg⟩ := h
    subst hp
    unfold decodeValueShape
    have hlen := goodTys_length fl ts _ nds hg
    simp only [hlen, beq_self_eq_true, if_true, goodTys_value fl cv ts ws nds hg, hn]; rfl
  | struct fs =>
    obtain ⟨es, nds, hp, hn, hkeys, hd, hg⟩ := h
    subst hp
    unfold decodeValueShape
    rw [hn]; exact struct_body_value fl cv fs (Dec.vStruct n) es nds hd hg

theorem goodVariants_edit (fl : Flavour) (c : EditCfg) : ∀ (vs : Variants) (k : Bytes) (i : Item) (nd : Dec),
    GoodVariants fl vs k (plainItem i) nd → decodeEditVariants c fl vs k i = .ok nd
  | .nil, _, _, _, h => by simp [GoodVariants] at h
  | .cons name s r, k, i, nd, h => by
    rw [decodeEditVariants]
    simp only [GoodVariants] at h
    split
    · rename_i hn; rw [if_pos hn] at h; exact goodShape_edit fl c s name i nd h
    · rename_i hn; rw [if_neg hn] at h; exact goodVariants_edit fl c r k i nd h

theorem goodVariants_value (fl : Flavour) (cv : ValueCfg) : ∀ (vs : Variants) (k : Bytes) (p : TV) (nd : Dec),
    GoodVariants fl vs k p nd → decodeValueVariants cv fl vs k p = .ok nd
  | .nil, _, _, _, h => by simp [GoodVariants] at h
  | .cons name s r, k, p, nd, h => by
    rw [decodeValueVariants]
    simp only [GoodVariants] at h
    split
    · rename_i hn; rw [if_pos hn] at h; exact goodShape_value fl cv s name p nd h
    · rename_i hn; rw [if_neg hn] at h; exact goodVariants_value fl cv r k p nd h

theorem good_enum_tbl (fl : Flavour) (vs : Variants) (k : Bytes) (p : TV) (nd : Dec)
    (h : GoodVariants fl vs k p nd) : Good fl (.enum vs) (.tbl [(k, p)]) nd := by
  constructor
  · intro c it hit
    obtain ⟨es0, hk, he⟩ := kind_of_tbl hit
    obtain ⟨_, h2, _, h4, _⟩ := view_entries hk
    unfold decodeEdit
    match es0, he, h2 with
    | [(k', i)], he, h2 =>
      simp only [pairsTV, List.map_cons, List.map_nil, List.cons.injEq, Prod.mk.injEq, and_true] at he
      obtain ⟨hk', hp⟩ := he
      subst hk' hp
      split
      · exact absurd rfl (h4 _)
      · rw [h2]; exact goodVariants_edit fl c vs _ i nd h
    | [], he, _ => simp [pairsTV] at he
    | _ :: _ :: _, he, _ => simp [pairsTV] at he
  · intro cv
    unfold decodeValue
    exact goodVariants_value fl cv vs k p nd h

end TomlVerif.Lemmas.SerTyped07
