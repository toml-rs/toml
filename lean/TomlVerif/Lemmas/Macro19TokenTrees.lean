import TomlVerif.Model.Macro
/-! C19: the token-tree builder `parseTTs` inverts the flattening of token trees.
    `flatTTs ts` is the flat token sequence rustc's lexer produces for the trees `ts` (delimiters written out);
    `parseTTs (flatTTs ts) = some ts` for every list of trees. -/
namespace TomlVerif.Lemmas.Macro19c
open TomlVerif TomlVerif.Model TomlVerif.Model.Macro

mutual
def flatTT : TT → List FTok
  | .tok t => [.t t]
  | .group d ts => .opn d :: (flatTTs ts ++ [.cls d])
def flatTTs : List TT → List FTok
  | [] => []
  | t :: r => flatTT t ++ flatTTs r
end

theorem flatTTs_append (a b : List TT) : flatTTs (a ++ b) = flatTTs a ++ flatTTs b := by
  induction a with
  | nil => simp [flatTTs]
  | cons t r ih => simp [flatTTs, ih]

theorem flatTTs_tok (t : Tok) : flatTTs [.tok t] = [.t t] := by simp [flatTTs, flatTT]
theorem flatTTs_group (d : Delim) (ts : List TT) : flatTTs [.group d ts] = .opn d :: (flatTTs ts ++ [.cls d]) := by
  simp [flatTTs, flatTT]

mutual
theorem flatTT_length : ∀ t : TT, (flatTT t).length = sizeTT t
  | .tok _ => by simp [flatTT, sizeTT]
  | .group d ts => by simp [flatTT, sizeTT, flatTTs_length ts]; omega
theorem flatTTs_length : ∀ ts : List TT, (flatTTs ts).length = sizeTTs ts
  | [] => by simp [flatTTs, sizeTTs]
  | t :: r => by simp [flatTTs, sizeTTs, flatTT_length t, flatTTs_length r]
end

theorem one_le_sizeTT : ∀ t : TT, 1 ≤ sizeTT t
  | .tok _ => by simp [sizeTT]
  | .group _ _ => by simp [sizeTT]; omega

theorem length_le_size : ∀ ts : List TT, ts.length ≤ sizeTTs ts
  | [] => by simp [sizeTTs]
  | t :: r => by
    have := length_le_size r
    have := one_le_sizeTT t
    simp [sizeTTs]; omega

mutual
theorem parseSeq_tt : ∀ (t : TT) (n : Nat) (close : Option Delim) (rest : List FTok) (acc : List TT), sizeTT t ≤ n →
    parseSeq (n + 1) close (flatTT t ++ rest) acc = parseSeq n close rest (t :: acc)
  | .tok t, n, close, rest, acc, _ => by simp [flatTT, parseSeq]
  | .group d ts, n, close, rest, acc, h => by
    have hs : sizeTT (.group d ts) = 2 + sizeTTs ts := by simp [sizeTT]
    rw [hs] at h
    obtain ⟨m, rfl⟩ : ∃ m, n = m + 1 := ⟨n - 1, by omega⟩
    have hl := length_le_size ts
    have ih := parseSeq_tts ts m (some d) (.cls d :: rest) [] (by omega)
    have e : flatTT (.group d ts) ++ rest = .opn d :: (flatTTs ts ++ (.cls d :: rest)) := by simp [flatTT]
    rw [e, parseSeq, ih]
    obtain ⟨k, hk⟩ : ∃ k, m + 1 - ts.length = k + 1 := ⟨m - ts.length, by omega⟩
    rw [hk]
    simp [parseSeq]
/-- a list of trees costs its length: the body of a group runs on a copy of the fuel, so at its own level every
    tree takes one unit (the hypothesis `sizeTTs ts ≤ n` is what the copies need) -/
theorem parseSeq_tts : ∀ (ts : List TT) (n : Nat) (close : Option Delim) (rest : List FTok) (acc : List TT), sizeTTs ts ≤ n →
    parseSeq (n + 1) close (flatTTs ts ++ rest) acc = parseSeq (n + 1 - ts.length) close rest (ts.reverse ++ acc)
  | [], n, close, rest, acc, _ => by simp [flatTTs]
  | t :: r, n, close, rest, acc, h => by
    have hs : sizeTTs (t :: r) = sizeTT t + sizeTTs r := by simp [sizeTTs]
    rw [hs] at h
    have h1 := one_le_sizeTT t
    obtain ⟨m, rfl⟩ : ∃ m, n = m + 1 := ⟨n - 1, by omega⟩
    have e : flatTTs (t :: r) ++ rest = flatTT t ++ (flatTTs r ++ rest) := by simp [flatTTs]
    rw [e, parseSeq_tt t (m + 1) close _ acc (by omega), parseSeq_tts r m close rest (t :: acc) (by omega)]
    have : m + 1 + 1 - (t :: r).length = m + 1 - r.length := by simp
    rw [this]
    simp
end

theorem parseTTs_flat (ts : List TT) : parseTTs (flatTTs ts) = some ts := by
  unfold parseTTs
  have h := parseSeq_tts ts (flatTTs ts).length none [] [] (by rw [flatTTs_length]; exact Nat.le_refl _)
  rw [List.append_nil] at h
  rw [h]
  have hl := length_le_size ts
  rw [flatTTs_length]
  obtain ⟨k, hk⟩ : ∃ k, sizeTTs ts + 1 - ts.length = k + 1 := ⟨sizeTTs ts - ts.length, by omega⟩
  rw [hk]
  simp [parseSeq]

theorem tokens_of_lex (s : Bytes) (ts : List TT) (h : lex s = some (flatTTs ts)) : tokens s = some ts := by
  unfold tokens
  rw [h]
  exact parseTTs_flat ts

end TomlVerif.Lemmas.Macro19c
