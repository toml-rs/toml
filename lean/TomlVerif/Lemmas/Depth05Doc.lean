import TomlVerif.Lemmas.TreeInduct
import TomlVerif.Lemmas.StateInv
import TomlVerif.Lemmas.DocStmts
/-! Nesting depth of the decoded document tree (C05, document level): the invariant `OkTbl n d` ("this table sits
    `n` keys below the root; `d` of the tables between it and its nearest header-made ancestor were made by dotted
    keys") and the bound it gives, `nestTbl t ≤ 3 * LIMIT - 2` for the root.  The invariant is an entrywise tree
    property (`okInv`), so the definition state machine keeps it (`Lemmas/StateInv.lean`) for every statement that
    fits; the statements of a text do, by the bounds on dotted keys and on the nesting of values. -/
namespace TomlVerif.Lemmas.Depth05Doc
open TomlVerif TomlVerif.Spec TomlVerif.Model TomlVerif.Model.Value TomlVerif.Model.State TomlVerif.Model.Doc
open TomlVerif.Lemmas.Depth05 TomlVerif.Lemmas.State09 TomlVerif.Lemmas.StateInv TomlVerif.Lemmas.DocStmts
open TomlVerif.Lemmas.TreeInduct (item_induct)

mutual
/-- nesting depth of an item: a value counts its own nesting, a table one level plus its deepest entry, an array
    of tables one level for the array plus its deepest table -/
def nestItem : Item → Nat
  | .value v => nest v
  | .table t => nestTbl t
  | .aot ts => 1 + nestTbls ts
def nestTbl : Tbl → Nat
  | .mk items _ _ _ => 1 + nestItems items
def nestItems : List (Bytes × Item) → Nat
  | [] => 0
  | (_, it) :: r => max (nestItem it) (nestItems r)
def nestTbls : List Tbl → Nat
  | [] => 0
  | t :: r => max (nestTbl t) (nestTbls r)
end

example : nestTbl (.mk [([1], .value (.arr [.int 1])), ([2], .aot [.mk [([3], .value (.int 1))] false false none])]
    false false none) = 3 := by decide

theorem nestTbl_eq (t : Tbl) : nestTbl t = 1 + nestItems t.items := by
  obtain ⟨i, a, b, c⟩ := t; rw [nestTbl]; rfl

theorem nestItems_le (B : Nat) (l : List (Bytes × Item)) : nestItems l ≤ B ↔ ∀ p ∈ l, nestItem p.2 ≤ B := by
  induction l with
  | nil => simp [nestItems]
  | cons x r ih =>
    obtain ⟨k, it⟩ := x
    simp only [nestItems, List.mem_cons, forall_eq_or_imp, ← ih]
    omega

theorem nestTbls_le (B : Nat) (l : List Tbl) : nestTbls l ≤ B ↔ ∀ t ∈ l, nestTbl t ≤ B := by
  induction l with
  | nil => simp [nestTbls]
  | cons x r ih =>
    simp only [nestTbls, List.mem_cons, forall_eq_or_imp, ← ih]
    omega

mutual
/-- `OkItem it n d`: `it` is an entry of a table that sits `n` keys below the root and `d` dotted-key tables below
    its nearest header-made ancestor.  Values stay below the limit together with the dotted tables above them;
    every table or array of tables made by a header sits fewer than `LIMIT` keys below the root. -/
def OkItem : Item → Nat → Nat → Prop
  | .value v, _, d => d + nest v < LIMIT
  | .table t, n, d =>
    (t.dotted = true → d + 1 < LIMIT ∧ OkTbl t (n + 1) (d + 1)) ∧
    (t.dotted = false → n + 1 < LIMIT ∧ OkTbl t (n + 1) 0)
  | .aot ts, n, _ => n + 1 < LIMIT ∧ OkTbls ts (n + 1)
def OkTbl : Tbl → Nat → Nat → Prop
  | .mk items _ _ _, n, d => OkItems items n d
def OkItems : List (Bytes × Item) → Nat → Nat → Prop
  | [], _, _ => True
  | (_, it) :: r, n, d => OkItem it n d ∧ OkItems r n d
def OkTbls : List Tbl → Nat → Prop
  | [], _ => True
  | t :: r, n => OkTbl t n 0 ∧ OkTbls r n
end

theorem okItems_iff (l : List (Bytes × Item)) (n d : Nat) : OkItems l n d ↔ ∀ p ∈ l, OkItem p.2 n d := by
  induction l with
  | nil => simp [OkItems]
  | cons x r ih => obtain ⟨k, it⟩ := x; simp [OkItems, ih]

theorem okTbls_iff (l : List Tbl) (n : Nat) : OkTbls l n ↔ ∀ t ∈ l, OkTbl t n 0 := by
  induction l with
  | nil => simp [OkTbls]
  | cons x r ih => simp [OkTbls, ih]

theorem okTbl_iff (t : Tbl) (n d : Nat) : OkTbl t n d ↔ ∀ p ∈ t.items, OkItem p.2 n d := by
  obtain ⟨i, a, b, c⟩ := t
  rw [OkTbl, okItems_iff]; rfl

theorem okItem_value (v : Val) (n d : Nat) : OkItem (.value v) n d ↔ d + nest v < LIMIT := by rw [OkItem]

theorem okItem_table (t : Tbl) (n d : Nat) : OkItem (.table t) n d ↔
    (t.dotted = true → d + 1 < LIMIT ∧ OkTbl t (n + 1) (d + 1)) ∧
    (t.dotted = false → n + 1 < LIMIT ∧ OkTbl t (n + 1) 0) := by rw [OkItem]

theorem okItem_aot (ts : List Tbl) (n d : Nat) : OkItem (.aot ts) n d ↔ n + 1 < LIMIT ∧ ∀ t ∈ ts, OkTbl t (n + 1) 0 := by
  rw [OkItem, okTbls_iff]

theorem okTbl_of_nil (t : Tbl) (n d : Nat) (h : t.items = []) : OkTbl t n d := by
  rw [okTbl_iff, h]; simp

theorem okTbl_congr_items (u u' : Tbl) (n d : Nat) (he : u'.items = u.items) (h : OkTbl u n d) : OkTbl u' n d := by
  rw [okTbl_iff] at h ⊢; rw [he]; exact h

theorem okAnti :
    (∀ (it : Item) (n d d' : Nat), d' ≤ d → OkItem it n d → OkItem it n d') ∧
    (∀ (t : Tbl) (n d d' : Nat), d' ≤ d → OkTbl t n d → OkTbl t n d') := by
  refine item_induct ?_ ?_ ?_ ?_
  · intro v n d d' hd h
    rw [okItem_value] at h ⊢; omega
  · intro t ih n d d' hd h
    rw [okItem_table] at h ⊢
    refine ⟨fun hdot => ?_, h.2⟩
    obtain ⟨h1, h2⟩ := h.1 hdot
    exact ⟨by omega, ih (n + 1) (d + 1) (d' + 1) (by omega) h2⟩
  · intro ts _ n d d' _ h
    rw [okItem_aot] at h ⊢; exact h
  · intro items i dt pos ih n d d' hd h
    rw [okTbl_iff] at h ⊢
    exact fun p hp => ih p hp n d d' hd (h p hp)

theorem okTbl_zero (t : Tbl) (n d : Nat) (h : OkTbl t n d) : OkTbl t n 0 := okAnti.2 t n d 0 (Nat.zero_le _) h

theorem ok_item (t : Tbl) (n d : Nat) (k : Bytes) (item : Item) (h : OkTbl t n d) (ha : alookup k t.items = some item) :
    OkItem item n d :=
  (okTbl_iff t n d).1 h _ (mem_of_alookup k item _ ha)

theorem ok_aset (t : Tbl) (n d : Nat) (k : Bytes) (item : Item) (h : OkTbl t n d) (hi : OkItem item n d) :
    OkTbl (t.setItems (aset k item t.items)) n d := by
  rw [okTbl_iff]
  intro p hp
  rcases (mem_aset k item _ p hp).symm with hp | hp
  · exact (okTbl_iff t n d).1 h p hp
  · rw [hp]; exact hi

theorem ok_aerase (t : Tbl) (n d : Nat) (k : Bytes) (h : OkTbl t n d) : OkTbl (t.setItems (aerase k t.items)) n d := by
  rw [okTbl_iff]
  exact fun p hp => (okTbl_iff t n d).1 h p (mem_aerase k _ p hp)

/-- the deepest a table `n` keys below the root and `d` dotted tables below its header ancestor can be: its own
    dotted keys and values give `LIMIT - d`; a header can still add `LIMIT - 1 - n` keys below it, each possibly an
    array of tables (two levels), and the last of these tables again holds `LIMIT` levels of dotted keys and values -/
def Phi (n d : Nat) : Nat := max (LIMIT - d) (if n + 1 < LIMIT then 2 * (LIMIT - 1 - n) + LIMIT else 0)

theorem phi_value (n d x : Nat) (h : d + x < LIMIT) : x + 1 ≤ Phi n d :=
  Nat.le_trans (by omega) (Nat.le_max_left _ _)

theorem phi_dotted (n d x : Nat) (h : d + 1 < LIMIT) (hx : x ≤ Phi (n + 1) (d + 1)) : x + 1 ≤ Phi n d := by
  unfold Phi at hx ⊢
  rcases Std.le_max.1 hx with hx | hx
  · exact Nat.le_trans (by omega) (Nat.le_max_left _ _)
  · by_cases h2 : n + 1 + 1 < LIMIT
    · rw [if_pos h2] at hx
      rw [if_pos (by omega)]
      exact Nat.le_trans (by omega) (Nat.le_max_right _ _)
    · rw [if_neg h2] at hx
      exact Nat.le_trans (by omega) (Nat.le_max_left _ _)

theorem phi_header (n d x : Nat) (hn : n + 1 < LIMIT) (hx : x ≤ Phi (n + 1) 0) : x + 2 ≤ Phi n d := by
  unfold Phi at hx ⊢
  rw [if_pos hn]
  refine Nat.le_trans ?_ (Nat.le_max_right _ _)
  rcases Std.le_max.1 hx with hx | hx
  · omega
  · by_cases h2 : n + 1 + 1 < LIMIT
    · rw [if_pos h2] at hx; omega
    · rw [if_neg h2] at hx; omega

theorem phi_root : Phi 0 0 = 3 * LIMIT - 2 := by decide

theorem okBound :
    (∀ (it : Item) (n d : Nat), d < LIMIT → OkItem it n d → nestItem it + 1 ≤ Phi n d) ∧
    (∀ (t : Tbl) (n d : Nat), d < LIMIT → OkTbl t n d → nestTbl t ≤ Phi n d) := by
  have h0 : 0 < LIMIT := by decide
  refine item_induct ?_ ?_ ?_ ?_
  · intro v n d _ h
    rw [okItem_value] at h
    rw [nestItem]; exact phi_value n d _ h
  · intro t ih n d _ h
    rw [okItem_table] at h
    rw [nestItem]
    cases hdot : t.dotted with
    | true =>
      obtain ⟨h1, h2⟩ := h.1 hdot
      exact phi_dotted n d _ h1 (ih (n + 1) (d + 1) h1 h2)
    | false =>
      obtain ⟨h1, h2⟩ := h.2 hdot
      have := phi_header n d _ h1 (ih (n + 1) 0 h0 h2)
      omega
  · intro ts ih n d _ h
    rw [okItem_aot] at h
    obtain ⟨hn, hall⟩ := h
    rw [nestItem]
    have hb : nestTbls ts ≤ Phi (n + 1) 0 := by
      rw [nestTbls_le]
      exact fun t ht => ih t ht (n + 1) 0 h0 (hall t ht)
    have := phi_header n d _ hn hb
    omega
  · intro items i dt pos ih n d hd h
    rw [okTbl_iff] at h
    rw [nestTbl_eq]
    show 1 + nestItems items ≤ Phi n d
    have hpos : 1 ≤ Phi n d := phi_value n d 0 hd
    have : nestItems items ≤ Phi n d - 1 := by
      rw [nestItems_le]
      intro p hp
      have := ih p hp n d hd (h p hp)
      omega
    omega

theorem nestTbl_root_le (t : Tbl) (h : OkTbl t 0 0) : nestTbl t ≤ 3 * LIMIT - 2 := by
  rw [← phi_root]; exact okBound.2 t 0 0 (by decide) h

theorem setItems_dotted (t : Tbl) (l : List (Bytes × Item)) : (t.setItems l).dotted = t.dotted := rfl

/-- room below a table for one made by a dotted key: the dotted tables since the last header stay below the
    limit; for one made by a header: the keys from the root do -/
def okInv : TreeInv where
  T := OkTbl
  I := OkItem
  room := fun dot n d => (if dot then d + 1 else n + 1) < LIMIT
  item := fun h ha => ok_item _ _ _ _ _ h ha
  aset := fun k _ h hi => ok_aset _ _ _ k _ h hi
  aerase := fun k h => ok_aerase _ _ _ k h
  items := fun he h => okTbl_congr_items _ _ _ _ he h
  nil := fun n d h => okTbl_of_nil _ n d h
  table := fun {t n d} => by rw [okItem_table]; cases t.dotted <;> simp
  aot := fun {ts n d} => by rw [okItem_aot]; simp
  zero := fun h => okTbl_zero _ _ _ h

theorem hdrFits (len : Nat) (h : len < LIMIT) : HdrFits okInv len := by
  intro i d hi
  show (if false = true then d + 1 else i + 1) < LIMIT
  rw [if_neg Bool.false_ne_true]; omega

theorem kvFits (m : Nat) (v : Val) (h : m + nest v < LIMIT) : KvFits okInv m v := by
  refine ⟨fun n d hd => ?_, fun n d hd => ?_⟩
  · show (if true = true then d + 1 else n + 1) < LIMIT
    rw [if_pos rfl]; omega
  · show OkItem (.value v) n d
    rw [okItem_value]; omega

theorem step_ok (st : ParseState) (s : Stmt) (st' : ParseState) (hi : Holds okInv st) (hs : Scanned s)
    (h : step st s = some st') : Holds okInv st' := by
  refine step_inv okInv st st' s hi ?_ h
  cases hs with
  | kv hp hv => exact kvFits _ _ ((depthInv _).1 _ _ _ _ hv hp)
  | std _ hl => exact hdrFits _ hl
  | arr _ hl => exact hdrFits _ hl

end TomlVerif.Lemmas.Depth05Doc
