import TomlVerif.Spec.AstValue
import TomlVerif.Lemmas.AList
import TomlVerif.Lemmas.ValueParse
import TomlVerif.Lemmas.Strings02
/-! Completeness of the value parser, byte level: trivia is consumed exactly, what the loops of `array` and
    `inline_table` do on one element, the boolean tokens, `line_trailing`.  The induction over
    syntax trees is in `Lemmas/ValueComplete01.lean`. -/
namespace TomlVerif.Lemmas.Value01
open TomlVerif TomlVerif.Spec TomlVerif.Model TomlVerif.Model.Strings TomlVerif.Model.Value
open TomlVerif.Spec.AstValue TomlVerif.Lemmas.ValueParse

theorem ws_cases (b : UInt8) (h : isWschar b = true) : b = 0x20 ∨ b = 0x09 := by
  simpa [isWschar] using h

theorem follow_cases (b : UInt8) (h : isFollowByte b = true) :
    b = 0x20 ∨ b = 0x09 ∨ b = 0x0A ∨ b = 0x0D ∨ b = 0x2C ∨ b = 0x5D ∨ b = 0x7D ∨ b = 0x23 := by
  simpa [isFollowByte, isWschar, or_assoc] using h

theorem succ_of_lt {n fuel : Nat} (h : n < fuel) : ∃ f, fuel = f + 1 := Nat.exists_eq_add_one.2 (Nat.zero_lt_of_lt h)

theorem _root_.TomlVerif.Spec.AstValue.AllWs.nil : AllWs [] := List.forall_mem_nil _
theorem _root_.TomlVerif.Spec.AstValue.AllWs.sp : AllWs [0x20] := by intro b hb; simp at hb; subst hb; decide
theorem _root_.TomlVerif.Spec.AstValue.AllWs.of_all (bs : Bytes) (h : bs.all isWschar = true) : AllWs bs :=
  List.all_eq_true.1 h

/-! The side conditions of the syntax trees that speak of bytes only can be decided, so the well-formedness of a
    concrete tree is settled by evaluation once its scalar tokens are known to be scalar tokens. -/
instance (bs : Bytes) : Decidable (AllWs bs) := by unfold AllWs; infer_instance
instance (p : Piece) : Decidable p.WF := by cases p <;> unfold Piece.WF <;> infer_instance
instance (w : Wcn) : Decidable (WcnWF w) := by unfold WcnWF; infer_instance
instance (k : KeyTok) : Decidable k.WF := by unfold KeyTok.WF; infer_instance
instance (k : DKey) : Decidable k.WF := by unfold DKey.WF; infer_instance

theorem dropWs_allws (bs X : Bytes) (h : AllWs bs) : dropWs (bs ++ X) = dropWs X := by
  rw [S02.dropWs_eq, S02.dropWs_eq, List.dropWhile_append_of_pos h]

theorem trivia_of_ws (b : UInt8) (h : isWschar b = true) : isTrivia b = true := by
  simp [isTrivia, h]
theorem not_ws_of_not_trivia (b : UInt8) (h : isTrivia b = false) : isWschar b = false := by
  cases hw : isWschar b with
  | false => rfl
  | true => rw [trivia_of_ws b hw] at h; cases h

theorem dropWs_stop (X : Bytes) (h : NoTriviaHead X) : dropWs X = X := by
  cases X with
  | nil => rfl
  | cons b r => simp [dropWs, not_ws_of_not_trivia b h]

theorem dropWs_head (b : UInt8) (r : Bytes) (h : isWschar b = false) : dropWs (b :: r) = b :: r := by
  simp [dropWs, h]

theorem wcn_ws (f : Nat) (bs X : Bytes) (h : AllWs bs) :
    wsCommentNewline (f + 1) (bs ++ X) = wsCommentNewline (f + 1) X := by
  unfold wsCommentNewline
  simp only [dropWs_allws bs X h]

theorem wcn_nl (f : Nat) (c : Bool) (X : Bytes) :
    wsCommentNewline (f + 1) (nlBytes c ++ X) = wsCommentNewline f X := by
  cases c <;> simp [nlBytes, wsCommentNewline, dropWs, isWschar, newline?]

theorem nonEol_not_nl : ∀ b : UInt8, isNonEol b = true → b ≠ 0x0A ∧ b ≠ 0x0D :=
  fun _ h => ⟨ne_of_class h (by decide), ne_of_class h (by decide)⟩

theorem dropComment_body (body : Bytes) (c : Bool) (X : Bytes) (h : ∀ b ∈ body, isNonEol b = true) :
    dropComment (body ++ (nlBytes c ++ X)) = nlBytes c ++ X := by
  induction body with
  | nil => cases c <;> simp [nlBytes, dropComment, isNonEol, inR, isNonAscii]
  | cons b body ih =>
    obtain ⟨hb, h⟩ := List.forall_mem_cons.1 h
    simp only [List.cons_append, dropComment, hb, if_true]
    exact ih h

theorem newline_nl (c : Bool) (X : Bytes) : newline? (nlBytes c ++ X) = some X := S02.newline?_nlBytes c X

theorem wcn_comment (f : Nat) (body : Bytes) (c : Bool) (X : Bytes) (h : ∀ b ∈ body, isNonEol b = true) :
    wsCommentNewline (f + 1) (0x23 :: (body ++ nlBytes c) ++ X) = wsCommentNewline f X := by
  conv => lhs; unfold wsCommentNewline
  simp only [List.cons_append, List.append_assoc]
  rw [dropWs_head _ _ (by decide)]
  simp only [dropComment_body body c X h, newline_nl]
  simp

theorem not_trivia_bytes (b : UInt8) (h : isTrivia b = false) :
    (b == 0x23) = false ∧ (b == 0x0A || b == 0x0D) = false := by
  simp only [isTrivia, Bool.or_eq_false_iff] at h
  exact ⟨h.2, by rw [h.1.1.2, h.1.2]; rfl⟩

theorem wcn_stop (f : Nat) (X : Bytes) (h : NoTriviaHead X) : wsCommentNewline (f + 1) X = some X := by
  unfold wsCommentNewline
  rw [dropWs_stop X h]
  cases X with
  | nil => rfl
  | cons b r =>
    have hb : isTrivia b = false := h
    have := not_trivia_bytes b hb
    simp [this.1, this.2]

theorem wcn_exact : ∀ (w : Wcn) (fuel : Nat) (rest : Bytes), WcnWF w → NoTriviaHead rest →
    (renderWcn w).length < fuel → wsCommentNewline fuel (renderWcn w ++ rest) = some rest := by
  intro w
  induction w with
  | nil =>
    intro fuel rest _ hr hf
    cases fuel with
    | zero => simp at hf
    | succ f => exact wcn_stop f rest hr
  | cons p w ih =>
    intro fuel rest hw hr hf
    obtain ⟨hp, hw'⟩ := List.forall_mem_cons.1 hw
    cases fuel with
    | zero => simp at hf
    | succ f =>
      simp only [renderWcn, List.length_append] at hf
      cases p with
      | ws bs =>
        simp only [renderWcn, Piece.render, List.append_assoc]
        rw [wcn_ws f bs _ hp]
        exact ih (f + 1) rest hw' hr (by omega)
      | nl c =>
        simp only [renderWcn, Piece.render, List.append_assoc]
        rw [wcn_nl]
        have : 0 < (nlBytes c).length := S02.nlBytes_length_pos c
        simp only [Piece.render] at hf
        exact ih f rest hw' hr (by omega)
      | comment body c =>
        simp only [renderWcn, Piece.render]
        rw [List.append_assoc, wcn_comment f body c _ hp]
        simp only [Piece.render, List.length_cons] at hf
        exact ih f rest hw' hr (by omega)

theorem wcn_exact_len (w : Wcn) (rest : Bytes) (hw : WcnWF w) (hr : NoTriviaHead rest) :
    wsCommentNewline ((renderWcn w ++ rest).length + 1) (renderWcn w ++ rest) = some rest :=
  wcn_exact w _ rest hw hr (by rw [List.length_append]; omega)

theorem follow_of_trivia (b : UInt8) (h : isTrivia b = true) : isFollowByte b = true := by
  simp only [isTrivia, Bool.or_eq_true] at h
  rcases h with ((h | h) | h) | h <;> simp [isFollowByte, h]
theorem not_trivia_of_not_follow (b : UInt8) (h : isFollowByte b = false) : isTrivia b = false := by
  cases ht : isTrivia b with
  | false => rfl
  | true => rw [follow_of_trivia b ht] at h; cases h
theorem follow_not_digit (b : UInt8) (h : isFollowByte b = true) : isDigit b = false := by
  rcases follow_cases b h with rfl | rfl | rfl | rfl | rfl | rfl | rfl | rfl <;> decide

theorem piece_head (p : Piece) (hp : p.WF) : p.render = [] ∨ ∃ b r, p.render = b :: r ∧ isTrivia b = true := by
  cases p with
  | ws bs =>
    cases bs with
    | nil => left; rfl
    | cons b r => right; exact ⟨b, r, rfl, trivia_of_ws b (hp b (by simp))⟩
  | nl c => right; cases c <;> simp [Piece.render, nlBytes, isTrivia, isWschar]
  | comment body c => right; exact ⟨0x23, _, rfl, by decide⟩

theorem wcn_head : ∀ w : Wcn, WcnWF w → renderWcn w = [] ∨ ∃ b r, renderWcn w = b :: r ∧ isTrivia b = true := by
  intro w
  induction w with
  | nil => intro _; left; rfl
  | cons p w ih =>
    intro hw
    obtain ⟨hp, hw'⟩ := List.forall_mem_cons.1 hw
    rcases piece_head p hp with h | ⟨b, r, h, hb⟩
    · simp only [renderWcn, h, List.nil_append]; exact ih hw'
    · right; exact ⟨b, r ++ renderWcn w, by simp [renderWcn, h], hb⟩

theorem follow_wcn_append (w : Wcn) (X : Bytes) (hw : WcnWF w) (hX : ValFollow X) : ValFollow (renderWcn w ++ X) := by
  rcases wcn_head w hw with h | ⟨b, r, h, hb⟩
  · rw [h]; exact hX
  · rw [h]; exact follow_of_trivia b hb

theorem followS_wcn_append : ∀ (w : Wcn) (X : Bytes), WcnWF w → ValFollowS X → ValFollowS (renderWcn w ++ X) := by
  intro w
  induction w with
  | nil => intro X _ hX; exact hX
  | cons p w ih =>
    intro X hw hX
    obtain ⟨hp, hw'⟩ := List.forall_mem_cons.1 hw
    refine ⟨follow_wcn_append _ X hw hX.1, ?_⟩
    intro b r he
    cases p with
    | ws bs =>
      cases bs with
      | nil => exact (ih X hw' hX).2 b r he
      | cons b0 bs =>
        cases bs with
        | nil =>
          simp only [renderWcn, Piece.render, List.cons_append, List.nil_append] at he
          have hf := follow_wcn_append w X hw' hX.1
          injection he with _ he
          rw [he] at hf
          exact follow_not_digit b hf
        | cons b1 bs =>
          simp only [renderWcn, Piece.render, List.cons_append] at he
          injection he with _ he
          injection he with he _
          subst he
          exact follow_not_digit _ (follow_of_trivia _ (trivia_of_ws _ (hp _ (by simp))))
    | nl c => cases c <;> simp [renderWcn, Piece.render, nlBytes] at he
    | comment body c => simp [renderWcn, Piece.render] at he

theorem followS_of_head (b : UInt8) (r : Bytes) (h : isFollowByte b = true) (hb : b ≠ 0x20) : ValFollowS (b :: r) := by
  refine ⟨h, ?_⟩
  intro c t he
  injection he with he _
  exact absurd he hb

theorem followS_ws_append (w X : Bytes) (hw : AllWs w) (hX : ValFollowS X) : ValFollowS (w ++ X) := by
  have := followS_wcn_append [.ws w] X (by intro p hp; simp at hp; subst hp; exact hw) hX
  simpa [renderWcn, Piece.render] using this

theorem renderWcn_append (a b : Wcn) : renderWcn (a ++ b) = renderWcn a ++ renderWcn b := by
  induction a with
  | nil => rfl
  | cons p a ih => simp [renderWcn, ih]

/-! One element of an array, `pre v post` with trivia `pre`, `post` and the bytes `V` of the value, in front of `Z`. -/

theorem arrayElems_elem_last (g d : Nat) (pre post : Wcn) (V Z : Bytes) (v : Val) (acc : List Val)
    (hpre : WcnWF pre) (hpost : WcnWF post) (hV : NoTriviaHead (V ++ (renderWcn post ++ Z)))
    (hv : value g d (V ++ (renderWcn post ++ Z)) = .ok v (renderWcn post ++ Z))
    (hZ : NoTriviaHead Z) (hc : ∀ t, Z ≠ 0x2C :: t) :
    arrayElems (g + 1) d (renderWcn pre ++ (V ++ (renderWcn post ++ Z))) acc = .ok (acc ++ [v]) Z :=
  arrayElems_last _ _ _ _ _ _ _ _ (wcn_exact_len pre _ hpre hV) hv (wcn_exact_len post _ hpost hZ) hc

theorem arrayElems_elem_comma (g d : Nat) (pre post : Wcn) (V s4 r : Bytes) (v : Val) (acc : List Val)
    (hpre : WcnWF pre) (hpost : WcnWF post) (hV : NoTriviaHead (V ++ (renderWcn post ++ 0x2C :: s4)))
    (hv : value g d (V ++ (renderWcn post ++ 0x2C :: s4)) = .ok v (renderWcn post ++ 0x2C :: s4))
    (h4 : arrayElems g d s4 (acc ++ [v]) = .ok (acc ++ [v]) r) :
    arrayElems (g + 1) d (renderWcn pre ++ (V ++ (renderWcn post ++ 0x2C :: s4))) acc = .ok (acc ++ [v]) (0x2C :: s4) := by
  rw [arrayElems_more _ _ _ _ _ _ _ _ _ _ (wcn_exact_len pre _ hpre hV) hv
    (wcn_exact_len post _ hpost (by decide : isTrivia 0x2C = false)) h4, if_pos (beq_self_eq_true _)]

theorem arrayElems_elem_more (g d : Nat) (pre post : Wcn) (V s4 r : Bytes) (v x : Val) (acc w : List Val)
    (hpre : WcnWF pre) (hpost : WcnWF post) (hV : NoTriviaHead (V ++ (renderWcn post ++ 0x2C :: s4)))
    (hv : value g d (V ++ (renderWcn post ++ 0x2C :: s4)) = .ok v (renderWcn post ++ 0x2C :: s4))
    (h4 : arrayElems g d s4 (acc ++ [v]) = .ok (acc ++ v :: x :: w) r) :
    arrayElems (g + 1) d (renderWcn pre ++ (V ++ (renderWcn post ++ 0x2C :: s4))) acc = .ok (acc ++ v :: x :: w) r := by
  rw [arrayElems_more _ _ _ _ _ _ _ _ _ _ (wcn_exact_len pre _ hpre hV) hv
    (wcn_exact_len post _ hpost (by decide : isTrivia 0x2C = false)) h4, if_neg]
  simp

theorem arrayValues_empty (f d : Nat) (tail : Wcn) (rest : Bytes) (hw : WcnWF tail) (hf : 2 ≤ f) :
    arrayValues (f + 1) d (renderWcn tail ++ 0x5D :: rest) = .ok [] (0x5D :: rest) := by
  have hnt : NoTriviaHead (0x5D :: rest) := (by decide : isTrivia 0x5D = false)
  rcases wcn_head tail hw with h | ⟨b, r, h, hb⟩
  · rw [h]; exact arrayValues_close f d rest
  · have hw2 := wcn_exact_len tail (0x5D :: rest) hw hnt
    obtain ⟨f1, rfl⟩ := succ_of_lt hf
    obtain ⟨f2, rfl⟩ := succ_of_lt (Nat.le_of_succ_le_succ hf)
    apply arrayValues_none _ _ _ _ _ _ hw2
    · intro t ht
      rw [h] at ht
      simp at ht
      rw [ht.1] at hb
      revert hb; decide
    · exact arrayElems_stop _ _ _ _ _ hw2 (value_close _ _ _)

theorem ws_not_unquoted (b : UInt8) (h : isWschar b = true) : isUnquotedChar b = false := by
  rcases ws_cases b h with rfl | rfl <;> decide
theorem unquoted_not_ws (b : UInt8) (h : isUnquotedChar b = true) : isWschar b = false :=
  Bool.eq_false_iff.2 fun hw => by rw [ws_not_unquoted b hw] at h; cases h

theorem splitLast_splitKeys : ∀ (ks : List Bytes) (k : Bytes), splitLast (k :: ks) = some (splitKeys k ks) := by
  intro ks
  induction ks with
  | nil => intro k; rfl
  | cons k' ks ih =>
    intro k
    have := ih k'
    simp only [splitLast, this, splitKeys]

theorem splitLast_cons_eq (k : Bytes) (ks : List Bytes) (path : List Bytes) (key : Bytes)
    (h : splitLast (k :: ks) = some (path, key)) : path = (splitKeys k ks).1 ∧ key = (splitKeys k ks).2 := by
  rw [splitLast_splitKeys] at h
  injection h with h
  rw [h]; exact ⟨rfl, rfl⟩

theorem splitKeys_length : ∀ (ks : List Bytes) (k : Bytes), (splitKeys k ks).1.length = ks.length := by
  intro ks
  induction ks with
  | nil => intro k; rfl
  | cons k' ks ih => intro k; simp [splitKeys, ih k']

theorem keyPath_close (s rest : Bytes) (hs : dropWs s = 0x7D :: rest) : keyPath s = .bt := by
  unfold keyPath
  conv => lhs; unfold keyPathAux
  simp [hs, Key.simpleKey, Key.unquotedKey, Key.takeUnquoted, isUnquotedChar, inR]

/-! One entry of an inline table, `K = w1 V w2` with the bytes `K` of the key, blanks `w1`, `w2` and the bytes `V` of
    the value, in front of `Z`. -/

theorem inl_entry_last (g d : Nat) (K w1 V w2 Z key : Bytes) (ks path : List Bytes) (v : Val)
    (acc : List (List Bytes × Bytes × Val))
    (hk : keyPath (K ++ 0x3D :: (w1 ++ (V ++ (w2 ++ Z)))) = .ok ks (0x3D :: (w1 ++ (V ++ (w2 ++ Z)))))
    (hsl : splitLast ks = some (path, key)) (hd : d + (ks.length - 1) < LIMIT) (hw1 : AllWs w1) (hw2 : AllWs w2)
    (hV : NoTriviaHead (V ++ (w2 ++ Z))) (hv : value g (d + (ks.length - 1)) (V ++ (w2 ++ Z)) = .ok v (w2 ++ Z))
    (hZ : ∀ b t, Z = b :: t → isWschar b = false ∧ b ≠ 0x2C) :
    inlineKeyvals (g + 1) d (K ++ 0x3D :: (w1 ++ (V ++ (w2 ++ Z)))) acc = .ok (acc ++ [(path, key, v)]) Z := by
  have e1 : dropWs (w1 ++ (V ++ (w2 ++ Z))) = V ++ (w2 ++ Z) := by
    rw [dropWs_allws _ _ hw1]; exact dropWs_stop _ hV
  have e2 : dropWs (w2 ++ Z) = Z := by
    rw [dropWs_allws _ _ hw2]
    cases Z with
    | nil => rfl
    | cons b t => exact dropWs_head _ _ (hZ b t rfl).1
  have := inl_last g d _ _ (w2 ++ Z) key ks path v acc hk hsl hd (by rw [e1]; exact hv)
    (by rw [e2]; intro t ht; exact (hZ _ _ ht).2 rfl)
  rwa [e2] at this

theorem inl_entry_more (g d : Nat) (K w1 V w2 r4 r5 key : Bytes) (ks path : List Bytes) (v : Val)
    (acc w : List (List Bytes × Bytes × Val)) (x : List Bytes × Bytes × Val)
    (hk : keyPath (K ++ 0x3D :: (w1 ++ (V ++ (w2 ++ 0x2C :: r4)))) = .ok ks (0x3D :: (w1 ++ (V ++ (w2 ++ 0x2C :: r4)))))
    (hsl : splitLast ks = some (path, key)) (hd : d + (ks.length - 1) < LIMIT) (hw1 : AllWs w1) (hw2 : AllWs w2)
    (hV : NoTriviaHead (V ++ (w2 ++ 0x2C :: r4)))
    (hv : value g (d + (ks.length - 1)) (V ++ (w2 ++ 0x2C :: r4)) = .ok v (w2 ++ 0x2C :: r4))
    (h4 : inlineKeyvals g d r4 (acc ++ [(path, key, v)]) = .ok (acc ++ (path, key, v) :: x :: w) r5) :
    inlineKeyvals (g + 1) d (K ++ 0x3D :: (w1 ++ (V ++ (w2 ++ 0x2C :: r4)))) acc =
      .ok (acc ++ (path, key, v) :: x :: w) r5 := by
  have e1 : dropWs (w1 ++ (V ++ (w2 ++ 0x2C :: r4))) = V ++ (w2 ++ 0x2C :: r4) := by
    rw [dropWs_allws _ _ hw1]; exact dropWs_stop _ hV
  have e2 : dropWs (w2 ++ 0x2C :: r4) = 0x2C :: r4 := by
    rw [dropWs_allws _ _ hw2]; exact dropWs_head _ _ (by decide)
  rw [inl_more g d _ _ _ r4 r5 key ks path v acc _ hk hsl hd (by rw [e1]; exact hv) e2 h4, if_neg]
  simp

theorem tableFromPairs_plain : ∀ (l : List (DKey × Bytes × AVal × Bytes)) (acc : List (Bytes × Val)),
    (∀ i ∈ l, i.1.more = []) → (l.map fun i => i.1.first.key).Nodup →
    (∀ k ∈ l.map (fun i => i.1.first.key), k ∉ acc.map Prod.fst) →
    tableFromPairs (flatPairs l) acc = some (acc ++ l.map fun i => (i.1.first.key, sem i.2.2.1)) := by
  intro l
  induction l with
  | nil => intro acc _ _ _; simp [flatPairs, tableFromPairs]
  | cons x l ih =>
    obtain ⟨k, w1, v, w2⟩ := x
    intro acc hm hn ha
    have hk0 : k.more = [] := hm (k, w1, v, w2) (by simp)
    simp only [List.map_cons, List.nodup_cons] at hn
    have hk : k.first.key ∉ acc.map Prod.fst := ha k.first.key (by simp)
    have e : flatPairs ((k, w1, v, w2) :: l) = ([], k.first.key, sem v) :: flatPairs l := by
      simp [flatPairs, DKey.path, DKey.last, hk0, splitKeys]
    rw [e]
    simp only [tableFromPairs, List.isEmpty_nil, inlInsert, (State09.alookup_none_iff _ _).2 hk]
    simp only [Bool.false_eq_true, if_false, beq_iff_eq]
    rw [ih (acc ++ [(k.first.key, sem v)]) (fun i hi => hm i (by simp [hi])) hn.2]
    · simp
    · intro k' hk' hmem
      simp at hmem
      rcases hmem with hmem | hmem
      · exact ha k' (by simp at hk' ⊢; exact Or.inr hk') (by simpa using hmem)
      · rw [hmem] at hk'; exact hn.1 hk'

def trueTok : ScalarTok := ⟨[0x74, 0x72, 0x75, 0x65], .bool true⟩
def falseTok : ScalarTok := ⟨[0x66, 0x61, 0x6C, 0x73, 0x65], .bool false⟩

theorem scalarOK_true : ScalarOK trueTok := by
  refine ⟨⟨0x74, _, rfl, by decide, by decide, by decide⟩, ?_⟩
  intro fuel d rest hf _
  obtain ⟨f, rfl⟩ := succ_of_lt hf
  simp [trueTok, value, Numbers.keyword, Numbers.startsWith, isDigit, inR, Res.map]

theorem scalarOK_false : ScalarOK falseTok := by
  refine ⟨⟨0x66, _, rfl, by decide, by decide, by decide⟩, ?_⟩
  intro fuel d rest hf _
  obtain ⟨f, rfl⟩ := succ_of_lt hf
  simp [falseTok, value, Numbers.keyword, Numbers.startsWith, isDigit, inR, Res.map]

instance : Decidable (ScalarOK trueTok) := isTrue scalarOK_true
instance : Decidable (ScalarOK falseTok) := isTrue scalarOK_false

def commentBytes : Option Bytes → Bytes
  | some body => 0x23 :: body
  | none => []

theorem dropComment_all (body : Bytes) (h : ∀ b ∈ body, isNonEol b = true) : dropComment body = [] := by
  induction body with
  | nil => rfl
  | cons b body ih =>
    obtain ⟨hb, h⟩ := List.forall_mem_cons.1 h
    simp only [dropComment, hb, if_true]
    exact ih h

theorem lineTrailing_nl (bs : Bytes) (cm : Option Bytes) (c : Bool) (rest : Bytes) (hbs : AllWs bs)
    (hcm : ∀ body, cm = some body → ∀ b ∈ body, isNonEol b = true) :
    lineTrailing (bs ++ (commentBytes cm ++ (nlBytes c ++ rest))) = .ok () rest := by
  unfold lineTrailing
  rw [dropWs_allws _ _ hbs]
  cases cm with
  | none =>
    cases c <;> simp [commentBytes, nlBytes, dropWs, isWschar, newline?]
  | some body =>
    simp only [commentBytes, List.cons_append]
    rw [dropWs_head _ _ (by decide)]
    simp only [dropComment_body body c rest (hcm body rfl)]
    cases c <;> simp [nlBytes, newline?]

theorem lineTrailing_eof (bs : Bytes) (cm : Option Bytes) (hbs : AllWs bs)
    (hcm : ∀ body, cm = some body → ∀ b ∈ body, isNonEol b = true) :
    lineTrailing (bs ++ commentBytes cm) = .ok () [] := by
  unfold lineTrailing
  rw [dropWs_allws _ _ hbs]
  cases cm with
  | none => simp [commentBytes, dropWs]
  | some body =>
    simp only [commentBytes]
    rw [dropWs_head _ _ (by decide)]
    simp only [dropComment_all body (hcm body rfl)]

end TomlVerif.Lemmas.Value01
