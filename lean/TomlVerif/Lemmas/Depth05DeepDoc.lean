import TomlVerif.Lemmas.Depth05Doc
import TomlVerif.Lemmas.StmtBlocks
import TomlVerif.Lemmas.PrintedDoc
/-! The family `deepDoc m k` that reaches the bound of C05 at document level: the header lines build a chain of `m`
    arrays of tables, the last line `k` dotted tables around an empty array. The text is a document of the grammar
    (`deepQ`), so parsing it is running the definition state machine over its statements
    (`parseDocument_renderQ`). -/
namespace TomlVerif.Props.C05Doc

/-- `c.c.….c` with `n + 1` components -/
def dotPath (c : UInt8) : Nat → Bytes
  | 0 => [c]
  | n + 1 => c :: 0x2E :: dotPath c n

/-- `[[a]]⏎[[a.a]]⏎…⏎[[a.….a]]⏎`, the last with `n` components: every key on the way is an array of tables -/
def aotLines : Nat → Bytes
  | 0 => []
  | n + 1 => aotLines n ++ (0x5B :: 0x5B :: dotPath 0x61 n ++ [0x5D, 0x5D, 0x0A])

/-- `aotLines m` followed by `b.….b=[]` with `k + 1` components -/
def deepDoc (m k : Nat) : Bytes := aotLines m ++ (dotPath 0x62 k ++ [0x3D, 0x5B, 0x5D])

end TomlVerif.Props.C05Doc

namespace TomlVerif.Lemmas.Depth05Doc
open TomlVerif TomlVerif.Spec TomlVerif.Model TomlVerif.Model.Value TomlVerif.Model.State TomlVerif.Model.Doc
open TomlVerif.Lemmas.Depth05 TomlVerif.Lemmas.State09 TomlVerif.Props.C05Doc
open TomlVerif.Lemmas.Encode06d (startArrayTable_of_path)
open TomlVerif.Spec.AstValue TomlVerif.Spec.AstValueQ TomlVerif.Spec.AstDoc TomlVerif.Spec.AstDocQ
open TomlVerif.Lemmas.PrintedDoc
open TomlVerif.Lemmas.Value01 (commentBytes)
open TomlVerif.Lemmas.SoundDoc01 (commentOK_none)

def ka : Bytes := [0x61]
def kb : Bytes := [0x62]

/-- the position a header gives the table it opens at depth `j` (the root has none) -/
def posAt (j : Nat) : Option Nat := if j = 0 then none else some j

/-- `n` arrays of tables under the key `a`, one inside the other, starting at depth `j`, around the table `x` -/
def chain : Nat → Nat → Tbl → Tbl
  | _, 0, x => x
  | j, n + 1, x => .mk [(ka, .aot [chain (j + 1) n x])] false false (posAt j)

/-- the table a header opens at depth `j`, holding `its` -/
def opened (j : Nat) (its : List (Bytes × Item)) : Tbl := .mk its false false (posAt j)

theorem chain_snoc : ∀ (j n : Nat) (x : Tbl),
    chain j (n + 1) x = chain j n (opened (j + n) [(ka, .aot [x])])
  | j, 0, x => by simp [chain, opened]
  | j, n + 1, x => by
    rw [chain, chain_snoc (j + 1) n x, chain]
    simp [Nat.add_assoc, Nat.add_comm 1 n]

theorem descend_chain (f : Tbl → Option Tbl) : ∀ (j n : Nat) (x : Tbl),
    descend (chain j n x) (List.replicate n ka) false f = (f x).map (chain j n)
  | j, 0, x => by simp [chain, descend]
  | j, n + 1, x => by
    rw [chain, List.replicate_succ,
      descend_cons_aot _ (chain (j + 1) n x) [] ka _ false f (by simp [Tbl.items, alookup]) rfl,
      descend_chain f (j + 1) n x]
    cases f x <;> simp [chain, Tbl.setItems, Tbl.items, aset, alookup, areplace, Tbl.implicit, Tbl.dotted, Tbl.pos]

theorem nestTbl_chain : ∀ (j n : Nat) (x : Tbl), nestTbl (chain j n x) = 2 * n + nestTbl x
  | j, 0, x => by simp [chain]
  | j, n + 1, x => by
    rw [chain, nestTbl, nestItems, nestItem, nestTbls, nestTbl_chain (j + 1) n x, nestTbls, nestItems]
    omega

/-- the state after the header lines `[[a]]` … `[[a.….a]]` (`n + 1` of them): the open table is empty, the
    finalized part is the chain down to the table that holds the (still empty) array it will join -/
def hdrState (n : Nat) : ParseState :=
  { root := chain 0 n (opened n [(ka, .aot [])]), position := n + 1,
    current := .mk [] false false (some (n + 1)), currentIsArray := true,
    currentPath := List.replicate (n + 1) ka }

/-- the table being closed joins the end of the chain: after the unfoldings this is `chain_snoc` -/
theorem finalize_hdr (n : Nat) (c : Tbl) :
    finalizeTable { hdrState n with current := c } =
      some { hdrState n with current := Tbl.empty, currentPath := [], root := chain 0 (n + 1) c } := by
  rw [finalizeTable_eq]
  have e : ({ hdrState n with current := c } : ParseState).currentPath = List.replicate n ka ++ [ka] :=
    List.replicate_succ'
  rw [e, splitLast_append]
  simp only [hdrState, descend_chain, finF, if_true]
  simp [finArrF, opened, Tbl.items, alookup, aset, areplace, Tbl.setItems, Tbl.implicit, Tbl.dotted, Tbl.pos,
    chain_snoc]

theorem hdr_step (n : Nat) : onArrayHeader (hdrState n) (List.replicate (n + 2) ka) = some (hdrState (n + 1)) := by
  unfold onArrayHeader
  rw [show hdrState n = { hdrState n with current := .mk [] false false (some (n + 1)) } from rfl, finalize_hdr]
  simp only []
  rw [show List.replicate (n + 2) ka = List.replicate (n + 1) ka ++ [ka] from List.replicate_succ',
    startArrayTable_of_path, descend_chain]
  simp [arrStartF, hdrState, opened, posAt, Tbl.items, alookup, Tbl.setItems, Tbl.implicit, Tbl.dotted, Tbl.pos,
    Tbl.empty]
  exact List.replicate_succ'.symm

/-- the header paths of the first `n` lines -/
def hdrPaths : Nat → List (List Bytes)
  | 0 => []
  | n + 1 => hdrPaths n ++ [List.replicate (n + 1) ka]

theorem run_hdrs : ∀ n, run {} ((hdrPaths (n + 1)).map .arr) = some (hdrState n)
  | 0 => by simp [hdrPaths, run, step]; rfl
  | n + 1 => by
    rw [hdrPaths, List.map_append, run_append, run_hdrs n]
    simp [run, step, hdr_step]

/-- what the line `b.….b=[]` with `k` dots puts under the first `b` -/
def dots : Nat → Item
  | 0 => .value (.arr [])
  | k + 1 => .table (.mk [(kb, dots k)] true true none)

theorem nestItem_dots : ∀ k, nestItem (dots k) = k + 1
  | 0 => by simp [dots, nestItem, nest, nestList]
  | k + 1 => by rw [dots, nestItem, nestTbl, nestItems, nestItem_dots k, nestItems]; omega

/-- `on_keyval`'s insertion at the end of a non-empty dotted path -/
def insB : Tbl → Option Tbl := fun table =>
  if table.dotted == false then none
  else match alookup kb table.items with
    | some _ => none
    | none => some (table.setItems (table.items ++ [(kb, .value (.arr []))]))

theorem descend_dots : ∀ k, descend (newImplicit true) (List.replicate k kb) true insB =
    some (.mk [(kb, dots k)] true true none)
  | 0 => rfl
  | k + 1 => by
    rw [List.replicate_succ, descend_cons_table _ (newImplicit true) kb _ true insB rfl rfl, descend_dots k]
    rfl

theorem keyval_last (n k : Nat) : onKeyval (hdrState n) (List.replicate k kb) kb (.arr []) =
    some { hdrState n with current := .mk [(kb, dots k)] false false (some (n + 1)) } := by
  cases k with
  | zero => rfl
  | succ k =>
    show (descend (hdrState n).current (kb :: List.replicate k kb) true insB).map _ = _
    rw [descend_cons_table (hdrState n).current (newImplicit true) kb _ true insB rfl rfl, descend_dots k]
    rfl

theorem into_last (n k : Nat) :
    (intoDocument { hdrState n with current := .mk [(kb, dots k)] false false (some (n + 1)) }).map nestTbl =
      some (2 * (n + 1) + k + 2) := by
  unfold intoDocument
  rw [finalize_hdr]
  simp only [Option.map_some, nestTbl_chain, nestTbl, nestItems, nestItem_dots]
  congr 1; omega

theorem hdrPaths_ok : ∀ n, n < LIMIT → ∀ p ∈ hdrPaths n, p ≠ [] ∧ p.length < LIMIT
  | 0, _, p, hp => by cases hp
  | n + 1, hn, p, hp => by
    rw [hdrPaths, List.mem_append, List.mem_singleton] at hp
    rcases hp with hp | rfl
    · exact hdrPaths_ok n (by omega) p hp
    · simp; omega

theorem pathKey_replicate (c : UInt8) (h : (Write.writeKey .default [c]).getD [] = [c]) (n : Nat) :
    (pathKey (List.replicate (n + 1) [c])).render = dotPath c n := by
  rw [List.replicate_succ, pathKey_render, h]
  induction n with
  | zero => rfl
  | succ n ih => rw [List.replicate_succ, List.map_cons, List.flatten_cons, h, dotPath, ← ih]; rfl

theorem written_ab : (Write.writeKey .default ka).getD [] = ka ∧ (Write.writeKey .default kb).getD [] = kb := by
  decide +kernel

def hdrLines (ps : List (List Bytes)) : List (QLine × Bool) := ps.map fun p => (hdrLineQ true p, false)

/-- `b.….b=[]` with `k` dots -/
def lastLine (k : Nat) : QLine := .keyval (pathKey (List.replicate (k + 1) kb)) [] (.arr [] false []) [] none

def deepQ (n k : Nat) : QDoc := ⟨false, hdrLines (hdrPaths n), some (lastLine k)⟩

theorem hdrLines_render : ∀ n, renderLinesQ (hdrLines (hdrPaths n)) = aotLines n
  | 0 => rfl
  | n + 1 => by
    rw [hdrPaths, hdrLines, List.map_append, renderLinesQ_append, ← hdrLines, hdrLines_render n, aotLines]
    simp [renderLinesQ, hdrLineQ_render, nlBytes, show List.replicate (n + 1) ka = List.replicate (n + 1) [0x61] from rfl,
      pathKey_replicate 0x61 written_ab.1]

theorem deepQ_render (n k : Nat) : (deepQ n k).render = deepDoc n k := by
  simp [deepQ, QDoc.render, bomBytes, renderLastQ, hdrLines_render, deepDoc, lastLine, QLine.render, renderQ,
    renderItemsQ, renderWcn, commentBytes, show List.replicate (k + 1) kb = List.replicate (k + 1) [0x62] from rfl,
    pathKey_replicate 0x62 written_ab.2]

theorem deepQ_wf (n k : Nat) (hn : n < LIMIT) (hk : k + 1 < LIMIT) : (deepQ n k).WF := by
  refine ⟨fun p hp => ?_, fun l hl => ?_⟩
  · obtain ⟨q, hq, rfl⟩ := List.mem_map.1 hp
    exact hdrLineQ_wf true q (hdrPaths_ok n hn q hq).1 (hdrPaths_ok n hn q hq).2
  · injection hl with hl; subst hl
    refine ⟨pathKey_wf _ (by simp) (by simpa using hk), AllWs.nil, ⟨trivial, nofun, fun _ => rfl⟩, ?_, AllWs.nil,
      commentOK_none⟩
    simpa [pathKey, List.replicate_succ, depthQ, depthItemsQ] using hk

theorem hdrLines_stmts : ∀ ps : List (List Bytes), (∀ p ∈ ps, p ≠ []) → stmtsLinesQ (hdrLines ps) = ps.map .arr
  | [], _ => rfl
  | p :: ps, h => by
    rw [hdrLines, List.map_cons, stmtsLinesQ, hdrLineQ_stmt true p (h p List.mem_cons_self), ← hdrLines,
      hdrLines_stmts ps fun q hq => h q (List.mem_cons_of_mem _ hq)]
    rfl

theorem splitKeys_replicate (c : Bytes) : ∀ k, splitKeys c (List.replicate k c) = (List.replicate k c, c)
  | 0 => rfl
  | k + 1 => by rw [List.replicate_succ, splitKeys, splitKeys_replicate c k]

theorem deepQ_stmts (n k : Nat) (hn : n < LIMIT) :
    (deepQ n k).stmts = (hdrPaths n).map .arr ++ [.kv (List.replicate k kb) kb (.arr [])] := by
  rw [QDoc.stmts, deepQ, hdrLines_stmts _ fun p hp => (hdrPaths_ok n hn p hp).1]
  simp [stmtsLastQ, lastLine, QLine.stmt, QDKey.path, QDKey.last, pathKey, List.replicate_succ, qkey,
    splitKeys_replicate, semQ, semItemsQ]

/-- **the depth of the family**: `m` header lines (`1 ≤ m < LIMIT`) and `k` dots (`k + 1 < LIMIT`) decode to a tree
    exactly `2 * m + k + 2` levels deep: every depth from 4 to the bound `3 * LIMIT - 2` -/
theorem deepDoc_depth (n k : Nat) (hn : n + 1 < LIMIT) (hk : k + 1 < LIMIT) :
    (parseDocument (deepDoc (n + 1) k)).map nestTbl = some (2 * (n + 1) + k + 2) := by
  rw [← deepQ_render, SoundDoc01C.parseDocument_renderQ _ (deepQ_wf (n + 1) k hn hk), deepQ_stmts (n + 1) k hn,
    run_append, run_hdrs, Option.bind_some]
  simp only [run, step, keyval_last, Option.bind_some]
  exact into_last n k

end TomlVerif.Lemmas.Depth05Doc
