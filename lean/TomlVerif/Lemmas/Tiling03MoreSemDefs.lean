import TomlVerif.Lemmas.Tiling03MoreOrdDefs
/-! C03, same data for documents with adjacent dotted keys — the class `adjRun`: `ordRunV` with
    all spelling checks (`sameSeg`, `sameLeaf`) and the value check (`okValue`) removed; what
    remains is structure only.  Inclusion `ordRunV ⊆ adjRun`. -/
namespace TomlVerif.Lemmas.Tiling03More
open TomlVerif TomlVerif.Spec TomlVerif.Model TomlVerif.Model.Strings TomlVerif.Model.Value
open TomlVerif.Model.Cst TomlVerif.Model.Encode TomlVerif.Lemmas.Suffix03 TomlVerif.Lemmas.Cst03
open TomlVerif.Lemmas.LastByte03 TomlVerif.Lemmas.Tiling03 TomlVerif.Lemmas.Tiling03Hdr
open TomlVerif.Lemmas.Tiling03Nest

/-- the header check without spelling: no table on the way is a dotted-key table, a segment
    naming an existing entry names a table or a non-empty array of tables, the last key is new or
    (for `[[…]]`) names an array of tables.  (`[t]` on an existing implicit table is excluded.) -/
def pathOkA (a : Bool) (key : CKey) : CTbl → List CKey → Bool
  | t, [] => !t.dotted && (match clookup key.key t.items with
      | none => true
      | some (.aot _ _) => a
      | some _ => false)
  | t, k :: ks => !t.dotted && (match clookup k.key t.items with
      | none => true
      | some (.table sub) => pathOkA a key sub ks
      | some (.aot ts _) =>
          (match ts.reverse with
           | l :: _ => pathOkA a key l ks
           | [] => false)
      | some (.value _) => false)

/-- adjacency of dotted keys: every prefix segment that names an existing entry names the LAST
    item of its table, a dotted-key table -/
def dottedOkA : CTbl → List CKey → Bool
  | _, [] => true
  | t, k :: ks => match clookup k.key t.items with
      | none => true
      | some _ => match lastEntry k.key t.items with
          | some (_, _, .table sub) => sub.dotted && dottedOkA sub ks
          | _ => false

def hdrChkA (inp : Bytes) (a : Bool) (st1 : CState) (r : Bytes) : Bool :=
  match ckeyPath inp.length r with
  | .ok ks _ =>
    (match splitLast ks with
     | some (pp, key) => pathOkA a key st1.root pp
     | none => true)
  | _ => true

def hdrLineOkA (inp : Bytes) (st : CState) (s : Bytes) : Bool :=
  match finalizeTable st with
  | none => true
  | some st1 =>
    (match s with
     | 0x5B :: 0x5B :: r => hdrChkA inp true st1 r
     | _ => true) &&
    (match s with
     | 0x5B :: r => hdrChkA inp false st1 r
     | _ => true)

/-- `3 * r1.length + 4` is the fuel `ckeyvalLine` hands to `cvalue` -/
def kvLineOkA (inp : Bytes) (st : CState) (s : Bytes) : Bool :=
  match ckeyPath inp.length s with
  | .ok ks (0x3D :: r1) =>
    (match cvalue inp.length (3 * r1.length + 4) (ks.length - 1) (dropWs r1) with
     | .ok _ _ =>
       (match splitLast ks with
        | some (path, _) => dottedOkA st.current path
        | none => true)
     | _ => true)
  | _ => true

def runOkA (inp : Bytes) : Nat → CState → Bytes → Bool
  | 0, _, _ => true
  | fuel + 1, st, s =>
    let n := inp.length
    match s with
    | [] => true
    | b :: r =>
      if b == 0x23 then
        let r1 := dropComment r
        match r1 with
        | [] => true
        | _ => match newline? r1 with
          | some r2 =>
            let (st', r3) := parseWs n (onWs st (pos n s) (pos n r2)) r2
            runOkA inp fuel st' r3
          | none => true
      else if b == 0x5B then
        hdrLineOkA inp st s &&
        (match ctableLine n st s with
         | some (st', r1) =>
           let (st'', r2) := parseWs n st' r1
           runOkA inp fuel st'' r2
         | none => true)
      else if b == 0x0A || b == 0x0D then
        match newline? s with
        | some r1 =>
          let (st', r2) := parseWs n (onWs st (pos n s) (pos n r1)) r1
          runOkA inp fuel st' r2
        | none => true
      else
        kvLineOkA inp st s &&
        (match ckeyvalLine n st s with
         | some (st', r1) =>
           let (st'', r2) := parseWs n st' r1
           runOkA inp fuel st'' r2
         | none => true)

theorem runOkA_with (inp : Bytes) : ∀ (fuel : Nat) (st : CState) (s : Bytes),
    runOkA inp fuel st s = runOkWith (hdrLineOkA inp) (kvLineOkA inp) inp.length fuel st s
  | 0, _, _ => rfl
  | fuel + 1, st, s => by
    unfold runOkA runOkWith
    simp only [runOkA_with inp fuel]
    rfl

/-- the class: the checked run of `parse_document`, structure only -/
def adjRun (s : Bytes) : Bool :=
  let n := s.length
  let s0 := Doc.stripBom s
  let (st0, s1) := parseWs n {} s0
  runOkA s (s1.length + 1) st0 s1

/-! ### `ordRunV ⊆ adjRun` -/

theorem pathOkO_A (inp : Bytes) (a : Bool) (key : CKey) : ∀ (pp : List CKey) (t : CTbl),
    pathOkO inp a key t pp = true → pathOkA a key t pp = true
  | [], t, h => by
    simp only [pathOkO, Bool.and_eq_true] at h
    simp only [pathOkA, Bool.and_eq_true]
    refine ⟨h.1, ?_⟩
    have h2 := h.2
    cases hl : clookup key.key t.items with
    | none => rfl
    | some y =>
      rw [hl] at h2
      cases y with
      | value v => simp at h2
      | table sub => simp at h2
      | aot ts asp =>
        simp only [Bool.and_eq_true] at h2
        exact h2.1
  | k :: ks, t, h => by
    simp only [pathOkO, Bool.and_eq_true] at h
    simp only [pathOkA, Bool.and_eq_true]
    refine ⟨h.1, ?_⟩
    have h2 := h.2
    cases hl : clookup k.key t.items with
    | none => rfl
    | some y =>
      rw [hl] at h2
      cases y with
      | value v => simp at h2
      | table sub =>
        simp only [Bool.and_eq_true] at h2
        exact pathOkO_A inp a key ks sub h2.2
      | aot ts asp =>
        simp only [Bool.and_eq_true] at h2
        have h3 := h2.2
        simp only []
        split at h3
        · rename_i l rest hrev
          simp only [hrev]
          exact pathOkO_A inp a key ks l h3
        · cases h3

theorem dottedOk_A (inp : Bytes) : ∀ (path : List CKey) (t : CTbl), dottedOk inp t path = true → dottedOkA t path = true
  | [], _, _ => rfl
  | k :: ks, t, h => by
    simp only [dottedOk] at h
    simp only [dottedOkA]
    cases hl : clookup k.key t.items with
    | none => rfl
    | some y =>
      rw [hl] at h
      simp only [] at h ⊢
      split at h
      · rename_i init k' sub hle
        rw [hle]
        simp only [Bool.and_eq_true] at h ⊢
        exact ⟨h.1.2, dottedOk_A inp ks sub h.2⟩
      · cases h

theorem hdrLineOkO_A (inp : Bytes) (st : CState) (s : Bytes) (h : hdrLineOkO inp st s = true) :
    hdrLineOkA inp st s = true :=
  -- both checks unfold to `hdrLineOkWith` of their path predicate
  hdrLineOkWith_mono (fun a key t pp => pathOkO_A inp a key pp t) st s h

theorem kvLineOkV_A (inp : Bytes) (st : CState) (s : Bytes) (h : kvLineOkV inp st s = true) :
    kvLineOkA inp st s = true := by
  unfold kvLineOkV at h
  unfold kvLineOkA
  split
  · rename_i ks r1 hk
    rw [hk] at h
    simp only [] at h ⊢
    split
    · rename_i v r2 hv
      rw [hv] at h
      simp only [Bool.and_eq_true] at h
      have h2 := h.2
      split
      · rename_i path key hsl
        rw [hsl] at h2
        exact dottedOk_A inp path _ h2
      · rfl
    · rfl
  · rfl

theorem ordRunV_A (s : Bytes) (h : ordRunV s = true) : adjRun s = true := by
  unfold ordRunV at h
  unfold adjRun
  simp only [] at h ⊢
  rw [runOkO_with] at h
  rw [runOkA_with]
  exact runOkWith_mono _ (hdrLineOkO_A s) (kvLineOkV_A s) _ _ _ h

/-! ### the checks on particular inputs -/

theorem pathOkA_dotted {a : Bool} {key : CKey} {t : CTbl} {pp : List CKey}
    (h : pathOkA a key t pp = true) : t.dotted = false := by
  cases pp <;> simp only [pathOkA, Bool.and_eq_true, Bool.not_eq_true'] at h <;> exact h.1

theorem pathOkA_empty (a : Bool) (key : CKey) (t : CTbl) (hi : t.items = []) (hd : t.dotted = false) :
    ∀ pp, pathOkA a key t pp = true
  | [] => by simp [pathOkA, hi, hd, clookup]
  | k :: ks => by simp [pathOkA, hi, hd, clookup]

theorem dottedOkA_empty (t : CTbl) (h : t.items = []) : ∀ path, dottedOkA t path = true
  | [] => rfl
  | k :: ks => by simp [dottedOkA, h, clookup]

theorem dottedOkA_items (t t' : CTbl) (h : t'.items = t.items) :
    ∀ path, dottedOkA t' path = dottedOkA t path
  | [] => rfl
  | k :: ks => by simp only [dottedOkA, h]

theorem kvLineOkA_use (inp : Bytes) (st : CState) (s r1 r2 : Bytes) (ks path : List CKey) (key : CKey)
    (v : CVal) (hok : kvLineOkA inp st s = true) (hk : ckeyPath inp.length s = .ok ks (0x3D :: r1))
    (hv : cvalue inp.length (3 * r1.length + 4) (ks.length - 1) (dropWs r1) = .ok v r2)
    (hsl : splitLast ks = some (path, key)) : dottedOkA st.current path = true := by
  unfold kvLineOkA at hok
  rw [hk] at hok
  simp only [] at hok
  rw [hv] at hok
  simp only [hsl] at hok
  exact hok

end TomlVerif.Lemmas.Tiling03More
