import TomlVerif.Lemmas.CstEraseKey
import TomlVerif.Lemmas.CstStateOps
/-! The erasure, parse state: `Cst.CState` follows `State.ParseState` through `descend`, `on_keyval`,
    `finalize_table`, `start_table`, `start_array_table` and the two header callbacks — each an
    equation between the two sides, so also the rejected operations agree. -/
namespace TomlVerif.Lemmas.Tiling03More
open TomlVerif TomlVerif.Spec TomlVerif.Model TomlVerif.Model.Strings TomlVerif.Model.Value
open TomlVerif.Model.Cst TomlVerif.Lemmas.CstState

def eraseState (st : CState) : State.ParseState :=
  { root := eraseTbl st.root, position := st.position, current := eraseTbl st.current,
    currentIsArray := st.currentIsArray, currentPath := keysOf st.currentPath }

theorem eraseTbl_items (t : CTbl) : (eraseTbl t).items = mapKv eraseItem t.items := by
  cases t; simp [eraseTbl, Tbl.items, CTbl.items, eraseItems_eq]
theorem eraseTbl_implicit (t : CTbl) : (eraseTbl t).implicit = t.implicit := by
  cases t; simp [eraseTbl, Tbl.implicit, CTbl.implicit]
theorem eraseTbl_dotted (t : CTbl) : (eraseTbl t).dotted = t.dotted := by
  cases t; simp [eraseTbl, Tbl.dotted, CTbl.dotted]
theorem eraseTbl_pos (t : CTbl) : (eraseTbl t).pos = t.pos := by
  cases t; simp [eraseTbl, Tbl.pos, CTbl.pos]
theorem eraseTbl_setItems (t : CTbl) (i : List (CKey × CItem)) :
    eraseTbl (t.setItems i) = (eraseTbl t).setItems (mapKv eraseItem i) := by
  cases t; simp [eraseTbl, Tbl.setItems, CTbl.setItems, eraseItems_eq, Tbl.implicit, CTbl.implicit,
    Tbl.dotted, CTbl.dotted, Tbl.pos, CTbl.pos]
theorem eraseTbl_setSpan (t : CTbl) (s : Option Span) : eraseTbl (t.setSpan s) = eraseTbl t := by
  cases t; simp [eraseTbl, CTbl.setSpan, CTbl.items, CTbl.implicit, CTbl.dotted, CTbl.pos]
theorem eraseTbl_newImplicit (d : Bool) : eraseTbl (newImplicit d) = State.newImplicit d := by
  simp [newImplicit, State.newImplicit, eraseTbl, eraseItems]
theorem eraseTbl_empty : eraseTbl CTbl.empty = Tbl.empty := by
  simp [CTbl.empty, Tbl.empty, eraseTbl, eraseItems]
theorem eraseTbl_mk (items : List (CKey × CItem)) (i d : Bool) (p : Option Nat) (dec : Decor) (sp : Option Span) :
    eraseTbl (.mk items i d p dec sp) = .mk (mapKv eraseItem items) i d p := by
  simp [eraseTbl, eraseItems_eq]

theorem modifyLast_erase (ts : List CTbl) (f : CTbl → Option CTbl) (g : Tbl → Option Tbl)
    (h : ∀ t, (f t).map eraseTbl = g (eraseTbl t)) :
    (modifyLast ts f).map (List.map eraseTbl) = State.modifyLast (ts.map eraseTbl) g := by
  unfold modifyLast State.modifyLast
  rw [← List.map_reverse]
  cases ts.reverse with
  | nil => rfl
  | cons l initRev =>
    simp only [List.map_cons]
    rw [← h l]
    cases f l with
    | none => rfl
    | some l' => simp

theorem descend_erase : ∀ (path : List CKey) (t : CTbl) (d : Bool) (f : CTbl → Option CTbl)
    (g : Tbl → Option Tbl), (∀ t, (f t).map eraseTbl = g (eraseTbl t)) →
    (descend t path d f).map eraseTbl = State.descend (eraseTbl t) (keysOf path) d g := by
  intro path
  induction path with
  | nil =>
    intro t d f g h
    simp only [keysOf_nil]
    unfold descend State.descend
    exact h t
  | cons k ks ih =>
    intro t d f g h
    simp only [keysOf_cons]
    unfold descend State.descend
    simp only [eraseTbl_items, alookup_mapKv]
    have he : ((clookup k.key t.items).map eraseItem).getD (.table (State.newImplicit d)) =
        eraseItem ((clookup k.key t.items).getD (.table (newImplicit d))) := by
      cases clookup k.key t.items <;> simp [eraseItem, eraseTbl_newImplicit]
    rw [he]
    generalize (clookup k.key t.items).getD (.table (newImplicit d)) = entry
    cases entry with
    | value v => simp [eraseItem]
    | aot ts sp =>
      simp only [eraseItem, eraseTbls_eq, keysOf_isEmpty]
      by_cases hd : (d && !ks.isEmpty) = true
      · simp [hd]
      · simp only [hd, Bool.false_eq_true, if_false]
        rw [← modifyLast_erase ts _ _ (fun last => ih last d f g h)]
        cases modifyLast ts (fun last => descend last ks d f) with
        | none => rfl
        | some ts' =>
          simp only [Option.map_some, eraseTbl_setItems]
          rw [mapKv_cset]
          simp only [eraseItem, eraseTbls_eq]
    | table sub =>
      simp only [eraseItem, eraseTbl_implicit]
      by_cases hd : (d && !sub.implicit) = true
      · simp [hd]
      · simp only [hd, Bool.false_eq_true, if_false]
        rw [← ih sub d f g h]
        cases descend sub ks d f with
        | none => rfl
        | some sub' =>
          simp only [Option.map_some, eraseTbl_setItems]
          rw [mapKv_cset]
          simp only [eraseItem]

theorem onWs_erase (st : CState) (a b : Nat) : eraseState (onWs st a b) = eraseState st := by
  unfold onWs
  split <;> rfl

theorem descend_map_erase {cur : CTbl} {T : Tbl} {path : List CKey} {d : Bool}
    {f : CTbl → Option CTbl} {g : Tbl → Option Tbl} {F : CTbl → CState} {G : Tbl → State.ParseState}
    (hcur : eraseTbl cur = T) (hfg : ∀ t, (f t).map eraseTbl = g (eraseTbl t))
    (hFG : ∀ c, eraseState (F c) = G (eraseTbl c)) :
    ((descend cur path d f).map F).map eraseState = (State.descend T (keysOf path) d g).map G := by
  rw [← hcur, ← descend_erase path cur d f g hfg]
  cases descend cur path d f with
  | none => rfl
  | some c => simp [hFG]

theorem onKeyval_erase (st : CState) (path : List CKey) (key : CKey) (v : CVal) :
    (onKeyval st path key v).map eraseState =
      State.onKeyval (eraseState st) (keysOf path) key.key (eraseVal v) := by
  unfold onKeyval State.onKeyval
  simp only []
  apply descend_map_erase
  · show _ = eraseTbl st.current
    split <;> simp [eraseTbl_setSpan]
  · intro table
    simp only [eraseTbl_dotted, keysOf_isEmpty, eraseTbl_items, alookup_mapKv]
    by_cases hc : (table.dotted == path.isEmpty) = true
    · simp [hc]
    · simp only [hc, Bool.false_eq_true, if_false]
      cases clookup key.key table.items with
      | some x => rfl
      | none => simp [eraseTbl_setItems, eraseItem]
  · intro c; rfl

theorem finalizeTable_erase (st : CState) :
    (finalizeTable st).map eraseState = State.finalizeTable (eraseState st) := by
  unfold finalizeTable State.finalizeTable
  simp only []
  rw [ssplitLast_eq]
  have hp : (eraseState st).currentPath = keysOf st.currentPath := rfl
  have hr : (eraseState st).root = eraseTbl st.root := rfl
  have ha : (eraseState st).currentIsArray = st.currentIsArray := rfl
  have hc : (eraseState st).current = eraseTbl st.current := rfl
  rw [hp, vsplitLast_keysOf]
  cases Value.splitLast st.currentPath with
  | none =>
    simp only [Option.map_none, hr, eraseTbl_items, mapKv_isEmpty]
    by_cases he : st.root.items.isEmpty = true
    · simp only [he, if_true, Option.map_some]; rw [eraseTbl_empty.symm]; rfl
    · simp [he]
  | some p =>
    obtain ⟨pp, key⟩ := p
    simp only [Option.map_some, ha, hr, hc]
    cases st.currentIsArray with
    | true =>
      simp only [if_true]
      apply descend_map_erase rfl
      · intro parent
        simp only [eraseTbl_items, alookup_mapKv]
        have he : ((clookup key.key parent.items).map eraseItem).getD (.aot []) =
            eraseItem ((clookup key.key parent.items).getD (.aot [] none)) := by
          cases clookup key.key parent.items <;> simp [eraseItem, eraseTbls]
        rw [he]
        generalize (clookup key.key parent.items).getD (.aot [] none) = entry
        cases entry with
        | value v => rfl
        | table t => rfl
        | aot ts sp =>
          simp only [eraseItem, Option.map_some, eraseTbl_setItems]
          rw [mapKv_cset]
          simp [eraseItem, eraseTbls_eq]
      · intro c; rw [eraseTbl_empty.symm]; rfl
    | false =>
      simp only [Bool.false_eq_true, if_false]
      apply descend_map_erase rfl
      · intro parent
        simp only [eraseTbl_items, alookup_mapKv]
        cases clookup key.key parent.items with
        | none => simp [eraseTbl_setItems, eraseItem]
        | some it =>
          cases it with
          | value v => rfl
          | aot ts sp => rfl
          | table t =>
            simp only [Option.map_some, eraseItem, eraseTbl_implicit]
            cases t.implicit with
            | false => rfl
            | true =>
              simp only [if_true, Option.map_some, eraseTbl_setItems]
              rw [mapKv_creplace]
              simp [eraseItem]
      · intro c; rw [eraseTbl_empty.symm]; rfl

theorem findTable_erase (key : Bytes) : ∀ (path : List CKey) (t : CTbl),
    (findTable key t path).map eraseTbl = State.startTable.find key (eraseTbl t) (keysOf path) := by
  intro path
  induction path with
  | nil =>
    intro t
    simp only [keysOf_nil]
    unfold findTable State.startTable.find
    simp only [eraseTbl_items, alookup_mapKv]
    cases clookup key t.items with
    | none => rfl
    | some it => cases it <;> rfl
  | cons k ks ih =>
    intro t
    simp only [keysOf_cons]
    unfold findTable State.startTable.find
    simp only [eraseTbl_items, alookup_mapKv]
    cases clookup k.key t.items with
    | none => rfl
    | some it =>
      cases it with
      | value v => rfl
      | table sub => simp only [Option.map_some, eraseItem]; exact ih sub
      | aot ts sp =>
        simp only [Option.map_some, eraseItem, eraseTbls_eq, ← List.map_reverse]
        cases ts.reverse with
        | nil => rfl
        | cons l r => simp only [List.map_cons]; exact ih l

theorem startTable_cst_eq (st : CState) (path : List CKey) (decor : Decor) (span : Span) :
    startTable st path decor span =
      match Value.splitLast path with
      | none => none
      | some (pp, key) =>
        match descend st.root pp false (probeFn key) with
        | none => none
        | some _ =>
          match descend st.root pp false (eraseFn key) with
          | none => none
          | some root' =>
            some { st with root := root', position := st.position + 1, current := CTbl.mk (((findTable key.key st.root pp).getD st.current).items) false false (some (st.position + 1)) decor (some span), currentIsArray := false, currentPath := path } := by
  unfold startTable
  rfl

theorem startArrayTable_cst_eq (st : CState) (path : List CKey) (decor : Decor) (span : Span) :
    startArrayTable st path decor span =
      match Value.splitLast path with
      | none => none
      | some (pp, key) =>
        match descend st.root pp false (arrFn key) with
        | none => none
        | some root' =>
          some { st with root := root', position := st.position + 1, current := CTbl.mk (st.current.items) false false (some (st.position + 1)) decor (some span), currentIsArray := true, currentPath := path } := by
  unfold startArrayTable
  rfl

theorem probeFn_erase (key : CKey) (t : CTbl) : (probeFn key t).map eraseTbl = State09.probeF key.key (eraseTbl t) := by
  unfold probeFn State09.probeF
  simp only [eraseTbl_items, alookup_mapKv]
  cases clookup key.key t.items with
  | none => rfl
  | some it =>
    cases it with
    | value v => rfl
    | aot ts sp => rfl
    | table x =>
      simp only [Option.map_some, eraseItem, eraseTbl_implicit, eraseTbl_dotted]
      cases (x.implicit && !x.dotted) <;> rfl

theorem eraseFn_erase (key : CKey) (t : CTbl) : (eraseFn key t).map eraseTbl = State09.eraseF key.key (eraseTbl t) := by
  unfold eraseFn State09.eraseF
  simp only [Option.map_some, eraseTbl_setItems, eraseTbl_items, ← mapKv_cerase]

theorem arrFn_erase (key : CKey) (t : CTbl) : (arrFn key t).map eraseTbl = State09.arrStartF key.key (eraseTbl t) := by
  unfold arrFn State09.arrStartF
  simp only [eraseTbl_items, alookup_mapKv]
  cases clookup key.key t.items with
  | none => simp [eraseTbl_setItems, eraseItem, eraseTbls]
  | some it => cases it <;> rfl

theorem startTable_erase (st : CState) (path : List CKey) (decor : Decor) (span : Span) :
    (startTable st path decor span).map eraseState = State.startTable (eraseState st) (keysOf path) := by
  rw [startTable_cst_eq, State09.startTable_eq, ssplitLast_eq, vsplitLast_keysOf]
  have hr : (eraseState st).root = eraseTbl st.root := rfl
  cases Value.splitLast path with
  | none => rfl
  | some p =>
    obtain ⟨pp, key⟩ := p
    simp only [Option.map_some, hr]
    rw [← descend_erase pp st.root false _ _ (probeFn_erase key),
      ← descend_erase pp st.root false _ _ (eraseFn_erase key), ← findTable_erase]
    cases descend st.root pp false (probeFn key) with
    | none => rfl
    | some probe =>
      cases descend st.root pp false (eraseFn key) with
      | none => rfl
      | some root' =>
        cases findTable key.key st.root pp with
        | none => simp [eraseState, eraseTbl_mk, eraseTbl_items]
        | some x => simp [eraseState, eraseTbl_mk, eraseTbl_items]

theorem startArrayTable_erase (st : CState) (path : List CKey) (decor : Decor) (span : Span) :
    (startArrayTable st path decor span).map eraseState =
      State.startArrayTable (eraseState st) (keysOf path) := by
  rw [startArrayTable_cst_eq, State09.startArrayTable_def, ssplitLast_eq, vsplitLast_keysOf]
  have hr : (eraseState st).root = eraseTbl st.root := rfl
  cases Value.splitLast path with
  | none => rfl
  | some p =>
    obtain ⟨pp, key⟩ := p
    simp only [Option.map_some, hr]
    rw [← descend_erase pp st.root false _ _ (arrFn_erase key)]
    cases descend st.root pp false (arrFn key) with
    | none => rfl
    | some root' => simp [eraseState, eraseTbl_mk, eraseTbl_items]

theorem takeTrailing_state_erase (st : CState) (t : Option Span) :
    eraseState { st with trailing := t } = eraseState st := rfl

theorem onStdHeader_erase (st : CState) (path : List CKey) (trailing : Raw) (span : Span) :
    (onStdHeader st path trailing span).map eraseState = State.onStdHeader (eraseState st) (keysOf path) := by
  unfold onStdHeader State.onStdHeader
  rw [← finalizeTable_erase]
  cases finalizeTable st with
  | none => rfl
  | some st' =>
    simp only [Option.map_some]
    rw [startTable_erase]
    rfl

theorem onArrayHeader_erase (st : CState) (path : List CKey) (trailing : Raw) (span : Span) :
    (onArrayHeader st path trailing span).map eraseState =
      State.onArrayHeader (eraseState st) (keysOf path) := by
  unfold onArrayHeader State.onArrayHeader
  rw [← finalizeTable_erase]
  cases finalizeTable st with
  | none => rfl
  | some st' =>
    simp only [Option.map_some]
    rw [startArrayTable_erase]
    rfl

theorem intoDocument_erase (st : CState) :
    (intoDocument st).map (fun d => eraseTbl d.root) = State.intoDocument (eraseState st) := by
  unfold intoDocument State.intoDocument
  rw [← finalizeTable_erase]
  cases finalizeTable st with
  | none => rfl
  | some st' => rfl

end TomlVerif.Lemmas.Tiling03More
