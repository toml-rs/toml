import TomlVerif.Model.Macro
import TomlVerif.Lemmas.Bytes
/-! C19: the lexer model `lexAux`, one token at a time.
    `LexStep B text out`: before any continuation satisfying `B`, the lexer reads `text` as the flat tokens `out`
    and goes on with the continuation.  Steps compose (`LexStep.seq`); the boundary conditions are on the first
    byte of what follows (`Hd`). -/
namespace TomlVerif.Lemmas.Macro19c
open TomlVerif TomlVerif.Spec TomlVerif.Model TomlVerif.Model.Macro

def Hd (p : Byte → Bool) : Bytes → Prop
  | [] => True
  | b :: _ => p b = true

def HdIn (p : Byte → Bool) (t : Bytes) : Prop := ∃ b r, t = b :: r ∧ p b = true

theorem Hd_of_HdIn {p : Byte → Bool} {t : Bytes} (h : HdIn p t) (rest : Bytes) : Hd p (t ++ rest) := by
  obtain ⟨b, r, rfl, hb⟩ := h; exact hb

theorem HdIn_append {p : Byte → Bool} {t : Bytes} (h : HdIn p t) (u : Bytes) : HdIn p (t ++ u) := by
  obtain ⟨b, r, rfl, hb⟩ := h; exact ⟨b, r ++ u, rfl, hb⟩

theorem HdIn_mono {p q : Byte → Bool} {t : Bytes} (h : HdIn p t) (hpq : ∀ b, p b = true → q b = true) : HdIn q t := by
  obtain ⟨b, r, e, hb⟩ := h; exact ⟨b, r, e, hpq b hb⟩

theorem Hd_mono {p q : Byte → Bool} {t : Bytes} (h : Hd p t) (hpq : ∀ b, p b = true → q b = true) : Hd q t := by
  cases t with
  | nil => trivial
  | cons b r => exact hpq b h

/-- `fuel'` is the fuel left behind `text`: `lexAux` spends one unit per token and per blank, so how much a text
    takes depends on the text; all a caller needs is that enough is left for `rest` -/
def LexStep (B : Bytes → Prop) (text : Bytes) (out : List FTok) : Prop :=
  ∀ rest acc fuel, B rest → (text ++ rest).length < fuel →
    ∃ fuel', rest.length < fuel' ∧ lexAux fuel (text ++ rest) acc = lexAux fuel' rest (out.reverse ++ acc)

theorem LexStep.nil (B : Bytes → Prop) : LexStep B [] [] := by
  intro rest acc fuel _ hf
  exact ⟨fuel, by simpa using hf, by simp⟩

theorem LexStep.weaken {B B' : Bytes → Prop} {t : Bytes} {o : List FTok} (h : LexStep B t o)
    (hb : ∀ r, B' r → B r) : LexStep B' t o :=
  fun rest acc fuel hr hf => h rest acc fuel (hb rest hr) hf

theorem LexStep.comp {B1 B2 : Bytes → Prop} {t1 t2 : Bytes} {o1 o2 : List FTok} (h1 : LexStep B1 t1 o1)
    (h2 : LexStep B2 t2 o2) (hb : ∀ rest, B2 rest → B1 (t2 ++ rest)) : LexStep B2 (t1 ++ t2) (o1 ++ o2) := by
  intro rest acc fuel hr hf
  obtain ⟨f1, hf1, e1⟩ := h1 (t2 ++ rest) acc fuel (hb rest hr) (by simpa [List.append_assoc] using hf)
  obtain ⟨f2, hf2, e2⟩ := h2 rest (o1.reverse ++ acc) f1 hr hf1
  refine ⟨f2, hf2, ?_⟩
  rw [List.append_assoc, e1, e2]
  simp

theorem LexStep.seq {q : Byte → Bool} {B2 : Bytes → Prop} {t1 t2 : Bytes} {o1 o2 : List FTok}
    (h1 : LexStep (Hd q) t1 o1) (h2 : LexStep B2 t2 o2) (hh : HdIn q t2) : LexStep B2 (t1 ++ t2) (o1 ++ o2) :=
  LexStep.comp h1 h2 (fun rest _ => Hd_of_HdIn hh rest)

theorem LexStep.seqT {B2 : Bytes → Prop} {t1 t2 : Bytes} {o1 o2 : List FTok}
    (h1 : LexStep (fun _ => True) t1 o1) (h2 : LexStep B2 t2 o2) : LexStep B2 (t1 ++ t2) (o1 ++ o2) :=
  LexStep.comp h1 h2 (fun _ _ => trivial)

theorem LexStep.anyB {B : Bytes → Prop} {t : Bytes} {o : List FTok} (h : LexStep (fun _ => True) t o) : LexStep B t o :=
  h.weaken (fun _ _ => trivial)

theorem lex_of_step {B : Bytes → Prop} {t : Bytes} {o : List FTok} (h : LexStep B t o) (hB : B []) : lex t = some o := by
  unfold lex
  obtain ⟨f, hf, e⟩ := h [] [] (t.length + 1) hB (by simp)
  rw [List.append_nil] at e
  rw [e]
  obtain ⟨k, rfl⟩ : ∃ k, f = k + 1 := ⟨f - 1, by simp at hf; omega⟩
  simp [lexAux]

theorem LexStep.one {B : Bytes → Prop} {b : Byte} {t : Bytes} {out : List FTok}
    (h : ∀ rest acc k, B rest → lexAux (k + 1) (b :: (t ++ rest)) acc = lexAux k rest (out.reverse ++ acc)) :
    LexStep B (b :: t) out := by
  intro rest acc fuel hr hf
  obtain ⟨k, rfl⟩ : ∃ k, fuel = k + 1 := ⟨fuel - 1, by simp at hf; omega⟩
  exact ⟨k, by simp at hf; omega, h rest acc k hr⟩

theorem spanP_append (p : Byte → Bool) (w rest : Bytes) (hw : w.all p = true) (hr : Hd (fun c => !p c) rest) :
    spanP p (w ++ rest) = (w, rest) := by
  induction w with
  | nil =>
    cases rest with
    | nil => rfl
    | cons c r =>
      have : p c = false := by simpa [Hd] using hr
      simp [spanP, this]
  | cons b t ih =>
    simp only [List.all_cons, Bool.and_eq_true] at hw
    simp [spanP, hw.1, ih hw.2]

theorem ws_step (b : Byte) (hb : isWs b = true) : LexStep (fun _ => True) [b] [] := by
  refine LexStep.one fun rest acc k _ => ?_
  simp [lexAux, hb]

theorem sp_step : LexStep (fun _ => True) [0x20] [] := ws_step _ (by decide)

/-- the lone `_` is no identifier for rustc -/
def identOk (w : Bytes) : Bool :=
  match w with
  | b :: t => isIdStart b && t.all isIdCont && !(w == [0x5F])
  | [] => false

def identFol (c : Byte) : Bool := !isIdCont c && !(c == 0x22) && !(c == 0x27) && !(c == 0x23)

theorem idStart_facts : ∀ b : Byte, isIdStart b = true → isWs b = false ∧ isIdCont b = true :=
  forall_byte (by decide +kernel)

theorem ident_step (w : Bytes) (hw : identOk w = true) : LexStep (Hd identFol) w [.t (.ident w)] := by
  cases w with
  | nil => simp [identOk] at hw
  | cons b t =>
    refine LexStep.one fun rest acc k hr => ?_
    simp only [identOk, Bool.and_eq_true, Bool.not_eq_true', beq_eq_false_iff_ne, ne_eq] at hw
    obtain ⟨⟨hb, ht⟩, hne⟩ := hw
    obtain ⟨h1, h2⟩ := idStart_facts b hb
    have hsp : spanP isIdCont (b :: t ++ rest) = (b :: t, rest) := by
      apply spanP_append
      · simp [h2, ht]
      · exact Hd_mono hr (by intro c hc; simp only [identFol, Bool.and_eq_true] at hc; exact hc.1.1.1)
    conv => lhs; unfold lexAux
    simp only [h1, hb, if_true, Bool.false_eq_true, if_false]
    rw [← List.cons_append, hsp]
    have hne' : ¬(b = 95 ∧ t = []) := by simpa using hne
    cases rest with
    | nil => simp [hne']
    | cons c r =>
      simp only [Hd, identFol, Bool.and_eq_true, Bool.not_eq_true', beq_eq_false_iff_ne, ne_eq] at hr
      simp [hr.1.1.2, hr.1.2, hr.2, hne']

def punctFol (b c : Byte) : Bool := !glues b c

theorem punct_facts : ∀ b : Byte, isPunct b = true →
    isWs b = false ∧ isIdStart b = false ∧ isDigit b = false ∧ (b == 0x22) = false ∧ (b == 0x27) = false ∧
    delimOpen b = none ∧ delimClose b = none := by
  intro b h
  simp only [isPunct, Bool.or_eq_true, beq_iff_eq] at h
  rcases h with ((((rfl | rfl) | rfl) | rfl) | rfl) | rfl <;> decide

theorem punct_step (b : Byte) (hb : isPunct b = true) : LexStep (Hd (punctFol b)) [b] [.t (.punct b)] := by
  refine LexStep.one fun rest acc k hr => ?_
  obtain ⟨h1, h2, h3, h4, h5, h6, h7⟩ := punct_facts b hb
  rw [List.nil_append]
  conv => lhs; unfold lexAux
  simp only [h1, h2, h3, h4, h5, h6, h7, hb, Bool.false_eq_true, if_false, if_true]
  cases rest with
  | nil => simp
  | cons c r =>
    simp only [Hd, punctFol, Bool.not_eq_true'] at hr
    simp [hr]

def openByte : Delim → Byte
  | .paren => 0x28 | .bracket => 0x5B | .brace => 0x7B
def closeByte : Delim → Byte
  | .paren => 0x29 | .bracket => 0x5D | .brace => 0x7D

theorem open_step (d : Delim) : LexStep (fun _ => True) [openByte d] [.opn d] := by
  refine LexStep.one fun rest acc k _ => ?_
  cases d <;> rfl

theorem close_step (d : Delim) : LexStep (fun _ => True) [closeByte d] [.cls d] := by
  refine LexStep.one fun rest acc k _ => ?_
  cases d <;> rfl

theorem group_step (d : Delim) {B : Bytes → Prop} {q : Byte → Bool} {t : Bytes} {o : List FTok}
    (h : LexStep (Hd q) t o) (hq : q (closeByte d) = true) :
    LexStep B (openByte d :: (t ++ [closeByte d])) (.opn d :: (o ++ [.cls d])) := by
  have := LexStep.seqT (open_step d) (LexStep.seq h (close_step d) ⟨closeByte d, [], rfl, hq⟩)
  exact LexStep.anyB (by simpa using this)

theorem comma_step : LexStep (fun _ => True) [0x2C] [.t (.punct 0x2C)] :=
  (punct_step 0x2C (by decide)).weaken (fun r _ => by
    cases r with
    | nil => trivial
    | cons c t => simp [Hd, punctFol, glues])

def strFol (c : Byte) : Bool := !isIdStart c

theorem str_step (body raw val : Bytes)
    (h : ∀ rest, lexStrBody (body ++ rest) [] [] = some (raw, val, rest)) :
    LexStep (Hd strFol) (0x22 :: body) [.t (.str ([0x22] ++ raw ++ [0x22]) val)] := by
  refine LexStep.one fun rest acc k hr => ?_
  conv => lhs; unfold lexAux
  have hq : isWs 0x22 = false ∧ isIdStart 0x22 = false ∧ isDigit 0x22 = false := by decide
  simp only [hq.1, hq.2.1, hq.2.2, Bool.false_eq_true, if_false, beq_self_eq_true, if_true, h rest]
  cases rest with
  | nil => simp
  | cons c r =>
    simp only [Hd, strFol, Bool.not_eq_true'] at hr
    simp [hr]

/-- the suffix scanner of `lexNumber` -/
def sfxOf (r : Bytes) : Bytes × Bytes :=
  match r with
  | c :: _ => if isIdStart c then spanP isIdCont r else ([], r)
  | [] => ([], r)

/-- a suffix as the date-time shapes have it (`T07`, `t07`, `Z`, `z`): `T`, `t`, `Z` or `z`, then any identifier bytes -/
def sfxOk (sf : Bytes) : Bool :=
  match sf with
  | c :: t => (c == 0x54 || c == 0x74 || c == 0x5A || c == 0x7A) && t.all isIdCont
  | [] => false

/-- what may follow the digits of a decimal literal so that they are lexed as an integer without exponent:
    not a digit, `_`, `.`, `e`, `E` -/
def decStop (c : Byte) : Bool := !isDigU c && !(c == 0x2E) && !(c == 0x65) && !(c == 0x45)

def fracStop (c : Byte) : Bool := !isDigU c && !(c == 0x65) && !(c == 0x45)

def isRadix (c : Byte) : Bool := c == 0x78 || c == 0x6F || c == 0x62

theorem sfx_head_facts : ∀ c : Byte, (c == 0x54 || c == 0x74 || c == 0x5A || c == 0x7A) = true →
    isIdStart c = true ∧ isIdCont c = true ∧ decStop c = true ∧ fracStop c = true ∧ isRadix c = false := by
  intro c h
  simp only [Bool.or_eq_true, beq_iff_eq] at h
  rcases h with ((rfl | rfl) | rfl) | rfl <;> decide

/-- where the suffix scanner splits `sf` off: there is none and the next byte, of class `fol`, starts none; or it is
    one of the date-time shapes and the next byte ends it -/
def SfxAt (fol : Byte → Bool) (sf rest : Bytes) : Prop :=
  (sf = [] ∧ Hd fol rest) ∨ (sfxOk sf = true ∧ Hd (fun c => !isIdCont c) rest)

theorem sfxOf_split {fol : Byte → Bool} (hf : ∀ c, fol c = true → isIdStart c = false) {sf rest : Bytes}
    (h : SfxAt fol sf rest) : sfxOf (sf ++ rest) = (sf, rest) := by
  rcases h with ⟨rfl, hr⟩ | ⟨hs, hr⟩
  · cases rest with
    | nil => rfl
    | cons c t => simp [sfxOf, hf c hr]
  · cases sf with
    | nil => simp [sfxOk] at hs
    | cons c t =>
      simp only [sfxOk, Bool.and_eq_true] at hs
      obtain ⟨f1, f2, _⟩ := sfx_head_facts c hs.1
      simp only [sfxOf, List.cons_append, f1, if_true]
      exact spanP_append isIdCont (c :: t) rest (by simp [f2, hs.2]) hr

theorem SfxAt.hd {fol q : Byte → Bool} (hf : ∀ c, fol c = true → q c = true)
    (hq : ∀ c, (c == 0x54 || c == 0x74 || c == 0x5A || c == 0x7A) = true → q c = true) {sf rest : Bytes}
    (h : SfxAt fol sf rest) : Hd q (sf ++ rest) := by
  rcases h with ⟨rfl, hr⟩ | ⟨hs, _⟩
  · exact Hd_mono hr hf
  · cases sf with
    | nil => simp [sfxOk] at hs
    | cons c t =>
      simp only [sfxOk, Bool.and_eq_true] at hs
      exact hq c hs.1

theorem digit_facts2 : ∀ b : Byte, isDigit b = true →
    isDigU b = true ∧ isWs b = false ∧ isIdStart b = false ∧ isRadix b = false ∧
    (b == 0x2E) = false ∧ (0x80 ≤ b) = false :=
  forall_byte (by decide +kernel)

theorem all_digU (ds : Bytes) (h : ds.all isDigit = true) : ds.all isDigU = true := by
  rw [List.all_eq_true] at h ⊢
  intro b hb
  exact (digit_facts2 b (h b hb)).1

theorem lexDecimal_int (ds T : Bytes) (hd : ds.all isDigit = true) (hT : Hd decStop T) :
    lexNumber.lexDecimal (ds ++ T) sfxOf = some (ds, (sfxOf T).1, false, (sfxOf T).2) := by
  unfold lexNumber.lexDecimal
  have hsp : spanP isDigU (ds ++ T) = (ds, T) :=
    spanP_append isDigU ds T (all_digU ds hd)
      (Hd_mono hT (by intro c hc; simp only [decStop, Bool.and_eq_true] at hc; exact hc.1.1.1))
  simp only [hsp]
  cases T with
  | nil => simp [sfxOf]
  | cons c r =>
    simp only [Hd, decStop, Bool.and_eq_true, Bool.not_eq_true', beq_eq_false_iff_ne, ne_eq] at hT
    obtain ⟨⟨⟨_, h2⟩, h3⟩, h4⟩ := hT
    split
    · rename_i heq; injection heq with heq _; exact absurd heq h2
    · rename_i e r3 _ heq
      injection heq with e1 e2
      subst e1 e2
      simp [h3, h4]
    · rename_i heq; cases heq

theorem lexNumber_eq_decimal (s : Bytes) (h : ∀ c r, s = 0x30 :: c :: r → isRadix c = false) :
    lexNumber s = lexNumber.lexDecimal s sfxOf := by
  unfold lexNumber
  split
  · rename_i c r
    have := h c r rfl
    simp only [isRadix] at this
    simp only [this, Bool.false_eq_true, if_false]
    rfl
  · rfl

theorem second_cases (ds T : Bytes) (hne : ds ≠ []) (hd : ds.all isDigit = true) (c : Byte) (r : Bytes)
    (e : ds ++ T = 0x30 :: c :: r) : isDigit c = true ∨ ∃ r', T = c :: r' := by
  cases ds with
  | nil => exact absurd rfl hne
  | cons d t =>
    cases t with
    | nil => right; simp at e; exact ⟨r, e.2⟩
    | cons d2 t2 =>
      left
      simp at e hd
      rw [← e.2.1]; exact hd.2.1

def intFol (c : Byte) : Bool := decStop c && !isIdStart c

def floatFol (c : Byte) : Bool := !isDigU c && !isIdStart c

theorem intFol_facts (c : Byte) (h : intFol c = true) : (decStop c && !isRadix c) = true ∧ isIdStart c = false := by
  -- `x`, `o`, `b` start an identifier
  have h1 := ne_of_class (c := 0x78) h (by decide)
  have h2 := ne_of_class (c := 0x6F) h (by decide)
  have h3 := ne_of_class (c := 0x62) h (by decide)
  simp only [intFol, Bool.and_eq_true, Bool.not_eq_true'] at h
  simp [isRadix, h.1, h.2, h1, h2, h3]

theorem floatFol_facts (c : Byte) (h : floatFol c = true) : fracStop c = true ∧ isIdStart c = false := by
  -- `e` and `E` start an identifier
  have h1 := ne_of_class (c := 0x65) h (by decide)
  have h2 := ne_of_class (c := 0x45) h (by decide)
  simp only [floatFol, Bool.and_eq_true, Bool.not_eq_true'] at h
  simp [fracStop, h.1, h.2, h1, h2]

theorem lexNumber_int (ds sf rest : Bytes) (hne : ds ≠ []) (hd : ds.all isDigit = true) (h : SfxAt intFol sf rest) :
    lexNumber (ds ++ (sf ++ rest)) = some (ds, sf, false, rest) := by
  have hT : Hd (fun c => decStop c && !isRadix c) (sf ++ rest) :=
    h.hd (fun c hc => (intFol_facts c hc).1) (fun c hc => by simp [(sfx_head_facts c hc).2.2.1, (sfx_head_facts c hc).2.2.2.2])
  rw [lexNumber_eq_decimal, lexDecimal_int ds _ hd (Hd_mono hT (by intro c hc; simp only [Bool.and_eq_true] at hc; exact hc.1)),
    sfxOf_split (fun c hc => (intFol_facts c hc).2) h]
  intro c r e
  rcases second_cases ds _ hne hd c r e with hc | ⟨r', e'⟩
  · exact (digit_facts2 c hc).2.2.2.1
  · rw [e'] at hT
    simp only [Hd, Bool.and_eq_true, Bool.not_eq_true'] at hT
    exact hT.2

theorem lexDecimal_frac (ip fp T : Bytes) (hi : ip.all isDigit = true) (hf : fp.all isDigit = true) (hfne : fp ≠ [])
    (hT : Hd fracStop T) :
    lexNumber.lexDecimal (ip ++ 0x2E :: (fp ++ T)) sfxOf =
      some (ip ++ [0x2E] ++ fp, (sfxOf T).1, true, (sfxOf T).2) := by
  unfold lexNumber.lexDecimal
  have hsp : spanP isDigU (ip ++ 0x2E :: (fp ++ T)) = (ip, 0x2E :: (fp ++ T)) :=
    spanP_append isDigU ip _ (all_digU ip hi) (by simp [Hd, isDigU, isDigit, inR])
  have hsp2 : spanP isDigU (fp ++ T) = (fp, T) :=
    spanP_append isDigU fp T (all_digU fp hf)
      (Hd_mono hT (by intro c hc; simp only [fracStop, Bool.and_eq_true] at hc; exact hc.1.1))
  simp only [hsp]
  obtain ⟨d, fp', rfl⟩ := List.exists_cons_of_ne_nil hfne
  have hdd : isDigit d = true := by simp at hf; exact hf.1
  obtain ⟨_, _, g3, _, g5, g6⟩ := digit_facts2 d hdd
  simp only [List.cons_append, g5, g3, g6, Bool.not_false, Bool.and_self]
  rw [← List.cons_append, hsp2]
  simp only []
  cases T with
  | nil => simp [sfxOf]
  | cons c r =>
    simp only [Hd, fracStop, Bool.and_eq_true, Bool.not_eq_true', beq_eq_false_iff_ne, ne_eq] at hT
    simp [hT.1.2, hT.2]

theorem lexNumber_frac (ip fp sf rest : Bytes) (hne : ip ≠ []) (hi : ip.all isDigit = true) (hf : fp.all isDigit = true)
    (hfne : fp ≠ []) (h : SfxAt floatFol sf rest) :
    lexNumber (ip ++ 0x2E :: (fp ++ (sf ++ rest))) = some (ip ++ [0x2E] ++ fp, sf, true, rest) := by
  rw [lexNumber_eq_decimal, lexDecimal_frac ip fp _ hi hf hfne
      (h.hd (fun c hc => (floatFol_facts c hc).1) (fun c hc => (sfx_head_facts c hc).2.2.2.1)),
    sfxOf_split (fun c hc => (floatFol_facts c hc).2) h]
  intro c r e
  rcases second_cases ip _ hne hi c r e with hc | ⟨r', e'⟩
  · exact (digit_facts2 c hc).2.2.2.1
  · injection e' with e1 _
    rw [← e1]; decide

theorem num_step {q : Byte → Bool} (text body sf : Bytes) (fl : Bool) (hh : HdIn isDigit text)
    (h : ∀ rest, Hd q rest → lexNumber (text ++ rest) = some (body, sf, fl, rest)) :
    LexStep (Hd q) text [.t (.num body sf fl)] := by
  obtain ⟨b, t, rfl, hb⟩ := hh
  refine LexStep.one fun rest acc k hr => ?_
  obtain ⟨_, g2, g3, _⟩ := digit_facts2 b hb
  have := h rest hr
  rw [List.cons_append] at this
  conv => lhs; unfold lexAux
  simp only [g2, g3, hb, Bool.false_eq_true, if_false, if_true, this]
  simp

end TomlVerif.Lemmas.Macro19c
