import TomlVerif.Lemmas.DeSpanned14Strip
/-! Lemmas for Props/C14SpannedFull.lean: under `Ok`, `decodeSp` with the wrappers forgotten is `decodeLoc` into the
    stripped type, errors included (`tr_ty`, the induction over the wrapper grammar for `T14_spanned_transparent`). -/
namespace TomlVerif.Lemmas.DeSpanned14
open TomlVerif TomlVerif.Model TomlVerif.Model.DeTyped TomlVerif.Model.Cst TomlVerif.Model.DeLocated
open TomlVerif.Model.DeSpanned TomlVerif.Lemmas.DeLocated15

theorem unitShape_val (fl : TomlValue.Flavour) (n : Bytes) (p : CItem) :
    lmap (fun _ => Dec.vUnit n) (decodeLocShape fl .unit n p) = decodeLocShape fl .unit n p := by
  unfold decodeLocShape
  cases citemElems p with
  | some l => simp only []; split <;> rfl
  | none =>
    simp only []
    cases citemEntries p with
    | some es => simp only []; split <;> rfl
    | none => rfl

theorem lmap_plain_strip (x : LR Dec) : lmap stripDec (lmap SDec.plain x) = x := by
  cases x <;> rfl

theorem mapL_lmap_congr {α β γ δ} (h : β → γ) (F : List β → δ) (G : List γ → δ) (f : α → LR β) (g : α → LR γ)
    (l : List α) (hf : ∀ a ∈ l, lmap h (f a) = g a) (hFG : ∀ r, F r = G (r.map h)) :
    lmap F (mapL f l) = lmap G (mapL g l) := by
  rw [← lmap_mapL h f g l hf, lmap_lmap]
  exact lmap_congr _ _ _ hFG

mutual
theorem tr_ty (fl : TomlValue.Flavour) : ∀ (t : STy) (it : CItem), Ok t it →
    lmap stripDec (decodeSp fl t it) = decodeLoc fl (strip t) it
  | .plain t, it, _ => by
    unfold decodeSp
    simp only [strip]
    exact lmap_plain_strip _
  | .spanned t, it, h => by
    unfold Ok at h
    obtain ⟨hs, hok⟩ := h
    conv => lhs; unfold decodeSp
    cases hsp : itemSpan it with
    | none => rw [hsp] at hs; simp at hs
    | some ab =>
      obtain ⟨a, b⟩ := ab
      simp only [strip]
      rw [← tr_ty fl t it hok, lmap_lmap]
      exact lmap_congr _ _ _ fun d => by simp [stripDec]
  | .option t, it, h => by
    unfold Ok at h
    conv => lhs; unfold decodeSp
    simp only [strip]
    conv => rhs; unfold decodeLoc
    rw [← tr_ty fl t it h]
    cases decodeSp fl t it <;> rfl
  | .newtype t, it, h => by
    unfold Ok at h
    conv => lhs; unfold decodeSp
    simp only [strip]
    conv => rhs; unfold decodeLoc
    rw [← tr_ty fl t it h]
    cases decodeSp fl t it <;> rfl
  | .seq t, it, h => by
    unfold Ok at h
    conv => lhs; unfold decodeSp
    simp only [strip]
    conv => rhs; unfold decodeLoc
    rw [lmap_atSpan]
    congr 1
    cases hl : citemElems it with
    | none => rfl
    | some l =>
      simp only []
      rw [lmap_lmap]
      exact mapL_lmap_congr stripDec _ _ _ _ l (fun a ha => by simp only [lmap_atSpan]; rw [tr_ty fl t a (h l hl a ha)])
        (fun r => by simp [stripDec, stripDecs_eq_map])
  | .map kt t, it, h => by
    unfold Ok at h
    conv => lhs; unfold decodeSp
    simp only [strip]
    conv => rhs; unfold decodeLoc
    rw [lmap_atSpan]
    congr 1
    cases hl : locMapEntries it with
    | none => rfl
    | some es =>
      simp only []
      rw [lmap_lmap]
      refine mapL_lmap_congr (fun kd : SKey × SDec => (stripKey kd.1, stripDec kd.2)) _ _ _ _ es (fun kv hkv => ?_)
        (fun r => by simp [stripDec, stripEntries_eq_map])
      have hok := h es hl kv hkv
      obtain ⟨key, src⟩ := kv
      cases src with
      | item k i =>
        -- `decodeLoc` tags the entry with the key of the source, `decodeSp` with the decoded key: they are the same
        obtain ⟨_, _, _, hsm⟩ := srcs_item_mem it es hl key k i hkv
        simp only [] at hok ⊢
        obtain ⟨hko, hsp, hoki⟩ := hok
        obtain ⟨kk, hdk, hsk⟩ := decodeKey_ok k.key (keySpan k) kt hko hsp
        rw [hdk, ← tr_ty fl t i hoki]
        subst hsm
        cases decodeSp fl t i <;> simp [atSpan, lmap, inEntry, hsk]
      | str s =>
        simp only [] at hok ⊢
        obtain ⟨hkt, hso⟩ := hok
        subst hkt
        rw [← decodeStrSp_strip t s hso]
        cases decodeStrSp t s <;> simp [decodeKeyStr, lmap, liftV, rmap, stripKey, vfail]
  | .struct fs, it, h => by
    unfold Ok at h
    obtain ⟨hmiss, hent, hseq⟩ := h
    conv => lhs; unfold decodeSp
    simp only [strip]
    conv => rhs; unfold decodeLoc
    rw [lmap_atSpan]
    congr 1
    cases hl : locMapEntries it with
    | some es =>
      simp only []
      have hk : (fun k => Fields.hasName k (stripFields fs)) = (fun k => SFields.hasName k fs) :=
        funext fun k => hasName_strip k fs
      rw [hk]
      have hw := walk_strip (fun k => SFields.hasName k fs) (fun k src => decodeSpEntry fl fs k src)
        (fun k src => decodeLocEntry fl (stripFields fs) k src) es []
        (fun kv hkv => tr_entry fl fs kv.1 kv.2 (hent es hl kv hkv))
      cases hx : walkG visitorErr (fun k => SFields.hasName k fs) (fun k src => decodeSpEntry fl fs k src) [] es with
      | error e => rw [hx] at hw; simp only [lmap] at hw; rw [← hw]; rfl
      | ok ds =>
        rw [hx] at hw
        simp only [lmap] at hw
        rw [← hw]
        simp only []
        rw [← fill_strip fs ds hmiss, lmap_lmap, lmap_lmap]
        exact lmap_congr _ _ _ fun a => by simp [stripDec]
    | none =>
      simp only []
      cases hle : citemElems it with
      | none => rfl
      | some l =>
        simp only []
        rw [← tr_fseq fl fs l (hseq l hle), lmap_lmap, lmap_lmap]
        exact lmap_congr _ _ _ fun a => by simp [stripDec]
  | .enum vs, it, h => by
    unfold Ok at h
    conv => lhs; unfold decodeSp
    simp only [strip]
    conv => rhs; unfold decodeLoc
    rw [lmap_atSpan]
    congr 1
    -- anything but a string goes by the entries of the table
    have entries : lmap stripDec
          (match citemEntries it with
          | some [(k, payload)] => decodeSpVariants fl vs k payload
          | some _ => failAt it.span
          | none => failAt it.span) =
        match citemEntries it with
        | some [(k, payload)] => decodeLocVariants fl (stripVariants vs) k payload
        | some _ => failAt it.span
        | none => failAt it.span := by
      cases hc : citemEntries it with
      | none => rfl
      | some es =>
        match es, hc with
        | [], _ => rfl
        | [(k, p)], hc => exact tr_variants fl vs k p (h k p hc)
        | _ :: _ :: _, _ => rfl
    cases he : eraseItem it with
    | value v =>
      cases v with
      | str s => simp only []; rw [lmap_liftV, unitOnlySp_strip]
      | _ => exact entries
    | _ => exact entries
theorem tr_entry (fl : TomlValue.Flavour) : ∀ (fs : SFields) (k : Bytes) (src : LSrc), OkEntry fs k src →
    lmap (Option.map stripDec) (decodeSpEntry fl fs k src) = decodeLocEntry fl (stripFields fs) k src
  | .nil, k, src, _ => by unfold decodeSpEntry; simp only [stripFields]; unfold decodeLocEntry; rfl
  | .cons name t dflt r, k, src, h => by
    unfold OkEntry at h
    unfold decodeSpEntry
    simp only [stripFields]
    unfold decodeLocEntry
    by_cases hn : (name == k) = true
    · simp only [hn, if_true] at h ⊢
      rw [lmap_lmap]
      cases src with
      | item key i =>
        simp only [] at h ⊢
        rw [← tr_ty fl t i h]
        cases decodeSp fl t i <;> rfl
      | str s =>
        simp only [] at h ⊢
        rw [← decodeStrSp_strip t s h]
        cases decodeStrSp t s <;> rfl
    · simp only [hn] at h ⊢
      exact tr_entry fl r k src h
theorem tr_fseq (fl : TomlValue.Flavour) : ∀ (fs : SFields) (l : List CItem), OkSeq fs l →
    lmap stripNamed (decodeSpFieldsSeq fl fs l) = decodeLocFieldsSeq fl (stripFields fs) l
  | .nil, l, _ => by unfold decodeSpFieldsSeq; simp only [stripFields]; unfold decodeLocFieldsSeq; rfl
  | .cons name t dflt r, [], h => by
    unfold OkSeq at h
    unfold decodeSpFieldsSeq
    simp only [stripFields]
    unfold decodeLocFieldsSeq
    cases dflt with
    | true =>
      simp only [if_true]
      rw [← tr_fseq fl r [] h, lmap_lmap, lmap_lmap]
      exact lmap_congr _ _ _ fun a => by simp [stripNamed, stripDec]
    | false => rfl
  | .cons name t dflt r, i :: l, h => by
    unfold OkSeq at h
    unfold decodeSpFieldsSeq
    simp only [stripFields]
    unfold decodeLocFieldsSeq
    rw [← tr_fseq fl r l h.2, ← tr_ty fl t i h.1]
    cases decodeSp fl t i <;> cases decodeSpFieldsSeq fl r l <;> simp [lcons, lmap, atSpan, stripNamed]
theorem tr_variants (fl : TomlValue.Flavour) : ∀ (vs : SVariants) (k : CKey) (p : CItem), OkVariants vs k.key p →
    lmap stripDec (decodeSpVariants fl vs k p) = decodeLocVariants fl (stripVariants vs) k p
  | .nil, k, p, _ => by unfold decodeSpVariants; simp only [stripVariants]; unfold decodeLocVariants; rfl
  | .cons name s r, k, p, h => by
    unfold OkVariants at h
    unfold decodeSpVariants
    simp only [stripVariants]
    unfold decodeLocVariants
    by_cases hn : (name == k.key) = true
    · simp only [hn, if_true] at h ⊢; exact tr_shape fl s name p h
    · simp only [hn] at h ⊢; exact tr_variants fl r k p h
theorem tr_shape (fl : TomlValue.Flavour) : ∀ (s : SShape) (n : Bytes) (p : CItem), OkShape s p →
    lmap stripDec (decodeSpShape fl s n p) = decodeLocShape fl (stripShape s) n p
  | .unit, n, p, _ => by
    unfold decodeSpShape
    simp only [stripShape]
    rw [lmap_lmap]
    simpa [stripDec] using unitShape_val fl n p
  | .newtype t, n, p, h => by
    unfold OkShape at h
    unfold decodeSpShape
    simp only [stripShape]
    conv => rhs; unfold decodeLocShape
    rw [← tr_ty fl t p h, lmap_lmap, lmap_lmap]
    exact lmap_congr _ _ _ fun d => by simp [stripDec]
end

end TomlVerif.Lemmas.DeSpanned14
