import TomlVerif.Lemmas.Ser07
import TomlVerif.Lemmas.Built06
/-! C07 at the TEXT level: the texts of the serializer routes, the data a parsed document holds, and the
    route `toml_edit::ser::to_string` (no formatting visitor).

    `Model/Ser.lean` stops at document TREES (`Node`) and their printed CONTENT (`shownRoot`); it has no printer.  The
    texts are defined here, by handing the serializer's tree to the two printers of the project (each tested
    differentially under its own property); `Driver/C07.lean` prints them (in hex, for float-free results) next to
    `shownRoot …`, and the harness compares them with the crates' output byte for byte:

    * `Model/Encode06.lean` `printDoc` (`impl Display for DocumentMut` on a decorated tree, decor unset = default
      decor) — used for `toml_edit::ser::to_string`: `to_document` leaves a root `Table` (`InlineTable::into_table`:
      `Table::with_pairs` + `fmt`, so `implicit = false`, `doc_position = None`) whose entries are all
      `Item::Value`s with unset decor (`Array::with_vec`, `InlineTable::with_pairs`: `..Default::default()`);
    * `Model/TomlValue.lean` `renderStmts … (emitDoc …)` (`DocumentFormatter` / the guarded `Pretty` followed by
      `Display for DocumentMut`, plain and pretty layout) — used for `toml::to_string`, `toml::to_string_pretty`
      and `toml_edit::ser::to_string_pretty` in `Lemmas/Ser07TextRoutes.lean`.

    Floats: `Scalar.float` carries the bit pattern only; the text of a double is `toml_write`'s
    (`Encode06.reprFloat`) on top of std's `Display` text, which the model does not compute: `disp : FloatDisp`
    stands for it (as `BVal.float`'s `disp` does in C06), constrained by `Props.C06.FloatOk` where needed. -/
namespace TomlVerif.Lemmas.Ser07Text
open TomlVerif TomlVerif.Model TomlVerif.Model.Ser TomlVerif.Spec TomlVerif.Spec.Serde
open TomlVerif.Model.Encode06 TomlVerif.Spec.Encode06 TomlVerif.Props.C06
open TomlVerif.Lemmas.Ser07 TomlVerif.Lemmas.Encode06b TomlVerif.Lemmas.Encode06c TomlVerif.Lemmas.Encode06d TomlVerif.Lemmas.Encode06e

/-- std's `Display` text of the double with the given bits -/
abbrev FloatDisp := Nat → Bytes

mutual
def dvOf (disp : FloatDisp) : V → DVal
  | .sc (.str s) => .str s {}
  | .sc (.int n) => .int n {}
  | .sc (.float b) => .float b (disp b) {}
  | .sc (.bool b) => .bool b {}
  | .sc (.dt d) => .dt d {}
  | .arr xs => .arr (dvOfList disp xs) {}
  | .inl kvs => .inl (dvOfKVs disp kvs) {}
def dvOfList (disp : FloatDisp) : List V → List DVal
  | [] => []
  | x :: r => dvOf disp x :: dvOfList disp r
def dvOfKVs (disp : FloatDisp) : List (Bytes × V) → List (Bytes × DVal)
  | [] => []
  | (k, v) :: r => (k, dvOf disp v) :: dvOfKVs disp r
end

/-- the entries of the root table `to_document` returns: every one an `Item::Value` -/
def rootItems (disp : FloatDisp) : List (Bytes × V) → List (Bytes × DItem)
  | [] => []
  | (k, v) :: r => (k, .value (dvOf disp v)) :: rootItems disp r

/-- `toml_edit::ser::to_document(value)` for a value that serialized to the inline table `kvs` -/
def editDoc (disp : FloatDisp) (kvs : List (Bytes × V)) : DTbl := .mk (rootItems disp kvs) false none

/-- **`toml_edit::ser::to_string`**: `to_document(value).map(|doc| doc.to_string())` -/
def textEdit (disp : FloatDisp) (v : SVal) : Except SerErr Bytes :=
  match serDocument v with
  | .ok kvs => .ok (printDoc (editDoc disp kvs))
  | .error e => .error e

mutual
def dataVal : Val → V
  | .str s => .sc (.str s)
  | .int n => .sc (.int n)
  | .float b => .sc (.float b)
  | .bool b => .sc (.bool b)
  | .dt d => .sc (.dt d)
  | .arr items => .arr (dataVals items)
  | .inl items _ _ => .inl (dataPairs items)
def dataVals : List Val → List V
  | [] => []
  | v :: r => dataVal v :: dataVals r
def dataPairs : List (Bytes × Val) → List (Bytes × V)
  | [] => []
  | (k, v) :: r => (k, dataVal v) :: dataPairs r
end

mutual
/-- a parsed item as plain data: tables of every syntax are maps, arrays of tables are arrays of maps -/
def dataItem : Item → V
  | .value v => dataVal v
  | .table t => .inl (dataTbl t)
  | .aot ts => .arr (dataTbls ts)
/-- the parsed document as plain data, entries in the order the parser holds them -/
def dataTbl : Tbl → List (Bytes × V)
  | .mk items _ _ _ => dataItems items
def dataTbls : List Tbl → List V
  | [] => []
  | t :: r => .inl (dataTbl t) :: dataTbls r
def dataItems : List (Bytes × Item) → List (Bytes × V)
  | [] => []
  | (k, i) :: r => (k, dataItem i) :: dataItems r
end

/-- what a TOML text can say about a double: every NaN is `nan` or `-nan` (`canonFloat`) -/
def canonScalar : Scalar → Scalar
  | .float b => .float (canonFloat b)
  | s => s

mutual
def canonV : V → V
  | .sc s => .sc (canonScalar s)
  | .arr xs => .arr (canonVs xs)
  | .inl kvs => .inl (canonKVs kvs)
def canonVs : List V → List V
  | [] => []
  | x :: r => canonV x :: canonVs r
def canonKVs : List (Bytes × V) → List (Bytes × V)
  | [] => []
  | (k, v) :: r => (k, canonV v) :: canonKVs r
end

/-- a leaf the printer prints so that the parser reads it back: an integer in the `i64` range, a double whose
    `Display` text is what std guarantees (`FloatOk`), a date-time with fields in range and a year ≤ 9999 -/
def ScalarOkS (disp : FloatDisp) : Scalar → Prop
  | .str _ => True
  | .int n => Numbers.inI64 n = true
  | .float b => FloatOk b (disp b)
  | .bool _ => True
  | .dt d => Props.C12.FieldsInRange d ∧ ∀ x, d.date = some x → x.year ≤ 9999

mutual
def LeavesOkS (disp : FloatDisp) : V → Prop
  | .sc s => ScalarOkS disp s
  | .arr xs => LeavesOkSs disp xs
  | .inl kvs => LeavesOkSKVs disp kvs
def LeavesOkSs (disp : FloatDisp) : List V → Prop
  | [] => True
  | x :: r => LeavesOkS disp x ∧ LeavesOkSs disp r
def LeavesOkSKVs (disp : FloatDisp) : List (Bytes × V) → Prop
  | [] => True
  | (_, v) :: r => LeavesOkS disp v ∧ LeavesOkSKVs disp r
end

mutual
def depthS : V → Nat
  | .sc _ => 0
  | .arr xs => 1 + depthSs xs
  | .inl kvs => 1 + depthSKVs kvs
def depthSs : List V → Nat
  | [] => 0
  | x :: r => max (depthS x) (depthSs r)
def depthSKVs : List (Bytes × V) → Nat
  | [] => 0
  | (_, v) :: r => max (depthS v) (depthSKVs r)
end

mutual
def NodupS : V → Prop
  | .sc _ => True
  | .arr xs => NodupSs xs
  | .inl kvs => NodupSKVs kvs ∧ (kvs.map Prod.fst).Nodup
def NodupSs : List V → Prop
  | [] => True
  | x :: r => NodupS x ∧ NodupSs r
def NodupSKVs : List (Bytes × V) → Prop
  | [] => True
  | (_, v) :: r => NodupS v ∧ NodupSKVs r
end

theorem nodupSKVs_iff (l : List (Bytes × V)) : NodupSKVs l ↔ ∀ kv ∈ l, NodupS kv.2 := by
  induction l with
  | nil => simp [NodupSKVs]
  | cons x r ih => obtain ⟨k, v⟩ := x; simp [NodupSKVs, ih]

theorem nodup_aset (k : Bytes) (x : V) (acc : List (Bytes × V)) (hx : NodupS x)
    (ha : NodupSKVs acc ∧ (acc.map Prod.fst).Nodup) :
    NodupSKVs (aset k x acc) ∧ ((aset k x acc).map Prod.fst).Nodup := by
  refine ⟨?_, State09.aset_nodup _ _ _ ha.2⟩
  rw [nodupSKVs_iff]
  intro kv hkv
  rcases State09.mem_aset _ _ _ _ hkv with e | e
  · rw [e]; exact hx
  · exact (nodupSKVs_iff _).1 ha.1 kv e

theorem nodup_ints : ∀ b : Bytes, NodupSs (intsOfBytes b)
  | [] => by simp [intsOfBytes, NodupSs]
  | x :: r => by simp [intsOfBytes, NodupSs, NodupS, nodup_ints r]

mutual
theorem serValue_nodup : ∀ (v : SVal) (t : V), serValue v = .ok t → NodupS t
  | .bool _, t, h | .int _ _, t, h | .f32 _, t, h | .f64 _, t, h | .char _, t, h | .str _, t, h
  | .unitVariant _ _, t, h => by cases serValue_step h <;> trivial
  | .bytes b, t, h => by cases serValue_step h; rw [NodupS]; exact nodup_ints b
  | .none, t, h | .unit, t, h | .unitStruct _, t, h => by cases serValue_step h
  | .some v, t, h => by cases serValue_step h with | some _ _ h' => exact serValue_nodup v t h'
  | .newtype _ v, t, h => by cases serValue_step h with | newtype _ _ _ h' => exact serValue_nodup v t h'
  | .seq xs, t, h => by cases serValue_step h with | seq _ l hs => rw [NodupS]; exact serSeq_nodup xs l hs
  | .tuple xs, t, h => by cases serValue_step h with | tuple _ l hs => rw [NodupS]; exact serSeq_nodup xs l hs
  | .tupleStruct _ xs, t, h => by
    cases serValue_step h with | tupleStruct _ _ l hs => rw [NodupS]; exact serSeq_nodup xs l hs
  | .map kvs, t, h => by
    cases serValue_step h with
    | map _ l hs => rw [NodupS]; exact serMap_nodup kvs [] l ⟨trivial, List.nodup_nil⟩ hs
  | .struct name fs, t, h => by
    cases serValue_step h with
    | datetime => trivial
    | struct _ _ l _ hs => rw [NodupS]; exact serFields_nodup fs [] l ⟨trivial, List.nodup_nil⟩ hs
  | .newtypeVariant _ variant v, t, h => by
    cases serValue_step h with
    | newtypeVariant _ _ _ x hs => simp [NodupS, NodupSKVs, serValue_nodup v x hs]
  | .tupleVariant _ variant xs, t, h => by
    cases serValue_step h with
    | tupleVariant _ _ _ l hs => simp [NodupS, NodupSKVs, serSeq_nodup xs l hs]
  | .structVariant _ variant fs, t, h => by
    cases serValue_step h with
    | structVariant _ _ _ l hs =>
      have := serFields_nodup fs [] l ⟨trivial, List.nodup_nil⟩ hs
      simp [NodupS, NodupSKVs, this.1, this.2]
theorem serSeq_nodup : ∀ (xs : List SVal) (l : List V), serSeq xs = .ok l → NodupSs l
  | [], l, h => by simp only [serSeq, Except.ok.injEq] at h; subst h; trivial
  | x :: r, l, h => by
    obtain ⟨v, l', rfl, hx, hr⟩ := SerTyped07.serSeq_cons x r l h
    rw [NodupSs]; exact ⟨serValue_nodup x v hx, serSeq_nodup r l' hr⟩
theorem serFields_nodup : ∀ (fs : List (Bytes × SVal)) (acc l : List (Bytes × V)),
    (NodupSKVs acc ∧ (acc.map Prod.fst).Nodup) → serFields fs acc = .ok l → NodupSKVs l ∧ (l.map Prod.fst).Nodup
  | [], acc, l, ha, h => by simp only [serFields, Except.ok.injEq] at h; subst h; exact ha
  | (k, v) :: r, acc, l, ha, h => by
    by_cases hn : v = .none
    · subst hn; simp only [serFields] at h; exact serFields_nodup r acc l ha h
    · rw [serFields_cons k r acc hn] at h
      cases hx : serValue v with
      | error e => rw [hx] at h; cases h
      | ok x =>
        rw [hx] at h
        exact serFields_nodup r _ l (nodup_aset k x acc (serValue_nodup v x hx) ha) h
theorem serMap_nodup : ∀ (kvs : List (SVal × SVal)) (acc l : List (Bytes × V)),
    (NodupSKVs acc ∧ (acc.map Prod.fst).Nodup) → serMap kvs acc = .ok l → NodupSKVs l ∧ (l.map Prod.fst).Nodup
  | [], acc, l, ha, h => by simp only [serMap, Except.ok.injEq] at h; subst h; exact ha
  | (k, v) :: r, acc, l, ha, h => by
    by_cases hn : v = .none
    · subst hn
      simp only [serMap] at h
      cases hk : serKey k with
      | error e => rw [hk] at h; cases h
      | ok key => rw [hk] at h; exact serMap_nodup r acc l ha h
    · rw [serMap_cons k r acc hn] at h
      cases hk : serKey k with
      | error e => rw [hk] at h; cases h
      | ok key =>
        rw [hk] at h
        simp only [] at h
        cases hx : serValue v with
        | error e => rw [hx] at h; cases h
        | ok x =>
          rw [hx] at h
          exact serMap_nodup r _ l (nodup_aset key x acc (serValue_nodup v x hx) ha) h
end

theorem serDocument_nodup (v : SVal) (kvs : List (Bytes × V)) (h : serDocument v = .ok kvs) :
    NodupSKVs kvs ∧ (kvs.map Prod.fst).Nodup := by
  have := serValue_nodup v _ (serDocument_value v kvs h)
  rw [NodupS] at this
  exact this

theorem decorOf_dvOf (disp : FloatDisp) : ∀ v : V, decorOf (dvOf disp v) = {}
  | .sc (.str _) | .sc (.int _) | .sc (.float _) | .sc (.bool _) | .sc (.dt _) => rfl
  | .arr _ => by rw [dvOf]; rfl
  | .inl _ => by rw [dvOf]; rfl
theorem keys_dvOfKVs (disp : FloatDisp) : ∀ l : List (Bytes × V), (dvOfKVs disp l).map Prod.fst = l.map Prod.fst
  | [] => rfl
  | (k, v) :: r => by simp [dvOfKVs, keys_dvOfKVs disp r]

mutual
theorem good_dvOf (disp : FloatDisp) : ∀ v : V, NodupS v → GoodV (dvOf disp v)
  | .sc (.str _), _ | .sc (.int _), _ | .sc (.float _), _ | .sc (.bool _), _ | .sc (.dt _), _ => by simp [dvOf, GoodV]
  | .arr xs, h => by rw [NodupS] at h; rw [dvOf, GoodV]; exact good_dvOfList disp xs h
  | .inl kvs, h => by
    rw [NodupS] at h
    rw [dvOf, GoodV]
    exact ⟨good_dvOfKVs disp kvs h.1, by rw [keysP_eq, keys_dvOfKVs disp kvs]; exact h.2⟩
theorem good_dvOfList (disp : FloatDisp) : ∀ l : List V, NodupSs l → GoodVs (dvOfList disp l)
  | [], _ => by simp [dvOfList, GoodVs]
  | x :: r, h => by
    rw [NodupSs] at h
    rw [dvOfList, GoodVs]
    exact ⟨by rw [decorOf_dvOf]; exact decOk_unset, good_dvOf disp x h.1, good_dvOfList disp r h.2⟩
theorem good_dvOfKVs (disp : FloatDisp) : ∀ l : List (Bytes × V), NodupSKVs l → GoodPs (dvOfKVs disp l)
  | [], _ => by simp [dvOfKVs, GoodPs]
  | (k, v) :: r, h => by
    rw [NodupSKVs] at h
    rw [dvOfKVs, GoodPs]
    exact ⟨decorOf_dvOf disp v, good_dvOf disp v h.1, good_dvOfKVs disp r h.2⟩
end

mutual
theorem leaves_dvOf (disp : FloatDisp) : ∀ v : V, LeavesOkS disp v → LeavesOkV (dvOf disp v)
  | .sc (.str s), _ => by simp only [dvOf, LeavesOkV]; exact LeafOk.str _ _
  | .sc (.int n), h => by
    simp only [dvOf, LeavesOkV]; exact LeafOk.int _ _ (by simpa [LeavesOkS, ScalarOkS] using h)
  | .sc (.float b), h => by
    simp only [dvOf, LeavesOkV]; exact LeafOk.float _ _ _ (by simpa [LeavesOkS, ScalarOkS] using h)
  | .sc (.bool b), _ => by simp only [dvOf, LeavesOkV]; exact LeafOk.bool _ _
  | .sc (.dt d), h => by
    simp only [dvOf, LeavesOkV]
    have h' : Props.C12.FieldsInRange d ∧ ∀ x, d.date = some x → x.year ≤ 9999 := by
      simpa [LeavesOkS, ScalarOkS] using h
    exact LeafOk.dt _ _ h'.1 h'.2
  | .arr xs, h => by rw [LeavesOkS] at h; rw [dvOf, LeavesOkV]; exact leaves_dvOfList disp xs h
  | .inl kvs, h => by rw [LeavesOkS] at h; rw [dvOf, LeavesOkV]; exact leaves_dvOfKVs disp kvs h
theorem leaves_dvOfList (disp : FloatDisp) : ∀ l : List V, LeavesOkSs disp l → LeavesOkVs (dvOfList disp l)
  | [], _ => by simp [dvOfList, LeavesOkVs]
  | x :: r, h => by
    rw [LeavesOkSs] at h; rw [dvOfList, LeavesOkVs]; exact ⟨leaves_dvOf disp x h.1, leaves_dvOfList disp r h.2⟩
theorem leaves_dvOfKVs (disp : FloatDisp) : ∀ l : List (Bytes × V), LeavesOkSKVs disp l → LeavesOkPairs (dvOfKVs disp l)
  | [], _ => by simp [dvOfKVs, LeavesOkPairs]
  | (k, v) :: r, h => by
    rw [LeavesOkSKVs] at h; rw [dvOfKVs, LeavesOkPairs]; exact ⟨leaves_dvOf disp v h.1, leaves_dvOfKVs disp r h.2⟩
end

mutual
theorem depth_dvOf (disp : FloatDisp) : ∀ v : V, depthV (dvOf disp v) = depthS v
  | .sc (.str _) | .sc (.int _) | .sc (.float _) | .sc (.bool _) | .sc (.dt _) => rfl
  | .arr xs => by rw [dvOf, depthV, depthS, depth_dvOfList disp xs]
  | .inl kvs => by rw [dvOf, depthV, depthS, depth_dvOfKVs disp kvs]
theorem depth_dvOfList (disp : FloatDisp) : ∀ l : List V, depthVs (dvOfList disp l) = depthSs l
  | [] => rfl
  | x :: r => by rw [dvOfList, depthVs, depthSs, depth_dvOf disp x, depth_dvOfList disp r]
theorem depth_dvOfKVs (disp : FloatDisp) : ∀ l : List (Bytes × V), depthPairs (dvOfKVs disp l) = depthSKVs l
  | [] => rfl
  | (k, v) :: r => by rw [dvOfKVs, depthPairs, depthSKVs, depth_dvOf disp v, depth_dvOfKVs disp r]
end

mutual
theorem data_canon_dvOf (disp : FloatDisp) : ∀ v : V, dataVal (canonValD (dvOf disp v)) = canonV v
  | .sc (.str _) | .sc (.int _) | .sc (.float _) | .sc (.bool _) | .sc (.dt _) => rfl
  | .arr xs => by rw [dvOf, canonValD, dataVal, canonV, data_canon_dvOfList disp xs]
  | .inl kvs => by rw [dvOf, canonValD, dataVal, canonV, data_canon_dvOfKVs disp kvs]
theorem data_canon_dvOfList (disp : FloatDisp) : ∀ l : List V, dataVals (canonValsD (dvOfList disp l)) = canonVs l
  | [] => rfl
  | x :: r => by rw [dvOfList, canonValsD, dataVals, canonVs, data_canon_dvOf disp x, data_canon_dvOfList disp r]
theorem data_canon_dvOfKVs (disp : FloatDisp) : ∀ l : List (Bytes × V),
    dataPairs (canonPairsD (dvOfKVs disp l)) = canonKVs l
  | [] => rfl
  | (k, v) :: r => by rw [dvOfKVs, canonPairsD, dataPairs, canonKVs, data_canon_dvOf disp v, data_canon_dvOfKVs disp r]
end

mutual
theorem dataVal_erase : ∀ v : Val, dataVal (eraseVal v) = dataVal v
  | .str _ | .int _ | .float _ | .bool _ | .dt _ => rfl
  | .arr items => by rw [eraseVal, dataVal, dataVal, dataVals_erase items]
  | .inl items _ _ => by rw [eraseVal, dataVal, dataVal, dataPairs_erase items]
theorem dataVals_erase : ∀ l : List Val, dataVals (eraseVals l) = dataVals l
  | [] => rfl
  | v :: r => by rw [eraseVals, dataVals, dataVals, dataVal_erase v, dataVals_erase r]
theorem dataPairs_erase : ∀ l : List (Bytes × Val), dataPairs (erasePairs l) = dataPairs l
  | [] => rfl
  | (k, v) :: r => by rw [erasePairs, dataPairs, dataPairs, dataVal_erase v, dataPairs_erase r]
end

mutual
theorem dataItem_erase : ∀ i : Item, dataItem (eraseItem i) = dataItem i
  | .value v => by rw [eraseItem, dataItem, dataItem, dataVal_erase v]
  | .table t => by rw [eraseItem, dataItem, dataItem, dataTbl_erase t]
  | .aot ts => by rw [eraseItem, dataItem, dataItem, dataTbls_erase ts]
theorem dataTbl_erase : ∀ t : Tbl, dataTbl (eraseTbl t) = dataTbl t
  | .mk items _ _ _ => by rw [eraseTbl, dataTbl, dataTbl, dataItems_erase items]
theorem dataTbls_erase : ∀ l : List Tbl, dataTbls (eraseTbls l) = dataTbls l
  | [] => rfl
  | t :: r => by rw [eraseTbls, dataTbls, dataTbls, dataTbl_erase t, dataTbls_erase r]
theorem dataItems_erase : ∀ l : List (Bytes × Item), dataItems (eraseItems l) = dataItems l
  | [] => rfl
  | (k, i) :: r => by rw [eraseItems, dataItems, dataItems, dataItem_erase i, dataItems_erase r]
end

theorem keys_rootItems (disp : FloatDisp) : ∀ l : List (Bytes × V), (rootItems disp l).map Prod.fst = l.map Prod.fst
  | [] => rfl
  | (k, v) :: r => by simp [rootItems, keys_rootItems disp r]

theorem ok_rootItems (disp : FloatDisp) : ∀ l : List (Bytes × V), NodupSKVs l → LeavesOkSKVs disp l →
    depthSKVs l < Value.LIMIT → OkItems (rootItems disp l) 0
  | [], _, _, _ => by simp [rootItems, OkItems]
  | (k, v) :: r, hn, hl, hd => by
    rw [NodupSKVs] at hn
    rw [LeavesOkSKVs] at hl
    rw [depthSKVs] at hd
    rw [rootItems, OkItems, OkI]
    refine ⟨⟨good_dvOf disp v hn.1, decorOf_dvOf disp v, leaves_dvOf disp v hl.1, ?_⟩,
      ok_rootItems disp r hn.2 hl.2 (by omega)⟩
    rw [depth_dvOf]; omega

theorem expect_rootItems (disp : FloatDisp) : ∀ l : List (Bytes × V),
    dataItems (expectValues (rootItems disp l) ++ expectTables (rootItems disp l)) = canonKVs l
  | [] => rfl
  | (k, v) :: r => by
    have ih := expect_rootItems disp r
    simp only [rootItems, expectValues, expectTables, List.cons_append, dataItems, dataItem, canonKVs,
      data_canon_dvOf disp v]
    rw [ih]

theorem parse_editDoc (disp : FloatDisp) (kvs : List (Bytes × V)) (hn : NodupSKVs kvs ∧ (kvs.map Prod.fst).Nodup)
    (hl : LeavesOkSKVs disp kvs) (hd : depthSKVs kvs < Value.LIMIT) :
    (Doc.parseDocument (printDoc (editDoc disp kvs))).map dataTbl = some (canonKVs kvs) := by
  have hok : OkT (editDoc disp kvs) 0 := by
    rw [editDoc, OkT]
    exact ⟨rfl, rfl, by decide, by rw [keys_rootItems]; exact hn.2, ok_rootItems disp kvs hn.1 hl hd⟩
  have h := doc_roundtrip (editDoc disp kvs) hok
  cases hp : Doc.parseDocument (printDoc (editDoc disp kvs)) with
  | none => rw [hp] at h; cases h
  | some T =>
    rw [hp] at h
    simp only [Option.map, Option.some.injEq] at h ⊢
    rw [← dataTbl_erase T, h, editDoc, expectT, dataTbl, expect_rootItems]

end TomlVerif.Lemmas.Ser07Text
