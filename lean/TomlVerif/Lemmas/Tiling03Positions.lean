import TomlVerif.Lemmas.Tiling03NestTree
import TomlVerif.Lemmas.CstInduct
/-! C03, nested documents — the positions of a tree, summarised.  The entries `visit_nested_tables`
    collects from a table are summarised by the list of their recorded positions (`none`: an
    implicit table, which inherits the last position seen) and of their `entOk` flags (`sumTbl`);
    `good lo s` says the summary is sorted from `lo` with all flags set.  The walk of the printer
    follows the summary, and a good summary of the root gives `preorderDoc`.  The file also holds
    `descend_setItems` … `finFn_setItems`: the state operations change nothing of a table but its
    items (no positions in them; `Same03Spine` / `Same03State` use them too). -/
namespace TomlVerif.Lemmas.Tiling03More
open TomlVerif TomlVerif.Spec TomlVerif.Model TomlVerif.Model.Strings TomlVerif.Model.Value
open TomlVerif.Model.Cst TomlVerif.Model.Encode TomlVerif.Lemmas.Suffix03 TomlVerif.Lemmas.Cst03
open TomlVerif.Lemmas.LastByte03 TomlVerif.Lemmas.Tiling03 TomlVerif.Lemmas.Tiling03Hdr
open TomlVerif.Lemmas.Tiling03Nest

abbrev Sum := List (Option Nat × Bool)

/-- `entOk` of the entry of table `t` (`isRoot`: its path is empty) -/
def okFlag (t : CTbl) (isRoot isArr : Bool) : Bool :=
  isRoot || t.decor.pre.isSome || (!isArr && t.implicit && (valuesTbl t.items []).isEmpty)

/-- the entry of the table itself: none for a dotted-key table -/
def hdSum (t : CTbl) (isRoot isArr : Bool) : Sum :=
  if t.dotted then [] else [(t.pos, okFlag t isRoot isArr)]

mutual
def sumTbl : CTbl → Bool → Bool → Sum
  | .mk items imp dot p dec sp, isRoot, isArr =>
    hdSum (.mk items imp dot p dec sp) isRoot isArr ++ sumItems items
def sumItems : List (CKey × CItem) → Sum
  | [] => []
  | (_, it) :: r =>
    match it with
    | .table t => sumTbl t false false ++ sumItems r
    | .aot ts _ => sumAot ts ++ sumItems r
    | .value _ => sumItems r
def sumAot : List CTbl → Sum
  | [] => []
  | t :: r => sumTbl t false true ++ sumAot r
end

theorem sumTbl_eq (t : CTbl) (r a : Bool) : sumTbl t r a = hdSum t r a ++ sumItems t.items := by
  cases t; rw [sumTbl]; rfl

theorem sumItems_append : ∀ (x y : Items), sumItems (x ++ y) = sumItems x ++ sumItems y
  | [], y => by simp [sumItems]
  | (k, .table t) :: r, y => by
    simp only [List.cons_append, sumItems, sumItems_append r y, List.append_assoc]
  | (k, .aot ts sp) :: r, y => by
    simp only [List.cons_append, sumItems, sumItems_append r y, List.append_assoc]
  | (k, .value v) :: r, y => by
    simp only [List.cons_append, sumItems, sumItems_append r y]

theorem sumAot_append : ∀ (x y : List CTbl), sumAot (x ++ y) = sumAot x ++ sumAot y
  | [], y => by simp [sumAot]
  | t :: r, y => by simp only [List.cons_append, sumAot, sumAot_append r y, List.append_assoc]

def good : Nat → Sum → Bool
  | _, [] => true
  | lo, (p, ok) :: r => ok && decide (lo ≤ p.getD lo) && good (p.getD lo) r

def lastOf : Nat → Sum → Nat
  | lo, [] => lo
  | lo, (p, _) :: r => lastOf (p.getD lo) r

theorem good_append : ∀ (a b : Sum) (lo : Nat), good lo (a ++ b) = (good lo a && good (lastOf lo a) b)
  | [], b, lo => by simp [good, lastOf]
  | (p, ok) :: r, b, lo => by
    simp only [List.cons_append, good, lastOf, good_append r b, Bool.and_assoc]

theorem lastOf_append : ∀ (a b : Sum) (lo : Nat), lastOf lo (a ++ b) = lastOf (lastOf lo a) b
  | [], b, lo => by simp [lastOf]
  | (p, ok) :: r, b, lo => by simp only [List.cons_append, lastOf, lastOf_append r b]

theorem good_nones : ∀ (n lo : Nat), good lo (List.replicate n (none, true)) = true
  | 0, _ => rfl
  | n + 1, lo => by simp [List.replicate_succ, good, good_nones n lo]

theorem lastOf_nones : ∀ (n lo : Nat), lastOf lo (List.replicate n (none, true)) = lo
  | 0, _ => rfl
  | n + 1, lo => by simp [List.replicate_succ, lastOf, lastOf_nones n lo]

def chain (lo : Nat) (l : List Entry) : Bool := sortedFrom lo l && l.all entOk

def endPos : Nat → List Entry → Nat
  | lo, [] => lo
  | _, e :: r => endPos e.pos r

theorem sortedFrom_append : ∀ (a b : List Entry) (lo : Nat),
    sortedFrom lo (a ++ b) = (sortedFrom lo a && sortedFrom (endPos lo a) b)
  | [], b, lo => by simp [sortedFrom, endPos]
  | e :: r, b, lo => by
    simp only [List.cons_append, sortedFrom, endPos, sortedFrom_append r b, Bool.and_assoc]

theorem endPos_append : ∀ (a b : List Entry) (lo : Nat), endPos lo (a ++ b) = endPos (endPos lo a) b
  | [], b, lo => by simp [endPos]
  | e :: r, b, lo => by simp only [List.cons_append, endPos, endPos_append r b]

theorem chain_append (a b : List Entry) (lo : Nat) : chain lo (a ++ b) = (chain lo a && chain (endPos lo a) b) := by
  unfold chain
  rw [sortedFrom_append, List.all_append]
  cases sortedFrom lo a <;> cases a.all entOk <;> simp

/-- one leg of the walk: new entries are appended; their summary is `s`.  `lastOf` and `endPos` carry
    the running position on the summary side and on the entry side; the last conjunct is an equation
    of Booleans so that legs compose (`Step.trans`, through `good_append` / `chain_append`). -/
def Step (st r : Nat × List Entry) (s : Sum) : Prop :=
  ∃ new, r.2 = st.2 ++ new ∧ r.1 = lastOf st.1 s ∧ endPos st.1 new = r.1 ∧ chain st.1 new = good st.1 s

theorem Step.refl (st : Nat × List Entry) : Step st st [] :=
  ⟨[], by simp, rfl, rfl, rfl⟩

theorem Step.trans {st r r' : Nat × List Entry} {s1 s2 : Sum} (h1 : Step st r s1) (h2 : Step r r' s2) :
    Step st r' (s1 ++ s2) := by
  obtain ⟨n1, a1, a2, a3, a4⟩ := h1
  obtain ⟨n2, b1, b2, b3, b4⟩ := h2
  refine ⟨n1 ++ n2, by rw [b1, a1, List.append_assoc], ?_, ?_, ?_⟩
  · rw [b2, a2, lastOf_append]
  · rw [endPos_append, a3, b3]
  · rw [chain_append, a3, a4, b4, a2, good_append]

theorem Step.entry (st : Nat × List Entry) (t : CTbl) (path : List CKey) (a : Bool) :
    Step st (t.pos.getD st.1, st.2 ++ [⟨t.pos.getD st.1, t, path, a⟩]) [(t.pos, okFlag t path.isEmpty a)] := by
  refine ⟨[⟨t.pos.getD st.1, t, path, a⟩], rfl, rfl, rfl, ?_⟩
  simp [chain, sortedFrom, good, entOk, okFlag, Bool.and_comm]

theorem visit_step :
    (∀ (items : List (CKey × CItem)) (path : List CKey) (st : Nat × List Entry),
      Step st (visitItems items path st) (sumItems items)) ∧
    (∀ (t : CTbl) (path : List CKey) (a : Bool) (st : Nat × List Entry),
      Step st (visitTbl t path a st) (sumTbl t path.isEmpty a)) ∧
    (∀ (ts : List CTbl) (path : List CKey), path.isEmpty = false → ∀ (st : Nat × List Entry),
      Step st (visitAot ts path st) (sumAot ts)) := by
  have hp : ∀ (path : List CKey) (k : CKey), (path ++ [k]).isEmpty = false := fun path k => by cases path <;> rfl
  refine items_induct ?_ ?_ ?_ ?_ ?_ ?_ ?_
  · intro path st
    rw [visitItems, sumItems]; exact Step.refl st
  · intro k v r ihr path st
    rw [visitItems, sumItems]
    exact ihr path st
  · intro k t r iht ihr path st
    rw [visitItems, sumItems]
    have h := iht (path ++ [k]) false st
    rw [hp] at h
    exact h.trans (ihr path _)
  · intro k ts sp r ihts ihr path st
    rw [visitItems, sumItems]
    exact (ihts (path ++ [k]) (hp path k) st).trans (ihr path _)
  · intro items imp dot p dec sp ih path a st
    rw [visitTbl, sumTbl]
    cases dot with
    | true =>
      simp only [if_true, hdSum, CTbl.dotted, List.nil_append]
      exact ih path st
    | false =>
      simp only [Bool.false_eq_true, if_false, hdSum, CTbl.dotted]
      exact (Step.entry st (.mk items imp false p dec sp) path a).trans (ih path _)
  · intro path _ st
    rw [visitAot, sumAot]; exact Step.refl st
  · intro t r iht ihr path hpath st
    rw [visitAot, sumAot]
    have h := iht path true st
    rw [hpath] at h
    exact h.trans (ihr path hpath _)

theorem visitTbl_step : ∀ (t : CTbl) (path : List CKey) (a : Bool) (st : Nat × List Entry),
    Step st (visitTbl t path a st) (sumTbl t path.isEmpty a) := visit_step.2.1
theorem visitItems_step : ∀ (items : List (CKey × CItem)) (path : List CKey) (st : Nat × List Entry),
    Step st (visitItems items path st) (sumItems items) := visit_step.1
theorem visitAot_step : ∀ (ts : List CTbl) (path : List CKey), path.isEmpty = false → ∀ (st : Nat × List Entry),
    Step st (visitAot ts path st) (sumAot ts) := visit_step.2.2

theorem preorder_of_good (d : CDoc) (h1 : d.root.decor.pre = none) (h2 : d.root.decor.suf = none)
    (hg : good 0 (sumTbl d.root true false) = true) : preorderDoc d = true := by
  obtain ⟨new, e1, _, _, e4⟩ := visitTbl_step d.root [] false (0, [])
  simp only [List.nil_append, List.isEmpty_nil] at e1 e4
  rw [hg] at e4
  simp only [chain, Bool.and_eq_true] at e4
  simp only [preorderDoc, docEntries, Bool.and_eq_true, Option.isNone_iff_eq_none]
  rw [e1]
  exact ⟨⟨⟨h1, h2⟩, e4.1⟩, e4.2⟩

theorem descend_setItems (g : CTbl → Option CTbl) (hg : ∀ p p', g p = some p' → p' = p.setItems p'.items) :
    ∀ (pp : List CKey) (t t' : CTbl) (d : Bool), descend t pp d g = some t' → t' = t.setItems t'.items
  | [], t, t', d, h => by rw [descend_nil] at h; exact hg _ _ h
  | k :: ks, t, t', d, h => by
    obtain ⟨x, e, _⟩ := descend_cons_shape _ _ _ _ _ _ h
    rw [e]; simp

theorem hdSum_setItems (t : CTbl) (I : Items) (r a : Bool) (h : valuesTbl I [] = valuesTbl t.items []) :
    hdSum (t.setItems I) r a = hdSum t r a := by
  obtain ⟨items, imp, dot, p, dec, sp⟩ := t
  simp only [CTbl.items] at h
  cases dot <;> simp [hdSum, okFlag, CTbl.setItems, CTbl.dotted, CTbl.pos, CTbl.decor, CTbl.implicit, CTbl.items, h]

theorem sumTbl_setItems (t t' : CTbl) (r a : Bool) (h1 : t' = t.setItems t'.items)
    (h2 : valuesTbl t'.items [] = valuesTbl t.items []) :
    sumTbl t' r a = hdSum t r a ++ sumItems t'.items := by
  rw [sumTbl_eq, h1, hdSum_setItems t _ r a h2]

theorem arrFn_setItems (key : CKey) (p p' : CTbl) (h : arrFn key p = some p') : p' = p.setItems p'.items := by
  unfold arrFn at h
  split at h
  · injection h with h; subst h; exact (setItems_self p).symm
  · cases h
  · injection h with h; subst h; simp

theorem eraseFn_setItems (key : CKey) (p p' : CTbl) (h : eraseFn key p = some p') : p' = p.setItems p'.items := by
  unfold eraseFn at h
  injection h with h; subst h; simp

theorem finStd_setItems (key : CKey) (c p p' : CTbl) (h : finStd key c p = some p') : p' = p.setItems p'.items := by
  unfold finStd at h
  split at h
  · split at h
    · injection h with h; subst h; simp
    · cases h
  · cases h
  · injection h with h; subst h; simp

theorem finArr_setItems (key : CKey) (c p p' : CTbl) (h : finArr key c p = some p') : p' = p.setItems p'.items := by
  unfold finArr at h
  split at h
  · injection h with h; subst h; simp
  · cases h

theorem startFn_setItems (a : Bool) (key : CKey) (p p' : CTbl)
    (h : (if a then arrFn key else eraseFn key) p = some p') : p' = p.setItems p'.items := by
  cases a
  · exact eraseFn_setItems key p p' h
  · exact arrFn_setItems key p p' h

theorem finFn_setItems (a : Bool) (key : CKey) (c p p' : CTbl)
    (h : (if a then finArr key c else finStd key c) p = some p') : p' = p.setItems p'.items := by
  cases a
  · exact finStd_setItems key c p p' h
  · exact finArr_setItems key c p p' h

end TomlVerif.Lemmas.Tiling03More
