import TomlVerif.Model.Macro
import TomlVerif.Lemmas.State09
/-! C19, shared definitions for whole documents.

    * `valM` / `tblM` — what the parser builds (`Val`, `Tbl` of Model/Tree.lean, the result of the table-building
      state machine of Model/State.lean), read as a `toml::Value`: flags and positions are forgotten, an inline
      table and a `[table]` both become `MVal.tbl`, an array of tables becomes an `MVal.arr` of tables.
    * `refStep` / `refRun` — the meaning of a statement list for the macro: the three helper functions of
      macros.rs folded over the statements (`insert_toml` below the current header path, `table_toml`,
      `push_toml`). No tokens, no arms, no fuel.
    * `Sim` — equality of `toml::Value`s: tables are compared as maps (`toml::Table` is a `BTreeMap`, the
      association lists of `MVal.tbl` are in insertion order), arrays element by element. -/
namespace TomlVerif.Lemmas.Macro19b
open TomlVerif TomlVerif.Model TomlVerif.Model.Macro TomlVerif.Model.State TomlVerif.Lemmas.State09

/-! ## parser tree → `toml::Value` -/

mutual
def valM : Val → MVal
  | .str s => .str s
  | .int n => .int n
  | .float b => .float b
  | .bool b => .bool b
  | .dt d => .dt d
  | .arr items => .arr (valsM items)
  | .inl items _ _ => .tbl (kvsM items)
def valsM : List Val → List MVal
  | [] => []
  | v :: r => valM v :: valsM r
def kvsM : List (Bytes × Val) → List (Bytes × MVal)
  | [] => []
  | (k, v) :: r => (k, valM v) :: kvsM r
end

mutual
def tblM : Tbl → MVal
  | .mk items _ _ _ => .tbl (itemsM items)
def itemM : Item → MVal
  | .value v => valM v
  | .table t => tblM t
  | .aot ts => .arr (tblsM ts)
def itemsM : List (Bytes × Item) → List (Bytes × MVal)
  | [] => []
  | (k, i) :: r => (k, itemM i) :: itemsM r
def tblsM : List Tbl → List MVal
  | [] => []
  | t :: r => tblM t :: tblsM r
end

/-! ## the macro's meaning of a statement list -/

/-- state of `@toplevel`: the root value and the path of the last header -/
abbrev MState := MVal × List Bytes

/-- one statement, as the three arms of `@toplevel` treat it -/
def refStep (keep : Bool) : MState → Stmt → Option MState
  | (root, path), .kv p k v => (insertToml root (path ++ (p ++ [k])) (valM v)).map fun r => (r, path)
  | (root, _), .std p => (headerTable keep root p).map fun r => (r, p)
  | (root, _), .arr p => (pushToml root p).map fun r => (r, p)

def refRunFrom (keep : Bool) : MState → List Stmt → Option MState
  | s, [] => some s
  | s, x :: r =>
    match refStep keep s x with
    | some s' => refRunFrom keep s' r
    | none => none

/-- the table `toml!` builds for a statement list (`none`: an `unwrap` panics) -/
def refRun (keep : Bool) (stmts : List Stmt) : Option MVal :=
  (refRunFrom keep (emptyTbl, []) stmts).map (·.1)

/-! ## equality of values, tables as maps -/

def OptRel (r : MVal → MVal → Prop) : Option MVal → Option MVal → Prop
  | some a, some b => r a b
  | none, none => True
  | _, _ => False

def ListRel (r : MVal → MVal → Prop) : List MVal → List MVal → Prop
  | [], [] => True
  | a :: x, b :: y => r a b ∧ ListRel r x y
  | _, _ => False

/-- agreement down to depth `n` -/
def simN : Nat → MVal → MVal → Prop
  | 0, _, _ => True
  | n + 1, .tbl xs, .tbl ys => ∀ k, OptRel (simN n) (alookup k xs) (alookup k ys)
  | n + 1, .arr xs, .arr ys => ListRel (simN n) xs ys
  | _ + 1, a, b => a = b

/-- the two values are the same `toml::Value`: same scalars, arrays equal element by element, tables with the
    same keys bound to the same values (whatever the order of insertion). See `sim_tbl`, `sim_arr`,
    `sim_scalar_iff` (Lemmas/Macro19Sim.lean) for the characterisation. -/
def Sim (a b : MVal) : Prop := ∀ n, simN n a b

end TomlVerif.Lemmas.Macro19b
