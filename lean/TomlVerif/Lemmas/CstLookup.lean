import TomlVerif.Model.Cst
/-! The entry lists of the format-preserving tree (`IndexMap<Key, _>` as a list, over any value type):
    `clookup`, `cset`, `creplace`, `cerase` on a list split at the entry looked for (`_mid`,
    `clookup_split`; at its end, `_snoc`, `_last`) or not holding the key, key uniqueness of an item
    list (`nodupK`) under the four operations, and `modifyLast`. -/
namespace TomlVerif.Lemmas.Tiling03Hdr
open TomlVerif TomlVerif.Model.Cst

theorem clookup_append_none {α} (k : Bytes) : ∀ (a b : List (CKey × α)), clookup k a = none → clookup k (a ++ b) = clookup k b
  | [], b, _ => rfl
  | (k', v) :: r, b, h => by
    unfold clookup at h
    split at h
    · cases h
    · rename_i hk
      simp only [List.cons_append, clookup, hk]
      exact clookup_append_none k r b h

theorem clookup_single {α} (k : Bytes) (k' : CKey) (x : α) :
    clookup k [(k', x)] = if k'.key == k then some x else none := by
  simp [clookup]

theorem clookup_mid {α} (k : Bytes) (A B : List (CKey × α)) (k' : CKey) (x : α) (hk : (k'.key == k) = true)
    (hn : clookup k A = none) : clookup k (A ++ (k', x) :: B) = some x := by
  rw [clookup_append_none _ _ _ hn]
  simp [clookup, hk]

theorem creplace_append_none {α} (k : Bytes) (x : α) (body : List (CKey × α)) : ∀ (base : List (CKey × α)),
    clookup k base = none → creplace k x (base ++ body) = base ++ creplace k x body
  | [], _ => rfl
  | (k0, v) :: r, h => by
    unfold clookup at h
    split at h
    · cases h
    · rename_i hk
      simp only [List.cons_append, creplace, hk]
      rw [creplace_append_none k x body r h]; rfl

theorem creplace_mid {α} (k : Bytes) (x y : α) (k' : CKey) (B : List (CKey × α)) (hk : (k'.key == k) = true)
    (A : List (CKey × α)) (h : clookup k A = none) : creplace k x (A ++ (k', y) :: B) = A ++ (k', x) :: B := by
  rw [creplace_append_none _ _ _ _ h]; simp [creplace, hk]

theorem cset_mid {α} (k k' : CKey) (x y : α) (A B : List (CKey × α)) (hk : (k'.key == k.key) = true)
    (hn : clookup k.key A = none) : cset k x (A ++ (k', y) :: B) = A ++ (k', x) :: B := by
  unfold cset
  rw [clookup_mid _ _ _ _ _ hk hn]
  exact creplace_mid _ _ _ _ _ hk A hn

theorem clookup_split {α} (k : Bytes) (v0 : α) : ∀ items : List (CKey × α), clookup k items = some v0 →
    ∃ before k0 after, items = before ++ (k0, v0) :: after ∧ clookup k before = none ∧ (k0.key == k) = true ∧
      ckeyOf k items = some k0 ∧ ∀ v', creplace k v' items = before ++ (k0, v') :: after
  | [], h => by simp [clookup] at h
  | (k1, v) :: r, h => by
    unfold clookup at h
    split at h
    · rename_i hk
      injection h with h
      subst h
      exact ⟨[], k1, r, rfl, rfl, hk, by simp [ckeyOf, hk], fun v' => by simp [creplace, hk]⟩
    · rename_i hk
      obtain ⟨A, k0, B, e1, e2, e3, e4, _⟩ := clookup_split k v0 r h
      have e2' : clookup k ((k1, v) :: A) = none := by simp only [clookup, hk]; exact e2
      refine ⟨(k1, v) :: A, k0, B, by rw [e1]; rfl, e2', e3, by simp only [ckeyOf, hk]; exact e4, fun v' => ?_⟩
      rw [e1]
      exact creplace_mid k v' v0 k0 B e3 _ e2'

theorem creplace_snoc {α} (k : Bytes) (x y : α) (k' : CKey) (hk : (k'.key == k) = true)
    (r0 : List (CKey × α)) (h : clookup k r0 = none) : creplace k x (r0 ++ [(k', y)]) = r0 ++ [(k', x)] :=
  creplace_mid k x y k' [] hk r0 h

abbrev Items := List (CKey × CItem)

theorem clookup_append_some {α} (k : Bytes) (x : α) : ∀ (a b : List (CKey × α)), clookup k a = some x → clookup k (a ++ b) = some x
  | [], b, h => by simp [clookup] at h
  | (k', v) :: r, b, h => by
    unfold clookup at h
    split at h
    · rename_i hk; simp only [List.cons_append, clookup, hk, if_true]; exact h
    · rename_i hk
      simp only [List.cons_append, clookup, hk]
      exact clookup_append_some k x r b h

theorem clookup_creplace_isNone {α} (k k2 : Bytes) (x : α) : ∀ l : List (CKey × α),
    (clookup k2 (creplace k x l)).isNone = (clookup k2 l).isNone
  | [] => rfl
  | (k', v) :: r => by
    unfold creplace
    split
    · simp only [clookup]; split <;> rfl
    · simp only [clookup]; split
      · rfl
      · exact clookup_creplace_isNone k k2 x r

theorem cerase_of_none {α} (k : Bytes) : ∀ l : List (CKey × α), clookup k l = none → cerase k l = l
  | [], _ => rfl
  | (k', v) :: r, h => by
    unfold clookup at h
    split at h
    · cases h
    · rename_i hk
      simp only [cerase, hk]
      rw [cerase_of_none k r h]; rfl

theorem clookup_cerase_isNone {α} (k k2 : Bytes) : ∀ l : List (CKey × α), clookup k2 l = none → clookup k2 (cerase k l) = none
  | [], _ => rfl
  | (k', v) :: r, h => by
    unfold clookup at h
    split at h
    · cases h
    · rename_i hk
      unfold cerase
      split
      · exact h
      · simp only [clookup, hk]
        exact clookup_cerase_isNone k k2 r h

theorem cset_none {α} (k : CKey) (x : α) (l : List (CKey × α)) (h : clookup k.key l = none) : cset k x l = l ++ [(k, x)] := by
  unfold cset; rw [h]

theorem cset_last {α} (k k' : CKey) (x y : α) (init : List (CKey × α)) (hk : (k'.key == k.key) = true)
    (hn : clookup k.key init = none) : cset k x (init ++ [(k', y)]) = init ++ [(k', x)] :=
  cset_mid k k' x y init [] hk hn

theorem last_lookup {init : Items} {k k' : CKey} {it : CItem} {items : Items} (e1 : items = init ++ [(k', it)])
    (e2 : (k'.key == k.key) = true) (e3 : clookup k.key init = none) :
    clookup k.key items = some it ∧ ∀ x, cset k x items = init ++ [(k', x)] := by
  subst e1
  exact ⟨by rw [clookup_append_none _ _ _ e3, clookup_single, e2]; rfl, fun x => cset_last _ _ _ _ _ e2 e3⟩

def nodupK : Items → Bool
  | [] => true
  | (k, _) :: r => (clookup k.key r).isNone && nodupK r

theorem nodupK_creplace (k : Bytes) (x : CItem) : ∀ l : Items, nodupK l = true → nodupK (creplace k x l) = true
  | [], _ => rfl
  | (k', v) :: r, h => by
    simp only [nodupK, Bool.and_eq_true] at h
    unfold creplace
    split
    · simp only [nodupK, Bool.and_eq_true]; exact h
    · simp only [nodupK, Bool.and_eq_true]
      exact ⟨by rw [clookup_creplace_isNone]; exact h.1, nodupK_creplace k x r h.2⟩

theorem nodupK_snoc (k : CKey) (x : CItem) : ∀ l : Items, nodupK l = true → clookup k.key l = none →
    nodupK (l ++ [(k, x)]) = true
  | [], _, _ => by simp [nodupK, clookup]
  | (k', v) :: r, h, hl => by
    simp only [nodupK, Bool.and_eq_true] at h
    unfold clookup at hl
    split at hl
    · cases hl
    · rename_i hk
      have hk' : (k'.key == k.key) = false := by simpa using hk
      simp only [List.cons_append, nodupK, Bool.and_eq_true]
      refine ⟨?_, nodupK_snoc k x r h.2 hl⟩
      have hn : clookup k'.key r = none := by simpa using h.1
      rw [clookup_append_none _ r _ hn, clookup_single, BEq.comm.trans hk']
      rfl

theorem nodupK_cset (k : CKey) (x : CItem) (l : Items) (h : nodupK l = true) : nodupK (cset k x l) = true := by
  unfold cset
  split
  · exact nodupK_creplace _ _ _ h
  · rename_i hn; exact nodupK_snoc k x l h hn

theorem nodupK_cerase (k : Bytes) : ∀ l : Items, nodupK l = true → nodupK (cerase k l) = true
  | [], _ => rfl
  | (k', v) :: r, h => by
    simp only [nodupK, Bool.and_eq_true] at h
    unfold cerase
    split
    · exact h.2
    · simp only [nodupK, Bool.and_eq_true]
      refine ⟨?_, nodupK_cerase k r h.2⟩
      have hn : clookup k'.key r = none := by simpa using h.1
      rw [clookup_cerase_isNone k k'.key r hn]; rfl

theorem clookup_cerase_self (k : Bytes) : ∀ l : Items, nodupK l = true → clookup k (cerase k l) = none
  | [], _ => rfl
  | (k', v) :: r, h => by
    simp only [nodupK, Bool.and_eq_true] at h
    unfold cerase
    split
    · rename_i hk
      have hn : clookup k'.key r = none := by simpa using h.1
      exact eq_of_beq hk ▸ hn
    · rename_i hk
      simp only [clookup, hk]
      exact clookup_cerase_self k r h.2

theorem cerase_mid {α} (k : Bytes) (y : α) (k' : CKey) (B : List (CKey × α)) (hk : (k'.key == k) = true) :
    ∀ A : List (CKey × α), clookup k A = none → cerase k (A ++ (k', y) :: B) = A ++ B
  | [], _ => by simp [cerase, hk]
  | (k2, v) :: r, h => by
    unfold clookup at h
    split at h
    · cases h
    · rename_i hk2
      simp only [List.cons_append, cerase, hk2]
      rw [cerase_mid k y k' B hk r h]; rfl

theorem clookup_mid_isNone {α} (k : Bytes) (k' : CKey) (x y : α) (B : List (CKey × α)) : ∀ (A : List (CKey × α)),
    (clookup k (A ++ (k', x) :: B)).isNone = (clookup k (A ++ (k', y) :: B)).isNone
  | [] => by
    simp only [List.nil_append, clookup]
    split <;> rfl
  | (k0, v) :: r => by
    simp only [List.cons_append, clookup]
    split
    · rfl
    · exact clookup_mid_isNone k k' x y B r

theorem clookup_none_mem {α} (k : Bytes) : ∀ (l : List (CKey × α)), clookup k l = none → ∀ x ∈ l, x.1.key ≠ k
  | [], _, _, hx => by cases hx
  | (k', v) :: r, h, x, hx => by
    unfold clookup at h
    split at h
    · cases h
    · rename_i hk
      rcases List.mem_cons.1 hx with hx | hx
      · subst hx; simpa using hk
      · exact clookup_none_mem k r h x hx

theorem ckeyOf_none {α} {k : Bytes} : ∀ {items : List (CKey × α)}, clookup k items = none → ckeyOf k items = none
  | [], _ => rfl
  | (k0, v) :: r, h => by
    unfold clookup at h
    unfold ckeyOf
    split at h
    · cases h
    · rename_i hk; rw [if_neg hk]; exact ckeyOf_none h

theorem clookup_append_none_left {α} (k : Bytes) : ∀ (a b : List (CKey × α)), clookup k (a ++ b) = none → clookup k a = none
  | [], _, _ => rfl
  | (k0, v) :: r, b, h => by
    simp only [List.cons_append, clookup] at h ⊢
    split
    · rename_i hk; simp [hk] at h
    · rename_i hk; simp only [hk] at h; exact clookup_append_none_left k r b h

theorem cset_append_none {α} (k : CKey) (x : α) (base body : List (CKey × α)) (h : clookup k.key base = none) :
    cset k x (base ++ body) = base ++ cset k x body := by
  unfold cset
  rw [clookup_append_none _ _ _ h]
  cases clookup k.key body with
  | none => simp
  | some y => exact creplace_append_none _ _ _ _ h

theorem nodupK_disj : ∀ (base body : Items), nodupK (base ++ body) = true → ∀ x ∈ body, clookup x.1.key base = none
  | [], _, _, _, _ => rfl
  | (k0, v) :: r, body, h, x, hx => by
    simp only [List.cons_append, nodupK, Bool.and_eq_true] at h
    have h1 : clookup k0.key (r ++ body) = none := by simpa using h.1
    have hne := clookup_none_mem k0.key (r ++ body) h1 x (List.mem_append_right _ hx)
    have hne' : (k0.key == x.1.key) = false := by
      cases hb : k0.key == x.1.key with
      | false => rfl
      | true => exact absurd (by simpa using hb : k0.key = x.1.key).symm hne
    simp only [clookup, hne']
    exact nodupK_disj r body h.2 x hx

end TomlVerif.Lemmas.Tiling03Hdr

namespace TomlVerif.Lemmas.Spans14
open TomlVerif TomlVerif.Model.Cst

theorem modifyLast_some {ts ts' : List CTbl} {f : CTbl → Option CTbl} (h : modifyLast ts f = some ts') :
    ∃ init l l', ts = init ++ [l] ∧ f l = some l' ∧ ts' = init ++ [l'] := by
  unfold modifyLast at h
  split at h
  · cases h
  · rename_i l initRev hrev
    split at h
    · rename_i l' hf
      injection h with h
      refine ⟨initRev.reverse, l, l', ?_, hf, h.symm⟩
      have := congrArg List.reverse hrev
      simpa using this
    · cases h

end TomlVerif.Lemmas.Spans14

