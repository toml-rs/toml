import TomlVerif.Lemmas.DeTyped13Mono
import TomlVerif.Lemmas.RoundTrip17MapOrder
/-! For Props/C13Typed: the default build. A `toml::Value` holds every table in key order (`BTreeMap`), so the
    `toml::Value` routes decode `placeTV .sorted` of the data while the text routes decode the data in document order.
    Here: `toml::from_str::<toml::Value>` on a well-formed parsed tree gives its data with every table collected into
    the map of the build (`value_of_item`); the relation `Agree` (both succeed → same value) through the combinators
    of `R`; and `placeTV .sorted` as a permutation of each table, which is what the comparison of the two decodings
    (Lemmas/DeTyped13Sorted.lean) rests on. -/
namespace TomlVerif.Lemmas.DeTyped13
open TomlVerif TomlVerif.Model TomlVerif.Model.TomlValue TomlVerif.Model.DeRoutes
open TomlVerif.Model.DeText (presOfItem)
open TomlVerif.Model.DeTyped TomlVerif.Lemmas.DeRoutes13 TomlVerif.Lemmas.RoundTrip17

mutual
theorem wf_nodup : ∀ v : TV, WfTV v → NodupTV v
  | .str _, _ | .int _, _ | .float _, _ | .bool _, _ | .dt _, _ => by simp [NodupTV]
  | .arr l, h => by rw [WfTV] at h; rw [NodupTV]; exact wfVs_nodup l h
  | .tbl items, h => by rw [WfTV] at h; rw [NodupTV]; exact ⟨h.2.1, wfPs_nodup items h.1⟩
theorem wfVs_nodup : ∀ l : List TV, WfVs l → NodupVs l
  | [], _ => by simp [NodupVs]
  | v :: r, h => by rw [WfVs] at h; rw [NodupVs]; exact ⟨wf_nodup v h.1, wfVs_nodup r h.2⟩
theorem wfPs_nodup : ∀ l : List (Bytes × TV), WfPs l → NodupPs l
  | [], _ => by simp [NodupPs]
  | (_, v) :: r, h => by rw [WfPs] at h; rw [NodupPs]; exact ⟨wf_nodup v h.1, wfPs_nodup r h.2⟩
end

theorem value_of_item (fl : Flavour) (it : Item) (h : WfTV (plainItem it)) :
    visitValue fl false (presOfItem it) = some (placeTV fl (plainItem it)) := by
  rw [presOfItem_eq]; exact visit_presEdit_wf fl false _ h

def Agree {α} (x y : R α) : Prop := ∀ d d', x = .ok d → y = .ok d' → d = d'

theorem agree_refl {α} (x : R α) : Agree x x := fun _ _ h1 h2 => by rw [h1] at h2; cases h2; rfl
theorem agree_of_eq {α} {x y : R α} (h : x = y) : Agree x y := h ▸ agree_refl x
theorem agree_fail_left {α} (y : R α) : Agree fail y := fun _ _ h _ => (fail_ne_ok h).elim
theorem agree_fail_right {α} (x : R α) : Agree x fail := fun _ _ _ h => (fail_ne_ok h).elim

theorem agree_rmap {α β} (f : α → β) {x y : R α} (h : Agree x y) : Agree (rmap f x) (rmap f y) := by
  intro d d' h1 h2
  cases hx : x with
  | error e => rw [hx] at h1; cases h1
  | ok a =>
    cases hy : y with
    | error e => rw [hy] at h2; cases h2
    | ok b =>
      rw [hx] at h1; rw [hy] at h2
      cases h1; cases h2
      rw [h a b hx hy]

theorem agree_rcons {α} {x y : R α} {l m : R (List α)} (h : Agree x y) (hl : Agree l m) :
    Agree (rcons x l) (rcons y m) := by
  intro d d' h1 h2
  cases hx : x with
  | error e => rw [hx] at h1; cases h1
  | ok a =>
    cases hl' : l with
    | error e => rw [hx, hl'] at h1; cases h1
    | ok as =>
      cases hy : y with
      | error e => rw [hy] at h2; cases h2
      | ok b =>
        cases hm : m with
        | error e => rw [hy, hm] at h2; cases h2
        | ok bs =>
          rw [hx, hl'] at h1; rw [hy, hm] at h2
          cases h1; cases h2
          rw [h a b hx hy, hl as bs hl' hm]

theorem agree_mapE2 {α β γ} (f : α → R γ) (g : β → R γ) (h : α → β) (l : List α)
    (hfg : ∀ a ∈ l, Agree (f a) (g (h a))) : Agree (mapE f l) (mapE g (l.map h)) := by
  induction l with
  | nil => exact agree_refl _
  | cons a r ih =>
    simp only [mapE, List.map_cons]
    exact agree_rcons (hfg a (by simp)) (ih fun x hx => hfg x (by simp [hx]))

theorem agree_ite_fail {α} {b b' : Bool} {x y : R α} (h : Agree x y) :
    Agree (if b then fail else x) (if b' then fail else y) := by
  cases b <;> cases b' <;> simp
  · exact h
  · exact agree_fail_right _
  · exact agree_fail_left _
  · exact agree_fail_left _

theorem agree_ite_else_fail {α} {b b' : Bool} {x y : R α} (h : Agree x y) :
    Agree (if b then x else fail) (if b' then y else fail) := by
  cases b <;> cases b' <;> simp
  · exact agree_fail_left _
  · exact agree_fail_left _
  · exact agree_fail_right _
  · exact h

theorem agree_ite {α} {b : Bool} {x y x' y' : R α} (h1 : Agree x y) (h2 : Agree x' y') :
    Agree (if b then x else x') (if b then y else y') := by
  cases b <;> simp
  · exact h2
  · exact h1

theorem agree_const {α} {x y : R α} (c : α) (hx : ∀ d, x = .ok d → d = c) (hy : ∀ d, y = .ok d → d = c) : Agree x y :=
  fun d d' h1 h2 => (hx d h1).trans (hy d' h2).symm

/-- a tree as a `toml::Value` of the default build holds it: every table in key order -/
abbrev P : TV → TV := placeTV .sorted
/-- the entries of `placeTV .sorted (.tbl es)` -/
def S (es : List (Bytes × TV)) : List (Bytes × TV) := insertAllReplace .sorted [] (placeTVPs .sorted es)

theorem place_tbl (es : List (Bytes × TV)) : P (.tbl es) = .tbl (S es) := by simp [P, placeTV, S]
theorem place_arr (l : List TV) : P (.arr l) = .arr (l.map P) := by
  simp only [P, placeTV]
  congr 1
  induction l with
  | nil => rfl
  | cons v r ih => simp [placeTVs, ih]

theorem S_spec (es : List (Bytes × TV)) (hn : (es.map Prod.fst).Nodup) :
    KSorted (S es) ∧ (S es).Perm (es.map fun e => (e.1, P e.2)) := by
  have := insertAll_sorted_nil (placeTVPs .sorted es) (by rw [placeTVPs_keys]; exact hn)
  unfold S
  rw [placeTVPs_eq_map] at this ⊢
  exact this

theorem alookup_S (name : Bytes) (es : List (Bytes × TV)) (hn : (es.map Prod.fst).Nodup) :
    alookup name (S es) = (alookup name es).map P := by
  obtain ⟨_, hp⟩ := S_spec es hn
  rw [← Order18.alookup_perm name hp.symm (Order18.keysDistinct_of_nodup _ (by
    have : (es.map fun e => (e.1, P e.2)).map Prod.fst = es.map Prod.fst := by simp
    rw [this]; exact hn))]
  exact alookup_map P name es

theorem S_length (es : List (Bytes × TV)) (hn : (es.map Prod.fst).Nodup) : (S es).length = es.length := by
  have := (S_spec es hn).2.length_eq
  simpa using this

theorem S_single (k : Bytes) (v : TV) : S [(k, v)] = [(k, P v)] := by
  simp [S, placeTVPs, insertAllReplace, mapInsert, sortedInsert]

theorem S_nil : S [] = [] := by simp [S, placeTVPs, insertAllReplace]


theorem wfVs_forall (l : List TV) : WfVs l ↔ ∀ v ∈ l, WfTV v := by
  induction l with
  | nil => simp [WfVs]
  | cons x r ih => simp [WfVs, ih]

theorem wfPs_forall (l : List (Bytes × TV)) : WfPs l ↔ ∀ e ∈ l, WfTV e.2 := by
  induction l with
  | nil => simp [WfPs]
  | cons x r ih => obtain ⟨k, v⟩ := x; simp [WfPs, ih]

mutual
theorem wf_place : ∀ v : TV, WfTV v → WfTV (P v)
  | .str _, _ | .int _, _ | .float _, _ | .bool _, _ => by simp [P, placeTV, WfTV]
  | .dt _, h => by simpa [P, placeTV] using h
  | .arr l, h => by
    rw [WfTV] at h
    rw [place_arr, WfTV, wfVs_forall]
    intro v hv
    obtain ⟨a, ha, rfl⟩ := List.mem_map.1 hv
    exact wfVs_place l h a ha
  | .tbl es, h => by
    rw [WfTV] at h
    obtain ⟨hp, hn, hf⟩ := h
    obtain ⟨hs, hperm⟩ := S_spec es hn
    rw [place_tbl, WfTV]
    refine ⟨?_, ksorted_nodup _ hs, ?_⟩
    · rw [wfPs_forall]
      intro e he
      obtain ⟨a, ha, rfl⟩ := List.mem_map.1 (hperm.subset he)
      exact wfPs_place es hp a ha
    · intro hm
      have : FIELD ∈ (es.map fun e => (e.1, P e.2)).map Prod.fst := (hperm.map Prod.fst).subset hm
      exact hf (by simpa using this)
theorem wfVs_place : ∀ l : List TV, WfVs l → ∀ a ∈ l, WfTV (P a)
  | [], _, _, ha => by cases ha
  | v :: r, h, a, ha => by
    rw [WfVs] at h
    rcases List.mem_cons.1 ha with e | e
    · rw [e]; exact wf_place v h.1
    · exact wfVs_place r h.2 a e
theorem wfPs_place : ∀ l : List (Bytes × TV), WfPs l → ∀ a ∈ l, WfTV (P a.2)
  | [], _, _, ha => by cases ha
  | (k, v) :: r, h, a, ha => by
    rw [WfPs] at h
    rcases List.mem_cons.1 ha with e | e
    · rw [e]; exact wf_place v h.1
    · exact wfPs_place r h.2 a e
end

theorem visit_place (strict : Bool) (v : TV) (h : WfTV v) :
    visitValue .sorted strict (presValue currentDtAsMap (P v)) = visitValue .sorted strict (presValue currentDtAsMap v) := by
  -- both sides are `placeTV .sorted`: of `v`, and of `P v`, which is already in key order (placing is idempotent)
  rw [show currentDtAsMap = true from rfl, presValue_true_eq, presValue_true_eq,
    visit_presEdit_wf .sorted strict v h, visit_presEdit_wf .sorted strict (P v) (wf_place v h),
    place_sorted_id _ (place_is_sorted v (wf_nodup v h))]

theorem collectSorted_eq_foldl {α : Type} : ∀ l acc : List (Bytes × α),
    collectSorted acc l = l.foldl (fun a e => sortedInsert e.1 e.2 a) acc
  | [], _ => rfl
  | (k, v) :: r, acc => by rw [collectSorted, List.foldl_cons, collectSorted_eq_foldl r]

theorem collect_sorted {α : Type} (l acc : List (Bytes × α)) (hn : (l.map Prod.fst).Nodup)
    (ha : ∀ k ∈ l.map Prod.fst, k ∉ acc.map Prod.fst) (hs : KSorted acc) :
    KSorted (collectSorted acc l) ∧ (collectSorted acc l).Perm (acc ++ l) := by
  rw [collectSorted_eq_foldl]; exact foldl_sortedInsert l acc hn ha hs

theorem collect_perm {α : Type} (l l' : List (Bytes × α)) (hn : (l.map Prod.fst).Nodup) (hp : l'.Perm l) :
    collectSorted [] l' = collectSorted [] l := by
  have hn' : (l'.map Prod.fst).Nodup := ((hp.map Prod.fst).nodup_iff).2 hn
  obtain ⟨a1, a2⟩ := collect_sorted l [] hn (by simp) (by simp [KSorted])
  obtain ⟨b1, b2⟩ := collect_sorted l' [] hn' (by simp) (by simp [KSorted])
  simp only [List.nil_append] at a2 b2
  exact ksorted_perm_eq _ _ b1 a1 (b2.trans (hp.trans a2.symm))

theorem rcons_ok {α} {x : R α} {l : R (List α)} {y : List α} (h : rcons x l = .ok y) :
    ∃ a as, x = .ok a ∧ l = .ok as ∧ y = a :: as := by
  cases hx : x with
  | error e => rw [hx] at h; cases h
  | ok a =>
    cases hl : l with
    | error e => rw [hx, hl] at h; cases h
    | ok as => rw [hx, hl] at h; cases h; exact ⟨a, as, rfl, rfl, rfl⟩

theorem rmap_ok {α β} {f : α → β} {x : R α} {y : β} (h : rmap f x = .ok y) : ∃ a, x = .ok a ∧ y = f a := by
  cases hx : x with
  | error e => rw [hx] at h; cases h
  | ok a => rw [hx] at h; cases h; exact ⟨a, rfl, rfl⟩

theorem mapE_perm {α β} (f : α → R β) {l l' : List α} (hp : l.Perm l') :
    ∀ ds, mapE f l = .ok ds → ∃ ds', mapE f l' = .ok ds' ∧ ds.Perm ds' := by
  induction hp with
  | nil => intro ds h; exact ⟨ds, h, List.Perm.refl _⟩
  | cons x _ ih =>
    intro ds h
    simp only [mapE] at h ⊢
    obtain ⟨a, as, h1, h2, rfl⟩ := rcons_ok h
    obtain ⟨ds', h3, h4⟩ := ih as h2
    exact ⟨a :: ds', by rw [h1, h3]; rfl, h4.cons a⟩
  | swap x y l =>
    intro ds h
    simp only [mapE] at h ⊢
    obtain ⟨a, as, h1, h2, rfl⟩ := rcons_ok h
    obtain ⟨b, bs, h3, h4, rfl⟩ := rcons_ok h2
    exact ⟨b :: a :: bs, by rw [h1, h3, h4]; rfl, List.Perm.swap _ _ _⟩
  | trans _ _ ih1 ih2 =>
    intro ds h
    obtain ⟨ds1, h1, p1⟩ := ih1 ds h
    obtain ⟨ds2, h2, p2⟩ := ih2 ds1 h1
    exact ⟨ds2, h2, p1.trans p2⟩

theorem mapE_tag_keys {α} (G : α → R Dec) : ∀ (es : List (Bytes × α)) (ds : List (Bytes × Dec)),
    mapE (fun kv : Bytes × α => rmap (fun d => (kv.1, d)) (G kv.2)) es = .ok ds → ds.map Prod.fst = es.map Prod.fst
  | [], ds, h => by simp only [mapE] at h; cases h; rfl
  | (k, v) :: r, ds, h => by
    simp only [mapE] at h
    obtain ⟨a, as, h1, h2, rfl⟩ := rcons_ok h
    obtain ⟨d, _, rfl⟩ := rmap_ok h1
    simp [mapE_tag_keys G r as h2]

theorem agree_map_target (G : TV → R Dec) (es : List (Bytes × TV)) (hn : (es.map Prod.fst).Nodup)
    (hG : ∀ e ∈ es, Agree (G e.2) (G (P e.2))) :
    Agree (rmap (fun ds => Dec.map (collectSorted [] ds)) (mapE (fun kv : Bytes × TV => rmap (fun d => (kv.1, d)) (G kv.2)) es))
      (rmap (fun ds => Dec.map (collectSorted [] ds)) (mapE (fun kv : Bytes × TV => rmap (fun d => (kv.1, d)) (G kv.2)) (S es))) := by
  intro d d' g1 g2
  obtain ⟨ds, h1, e1⟩ := rmap_ok g1
  obtain ⟨ds', h2, e2⟩ := rmap_ok g2
  subst e1 e2
  -- decode along the permutation `S es ~ es.map (·, P ·)`; entry by entry the results agree with those of `es`;
  -- `collectSorted` does not see the order of entries with distinct keys
  obtain ⟨_, hperm⟩ := S_spec es hn
  obtain ⟨ds2, h3, hp2⟩ := mapE_perm _ hperm ds' h2
  have hag := agree_mapE2 (fun kv : Bytes × TV => rmap (fun d => (kv.1, d)) (G kv.2))
    (fun kv : Bytes × TV => rmap (fun d => (kv.1, d)) (G kv.2)) (fun e : Bytes × TV => (e.1, P e.2)) es
    (fun a ha => agree_rmap _ (hG a ha))
  have hds : ds = ds2 := hag ds ds2 h1 h3
  subst hds
  have hk := mapE_tag_keys G es ds h1
  rw [collect_perm ds ds' (by rw [hk]; exact hn) hp2]


def IdxLt {α} (a b : Bytes × α) : Prop := ∃ n m, parseUsize a.1 = some n ∧ parseUsize b.1 = some m ∧ n < m

theorem indexKeys_pairwise {α} : ∀ (i : Nat) (l : List (Bytes × α)), indexKeys i l = true →
    l.Pairwise IdxLt ∧ ∀ e ∈ l, ∃ n, parseUsize e.1 = some n ∧ i ≤ n
  | _, [], _ => ⟨.nil, by simp⟩
  | i, (k, v) :: r, h => by
    simp only [indexKeys, Bool.and_eq_true, beq_iff_eq] at h
    obtain ⟨h1, h2⟩ := h
    obtain ⟨p, q⟩ := indexKeys_pairwise (i + 1) r h2
    refine ⟨List.pairwise_cons.2 ⟨fun e he => ?_, p⟩, ?_⟩
    · obtain ⟨n, hn, hle⟩ := q e he
      exact ⟨i, n, h1, hn, by omega⟩
    · intro e he
      rcases List.mem_cons.1 he with rfl | he
      · exact ⟨i, h1, Nat.le_refl _⟩
      · obtain ⟨n, hn, hle⟩ := q e he
        exact ⟨n, hn, by omega⟩

/-- if the keys are "0", "1", … in document order and again in key order, the two orders are the same -/
theorem index_same_order (es : List (Bytes × TV)) (hn : (es.map Prod.fst).Nodup)
    (h1 : indexKeys 0 es = true) (h2 : indexKeys 0 (S es) = true) : S es = es.map fun e => (e.1, P e.2) := by
  have hp := (S_spec es hn).2
  have h1' : indexKeys 0 (es.map fun e => (e.1, P e.2)) = true := by rw [indexKeys_map]; exact h1
  refine List.Perm.eq_of_pairwise (le := IdxLt) (fun a b _ _ hab hba => ?_) (indexKeys_pairwise 0 _ h2).1
    (indexKeys_pairwise 0 _ h1').1 hp
  obtain ⟨n, m, x1, x2, x3⟩ := hab
  obtain ⟨n', m', y1, y2, y3⟩ := hba
  rw [x1] at y2; rw [x2] at y1
  cases y1; cases y2
  omega

theorem visitScalar_seq (ty : Ty) (l : List Pres) : visitScalar ty (.seq l) = fail := by cases ty <;> rfl
theorem visitScalar_map (ty : Ty) (l : List (Bytes × Pres)) : visitScalar ty (.map l) = fail := by cases ty <;> rfl

theorem scalar_place (ty : Ty) (v : TV) :
    Agree (visitScalar ty (presValue currentDtAsMap v)) (visitScalar ty (presValue currentDtAsMap (P v))) := by
  cases v with
  | arr l => rw [presValue, visitScalar_seq]; exact agree_fail_left _
  | tbl es => rw [presValue, visitScalar_map]; exact agree_fail_left _
  | _ => exact agree_refl _

theorem decodeDatetime_noField (es : List (Bytes × TV)) (hf : FIELD ∉ es.map Prod.fst) :
    decodeDatetime (presValue currentDtAsMap (.tbl es)) = none := by
  cases es with
  | nil => rfl
  | cons x r =>
    obtain ⟨k, v⟩ := x
    simp only [List.map_cons, List.mem_cons, not_or] at hf
    have hk : (k == FIELD) = false := by simp only [beq_eq_false_iff_ne, ne_eq]; exact fun e => hf.1 e.symm
    rw [presValue, presValuePairs]
    cases hp : presValue currentDtAsMap v <;> simp [decodeDatetime, hk]

theorem dt_place (ty : Ty) (v : TV) (h : WfTV v) :
    Agree (datetimeTarget ty (presValue currentDtAsMap v)) (datetimeTarget ty (presValue currentDtAsMap (P v))) := by
  cases v with
  | arr l =>
    have : datetimeTarget ty (presValue currentDtAsMap (.arr l)) = fail := by
      simp [presValue, datetimeTarget, decodeDatetime]
    rw [this]; exact agree_fail_left _
  | tbl es =>
    rw [WfTV] at h
    have : datetimeTarget ty (presValue currentDtAsMap (.tbl es)) = fail := by
      simp [datetimeTarget, decodeDatetime_noField es h.2.2]
    rw [this]; exact agree_fail_left _
  | _ => exact agree_refl _

end TomlVerif.Lemmas.DeTyped13
