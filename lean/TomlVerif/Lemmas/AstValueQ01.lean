import TomlVerif.Spec.AstValue
import TomlVerif.Spec.AstString
/-! Abstract syntax of TOML values **with quoted keys** (`QVal`).  `AVal` of `Spec/AstValue.lean` has bare keys only
    in inline tables, so `{"a"=1}` (valid TOML 1.0.0, and accepted) is the rendering of no well-formed `AVal`:
    soundness needs this larger syntax.  It is `AVal` with key tokens that carry their spelling (`raw`) next to the
    decoded key (`key`), related by the grammar of `Spec/AstString.lean`; `ofAVal` embeds `AVal`. -/
namespace TomlVerif.Spec.AstValueQ
open TomlVerif TomlVerif.Spec TomlVerif.Model TomlVerif.Model.Value TomlVerif.Spec.AstValue
open TomlVerif.Spec.AstString (BasicChar wfBasic renderBasic semBasic wfLiteral renderLiteral)

/-- `simple-key = quoted-key / unquoted-key`, `quoted-key = basic-string / literal-string`:
    `raw` is a spelling of the key `key` -/
def KeyText (raw key : Bytes) : Prop :=
  (raw = key ∧ key ≠ [] ∧ ∀ b ∈ key, isUnquotedChar b = true) ∨
  (∃ cs : List BasicChar, wfBasic cs = true ∧ raw = renderBasic cs ∧ key = semBasic cs) ∨
  (wfLiteral key = true ∧ raw = renderLiteral key)

/-- a simple key with the blanks around it -/
structure QKey where
  pre : Bytes
  raw : Bytes
  key : Bytes
  post : Bytes

def QKey.render (k : QKey) : Bytes := k.pre ++ k.raw ++ k.post
def QKey.WF (k : QKey) : Prop := AllWs k.pre ∧ AllWs k.post ∧ KeyText k.raw k.key

/-- `. ws key ws` repeated -/
def renderQKeySep : List QKey → Bytes
  | [] => []
  | k :: r => 0x2E :: (k.render ++ renderQKeySep r)

/-- a dotted key `k0 . k1 . … . kn` -/
structure QDKey where
  first : QKey
  more : List QKey

def QDKey.render (k : QDKey) : Bytes := k.first.render ++ renderQKeySep k.more
def QDKey.keys (k : QDKey) : List Bytes := k.first.key :: k.more.map QKey.key
def QDKey.WF (k : QDKey) : Prop := k.first.WF ∧ (∀ x ∈ k.more, x.WF) ∧ k.more.length + 1 < LIMIT
def QDKey.path (k : QDKey) : List Bytes := (splitKeys k.first.key (k.more.map QKey.key)).1
def QDKey.last (k : QDKey) : Bytes := (splitKeys k.first.key (k.more.map QKey.key)).2

/-- values: scalars, arrays, inline tables with (dotted) bare or quoted keys -/
inductive QVal where
  | scalar (t : ScalarTok)
  | arr (items : List (Wcn × QVal × Wcn)) (trailingComma : Bool) (tail : Wcn)
  | inl (items : List (QDKey × Bytes × QVal × Bytes)) (tail : Bytes)

mutual
def renderQ : QVal → Bytes
  | .scalar t => t.tok
  | .arr items tc tail =>
    0x5B :: (renderItemsQ items ++ ((if tc then [0x2C] else []) ++ (renderWcn tail ++ [0x5D])))
  | .inl items tail => 0x7B :: (renderPairsQ items ++ (tail ++ [0x7D]))
def renderItemsQ : List (Wcn × QVal × Wcn) → Bytes
  | [] => []
  | (pre, v, post) :: r => renderWcn pre ++ (renderQ v ++ (renderWcn post ++ renderItemsSepQ r))
def renderItemsSepQ : List (Wcn × QVal × Wcn) → Bytes
  | [] => []
  | (pre, v, post) :: r => 0x2C :: (renderWcn pre ++ (renderQ v ++ (renderWcn post ++ renderItemsSepQ r)))
def renderPairsQ : List (QDKey × Bytes × QVal × Bytes) → Bytes
  | [] => []
  | (k, w1, v, w2) :: r => k.render ++ (0x3D :: (w1 ++ (renderQ v ++ (w2 ++ renderPairsSepQ r))))
def renderPairsSepQ : List (QDKey × Bytes × QVal × Bytes) → Bytes
  | [] => []
  | (k, w1, v, w2) :: r => 0x2C :: (k.render ++ (0x3D :: (w1 ++ (renderQ v ++ (w2 ++ renderPairsSepQ r)))))
end

mutual
def semQ : QVal → Val
  | .scalar t => t.v
  | .arr items _ _ => .arr (semItemsQ items)
  | .inl items _ => .inl ((tableFromPairs (flatPairsQ items) []).getD []) false false
def semItemsQ : List (Wcn × QVal × Wcn) → List Val
  | [] => []
  | (_, v, _) :: r => semQ v :: semItemsQ r
def flatPairsQ : List (QDKey × Bytes × QVal × Bytes) → List (List Bytes × Bytes × Val)
  | [] => []
  | (k, _, v, _) :: r => (k.path, k.last, semQ v) :: flatPairsQ r
end

mutual
def depthQ : QVal → Nat
  | .scalar _ => 0
  | .arr items _ _ => 1 + depthItemsQ items
  | .inl items _ => 1 + depthPairsQ items
def depthItemsQ : List (Wcn × QVal × Wcn) → Nat
  | [] => 0
  | (_, v, _) :: r => max (depthQ v) (depthItemsQ r)
def depthPairsQ : List (QDKey × Bytes × QVal × Bytes) → Nat
  | [] => 0
  | (k, _, v, _) :: r => max (k.more.length + depthQ v) (depthPairsQ r)
end

mutual
def WFQ : QVal → Prop
  | .scalar t => ScalarOK t
  | .arr items tc tail => WFItemsQ items ∧ WcnWF tail ∧ (items = [] → tc = false)
  | .inl items tail => WFPairsQ items ∧ AllWs tail ∧ (tableFromPairs (flatPairsQ items) []).isSome = true
def WFItemsQ : List (Wcn × QVal × Wcn) → Prop
  | [] => True
  | (pre, v, post) :: r => WcnWF pre ∧ WFQ v ∧ WcnWF post ∧ WFItemsQ r
def WFPairsQ : List (QDKey × Bytes × QVal × Bytes) → Prop
  | [] => True
  | (k, w1, v, w2) :: r => k.WF ∧ AllWs w1 ∧ WFQ v ∧ AllWs w2 ∧ WFPairsQ r
end

theorem wfQ_scalar {t : ScalarTok} : WFQ (.scalar t) ↔ ScalarOK t := by rw [WFQ]
theorem wfQ_arr {items : List (Wcn × QVal × Wcn)} {tc : Bool} {tail : Wcn} :
    WFQ (.arr items tc tail) ↔ WFItemsQ items ∧ WcnWF tail ∧ (items = [] → tc = false) := by rw [WFQ]
theorem wfQ_inl {items : List (QDKey × Bytes × QVal × Bytes)} {tail : Bytes} :
    WFQ (.inl items tail) ↔
      WFPairsQ items ∧ AllWs tail ∧ (tableFromPairs (flatPairsQ items) []).isSome = true := by rw [WFQ]
theorem wfItemsQ_cons {pre post : Wcn} {v : QVal} {r : List (Wcn × QVal × Wcn)} :
    WFItemsQ ((pre, v, post) :: r) ↔ WcnWF pre ∧ WFQ v ∧ WcnWF post ∧ WFItemsQ r := by rw [WFItemsQ]
theorem wfPairsQ_cons {k : QDKey} {w1 w2 : Bytes} {v : QVal} {r : List (QDKey × Bytes × QVal × Bytes)} :
    WFPairsQ ((k, w1, v, w2) :: r) ↔ k.WF ∧ AllWs w1 ∧ WFQ v ∧ AllWs w2 ∧ WFPairsQ r := by rw [WFPairsQ]

theorem wf_scalar {t : ScalarTok} : WF (.scalar t) ↔ ScalarOK t := by rw [WF]
theorem wf_arr {items : List (Wcn × AVal × Wcn)} {tc : Bool} {tail : Wcn} :
    WF (.arr items tc tail) ↔ WFItems items ∧ WcnWF tail ∧ (items = [] → tc = false) := by rw [WF]
theorem wf_inl {items : List (DKey × Bytes × AVal × Bytes)} {tail : Bytes} :
    WF (.inl items tail) ↔ WFPairs items ∧ AllWs tail ∧ (tableFromPairs (flatPairs items) []).isSome = true := by
  rw [WF]
theorem wfItems_cons {pre post : Wcn} {v : AVal} {r : List (Wcn × AVal × Wcn)} :
    WFItems ((pre, v, post) :: r) ↔ WcnWF pre ∧ WF v ∧ WcnWF post ∧ WFItems r := by rw [WFItems]
theorem wfPairs_cons {k : DKey} {w1 w2 : Bytes} {v : AVal} {r : List (DKey × Bytes × AVal × Bytes)} :
    WFPairs ((k, w1, v, w2) :: r) ↔ k.WF ∧ AllWs w1 ∧ WF v ∧ AllWs w2 ∧ WFPairs r := by rw [WFPairs]

def ofKeyTok (k : KeyTok) : QKey := ⟨k.pre, k.key, k.key, k.post⟩
def ofDKey (k : DKey) : QDKey := ⟨ofKeyTok k.first, k.more.map ofKeyTok⟩

mutual
def ofAVal : AVal → QVal
  | .scalar t => .scalar t
  | .arr items tc tail => .arr (ofItems items) tc tail
  | .inl items tail => .inl (ofPairs items) tail
def ofItems : List (Wcn × AVal × Wcn) → List (Wcn × QVal × Wcn)
  | [] => []
  | (pre, v, post) :: r => (pre, ofAVal v, post) :: ofItems r
def ofPairs : List (DKey × Bytes × AVal × Bytes) → List (QDKey × Bytes × QVal × Bytes)
  | [] => []
  | (k, w1, v, w2) :: r => (ofDKey k, w1, ofAVal v, w2) :: ofPairs r
end

theorem ofKeyTok_render (k : KeyTok) : (ofKeyTok k).render = k.render := rfl
theorem ofKeyTok_wf (k : KeyTok) (h : k.WF) : (ofKeyTok k).WF :=
  ⟨h.1, h.2.1, Or.inl ⟨rfl, h.2.2.1, h.2.2.2⟩⟩

theorem renderQKeySep_of (l : List KeyTok) : renderQKeySep (l.map ofKeyTok) = renderKeySep l := by
  induction l with
  | nil => rfl
  | cons k l ih => simp [renderQKeySep, renderKeySep, ih, ofKeyTok_render]

theorem ofDKey_render (k : DKey) : (ofDKey k).render = k.render := by
  simp [ofDKey, QDKey.render, DKey.render, renderQKeySep_of, ofKeyTok_render]

theorem ofDKey_path (k : DKey) : (ofDKey k).path = k.path := by
  show (splitKeys k.first.key ((k.more.map ofKeyTok).map QKey.key)).1 = _
  rw [List.map_map]; rfl
theorem ofDKey_last (k : DKey) : (ofDKey k).last = k.last := by
  show (splitKeys k.first.key ((k.more.map ofKeyTok).map QKey.key)).2 = _
  rw [List.map_map]; rfl
theorem ofDKey_keys (k : DKey) : (ofDKey k).keys = k.keys := by
  show k.first.key :: (k.more.map ofKeyTok).map QKey.key = _
  rw [List.map_map]; rfl
theorem ofDKey_more_length (k : DKey) : (ofDKey k).more.length = k.more.length := by simp [ofDKey]

theorem ofDKey_wf (k : DKey) (h : k.WF) : (ofDKey k).WF := by
  refine ⟨ofKeyTok_wf _ h.1, ?_, by simpa [ofDKey] using h.2.2⟩
  intro x hx
  simp only [ofDKey, List.mem_map] at hx
  obtain ⟨y, hy, rfl⟩ := hx
  exact ofKeyTok_wf y (h.2.1 y hy)

mutual
theorem ofAVal_render : ∀ a : AVal, renderQ (ofAVal a) = render a
  | .scalar t => by simp [ofAVal, renderQ, render]
  | .arr items tc tail => by simp [ofAVal, renderQ, render, ofItems_render items]
  | .inl items tail => by simp [ofAVal, renderQ, render, ofPairs_render items]
theorem ofItems_render : ∀ l : List (Wcn × AVal × Wcn), renderItemsQ (ofItems l) = renderItems l
  | [] => by simp [ofItems, renderItemsQ, renderItems]
  | (pre, v, post) :: r => by
    simp [ofItems, renderItemsQ, renderItems, ofAVal_render v, ofItemsSep_render r]
theorem ofItemsSep_render : ∀ l : List (Wcn × AVal × Wcn), renderItemsSepQ (ofItems l) = renderItemsSep l
  | [] => by simp [ofItems, renderItemsSepQ, renderItemsSep]
  | (pre, v, post) :: r => by
    simp [ofItems, renderItemsSepQ, renderItemsSep, ofAVal_render v, ofItemsSep_render r]
theorem ofPairs_render : ∀ l : List (DKey × Bytes × AVal × Bytes), renderPairsQ (ofPairs l) = renderPairs l
  | [] => by simp [ofPairs, renderPairsQ, renderPairs]
  | (k, w1, v, w2) :: r => by
    simp [ofPairs, renderPairsQ, renderPairs, ofAVal_render v, ofPairsSep_render r, ofDKey_render]
theorem ofPairsSep_render : ∀ l : List (DKey × Bytes × AVal × Bytes), renderPairsSepQ (ofPairs l) = renderPairsSep l
  | [] => by simp [ofPairs, renderPairsSepQ, renderPairsSep]
  | (k, w1, v, w2) :: r => by
    simp [ofPairs, renderPairsSepQ, renderPairsSep, ofAVal_render v, ofPairsSep_render r, ofDKey_render]
end

mutual
theorem ofAVal_sem : ∀ a : AVal, semQ (ofAVal a) = sem a
  | .scalar t => by simp [ofAVal, semQ, sem]
  | .arr items tc tail => by simp [ofAVal, semQ, sem, ofItems_sem items]
  | .inl items tail => by simp [ofAVal, semQ, sem, ofPairs_sem items]
theorem ofItems_sem : ∀ l : List (Wcn × AVal × Wcn), semItemsQ (ofItems l) = semItems l
  | [] => by simp [ofItems, semItemsQ, semItems]
  | (pre, v, post) :: r => by simp [ofItems, semItemsQ, semItems, ofAVal_sem v, ofItems_sem r]
theorem ofPairs_sem : ∀ l : List (DKey × Bytes × AVal × Bytes), flatPairsQ (ofPairs l) = flatPairs l
  | [] => by simp [ofPairs, flatPairsQ, flatPairs]
  | (k, w1, v, w2) :: r => by
    simp [ofPairs, flatPairsQ, flatPairs, ofAVal_sem v, ofPairs_sem r, ofDKey_path, ofDKey_last]
end

mutual
theorem ofAVal_depth : ∀ a : AVal, depthQ (ofAVal a) = depth a
  | .scalar t => by simp [ofAVal, depthQ, depth]
  | .arr items tc tail => by simp [ofAVal, depthQ, depth, ofItems_depth items]
  | .inl items tail => by simp [ofAVal, depthQ, depth, ofPairs_depth items]
theorem ofItems_depth : ∀ l : List (Wcn × AVal × Wcn), depthItemsQ (ofItems l) = depthItems l
  | [] => by simp [ofItems, depthItemsQ, depthItems]
  | (pre, v, post) :: r => by simp [ofItems, depthItemsQ, depthItems, ofAVal_depth v, ofItems_depth r]
theorem ofPairs_depth : ∀ l : List (DKey × Bytes × AVal × Bytes), depthPairsQ (ofPairs l) = depthPairs l
  | [] => by simp [ofPairs, depthPairsQ, depthPairs]
  | (k, w1, v, w2) :: r => by
    simp [ofPairs, depthPairsQ, depthPairs, ofAVal_depth v, ofPairs_depth r, ofDKey_more_length]
end

mutual
theorem ofAVal_wf : ∀ a : AVal, WF a → WFQ (ofAVal a)
  | .scalar t, h => by rw [ofAVal]; exact wfQ_scalar.2 (wf_scalar.1 h)
  | .arr items tc tail, h => by
    obtain ⟨hi, htail, htc⟩ := wf_arr.1 h
    rw [ofAVal]
    refine wfQ_arr.2 ⟨ofItems_wf items hi, htail, fun he => htc ?_⟩
    cases items with
    | nil => rfl
    | cons p l => obtain ⟨a, b, c⟩ := p; simp [ofItems] at he
  | .inl items tail, h => by
    obtain ⟨hp, htail, hsome⟩ := wf_inl.1 h
    rw [ofAVal]
    exact wfQ_inl.2 ⟨ofPairs_wf items hp, htail, by rw [ofPairs_sem]; exact hsome⟩
theorem ofItems_wf : ∀ l : List (Wcn × AVal × Wcn), WFItems l → WFItemsQ (ofItems l)
  | [], _ => by simp [ofItems, WFItemsQ]
  | (pre, v, post) :: r, h => by
    obtain ⟨hpre, hv, hpost, hr⟩ := wfItems_cons.1 h
    rw [ofItems]
    exact wfItemsQ_cons.2 ⟨hpre, ofAVal_wf v hv, hpost, ofItems_wf r hr⟩
theorem ofPairs_wf : ∀ l : List (DKey × Bytes × AVal × Bytes), WFPairs l → WFPairsQ (ofPairs l)
  | [], _ => by simp [ofPairs, WFPairsQ]
  | (k, w1, v, w2) :: r, h => by
    obtain ⟨hk, hw1, hv, hw2, hr⟩ := wfPairs_cons.1 h
    rw [ofPairs]
    exact wfPairsQ_cons.2 ⟨ofDKey_wf k hk, hw1, ofAVal_wf v hv, hw2, ofPairs_wf r hr⟩
end

end TomlVerif.Spec.AstValueQ

namespace TomlVerif.Lemmas.Sound01
open TomlVerif TomlVerif.Spec.AstValue TomlVerif.Spec.AstValueQ

theorem renderItemsSepQ_cons (p : Wcn × QVal × Wcn) (l : List (Wcn × QVal × Wcn)) :
    renderItemsSepQ (p :: l) = 0x2C :: renderItemsQ (p :: l) := by
  obtain ⟨a, v, b⟩ := p; simp [renderItemsSepQ, renderItemsQ]

theorem renderPairsSepQ_cons (p : QDKey × Bytes × QVal × Bytes) (l : List (QDKey × Bytes × QVal × Bytes)) :
    renderPairsSepQ (p :: l) = 0x2C :: renderPairsQ (p :: l) := by
  obtain ⟨k, a, v, b⟩ := p; simp [renderPairsSepQ, renderPairsQ]

end TomlVerif.Lemmas.Sound01
