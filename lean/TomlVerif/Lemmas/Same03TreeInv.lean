import TomlVerif.Lemmas.Items03Located
import TomlVerif.Lemmas.Tiling03NestTree
/-! C03, same data — what every `descend` keeps and what the printed text does not see: the tree
    invariant `tiTbl` (distinct keys in every table, implicit tables have no position;
    `descend_ti`); two lists with distinct positions that are permutations of each other have the same
    stable sort (`sortP_pairs_perm`: a take-over moves part of the summary); the summary under respelled but
    equally printed path prefixes (`nsItems_congr`). -/
namespace TomlVerif.Lemmas.Tiling03More.Tko
open TomlVerif TomlVerif.Spec TomlVerif.Model TomlVerif.Model.Strings TomlVerif.Model.Value
open TomlVerif.Model.Cst TomlVerif.Model.Encode TomlVerif.Lemmas.Suffix03 TomlVerif.Lemmas.Cst03
open TomlVerif.Lemmas.LastByte03 TomlVerif.Lemmas.Tiling03 TomlVerif.Lemmas.Tiling03Hdr
open TomlVerif.Lemmas.Tiling03Nest

theorem sortG_perm {α : Type} (key : α → Nat) (l1 l2 : List α) (hp : l1.Perm l2)
    (hinj : ∀ a ∈ l1, ∀ b ∈ l1, key a = key b → a = b) : sortG key l1 = sortG key l2 := by
  apply List.Perm.eq_of_pairwise (le := fun a b => key a ≤ key b)
  · intro a b ha hb h1 h2
    have ha' : a ∈ l1 := ((sortG_is key).perm l1).mem_iff.1 ha
    have hb' : b ∈ l1 := hp.mem_iff.2 (((sortG_is key).perm l2).mem_iff.1 hb)
    exact hinj a ha' b hb' (Nat.le_antisymm h1 h2)
  · exact sortedG_sortG key l1
  · exact sortedG_sortG key l2
  · exact (((sortG_is key).perm l1).trans hp).trans ((sortG_is key).perm l2).symm

def PosInj (N : NS) : Prop := ∀ a ∈ N, ∀ b ∈ N, a.1 = b.1 → a = b

theorem posInj_perm {N1 N2 : NS} (hp : N1.Perm N2) (h : PosInj N1) : PosInj N2 :=
  fun a ha b hb e => h a (hp.mem_iff.2 ha) b (hp.mem_iff.2 hb) e

theorem posInj_cons (e : Nat × Bool × Bytes) (N : NS) (h : PosInj N) (hlt : ∀ x ∈ N, x.1 < e.1) : PosInj (e :: N) := by
  intro a ha b hb eab
  rcases List.mem_cons.1 ha with ha | ha <;> rcases List.mem_cons.1 hb with hb | hb
  · rw [ha, hb]
  · rw [ha] at eab; have := hlt b hb; omega
  · rw [hb] at eab; have := hlt a ha; omega
  · exact h a ha b hb eab

theorem sortP_pairs_perm (N1 N2 : NS) (hp : N1.Perm N2) (hi : PosInj N1) :
    sortP (pairsN N1) = sortP (pairsN N2) := by
  unfold sortP
  apply sortG_perm
  · exact hp.map _
  · intro a ha b hb e
    obtain ⟨x, hx, ex⟩ := mem_pairsN ha
    obtain ⟨y, hy, ey⟩ := mem_pairsN hb
    subst ex; subst ey
    simp only [] at e
    rw [hi x hx y hy e]

mutual
/-- distinct keys in every table; an implicit table carries no position.  (Not an instance of
    `CstInv.TreeInv`, which constrains flags and decor of a table and each item by itself: this
    one relates the keys of a whole item list, `nodupK`, and reads the position.) -/
def tiTbl : CTbl → Bool
  | .mk items imp _ p _ _ => (!imp || p.isNone) && nodupK items && tiItems items
def tiItems : List (CKey × CItem) → Bool
  | [] => true
  | (_, it) :: r =>
    match it with
    | .table t => tiTbl t && tiItems r
    | .aot ts _ => tiAot ts && tiItems r
    | .value _ => tiItems r
def tiAot : List CTbl → Bool
  | [] => true
  | t :: r => tiTbl t && tiAot r
end

theorem tiTbl_eq (t : CTbl) : tiTbl t = ((!t.implicit || t.pos.isNone) && nodupK t.items && tiItems t.items) := by
  cases t; rw [tiTbl]; rfl

def tiItem : CItem → Bool
  | .table t => tiTbl t
  | .aot ts _ => tiAot ts
  | .value _ => true

theorem tiItems_cons (k : CKey) (it : CItem) (r : Items) : tiItems ((k, it) :: r) = (tiItem it && tiItems r) := by
  cases it <;> simp [tiItems, tiItem]

theorem tiItems_append : ∀ (x y : Items), tiItems (x ++ y) = (tiItems x && tiItems y)
  | [], y => by simp [tiItems]
  | (k, it) :: r, y => by
    simp only [List.cons_append, tiItems_cons, tiItems_append r y, Bool.and_assoc]

theorem tiAot_append : ∀ (x y : List CTbl), tiAot (x ++ y) = (tiAot x && tiAot y)
  | [], y => by simp [tiAot]
  | t :: r, y => by simp only [List.cons_append, tiAot, tiAot_append r y, Bool.and_assoc]

theorem ti_lookup (k : Bytes) : ∀ (items : Items) (it : CItem), tiItems items = true → clookup k items = some it →
    tiItem it = true
  | [], _, _, h => by simp [clookup] at h
  | (k0, v) :: r, it, ht, h => by
    rw [tiItems_cons] at ht
    simp only [Bool.and_eq_true] at ht
    unfold clookup at h
    split at h
    · injection h with h; subst h; exact ht.1
    · exact ti_lookup k r it ht.2 h

theorem tiItems_creplace (k : Bytes) (x : CItem) (hx : tiItem x = true) : ∀ (items : Items), tiItems items = true →
    tiItems (creplace k x items) = true
  | [], _ => rfl
  | (k0, v) :: r, ht => by
    rw [tiItems_cons] at ht
    simp only [Bool.and_eq_true] at ht
    unfold creplace
    split
    · rw [tiItems_cons, hx, ht.2]; rfl
    · rw [tiItems_cons, ht.1, tiItems_creplace k x hx r ht.2]; rfl

theorem tiItems_cset (k : CKey) (x : CItem) (hx : tiItem x = true) (items : Items) (h : tiItems items = true) :
    tiItems (cset k x items) = true := by
  unfold cset
  split
  · exact tiItems_creplace _ _ hx _ h
  · rw [tiItems_append, h, tiItems_cons, hx]; rfl

theorem tiItems_cerase (k : Bytes) : ∀ (items : Items), tiItems items = true → tiItems (cerase k items) = true
  | [], _ => rfl
  | (k0, v) :: r, ht => by
    rw [tiItems_cons] at ht
    simp only [Bool.and_eq_true] at ht
    unfold cerase
    split
    · exact ht.2
    · rw [tiItems_cons, ht.1, tiItems_cerase k r ht.2]; rfl

theorem tiTbl_setItems (t : CTbl) (I : Items) (h : tiTbl t = true) (h1 : nodupK I = true) (h2 : tiItems I = true) :
    tiTbl (t.setItems I) = true := by
  rw [tiTbl_eq] at h ⊢
  simp only [Bool.and_eq_true] at h
  obtain ⟨items, imp, dot, p, dec, sp⟩ := t
  simp only [CTbl.implicit, CTbl.pos] at h
  simp [CTbl.setItems, CTbl.implicit, CTbl.pos, CTbl.items, h1, h2]
  simpa using h.1.1

theorem tiTbl_newImplicit (d : Bool) : tiTbl (newImplicit d) = true := by
  simp [newImplicit, tiTbl, nodupK, tiItems]

theorem tiTbl_parts (t : CTbl) (h : tiTbl t = true) :
    nodupK t.items = true ∧ tiItems t.items = true ∧ (t.implicit = true → t.pos = none) := by
  rw [tiTbl_eq] at h
  simp only [Bool.and_eq_true, Bool.or_eq_true, Bool.not_eq_true', Option.isNone_iff_eq_none] at h
  refine ⟨h.1.2, h.2, fun hi => ?_⟩
  rcases h.1.1 with h1 | h1
  · rw [hi] at h1; cases h1
  · exact h1

theorem descend_ti (g : CTbl → Option CTbl) (hg : ∀ p p', g p = some p' → tiTbl p = true → tiTbl p' = true) :
    ∀ (path : List CKey) (t t' : CTbl) (d : Bool), tiTbl t = true → descend t path d g = some t' → tiTbl t' = true := by
  intro path t t' d ht h
  refine descend_induction (P := fun t _ t' => tiTbl t = true → tiTbl t' = true)
    (fun t t' h ht => hg _ _ h ht) ?_ ?_ ?_ path t t' h ht
  · intro t k ks sub' hl _ ih ht
    obtain ⟨hn, hti, _⟩ := tiTbl_parts t ht
    rw [← cset_none k _ _ hl]
    exact tiTbl_setItems t _ ht (nodupK_cset _ _ _ hn) (tiItems_cset _ (.table sub') (ih (tiTbl_newImplicit d)) _ hti)
  · intro t k ks sub sub' hl _ ih ht
    obtain ⟨hn, hti, _⟩ := tiTbl_parts t ht
    exact tiTbl_setItems t _ ht (nodupK_cset _ _ _ hn) (tiItems_cset _ (.table sub') (ih (ti_lookup _ _ _ hti hl)) _ hti)
  · intro t k ks tsI l l' sp hl _ ih ht
    obtain ⟨hn, hti, _⟩ := tiTbl_parts t ht
    have hs : tiAot (tsI ++ [l]) = true := ti_lookup _ _ _ hti hl
    rw [tiAot_append] at hs
    simp only [Bool.and_eq_true, tiAot, Bool.and_true] at hs
    refine tiTbl_setItems t _ ht (nodupK_cset _ _ _ hn) (tiItems_cset _ (.aot (tsI ++ [l']) sp) ?_ _ hti)
    show tiAot (tsI ++ [l']) = true
    rw [tiAot_append, hs.1]
    simp only [tiAot, Bool.and_true, Bool.true_and]
    exact ih hs.2

theorem eraseFn_ti (key : CKey) (p p' : CTbl) (h : eraseFn key p = some p') (ht : tiTbl p = true) : tiTbl p' = true := by
  obtain ⟨hn, hti, _⟩ := tiTbl_parts p ht
  unfold eraseFn at h
  injection h with h; subst h
  exact tiTbl_setItems p _ ht (nodupK_cerase _ _ hn) (tiItems_cerase _ _ hti)

theorem arrFn_ti (key : CKey) (p p' : CTbl) (h : arrFn key p = some p') (ht : tiTbl p = true) : tiTbl p' = true := by
  obtain ⟨hn, hti, _⟩ := tiTbl_parts p ht
  unfold arrFn at h
  split at h
  · injection h with h; subst h; exact ht
  · cases h
  · rename_i hl
    injection h with h; subst h
    exact tiTbl_setItems p _ ht (nodupK_snoc _ _ _ hn hl) (by rw [tiItems_append, hti, tiItems_cons]; rfl)

theorem startFn_ti (a : Bool) (key : CKey) (p p' : CTbl) (h : (if a then arrFn key else eraseFn key) p = some p')
    (ht : tiTbl p = true) : tiTbl p' = true := by
  cases a
  · exact eraseFn_ti key p p' h ht
  · exact arrFn_ti key p p' h ht

theorem finFn_ti (a : Bool) (key : CKey) (cur p p' : CTbl) (hc : tiTbl cur = true)
    (h : (if a then finArr key cur else finStd key cur) p = some p') (ht : tiTbl p = true) : tiTbl p' = true := by
  obtain ⟨hn, hti, _⟩ := tiTbl_parts p ht
  cases a with
  | false =>
    simp only [Bool.false_eq_true, if_false] at h
    have hn' := finStd_nodup key cur p p' h hn
    unfold finStd at h
    split at h
    · split at h
      · injection h with h; subst h
        exact tiTbl_setItems p _ ht (by simpa using hn') (tiItems_creplace _ (.table cur) hc _ hti)
      · cases h
    · cases h
    · injection h with h; subst h
      exact tiTbl_setItems p _ ht (by simpa using hn') (by rw [tiItems_append, hti, tiItems_cons]; simp [tiItem, hc, tiItems])
  | true =>
    simp only [if_true] at h
    have hn' := finArr_nodup key cur p p' h hn
    unfold finArr at h
    split at h
    · rename_i ts sp0 hget
      injection h with h; subst h
      refine tiTbl_setItems p _ ht (by simpa using hn') (tiItems_cset _ _ ?_ _ hti)
      show tiAot (ts ++ [cur]) = true
      rw [tiAot_append]
      have hts : tiAot ts = true := by
        cases hl : clookup key.key p.items with
        | none => rw [hl] at hget; simp only [Option.getD_none] at hget; injection hget with e1 e2; subst e1; rfl
        | some y => rw [hl] at hget; simp only [Option.getD_some] at hget; subst hget; exact ti_lookup _ _ _ hti hl
      rw [hts]; simp [tiAot, hc]
    · cases h

theorem kvFn_ti (path : List CKey) (key' : CKey) (v : CVal) (p p' : CTbl) (h : kvFn path key' v p = some p')
    (ht : tiTbl p = true) : tiTbl p' = true := by
  obtain ⟨hn, hti, _⟩ := tiTbl_parts p ht
  obtain ⟨e, hl⟩ := kvFn_facts _ _ _ _ _ h
  subst e
  exact tiTbl_setItems p _ ht (nodupK_snoc _ _ _ hn hl) (by rw [tiItems_append, hti, tiItems_cons]; rfl)

theorem hdN_congr (f : Bytes → Bytes) (inp : Bytes) (t : CTbl) (X Y : List CKey) (k : CKey) (a : Bool)
    (h : SegsEq f inp X Y) : hdN f inp t (X ++ [k]) a = hdN f inp t (Y ++ [k]) a := by
  unfold hdN
  rw [entText_path_congr f inp t (X ++ [k]) (Y ++ [k]) a (List.concat_ne_nil _ _) (List.concat_ne_nil _ _)
    (encodeKeyPath_congr f inp X Y k k [] [] h (LeafEq.refl f inp k))]

theorem ns_congr (f : Bytes → Bytes) (inp : Bytes) :
    (∀ (items : List (CKey × CItem)) (X Y : List CKey),
      SegsEq f inp X Y → nsItems f inp items X = nsItems f inp items Y) ∧
    (∀ (t : CTbl) (X Y : List CKey) (k : CKey) (a : Bool),
      SegsEq f inp X Y → nsTbl f inp t (X ++ [k]) a = nsTbl f inp t (Y ++ [k]) a) ∧
    (∀ (ts : List CTbl) (X Y : List CKey) (k : CKey),
      SegsEq f inp X Y → nsAot f inp ts (X ++ [k]) = nsAot f inp ts (Y ++ [k])) := by
  refine items_induct ?_ ?_ ?_ ?_ ?_ ?_ ?_
  · intro X Y _; rfl
  · intro k v r ih X Y h
    rw [nsItems, nsItems]; exact ih X Y h
  · intro k t r iht ih X Y h
    rw [nsItems, nsItems, iht X Y k false h, ih X Y h]
  · intro k ts sp r ihts ih X Y h
    rw [nsItems, nsItems, ihts X Y k h, ih X Y h]
  · intro items imp dot p dec sp ih X Y k a h
    rw [nsTbl, nsTbl, hdN_congr f inp _ X Y k a h, ih (X ++ [k]) (Y ++ [k]) (h.snoc (SegEq.refl f inp k))]
  · intro X Y k _; rfl
  · intro t r iht ih X Y k h
    rw [nsAot, nsAot, iht X Y k true h, ih X Y k h]

theorem nsTbl_congr (f : Bytes → Bytes) (inp : Bytes) : ∀ (t : CTbl) (X Y : List CKey) (k : CKey) (a : Bool),
    SegsEq f inp X Y → nsTbl f inp t (X ++ [k]) a = nsTbl f inp t (Y ++ [k]) a :=
  (ns_congr f inp).2.1
theorem nsItems_congr (f : Bytes → Bytes) (inp : Bytes) : ∀ (items : List (CKey × CItem)) (X Y : List CKey),
    SegsEq f inp X Y → nsItems f inp items X = nsItems f inp items Y :=
  (ns_congr f inp).1
theorem nsAot_congr (f : Bytes → Bytes) (inp : Bytes) : ∀ (ts : List CTbl) (X Y : List CKey) (k : CKey),
    SegsEq f inp X Y → nsAot f inp ts (X ++ [k]) = nsAot f inp ts (Y ++ [k]) :=
  (ns_congr f inp).2.2

end TomlVerif.Lemmas.Tiling03More.Tko
