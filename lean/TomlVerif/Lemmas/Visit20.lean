import TomlVerif.Model.Visit
import TomlVerif.Lemmas.Skeleton20
/-! The model walks the children lists with helper functions of their own (the tree types are nested).  Each helper
    is first shown to be the `flatMap` / `map` of the node walker over the list; after that every property is one
    induction over the tree (`TreeInduct`), and its statement for a list of children is a consequence. -/
namespace TomlVerif.Lemmas.Visit20
open TomlVerif TomlVerif.Model TomlVerif.Model.Visit TomlVerif.Spec.Preorder
open TomlVerif.Lemmas.TreeInduct TomlVerif.Lemmas.Skeleton20

/-- the node a hook call stands for; the four dispatch hooks (`visit_document`, `visit_item`,
    `visit_table_like`, `visit_value`) stand for none -/
def nodeOf : Ev → Option Node
  | .kv k => some (.pair k)
  | .str s => some (.str s)
  | .int n => some (.int n)
  | .float b => some (.float b)
  | .bool b => some (.bool b)
  | .dt d => some (.dt d)
  | .array => some .array
  | .inline => some .inlineTable
  | .table => some .table
  | .aot => some .arrayOfTables
  | .doc | .item | .tablelike | .value => none

def nodeEvents (evs : List Ev) : List Node := evs.filterMap nodeOf

/-- the hook calls the default walk makes on arriving at one node -/
def hooks : Node → List Ev
  | .pair k => [.kv k, .item]
  | .str s => [.value, .str s]
  | .int n => [.value, .int n]
  | .float b => [.value, .float b]
  | .bool b => [.value, .bool b]
  | .dt d => [.value, .dt d]
  | .array => [.value, .array]
  | .inlineTable => [.value, .inline, .tablelike]
  | .table => [.table, .tablelike]
  | .arrayOfTables => [.aot]

theorem nodeEvents_hooks (n : Node) : nodeEvents (hooks n) = [n] := by
  cases n <;> rfl

theorem nodeEvents_flatMap_hooks (l : List Node) : nodeEvents (l.flatMap hooks) = l := by
  rw [nodeEvents, List.filterMap_flatMap,
    (funext nodeEvents_hooks : (fun n => (hooks n).filterMap nodeOf) = fun n => [n]), List.flatMap_singleton']

theorem visitArrayItems_flatMap (vs : List Val) : visitArrayItems vs = vs.flatMap visitValue := by
  induction vs with
  | nil => rfl
  | cons v r ih => simp [visitArrayItems, ih]

theorem visitInlineItems_flatMap (kvs : List (Bytes × Val)) :
    visitInlineItems kvs = kvs.flatMap fun kv => .kv kv.1 :: .item :: visitValue kv.2 := by
  induction kvs with
  | nil => rfl
  | cons kv r ih => simp [visitInlineItems, ih]

theorem visitTableItems_flatMap (items : List (Bytes × Item)) :
    visitTableItems items = items.flatMap fun kv => .kv kv.1 :: visitItem kv.2 := by
  induction items with
  | nil => rfl
  | cons kv r ih => simp [visitTableItems, ih]

theorem visitAotItems_flatMap (ts : List Tbl) : visitAotItems ts = ts.flatMap visitTable := by
  induction ts with
  | nil => rfl
  | cons t r ih => simp [visitAotItems, ih]

theorem visitArrayItemsMut_map (h : Int → Int) (vs : List Val) :
    visitArrayItemsMut h vs = (vs.map fun v => (visitValueMut h v).1, vs.flatMap fun v => (visitValueMut h v).2) := by
  induction vs with
  | nil => rfl
  | cons v r ih => simp [visitArrayItemsMut, ih]

theorem visitInlineItemsMut_map (h : Int → Int) (kvs : List (Bytes × Val)) :
    visitInlineItemsMut h kvs = (kvs.map fun kv => (kv.1, (visitValueMut h kv.2).1),
      kvs.flatMap fun kv => .kv kv.1 :: .item :: (visitValueMut h kv.2).2) := by
  induction kvs with
  | nil => rfl
  | cons kv r ih => simp [visitInlineItemsMut, ih]

theorem visitTableItemsMut_map (h : Int → Int) (items : List (Bytes × Item)) :
    visitTableItemsMut h items = (items.map fun kv => (kv.1, (visitItemMut h kv.2).1),
      items.flatMap fun kv => .kv kv.1 :: (visitItemMut h kv.2).2) := by
  induction items with
  | nil => rfl
  | cons kv r ih => simp [visitTableItemsMut, ih]

theorem visitAotItemsMut_map (h : Int → Int) (ts : List Tbl) :
    visitAotItemsMut h ts = (ts.map fun t => (visitTableMut h t).1, ts.flatMap fun t => (visitTableMut h t).2) := by
  induction ts with
  | nil => rfl
  | cons t r ih => simp [visitAotItemsMut, ih]

-- below, `simp` puts every list walker in that form and flattens nested `flatMap`s
attribute [local simp] visitArrayItems_flatMap visitInlineItems_flatMap visitTableItems_flatMap visitAotItems_flatMap
  visitArrayItemsMut_map visitInlineItemsMut_map visitTableItemsMut_map visitAotItemsMut_map
  List.flatMap_assoc List.flatMap_map List.map_flatMap

theorem visitValue_eq (v : Val) : visitValue v = (preVal v).flatMap hooks := by
  induction v using val_induct with
  | arr vs ih => simp [visitValue, preVal, hooks, flatMap_congr ih]
  | inl kvs i d ih =>
    simp [visitValue, preVal, hooks,
      flatMap_congr fun kv hkv => congrArg (Ev.kv kv.1 :: .item :: ·) (ih kv hkv)]
  | _ => simp [visitValue, preVal, hooks]

theorem visitArrayItems_eq : ∀ vs : List Val, visitArrayItems vs = (vs.flatMap preVal).flatMap hooks
  | vs => by simp [funext visitValue_eq]

theorem visitInlineItems_eq : ∀ kvs : List (Bytes × Val),
    visitInlineItems kvs = (kvs.flatMap fun kv => .pair kv.1 :: preVal kv.2).flatMap hooks
  | kvs => by simp [visitValue_eq, hooks]

theorem visit_eq : (∀ i : Item, visitItem i = .item :: (preItem i).flatMap hooks) ∧
    (∀ t : Tbl, visitTable t = (preTbl t).flatMap hooks) := by
  refine item_induct (fun v => ?_) (fun t ih => ?_) (fun ts ih => ?_) (fun items i d p ih => ?_)
  · simp [visitItem, preItem, visitValue_eq]
  · simp [visitItem, preItem, ih]
  · simp [visitItem, preItem, hooks, flatMap_congr ih]
  · simp [visitTable, preTbl, hooks,
      flatMap_congr fun kv hkv => congrArg (Ev.kv kv.1 :: ·) (ih kv hkv)]

theorem visitItem_eq : ∀ i : Item, visitItem i = .item :: (preItem i).flatMap hooks := visit_eq.1
theorem visitTable_eq : ∀ t : Tbl, visitTable t = (preTbl t).flatMap hooks := visit_eq.2

theorem visitTableItems_eq : ∀ items : List (Bytes × Item),
    visitTableItems items = (items.flatMap fun kv => .pair kv.1 :: preItem kv.2).flatMap hooks
  | items => by simp [visitItem_eq, hooks]

theorem visitAotItems_eq : ∀ ts : List Tbl, visitAotItems ts = (ts.flatMap preTbl).flatMap hooks
  | ts => by simp [funext visitTable_eq]

theorem visitValueMut_snd (h : Int → Int) (v : Val) : (visitValueMut h v).2 = visitValue v := by
  induction v using val_induct with
  | arr vs ih => simp [visitValueMut, visitValue, flatMap_congr ih]
  | inl kvs i d ih =>
    simp [visitValueMut, visitValue,
      flatMap_congr fun kv hkv => congrArg (Ev.kv kv.1 :: .item :: ·) (ih kv hkv)]
  | _ => rfl

theorem visitArrayItemsMut_snd (h : Int → Int) : ∀ vs : List Val, (visitArrayItemsMut h vs).2 = visitArrayItems vs
  | vs => by simp [visitValueMut_snd]

theorem visitInlineItemsMut_snd (h : Int → Int) : ∀ kvs : List (Bytes × Val),
    (visitInlineItemsMut h kvs).2 = visitInlineItems kvs
  | kvs => by simp [visitValueMut_snd]

theorem visitMut_snd (h : Int → Int) : (∀ i : Item, (visitItemMut h i).2 = visitItem i) ∧
    (∀ t : Tbl, (visitTableMut h t).2 = visitTable t) := by
  refine item_induct (fun v => ?_) (fun t ih => ?_) (fun ts ih => ?_) (fun items i d p ih => ?_)
  · simp [visitItemMut, visitItem, visitValueMut_snd]
  · simp [visitItemMut, visitItem, ih]
  · simp [visitItemMut, visitItem, flatMap_congr ih]
  · simp [visitTableMut, visitTable,
      flatMap_congr fun kv hkv => congrArg (Ev.kv kv.1 :: ·) (ih kv hkv)]

theorem visitItemMut_snd (h : Int → Int) : ∀ i : Item, (visitItemMut h i).2 = visitItem i := (visitMut_snd h).1
theorem visitTableMut_snd (h : Int → Int) : ∀ t : Tbl, (visitTableMut h t).2 = visitTable t := (visitMut_snd h).2

theorem visitTableItemsMut_snd (h : Int → Int) : ∀ items : List (Bytes × Item),
    (visitTableItemsMut h items).2 = visitTableItems items
  | items => by simp [visitItemMut_snd]

theorem visitAotItemsMut_snd (h : Int → Int) : ∀ ts : List Tbl, (visitAotItemsMut h ts).2 = visitAotItems ts
  | ts => by simp [visitTableMut_snd]

theorem intsVal_mut (h : Int → Int) (v : Val) : intsVal (visitValueMut h v).1 = (intsVal v).map h := by
  induction v using val_induct with
  | arr vs ih =>
    simp only [visitValueMut, intsVal, visitArrayItemsMut_map, List.flatMap_map, List.map_flatMap, flatMap_congr ih]
  | inl kvs i d ih =>
    simp only [visitValueMut, intsVal, visitInlineItemsMut_map, List.flatMap_map, List.map_flatMap, flatMap_congr ih]
  | _ => simp only [visitValueMut, intsVal, List.map_cons, List.map_nil]

theorem intsVals_mut (h : Int → Int) : ∀ vs : List Val,
    (visitArrayItemsMut h vs).1.flatMap intsVal = (vs.flatMap intsVal).map h
  | vs => by simp [intsVal_mut]

theorem intsKVs_mut (h : Int → Int) : ∀ kvs : List (Bytes × Val),
    ((visitInlineItemsMut h kvs).1.flatMap fun kv => intsVal kv.2) = (kvs.flatMap fun kv => intsVal kv.2).map h
  | kvs => by simp [intsVal_mut]

theorem ints_mut (h : Int → Int) : (∀ i : Item, intsItem (visitItemMut h i).1 = (intsItem i).map h) ∧
    (∀ t : Tbl, intsTbl (visitTableMut h t).1 = (intsTbl t).map h) := by
  refine item_induct (fun v => ?_) (fun t ih => ?_) (fun ts ih => ?_) (fun items i d p ih => ?_)
  · simp [visitItemMut, intsItem, intsVal_mut]
  · simp [visitItemMut, intsItem, ih]
  · simp [visitItemMut, intsItem, flatMap_congr ih]
  · simp [visitTableMut, intsTbl, flatMap_congr ih]

theorem intsItem_mut (h : Int → Int) : ∀ i : Item, intsItem (visitItemMut h i).1 = (intsItem i).map h := (ints_mut h).1
theorem intsTbl_mut (h : Int → Int) : ∀ t : Tbl, intsTbl (visitTableMut h t).1 = (intsTbl t).map h := (ints_mut h).2

theorem intsItems_mut (h : Int → Int) : ∀ items : List (Bytes × Item),
    ((visitTableItemsMut h items).1.flatMap fun kv => intsItem kv.2) = (items.flatMap fun kv => intsItem kv.2).map h
  | items => by simp [intsItem_mut]

theorem intsTbls_mut (h : Int → Int) : ∀ ts : List Tbl,
    (visitAotItemsMut h ts).1.flatMap intsTbl = (ts.flatMap intsTbl).map h
  | ts => by simp [intsTbl_mut]

theorem skelVal_mut (h : Int → Int) (v : Val) : skelVal (visitValueMut h v).1 = skelVal v := by
  induction v using val_induct with
  | arr vs ih =>
    simp only [visitValueMut, skelVal, visitArrayItemsMut_map, List.map_map, Function.comp_def, List.map_congr_left ih]
  | inl kvs i d ih =>
    simp only [visitValueMut, skelVal, visitInlineItemsMut_map, List.map_map, Function.comp_def,
      List.map_congr_left fun kv hkv => congrArg (Prod.mk kv.1) (ih kv hkv)]
  | _ => simp only [visitValueMut, skelVal]

theorem skelVals_mut (h : Int → Int) : ∀ vs : List Val,
    (visitArrayItemsMut h vs).1.map skelVal = vs.map skelVal
  | vs => by simp [skelVal_mut]

theorem skelKVs_mut (h : Int → Int) : ∀ kvs : List (Bytes × Val),
    ((visitInlineItemsMut h kvs).1.map fun kv => (kv.1, skelVal kv.2)) = kvs.map fun kv => (kv.1, skelVal kv.2)
  | kvs => by simp [skelVal_mut]

theorem skel_mut (h : Int → Int) : (∀ i : Item, skelItem (visitItemMut h i).1 = skelItem i) ∧
    (∀ t : Tbl, skelTbl (visitTableMut h t).1 = skelTbl t) := by
  refine item_induct (fun v => ?_) (fun t ih => ?_) (fun ts ih => ?_) (fun items i d p ih => ?_)
  · simp only [visitItemMut, skelItem, skelVal_mut]
  · simp only [visitItemMut, skelItem, ih]
  · simp only [visitItemMut, skelItem, visitAotItemsMut_map, List.map_map, Function.comp_def, List.map_congr_left ih]
  · simp only [visitTableMut, skelTbl, visitTableItemsMut_map, List.map_map, Function.comp_def,
      List.map_congr_left fun kv hkv => congrArg (Prod.mk kv.1) (ih kv hkv)]

theorem skelItem_mut (h : Int → Int) : ∀ i : Item, skelItem (visitItemMut h i).1 = skelItem i := (skel_mut h).1
theorem skelTbl_mut (h : Int → Int) : ∀ t : Tbl, skelTbl (visitTableMut h t).1 = skelTbl t := (skel_mut h).2

theorem skelItems_mut (h : Int → Int) : ∀ items : List (Bytes × Item),
    ((visitTableItemsMut h items).1.map fun kv => (kv.1, skelItem kv.2)) = items.map fun kv => (kv.1, skelItem kv.2)
  | items => by simp [skelItem_mut]

theorem skelTbls_mut (h : Int → Int) : ∀ ts : List Tbl, (visitAotItemsMut h ts).1.map skelTbl = ts.map skelTbl
  | ts => by simp [skelTbl_mut]

/-! the default hooks change nothing: the walk keeps the skeleton and maps the integers through `id` -/

theorem visitValueMut_id (v : Val) : (visitValueMut id v).1 = v :=
  injVal _ _ (skelVal_mut id v) (by rw [intsVal_mut, List.map_id])
theorem visitItemMut_id : ∀ i : Item, (visitItemMut id i).1 = i
  | i => injItem _ _ (skelItem_mut id i) (by rw [intsItem_mut, List.map_id])
theorem visitTableMut_id (t : Tbl) : (visitTableMut id t).1 = t :=
  injTbl _ _ (skelTbl_mut id t) (by rw [intsTbl_mut, List.map_id])

theorem visitArrayItemsMut_id : ∀ vs : List Val, (visitArrayItemsMut id vs).1 = vs
  | vs => by simp [visitValueMut_id]
theorem visitInlineItemsMut_id : ∀ kvs : List (Bytes × Val), (visitInlineItemsMut id kvs).1 = kvs
  | kvs => by simp [visitValueMut_id]
theorem visitTableItemsMut_id : ∀ items : List (Bytes × Item), (visitTableItemsMut id items).1 = items
  | items => by simp [visitItemMut_id]
theorem visitAotItemsMut_id : ∀ ts : List Tbl, (visitAotItemsMut id ts).1 = ts
  | ts => by simp [visitTableMut_id]

end TomlVerif.Lemmas.Visit20
