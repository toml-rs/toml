import TomlVerif.Lemmas.DecimalPad
/-! The date-time readers of the document parser (`Datetime.Doc`), for everything that reasons about their results:
    an accepted date, time and date-time by its fields (`_ok_iff`, `DateTimeOk`); when the date and the time reader
    backtrack; the fraction reader; an accepted date, time and offset as the text the printer writes (`_ok_text`), hence
    each printed part read back (`_display`), and what may follow a printed value (`TimeFollow`, `DtFollow`). -/
namespace TomlVerif.Lemmas.Datetime12
open TomlVerif TomlVerif.Spec TomlVerif.Model.Datetime

theorem maxDays_le (y m : Nat) : maxDays y m ≤ 31 := by
  unfold maxDays; repeat' split
  all_goals omega

theorem fullDate_ok_iff (s rest : Bytes) (d : Date) :
    Doc.fullDate s = .ok d rest ↔
      ∃ r1 r2, digits4 s = some (d.year, 0x2D :: r1) ∧ digits2 r1 = some (d.month, 0x2D :: r2) ∧
        digits2 r2 = some (d.day, rest) ∧ (1 ≤ d.month ∧ d.month ≤ 12) ∧ 1 ≤ d.day ∧ d.day ≤ maxDays d.year d.month := by
  constructor
  · intro h
    unfold Doc.fullDate at h
    cases h4 : digits4 s with
    | none => simp [h4] at h
    | some p =>
      obtain ⟨y, r⟩ := p
      simp only [h4] at h
      rcases r with _ | ⟨c, r1⟩
      · cases h
      by_cases hc : c = 0x2D
      case neg => simp [hc] at h
      subst hc
      simp only at h
      cases hm : digits2 r1 with
      | none => simp [hm] at h
      | some p =>
        obtain ⟨m, r⟩ := p
        simp only [hm] at h
        by_cases cm : (!(decide (1 ≤ m) && decide (m ≤ 12))) = true
        · rw [if_pos cm] at h; cases h
        rw [if_neg cm] at h
        rcases r with _ | ⟨c, r2⟩
        · cases h
        by_cases hc : c = 0x2D
        case neg => simp [hc] at h
        subst hc
        simp only at h
        cases hd : digits2 r2 with
        | none => simp [hd] at h
        | some p =>
          obtain ⟨dd, r⟩ := p
          simp only [hd] at h
          by_cases cd : (!(decide (1 ≤ dd) && decide (dd ≤ 31))) = true
          · rw [if_pos cd] at h; cases h
          rw [if_neg cd] at h
          by_cases cx : maxDays y m < dd
          · rw [if_pos cx] at h; cases h
          rw [if_neg cx] at h
          injection h with h1 h2
          subst h1 h2
          simp at cm cd
          exact ⟨r1, r2, rfl, hm, hd, by show 1 ≤ m ∧ m ≤ 12; omega, by show 1 ≤ dd; omega,
            by show dd ≤ maxDays y m; omega⟩
  · rintro ⟨r1, r2, h4, hm, hd, cm, cd1, cd2⟩
    have := maxDays_le d.year d.month
    have c1 : (!(decide (1 ≤ d.month) && decide (d.month ≤ 12))) = false := by simp; omega
    have c2 : (!(decide (1 ≤ d.day) && decide (d.day ≤ 31))) = false := by simp; omega
    have c3 : ¬ maxDays d.year d.month < d.day := by omega
    simp [Doc.fullDate, h4, hm, hd, c1, c2, c3]

theorem partialTime_ok_iff (s rest : Bytes) (t : Time) :
    Doc.partialTime s = .ok t rest ↔
      ∃ r1 r2 r3, digits2 s = some (t.hour, 0x3A :: r1) ∧ digits2 r1 = some (t.minute, 0x3A :: r2) ∧
        digits2 r2 = some (t.second, r3) ∧ Doc.secfracOpt r3 = (t.nanosecond, rest) ∧
        t.hour ≤ 23 ∧ t.minute ≤ 59 ∧ t.second ≤ 60 := by
  constructor
  · intro h
    unfold Doc.partialTime at h
    cases hh : digits2 s with
    | none => simp [hh] at h
    | some p =>
      obtain ⟨hr, r⟩ := p
      simp only [hh] at h
      by_cases ch : (!decide (hr ≤ 23)) = true
      · rw [if_pos ch] at h; cases h
      rw [if_neg ch] at h
      rcases r with _ | ⟨c, r1⟩
      · cases h
      by_cases hc : c = 0x3A
      case neg => simp [hc] at h
      subst hc
      simp only at h
      cases hm : digits2 r1 with
      | none => simp [hm] at h
      | some p =>
        obtain ⟨m, r⟩ := p
        simp only [hm] at h
        by_cases cm : (!decide (m ≤ 59)) = true
        · rw [if_pos cm] at h; cases h
        rw [if_neg cm] at h
        rcases r with _ | ⟨c, r2⟩
        · cases h
        by_cases hc : c = 0x3A
        case neg => simp [hc] at h
        subst hc
        simp only at h
        cases hs : digits2 r2 with
        | none => simp [hs] at h
        | some p =>
          obtain ⟨sec, r3⟩ := p
          simp only [hs] at h
          by_cases cs : (!decide (sec ≤ 60)) = true
          · rw [if_pos cs] at h; cases h
          rw [if_neg cs] at h
          injection h with h1 h2
          subst h1 h2
          simp at ch cm cs
          exact ⟨r1, r2, r3, rfl, hm, hs, rfl, ch, cm, cs⟩
  · rintro ⟨r1, r2, r3, hh, hm, hs, hf, ch, cm, cs⟩
    simp [Doc.partialTime, hh, hm, hs, hf, ch, cm, cs]

/-- An accepted date-time: a date, optionally followed by a delimiter and a time, optionally
    followed by an offset; or a time alone. -/
inductive DateTimeOk (s : Bytes) : Datetime → Bytes → Prop
  | date {d r} : Doc.fullDate s = .ok d r →
      (∀ c r', r = c :: r' → Doc.isTimeDelim c = true → Doc.partialTime r' = .bt) →
      DateTimeOk s ⟨some d, none, none⟩ r
  | dateTime {d c r' t r''} : Doc.fullDate s = .ok d (c :: r') → Doc.isTimeDelim c = true →
      Doc.partialTime r' = .ok t r'' → Doc.timeOffset r'' = .bt → DateTimeOk s ⟨some d, some t, none⟩ r''
  | offset {d c r' t r'' o r3} : Doc.fullDate s = .ok d (c :: r') → Doc.isTimeDelim c = true →
      Doc.partialTime r' = .ok t r'' → Doc.timeOffset r'' = .ok o r3 → DateTimeOk s ⟨some d, some t, some o⟩ r3
  | time {t r} : Doc.fullDate s = .bt → Doc.partialTime s = .ok t r → DateTimeOk s ⟨none, some t, none⟩ r

theorem dateTime_ok {s rest : Bytes} {dt : Datetime} (h : Doc.dateTime s = .ok dt rest) :
    DateTimeOk s dt rest := by
  unfold Doc.dateTime at h
  cases hf : Doc.fullDate s with
  | cut => rw [hf] at h; cases h
  | bt =>
    rw [hf] at h
    simp only [] at h
    cases hp : Doc.partialTime s with
    | ok t r => rw [hp] at h; injection h with h1 h2; subst h1 h2; exact .time hf hp
    | bt => rw [hp] at h; cases h
    | cut => rw [hp] at h; cases h
  | ok d r =>
    rw [hf] at h
    simp only [] at h
    cases r with
    | nil =>
      injection h with h1 h2; subst h1 h2
      exact .date hf (fun c r' e => by cases e)
    | cons c r' =>
      simp only [] at h
      by_cases hc : Doc.isTimeDelim c = true
      case neg =>
        rw [if_neg hc] at h
        injection h with h1 h2; subst h1 h2
        exact .date hf (fun c' r'' e hd => by injection e with e1 _; subst e1; exact absurd hd hc)
      rw [if_pos hc] at h
      cases hp : Doc.partialTime r' with
      | cut => rw [hp] at h; cases h
      | bt =>
        rw [hp] at h
        injection h with h1 h2; subst h1 h2
        exact .date hf (fun c' r'' e _ => by injection e with _ e2; subst e2; exact hp)
      | ok t r'' =>
        rw [hp] at h
        simp only [] at h
        cases ho : Doc.timeOffset r'' with
        | cut => rw [ho] at h; cases h
        | bt => rw [ho] at h; injection h with h1 h2; subst h1 h2; exact .dateTime hf hc hp ho
        | ok o r3 => rw [ho] at h; injection h with h1 h2; subst h1 h2; exact .offset hf hc hp ho

theorem dateTime_of_ok {s rest : Bytes} {dt : Datetime} (h : DateTimeOk s dt rest) : Doc.dateTime s = .ok dt rest := by
  unfold Doc.dateTime
  cases h with
  | date hf hp =>
    rename_i d
    rw [hf]
    cases rest with
    | nil => rfl
    | cons c r' =>
      simp only
      by_cases hc : Doc.isTimeDelim c = true
      · simp only [hc, if_true, hp c r' rfl hc]
      · simp only [hc]; rfl
  | dateTime hf hc hp ho => rw [hf]; simp only [hc, if_true, hp, ho]
  | offset hf hc hp ho => rw [hf]; simp only [hc, if_true, hp, ho]
  | time hf hp => rw [hf]; simp only [hp]

/-! `full_date` backtracks unless the input starts `dddd-`, `partial_time` unless it starts `HH:` with an hour; after
    that every failure is committed (`cut_err`), which is what the sweep over the remaining arms finds. -/

theorem fullDate_bt_iff (s : Bytes) : Doc.fullDate s = .bt ↔ ∀ y X, digits4 s ≠ some (y, 0x2D :: X) := by
  unfold Doc.fullDate
  cases h4 : digits4 s with
  | none => exact ⟨fun _ y X h => (nomatch h), fun _ => rfl⟩
  | some p =>
    obtain ⟨y, r⟩ := p
    rcases r with _ | ⟨c, r1⟩
    · exact ⟨fun _ y X h => (nomatch h), fun _ => rfl⟩
    by_cases hc : c = 0x2D
    · subst hc
      refine ⟨fun h => ?_, fun h => absurd rfl (h y r1)⟩
      exfalso
      simp only at h
      repeat' (first | cases h | split at h)
    · refine ⟨fun _ y' X h => ?_, fun _ => ?_⟩
      · injection h with h; injection h with _ h; injection h with h _; exact hc h
      · simp only
        split
        · rename_i heq; injection heq with heq _; exact absurd heq hc
        · rfl

theorem partialTime_bt_iff (s : Bytes) :
    Doc.partialTime s = .bt ↔ ∀ h X, digits2 s = some (h, 0x3A :: X) → 23 < h := by
  unfold Doc.partialTime
  cases h2 : digits2 s with
  | none => exact ⟨fun _ h X e => (nomatch e), fun _ => rfl⟩
  | some p =>
    obtain ⟨hr, r⟩ := p
    simp only
    by_cases hh : hr ≤ 23
    · have e : (!decide (hr ≤ 23)) = false := by simpa using hh
      simp only [e, Bool.false_eq_true, if_false]
      rcases r with _ | ⟨c, r1⟩
      · exact ⟨fun _ h X e => (nomatch e), fun _ => rfl⟩
      by_cases hc : c = 0x3A
      · subst hc
        refine ⟨fun h => ?_, fun h => absurd (h hr r1 rfl) (by omega)⟩
        exfalso
        simp only at h
        repeat' (first | cases h | split at h)
      · refine ⟨fun _ h' X e => ?_, fun _ => ?_⟩
        · injection e with e; injection e with _ e; injection e with e _; exact absurd e hc
        · split
          · rename_i heq; injection heq with heq _; exact absurd heq hc
          · rfl
    · have e : (!decide (hr ≤ 23)) = true := by simpa using hh
      simp only [e, if_true]
      exact ⟨fun _ h' X e' => (by injection e' with e'; injection e' with e' _; omega), fun _ => trivial⟩

theorem takeDigits_cons (b : Byte) (r : Bytes) :
    takeDigits (b :: r) = if isDigit b then (b :: (takeDigits r).1, (takeDigits r).2) else ([], b :: r) := by
  simp [takeDigits]

theorem takeDigits_all : ∀ w : Bytes, ∀ b ∈ (takeDigits w).1, isDigit b = true := by
  intro w
  induction w with
  | nil => simp [takeDigits]
  | cons a r ih =>
    rw [takeDigits_cons]
    by_cases h : isDigit a = true
    · simp only [h, if_true]
      intro b hb
      simp at hb
      rcases hb with hb | hb
      · subst hb; exact h
      · exact ih b hb
    · simp [h]

theorem takeDigits_snd : ∀ w : Bytes, (takeDigits w).2 = w.drop (takeDigits w).1.length := by
  intro w
  induction w with
  | nil => simp [takeDigits]
  | cons a r ih =>
    rw [takeDigits_cons]
    by_cases h : isDigit a = true
    · simp [h, ih]
    · simp [h]

theorem takeDigits_append (ds rest : Bytes) (hd : ∀ b ∈ ds, isDigit b = true)
    (hr : ∀ b r', rest = b :: r' → isDigit b = false) : takeDigits (ds ++ rest) = (ds, rest) := by
  induction ds with
  | nil =>
    rcases rest with _ | ⟨b, r'⟩
    · rfl
    · simp [takeDigits, hr b r' rfl]
  | cons a ds ih =>
    have ha := hd a (by simp)
    have := ih (fun b hb => hd b (by simp [hb]))
    simp [takeDigits, ha, this]

/-- scaled value of a digit run starting at fraction position `i`: the common form of `Doc.secfracOpt` (`fracVal_zero`)
    and of the loop of `Std` (`fracLoop_eq`), whose counter `i` is -/
def fracVal : Bytes → Nat → Nat
  | [], _ => 0
  | b :: r, i => (if i < 9 then 10 ^ (8 - i) * dval b else 0) + fracVal r (i + 1)

theorem fracVal_ge9 : ∀ (ds : Bytes) (i : Nat), 9 ≤ i → fracVal ds i = 0 := by
  intro ds
  induction ds with
  | nil => intro i _; rfl
  | cons b r ih =>
    intro i hi
    have : ¬ i < 9 := by omega
    simp [fracVal, this, ih (i + 1) (by omega)]

theorem fracVal_bound : ∀ (ds : Bytes) (i : Nat), (∀ b ∈ ds, isDigit b = true) → i ≤ 9 →
    fracVal ds i + 1 ≤ 10 ^ (9 - i) := by
  intro ds
  induction ds with
  | nil => intro i _ _; simp [fracVal]; exact Nat.pow_pos (by decide)
  | cons b r ih =>
    intro i hd hi
    by_cases h9 : i < 9
    · have hb := (digit_inv b (hd b (by simp))).2
      have hr := ih (i + 1) (fun x hx => hd x (by simp [hx])) (by omega)
      have e1 : 9 - i = (8 - i) + 1 := by omega
      have e2 : 9 - (i + 1) = 8 - i := by omega
      rw [e2] at hr
      rw [e1, Nat.pow_succ]
      simp only [fracVal, h9, if_true]
      have : 10 ^ (8 - i) * dval b ≤ 10 ^ (8 - i) * 9 := Nat.mul_le_mul_left _ hb
      omega
    · have : i = 9 := by omega
      subst this
      simp [fracVal, fracVal_ge9 r 10 (by omega)]

theorem fracVal_eq : ∀ (ds : Bytes) (i : Nat), i ≤ 9 →
    fracVal ds i = natOfDigits (ds.take (9 - i)) * 10 ^ (9 - i - (ds.take (9 - i)).length) := by
  intro ds
  induction ds with
  | nil => intro i _; simp [fracVal, natOfDigits]
  | cons b r ih =>
    intro i hi
    by_cases h9 : i < 9
    · obtain ⟨k, hk⟩ : ∃ k, 9 - i = k + 1 := ⟨8 - i, by omega⟩
      have hk' : 9 - (i + 1) = k := by omega
      have hk8 : 8 - i = k := by omega
      have hr := ih (i + 1) (by omega)
      rw [hk'] at hr
      simp only [fracVal, h9, if_true, hk, List.take_succ_cons, natOfDigits_cons, List.length_cons, hr, hk8]
      have hL : (List.take k r).length ≤ k := by simp [List.length_take]; omega
      have e : k + 1 - ((List.take k r).length + 1) = k - (List.take k r).length := by omega
      rw [e, Nat.add_mul, Nat.mul_assoc, ← Nat.pow_add]
      have e2 : (List.take k r).length + (k - (List.take k r).length) = k := by omega
      rw [e2, Nat.mul_comm]
    · have : i = 9 := by omega
      subst this
      simp [fracVal_ge9 (b :: r) 9 (by omega), natOfDigits]

theorem fracVal_zero (ds : Bytes) :
    fracVal ds 0 = natOfDigits (ds.take 9) * Doc.scale (ds.take 9).length := by
  rw [fracVal_eq ds 0 (by omega)]
  simp only [Nat.sub_zero, Doc.scale]
  by_cases h : (List.take 9 ds).length = 0
  · have : List.take 9 ds = [] := List.eq_nil_of_length_eq_zero h
    simp [this, natOfDigits]
  · generalize (List.take 9 ds).length = L at h ⊢
    simp [h]

theorem secfracOpt_dot (w : Bytes) :
    Doc.secfracOpt (0x2E :: w) =
      if (takeDigits w).1 = [] then (0, 0x2E :: w)
      else (fracVal (takeDigits w).1 0, w.drop (takeDigits w).1.length) := by
  have hs := takeDigits_snd w
  rcases hd : takeDigits w with ⟨ds, t⟩
  rw [hd] at hs
  simp only at hs
  cases ds with
  | nil => simp [Doc.secfracOpt, hd]
  | cons b ds' => simp only [Doc.secfracOpt, hd, fracVal_zero, hs]; simp

/-- The nine digits of `n` are the trimmed digits `T` and zeros, so `n = natOfDigits T * 10 ^ (9 - T.length)`, and
    `10 ^ (9 - T.length)` is the reader's `scale T.length`. -/
theorem secfracOpt_display (n : Nat) (rest : Bytes) (h0 : n ≠ 0) (h : n ≤ 999999999)
    (hr : ∀ b r', rest = b :: r' → isDigit b = false) :
    Doc.secfracOpt (0x2E :: (Std.trimZeros (Std.pad 9 n) ++ rest)) = (n, rest) := by
  rw [pad_eq_digitsW 9 n (by omega) (by omega)]
  have hsplit := trimZeros_split (digitsW 9 n)
  have hval := natOfDigits_digitsW 9 n
  have hlen := digitsW_length 9 n
  have hall : ∀ b ∈ Std.trimZeros (digitsW 9 n), isDigit b = true :=
    fun b hb => digitsW_all 9 n b (trimZeros_mem _ b hb)
  generalize Std.trimZeros (digitsW 9 n) = T at hsplit hall
  rw [hlen] at hsplit
  have hTlen : T.length ≤ 9 := by
    have := congrArg List.length hsplit
    simp [hlen] at this
    omega
  rw [hsplit, natOfDigits_append_zeros] at hval
  have hmod : n % 10 ^ 9 = n := Nat.mod_eq_of_lt (by omega)
  rw [hmod] at hval
  have hne : T ≠ [] := by
    intro hT
    subst hT
    simp [natOfDigits] at hval
    omega
  have htd := takeDigits_append T rest hall hr
  have htake : List.take 9 T = T := List.take_of_length_le hTlen
  have hlen0 : T.length ≠ 0 := by
    intro h; exact hne (List.eq_nil_of_length_eq_zero h)
  cases hT : T with
  | nil => exact absurd hT hne
  | cons a T' =>
    rw [← hT]
    have htd' : takeDigits (T ++ rest) = (a :: T', rest) := by rw [htd, hT]
    simp only [Doc.secfracOpt, htd']
    rw [← hT, htake]
    simp [Doc.scale, hlen0, hval]

/-- what may follow a printed time: nothing, or a byte that is neither a digit nor `.` -/
def TimeFollow (rest : Bytes) : Prop := ∀ b r', rest = b :: r' → isDigit b = false ∧ b ≠ 0x2E

theorem secfracOpt_none (rest : Bytes) (hr : TimeFollow rest) : Doc.secfracOpt rest = (0, rest) := by
  unfold Doc.secfracOpt
  split
  · rename_i r
    exact absurd rfl (hr _ _ rfl).2
  · rfl

theorem fullDate_colon (a b : Byte) (r : Bytes) : Doc.fullDate (a :: b :: 0x3A :: r) = .bt :=
  (fullDate_bt_iff _).2 fun y X h => by
    rcases r with _ | ⟨d, r⟩
    · cases h
    · have : isDigit 0x3A = false := by decide
      simp [digits4, this] at h

theorem partialTime_not_colon (a b c : Byte) (r : Bytes) (hc : c ≠ 0x3A) :
    Doc.partialTime (a :: b :: c :: r) = .bt :=
  (partialTime_bt_iff _).2 fun h X e => by
    simp only [digits2] at e
    split at e
    · injection e with e; injection e with _ e; injection e with e _; exact absurd e hc
    · cases e

/-! ## the document parser's readers are the inverse of the printer

Dates, times of day and offsets are written with a fixed number of digits, so the text determines the fields and the
fields the text (up to the fraction of a second). -/

theorem fullDate_ok_text (s rest : Bytes) (d : Date) :
    Doc.fullDate s = .ok d rest ↔
      s = Std.displayDate d ++ rest ∧ d.year ≤ 9999 ∧
        (1 ≤ d.month ∧ d.month ≤ 12) ∧ 1 ≤ d.day ∧ d.day ≤ maxDays d.year d.month := by
  have hmd := maxDays_le d.year d.month
  rw [fullDate_ok_iff]
  simp only [digits4_iff, digits2_iff, Std.displayDate, List.append_assoc, List.cons_append, List.nil_append]
  constructor
  · rintro ⟨r1, r2, ⟨hy, rfl⟩, ⟨_, rfl⟩, ⟨_, rfl⟩, hm, hd⟩
    exact ⟨rfl, by omega, hm, hd⟩
  · rintro ⟨rfl, hy, hm, hd⟩
    exact ⟨_, _, ⟨by omega, rfl⟩, ⟨by omega, rfl⟩, ⟨by omega, rfl⟩, hm, hd⟩

def hms (t : Time) : Bytes := Std.pad 2 t.hour ++ 0x3A :: (Std.pad 2 t.minute ++ 0x3A :: Std.pad 2 t.second)

theorem partialTime_ok_text (s rest : Bytes) (t : Time) :
    Doc.partialTime s = .ok t rest ↔
      ∃ r3, s = hms t ++ r3 ∧ Doc.secfracOpt r3 = (t.nanosecond, rest) ∧
        t.hour ≤ 23 ∧ t.minute ≤ 59 ∧ t.second ≤ 60 := by
  rw [partialTime_ok_iff]
  simp only [digits2_iff, hms, List.append_assoc, List.cons_append]
  constructor
  · rintro ⟨r1, r2, r3, ⟨_, rfl⟩, ⟨_, rfl⟩, ⟨_, rfl⟩, hf, hr⟩
    exact ⟨r3, rfl, hf, hr⟩
  · rintro ⟨r3, rfl, hf, hh, hm, hs⟩
    exact ⟨_, _, r3, ⟨by omega, rfl⟩, ⟨by omega, rfl⟩, ⟨by omega, rfl⟩, hf, hh, hm, hs⟩

theorem timeOffset_ok_text (s rest : Bytes) (o : Offset) :
    Doc.timeOffset s = .ok o rest ↔
      (∃ c, (c = 0x5A ∨ c = 0x7A) ∧ s = c :: rest ∧ o = .z) ∨
      (∃ c hh mm, (c = 0x2B ∨ c = 0x2D) ∧ hh ≤ 23 ∧ mm ≤ 59 ∧
        s = c :: (Std.pad 2 hh ++ 0x3A :: (Std.pad 2 mm ++ rest)) ∧
        o = .custom ((if c == 0x2B then 1 else -1) * ((hh : Int) * 60 + mm))) := by
  constructor
  · intro h
    unfold Doc.timeOffset at h
    cases s with
    | nil => cases h
    | cons c r =>
      simp only [] at h
      by_cases hz : (c == 0x5A || c == 0x7A) = true
      · rw [if_pos hz] at h
        injection h with h1 h2
        subst h1 h2
        exact .inl ⟨c, by simpa using hz, rfl, rfl⟩
      rw [if_neg hz] at h
      by_cases hs : (c == 0x2B || c == 0x2D) = true
      case neg => rw [if_neg hs] at h; cases h
      rw [if_pos hs] at h
      cases hd : digits2 r with
      | none => simp [hd] at h
      | some p =>
        obtain ⟨hh, r0⟩ := p
        simp only [hd] at h
        by_cases ch : (!decide (hh ≤ 23)) = true
        · rw [if_pos ch] at h; cases h
        rw [if_neg ch] at h
        rcases r0 with _ | ⟨x, r1⟩
        · cases h
        by_cases hx : x = 0x3A
        case neg => simp [hx] at h
        subst hx
        simp only at h
        cases hm : digits2 r1 with
        | none => simp [hm] at h
        | some p =>
          obtain ⟨m, r2⟩ := p
          simp only [hm] at h
          by_cases cm : (!decide (m ≤ 59)) = true
          · rw [if_pos cm] at h; cases h
          rw [if_neg cm] at h
          generalize hT : (if (c == 0x2B) = true then (1 : Int) else -1) * ((hh : Int) * 60 + (m : Int)) = total at h
          by_cases ct : (decide (-(24 * 60) ≤ total) && decide (total ≤ 24 * 60)) = true
          case neg => rw [if_neg ct] at h; cases h
          rw [if_pos ct] at h
          injection h with h1 h2
          subst h1 h2
          obtain ⟨_, rfl⟩ := (digits2_iff _ _ _).1 hd
          obtain ⟨_, rfl⟩ := (digits2_iff _ _ _).1 hm
          simp at ch cm
          exact .inr ⟨c, hh, m, by simpa using hs, ch, cm, by simp, by rw [hT]⟩
  · rintro (⟨c, hc, rfl, rfl⟩ | ⟨c, hh, mm, hc, b1, b2, rfl, rfl⟩)
    · have hz : (c == 0x5A || c == 0x7A) = true := by rcases hc with rfl | rfl <;> decide
      simp [Doc.timeOffset, hz]
    · have hz : (c == 0x5A || c == 0x7A) = false := by rcases hc with rfl | rfl <;> decide
      have hs : (c == 0x2B || c == 0x2D) = true := by rcases hc with rfl | rfl <;> decide
      have c1 : (!decide (hh ≤ 23)) = false := by simpa using b1
      have c2 : (!decide (mm ≤ 59)) = false := by simpa using b2
      unfold Doc.timeOffset
      simp only [hz, hs, Bool.false_eq_true, if_false, if_true, c1, c2,
        (digits2_iff _ _ hh).2 ⟨by omega, rfl⟩, (digits2_iff _ _ mm).2 ⟨by omega, rfl⟩]
      -- at most 23 hours and 59 minutes: inside the day the parser allows
      generalize ht : (if (c == 0x2B) = true then (1 : Int) else -1) * ((hh : Int) * 60 + (mm : Int)) = tot
      have hk : -1440 ≤ tot ∧ tot ≤ 1440 := by
        rcases hc with rfl | rfl
        · rw [if_pos (by decide)] at ht; omega
        · rw [if_neg (by decide)] at ht; omega
      simp [hk]

theorem fullDate_display (d : Date) (rest : Bytes) (hy : d.year ≤ 9999)
    (hm1 : 1 ≤ d.month) (hm2 : d.month ≤ 12) (hd1 : 1 ≤ d.day) (hd2 : d.day ≤ maxDays d.year d.month) :
    Doc.fullDate (Std.displayDate d ++ rest) = .ok d rest :=
  (fullDate_ok_text _ rest d).2 ⟨rfl, hy, ⟨hm1, hm2⟩, hd1, hd2⟩

theorem partialTime_display (t : Time) (rest : Bytes) (hh : t.hour ≤ 23) (hm : t.minute ≤ 59)
    (hs : t.second ≤ 60) (hn : t.nanosecond ≤ 999999999) (hr : TimeFollow rest) :
    Doc.partialTime (Std.displayTime t ++ rest) = .ok t rest := by
  refine (partialTime_ok_text _ rest t).2
    ⟨(if t.nanosecond != 0 then 0x2E :: Std.trimZeros (Std.pad 9 t.nanosecond) else []) ++ rest,
      by simp [Std.displayTime, hms], ?_, hh, hm, hs⟩
  by_cases h0 : t.nanosecond = 0
  · simp [h0, secfracOpt_none rest hr]
  · simp only [bne_iff_ne, ne_eq, h0, not_false_eq_true, if_true, List.cons_append]
    exact secfracOpt_display _ _ h0 hn (fun b r' h => (hr b r' h).1)

theorem timeOffset_display (o : Offset) (rest : Bytes)
    (ho : ∀ m, o = .custom m → -1439 ≤ m ∧ m ≤ 1439) :
    Doc.timeOffset (Std.displayOffset o ++ rest) = .ok o rest := by
  rw [timeOffset_ok_text]
  cases o with
  | z => exact .inl ⟨0x5A, .inl rfl, rfl, rfl⟩
  | custom m =>
    obtain ⟨h1, h2⟩ := ho m rfl
    by_cases hneg : m < 0
    · refine .inr ⟨0x2D, (-m).toNat / 60, (-m).toNat % 60, .inr rfl, by omega, by omega, by simp [Std.displayOffset, hneg], ?_⟩
      rw [if_neg (by decide)]; congr 1; omega
    · refine .inr ⟨0x2B, m.toNat / 60, m.toNat % 60, .inl rfl, by omega, by omega, by simp [Std.displayOffset, hneg], ?_⟩
      rw [if_pos (by decide)]; congr 1; omega

theorem timeFollow_offset (o : Offset) (rest : Bytes) : TimeFollow (Std.displayOffset o ++ rest) := by
  intro b r' h
  cases o with
  | z =>
    simp [Std.displayOffset] at h
    obtain ⟨h, _⟩ := h; subst h; decide
  | custom m =>
    by_cases hneg : m < 0
    · simp [Std.displayOffset, hneg] at h
      obtain ⟨h, _⟩ := h; subst h; decide
    · simp [Std.displayOffset, hneg] at h
      obtain ⟨h, _⟩ := h; subst h; decide

/-- what may follow a printed date-time so that it is read back alone: nothing that continues a time (a digit, `.`),
    no offset, and no delimiter with a time after it -/
def DtFollow (rest : Bytes) : Prop :=
  TimeFollow rest ∧ Doc.timeOffset rest = .bt ∧
    ∀ c r', rest = c :: r' → Doc.isTimeDelim c = true → Doc.partialTime r' = .bt

theorem dtFollow_nil : DtFollow [] := ⟨fun _ _ e => (nomatch e), rfl, fun _ _ e => nomatch e⟩

theorem fullDate_displayTime (t : Time) (rest : Bytes) (hh : t.hour ≤ 23) :
    Doc.fullDate (Std.displayTime t ++ rest) = .bt := by
  simp only [Std.displayTime, pad2_eq t.hour (by omega), List.cons_append, List.nil_append, List.append_assoc]
  exact fullDate_colon _ _ _

theorem secfracOpt_le (r : Bytes) : (Doc.secfracOpt r).1 ≤ 999999999 := by
  rcases r with _ | ⟨b, w⟩
  · exact Nat.zero_le _
  by_cases hb : b = 0x2E
  · subst hb
    rw [secfracOpt_dot]
    split
    · exact Nat.zero_le _
    · have := fracVal_bound _ 0 (takeDigits_all w) (by omega)
      simp only [Nat.sub_zero] at this ⊢
      omega
  · have : Doc.secfracOpt (b :: w) = (0, b :: w) := by
      unfold Doc.secfracOpt
      split
      · rename_i heq; injection heq with heq _; exact absurd heq hb
      · rfl
    rw [this]
    exact Nat.zero_le _

theorem partialTime_range (s rest : Bytes) (t : Time) (h : Doc.partialTime s = .ok t rest) :
    t.hour ≤ 23 ∧ t.minute ≤ 59 ∧ t.second ≤ 60 ∧ t.nanosecond ≤ 999999999 := by
  obtain ⟨_, _, r3, _, _, _, hf, hh, hm, hs⟩ := (partialTime_ok_iff s rest t).1 h
  have := secfracOpt_le r3
  rw [hf] at this
  exact ⟨hh, hm, hs, this⟩

theorem timeOffset_range (s rest : Bytes) (o : Offset) (h : Doc.timeOffset s = .ok o rest) :
    ∀ m, o = .custom m → -1439 ≤ m ∧ m ≤ 1439 := by
  rintro m rfl
  obtain ⟨_, _, _, h⟩ | ⟨c, hh, mm, _, b1, b2, _, ho⟩ := (timeOffset_ok_text s rest _).1 h
  · cases h
  · -- `m` is plus or minus `hh * 60 + mm`, at most 23 * 60 + 59
    injection ho with ho; subst ho
    by_cases hp : (c == 0x2B) = true
    · rw [if_pos hp]; omega
    · rw [if_neg hp]; omega

end TomlVerif.Lemmas.Datetime12
