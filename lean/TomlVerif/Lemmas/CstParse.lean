import TomlVerif.Model.Cst
/-! The shape of a successful run of the format-preserving value parser (`Model/Cst.lean`):
    one inversion lemma per function of `cvalue / carrayValues / carrayElems / cinlineKeyvals`.
    An invariant of parsed values is an induction over the fuel (`fuel_induct4`) whose steps read
    the successful cases off these lemmas; where it does not speak of the text it is an induction
    over the results (`cvalue_induct`).  Key paths: the loop of `ckeyPathAux` as a relation (`KeyRun`). -/
namespace TomlVerif.Lemmas.Tiling03More
open TomlVerif TomlVerif.Spec TomlVerif.Model TomlVerif.Model.Strings TomlVerif.Model.Value
open TomlVerif.Model.Cst

/-- the key segment `ckeyPathAux` records at `s` when `simple_key` leaves `r0` -/
def segAt (n : Nat) (s : Bytes) (k : Bytes) (r0 : Bytes) : CKey :=
  { key := k, repr := rawBetween n (dropWs s) r0,
    dotted := Decor.new (rawBetween n s (dropWs s)) (rawBetween n r0 (dropWs r0)) }

/-- A relation that holds of every successful run of `ckeyPathAux` (`ckeyPathAux_run`): the segments
    read from `s`, and what is left.  It is larger than the graph: `last` does not ask that no
    further segment follows. -/
inductive KeyRun (n : Nat) : Bytes → List CKey → Bytes → Prop where
  | last {s k r0} : Key.simpleKey (dropWs s) = .ok k r0 → KeyRun n s [segAt n s k r0] (dropWs r0)
  | more {s k r0 r2 ks r} : Key.simpleKey (dropWs s) = .ok k r0 → dropWs r0 = 0x2E :: r2 → KeyRun n r2 ks r →
      KeyRun n s (segAt n s k r0 :: ks) r

theorem ckeyPathAux_run (n : Nat) : ∀ (fuel : Nat) (s : Bytes) (acc ks : List CKey) (r : Bytes),
    ckeyPathAux n fuel s acc = .ok ks r → ∃ new, ks = acc ++ new ∧ KeyRun n s new r
  | 0, s, acc, ks, r, h => by unfold ckeyPathAux at h; cases h
  | fuel + 1, s, acc, ks, r, h => by
    unfold ckeyPathAux at h
    simp only [] at h
    split at h
    · rename_i k r0 hk
      change (match dropWs r0 with
        | 0x2E :: r2 => match ckeyPathAux n fuel r2 (acc ++ [segAt n s k r0]) with
          | .bt => Res.ok (acc ++ [segAt n s k r0]) (dropWs r0)
          | other => other
        | _ => .ok (acc ++ [segAt n s k r0]) (dropWs r0)) = .ok ks r at h
      split at h
      · rename_i r2 heq
        cases hres : ckeyPathAux n fuel r2 (acc ++ [segAt n s k r0]) with
        | bt => rw [hres] at h; injection h with h1 h2; subst h1 h2; exact ⟨_, rfl, .last hk⟩
        | cut => rw [hres] at h; cases h
        | ok ks' r' =>
          rw [hres] at h
          injection h with h1 h2; subst h1 h2
          obtain ⟨new, hnew, hrun⟩ := ckeyPathAux_run n fuel _ _ _ _ hres
          exact ⟨_ :: new, by rw [hnew, List.append_assoc]; rfl, .more hk heq hrun⟩
      · injection h with h1 h2; subst h1 h2; exact ⟨_, rfl, .last hk⟩
    · cases h
    · cases h

theorem KeyRun.ne_nil {n : Nat} {s r : Bytes} {ks : List CKey} (h : KeyRun n s ks r) : ks ≠ [] := by
  cases h <;> exact List.cons_ne_nil _ _

theorem ckeyPath_ok {n : Nat} {s r : Bytes} {ks : List CKey} (h : ckeyPath n s = .ok ks r) :
    ∃ ks0, ckeyPathAux n (s.length + 1) s [] = .ok ks0 r ∧ ks0.length < LIMIT ∧ ks = fixLeaf ks0 := by
  unfold ckeyPath at h
  cases hk : ckeyPathAux n (s.length + 1) s [] with
  | ok ks0 r0 =>
    rw [hk] at h
    simp only [] at h
    split at h
    · cases h
    · rename_i hl
      injection h with h1 h2
      exact ⟨ks0, by rw [h2], Nat.lt_of_not_le hl, h1.symm⟩
  | bt => rw [hk] at h; cases h
  | cut => rw [hk] at h; cases h

/-- A property `Q` of every key segment that `ckeyPathAux` records: it is enough that `Q` holds of the
    segment read at any position the loop reaches (`S`: what is known of such a position). -/
theorem ckeyPathAux_all {n : Nat} {Q : CKey → Prop} {S : Bytes → Prop}
    (seg : ∀ s k r0, S s → Key.simpleKey (dropWs s) = .ok k r0 →
      Q { key := k, repr := rawBetween n (dropWs s) r0,
          dotted := Decor.new (rawBetween n s (dropWs s)) (rawBetween n r0 (dropWs r0)) } ∧
      ∀ r2, dropWs r0 = 0x2E :: r2 → S r2)
    (fuel : Nat) (s : Bytes) (acc ks : List CKey) (r : Bytes) (hs : S s)
    (h : ckeyPathAux n fuel s acc = .ok ks r) (hacc : ∀ k ∈ acc, Q k) : ∀ k ∈ ks, Q k := by
  obtain ⟨new, rfl, hrun⟩ := ckeyPathAux_run n fuel s acc ks r h
  clear h
  have hnew : ∀ k ∈ new, Q k := by
    induction hrun with
    | last hk => intro k hm; rw [List.mem_singleton.1 hm]; exact (seg _ _ _ hs hk).1
    | more hk heq _ ih =>
      intro k hm
      rcases List.mem_cons.1 hm with hm | hm
      · rw [hm]; exact (seg _ _ _ hs hk).1
      · exact ih ((seg _ _ _ hs hk).2 _ heq) k hm
  intro k hm
  rcases List.mem_append.1 hm with hm | hm
  · exact hacc k hm
  · exact hnew k hm

/-- Induction over successful insertions of `table_from_pairs` below a dotted path. The entry is
    appended where the path ends; on the way a missing table is created, and an existing one, which
    must be implicit (made by a dotted key), is replaced by its updated copy. -/
theorem cinlInsert_induction {pe : Bool} {key : CKey} {v : CVal}
    {P : List (CKey × CVal) → List CKey → List (CKey × CVal) → Prop}
    (leaf : ∀ items, clookup key.key items = none → P items [] (items ++ [(key, v)]))
    (fresh : ∀ items k ks sub, clookup k.key items = none → P [] ks sub →
      P items (k :: ks) (items ++ [(k, newDottedInl sub)]))
    (descend : ∀ items k ks sub pre dot dec sp sub',
      clookup k.key items = some (.inl sub pre true dot dec sp) → P sub ks sub' →
      P items (k :: ks) (creplace k.key (.inl sub' pre true dot dec sp) items)) :
    ∀ (path : List CKey) (items : List (CKey × CVal)) (td : Bool) (items' : List (CKey × CVal)),
      cinlInsert items td path pe key v = some items' → P items path items' := by
  intro path
  induction path with
  | nil =>
    intro items td items' h
    unfold cinlInsert at h
    split at h
    · cases h
    · split at h
      · cases h
      · rename_i hl
        injection h with h; subst h
        exact leaf items hl
  | cons k ks ih =>
    intro items td items' h
    unfold cinlInsert at h
    split at h
    · rename_i hl
      split at h
      · rename_i sub hs
        injection h with h; subst h
        exact fresh items k ks sub hl (ih _ _ _ hs)
      · cases h
    · rename_i sub pre imp dot dec sp hl
      cases imp with
      | false => cases h
      | true =>
        simp only [Bool.not_true, Bool.false_eq_true, if_false] at h
        split at h
        · rename_i sub' hs
          injection h with h; subst h
          exact descend items k ks sub pre dot dec sp sub' hl (ih _ _ _ hs)
        · cases h
    · cases h

/-- the fuel induction over the four functions: `cvalue` calls `carrayValues` and
    `cinlineKeyvals`, `carrayValues` calls `carrayElems`, the two loops call `cvalue` and
    themselves -/
theorem fuel_induct4 {A B C D : Nat → Prop} (zero : A 0 ∧ B 0 ∧ C 0 ∧ D 0)
    (value : ∀ f, B f → D f → A (f + 1)) (values : ∀ f, C f → B (f + 1))
    (elems : ∀ f, A f → C f → C (f + 1)) (keyvals : ∀ f, A f → D f → D (f + 1)) :
    ∀ f, A f ∧ B f ∧ C f ∧ D f
  | 0 => zero
  | f + 1 =>
    have ⟨a, b, c, d⟩ := fuel_induct4 zero value values elems keyvals f
    ⟨value f b d, values f c, elems f a c, keyvals f a d⟩

theorem cvalue_zero (n d : Nat) (s : Bytes) : cvalue n 0 d s = .cut := by unfold cvalue; rfl
theorem carrayValues_zero (n d : Nat) (s : Bytes) : carrayValues n 0 d s = .cut := by unfold carrayValues; rfl
theorem carrayElems_zero (n d : Nat) (s : Bytes) (acc : List CVal) : carrayElems n 0 d s acc = .cut := by
  unfold carrayElems; rfl
theorem cinlineKeyvals_zero (n d : Nat) (s : Bytes) (acc : List (List CKey × CKey × CVal)) :
    cinlineKeyvals n 0 d s acc = .cut := by
  unfold cinlineKeyvals; rfl

theorem cvalue_arr (n fuel d : Nat) (r : Bytes) :
    cvalue n (fuel + 1) d (0x5B :: r) =
      if LIMIT ≤ d + 1 then .cut
      else match carrayValues n fuel (d + 1) r with
        | .ok (vs, comma, trailing) r1 =>
          match r1 with
          | 0x5D :: r2 => .ok (.arr vs trailing comma emptyDecor (some (pos n (0x5B :: r), pos n r2))) r2
          | _ => .cut
        | _ => .cut := by
  conv => lhs; unfold cvalue
  rfl

theorem cvalue_inl (n fuel d : Nat) (r : Bytes) :
    cvalue n (fuel + 1) d (0x7B :: r) =
      if LIMIT ≤ d + 1 then .cut
      else match cinlineKeyvals n fuel (d + 1) r [] with
        | .ok kvs r1 =>
          match ctableFromPairs kvs [] with
          | none => .cut
          | some items =>
            match dropWs r1 with
            | 0x7D :: r2 =>
              .ok (.inl items (rawBetween n r1 (dropWs r1)) false false emptyDecor
                (some (pos n (0x7B :: r), pos n r2))) r2
            | _ => .cut
        | _ => .cut := by
  conv => lhs; unfold cvalue
  rfl

theorem cvalue_scalar (n fuel d : Nat) (b : UInt8) (r : Bytes) (h1 : (b == 0x5B) = false)
    (h2 : (b == 0x7B) = false) :
    cvalue n (fuel + 1) d (b :: r) =
      match Value.value 1 d (b :: r) with
      | .ok v r1 => .ok (.scalar v (rawBetween n (b :: r) r1) emptyDecor) r1
      | .bt => .bt
      | .cut => .cut := by
  conv => lhs; unfold cvalue
  simp only [h1, h2, Bool.false_eq_true, if_false]
  rfl

theorem cvalue_ok {n fuel d : Nat} {s r : Bytes} {v : CVal} (h : cvalue n (fuel + 1) d s = .ok v r) :
    (∃ r0 vs comma tr, s = 0x5B :: r0 ∧ ¬ LIMIT ≤ d + 1 ∧
        carrayValues n fuel (d + 1) r0 = .ok (vs, comma, tr) (0x5D :: r) ∧
        v = .arr vs tr comma emptyDecor (some (pos n s, pos n r))) ∨
    (∃ r0 kvs r1 items, s = 0x7B :: r0 ∧ ¬ LIMIT ≤ d + 1 ∧
        cinlineKeyvals n fuel (d + 1) r0 [] = .ok kvs r1 ∧ ctableFromPairs kvs [] = some items ∧
        dropWs r1 = 0x7D :: r ∧
        v = .inl items (rawBetween n r1 (dropWs r1)) false false emptyDecor (some (pos n s, pos n r))) ∨
    (∃ b r0 v0, s = b :: r0 ∧ (b == 0x5B) = false ∧ (b == 0x7B) = false ∧ Value.value 1 d s = .ok v0 r ∧
        v = .scalar v0 (rawBetween n s r) emptyDecor) := by
  cases s with
  | nil => unfold cvalue at h; cases h
  | cons b r0 =>
    by_cases hb : b = 0x5B
    · subst hb
      rw [cvalue_arr] at h
      by_cases hl : LIMIT ≤ d + 1
      · rw [if_pos hl] at h; cases h
      rw [if_neg hl] at h
      split at h
      · rename_i vs comma tr r1 hav
        split at h
        · injection h with h1 h2; subst h1 h2
          exact .inl ⟨r0, vs, comma, tr, rfl, hl, hav, rfl⟩
        · cases h
      · cases h
    by_cases hc : b = 0x7B
    · subst hc
      rw [cvalue_inl] at h
      by_cases hl : LIMIT ≤ d + 1
      · rw [if_pos hl] at h; cases h
      rw [if_neg hl] at h
      split at h
      · rename_i kvs r1 hkv
        split at h
        · cases h
        · rename_i items hitems
          split at h
          · rename_i r2 heq
            injection h with h1 h2; subst h1 h2
            exact .inr (.inl ⟨r0, kvs, r1, items, rfl, hl, hkv, hitems, heq, rfl⟩)
          · cases h
      · cases h
    have hb' : (b == 0x5B) = false := by simpa using hb
    have hc' : (b == 0x7B) = false := by simpa using hc
    rw [cvalue_scalar n fuel d b r0 hb' hc'] at h
    split at h
    · rename_i v0 r1 hv
      injection h with h1 h2; subst h1 h2
      exact .inr (.inr ⟨b, r0, v0, rfl, hb', hc', hv, rfl⟩)
    · cases h
    · cases h

theorem carrayValues_ok {n fuel d : Nat} {s r : Bytes} {vs : List CVal} {comma : Bool} {tr : Raw}
    (h : carrayValues n (fuel + 1) d s = .ok (vs, comma, tr) r) :
    (∃ t, s = 0x5D :: t ∧ vs = [] ∧ comma = false ∧ tr = .empty ∧ r = s) ∨
    ((∀ t, s ≠ 0x5D :: t) ∧ ∃ r0 r1, carrayElems n fuel d s [] = .ok vs r0 ∧
        ((comma = true ∧ vs.isEmpty = false ∧ r0 = 0x2C :: r1) ∨ (comma = false ∧ r1 = r0)) ∧
        wsCommentNewline (r1.length + 1) r1 = some r ∧ tr = rawBetween n r1 r) := by
  unfold carrayValues at h
  split at h
  · rename_i t
    injection h with h1 h2
    injection h1 with h1 h3; injection h3 with h3 h4
    exact .inl ⟨t, rfl, h1.symm, h3.symm, h4.symm, h2.symm⟩
  · rename_i hne
    refine .inr ⟨fun t e => hne t e, ?_⟩
    split at h
    · rename_i vs0 r0 hel
      have fin : ∀ (c : Bool) (r1 : Bytes),
          (match wsCommentNewline (r1.length + 1) r1 with
            | some r2 => Res.ok (vs0, c, rawBetween n r1 r2) r2
            | none => Res.bt) = Res.ok (vs, comma, tr) r →
          vs0 = vs ∧ c = comma ∧ wsCommentNewline (r1.length + 1) r1 = some r ∧ tr = rawBetween n r1 r := by
        intro c r1 h
        split at h
        · rename_i r2 hw
          injection h with h1 h2
          injection h1 with h1 h3; injection h3 with h3 h4
          subst h2
          exact ⟨h1, h3, hw, h4.symm⟩
        · cases h
      split at h
      rename_i c r1 heq
      obtain ⟨e1, e2, e3, e4⟩ := fin c r1 h
      subst e1 e2
      refine ⟨r0, r1, hel, ?_, e3, e4⟩
      split at heq
      · injection heq with h1 h2
        exact .inr ⟨h1.symm, h2.symm⟩
      · rename_i he
        split at heq
        · injection heq with h1 h2
          exact .inl ⟨h1.symm, by simpa using he, by rw [h2]⟩
        · injection heq with h1 h2
          exact .inr ⟨h1.symm, h2.symm⟩
    · cases h
    · cases h

theorem carrayElems_prefix (n : Nat) : ∀ (fuel d : Nat) (s : Bytes) (acc vs : List CVal) (r : Bytes),
    carrayElems n fuel d s acc = .ok vs r → ∃ new, vs = acc ++ new
  | 0, d, s, acc, vs, r, h => by rw [carrayElems_zero] at h; cases h
  | fuel + 1, d, s, acc, vs, r, h => by
    have stop : ∀ {vs r}, (Res.ok acc s : Res (List CVal)) = .ok vs r → ∃ new, vs = acc ++ new := by
      intro vs r h; injection h with h1 _; exact ⟨[], by rw [← h1, List.append_nil]⟩
    unfold carrayElems at h
    split at h
    · exact stop h
    · split at h
      · cases h
      · exact stop h
      · split at h
        · exact stop h
        · simp only [] at h
          split at h
          · split at h
            · rename_i vs' r' hrec
              obtain ⟨new, e⟩ := carrayElems_prefix n fuel d _ _ _ _ hrec
              have : vs = vs' := by split at h <;> (injection h with h1 _; exact h1.symm)
              exact ⟨_ :: new, by rw [this, e, List.append_assoc]; rfl⟩
            · rename_i hne; exact absurd h (hne _ _)
          · injection h with h1 _
            exact ⟨[_], h1.symm⟩

/-- why the element loop stops without a further element: no trivia, no value, or a value
    without trivia after it (which is given back) -/
def ElemsStop (n fuel d : Nat) (s : Bytes) : Prop :=
  wsCommentNewline (s.length + 1) s = none ∨
  ∃ s1, wsCommentNewline (s.length + 1) s = some s1 ∧
    (cvalue n fuel d s1 = .bt ∨ ∃ v s2, cvalue n fuel d s1 = .ok v s2 ∧ wsCommentNewline (s2.length + 1) s2 = none)

/-- When the loop ends after a comma it ran once more after the comma and read nothing (the clause
    `∀ s4, …`): a checker that follows the loop makes that run too, so invariants about it need the
    fact. -/
theorem carrayElems_ok {n fuel d : Nat} {s r : Bytes} {acc vs : List CVal}
    (h : carrayElems n (fuel + 1) d s acc = .ok vs r) :
    (vs = acc ∧ r = s ∧ ElemsStop n fuel d s) ∨
    ∃ s1 v s2 s3 v' new, wsCommentNewline (s.length + 1) s = some s1 ∧ cvalue n fuel d s1 = .ok v s2 ∧
      wsCommentNewline (s2.length + 1) s2 = some s3 ∧
      v' = v.setDecor (Decor.new (rawBetween n s s1) (rawBetween n s2 s3)) ∧ vs = acc ++ v' :: new ∧
      ((new = [] ∧ r = s3 ∧ ∀ s4, s3 = 0x2C :: s4 → ∃ r', carrayElems n fuel d s4 vs = .ok vs r') ∨
       (new ≠ [] ∧ ∃ s4, s3 = 0x2C :: s4 ∧ carrayElems n fuel d s4 (acc ++ [v']) = .ok vs r)) := by
  have stop : ∀ {vs r}, (Res.ok acc s : Res (List CVal)) = .ok vs r → ElemsStop n fuel d s →
      vs = acc ∧ r = s ∧ ElemsStop n fuel d s := by
    intro vs r h hs; injection h with h1 h2; exact ⟨h1.symm, h2.symm, hs⟩
  unfold carrayElems at h
  split at h
  · rename_i hw; exact .inl (stop h (.inl hw))
  · rename_i s1 hw1
    split at h
    · cases h
    · rename_i hbt; exact .inl (stop h (.inr ⟨s1, hw1, .inl hbt⟩))
    · rename_i v s2 hv
      split at h
      · rename_i hw2; exact .inl (stop h (.inr ⟨s1, hw1, .inr ⟨v, s2, hv, hw2⟩⟩))
      · rename_i s3 hw2
        simp only [] at h
        generalize hv' : v.setDecor (Decor.new (rawBetween n s s1) (rawBetween n s2 s3)) = v' at h
        refine .inr ⟨s1, v, s2, s3, v', ?_⟩
        split at h
        · rename_i s4
          split at h
          · rename_i vs' r' hrec
            obtain ⟨new, e⟩ := carrayElems_prefix n fuel d _ _ _ _ hrec
            rw [List.append_assoc] at e
            by_cases hlen : (vs'.length == (acc ++ [v']).length) = true
            · rw [if_pos hlen] at h
              injection h with h1 h2; subst h1 h2
              have : new = [] := by
                have := congrArg List.length e
                simp only [beq_iff_eq, List.length_append, List.length_cons, List.length_nil] at hlen this
                exact List.length_eq_zero_iff.1 (by omega)
              subst this
              refine ⟨[], hw1, hv, hw2, hv'.symm, e, .inl ⟨rfl, rfl, fun s4' e4 => ?_⟩⟩
              injection e4 with _ e4; subst e4
              exact ⟨r', by rw [e] at hrec ⊢; exact hrec⟩
            · rw [if_neg hlen] at h
              injection h with h1 h2; subst h1 h2
              refine ⟨new, hw1, hv, hw2, hv'.symm, e, .inr ⟨?_, s4, rfl, hrec⟩⟩
              intro hn; subst hn
              exact hlen (by rw [e]; simp)
          · rename_i hne; exact absurd h (hne _ _)
        · rename_i hnc
          injection h with h1 h2; subst h1 h2
          exact ⟨[], hw1, hv, hw2, hv'.symm, rfl, .inl ⟨rfl, rfl, fun s4 e => absurd e (hnc s4)⟩⟩

theorem cinlineKeyvals_prefix (n : Nat) :
    ∀ (fuel d : Nat) (s : Bytes) (acc kvs : List (List CKey × CKey × CVal)) (r : Bytes),
    cinlineKeyvals n fuel d s acc = .ok kvs r → ∃ new, kvs = acc ++ new
  | 0, d, s, acc, kvs, r, h => by rw [cinlineKeyvals_zero] at h; cases h
  | fuel + 1, d, s, acc, kvs, r, h => by
    unfold cinlineKeyvals at h
    split at h
    · cases h
    · injection h with h1 _; exact ⟨[], by rw [← h1, List.append_nil]⟩
    · split at h
      · cases h
      · split at h
        · simp only [] at h
          split at h
          · split at h
            · cases h
            · split at h
              · split at h
                · rename_i kvs' r' hrec
                  obtain ⟨new, e⟩ := cinlineKeyvals_prefix n fuel d _ _ _ _ hrec
                  have : kvs = kvs' := by split at h <;> (injection h with h1 _; exact h1.symm)
                  exact ⟨_ :: new, by rw [this, e, List.append_assoc]; rfl⟩
                · rename_i hne; exact absurd h (hne _ _)
              · injection h with h1 _
                exact ⟨[_], h1.symm⟩
          · cases h
        · cases h

/-- When the loop ends after a comma it ran once more after the comma and read nothing: the clause
    `∀ r4, …`. -/
theorem cinlineKeyvals_ok {n fuel d : Nat} {s r : Bytes} {acc kvs : List (List CKey × CKey × CVal)}
    (h : cinlineKeyvals n (fuel + 1) d s acc = .ok kvs r) :
    (kvs = acc ∧ r = s ∧ ckeyPath n s = .bt) ∨
    ∃ ks r1 v r2 path key v' new, ckeyPath n s = .ok ks (0x3D :: r1) ∧ ¬ LIMIT ≤ d + (ks.length - 1) ∧
      cvalue n fuel (d + (ks.length - 1)) (dropWs r1) = .ok v r2 ∧ Value.splitLast ks = some (path, key) ∧
      v' = v.setDecor (Decor.new (rawBetween n r1 (dropWs r1)) (rawBetween n r2 (dropWs r2))) ∧
      kvs = acc ++ (path, key, v') :: new ∧
      ((new = [] ∧ r = dropWs r2 ∧
          ∀ r4, dropWs r2 = 0x2C :: r4 → ∃ r', cinlineKeyvals n fuel d r4 kvs = .ok kvs r') ∨
       (new ≠ [] ∧ ∃ r4, dropWs r2 = 0x2C :: r4 ∧
          cinlineKeyvals n fuel d r4 (acc ++ [(path, key, v')]) = .ok kvs r)) := by
  unfold cinlineKeyvals at h
  split at h
  · cases h
  · rename_i hbt
    injection h with h1 h2
    exact .inl ⟨h1.symm, h2.symm, hbt⟩
  · rename_i ks r0 hk
    by_cases hl : LIMIT ≤ d + (ks.length - 1)
    · rw [if_pos hl] at h; cases h
    rw [if_neg hl] at h
    split at h
    · rename_i r1
      simp only [] at h
      split at h
      · rename_i v r2 hv
        split at h
        · cases h
        · rename_i path key hsl
          generalize hv' : v.setDecor (Decor.new (rawBetween n r1 (dropWs r1)) (rawBetween n r2 (dropWs r2))) = v' at h
          refine .inr ⟨ks, r1, v, r2, path, key, v', ?_⟩
          split at h
          · rename_i r4 heq
            split at h
            · rename_i kvs' r' hrec
              obtain ⟨new, e⟩ := cinlineKeyvals_prefix n fuel d _ _ _ _ hrec
              rw [List.append_assoc] at e
              by_cases hlen : (kvs'.length == (acc ++ [(path, key, v')]).length) = true
              · rw [if_pos hlen] at h
                injection h with h1 h2; subst h1 h2
                have : new = [] := by
                  have := congrArg List.length e
                  simp only [beq_iff_eq, List.length_append, List.length_cons, List.length_nil] at hlen this
                  exact List.length_eq_zero_iff.1 (by omega)
                subst this
                refine ⟨[], hk, hl, hv, hsl, hv'.symm, e, .inl ⟨rfl, rfl, fun r4' e4 => ?_⟩⟩
                rw [heq] at e4
                injection e4 with _ e4; subst e4
                exact ⟨r', by rw [e] at hrec ⊢; exact hrec⟩
              · rw [if_neg hlen] at h
                injection h with h1 h2; subst h1 h2
                refine ⟨new, hk, hl, hv, hsl, hv'.symm, e, .inr ⟨?_, r4, heq, hrec⟩⟩
                intro hn; subst hn
                exact hlen (by rw [e]; simp)
            · rename_i hne; exact absurd h (hne _ _)
          · rename_i hnc
            injection h with h1 h2; subst h1 h2
            exact ⟨[], hk, hl, hv, hsl, hv'.symm, rfl, .inl ⟨rfl, rfl, fun r4 e => absurd e (hnc r4)⟩⟩
      · cases h
    · cases h

/-- a pair of an inline table as the parser hands it to `table_from_pairs`: its keys come from a
    parsed key path, its value is a parsed value (of which `P` is known) with a new decor -/
def ParsedPair (n : Nat) (P : CVal → Prop) (t : List CKey × CKey × CVal) : Prop :=
  (∃ s ks r, ckeyPath n s = .ok ks r ∧ Value.splitLast ks = some (t.1, t.2.1)) ∧
  ∃ fuel d s r v dec, cvalue n fuel d s = .ok v r ∧ P v ∧ t.2.2 = v.setDecor dec

theorem cvalue_results {n : Nat} {P : CVal → Prop}
    (scalar : ∀ d s v0 r, Value.value 1 d s = .ok v0 r → P (.scalar v0 (rawBetween n s r) emptyDecor))
    (arr : ∀ vs tr comma sp, (∀ v ∈ vs, ∃ v0 dec, P v0 ∧ v = v0.setDecor dec) → P (.arr vs tr comma emptyDecor sp))
    (inl : ∀ kvs items pre sp, (∀ t ∈ kvs, ParsedPair n P t) → ctableFromPairs kvs [] = some items →
      P (.inl items pre false false emptyDecor sp)) :
    ∀ fuel : Nat,
    (∀ d s v r, cvalue n fuel d s = .ok v r → P v) ∧
    (∀ d s vs comma tr r, carrayValues n fuel d s = .ok (vs, comma, tr) r →
      ∀ v ∈ vs, ∃ v0 dec, P v0 ∧ v = v0.setDecor dec) ∧
    (∀ d s acc vs r, carrayElems n fuel d s acc = .ok vs r → (∀ v ∈ acc, ∃ v0 dec, P v0 ∧ v = v0.setDecor dec) →
      ∀ v ∈ vs, ∃ v0 dec, P v0 ∧ v = v0.setDecor dec) ∧
    (∀ d s acc kvs r, cinlineKeyvals n fuel d s acc = .ok kvs r → (∀ t ∈ acc, ParsedPair n P t) →
      ∀ t ∈ kvs, ParsedPair n P t) := by
  refine fuel_induct4 ⟨?_, ?_, ?_, ?_⟩ ?_ ?_ ?_ ?_
  · intro d s v r h; rw [cvalue_zero] at h; cases h
  · intro d s vs comma tr r h; rw [carrayValues_zero] at h; cases h
  · intro d s acc vs r h; rw [carrayElems_zero] at h; cases h
  · intro d s acc kvs r h; rw [cinlineKeyvals_zero] at h; cases h
  · intro fuel ih2 ih4 d s v r h
    rcases cvalue_ok h with ⟨r0, vs, comma, tr, _, _, hav, rfl⟩ | ⟨r0, kvs, r1, items, _, _, hkv, hitems, _, rfl⟩ |
      ⟨b, r0, v0, _, _, _, hv, rfl⟩
    · exact arr _ _ _ _ (ih2 _ _ _ _ _ _ hav)
    · exact inl _ _ _ _ (ih4 _ _ _ _ _ hkv (fun _ h => nomatch h)) hitems
    · exact scalar _ _ _ _ hv
  · intro fuel ih3 d s vs comma tr r h
    rcases carrayValues_ok h with ⟨_, _, rfl, _⟩ | ⟨_, r0, r1, hel, _⟩
    · exact fun _ h => nomatch h
    · exact ih3 _ _ _ _ _ hel (fun _ h => nomatch h)
  · intro fuel ih1 ih3 d s acc vs r h hacc
    rcases carrayElems_ok h with ⟨rfl, _⟩ | ⟨s1, v, s2, s3, v', new, _, hv, _, hv', e, hnew⟩
    · exact hacc
    · have hacc' : ∀ x ∈ acc ++ [v'], ∃ v0 dec, P v0 ∧ x = v0.setDecor dec := by
        intro x hx
        rcases List.mem_append.1 hx with hx | hx
        · exact hacc x hx
        · rw [List.mem_singleton.1 hx]; exact ⟨v, _, ih1 _ _ _ _ hv, hv'⟩
      rcases hnew with ⟨rfl, _⟩ | ⟨_, s4, _, hrec⟩
      · rw [e]; exact hacc'
      · exact ih3 _ _ _ _ _ hrec hacc'
  · intro fuel ih1 ih4 d s acc kvs r h hacc
    rcases cinlineKeyvals_ok h with ⟨rfl, _⟩ | ⟨ks, r1, v, r2, path, key, v', new, hk, _, hv, hsl, hv', e, hnew⟩
    · exact hacc
    · have hacc' : ∀ t ∈ acc ++ [(path, key, v')], ParsedPair n P t := by
        intro t ht
        rcases List.mem_append.1 ht with ht | ht
        · exact hacc t ht
        · rw [List.mem_singleton.1 ht]
          exact ⟨⟨_, _, _, hk, hsl⟩, _, _, _, _, v, _, hv, ih1 _ _ _ _ hv, hv'⟩
      rcases hnew with ⟨rfl, _⟩ | ⟨_, r4, _, hrec⟩
      · rw [e]; exact hacc'
      · exact ih4 _ _ _ _ _ hrec hacc'

/-- Induction over the RESULTS of the value parser, for properties of a parsed value that do not
    speak of the text: no fuel, no run. -/
theorem cvalue_induct {n : Nat} {P : CVal → Prop}
    (scalar : ∀ d s v0 r, Value.value 1 d s = .ok v0 r → P (.scalar v0 (rawBetween n s r) emptyDecor))
    (arr : ∀ vs tr comma sp, (∀ v ∈ vs, ∃ v0 dec, P v0 ∧ v = v0.setDecor dec) → P (.arr vs tr comma emptyDecor sp))
    (inl : ∀ kvs items pre sp, (∀ t ∈ kvs, ParsedPair n P t) → ctableFromPairs kvs [] = some items →
      P (.inl items pre false false emptyDecor sp))
    {fuel d : Nat} {s r : Bytes} {v : CVal} (h : cvalue n fuel d s = .ok v r) : P v :=
  (cvalue_results scalar arr inl fuel).1 d s v r h

theorem cinlineKeyvals_parsed {n fuel d : Nat} {s r : Bytes} {kvs : List (List CKey × CKey × CVal)}
    (h : cinlineKeyvals n fuel d s [] = .ok kvs r) : ∀ t ∈ kvs, ParsedPair n (fun _ => True) t :=
  (cvalue_results (P := fun _ => True) (fun _ _ _ _ _ => trivial) (fun _ _ _ _ _ => trivial)
    (fun _ _ _ _ _ _ => trivial) fuel).2.2.2 d s [] kvs r h (fun _ h => nomatch h)

end TomlVerif.Lemmas.Tiling03More
