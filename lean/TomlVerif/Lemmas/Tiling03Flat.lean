import TomlVerif.Lemmas.Tiling03NestVMain
import TomlVerif.Lemmas.Tiling03FlatState
/-! Flat documents are inside the nested class.  The class is stated on the tree, the nested class on
    the run, so the inclusion is proved from the end of the run: a line met in a state that can still
    end flat passes the check of the nested class and leaves such a state, or it leaves a witness in
    the tree that no later line removes (`Bad`), and a tree with a witness is not flat.  The tiling of
    flat documents is then that of the nested class. -/
namespace TomlVerif.Lemmas.Tiling03Hdr
open TomlVerif TomlVerif.Spec TomlVerif.Model TomlVerif.Model.Strings TomlVerif.Model.Value
open TomlVerif.Model.Cst TomlVerif.Model.Encode TomlVerif.Lemmas.Suffix03 TomlVerif.Lemmas.Cst03
open TomlVerif.Lemmas.LastByte03 TomlVerif.Lemmas.Tiling03 TomlVerif.Lemmas.Tiling03Nest TomlVerif.Lemmas.Tiling03More

/-- the states of a run that can still end in a flat document -/
def FlatSt (st : CState) : Prop := GI st ∧ (ShapeA st ∨ ShapeB st)

/-- the states of a run that cannot -/
def BadSt (st : CState) : Prop := GI st ∧ Bad st

theorem gi_onWs (st : CState) (a b : Nat) (h : GI st) : GI (onWs st a b) := by
  obtain ⟨e1, e2, e3, e4, _⟩ := onWs_fields st a b
  unfold GI; rw [e1, e2, e3, e4]; exact h

theorem flatSt_onWs (st : CState) (a b : Nat) (h : FlatSt st) : FlatSt (onWs st a b) := by
  obtain ⟨e1, e2, e3, e4, _⟩ := onWs_fields st a b
  refine ⟨gi_onWs st a b h.1, ?_⟩
  unfold ShapeA ShapeB; rw [e1, e2, e3, e4]; exact h.2

theorem badSt_onWs (st : CState) (a b : Nat) (h : BadSt st) : BadSt (onWs st a b) := by
  obtain ⟨e1, e2, e3, e4, _⟩ := onWs_fields st a b
  refine ⟨gi_onWs st a b h.1, ?_⟩
  unfold Bad; rw [e1, e2, e3, e4]; exact h.2

theorem gi_keyval {st : CState} {path : List CKey} {key' : CKey} {v : CVal} {cur c : CTbl}
    (hci : cur.items = st.current.items) (hd : descend cur path true (kvFn path key' v) = some c) (hg : GI st) :
    GI { st with current := c, trailing := none } := by
  obtain ⟨g1, g2, g3⟩ := hg
  refine ⟨g1, fun hp => ?_, g3⟩
  refine descend_nodup _ _ _ _ _ (fun p p' hp' hn => kvFn_nodup _ _ _ _ _ hp' hn) ?_ hd
  rw [hci]; exact g2 hp

theorem keyval_flat (inp : Bytes) (st st' : CState) (s r3 : Bytes)
    (h : ckeyvalLine inp.length st s = some (st', r3)) (hI : FlatSt st) :
    (kvLineOk inp false st s = true ∧ FlatSt st') ∨ BadSt st' := by
  obtain ⟨ks, r1, v, r2, path, key, c, hk, hv, hlt, hsl, hd, he⟩ := keyval_frame _ _ _ _ _ h
  subst he
  obtain ⟨hg, hsh⟩ := hI
  obtain ⟨c1, c2, c3, c4, c5⟩ := kvCur_fields st (kvVal inp.length v r1 r2)
  have hg' := gi_keyval c1 hd hg
  obtain ⟨items, imp, p, dec, sp, hcur, hsimple⟩ := good_current hsh
  have hcm := kvCur_mk st (kvVal inp.length v r1 r2) items imp false p dec sp hcur
  have hci : (kvCur st (kvVal inp.length v r1 r2)).items = items := by rw [c1, hcur]; rfl
  by_cases hc : path = [] ∧ simpleVal (kvVal inp.length v r1 r2) = true
  · obtain ⟨hp, hsv⟩ := hc
    subst hp
    left
    rw [descend_nil] at hd
    obtain ⟨ec, _⟩ := kvFn_facts _ _ _ _ _ hd
    have hc' : c = .mk (items ++ [(kvKey st key, .value (kvVal inp.length v r1 r2))]) imp false p dec
        (kvCur st (kvVal inp.length v r1 r2)).span := by
      rw [ec, hci]
      conv => lhs; rw [hcm]
      simp [CTbl.setItems, CTbl.dotted, CTbl.implicit, CTbl.pos, CTbl.decor, CTbl.span]
    have hsv0 : simpleVal v = true := by unfold kvVal at hsv; rw [simpleVal_setDecor] at hsv; exact hsv
    refine ⟨?_, hg', ?_⟩
    · unfold kvLineOk
      simp only [hk, hv, hsl, hsv0, dottedOk, List.isEmpty_nil, Bool.or_true, Bool.and_self]
    · subst hc'
      exact shape_setCurrent st items _ imp p dec sp _ hsh hcur (by rw [simpleBody_append, hsimple]; simp [simpleBody, hsv])
  · right
    refine ⟨hg', ?_⟩
    have hw : anyW c.items = true := by
      cases path with
      | nil =>
        rw [descend_nil] at hd
        obtain ⟨ec, _⟩ := kvFn_facts _ _ _ _ _ hd
        rw [ec, setItems_items, anyW_append]
        have : simpleVal (kvVal inp.length v r1 r2) = false := by
          cases hsv : simpleVal (kvVal inp.length v r1 r2) with
          | false => rfl
          | true => exact absurd ⟨rfl, hsv⟩ hc
        simp [anyW, wItem, this]
      | cons k ks' =>
        obtain ⟨x, ec, hx⟩ := descend_cons_shape _ _ _ _ _ _ hd
        rw [ec, setItems_items]
        apply anyW_cset_new
        rw [hci] at hx
        cases hl : clookup k.key items with
        | some y =>
          obtain ⟨vv, hy⟩ := simple_lookup items _ y hsimple hl
          subst hy
          rw [hl] at hx
          simp only [Option.getD_some] at hx
          rcases hx with ⟨_, _, e1, _⟩ | ⟨_, _, _, _, e1, _⟩ <;> cases e1
        | none =>
          rw [hl] at hx
          simp only [Option.getD_none] at hx
          rcases hx with ⟨sub, sub', e1, hd', e2⟩ | ⟨_, _, _, _, e1, _⟩
          · injection e1 with e1
            subst e1; subst e2
            have := descend_dotted _ _ _ _ _ (fun p p' hp' => kvFn_dotted _ _ _ _ _ hp') hd'
            have h2 : (newImplicit true).dotted = true := rfl
            rw [h2] at this
            simp only [wItem, this, Bool.true_or]
          · cases e1
    unfold Bad
    by_cases hp : st.currentPath = []
    · exact Or.inl ⟨hp, hw⟩
    · exact Or.inr (Or.inl ⟨hp, anyW_notSimple _ hw⟩)

theorem keyval_bad (n : Nat) (st st' : CState) (s r3 : Bytes)
    (h : ckeyvalLine n st s = some (st', r3)) (hB : BadSt st) : BadSt st' := by
  obtain ⟨ks, r1, v, r2, path, key, c, _, _, _, _, hd, he⟩ := keyval_frame _ _ _ _ _ h
  subst he
  obtain ⟨hg, hB⟩ := hB
  obtain ⟨c1, _⟩ := kvCur_fields st (kvVal n v r1 r2)
  refine ⟨gi_keyval c1 hd hg, ?_⟩
  unfold Bad at hB ⊢
  rcases hB with ⟨b1, b2⟩ | ⟨b1, b2⟩ | b | b | b
  · refine Or.inl ⟨b1, ?_⟩
    cases path with
    | nil =>
      rw [descend_nil] at hd
      obtain ⟨ec, _⟩ := kvFn_facts _ _ _ _ _ hd
      simp only []
      rw [ec, setItems_items, anyW_append, c1, b2]; rfl
    | cons k ks' =>
      refine descend_cons_w _ _ _ _ _ _ (fun p p' hp' hn => kvFn_notSimple _ _ _ _ _ hp' hn)
        (fun p p' hp' => kvFn_dotted _ _ _ _ _ hp') ?_ hd
      rw [c1]; exact b2
  · refine Or.inr (Or.inl ⟨b1, ?_⟩)
    exact descend_notSimple _ _ _ _ _ (fun p' hp' => kvFn_notSimple _ _ _ _ _ hp' (by rw [c1]; exact b2)) hd
  · exact Or.inr (Or.inr (Or.inl b))
  · exact Or.inr (Or.inr (Or.inr (Or.inl b)))
  · exact Or.inr (Or.inr (Or.inr (Or.inr b)))

theorem ckeyPath_bracket (n : Nat) (r : Bytes) : ckeyPath n (0x5B :: r) = .bt := by
  have hw : dropWs (0x5B :: r) = 0x5B :: r := by
    unfold dropWs; rw [if_neg (by decide)]
  have h : Key.simpleKey (0x5B :: r) = .bt := by
    unfold Key.simpleKey Key.unquotedKey Key.takeUnquoted
    simp only []
    rw [if_neg (by decide), if_neg (by decide), if_neg (by decide)]
  unfold ckeyPath ckeyPathAux
  simp only [hw, h]

theorem hdrLineOk_new (inp : Bytes) (st st1 : CState) (a : Bool) (r r2 : Bytes) (key : CKey)
    (hfin : finalizeTable st = some st1)
    (hk : ckeyPath inp.length r = .ok [key] ((if a then [0x5D, 0x5D] else [0x5D]) ++ r2))
    (hdot : st1.root.dotted = false) (hl : clookup key.key st1.root.items = none) :
    hdrLineOk inp st ((if a then [0x5B, 0x5B] else [0x5B]) ++ r) = true := by
  have hchk : hdrChk inp a st1 r = true := by
    unfold hdrChk
    rw [hk]
    simp [show splitLast [key] = some ([], key) from rfl, pathOk, hdot, hl]
  unfold hdrLineOk
  rw [hfin]
  cases a with
  | true =>
    simp only [if_true, List.cons_append, List.nil_append, Bool.and_eq_true]
    exact ⟨hchk, by unfold hdrChk; rw [ckeyPath_bracket]⟩
  | false =>
    simp only [Bool.false_eq_true, if_false, List.cons_append, List.nil_append, Bool.and_eq_true]
    refine ⟨?_, hchk⟩
    split
    · rename_i r' heq
      injection heq with _ heq
      rw [heq, ckeyPath_bracket] at hk; cases hk
    · rfl

theorem gi_start (st1 st' : CState) (pp : List CKey) (key : CKey) (root' : CTbl)
    (h5 : nodupK st1.root.items = true) (hroot : descend st1.root pp false (eraseFn key) = some root')
    (e1 : st'.root = root') (e2 : st'.currentPath = pp ++ [key]) : GI st' := by
  refine ⟨?_, fun hp => absurd (e2 ▸ hp) (by simp), ?_⟩
  · rw [e1]
    exact descend_nodup _ _ _ _ _ (eraseFn_nodup key) h5 hroot
  · intro _ key' hp
    rw [e2] at hp
    obtain ⟨hpp, hkey⟩ := (List.append_singleton_inj (as := [])).mp hp.symm
    subst hpp; subst hkey
    rw [descend_nil] at hroot
    rw [e1, CstState.eraseFn_some hroot, setItems_items]
    exact clookup_cerase_self _ _ h5

theorem gi_startArr (st1 st' : CState) (pp : List CKey) (key : CKey) (root' : CTbl)
    (h5 : nodupK st1.root.items = true) (hroot : descend st1.root pp false (arrFn key) = some root')
    (e1 : st'.root = root') (e2 : st'.currentPath = pp ++ [key]) (e3 : st'.currentIsArray = true) : GI st' := by
  refine ⟨?_, fun hp => absurd (e2 ▸ hp) (by simp), fun hc => by rw [e3] at hc; cases hc⟩
  rw [e1]
  exact descend_nodup _ _ _ _ _ (arrFn_nodup key) h5 hroot

theorem header_bad (n : Nat) (st st' : CState) (s r3 : Bytes)
    (h : ctableLine n st s = some (st', r3)) (hB : BadSt st) : BadSt st' := by
  obtain ⟨a, r, ks, r2, st1, pp, key, root', _, _, _, hfin, hsl, hprobe, hroot, hst'⟩ := CstState.header_cases h
  have hks := vsplitLast_some _ _ _ hsl
  clear hsl
  obtain ⟨hg, hb⟩ := hB
  obtain ⟨_, _, _, _, f5⟩ := finalize_frame st st1 hfin hg
  have hw := finalize_bad st st1 hfin hg hb
  subst hst'; subst hks
  cases a with
  | false =>
    simp only [Bool.false_eq_true, if_false] at hroot ⊢
    refine ⟨gi_start st1 _ pp key root' f5 hroot rfl rfl, ?_⟩
    cases pp with
    | cons k ks2 => exact Or.inr (Or.inr (Or.inl (by simp)))
    | nil =>
      obtain ⟨x, hprobe⟩ := hprobe rfl
      rw [descend_nil] at hprobe hroot
      have hroot := CstState.eraseFn_some hroot
      by_cases hx : ∀ y, clookup key.key st1.root.items = some y → wItem y = false
      · refine Or.inr (Or.inr (Or.inr (Or.inl ?_)))
        simp only []
        rw [hroot, setItems_items]
        exact anyW_cerase _ _ hw hx
      · refine Or.inr (Or.inl ⟨by simp, ?_⟩)
        simp only []
        have hx' : ∃ y, clookup key.key st1.root.items = some y ∧ wItem y = true := by
          apply Classical.byContradiction
          intro hne
          apply hx
          intro y hy
          cases hwy : wItem y with
          | false => rfl
          | true => exact absurd ⟨y, hy, hwy⟩ hne
        obtain ⟨y, hy, hwy⟩ := hx'
        -- the witness under the header key is an implicit table: the new section takes its items over
        rcases (CstState.probeFn_some hprobe).2 with hn | ⟨t, ht, _, hdot⟩
        · rw [hy] at hn; cases hn
        · rw [hy] at ht; cases ht
          have hft : findTable key.key st1.root [] = some t := by
            unfold findTable
            simp [hy]
          simp only [hft, Option.getD_some]
          simp only [wItem, hdot, Bool.false_or, Bool.not_eq_true'] at hwy
          exact hwy
  | true =>
    simp only [if_true] at hroot ⊢
    refine ⟨gi_startArr st1 _ pp key root' f5 hroot rfl rfl rfl, ?_⟩
    cases pp with
    | cons k ks2 => exact Or.inr (Or.inr (Or.inl (by simp)))
    | nil =>
      rw [descend_nil] at hroot
      refine Or.inr (Or.inr (Or.inr (Or.inl ?_)))
      simp only []
      rcases CstState.arrFn_some hroot with ⟨_, _, _, rfl⟩ | ⟨_, rfl⟩
      · exact hw
      · rw [setItems_items, anyW_append, hw]; rfl

theorem header_flat (inp : Bytes) (st st' : CState) (s r3 : Bytes)
    (h : ctableLine inp.length st s = some (st', r3)) (hI : FlatSt st) :
    (hdrLineOk inp st s = true ∧ FlatSt st') ∨ BadSt st' := by
  obtain ⟨a, r, ks, r2, st1, pp, key, root', hsr, hk, _, hfin, hsl, hprobe, hroot, hst'⟩ := CstState.header_cases h
  have hks := vsplitLast_some _ _ _ hsl
  clear hsl
  obtain ⟨hg, hsh⟩ := hI
  obtain ⟨f1, f2, f3, f4, f5⟩ := finalize_frame st st1 hfin hg
  obtain ⟨r1, rimp, rsp, e1, e2⟩ := finalize_good st st1 hfin hsh
  have hdot : st1.root.dotted = false := by rw [e1]; rfl
  have hit : st1.root.items = r1 := by rw [e1]; rfl
  subst hst'; subst hks; subst hsr
  cases a with
  | false =>
    simp only [Bool.false_eq_true, if_false] at hroot hk ⊢
    have hgi := fun st' => gi_start st1 st' pp key root' f5 hroot
    cases pp with
    | cons k ks2 => exact Or.inr ⟨hgi _ rfl rfl, Or.inr (Or.inr (Or.inl (by simp)))⟩
    | nil =>
      obtain ⟨x, hprobe⟩ := hprobe rfl
      rw [descend_nil] at hprobe hroot
      have hroot := (CstState.eraseFn_some hroot).symm
      cases hl : clookup key.key r1 with
      | some y =>
        -- `start_table` accepts an existing entry only if it is an implicit table; a flat root has none
        exfalso
        rcases (CstState.probeFn_some hprobe).2 with hn | ⟨t, ht, himp, _⟩
        · rw [hit, hl] at hn; cases hn
        · rw [hit, hl] at ht; cases ht
          have hleaf := flat_lookup_table r1 _ t e2 hl
          obtain ⟨items, imp, dot, p, dec, sp⟩ := t
          rw [(leafTbl_mk.1 hleaf).1] at himp
          cases himp
      | none =>
        left
        refine ⟨hdrLineOk_new inp st st1 false r r2 key hfin hk hdot (hit ▸ hl), hgi _ rfl rfl, Or.inr ?_⟩
        have hft : findTable key.key st1.root [] = none := by
          unfold findTable; simp [hit, hl]
        refine ⟨key, r1, rimp, rsp, [], st1.position + 1, takeTrailing st1.trailing,
          rawBetween inp.length r2 (trailEnd r2), some (pos inp.length ([0x5B] ++ r), pos inp.length r2), rfl, ?_, e2, hl, ?_, rfl⟩
        · simp only [Bool.false_eq_true, if_false, List.append_nil]
          rw [← hroot, e1]
          simp [CTbl.setItems, CTbl.items, CTbl.implicit, CTbl.dotted, CTbl.pos, CTbl.decor, CTbl.span,
            cerase_of_none _ _ hl]
        · simp only [hft, Option.getD_none, f3]; rfl
  | true =>
    simp only [if_true] at hroot hk ⊢
    have hgi := fun st' => gi_startArr st1 st' pp key root' f5 hroot
    cases pp with
    | cons k ks2 => exact Or.inr ⟨hgi _ rfl rfl rfl, Or.inr (Or.inr (Or.inl (by simp)))⟩
    | nil =>
      rw [descend_nil] at hroot
      rcases CstState.arrFn_some hroot with ⟨ts, sp, hl, rfl⟩ | ⟨hl, hroot⟩
      · rw [hit] at hl
        exact Or.inr ⟨hgi _ rfl rfl rfl, Or.inr (Or.inr (Or.inr (Or.inr ⟨rfl, key, ts, sp, rfl, hit ▸ hl, flat_lookup_aot r1 _ ts sp e2 hl⟩)))⟩
      · rw [hit] at hl
        have hroot := hroot.symm
        left
        refine ⟨hdrLineOk_new inp st st1 true r r2 key hfin hk hdot (hit ▸ hl), hgi _ rfl rfl rfl, Or.inr ?_⟩
        refine ⟨key, r1, rimp, rsp, [], st1.position + 1, takeTrailing st1.trailing,
          rawBetween inp.length r2 (trailEnd r2), some (pos inp.length ([0x5B, 0x5B] ++ r), pos inp.length r2), rfl, ?_, e2, hl, ?_, rfl⟩
        · simp only [if_true]
          rw [← hroot, e1]
          simp [CTbl.setItems, CTbl.items, CTbl.implicit, CTbl.dotted, CTbl.pos, CTbl.decor, CTbl.span]
        · simp only [f3]; rfl

theorem flatSt_init : FlatSt {} :=
  ⟨⟨rfl, fun _ => rfl, fun _ key hp => by cases hp⟩, Or.inl ⟨rfl, rfl, [], false, some (0, 0), rfl, rfl⟩⟩

theorem flat_nestRun (s : Bytes) (d : CDoc) (h : parseCst s = some d) (hflat : flatItems d.root.items = true) :
    nestRun false s = true := by
  obtain ⟨stf, st', hcl, hfin, rfl⟩ := parseCst_ok h
  unfold nestRun
  simp only []
  rw [runOk_with]
  refine runOkWith_of_absorbing (J := FlatSt) (B := BadSt) flatSt_onWs badSt_onWs (header_bad _) (keyval_bad _)
    (header_flat s) (keyval_flat s) _ _ _ stf hcl (flatSt_onWs _ _ _ flatSt_init) ?_
  intro hb
  have := anyW_notFlat _ (finalize_bad stf st' hfin hb.1 hb.2)
  simp only [] at hflat
  rw [this] at hflat; cases hflat

theorem hdr_doc_tiling (f : Bytes → Bytes) (s : Bytes) (d : CDoc) (hf : FixOn f s)
    (h : parseCst s = some d) (hflat : flatItems d.root.items = true) :
    ∃ out eol, printDocG f s d = out ++ eol ∧ EolRel out (Doc.stripBom s) ∧
      (eol = [] ∨ (eol = [0x0A] ∧ (Doc.stripBom s).getLast? ≠ some 0x0A)) :=
  nest_doc_textV f s d hf h (nestRun_V false s (flat_nestRun s d h hflat))

theorem hdr_doc_tiling_noCr (f : Bytes → Bytes) (s : Bytes) (d : CDoc) (hf : FixOn f s)
    (hcr : ∀ b ∈ s, b ≠ 0x0D) (h : parseCst s = some d) (hflat : flatItems d.root.items = true) :
    ∃ eol, printDocG f s d = Doc.stripBom s ++ eol ∧
      (eol = [] ∨ (eol = [0x0A] ∧ (Doc.stripBom s).getLast? ≠ some 0x0A)) :=
  eolRel_noCr (hdr_doc_tiling f s d hf h hflat) hcr

end TomlVerif.Lemmas.Tiling03Hdr
