import TomlVerif.Lemmas.Tiling03NestV
import TomlVerif.Lemmas.SortModel
import TomlVerif.Lemmas.CstInduct
/-! C03, documents whose sections are NOT in pre-order — what the printer writes for such a tree.

    The tables below the root are summarised, in tree order, by the list `nsItems` of
    `(position, flag, text)` triples of the tables that carry a recorded position (the tables a
    header line made); a table without a position (an implicit table) contributes nothing when it
    is invisible and a marker with a `false` flag otherwise.  When all flags are set the printer
    writes the root body followed by the texts of the triples in (stable) position order —
    whatever positions the invisible tables inherit (`printDocG_ord`).  The sort of the printer
    for any key function, `insG` / `sortG`, is an `InsertionSort` of `Lemmas/Sort.lean`
    (`sortG_is`). -/
namespace TomlVerif.Lemmas.Tiling03More
open TomlVerif TomlVerif.Spec TomlVerif.Model TomlVerif.Model.Strings TomlVerif.Model.Value
open TomlVerif.Model.Cst TomlVerif.Model.Encode TomlVerif.Lemmas.Suffix03 TomlVerif.Lemmas.Cst03
open TomlVerif.Lemmas.LastByte03 TomlVerif.Lemmas.Tiling03 TomlVerif.Lemmas.Tiling03Hdr
open TomlVerif.Lemmas.Tiling03Nest

section generic
variable {α : Type} (key : α → Nat)

/-- `insertEntry` for any key -/
def insG (e : α) : List α → List α
  | [] => [e]
  | x :: r => if key e ≤ key x then e :: x :: r else x :: insG e r

/-- `sortEntries` for any key -/
def sortG (l : List α) : List α := l.foldr (insG key) []

theorem sortG_cons (e : α) (l : List α) : sortG key (e :: l) = insG key e (sortG key l) := rfl

theorem insG_cons (e x : α) (r : List α) :
    insG key e (x :: r) = if key e ≤ key x then e :: x :: r else x :: insG key e r := rfl

def leG (a b : α) : Bool := decide (key a ≤ key b)

theorem leG_total (a b : α) : leG key a b = true ∨ leG key b a = true := by
  simp only [leG, decide_eq_true_eq]; omega

theorem leG_trans (a b c : α) (h1 : leG key a b = true) (h2 : leG key b c = true) : leG key a c = true := by
  simp only [leG, decide_eq_true_eq] at *; omega

theorem sortG_is : Sort.InsertionSort (leG key) (insG key) (sortG key) :=
  ⟨fun _ => rfl, fun e x r => by rw [insG_cons]; simp only [leG, decide_eq_true_eq], rfl, fun _ _ => rfl⟩

theorem mem_sortG (x : α) (l : List α) : x ∈ sortG key l ↔ x ∈ l := (sortG_is key).mem x l

theorem sortedG_sortG (l : List α) : (sortG key l).Pairwise (fun a b => key a ≤ key b) :=
  ((sortG_is key).sorted (leG_total key) (leG_trans key) l).imp fun h => of_decide_eq_true h

end generic

theorem sortEntries_sortG (l : List Entry) : sortEntries l = sortG Entry.pos l :=
  Sort.sortEntries_is.eq (sortG_is Entry.pos) l

abbrev PT := List (Nat × Bytes)

def sortP (l : PT) : PT := sortG (fun x => x.1) l

def flatP : PT → Bytes
  | [] => []
  | x :: r => x.2 ++ flatP r

theorem flatP_append : ∀ (a b : PT), flatP (a ++ b) = flatP a ++ flatP b
  | [], b => rfl
  | x :: r, b => by simp [flatP, flatP_append r b, List.append_assoc]

def toPair (f : Bytes → Bytes) (inp : Bytes) (e : Entry) : Nat × Bytes :=
  (e.pos, entText f inp e.tbl e.path e.isArr)

theorem entsText_flatP (f : Bytes → Bytes) (inp : Bytes) : ∀ l : List Entry,
    entsText f inp l = flatP (l.map (toPair f inp))
  | [] => rfl
  | e :: r => by simp [entsText, flatP, toPair, entsText_flatP f inp r]

theorem sortEntries_pairs (f : Bytes → Bytes) (inp : Bytes) (l : List Entry) :
    (sortEntries l).map (toPair f inp) = sortP (l.map (toPair f inp)) := by
  rw [sortEntries_sortG]
  exact (sortG_is Entry.pos).map (sortG_is fun x : Nat × Bytes => x.1) (toPair f inp) (fun _ _ => rfl) l

theorem entsText_filter (f : Bytes → Bytes) (inp : Bytes) (p : Entry → Bool) : ∀ l : List Entry,
    (∀ e ∈ l, p e = false → entText f inp e.tbl e.path e.isArr = []) →
    entsText f inp (l.filter p) = entsText f inp l
  | [], _ => rfl
  | e :: r, h => by
    have ih := entsText_filter f inp p r (fun x hx => h x (List.mem_cons_of_mem _ hx))
    rw [List.filter_cons]
    cases hp : p e with
    | true => simp [entsText, ih]
    | false =>
      simp only [Bool.false_eq_true, if_false, entsText, ih]
      rw [h e (by simp) hp]; rfl

/-- entries without text can be dropped before sorting -/
theorem entsText_sort_filter (f : Bytes → Bytes) (inp : Bytes) (p : Entry → Bool) (l : List Entry)
    (h : ∀ e ∈ l, p e = false → entText f inp e.tbl e.path e.isArr = []) :
    entsText f inp (sortEntries l) = flatP (sortP ((l.filter p).map (toPair f inp))) := by
  rw [← sortEntries_pairs, ← entsText_flatP, sortEntries_sortG, sortEntries_sortG,
    (sortG_is Entry.pos).filter (leG_total _) (leG_trans _) p l, entsText_filter]
  intro e he
  exact h e ((mem_sortG Entry.pos e l).1 he)

theorem sortEntries_all (p : Entry → Bool) (l : List Entry) : (sortEntries l).all p = l.all p :=
  (Sort.sortEntries_is.perm l).all_eq

theorem sortEntries_first (e : Entry) (l : List Entry) (he : e.pos = 0) :
    sortEntries (e :: l) = e :: sortEntries l := by
  rw [sortEntries_sortG, sortEntries_sortG, sortG_cons]
  exact (sortG_is Entry.pos).ins_of_le e _ fun y _ => decide_eq_true (by rw [he]; exact Nat.zero_le _)

theorem sortP_new_max (e : Nat × Bytes) (l1 l2 : PT) (h : ∀ x ∈ l1 ++ l2, x.1 < e.1) :
    sortP (l1 ++ [e] ++ l2) = sortP (l1 ++ l2) ++ [e] :=
  (sortG_is fun x : Nat × Bytes => x.1).append_max e l1 l2 fun x hx =>
    ⟨decide_eq_false (Nat.not_le.2 (h x hx)), decide_eq_true (Nat.le_of_lt (h x hx))⟩

example : sortP [(3, [1]), (1, [2]), (2, [3])] = [(1, [2]), (2, [3]), (3, [1])] ∧
    sortP ([(3, [1]), (1, [2])] ++ [(7, [9])] ++ [(2, [3])]) = sortP ([(3, [1]), (1, [2])] ++ [(2, [3])]) ++ [(7, [9])] ∧
    sortP ([(3, [1]), (1, []), (2, [3])].filter (fun x => !x.2.isEmpty)) =
      (sortP [(3, [1]), (1, []), (2, [3])]).filter (fun x => !x.2.isEmpty) := by decide +kernel

abbrev NS := List (Nat × Bool × Bytes)

/-- an implicit table the printer does not show -/
def invis (t : CTbl) (isArr : Bool) : Bool := !isArr && t.implicit && (valuesTbl t.items []).isEmpty

/-- the flag is `decor.pre.isSome`: before a header without prefix decor the printer writes a
    default line feed that no source text accounts for, so only entries with a prefix decor (every
    table a header line made) are written as `entText` says -/
def hdN (f : Bytes → Bytes) (inp : Bytes) (t : CTbl) (path : List CKey) (isArr : Bool) : NS :=
  if t.dotted then []
  else match t.pos with
    | some q => [(q, t.decor.pre.isSome, entText f inp t path isArr)]
    | none => if invis t isArr then [] else [(0, false, [])]

mutual
def nsTbl (f : Bytes → Bytes) (inp : Bytes) : CTbl → List CKey → Bool → NS
  | .mk items imp dot p dec sp, path, isArr =>
    hdN f inp (.mk items imp dot p dec sp) path isArr ++ nsItems f inp items path
def nsItems (f : Bytes → Bytes) (inp : Bytes) : List (CKey × CItem) → List CKey → NS
  | [], _ => []
  | (k, it) :: r, path =>
    match it with
    | .table t => nsTbl f inp t (path ++ [k]) false ++ nsItems f inp r path
    | .aot ts _ => nsAot f inp ts (path ++ [k]) ++ nsItems f inp r path
    | .value _ => nsItems f inp r path
def nsAot (f : Bytes → Bytes) (inp : Bytes) : List CTbl → List CKey → NS
  | [], _ => []
  | t :: r, path => nsTbl f inp t path true ++ nsAot f inp r path
end

theorem nsTbl_eq (f : Bytes → Bytes) (inp : Bytes) (t : CTbl) (P : List CKey) (a : Bool) :
    nsTbl f inp t P a = hdN f inp t P a ++ nsItems f inp t.items P := by
  cases t; rw [nsTbl]; rfl

theorem nsItems_append (f : Bytes → Bytes) (inp : Bytes) : ∀ (x y : Items) (P : List CKey),
    nsItems f inp (x ++ y) P = nsItems f inp x P ++ nsItems f inp y P
  | [], y, P => by simp [nsItems]
  | (k, .table t) :: r, y, P => by
    simp only [List.cons_append, nsItems, nsItems_append f inp r y P, List.append_assoc]
  | (k, .aot ts sp) :: r, y, P => by
    simp only [List.cons_append, nsItems, nsItems_append f inp r y P, List.append_assoc]
  | (k, .value v) :: r, y, P => by
    simp only [List.cons_append, nsItems, nsItems_append f inp r y P]

theorem nsAot_append (f : Bytes → Bytes) (inp : Bytes) : ∀ (x y : List CTbl) (P : List CKey),
    nsAot f inp (x ++ y) P = nsAot f inp x P ++ nsAot f inp y P
  | [], y, P => by simp [nsAot]
  | t :: r, y, P => by simp only [List.cons_append, nsAot, nsAot_append f inp r y P, List.append_assoc]

def pairsN (s : NS) : PT := s.map (fun x => (x.1, x.2.2))

theorem pairsN_append (a b : NS) : pairsN (a ++ b) = pairsN a ++ pairsN b := by
  simp [pairsN]

theorem mem_pairsN {s : NS} {y : Nat × Bytes} (h : y ∈ pairsN s) : ∃ x ∈ s, y = (x.1, x.2.2) := by
  unfold pairsN at h
  obtain ⟨x, hx, e⟩ := List.mem_map.1 h
  exact ⟨x, hx, e.symm⟩

def rootTextO (f : Bytes → Bytes) (inp : Bytes) (root : CTbl) : Bytes :=
  entText f inp root [] false ++ flatP (sortP (pairsN (nsItems f inp root.items [])))

def posOk (e : Entry) : Bool :=
  !e.tbl.dotted && (match e.tbl.pos with
    | some q => e.pos == q
    | none => true)

/-- one leg of the walk: new entries are appended; their summary is `s` -/
def StepO (f : Bytes → Bytes) (inp : Bytes) (st r : Nat × List Entry) (s : NS) : Prop :=
  ∃ new, r.2 = st.2 ++ new ∧ new.all posOk = true ∧
    new.flatMap (fun e => hdN f inp e.tbl e.path e.isArr) = s

theorem StepO.refl (f : Bytes → Bytes) (inp : Bytes) (st : Nat × List Entry) : StepO f inp st st [] :=
  ⟨[], by simp, rfl, rfl⟩

theorem StepO.trans {f : Bytes → Bytes} {inp : Bytes} {st r r' : Nat × List Entry} {s1 s2 : NS}
    (h1 : StepO f inp st r s1) (h2 : StepO f inp r r' s2) : StepO f inp st r' (s1 ++ s2) := by
  obtain ⟨n1, a1, a2, a3⟩ := h1
  obtain ⟨n2, b1, b2, b3⟩ := h2
  refine ⟨n1 ++ n2, by rw [b1, a1, List.append_assoc], ?_, ?_⟩
  · rw [List.all_append, a2, b2]; rfl
  · rw [List.flatMap_append, a3, b3]

theorem StepO.entry (f : Bytes → Bytes) (inp : Bytes) (st : Nat × List Entry) (t : CTbl) (path : List CKey)
    (a : Bool) (hd : t.dotted = false) :
    StepO f inp st (t.pos.getD st.1, st.2 ++ [⟨t.pos.getD st.1, t, path, a⟩]) (hdN f inp t path a) := by
  refine ⟨[⟨t.pos.getD st.1, t, path, a⟩], rfl, ?_, by simp⟩
  simp only [List.all_cons, List.all_nil, Bool.and_true, posOk, hd, Bool.not_false, Bool.true_and]
  cases t.pos <;> simp

theorem visit_stepO (f : Bytes → Bytes) (inp : Bytes) :
    (∀ (items : List (CKey × CItem)) (path : List CKey) (st : Nat × List Entry),
      StepO f inp st (visitItems items path st) (nsItems f inp items path)) ∧
    (∀ (t : CTbl) (path : List CKey) (a : Bool) (st : Nat × List Entry),
      StepO f inp st (visitTbl t path a st) (nsTbl f inp t path a)) ∧
    (∀ (ts : List CTbl) (path : List CKey) (st : Nat × List Entry),
      StepO f inp st (visitAot ts path st) (nsAot f inp ts path)) := by
  refine items_induct ?_ ?_ ?_ ?_ ?_ ?_ ?_
  · intro path st
    rw [visitItems, nsItems]; exact StepO.refl f inp st
  · intro k v r ih path st
    rw [visitItems, nsItems]; exact ih path st
  · intro k t r iht ih path st
    rw [visitItems, nsItems]
    exact (iht (path ++ [k]) false st).trans (ih path _)
  · intro k ts sp r ihts ih path st
    rw [visitItems, nsItems]
    exact (ihts (path ++ [k]) st).trans (ih path _)
  · intro items imp dot p dec sp ih path a st
    rw [visitTbl, nsTbl]
    cases dot with
    | true =>
      simp only [if_true, hdN, CTbl.dotted, List.nil_append]
      exact ih path st
    | false =>
      simp only [Bool.false_eq_true, if_false]
      exact (StepO.entry f inp st (.mk items imp false p dec sp) path a rfl).trans (ih path _)
  · intro path st
    rw [visitAot, nsAot]; exact StepO.refl f inp st
  · intro t r iht ih path st
    rw [visitAot, nsAot]
    exact (iht path true st).trans (ih path _)

theorem visitTbl_stepO (f : Bytes → Bytes) (inp : Bytes) : ∀ (t : CTbl) (path : List CKey) (a : Bool)
    (st : Nat × List Entry), StepO f inp st (visitTbl t path a st) (nsTbl f inp t path a) :=
  (visit_stepO f inp).2.1
theorem visitItems_stepO (f : Bytes → Bytes) (inp : Bytes) : ∀ (items : List (CKey × CItem)) (path : List CKey)
    (st : Nat × List Entry), StepO f inp st (visitItems items path st) (nsItems f inp items path) :=
  (visit_stepO f inp).1
theorem visitAot_stepO (f : Bytes → Bytes) (inp : Bytes) : ∀ (ts : List CTbl) (path : List CKey)
    (st : Nat × List Entry), StepO f inp st (visitAot ts path st) (nsAot f inp ts path) :=
  (visit_stepO f inp).2.2

def keepE (e : Entry) : Bool := e.tbl.pos.isSome

theorem invis_text (f : Bytes → Bytes) (inp : Bytes) (t : CTbl) (path : List CKey) (a : Bool)
    (h : invis t a = true) : entText f inp t path a = [] := by
  simp only [invis, Bool.and_eq_true, Bool.not_eq_true', List.isEmpty_iff] at h
  obtain ⟨⟨ha, hi⟩, hv⟩ := h
  subst ha
  simp [entText, visitTable, hi, hv, encodeBody]

theorem entry_facts (f : Bytes → Bytes) (inp : Bytes) (e : Entry) (hp : posOk e = true)
    (hfl : ∀ x ∈ hdN f inp e.tbl e.path e.isArr, x.2.1 = true) :
    entOk e = true ∧ (keepE e = false → entText f inp e.tbl e.path e.isArr = []) ∧
    ([e].filter keepE).map (toPair f inp) = pairsN (hdN f inp e.tbl e.path e.isArr) := by
  obtain ⟨q0, t, path, a⟩ := e
  simp only [posOk, Bool.and_eq_true, Bool.not_eq_true'] at hp
  obtain ⟨hd, hp⟩ := hp
  simp only [] at hd hp hfl ⊢
  simp only [hdN, hd, Bool.false_eq_true, if_false] at hfl ⊢
  cases hpos : t.pos with
  | some q =>
    rw [hpos] at hp hfl
    simp only [beq_iff_eq] at hp
    subst hp
    have hpre := hfl (q0, t.decor.pre.isSome, entText f inp t path a) (by simp)
    simp only [] at hpre
    refine ⟨by simp [entOk, hpre], ?_, ?_⟩
    · intro hk; simp [keepE, hpos] at hk
    · simp [keepE, hpos, toPair, pairsN]
  | none =>
    rw [hpos] at hfl
    simp only [] at hfl ⊢
    cases hi : invis t a with
    | false =>
      rw [hi] at hfl
      have := hfl (0, false, []) (by simp)
      simp at this
    | true =>
      refine ⟨?_, fun _ => invis_text f inp t path a hi, ?_⟩
      · simp only [invis] at hi
        simp [entOk, hi]
      · simp [keepE, hpos, pairsN]

theorem entries_facts (f : Bytes → Bytes) (inp : Bytes) : ∀ (new : List Entry), new.all posOk = true →
    (∀ x ∈ new.flatMap (fun e => hdN f inp e.tbl e.path e.isArr), x.2.1 = true) →
    new.all entOk = true ∧ (∀ e ∈ new, keepE e = false → entText f inp e.tbl e.path e.isArr = []) ∧
    (new.filter keepE).map (toPair f inp) = pairsN (new.flatMap (fun e => hdN f inp e.tbl e.path e.isArr))
  | [], _, _ => ⟨rfl, fun _ h => by simp at h, rfl⟩
  | e :: r, hp, hfl => by
    simp only [List.all_cons, Bool.and_eq_true] at hp
    simp only [List.flatMap_cons, List.mem_append] at hfl
    obtain ⟨a1, a2, a3⟩ := entry_facts f inp e hp.1 (fun x hx => hfl x (Or.inl hx))
    obtain ⟨b1, b2, b3⟩ := entries_facts f inp r hp.2 (fun x hx => hfl x (Or.inr hx))
    refine ⟨by simp [a1, b1], ?_, ?_⟩
    · intro x hx hk
      rcases List.mem_cons.1 hx with hx | hx
      · subst hx; exact a2 hk
      · exact b2 x hx hk
    · have : (e :: r).filter keepE = [e].filter keepE ++ r.filter keepE := by
        rw [← List.filter_append]; rfl
      rw [this, List.map_append, a3, b3, List.flatMap_cons, pairsN_append]

theorem printDocG_ord (f : Bytes → Bytes) (inp : Bytes) (d : CDoc) (h1 : d.root.decor.pre = none)
    (h2 : d.root.decor.suf = none) (h3 : d.root.pos = none) (h4 : d.root.dotted = false)
    (hN : ∀ x ∈ nsItems f inp d.root.items [], x.2.1 = true) :
    printDocG f inp d = rootTextO f inp d.root ++ encRaw f inp d.trailing := by
  obtain ⟨root, tr⟩ := d
  obtain ⟨items, imp, dot, p, dec, sp⟩ := root
  simp only [CTbl.pos, CTbl.dotted, CTbl.items] at h3 h4 hN
  subst h3; subst h4
  unfold printDocG rootTextO
  simp only [prefixEncode, suffixEncode, h1, h2, List.nil_append, List.append_nil, CTbl.items]
  congr 1
  rw [visitTbl]
  simp only [Bool.false_eq_true, if_false, Option.getD_none, List.nil_append]
  obtain ⟨new, e1, e2, e3⟩ := visitItems_stepO f inp items []
    (0, [⟨0, .mk items imp false none dec sp, [], false⟩])
  rw [e1]
  simp only [List.singleton_append]
  rw [← e3] at hN
  obtain ⟨b1, b2, b3⟩ := entries_facts f inp new e2 hN
  rw [sortEntries_first _ _ rfl, visitTables_entOk]
  · simp only [entsText]
    rw [entsText_sort_filter f inp keepE new b2, b3, e3]
  · simp only [List.all_cons, Bool.and_eq_true]
    exact ⟨by simp [entOk], by rw [sortEntries_all]; exact b1⟩

theorem hdN_setItems (f : Bytes → Bytes) (inp : Bytes) (t : CTbl) (I : Items) (P : List CKey) (a : Bool)
    (h : valuesTbl I [] = valuesTbl t.items []) : hdN f inp (t.setItems I) P a = hdN f inp t P a := by
  have ht : entText f inp (t.setItems I) P a = entText f inp t P a :=
    entText_tbl_congr f inp _ _ P a (by simp) (by simp) (by simpa using h)
  unfold hdN
  rw [ht]
  obtain ⟨items, imp, dot, p, dec, sp⟩ := t
  simp only [CTbl.items] at h
  simp only [CTbl.setItems, CTbl.dotted, CTbl.pos, CTbl.decor, CTbl.implicit, CTbl.items, invis, h]
  cases dot <;> cases p <;> rfl

theorem nsTbl_setItems (f : Bytes → Bytes) (inp : Bytes) (t t' : CTbl) (P : List CKey) (a : Bool)
    (h1 : t' = t.setItems t'.items) (h2 : valuesTbl t'.items [] = valuesTbl t.items []) :
    nsTbl f inp t' P a = hdN f inp t P a ++ nsItems f inp t'.items P := by
  rw [nsTbl_eq, h1, hdN_setItems f inp t _ P a h2]

theorem hdN_some (f : Bytes → Bytes) (inp : Bytes) (t : CTbl) (P : List CKey) (a : Bool) (q : Nat)
    (hd : t.dotted = false) (hq : t.pos = some q) :
    hdN f inp t P a = [(q, t.decor.pre.isSome, entText f inp t P a)] := by
  simp [hdN, hd, hq]

theorem hdN_newImplicit (f : Bytes → Bytes) (inp : Bytes) (P : List CKey) :
    hdN f inp (newImplicit false) P false = [] := by
  simp [hdN, newImplicit, invis, CTbl.dotted, CTbl.pos, CTbl.implicit, CTbl.items, valuesTbl]

theorem hdN_flags_false (f : Bytes → Bytes) (inp : Bytes) (t : CTbl) (P : List CKey) (a : Bool) (hp : t.pos = none) :
    ∀ x ∈ hdN f inp t P a, x.2.1 = false := by
  intro x hx
  unfold hdN at hx
  split at hx
  · cases hx
  · rw [hp] at hx
    simp only [] at hx
    split at hx
    · cases hx
    · simp only [List.mem_singleton] at hx; subst hx; rfl

theorem bodyOkU_ns (f : Bytes → Bytes) (inp : Bytes) (items : Items) : bodyOkU items = true →
    ∀ X, nsItems f inp items X = [] := by
  refine (items_induct (P := fun l => bodyOkU l = true → ∀ X, nsItems f inp l X = [])
    (T := fun t => bodyTblU t = true → ∀ X a, nsTbl f inp t X a = []) (A := fun _ => True)
    (fun _ _ => rfl) ?_ ?_ ?_ ?_ trivial (fun _ _ _ _ => trivial)).1 items
  · intro k v r ih h X
    simp only [bodyOkU, Bool.and_eq_true] at h
    rw [nsItems]; exact ih h.2 X
  · intro k t r iht ih h X
    simp only [bodyOkU, Bool.and_eq_true] at h
    rw [nsItems, iht h.1, ih h.2 X]; rfl
  · intro k ts sp r _ _ h
    simp [bodyOkU] at h
  · intro items imp dot p dec sp ih h X a
    simp only [bodyTblU, Bool.and_eq_true] at h
    rw [nsTbl, ih h.2 X]
    simp [hdN, CTbl.dotted, h.1]

end TomlVerif.Lemmas.Tiling03More
