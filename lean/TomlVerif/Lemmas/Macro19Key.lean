import TomlVerif.Lemmas.Macro19Reads
/-! C19: keys as the macro reads them. A key is `seg . seg . …`, a segment `atom - atom - …` (the macro
    glues `a-b` back together with `concat!`), an atom any single non-punctuation token (identifier, string /
    character literal, number literal). -/
namespace TomlVerif.Lemmas.Macro19b
open TomlVerif TomlVerif.Model TomlVerif.Model.Macro TomlVerif.Lemmas.Macro19

inductive KAtom where
  | ident (s : Bytes)
  | num (body suffix : Bytes) (fl : Bool)
  | str (raw val : Bytes)
  | chr (raw val : Bytes)

def KAtom.tok : KAtom → Tok
  | .ident s => .ident s
  | .num b s f => .num b s f
  | .str r v => .str r v
  | .chr r v => .chr r v

def KAtom.tt (a : KAtom) : TT := .tok a.tok

structure Seg where
  head : KAtom
  tail : List KAtom

structure MKey where
  head : Seg
  tail : List Seg

def eqT : TT := pc 0x3D

@[simp] theorem isP_eqT (c : Byte) : isP c eqT = (c == 0x3D) := rfl

def dashed : List KAtom → List TT
  | [] => []
  | a :: r => dash :: a.tt :: dashed r

def Seg.toks (s : Seg) : List TT := s.head.tt :: dashed s.tail

/-- the token trees `$($k:tt)-+` binds -/
def Seg.tts (s : Seg) : List TT := s.head.tt :: s.tail.map KAtom.tt

def dotted : List Seg → List TT
  | [] => []
  | s :: r => dot :: (s.toks ++ dotted r)

def MKey.toks (k : MKey) : List TT := k.head.toks ++ dotted k.tail

/-- what `$($($k:tt)-+).+` binds -/
def MKey.segs (k : MKey) : List (List TT) := k.head.tts :: k.tail.map Seg.tts

/-- the path the macro computes (`concat!` of the atoms of each segment); `none`: `concat!` rejects an atom -/
def MKey.path (k : MKey) : Option (List Bytes) := segsStr k.segs

@[simp] theorem isP_atom (c : Byte) (a : KAtom) : isP c a.tt = false := by cases a <;> rfl

/-- the atoms of a segment are collected up to the token `sep` behind it, which decides how to go on -/
theorem keyPath_dashed (l : List KAtom) (a : KAtom) (sep : TT) (rest cur : List TT) (segs : List (List TT))
    (hs : isP 0x2D sep = false) :
    keyPath (a.tt :: (dashed l ++ sep :: rest)) cur segs =
      if isP 0x2E sep then keyPath rest [] (segs ++ [cur ++ a.tt :: l.map KAtom.tt])
      else if isP 0x3D sep then some (segs ++ [cur ++ a.tt :: l.map KAtom.tt], rest) else none := by
  induction l generalizing a cur with
  | nil => simp [dashed, keyPath, hs]
  | cons b r ih =>
    have : keyPath (a.tt :: (dashed (b :: r) ++ sep :: rest)) cur segs =
        keyPath (b.tt :: (dashed r ++ sep :: rest)) (cur ++ [a.tt]) segs := by
      simp [dashed, keyPath]
    rw [this, ih b (cur ++ [a.tt])]
    simp

theorem keyPath_seg_dot (s : Seg) (rest cur : List TT) (segs : List (List TT)) :
    keyPath (s.toks ++ dot :: rest) cur segs = keyPath rest [] (segs ++ [cur ++ s.tts]) :=
  keyPath_dashed s.tail s.head dot rest cur segs rfl

theorem keyPath_seg_eq (s : Seg) (rest cur : List TT) (segs : List (List TT)) :
    keyPath (s.toks ++ eqT :: rest) cur segs = some (segs ++ [cur ++ s.tts], rest) :=
  keyPath_dashed s.tail s.head eqT rest cur segs rfl

theorem keyPath_dotted (l : List Seg) (s : Seg) (rest cur : List TT) (segs : List (List TT)) :
    keyPath (s.toks ++ (dotted l ++ eqT :: rest)) cur segs =
      some (segs ++ [cur ++ s.tts] ++ l.map Seg.tts, rest) := by
  induction l generalizing s cur segs with
  | nil => simpa [dotted] using keyPath_seg_eq s rest cur segs
  | cons t r ih =>
    have : s.toks ++ (dotted (t :: r) ++ eqT :: rest) = s.toks ++ dot :: (t.toks ++ (dotted r ++ eqT :: rest)) := by
      simp [dotted]
    rw [this, keyPath_seg_dot, ih]
    simp

theorem keyPath_key (k : MKey) (rest : List TT) :
    keyPath (k.toks ++ eqT :: rest) [] [] = some (k.segs, rest) := by
  unfold MKey.toks MKey.segs
  rw [List.append_assoc, keyPath_dotted]
  simp

theorem headerPath_eq_keyPath (ts cur : List TT) (segs : List (List TT)) (h : ∀ t ∈ ts, isP 0x3D t = false) :
    headerPath ts cur segs = (keyPath (ts ++ [eqT]) cur segs).map Prod.fst := by
  induction ts, cur, segs using headerPath.induct with
  | case1 k cur segs => simp [headerPath, keyPath]
  | case2 k p rest cur segs hp ih =>
    simp only [headerPath, List.cons_append, keyPath, hp, if_true]
    exact ih fun t ht => h t (by simp [ht])
  | case3 k p rest cur segs hp hd ih =>
    simp only [headerPath, List.cons_append, keyPath, hp, hd, if_true, Bool.false_eq_true, if_false]
    exact ih fun t ht => h t (by simp [ht])
  | case4 k p rest cur segs hp hd =>
    simp [headerPath, keyPath, hp, hd, h p (by simp)]
  | case5 cur segs => simp [headerPath, keyPath]

theorem dashed_no_eq (l : List KAtom) : ∀ t ∈ dashed l, isP 0x3D t = false := by
  induction l with
  | nil => simp [dashed]
  | cons a r ih => simpa [dashed] using ih

theorem dotted_no_eq (l : List Seg) : ∀ t ∈ dotted l, isP 0x3D t = false := by
  induction l with
  | nil => simp [dotted]
  | cons s r ih =>
    intro t ht
    simp only [dotted, Seg.toks, List.mem_cons, List.mem_append] at ht
    rcases ht with rfl | (rfl | ht) | ht
    · rfl
    · exact isP_atom _ _
    · exact dashed_no_eq _ t ht
    · exact ih t ht

theorem headerPath_key (k : MKey) : headerPath k.toks [] [] = some k.segs := by
  rw [headerPath_eq_keyPath, keyPath_key]
  · rfl
  · intro t ht
    simp only [MKey.toks, Seg.toks, List.mem_cons, List.mem_append] at ht
    rcases ht with (rfl | ht) | ht
    · exact isP_atom _ _
    · exact dashed_no_eq _ t ht
    · exact dotted_no_eq _ t ht

theorem key_toks_cons (k : MKey) : ∃ r, k.toks = k.head.head.tt :: r := ⟨_, rfl⟩

end TomlVerif.Lemmas.Macro19b
