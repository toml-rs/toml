import TomlVerif.Lemmas.Spans14Value
import TomlVerif.Lemmas.CstStateOps
/-! C14 (document level): the "all spans in range, all values nested" predicate on decorated tables
    and its preservation by `descend` and `findTable` (the `IndexMap` helpers: `AllKV.*`, `Spans14Value.lean`). -/
namespace TomlVerif.Lemmas.Spans14
open TomlVerif TomlVerif.Spec TomlVerif.Model TomlVerif.Model.Strings TomlVerif.Model.Value
open TomlVerif.Model.Cst TomlVerif.Lemmas.Cst03

mutual
/-- every span recorded in the table lies in `[lo, hi]` (and is well-formed), every value nests -/
def TblOK (lo hi : Nat) : CTbl → Prop
  | .mk items _ _ _ d sp => ItemsOK lo hi items ∧ AllW lo hi (decorSp d) ∧ AllW lo hi (optSp sp)
def ItemsOK (lo hi : Nat) : List (CKey × CItem) → Prop
  | [] => True
  | (k, it) :: r => AllW lo hi (keySpans k) ∧ (match it with
      | .value v => AllW lo hi (valSpans v) ∧ NestV v
      | .table t => TblOK lo hi t
      | .aot ts sp => TblsOK lo hi ts ∧ AllW lo hi (optSp sp)) ∧ ItemsOK lo hi r
def TblsOK (lo hi : Nat) : List CTbl → Prop
  | [] => True
  | t :: r => TblOK lo hi t ∧ TblsOK lo hi r
end

/-- `ItemsOK` of one item; `EntriesOK` is `ItemsOK` in the `AllKV` form (`ItemsOK_iff`), through which the
    `IndexMap` helpers are used -/
def EntryOK (lo hi : Nat) : CItem → Prop
  | .value v => AllW lo hi (valSpans v) ∧ NestV v
  | .table t => TblOK lo hi t
  | .aot ts sp => TblsOK lo hi ts ∧ AllW lo hi (optSp sp)

def EntriesOK (lo hi : Nat) (l : List (CKey × CItem)) : Prop :=
  AllKV (fun k => AllW lo hi (keySpans k)) (EntryOK lo hi) l

theorem ItemsOK_iff (lo hi : Nat) (l : List (CKey × CItem)) : ItemsOK lo hi l ↔ EntriesOK lo hi l := by
  unfold EntriesOK
  induction l with
  | nil => simp [ItemsOK, AllKV]
  | cons kv r ih =>
    obtain ⟨k, it⟩ := kv
    rw [AllKV.cons, ← ih]
    cases it <;> simp [ItemsOK, EntryOK, and_assoc]

theorem TblsOK_iff (lo hi : Nat) (l : List CTbl) : TblsOK lo hi l ↔ ∀ t ∈ l, TblOK lo hi t := by
  induction l with
  | nil => simp [TblsOK]
  | cons t r ih => simp [TblsOK, ih]

theorem TblOK_iff (lo hi : Nat) (t : CTbl) :
    TblOK lo hi t ↔ EntriesOK lo hi t.items ∧ AllW lo hi (decorSp t.decor) ∧ AllW lo hi (optSp t.span) := by
  cases t
  simp only [TblOK, ItemsOK_iff, CTbl.items, CTbl.decor, CTbl.span]

theorem TblOK_mk (lo hi : Nat) (items : List (CKey × CItem)) (i d : Bool) (p : Option Nat) (dec : Decor)
    (sp : Option Span) :
    TblOK lo hi (.mk items i d p dec sp) ↔ EntriesOK lo hi items ∧ AllW lo hi (decorSp dec) ∧ AllW lo hi (optSp sp) := by
  simp only [TblOK, ItemsOK_iff]

theorem TblOK_setItems (lo hi : Nat) (t : CTbl) (items : List (CKey × CItem)) :
    TblOK lo hi (t.setItems items) ↔ EntriesOK lo hi items ∧ AllW lo hi (decorSp t.decor) ∧ AllW lo hi (optSp t.span) := by
  cases t
  simp only [CTbl.setItems, TblOK, ItemsOK_iff, CTbl.decor, CTbl.span]

theorem TblOK_setSpan (lo hi : Nat) (t : CTbl) (sp : Option Span) :
    TblOK lo hi (t.setSpan sp) ↔ EntriesOK lo hi t.items ∧ AllW lo hi (decorSp t.decor) ∧ AllW lo hi (optSp sp) := by
  cases t
  simp only [CTbl.setSpan, TblOK, ItemsOK_iff, CTbl.items, CTbl.decor]

theorem span_setItems (t : CTbl) (items : List (CKey × CItem)) : (t.setItems items).span = t.span := by
  cases t; rfl

theorem optSp_allW {lo hi : Nat} {o : Option Span} : AllW lo hi (optSp o) ↔ ∀ e, o = some e → Within lo hi e := by
  cases o with
  | none => simp [optSp, AllW]
  | some e => simp [optSp, AllW]

theorem TblOK_empty (lo hi : Nat) : TblOK lo hi CTbl.empty := by
  simp only [CTbl.empty, TblOK, ItemsOK, decorSp_default, optSp]
  exact ⟨trivial, AllW.nil _ _, AllW.nil _ _⟩

theorem TblOK_newImplicit (lo hi : Nat) (d : Bool) : TblOK lo hi (newImplicit d) := by
  simp only [newImplicit, TblOK, ItemsOK, decorSp_default, optSp]
  exact ⟨trivial, AllW.nil _ _, AllW.nil _ _⟩

mutual
theorem TblOK.mono {lo hi lo' hi' : Nat} (h1 : lo' ≤ lo) (h2 : hi ≤ hi') : ∀ t : CTbl, TblOK lo hi t → TblOK lo' hi' t
  | .mk items _ _ _ d sp, h => by
    simp only [TblOK] at h ⊢
    exact ⟨ItemsOK.mono h1 h2 items h.1, h.2.1.mono h1 h2, h.2.2.mono h1 h2⟩
theorem ItemsOK.mono {lo hi lo' hi' : Nat} (h1 : lo' ≤ lo) (h2 : hi ≤ hi') :
    ∀ l : List (CKey × CItem), ItemsOK lo hi l → ItemsOK lo' hi' l
  | [], _ => by simp [ItemsOK]
  | (k, .value v) :: r, h => by
    simp only [ItemsOK] at h ⊢
    exact ⟨h.1.mono h1 h2, ⟨h.2.1.1.mono h1 h2, h.2.1.2⟩, ItemsOK.mono h1 h2 r h.2.2⟩
  | (k, .table t) :: r, h => by
    simp only [ItemsOK] at h ⊢
    exact ⟨h.1.mono h1 h2, TblOK.mono h1 h2 t h.2.1, ItemsOK.mono h1 h2 r h.2.2⟩
  | (k, .aot ts sp) :: r, h => by
    simp only [ItemsOK] at h ⊢
    exact ⟨h.1.mono h1 h2, ⟨TblsOK.mono h1 h2 ts h.2.1.1, h.2.1.2.mono h1 h2⟩, ItemsOK.mono h1 h2 r h.2.2⟩
theorem TblsOK.mono {lo hi lo' hi' : Nat} (h1 : lo' ≤ lo) (h2 : hi ≤ hi') :
    ∀ l : List CTbl, TblsOK lo hi l → TblsOK lo' hi' l
  | [], _ => by simp [TblsOK]
  | t :: r, h => by
    simp only [TblsOK] at h ⊢
    exact ⟨TblOK.mono h1 h2 t h.1, TblsOK.mono h1 h2 r h.2⟩
end

mutual
theorem TblOK.spans {lo hi : Nat} : ∀ t : CTbl, TblOK lo hi t → AllW lo hi (tblSpans t)
  | .mk items _ _ _ d sp, h => by
    simp only [TblOK] at h
    simp only [tblSpans]
    exact AllW.append (AllW.append (ItemsOK.spans items h.1) h.2.1) h.2.2
theorem ItemsOK.spans {lo hi : Nat} : ∀ l : List (CKey × CItem), ItemsOK lo hi l → AllW lo hi (itemsSpans l)
  | [], _ => by simp [itemsSpans]; exact AllW.nil _ _
  | (k, .value v) :: r, h => by
    simp only [ItemsOK] at h
    simp only [itemsSpans]
    exact AllW.append (AllW.append h.1 h.2.1.1) (ItemsOK.spans r h.2.2)
  | (k, .table t) :: r, h => by
    simp only [ItemsOK] at h
    simp only [itemsSpans]
    exact AllW.append (AllW.append h.1 (TblOK.spans t h.2.1)) (ItemsOK.spans r h.2.2)
  | (k, .aot ts sp) :: r, h => by
    simp only [ItemsOK] at h
    simp only [itemsSpans]
    exact AllW.append (AllW.append h.1 (AllW.append (TblsOK.spans ts h.2.1.1) h.2.1.2)) (ItemsOK.spans r h.2.2)
theorem TblsOK.spans {lo hi : Nat} : ∀ l : List CTbl, TblsOK lo hi l → AllW lo hi (tblsSpans l)
  | [], _ => by simp [tblsSpans]; exact AllW.nil _ _
  | t :: r, h => by
    simp only [TblsOK] at h
    simp only [tblsSpans]
    exact AllW.append (TblOK.spans t h.1) (TblsOK.spans r h.2)
end

mutual
/-- every value stored anywhere in a table (through sub-tables and arrays of tables) -/
def tblVals : CTbl → List CVal
  | .mk items _ _ _ _ _ => itemsVals items
def itemsVals : List (CKey × CItem) → List CVal
  | [] => []
  | (_, it) :: r =>
    (match it with
      | .value v => [v]
      | .table t => tblVals t
      | .aot ts _ => tblsVals ts) ++ itemsVals r
def tblsVals : List CTbl → List CVal
  | [] => []
  | t :: r => tblVals t ++ tblsVals r
end

mutual
theorem TblOK.vals {lo hi : Nat} : ∀ t : CTbl, TblOK lo hi t → ∀ v ∈ tblVals t, AllW lo hi (valSpans v) ∧ NestV v
  | .mk items _ _ _ d sp, h => by
    simp only [TblOK] at h
    simp only [tblVals]
    exact ItemsOK.vals items h.1
theorem ItemsOK.vals {lo hi : Nat} : ∀ l : List (CKey × CItem), ItemsOK lo hi l →
    ∀ v ∈ itemsVals l, AllW lo hi (valSpans v) ∧ NestV v
  | [], _ => by simp [itemsVals]
  | (k, .value v) :: r, h => by
    simp only [ItemsOK] at h
    simp only [itemsVals]
    intro x hx
    rcases List.mem_append.1 hx with hx | hx
    · simp at hx; subst hx; exact h.2.1
    · exact ItemsOK.vals r h.2.2 x hx
  | (k, .table t) :: r, h => by
    simp only [ItemsOK] at h
    simp only [itemsVals]
    intro x hx
    rcases List.mem_append.1 hx with hx | hx
    · exact TblOK.vals t h.2.1 x hx
    · exact ItemsOK.vals r h.2.2 x hx
  | (k, .aot ts sp) :: r, h => by
    simp only [ItemsOK] at h
    simp only [itemsVals]
    intro x hx
    rcases List.mem_append.1 hx with hx | hx
    · exact TblsOK.vals ts h.2.1.1 x hx
    · exact ItemsOK.vals r h.2.2 x hx
theorem TblsOK.vals {lo hi : Nat} : ∀ l : List CTbl, TblsOK lo hi l →
    ∀ v ∈ tblsVals l, AllW lo hi (valSpans v) ∧ NestV v
  | [], _ => by simp [tblsVals]
  | t :: r, h => by
    simp only [TblsOK] at h
    simp only [tblsVals]
    intro x hx
    rcases List.mem_append.1 hx with hx | hx
    · exact TblOK.vals t h.1 x hx
    · exact TblsOK.vals r h.2 x hx
end

theorem entry_ok {lo hi : Nat} {t : CTbl} (ht : TblOK lo hi t) (k : Bytes) (dotted : Bool) :
    EntryOK lo hi ((clookup k t.items).getD (.table (newImplicit dotted))) := by
  cases hl : clookup k t.items with
  | none => exact TblOK_newImplicit lo hi dotted
  | some e => exact AllKV.lookup ((TblOK_iff _ _ _).1 ht).1 hl

/-- `descend` keeps the predicate: the tables it walks through satisfy the (possibly stronger) input
    bound `hi1`, whatever `f` builds and the keys it may insert satisfy the output bound `hi2` -/
theorem descend_ok {lo hi1 hi2 : Nat} (h12 : hi1 ≤ hi2) (f : CTbl → Option CTbl)
    (hf : ∀ u u', TblOK lo hi1 u → f u = some u' → TblOK lo hi2 u') :
    ∀ (path : List CKey) (t : CTbl) (dotted : Bool) (t' : CTbl), AllW lo hi2 (keysSpans path) →
      TblOK lo hi1 t → descend t path dotted f = some t' → TblOK lo hi2 t' := by
  intro path
  induction path with
  | nil =>
    intro t dotted t' _ ht h
    unfold descend at h
    exact hf _ _ ht h
  | cons k ks ih =>
    intro t dotted t' hkeys ht h
    simp only [keysSpans] at hkeys
    have hent := entry_ok ht k.key dotted
    have ht2 := (TblOK_iff _ _ _).1 (TblOK.mono (Nat.le_refl lo) h12 t ht)
    obtain ⟨x, rfl, ⟨sub, sub', he, hsub, rfl⟩ | ⟨init, l, l', sp, he, hfl, rfl⟩⟩ :=
      Tiling03Hdr.descend_cons_shape t t' k ks dotted f h
    · rw [he] at hent
      rw [TblOK_setItems]
      exact ⟨AllKV.cset ht2.1 hkeys.left (ih _ _ _ hkeys.right hent hsub), ht2.2⟩
    · rw [he] at hent
      have hts := (TblsOK_iff _ _ _).1 hent.1
      have hl' := ih _ _ _ hkeys.right (hts l (by simp)) hfl
      rw [TblOK_setItems]
      refine ⟨AllKV.cset ht2.1 hkeys.left ⟨?_, hent.2.mono (Nat.le_refl lo) h12⟩, ht2.2⟩
      rw [TblsOK_iff]
      intro x hx
      rcases List.mem_append.1 hx with hx | hx
      · exact TblOK.mono (Nat.le_refl lo) h12 x (hts x (List.mem_append_left _ hx))
      · simp at hx; subst hx; exact hl'

theorem descend_span (f : CTbl → Option CTbl) (hf : ∀ u u', f u = some u' → u'.span = u.span)
    (path : List CKey) (t : CTbl) (dotted : Bool) (t' : CTbl) (h : descend t path dotted f = some t') :
    t'.span = t.span := by
  cases path with
  | nil => rw [Tiling03Hdr.descend_nil] at h; exact hf _ _ h
  | cons k ks =>
    obtain ⟨x, rfl, _⟩ := Tiling03Hdr.descend_cons_shape t t' k ks dotted f h
    exact span_setItems _ _

theorem findTable_ok {lo hi : Nat} (key : Bytes) : ∀ (path : List CKey) (t x : CTbl), TblOK lo hi t →
    findTable key t path = some x → TblOK lo hi x := by
  intro path
  induction path with
  | nil =>
    intro t x ht h
    unfold findTable at h
    split at h
    · rename_i y hl
      injection h with h; subst h
      have hent : EntryOK lo hi (.table y) := AllKV.lookup ((TblOK_iff _ _ _).1 ht).1 hl
      exact hent
    · cases h
  | cons k ks ih =>
    intro t x ht h
    unfold findTable at h
    split at h
    · rename_i sub hl
      have hent : EntryOK lo hi (.table sub) := AllKV.lookup ((TblOK_iff _ _ _).1 ht).1 hl
      exact ih _ _ hent h
    · rename_i ts sp hl
      have hent : EntryOK lo hi (.aot ts sp) := AllKV.lookup ((TblOK_iff _ _ _).1 ht).1 hl
      split at h
      · rename_i l rest hrev
        have hmem : l ∈ ts := by
          have : l ∈ ts.reverse := by rw [hrev]; simp
          simpa using this
        exact ih _ _ ((TblsOK_iff _ _ _).1 hent.1 l hmem) h
      · cases h
    · cases h

end TomlVerif.Lemmas.Spans14
