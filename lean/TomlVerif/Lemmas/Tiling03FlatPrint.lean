import TomlVerif.Lemmas.Tiling03Doc
/-! The printer on flat documents (C03): root values followed by top-level `[t]` / `[[t]]` sections.
    When the recorded positions increase along the item list the sort by position is the identity, and
    the printed text is the root's values followed by the sections in the order of the list. -/
namespace TomlVerif.Lemmas.Tiling03
open TomlVerif TomlVerif.Spec TomlVerif.Model TomlVerif.Model.Strings TomlVerif.Model.Value
open TomlVerif.Model.Cst TomlVerif.Model.Encode TomlVerif.Lemmas.Cst03

/-- a table written by one header line -/
def leafTbl : CTbl → Bool
  | .mk items imp dot p dec _ => !imp && !dot && p.isSome && dec.pre.isSome && dec.suf.isSome && simpleBody items

theorem leafTbl_mk {items : List (CKey × CItem)} {imp dot : Bool} {p : Option Nat} {dec : Decor} {sp : Option Span} :
    leafTbl (.mk items imp dot p dec sp) = true ↔
      imp = false ∧ dot = false ∧ p.isSome = true ∧ dec.pre.isSome = true ∧ dec.suf.isSome = true ∧
        simpleBody items = true := by
  simp only [leafTbl, Bool.and_eq_true, Bool.not_eq_true', and_assoc]

def flatItems : List (CKey × CItem) → Bool
  | [] => true
  | (_, .value v) :: r => simpleVal v && flatItems r
  | (_, .table t) :: r => leafTbl t && flatItems r
  | (_, .aot [t] _) :: r => leafTbl t && flatItems r
  | (_, .aot _ _) :: _ => false

/-- the entries `visit_nested_tables` collects below the root of a flat document -/
def entriesOf : List (CKey × CItem) → List Entry
  | [] => []
  | (_, .value _) :: r => entriesOf r
  | (k, .table t) :: r => ⟨t.pos.getD 0, t, [k], false⟩ :: entriesOf r
  | (k, .aot [t] _) :: r => ⟨t.pos.getD 0, t, [k], true⟩ :: entriesOf r
  | (_, .aot _ _) :: r => entriesOf r

def sortedFrom : Nat → List Entry → Bool
  | _, [] => true
  | lo, e :: r => decide (lo ≤ e.pos) && sortedFrom e.pos r

theorem insertEntry_sorted (e : Entry) (l : List Entry) (h : sortedFrom e.pos l = true) :
    insertEntry e l = e :: l := by
  cases l with
  | nil => rfl
  | cons x r =>
    simp only [sortedFrom, Bool.and_eq_true, decide_eq_true_eq] at h
    simp [insertEntry, h.1]

theorem sortEntries_sorted : ∀ (lo : Nat) (l : List Entry), sortedFrom lo l = true → sortEntries l = l
  | _, [], _ => rfl
  | lo, e :: r, h => by
    simp only [sortedFrom, Bool.and_eq_true] at h
    have ih := sortEntries_sorted e.pos r h.2
    unfold sortEntries at ih ⊢
    rw [List.foldr_cons, ih]
    exact insertEntry_sorted e r h.2

theorem visitTbl_leaf (t : CTbl) (path : List CKey) (isArr : Bool) (st : Nat × List Entry)
    (h : leafTbl t = true) : (visitTbl t path isArr st).2 = st.2 ++ [⟨t.pos.getD 0, t, path, isArr⟩] := by
  obtain ⟨items, imp, dot, p, dec, sp⟩ := t
  obtain ⟨_, hdot, hp, _, _, hb⟩ := leafTbl_mk.1 h
  subst hdot
  cases p with
  | none => simp at hp
  | some q =>
    simp only [visitTbl, visitItems_simple items path _ hb]
    simp [CTbl.pos]

theorem visitItems_flat : ∀ (items : List (CKey × CItem)) (st : Nat × List Entry), flatItems items = true →
    (visitItems items [] st).2 = st.2 ++ entriesOf items
  | [], st, _ => by simp [visitItems, entriesOf]
  | (k, .value v) :: r, st, h => by
    simp only [flatItems, Bool.and_eq_true] at h
    rw [visitItems, visitItems_flat r st h.2]; simp [entriesOf]
  | (k, .table t) :: r, st, h => by
    simp only [flatItems, Bool.and_eq_true] at h
    rw [visitItems, visitItems_flat r _ h.2, List.nil_append, visitTbl_leaf t [k] false st h.1]
    simp [entriesOf]
  | (k, .aot [] _) :: r, st, h => by simp [flatItems] at h
  | (k, .aot [t] _) :: r, st, h => by
    simp only [flatItems, Bool.and_eq_true] at h
    rw [visitItems, visitItems_flat r _ h.2, List.nil_append]
    simp only [visitAot]
    rw [visitTbl_leaf t [k] true st h.1]
    simp [entriesOf]
  | (k, .aot (_ :: _ :: _) _) :: r, st, h => by simp [flatItems] at h

def sectionText (f : Bytes → Bytes) (inp : Bytes) (e : Entry) : Bytes :=
  prefixEncode f inp e.tbl.decor [] ++ (if e.isArr then [0x5B, 0x5B] else [0x5B])
    ++ encodeKeyPath f inp e.path [] [] ++ (if e.isArr then [0x5D, 0x5D] else [0x5D])
    ++ suffixEncode f inp e.tbl.decor [] ++ [0x0A] ++ encodeBody f inp (valuesTbl e.tbl.items [])

def sectionsText (f : Bytes → Bytes) (inp : Bytes) : List Entry → Bytes
  | [] => []
  | e :: r => sectionText f inp e ++ sectionsText f inp r

theorem visitTable_leaf (f : Bytes → Bytes) (inp : Bytes) (e : Entry) (ft : Bool)
    (hl : leafTbl e.tbl = true) (hp : e.path ≠ []) :
    visitTable f inp e ft = (sectionText f inp e, false) := by
  obtain ⟨pos, t, path, isArr⟩ := e
  obtain ⟨items, imp, dot, q, dec, sp⟩ := t
  obtain ⟨himp, _, _, hpre, hsuf, _⟩ := leafTbl_mk.1 hl
  subst himp
  have hpe : path.isEmpty = false := by
    cases path with
    | nil => exact absurd rfl hp
    | cons a b => rfl
  obtain ⟨pre, suf⟩ := dec
  cases pre with
  | none => simp at hpre
  | some pre =>
    cases suf with
    | none => simp at hsuf
    | some suf =>
      cases isArr <;>
        simp [visitTable, sectionText, hpe, CTbl.implicit, CTbl.decor, CTbl.items, prefixEncode, suffixEncode]

theorem visitTables_leaves (f : Bytes → Bytes) (inp : Bytes) : ∀ (l : List Entry) (ft : Bool),
    (∀ e ∈ l, leafTbl e.tbl = true ∧ e.path ≠ []) → visitTables f inp l ft = sectionsText f inp l
  | [], _, _ => rfl
  | e :: r, ft, h => by
    obtain ⟨h1, h2⟩ := h e (by simp)
    simp only [visitTables, visitTable_leaf f inp e ft h1 h2, sectionsText]
    rw [visitTables_leaves f inp r false (fun x hx => h x (List.mem_cons_of_mem _ hx))]

theorem entriesOf_leaves : ∀ (items : List (CKey × CItem)), flatItems items = true →
    ∀ e ∈ entriesOf items, leafTbl e.tbl = true ∧ e.path ≠ []
  | [], _, e, he => by simp [entriesOf] at he
  | (k, .value v) :: r, h, e, he => by
    simp only [flatItems, Bool.and_eq_true] at h
    exact entriesOf_leaves r h.2 e (by simpa [entriesOf] using he)
  | (k, .table t) :: r, h, e, he => by
    simp only [flatItems, Bool.and_eq_true] at h
    simp only [entriesOf, List.mem_cons] at he
    rcases he with he | he
    · subst he; exact ⟨h.1, by simp⟩
    · exact entriesOf_leaves r h.2 e he
  | (k, .aot [] _) :: r, h, _, _ => by simp [flatItems] at h
  | (k, .aot [t] _) :: r, h, e, he => by
    simp only [flatItems, Bool.and_eq_true] at h
    simp only [entriesOf, List.mem_cons] at he
    rcases he with he | he
    · subst he; exact ⟨h.1, by simp⟩
    · exact entriesOf_leaves r h.2 e he
  | (k, .aot (_ :: _ :: _) _) :: r, h, _, _ => by simp [flatItems] at h

def rootValues : List (CKey × CItem) → List (CKey × CItem)
  | [] => []
  | (k, .value v) :: r => (k, .value v) :: rootValues r
  | (_, .table _) :: r => rootValues r
  | (_, .aot _ _) :: r => rootValues r

theorem valuesTbl_flat : ∀ (items : List (CKey × CItem)), flatItems items = true →
    valuesTbl items [] = valuesTbl (rootValues items) []
  | [], _ => rfl
  | (k, .value v) :: r, h => by
    simp only [flatItems, Bool.and_eq_true] at h
    have ih := valuesTbl_flat r h.2
    have e1 := valuesTbl_append [(k, CItem.value v)] r []
    have e2 := valuesTbl_append [(k, CItem.value v)] (rootValues r) []
    simp only [List.cons_append, List.nil_append] at e1 e2
    rw [rootValues, e1, e2, ih]
  | (k, .table t) :: r, h => by
    simp only [flatItems, Bool.and_eq_true] at h
    have ht : valuesTbl ((k, CItem.table t) :: r) [] = valuesTbl r [] := by
      have := Tiling03More.valuesTbl_mid_table [] r k t (by cases t; exact (leafTbl_mk.1 h.1).2.1) []
      simpa [valuesTbl] using this
    rw [ht, rootValues, valuesTbl_flat r h.2]
  | (k, .aot [] _) :: r, h => by simp [flatItems] at h
  | (k, .aot [t] _) :: r, h => by
    simp only [flatItems, Bool.and_eq_true] at h
    have : valuesTbl ((k, CItem.aot [t] ‹_›) :: r) [] = valuesTbl r [] := by simp [valuesTbl]
    rw [this, rootValues, valuesTbl_flat r h.2]
  | (k, .aot (_ :: _ :: _) _) :: r, h => by simp [flatItems] at h

theorem printDocG_flat (f : Bytes → Bytes) (inp : Bytes) (items : List (CKey × CItem)) (imp : Bool)
    (sp : Option Span) (tr : Raw) (h : flatItems items = true) (hs : sortedFrom 0 (entriesOf items) = true) :
    printDocG f inp ⟨.mk items imp false none {} sp, tr⟩ =
      encodeBody f inp (valuesTbl (rootValues items) []) ++ sectionsText f inp (entriesOf items) ++ encRaw f inp tr := by
  unfold printDocG
  simp only [visitTbl]
  rw [visitItems_flat items _ h]
  have hsorted : sortedFrom 0 ([(⟨0, .mk items imp false none {} sp, [], false⟩ : Entry)] ++ entriesOf items) = true := by
    simp [sortedFrom, hs]
  simp only [Option.getD_none, List.nil_append, Bool.false_eq_true, ↓reduceIte]
  rw [sortEntries_sorted 0 _ hsorted]
  simp only [List.cons_append, List.nil_append, visitTables]
  rw [visitTables_leaves f inp _ _ (entriesOf_leaves items h)]
  simp [visitTable, CTbl.items, CTbl.decor, prefixEncode, suffixEncode, valuesTbl_flat items h]

theorem entriesOf_append : ∀ (a b : List (CKey × CItem)), entriesOf (a ++ b) = entriesOf a ++ entriesOf b
  | [], b => rfl
  | (k, .value v) :: r, b => by simp [entriesOf, entriesOf_append r b]
  | (k, .table t) :: r, b => by simp [entriesOf, entriesOf_append r b]
  | (k, .aot [] _) :: r, b => by simp [entriesOf, entriesOf_append r b]
  | (k, .aot [t] _) :: r, b => by simp [entriesOf, entriesOf_append r b]
  | (k, .aot (_ :: _ :: _) _) :: r, b => by simp [entriesOf, entriesOf_append r b]

theorem rootValues_append : ∀ (a b : List (CKey × CItem)), rootValues (a ++ b) = rootValues a ++ rootValues b
  | [], b => rfl
  | (k, .value v) :: r, b => by simp [rootValues, rootValues_append r b]
  | (k, .table t) :: r, b => by simp [rootValues, rootValues_append r b]
  | (k, .aot _ _) :: r, b => by simp [rootValues, rootValues_append r b]

theorem sectionsText_append (f : Bytes → Bytes) (inp : Bytes) : ∀ (a b : List Entry),
    sectionsText f inp (a ++ b) = sectionsText f inp a ++ sectionsText f inp b
  | [], b => by simp [sectionsText]
  | e :: r, b => by simp [sectionsText, sectionsText_append f inp r b, List.append_assoc]

end TomlVerif.Lemmas.Tiling03
