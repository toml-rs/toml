import TomlVerif.Lemmas.Same03Takeover
import TomlVerif.Lemmas.Tiling03MoreGenDefs
/-! C03, same data, the join class — the decidable hypotheses of the same-data lemmas
    (`Lemmas/Same03*.lean`) for the class `genRun` of `Lemmas/Tiling03MoreGenDefs.lean` on a concrete input (non-vacuity). -/
namespace TomlVerif.Lemmas.Tiling03More.Gen
open TomlVerif TomlVerif.Spec TomlVerif.Model TomlVerif.Model.Strings TomlVerif.Model.Value
open TomlVerif.Model.Cst TomlVerif.Model.Encode TomlVerif.Lemmas.Tiling03Nest TomlVerif.Lemmas.Tiling03More
open TomlVerif.Lemmas.Tiling03More.Tko TomlVerif.Lemmas.Tiling03More.Nad

def exG : Bytes := strBytes "[x.y]\n[z]\n[x]\na.b = 1\nc = 2\na.d = 3\n"

def hdrStep (s : Bytes) (p : CState × Bytes) : Option (CState × Bytes) :=
  (ctableLine s.length p.1 p.2).map fun q => ((parseWs s.length q.1 q.2).1, (parseWs s.length q.1 q.2).2)
def kvStep (s : Bytes) (p : CState × Bytes) : Option (CState × Bytes) :=
  (ckeyvalLine s.length p.1 p.2).map fun q => ((parseWs s.length q.1 q.2).1, (parseWs s.length q.1 q.2).2)

/-- the state before the take-over header `[x]` -/
def before3 : Option (CState × Bytes) := (hdrStep exG ({}, exG)).bind (hdrStep exG)
/-- the state before the non-adjacent line `a.d = 3`: current table of `[x]` = `y` (taken over) ++ body -/
def before6 : Option (CState × Bytes) := ((before3.bind (hdrStep exG)).bind (kvStep exG)).bind (kvStep exG)

/-- `header_step_G2`, `header_step_T2`: the take-over header passes `hdrLineOkT`, fails
    `hdrLineOkA`, and leaves a current table of sub-tables only, not empty -/
example : (before3.map fun p => hdrLineOkT exG p.1 p.2) = some true ∧
    (before3.map fun p => hdrLineOkA exG p.1 p.2) = some false ∧
    ((before3.bind (hdrStep exG)).map fun p => onlySubs p.1.current.items && !p.1.current.items.isEmpty) = some true := by
  decide +kernel

/-- `kv_descendG`, `descend_base`, `keyval_step_G2`, `run_bodyG`: the current table is
    `base ++ body` with `base` the taken-over sub-table; the line passes `dottedOkN`, fails the
    adjacency check, and is accepted -/
example : (before6.map fun p => onlySubs (p.1.current.items.take 1) && bodyOkN (p.1.current.items.drop 1)
      && TomlVerif.Lemmas.Tiling03Hdr.nodupK p.1.current.items && (p.1.current.items.length == 3)) = some true ∧
    (before6.map fun p => kvLineOkN exG p.1 p.2) = some true ∧
    (before6.map fun p => kvLineOkA exG p.1 p.2) = some false ∧
    (before6.map fun p => (ckeyvalLine exG.length p.1 p.2).isSome) = some true := by decide +kernel

/-- `clines_ginv2`, `same_data_gen`, `nadRun_G`, `tkoRun_G` -/
example : genRun exG = true ∧ nadRun exG = false ∧ tkoRun exG = false ∧ (parseCst exG).isSome = true ∧
    nadRun (strBytes "a.b = 1\nc = 2\na.d = 3\n") = true ∧ tkoRun (strBytes "[x.y]\n[z]\n[x]\n") = true := by
  decide +kernel

end TomlVerif.Lemmas.Tiling03More.Gen
