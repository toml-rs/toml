import TomlVerif.Lemmas.Tiling03Line
import TomlVerif.Lemmas.Tiling03NestDefs
import TomlVerif.Lemmas.Tiling03NestText
import TomlVerif.Lemmas.CstRun
/-! C03, nested documents — lemmas about the class of `Tiling03NestDefs`: the text of a table under
    another spelling of its path or another item list with the same values, and the `descend` run of
    `start_table` / `start_array_table` along the right spine of a root that passes the header check. -/
namespace TomlVerif.Lemmas.Tiling03Nest
open TomlVerif TomlVerif.Spec TomlVerif.Model TomlVerif.Model.Strings TomlVerif.Model.Value
open TomlVerif.Model.Cst TomlVerif.Model.Encode TomlVerif.Lemmas.Cst03 TomlVerif.Lemmas.Tiling03
open TomlVerif.Lemmas.Tiling03Hdr

theorem lastEntry_some (k : Bytes) (items init : Items) (k' : CKey) (it : CItem)
    (h : lastEntry k items = some (init, k', it)) :
    items = init ++ [(k', it)] ∧ (k'.key == k) = true ∧ clookup k init = none ∧ clookup k items = some it := by
  unfold lastEntry at h
  split at h
  · rename_i init0 k0 it0 hsl
    have hi := vsplitLast_some _ _ _ hsl
    split at h
    · rename_i hc
      simp only [Bool.and_eq_true, Option.isNone_iff_eq_none] at hc
      injection h with h
      simp only [Prod.mk.injEq] at h
      obtain ⟨e1, e2, e3⟩ := h
      subst e1; subst e2; subst e3
      refine ⟨hi, hc.1, hc.2, ?_⟩
      rw [hi, clookup_append_none _ _ _ hc.2, clookup_single, hc.1]; rfl
    · cases h
  · cases h

theorem entText_path_congr (f : Bytes → Bytes) (inp : Bytes) (t : CTbl) (X Y : List CKey) (a : Bool)
    (hX : X ≠ []) (hY : Y ≠ []) (h : encodeKeyPath f inp X [] [] = encodeKeyPath f inp Y [] []) :
    entText f inp t X a = entText f inp t Y a := by
  have e1 : X.isEmpty = false := by cases X <;> simp_all
  have e2 : Y.isEmpty = false := by cases Y <;> simp_all
  simp only [entText, visitTable, e1, e2, h]

theorem entText_tbl_congr (f : Bytes → Bytes) (inp : Bytes) (t t' : CTbl) (P : List CKey) (a : Bool)
    (h1 : t'.implicit = t.implicit) (h2 : t'.decor = t.decor)
    (h3 : valuesTbl t'.items [] = valuesTbl t.items []) : entText f inp t' P a = entText f inp t P a := by
  simp only [entText, visitTable, h1, h2, h3]

theorem valuesTbl_snoc_table (init : Items) (k : CKey) (c : CTbl) (hc : c.dotted = false) (p : List CKey) :
    valuesTbl (init ++ [(k, .table c)]) p = valuesTbl init p := by
  rw [Tiling03More.valuesTbl_mid_table init [] k c hc p]; simp [valuesTbl]

theorem valuesTbl_snoc_aot (init : Items) (k : CKey) (ts : List CTbl) (asp : Option Span) (p : List CKey) :
    valuesTbl (init ++ [(k, .aot ts asp)]) p = valuesTbl init p := by
  rw [Tiling03More.valuesTbl_mid_aot init [] k ts asp p]; simp [valuesTbl]

/-- following the last items of `t` along the parent path `pp`, every segment spelled like the
    stored key, reaches the table where `key` is new (`a = false`) or names the last item, an
    array of tables spelled like `key` (`a = true`); every table on the way is undotted -/
def SpineP (inp : Bytes) (a : Bool) (key : CKey) : CTbl → List CKey → Prop
  | t, [] => t.dotted = false ∧
      (if a then ∃ init k' ts asp, t.items = init ++ [(k', .aot ts asp)] ∧ (k'.key == key.key) = true ∧
          clookup key.key init = none ∧ sameLeaf inp key k' = true
       else clookup key.key t.items = none)
  | t, k :: ks => t.dotted = false ∧ ∃ init k', clookup k.key init = none ∧ (k'.key == k.key) = true ∧
      sameSeg inp k k' = true ∧
      ((∃ sub, t.items = init ++ [(k', .table sub)] ∧ SpineP inp a key sub ks) ∨
       (∃ tsI l asp, t.items = init ++ [(k', .aot (tsI ++ [l]) asp)] ∧ SpineP inp a key l ks))

theorem spineP_dotted {inp : Bytes} {a : Bool} {key : CKey} {t : CTbl} {pp : List CKey}
    (h : SpineP inp a key t pp) : t.dotted = false := by
  cases pp with
  | nil => exact h.1
  | cons k ks => exact h.1

theorem pathOk_empty (inp : Bytes) (a : Bool) (key : CKey) (t : CTbl) (hi : t.items = []) (hd : t.dotted = false) :
    ∀ pp, pathOk inp a key t pp = true
  | [] => by simp [pathOk, hi, hd, clookup]
  | k :: ks => by simp [pathOk, hi, hd, clookup]

theorem reverse_cons_split {α} (ts : List α) (l : α) (r : List α) (h : ts.reverse = l :: r) :
    ts = r.reverse ++ [l] := by
  have := congrArg List.reverse h
  simpa using this

/-- One induction for what the text proof needs of the new root: where the section goes (`SpineP`),
    that the sections of the ancestors print as before (flags, decor and `valuesTbl` unchanged), and
    that `[…]` takes nothing over (`findTable … = none`). -/
theorem start_spine (inp : Bytes) (a : Bool) (key : CKey) (pp : List CKey) (t t' : CTbl)
    (hok0 : pathOk inp a key t pp = true)
    (hd0 : descend t pp false (if a then arrFn key else eraseFn key) = some t') :
    SpineP inp a key t' pp ∧ t'.implicit = t.implicit ∧ t'.decor = t.decor ∧
    valuesTbl t'.items [] = valuesTbl t.items [] ∧ (a = false → findTable key.key t pp = none) := by
  refine descend_induction (P := fun t pp t' => pathOk inp a key t pp = true →
    SpineP inp a key t' pp ∧ t'.implicit = t.implicit ∧ t'.decor = t.decor ∧
    valuesTbl t'.items [] = valuesTbl t.items [] ∧ (a = false → findTable key.key t pp = none))
    ?_ ?_ ?_ ?_ pp t t' hd0 hok0 <;> clear hd0 hok0 t t' pp
  · intro t t' hd hok
    simp only [pathOk, Bool.and_eq_true, Bool.not_eq_true'] at hok
    obtain ⟨hdot, hok⟩ := hok
    cases hl : clookup key.key t.items with
    | none =>
      cases a with
      | false =>
        simp only [Bool.false_eq_true, if_false] at hd
        have hd := CstState.eraseFn_some hd
        rw [cerase_of_none _ _ hl, setItems_self] at hd
        subst hd
        exact ⟨⟨hdot, by simpa using hl⟩, rfl, rfl, rfl, fun _ => by simp [findTable, hl]⟩
      | true =>
        simp only [if_true] at hd
        rcases CstState.arrFn_some hd with ⟨_, _, hl', _⟩ | ⟨_, rfl⟩
        · rw [hl] at hl'; cases hl'
        refine ⟨⟨by simpa using hdot, ?_⟩, by simp, by simp, ?_, fun h => by cases h⟩
        · simp only [if_true, setItems_items]
          exact ⟨t.items, key, [], none, rfl, by simp, hl, sameLeaf_refl inp key⟩
        · rw [setItems_items]; exact valuesTbl_snoc_aot _ _ _ _ _
    | some y =>
      rw [hl] at hok
      simp only [Bool.and_eq_true] at hok
      obtain ⟨ha, hok⟩ := hok
      subst ha
      simp only [if_true] at hd
      split at hok
      · rename_i init k' ts asp hle
        obtain ⟨e1, e2, e3, e4⟩ := lastEntry_some _ _ _ _ _ hle
        rcases CstState.arrFn_some hd with ⟨_, _, _, rfl⟩ | ⟨hn, _⟩
        · exact ⟨⟨hdot, by simp only [if_true]; exact ⟨init, k', ts, asp, e1, e2, e3, hok⟩⟩, rfl, rfl, rfl,
            fun h => by cases h⟩
        · rw [e4] at hn; cases hn
      · cases hok
  · intro t k ks sub' hl _ ih hok
    simp only [pathOk, Bool.and_eq_true, Bool.not_eq_true'] at hok
    obtain ⟨i1, _, _, _, _⟩ := ih (pathOk_empty inp a key _ rfl rfl ks)
    refine ⟨⟨by simpa using hok.1, t.items, k, hl, by simp, sameSeg_refl inp k, Or.inl ⟨sub', by simp, i1⟩⟩,
      by simp, by simp, ?_, fun _ => by simp [findTable, hl]⟩
    rw [setItems_items]; exact valuesTbl_snoc_table _ _ _ (spineP_dotted i1) _
  · intro t k ks sub sub' hl _ ih hok
    simp only [pathOk, Bool.and_eq_true, Bool.not_eq_true', hl] at hok
    obtain ⟨hdot, hok⟩ := hok
    split at hok
    · rename_i init k' sub0 hle
      obtain ⟨e1, e2, e3, e4⟩ := lastEntry_some _ _ _ _ _ hle
      rw [hl] at e4
      injection e4 with e4; injection e4 with e4
      subst e4
      simp only [Bool.and_eq_true] at hok
      obtain ⟨i1, _, _, _, i6⟩ := ih hok.2
      have hsd0 : sub.dotted = false := by
        have := hok.2
        cases ks <;> simp only [pathOk, Bool.and_eq_true, Bool.not_eq_true'] at this <;> exact this.1
      rw [(last_lookup e1 e2 e3).2]
      refine ⟨⟨by simpa using hdot, init, k', e3, e2, hok.1, Or.inl ⟨sub', by simp, i1⟩⟩, by simp, by simp, ?_,
        fun ha => by simp only [findTable, hl]; exact i6 ha⟩
      rw [setItems_items, e1, valuesTbl_snoc_table _ _ _ (spineP_dotted i1), valuesTbl_snoc_table _ _ _ hsd0]
    · rename_i init k' ts asp hle
      have e4 := (lastEntry_some _ _ _ _ _ hle).2.2.2
      rw [hl] at e4; cases e4
    · cases hok
  · intro t k ks tsI l l' sp hl _ ih hok
    simp only [pathOk, Bool.and_eq_true, Bool.not_eq_true', hl] at hok
    obtain ⟨hdot, hok⟩ := hok
    split at hok
    · rename_i init k' sub0 hle
      have e4 := (lastEntry_some _ _ _ _ _ hle).2.2.2
      rw [hl] at e4; cases e4
    · rename_i init k' ts asp hle
      obtain ⟨e1, e2, e3, e4⟩ := lastEntry_some _ _ _ _ _ hle
      rw [hl] at e4
      injection e4 with e4; injection e4 with e4 e4'
      subst e4; subst e4'
      simp only [Bool.and_eq_true, List.reverse_append, List.reverse_cons, List.reverse_nil, List.nil_append,
        List.cons_append] at hok
      obtain ⟨hseg, hok2⟩ := hok
      obtain ⟨i1, _, _, _, i6⟩ := ih hok2
      rw [(last_lookup e1 e2 e3).2]
      refine ⟨⟨by simpa using hdot, init, k', e3, e2, hseg, Or.inr ⟨tsI, l', sp, by simp, i1⟩⟩, by simp, by simp, ?_,
        fun ha => by simp only [findTable, hl, List.reverse_append, List.reverse_cons, List.reverse_nil,
          List.nil_append, List.cons_append]; exact i6 ha⟩
      rw [setItems_items, e1, valuesTbl_snoc_aot, valuesTbl_snoc_aot]
    · cases hok

theorem entText_explicit (f : Bytes → Bytes) (inp : Bytes) (items : Items) (dot : Bool) (p : Option Nat)
    (dec : Decor) (sp : Option Span) (path : List CKey) (a : Bool) :
    entText f inp (.mk items false dot p dec sp) path a =
      hdrText f inp dec path a ++ encodeBody f inp (valuesTbl items []) := by
  simp only [entText, visitTable, hdrText, CTbl.implicit, CTbl.items, CTbl.decor]
  cases path.isEmpty <;> cases a <;> simp

theorem entText_root (f : Bytes → Bytes) (inp : Bytes) (t : CTbl) (a : Bool) :
    entText f inp t [] a = encodeBody f inp (valuesTbl t.items []) := by
  simp [entText, visitTable]

theorem valuesTbl_snoc_dotted (init : Items) (k : CKey) (c : CTbl) (hc : c.dotted = true) (P : List CKey) :
    valuesTbl (init ++ [(k, .table c)]) P = valuesTbl init P ++ valuesTbl c.items (P ++ [k]) := by
  rw [valuesTbl_append]
  obtain ⟨items, imp, dot, q, dec, sp⟩ := c
  simp only [CTbl.dotted] at hc
  subst hc
  simp [valuesTbl, valuesDotted, CTbl.items]

theorem dottedOk_empty (inp : Bytes) (t : CTbl) (h : t.items = []) : ∀ path, dottedOk inp t path = true
  | [] => rfl
  | k :: ks => by simp [dottedOk, h, clookup]

theorem dottedOk_items (inp : Bytes) (t t' : CTbl) (h : t'.items = t.items) :
    ∀ path, dottedOk inp t' path = dottedOk inp t path
  | [] => rfl
  | k :: ks => by simp only [dottedOk, h]

theorem setItems_eq_dotted (c t : CTbl) (h : c = t.setItems c.items) : c.dotted = t.dotted := by
  rw [h]; simp

theorem kvLineOk_mono (inp : Bytes) (st : CState) (s : Bytes) (h : kvLineOk inp false st s = true) :
    kvLineOk inp true st s = true := by
  unfold kvLineOk at h ⊢
  split
  · rename_i ks r1 hk
    rw [hk] at h
    simp only [] at h ⊢
    split
    · rename_i v r2 hv
      rw [hv] at h
      simp only [] at h ⊢
      split
      · rename_i path key hsl
        rw [hsl] at h
        simp only [Bool.false_or, Bool.true_or, Bool.true_and, Bool.and_eq_true] at h ⊢
        exact ⟨h.1, h.2.2⟩
      · rename_i hsl
        simp only [Bool.and_true]
        split at h
        · rename_i p k hsl2; exact absurd hsl2 (by simp_all)
        · simpa using h
    · rfl
  · rfl

theorem runOk_with (inp : Bytes) (dot : Bool) : ∀ (fuel : Nat) (st : CState) (s : Bytes),
    runOk inp dot fuel st s = Tiling03More.runOkWith (hdrLineOk inp) (kvLineOk inp dot) inp.length fuel st s
  | 0, _, _ => rfl
  | fuel + 1, st, s => by
    unfold runOk Tiling03More.runOkWith
    simp only [runOk_with inp dot fuel]
    rfl

theorem nestRun_mono (s : Bytes) (h : nestRun false s = true) : nestRun true s = true := by
  unfold nestRun at h ⊢
  simp only [] at h ⊢
  rw [runOk_with] at h ⊢
  exact Tiling03More.runOkWith_mono _ (fun _ _ h => h) (kvLineOk_mono s) _ _ _ h

end TomlVerif.Lemmas.Tiling03Nest
