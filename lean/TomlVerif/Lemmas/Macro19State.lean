import TomlVerif.Lemmas.Macro19Sim
/-! C19: the macro's fold over a statement list (`refRun`) builds the table the parser's state machine builds
    (`run` / `intoDocument`), up to the order of keys (`Sim`). -/
namespace TomlVerif.Lemmas.Macro19b
open TomlVerif TomlVerif.Model TomlVerif.Model.Macro TomlVerif.Model.State TomlVerif.Lemmas.State09

/-- the entries of a value used as a table (`if !is_table() { *cur = Table::new() }`) -/
def normT : MVal → List (Bytes × MVal)
  | .tbl its => its
  | _ => []

/-- the child under `key`, an empty table where there is none (`traverse`: `contains_key`, `insert`, `get_mut`) -/
def childOf (key : Bytes) (t : MVal) : MVal := (alookup key (normT t)).getD emptyTbl

/-- hand `H` the table a traversal step works on: the value itself made a table, or the last element of an
    array made a table -/
def enterT (cur : MVal) (H : MVal → Option MVal) : Option MVal :=
  match cur with
  | .arr items =>
    match items.getLast? with
    | none => none
    | some last => (H (.tbl (normT last))).map fun c => .arr (items.dropLast ++ [c])
  | other => H (.tbl (normT other))

def stepT (key : Bytes) (K : MVal → Option MVal) : MVal → Option MVal := fun t =>
  (K (childOf key t)).map fun c => .tbl (aset key c (normT t))

/-- follow a path like `modifyAt`, but also enter the value found at its end as a table and apply `H` to that
    table (this is what `descend` does on the parser side) -/
def modT : List Bytes → (MVal → Option MVal) → MVal → Option MVal
  | [], H, cur => enterT cur H
  | key :: rest, H, cur => enterT cur (stepT key (modT rest H))

theorem enterT_tbl (its : List (Bytes × MVal)) (H : MVal → Option MVal) : enterT (.tbl its) H = H (.tbl its) := rfl

theorem modifyAt_cons (cur : MVal) (key : Bytes) (rest : List Bytes) (f : MVal → MVal) :
    modifyAt cur (key :: rest) f = enterT cur (stepT key (fun c => modifyAt c rest f)) := by
  cases cur with
  | arr items =>
    simp only [modifyAt, enterT]
    cases items.getLast? with
    | none => rfl
    | some last =>
      simp only [stepT, childOf, normT]
      cases last <;> (split <;> simp_all)
  | tbl its =>
    simp only [modifyAt, enterT, stepT, childOf, normT]
    split <;> simp_all
  | _ =>
    simp only [modifyAt, enterT, stepT, childOf, normT, alookup, Option.getD_none, aset, List.nil_append]
    split <;> simp_all

theorem enterT_idem (cur : MVal) (X : MVal → Option MVal) : enterT cur (fun t => enterT t X) = enterT cur X := by
  cases cur <;> rfl

theorem modifyAt_append (pp : List Bytes) (key : Bytes) (rest : List Bytes) (f : MVal → MVal) (cur : MVal) :
    modifyAt cur (pp ++ key :: rest) f = modT pp (fun t => modifyAt t (key :: rest) f) cur := by
  induction pp generalizing cur with
  | nil =>
    simp only [List.nil_append, modT]
    have : (fun t => modifyAt t (key :: rest) f) = fun t => enterT t (stepT key (fun c => modifyAt c rest f)) :=
      funext fun t => modifyAt_cons t key rest f
    rw [this, enterT_idem, modifyAt_cons]
  | cons k ks ih =>
    rw [List.cons_append, modifyAt_cons, modT]
    have : (fun c => modifyAt c (ks ++ key :: rest) f) = modT ks (fun t => modifyAt t (key :: rest) f) :=
      funext fun c => ih c
    rw [this]

theorem modT_arr (ks : List Bytes) (H : MVal → Option MVal) (xs : List MVal) (its : List (Bytes × MVal)) :
    modT ks H (.arr (xs ++ [.tbl its])) = (modT ks H (.tbl its)).map fun c => .arr (xs ++ [c]) := by
  cases ks with
  | nil => simp [modT, enterT, normT]
  | cons k r => simp [modT, enterT, normT]

theorem tblM_eq (t : Tbl) : tblM t = .tbl (itemsM t.items) := by
  cases t; simp [tblM, Tbl.items]

theorem itemM_table (t : Tbl) : itemM (.table t) = tblM t := by simp [itemM]
theorem itemM_aot (ts : List Tbl) : itemM (.aot ts) = .arr (tblsM ts) := by simp [itemM]
theorem itemM_value (v : Val) : itemM (.value v) = valM v := by simp [itemM]

theorem itemsM_nil : itemsM [] = [] := by simp [itemsM]
theorem itemsM_cons (k : Bytes) (i : Item) (r : List (Bytes × Item)) : itemsM ((k, i) :: r) = (k, itemM i) :: itemsM r := by
  simp [itemsM]
theorem tblsM_nil : tblsM [] = [] := by simp [tblsM]
theorem tblsM_cons (t : Tbl) (r : List Tbl) : tblsM (t :: r) = tblM t :: tblsM r := by simp [tblsM]

theorem tblM_of_items_nil (t : Tbl) (h : t.items = []) : tblM t = emptyTbl := by
  simp [tblM_eq, h, itemsM_nil, emptyTbl]
theorem tblM_setItems (t : Tbl) (l : List (Bytes × Item)) : tblM (t.setItems l) = .tbl (itemsM l) := by
  simp [tblM_eq]
theorem tblM_congr_items (t u : Tbl) (h : t.items = u.items) : tblM t = tblM u := by
  rw [tblM_eq, tblM_eq, h]

theorem itemsM_eq : ∀ l : List (Bytes × Item), itemsM l = mapV itemM l
  | [] => itemsM_nil
  | (k, i) :: r => by rw [itemsM_cons, itemsM_eq r]; rfl

theorem alookup_itemsM (k : Bytes) (l : List (Bytes × Item)) : alookup k (itemsM l) = (alookup k l).map itemM := by
  rw [itemsM_eq]; exact alookup_mapV itemM k l

theorem itemsM_append (a b : List (Bytes × Item)) : itemsM (a ++ b) = itemsM a ++ itemsM b := by
  simp only [itemsM_eq, mapV, List.map_append]

theorem itemsM_keys (l : List (Bytes × Item)) : (itemsM l).map Prod.fst = l.map Prod.fst := by
  simp [itemsM_eq, mapV]

theorem itemsM_aerase (k : Bytes) (l : List (Bytes × Item)) : itemsM (aerase k l) = aerase k (itemsM l) := by
  simp only [itemsM_eq, aerase_mapV]

theorem itemsM_aset (k : Bytes) (i : Item) (l : List (Bytes × Item)) :
    itemsM (aset k i l) = aset k (itemM i) (itemsM l) := by
  simp only [itemsM_eq, aset_mapV]

theorem tblsM_append (a b : List Tbl) : tblsM (a ++ b) = tblsM a ++ tblsM b := by
  induction a with
  | nil => simp [tblsM_nil]
  | cons t r ih => simp [tblsM_cons, ih]

theorem tblsM_snoc (a : List Tbl) (l : Tbl) : tblsM (a ++ [l]) = tblsM a ++ [tblM l] := by
  simp [tblsM_append, tblsM_cons, tblsM_nil]

theorem childOf_tblM (k : Bytes) (t : Tbl) (d : Bool) :
    childOf k (tblM t) = itemM ((alookup k t.items).getD (.table (newImplicit d))) := by
  rw [tblM_eq]
  simp only [childOf, normT, alookup_itemsM]
  cases alookup k t.items with
  | none => simp [itemM_table, tblM_of_items_nil (newImplicit d) rfl]
  | some i => simp


/-- the direction: success of `X'` (the parser's side) forces success of `X` (the macro's side) -/
def Resp (X X' : MVal → Option MVal) : Prop :=
  ∀ t t', Sim t t' → ∀ r', X' t' = some r' → ∃ r, X t = some r ∧ Sim r r'

theorem normT_sim (a b : MVal) (h : Sim a b) : Sim (.tbl (normT a)) (.tbl (normT b)) := by
  rcases sim_cases a b h with ⟨xs, ys, ea, eb, _⟩ | ⟨xs, ys, ea, eb, _⟩ | ⟨_, e⟩
  · subst ea; subst eb; exact h
  · subst ea; subst eb; exact sim_refl _
  · subst e; exact sim_refl _

theorem childOf_sim (key : Bytes) (a b : MVal) (h : Sim a b) : Sim (childOf key a) (childOf key b) :=
  sim_lookup_getD key _ _ (normT_sim a b h)

theorem enterT_sim (X X' : MVal → Option MVal) (hX : Resp X X') :
    Resp (fun c => enterT c X) (fun c => enterT c X') := by
  intro cur cur' hs r' hr
  rcases sim_cases cur cur' hs with ⟨xs, ys, ea, eb, _⟩ | ⟨xs, ys, ea, eb, hl⟩ | ⟨hsc, e⟩
  · subst ea; subst eb
    exact hX _ _ hs r' hr
  · subst ea; subst eb
    rcases listRel_snoc_cases xs ys hl with ⟨e1, e2⟩ | ⟨xi, a, yi, b, e1, e2, hi, hab⟩
    · subst e1; subst e2
      simp [enterT] at hr
    · subst e1; subst e2
      simp only [enterT, List.getLast?_append, List.getLast?_singleton, Option.some_or, List.dropLast_concat] at hr ⊢
      cases hx : X' (.tbl (normT b)) with
      | none => simp [hx] at hr
      | some c' =>
        simp [hx] at hr
        obtain ⟨c, hc, hcc⟩ := hX _ _ (normT_sim a b hab) c' hx
        refine ⟨.arr (xi ++ [c]), by simp [hc], ?_⟩
        subst hr
        exact sim_arr_snoc _ _ _ _ hi hcc
  · subst e
    have hn : enterT cur X' = X' (.tbl (normT cur)) := by cases cur <;> first | rfl | cases hsc
    have hn' : enterT cur X = X (.tbl (normT cur)) := by cases cur <;> first | rfl | cases hsc
    simp only [hn] at hr
    simp only [hn']
    exact hX _ _ (sim_refl _) r' hr

theorem stepT_sim (key : Bytes) (K K' : MVal → Option MVal) (hK : Resp K K') :
    Resp (stepT key K) (stepT key K') := by
  intro t t' hs r' hr
  simp only [stepT] at hr ⊢
  cases hk : K' (childOf key t') with
  | none => simp [hk] at hr
  | some c' =>
    simp [hk] at hr
    obtain ⟨c, hc, hcc⟩ := hK _ _ (childOf_sim key t t' hs) c' hk
    refine ⟨.tbl (aset key c (normT t)), by simp [hc], ?_⟩
    subst hr
    exact sim_aset key c c' _ _ (normT_sim t t' hs) hcc

theorem modifyAt_sim (p : List Bytes) (g : MVal → MVal) (hg : ∀ a a', Sim a a' → Sim (g a) (g a')) :
    Resp (fun m => modifyAt m p g) (fun m => modifyAt m p g) := by
  induction p with
  | nil =>
    intro m m' hs r' hr
    simp only [modifyAt, Option.some.injEq] at hr ⊢
    subst hr
    exact ⟨_, rfl, hg _ _ hs⟩
  | cons k ks ih =>
    intro m m' hs r' hr
    simp only [modifyAt_cons] at hr ⊢
    exact enterT_sim _ _ (stepT_sim k _ _ ih) m m' hs r' hr

theorem modT_cons_tblM (k : Bytes) (ks : List Bytes) (H : MVal → Option MVal) (t : Tbl) :
    modT (k :: ks) H (tblM t) = (modT ks H (childOf k (tblM t))).map fun c => .tbl (aset k c (itemsM t.items)) := by
  rw [modT, tblM_eq, enterT_tbl]; rfl

/-- `modT` on the image of a tree follows the walk of `focus`: where `H` turns the image of the table reached into
    that of `u'`, `modT` turns the image of the tree into that of the tree with `u'` plugged in -/
theorem modT_focus {d : Bool} {t u : Tbl} {pp : List Bytes} (h : focus d t pp = some u) (H : MVal → Option MVal)
    (u' : Tbl) (hH : ∃ x, H (tblM u) = some x ∧ Sim x (tblM u')) :
    ∃ r, modT pp H (tblM t) = some r ∧ Sim r (tblM (plug d t pp u')) := by
  refine focus_induct (motive := fun t pp u => (∃ x, H (tblM u) = some x ∧ Sim x (tblM u')) →
      ∃ r, modT pp H (tblM t) = some r ∧ Sim r (tblM (plug d t pp u'))) ?_ ?_ ?_ h hH
  · intro t hx
    obtain ⟨x, hx, hs⟩ := hx
    exact ⟨x, by rw [modT, tblM_eq, enterT_tbl, ← tblM_eq]; exact hx, hs⟩
  · intro t k ks sub u he _ _ ih hx
    obtain ⟨r, hr, hsim⟩ := ih hx
    rw [modT_cons_tblM, childOf_tblM k t d, he, itemM_table, hr, plug_cons_table ks u' he, tblM_setItems, itemsM_aset,
      itemM_table]
    exact ⟨_, rfl, sim_aset k r _ _ _ (sim_refl _) hsim⟩
  · intro t k ks init l u ha _ _ ih hx
    obtain ⟨r, hr, hsim⟩ := ih hx
    rw [modT_cons_tblM, childOf_tblM k t d, ha, Option.getD_some, itemM_aot, tblsM_snoc, tblM_eq l, modT_arr, ← tblM_eq l,
      hr, plug_cons_aot ks u' ha, tblM_setItems, itemsM_aset, itemM_aot, tblsM_snoc]
    exact ⟨_, rfl, sim_aset k _ _ _ _ (sim_refl _) (sim_arr_snoc _ _ _ _ (listRel_refl sim_refl _) hsim)⟩

theorem descend_modT (pp : List Bytes) (d : Bool) (F : Tbl → Option Tbl) (H : MVal → Option MVal) (t t' : Tbl)
    (h : descend t pp d F = some t')
    (hF : ∀ u', F (target t pp d) = some u' → ∃ x, H (tblM (target t pp d)) = some x ∧ Sim x (tblM u')) :
    ∃ r, modT pp H (tblM t) = some r ∧ Sim r (tblM t') := by
  obtain ⟨u, u', hu, hf, rfl⟩ := (descend_some_iff ..).1 h
  rw [focus_target hu] at hF
  exact modT_focus hu H u' (hF u' hf)

/-- In `kv_view`, `t` is the root of the state (the open section is kept apart) and `F0` / `F1` close the section with
    its table before / after the `key = value`: the old and the new finalised root under the same header. -/
theorem descend_two (pp : List Bytes) (F0 F1 : Tbl → Option Tbl) (H : MVal → Option MVal) (t r0 r1 : Tbl)
    (h0 : descend t pp false F0 = some r0) (h1 : descend t pp false F1 = some r1)
    (hF : ∀ u0 u1, F0 (target t pp false) = some u0 → F1 (target t pp false) = some u1 →
      ∃ x, H (tblM u0) = some x ∧ Sim x (tblM u1)) :
    ∃ r, modT pp H (tblM r0) = some r ∧ Sim r (tblM r1) := by
  obtain ⟨u, u0, hu, hf0, rfl⟩ := (descend_some_iff ..).1 h0
  obtain ⟨v, u1, hv, hf1, rfl⟩ := (descend_some_iff ..).1 h1
  cases hu.symm.trans hv
  rw [focus_target hu] at hF
  rw [← plug_plug hu u0 u1]
  exact modT_focus (focus_plug hu u0) H u1 (hF u0 u1 hf0 hf1)


/-- `table_toml`: keep a table, replace anything else by an empty table -/
def keepF : MVal → MVal := fun t => match t with | .tbl _ => t | _ => emptyTbl

/-- `push_toml`: append an empty table to an array, replace anything else by a one-element array -/
def pushF : MVal → MVal := fun t => match t with | .arr items => .arr (items ++ [emptyTbl]) | _ => .arr [emptyTbl]

theorem headerTable_true (root : MVal) (p : List Bytes) : headerTable true root p = modifyAt root p keepF := rfl
theorem pushToml_eq (root : MVal) (p : List Bytes) : pushToml root p = modifyAt root p pushF := rfl

theorem keepF_sim (a b : MVal) (h : Sim a b) : Sim (keepF a) (keepF b) := by
  rcases sim_cases a b h with ⟨xs, ys, ea, eb, _⟩ | ⟨xs, ys, ea, eb, _⟩ | ⟨hsc, e⟩
  · subst ea; subst eb; exact h
  · subst ea; subst eb; exact sim_refl _
  · subst e; exact sim_refl _

theorem pushF_sim (a b : MVal) (h : Sim a b) : Sim (pushF a) (pushF b) := by
  rcases sim_cases a b h with ⟨xs, ys, ea, eb, _⟩ | ⟨xs, ys, ea, eb, hl⟩ | ⟨hsc, e⟩
  · subst ea; subst eb; exact sim_refl _
  · subst ea; subst eb; exact sim_arr_snoc _ _ _ _ hl (sim_refl _)
  · subst e; exact sim_refl _

theorem modifyAt_single (its : List (Bytes × MVal)) (key : Bytes) (g : MVal → MVal) :
    modifyAt (.tbl its) [key] g = some (.tbl (aset key (g ((alookup key its).getD emptyTbl)) its)) := by
  simp [modifyAt]

theorem modifyAt_tbl_cons (its : List (Bytes × MVal)) (key : Bytes) (q : List Bytes) (g : MVal → MVal) :
    modifyAt (.tbl its) (key :: q) g =
      (modifyAt ((alookup key its).getD emptyTbl) q g).map fun c => .tbl (aset key c its) := by
  rw [modifyAt_cons, enterT_tbl]; rfl

theorem modifyAt_arr_snoc (xs : List MVal) (its : List (Bytes × MVal)) (q : List Bytes) (g : MVal → MVal)
    (hq : q ≠ []) :
    modifyAt (.arr (xs ++ [.tbl its])) q g = (modifyAt (.tbl its) q g).map fun c => .arr (xs ++ [c]) := by
  cases q with
  | nil => exact absurd rfl hq
  | cons k r =>
    rw [modifyAt_cons, modifyAt_cons, enterT_tbl]
    simp [enterT, normT]

theorem kv_cur (cur c : Tbl) (p : List Bytes) (k : Bytes) (v : Val)
    (h : descend cur p true (kvF p k v) = some c) :
    ∃ r, modifyAt (tblM cur) (p ++ [k]) (fun _ => valM v) = some r ∧ Sim r (tblM c) := by
  rw [modifyAt_append p k [] _ _]
  apply descend_modT p true _ _ cur c h
  intro u' hu
  obtain ⟨hn, e, _⟩ := kvF_some _ _ _ _ _ hu
  subst e
  refine ⟨_, ?_, sim_refl _⟩
  rw [tblM_eq, tblM_setItems, itemsM_append, itemsM_cons, itemsM_nil, itemM_value, modifyAt_single,
    aset_of_none _ _ _ (by rw [alookup_itemsM, hn]; rfl)]

theorem modify_under_key (key : Bytes) (q : List Bytes) (g : MVal → MVal) (items : List (Bytes × Item))
    (i0 i1 : Item) (tgt : Tbl) (h : ∃ y, modifyAt (itemM i0) q g = some y ∧ Sim y (itemM i1)) :
    ∃ x, modifyAt (tblM (tgt.setItems (aset key i0 items))) (key :: q) g = some x ∧
      Sim x (tblM (tgt.setItems (aset key i1 items))) := by
  obtain ⟨y, hy, hs⟩ := h
  rw [tblM_setItems, tblM_setItems, modifyAt_tbl_cons, itemsM_aset, alookup_aset_same, Option.getD_some, hy]
  refine ⟨_, rfl, ?_⟩
  show Sim (MVal.tbl (aset key y (aset key (itemM i0) (itemsM items)))) _
  rw [aset_aset, itemsM_aset]
  exact sim_aset key _ _ _ _ (sim_refl _) hs

theorem kv_fin_local (isArr : Bool) (key : Bytes) (cur c tgt u0 u1 : Tbl) (q : List Bytes) (g : MVal → MVal)
    (hq : q ≠ []) (hc : ∃ r, modifyAt (tblM cur) q g = some r ∧ Sim r (tblM c))
    (h0 : finF isArr key cur tgt = some u0) (h1 : finF isArr key c tgt = some u1) :
    ∃ x, modifyAt (tblM u0) (key :: q) g = some x ∧ Sim x (tblM u1) := by
  unfold finF at h0 h1
  cases isArr with
  | false =>
    simp only [Bool.false_eq_true, if_false] at h0 h1
    rw [finStdF_aset _ _ _ _ h0, finStdF_aset _ _ _ _ h1]
    apply modify_under_key
    rw [itemM_table, itemM_table]
    exact hc
  | true =>
    simp only [if_true] at h0 h1
    obtain ⟨ts, he, e0⟩ := finArrF_some _ _ _ _ h0
    obtain ⟨ts', he', e1⟩ := finArrF_some _ _ _ _ h1
    rw [he] at he'
    injection he' with he'
    subst he'
    rw [e0, e1]
    apply modify_under_key
    obtain ⟨r, hr, hs⟩ := hc
    rw [itemM_aot, itemM_aot, tblsM_snoc, tblsM_snoc, tblM_eq cur, modifyAt_arr_snoc _ _ _ _ hq, ← tblM_eq cur, hr]
    exact ⟨_, rfl, sim_arr_snoc _ _ _ _ (listRel_refl sim_refl _) hs⟩

/-- `[t]`: the parser erases the key and appends the section; the macro keeps the entry where it is -/
theorem std_local (key : Bytes) (tgt cur1 : Tbl) (hn : (tgt.items.map Prod.fst).Nodup)
    (hp : (alookup key tgt.items = none ∧ cur1.items = []) ∨
      ∃ t0, alookup key tgt.items = some (.table t0) ∧ cur1.items = t0.items) :
    ∃ x, modifyAt (tblM tgt) [key] keepF = some x ∧
      Sim x (tblM (tgt.setItems (aerase key tgt.items ++ [(key, .table cur1)]))) := by
  have hk : keepF ((alookup key (itemsM tgt.items)).getD emptyTbl) = tblM cur1 := by
    rw [alookup_itemsM]
    rcases hp with ⟨ha, hc⟩ | ⟨t0, ha, hc⟩
    · rw [ha, tblM_of_items_nil cur1 hc]; rfl
    · rw [ha, tblM_eq cur1, hc, ← tblM_eq t0]
      simp only [Option.map_some, Option.getD_some, itemM_table]
      rw [tblM_eq t0]; rfl
  rw [tblM_eq tgt, modifyAt_single, hk]
  refine ⟨_, rfl, ?_⟩
  rw [tblM_setItems, itemsM_append, itemsM_aerase, itemsM_cons, itemsM_nil, itemM_table]
  exact sim_erase_append key (tblM cur1) (itemsM tgt.items) (by rw [itemsM_keys]; exact hn)

theorem arr_local (key : Bytes) (tgt cur1 u1 u2 : Tbl) (hc : cur1.items = [])
    (h1 : arrStartF key tgt = some u1) (h2 : finArrF key cur1 u1 = some u2) :
    modifyAt (tblM tgt) [key] pushF = some (tblM u2) := by
  have hce := tblM_of_items_nil cur1 hc
  unfold arrStartF at h1
  split at h1
  · rename_i ts ha
    simp only [Option.some.injEq] at h1
    subst h1
    obtain ⟨ts', he, e⟩ := finArrF_some _ _ _ _ h2
    rw [ha] at he
    simp only [Option.getD_some, Item.aot.injEq] at he
    subst he
    rw [e, tblM_eq tgt, modifyAt_single, tblM_setItems, itemsM_aset, alookup_itemsM, ha, itemM_aot, tblsM_snoc, hce]
    rfl
  · simp at h1
  · rename_i hn
    simp only [Option.some.injEq] at h1
    subst h1
    obtain ⟨ts', he, e⟩ := finArrF_some _ _ _ _ h2
    simp only [items_setItems, alookup_append_new _ _ _ hn, Option.getD_some, Item.aot.injEq] at he
    subst he
    rw [e, tblM_eq tgt, modifyAt_single, tblM_setItems, alookup_itemsM, hn]
    simp only [items_setItems, List.nil_append]
    rw [aset_of_some _ _ _ _ (alookup_append_new _ _ _ hn), areplace_append_new _ _ _ _ hn,
      aset_of_none _ _ _ (by rw [alookup_itemsM, hn]; rfl), itemsM_append, itemsM_cons, itemsM_nil, itemM_aot,
      tblsM_cons, tblsM_nil, hce]
    rfl


/-! `kv_view`, `std_view`, `arr_view` have one shape: the helper of the macro for the statement (`modifyAt` with the
    statement's path and update), applied to the image of the old state's finalised root (the document "as if the
    input ended here"), yields a value `Sim` to the image of the new state's finalised root. -/

theorem kv_view (st st1 sf sf1 : ParseState) (p : List Bytes) (k : Bytes) (v : Val)
    (h : onKeyval st p k v = some st1) (hf : finalizeTable st = some sf) (hf1 : finalizeTable st1 = some sf1) :
    ∃ r, modifyAt (tblM sf.root) (st.currentPath ++ (p ++ [k])) (fun _ => valM v) = some r ∧
      Sim r (tblM sf1.root) := by
  obtain ⟨c, hd, hst⟩ := onKeyval_some st st1 p k v h
  subst hst
  have hc := kv_cur _ _ _ _ _ hd
  rcases finalizeTable_some st sf hf with ⟨hp, he, e⟩ | ⟨pp, key, root', hp, hdd, e⟩
  · subst e
    rcases finalizeTable_some _ sf1 hf1 with ⟨_, _, e1⟩ | ⟨pp, key, root', hp1, _, _⟩
    · subst e1
      rw [hp, List.nil_append]
      exact hc
    · simp only [hp] at hp1
      simp at hp1
  · subst e
    rw [finalizeTable_of_path { st with current := c } pp key hp] at hf1
    cases hd1 : descend st.root pp false (finF st.currentIsArray key c) with
    | none => simp [hd1] at hf1
    | some root1 =>
      simp only [hd1, Option.map_some, Option.some.injEq] at hf1
      subst hf1
      rw [hp, List.append_assoc, List.singleton_append, modifyAt_append pp key (p ++ [k])]
      exact descend_two pp _ _ _ st.root root' root1 hdd hd1 fun u0 u1 h0 h1 =>
        kv_fin_local _ key st.current c _ u0 u1 (p ++ [k]) _ (by simp) hc h0 h1

theorem std_view (sf st1 sf1 : ParseState) (path : List Bytes)
    (hw : WF sf.root) (hcur : sf.current = Tbl.empty) (h : startTable sf path = some st1)
    (hf1 : finalizeTable st1 = some sf1) :
    ∃ r, modifyAt (tblM sf.root) path keepF = some r ∧ Sim r (tblM sf1.root) := by
  cases hsp : splitLast path with
  | none => rw [startTable_eq, hsp] at h; cases h
  | some pr =>
    obtain ⟨pp, key⟩ := pr
    have hp := splitLast_some _ _ _ hsp
    subst hp
    rw [startTable_append] at h
    cases hu : focus false sf.root pp with
    | none => rw [hu] at h; cases h
    | some u =>
      rw [hu, Option.bind_some] at h
      cases ho : reopen u key with
      | none => rw [ho] at h; cases h
      | some o =>
        rw [ho] at h
        injection h with h
        subst h
        have hnd := wf_nodup _ (plug_wf hu hw).1
        -- closing the new section puts it back under `key`, behind the other entries
        rw [finalizeTable_append _ pp key rfl] at hf1
        simp only [focus_plug hu, Option.bind_some, finF, finStdF, items_setItems, alookup_aerase_same _ _ hnd,
          Bool.false_eq_true, if_false, Option.map_some, Option.some.injEq, plug_plug hu, setItems_setItems] at hf1
        subst hf1
        rw [modifyAt_append pp key []]
        refine modT_focus hu _ _ (std_local key u _ hnd ?_)
        rcases reopen_some ho with ⟨hn, rfl⟩ | ⟨t0, ha, _, _, rfl⟩
        · exact Or.inl ⟨hn, by rw [Option.getD_none, hcur]; rfl⟩
        · exact Or.inr ⟨t0, ha, rfl⟩

theorem arr_view (sf st1 sf1 : ParseState) (path : List Bytes)
    (hcur : sf.current = Tbl.empty) (h : startArrayTable sf path = some st1)
    (hf1 : finalizeTable st1 = some sf1) :
    ∃ r, modifyAt (tblM sf.root) path pushF = some r ∧ Sim r (tblM sf1.root) := by
  cases hsp : splitLast path with
  | none => rw [startArrayTable_def, hsp] at h; cases h
  | some pr =>
    obtain ⟨pp, key⟩ := pr
    have hp := splitLast_some _ _ _ hsp
    subst hp
    rw [startArrayTable_append] at h
    cases hu : focus false sf.root pp with
    | none => rw [hu] at h; cases h
    | some u =>
      rw [hu, Option.bind_some] at h
      cases h1 : arrStartF key u with
      | none => rw [h1] at h; cases h
      | some u1 =>
        rw [h1] at h
        injection h with h
        subst h
        generalize hc1 : Tbl.mk sf.current.items false false (some (sf.position + 1)) = cur1 at hf1
        have hci : cur1.items = [] := by rw [← hc1, hcur]; rfl
        rw [finalizeTable_append _ pp key rfl] at hf1
        simp only [focus_plug hu, Option.bind_some, finF, if_true] at hf1
        cases h2 : finArrF key cur1 u1 with
        | none => rw [h2] at hf1; cases hf1
        | some u2 =>
          simp only [h2, Option.map_some, Option.some.injEq, plug_plug hu] at hf1
          subst hf1
          rw [modifyAt_append pp key []]
          exact modT_focus hu _ _ ⟨_, arr_local key u cur1 u1 u2 hci h1 h2, sim_refl _⟩

/-- the macro's state `(root, path)` matches the parser's state: same current header path, and the root is the
    document the parser would produce if the input ended here -/
structure Rel (st : ParseState) (ms : MState) : Prop where
  path : ms.2 = st.currentPath
  inv : Inv st
  view : ∃ sf, finalizeTable st = some sf ∧ Sim ms.1 (tblM sf.root)

theorem rel_init : Rel {} (emptyTbl, []) :=
  ⟨rfl, inv_init, ⟨_, rfl, (tblM_of_items_nil Tbl.empty rfl).symm ▸ sim_refl _⟩⟩

theorem startTable_path (sf st1 : ParseState) (p : List Bytes) (h : startTable sf p = some st1) :
    st1.currentPath = p := by
  obtain ⟨pp, key, r0, root1, hp, _, _, hst⟩ := startTable_some sf st1 p h
  rw [hst]

theorem startArrayTable_path (sf st1 : ParseState) (p : List Bytes) (h : startArrayTable sf p = some st1) :
    st1.currentPath = p := by
  obtain ⟨pp, key, root1, hp, _, hst⟩ := startArrayTable_some sf st1 p h
  rw [hst]

theorem step_sim (st st1 : ParseState) (ms : MState) (s : Stmt) (hr : Rel st ms) (h : step st s = some st1) :
    ∃ ms1, refStep true ms s = some ms1 ∧ Rel st1 ms1 := by
  obtain ⟨m, path⟩ := ms
  obtain ⟨hpath, hi, sf, hf, hsim⟩ := hr
  simp only at hpath hsim
  obtain ⟨sf1, hf1, _, hi1⟩ := step_view st st1 sf s hi h hf
  have hw := finalize_wf st sf hi hf
  have hc := (finalize_fields st sf hf).1
  cases s with
  | kv p k v =>
    simp only [step] at h
    obtain ⟨r', hr', hs'⟩ := kv_view st st1 sf sf1 p k v h hf hf1
    obtain ⟨r, hr, hs⟩ := modifyAt_sim _ _ (fun _ _ _ => sim_refl _) m _ hsim r' hr'
    simp only at hr
    refine ⟨(r, path), ?_, ?_, hi1, sf1, hf1, sim_trans hs hs'⟩
    · simp only [refStep, insertToml, hpath, hr, Option.map_some]
    · obtain ⟨c, _, hst⟩ := onKeyval_some st st1 p k v h
      rw [hst]; exact hpath
  | std p =>
    simp only [step, onStdHeader, hf] at h
    obtain ⟨r', hr', hs'⟩ := std_view sf st1 sf1 p hw hc h hf1
    obtain ⟨r, hr, hs⟩ := modifyAt_sim _ _ keepF_sim m _ hsim r' hr'
    simp only at hr
    refine ⟨(r, p), ?_, ?_, hi1, sf1, hf1, sim_trans hs hs'⟩
    · simp only [refStep, headerTable_true, hr, Option.map_some]
    · exact (startTable_path sf st1 p h).symm
  | arr p =>
    simp only [step, onArrayHeader, hf] at h
    obtain ⟨r', hr', hs'⟩ := arr_view sf st1 sf1 p hc h hf1
    obtain ⟨r, hr, hs⟩ := modifyAt_sim _ _ pushF_sim m _ hsim r' hr'
    simp only at hr
    refine ⟨(r, p), ?_, ?_, hi1, sf1, hf1, sim_trans hs hs'⟩
    · simp only [refStep, pushToml_eq, hr, Option.map_some]
    · exact (startArrayTable_path sf st1 p h).symm

theorem run_sim (ss : List Stmt) (st st' : ParseState) (ms : MState) (hr : Rel st ms) (h : run st ss = some st') :
    ∃ ms', refRunFrom true ms ss = some ms' ∧ Rel st' ms' := by
  induction ss generalizing st ms with
  | nil =>
    simp only [State09.run, Option.some.injEq] at h
    subst h
    exact ⟨ms, rfl, hr⟩
  | cons s r ih =>
    rw [State09.run] at h
    cases hs : step st s with
    | none => simp [hs] at h
    | some st1 =>
      simp only [hs] at h
      obtain ⟨ms1, h1, hr1⟩ := step_sim st st1 ms s hr hs
      obtain ⟨ms', h2, hr'⟩ := ih st1 ms1 hr1 h
      exact ⟨ms', by simp only [refRunFrom, h1, h2], hr'⟩

/-- Whenever the parser's state machine accepts a statement list and yields the document `d`, the macro's
    fold over the same statements does not panic and builds the same table, up to the order of keys. -/
theorem refRun_agrees (ss : List Stmt) (st : ParseState) (d : Tbl)
    (h : run {} ss = some st) (hd : intoDocument st = some d) :
    ∃ m, refRun true ss = some m ∧ Sim m (tblM d) := by
  obtain ⟨ms, hm, _, _, sf, hf, hs⟩ := run_sim ss {} st (emptyTbl, []) rel_init h
  refine ⟨ms.1, by simp only [refRun, hm, Option.map_some], ?_⟩
  simp only [intoDocument, hf, Option.map_some, Option.some.injEq] at hd
  subst hd
  exact hs

section Examples
private def ka : Bytes := [0x61]
private def kb : Bytes := [0x62]
private def kc : Bytes := [0x63]
private def kx : Bytes := [0x78]
private def ky : Bytes := [0x79]

def topKeys : MVal → List Bytes
  | .tbl its => its.map Prod.fst
  | _ => []

/-- `[a.b] x = 1 [a] y = 2` (the F8 shape: a super-table after its sub-table) -/
private def docF8 : List Stmt := [.std [ka, kb], .kv [] kx (.int 1), .std [ka], .kv [] ky (.int 2)]
/-- `[a.b] x = 1 [c] [a] y = 2`: the parser re-inserts `a` after `c`, the macro keeps it in front -/
private def docOrder : List Stmt := [.std [ka, kb], .kv [] kx (.int 1), .std [kc], .std [ka], .kv [] ky (.int 2)]
/-- `[[a.b]] [a] y = 2 [[a.b]] [a.b.c] x.y = 1` -/
private def docAot : List Stmt :=
  [.arr [ka, kb], .std [ka], .kv [] ky (.int 2), .arr [ka, kb], .std [ka, kb, kc], .kv [kx] ky (.int 1)]

example : ((State09.run {} docF8).bind intoDocument).isSome = true := by decide +kernel
example : ((State09.run {} docOrder).bind intoDocument).isSome = true := by decide +kernel
example : ((State09.run {} docAot).bind intoDocument).isSome = true := by decide +kernel
example : (refRun true docF8).isSome = true := by decide +kernel
example : (refRun true docAot).isSome = true := by decide +kernel
/-- same keys, different order: only `Sim`, not equality, can hold in `refRun_agrees` -/
example : (refRun true docOrder).map topKeys = some [ka, kc] := by decide +kernel
example : ((State09.run {} docOrder).bind intoDocument).map (fun d => topKeys (tblM d)) = some [kc, ka] := by decide +kernel
end Examples

end TomlVerif.Lemmas.Macro19b

