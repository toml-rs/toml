import TomlVerif.Lemmas.TypedGapsValue
import TomlVerif.Lemmas.Sim07Holds
import TomlVerif.Lemmas.RoundTrip17Fixpoint
/-! C07, reading back, `toml::Value` inside a typed value, the build with `preserve_order` (`IndexMap`,
    `Flavour.insertion`): the exact relation and the leaf.

    With an insertion-ordered map `Value`'s visitor keeps the order in which the document presents the entries, so what a
    `toml::Value` leaf comes back as depends on that order: the relation `Sim` of Lemmas/Sim07.lean (entries of a
    table in ANY order) is too weak. `SimX cf x w` is `Sim cf x w` with the entries of every table in the serializer's
    order. A leaf `v` then comes back as `mapF (leafF cf) (normTV v)`: the three passes of `impl Serialize for Value`
    applied at every table (`normTV`), its doubles after `leafF cf`. -/
namespace TomlVerif.Lemmas.TypedGaps
open TomlVerif TomlVerif.Model TomlVerif.Model.TomlValue TomlVerif.Model.DeRoutes TomlVerif.Model.DeTyped
open TomlVerif.Model.SerTyped TomlVerif.Model.Ser TomlVerif.Spec TomlVerif.Spec.Serde
open TomlVerif.Spec.Encode06 (canonFloat)
open TomlVerif.Lemmas.SerTyped07 TomlVerif.Lemmas.DeTyped13 TomlVerif.Lemmas.DeRoutes13 TomlVerif.Lemmas.Ser07Text
open TomlVerif.Lemmas.RoundTrip17 (KSorted ksorted_nodup placeTV placeTVs placeTVPs mem_serOrder serOrder_keys_perm
  normTV normTVs normTVPs serOrder_normTVPs normTVPs_keys)

mutual
/-- `w` holds the data `x`, the entries of every table in the same order -/
def SimX (cf : Nat → Nat) : V → TV → Prop
  | .sc (.float b), w => w = .float (cf b)
  | .sc (.str s), w => w = .str s
  | .sc (.int n), w => w = .int n
  | .sc (.bool b), w => w = .bool b
  | .sc (.dt d), w => w = .dt d
  | .arr xs, w => ∃ ws, w = .arr ws ∧ SimXList cf xs ws
  | .inl kvs, w => ∃ es es0, w = .tbl es ∧ es = es0 ∧ SimXKVs cf kvs es0
def SimXList (cf : Nat → Nat) : List V → List TV → Prop
  | [], ws => ws = []
  | x :: r, ws => ∃ y ws', ws = y :: ws' ∧ SimX cf x y ∧ SimXList cf r ws'
def SimXKVs (cf : Nat → Nat) : List (Bytes × V) → List (Bytes × TV) → Prop
  | [], es => es = []
  | (k, x) :: r, es => ∃ y es', es = (k, y) :: es' ∧ SimX cf x y ∧ SimXKVs cf r es'
end

mutual
theorem simG_eq (cf : Nat → Nat) : ∀ (x : V) (w : TV), SimG Eq cf x w ↔ SimX cf x w
  | .sc (.float _), _ => by simp only [SimG, SimX]
  | .sc (.str _), _ => by simp only [SimG, SimX]
  | .sc (.int _), _ => by simp only [SimG, SimX]
  | .sc (.bool _), _ => by simp only [SimG, SimX]
  | .sc (.dt _), _ => by simp only [SimG, SimX]
  | .arr xs, _ => by simp only [SimG, SimX, simGList_eq cf xs]
  | .inl kvs, _ => by simp only [SimG, SimX, simGKVs_eq cf kvs]
theorem simGList_eq (cf : Nat → Nat) : ∀ (xs : List V) (ws : List TV), SimGList Eq cf xs ws ↔ SimXList cf xs ws
  | [], _ => by simp only [SimGList, SimXList]
  | x :: r, _ => by simp only [SimGList, SimXList, simG_eq cf x, simGList_eq cf r]
theorem simGKVs_eq (cf : Nat → Nat) : ∀ (kvs : List (Bytes × V)) (es : List (Bytes × TV)),
    SimGKVs Eq cf kvs es ↔ SimXKVs cf kvs es
  | [], _ => by simp only [SimGKVs, SimXKVs]
  | (k, x) :: r, _ => by simp only [SimGKVs, SimXKVs, simG_eq cf x, simGKVs_eq cf r]
end

theorem simX_sim (cf : Nat → Nat) : ∀ (x : V) (w : TV), SimX cf x w → Sim cf x w :=
  fun x w h => (simG_perm cf x w).1 ((simG_mono (fun _ _ => List.Perm.of_eq) cf).1 x w ((simG_eq cf x w).2 h))
theorem simXList_sim (cf : Nat → Nat) : ∀ (xs : List V) (ws : List TV), SimXList cf xs ws → SimList cf xs ws :=
  fun xs ws h =>
    (simGList_perm cf xs ws).1 ((simG_mono (fun _ _ => List.Perm.of_eq) cf).2.1 xs ws ((simGList_eq cf xs ws).2 h))

theorem simX_tvOf : ∀ x : V, SimX id x (tvOf x) :=
  fun x => (simG_eq id x _).1 ((simG_self fun _ => rfl).1 x).1
theorem simXList_tvOf : ∀ xs : List V, SimXList id xs (tvList xs) :=
  fun xs => (simGList_eq id xs _).1 ((simG_self fun _ => rfl).2.1 xs).1
theorem simXKVs_tvOf : ∀ kvs : List (Bytes × V), SimXKVs id kvs (tvKVs kvs) :=
  fun kvs => (simGKVs_eq id kvs _).1 ((simG_self fun _ => rfl).2.2 kvs).1

theorem simX_canon : ∀ x : V, SimX canonFloat x (tvOf (canonV x)) :=
  fun x => (simG_eq _ x _).1 ((simG_self fun _ => rfl).1 x).2
theorem simXList_canon : ∀ xs : List V, SimXList canonFloat xs (tvList (canonVs xs)) :=
  fun xs => (simGList_eq _ xs _).1 ((simG_self fun _ => rfl).2.1 xs).2
theorem simXKVs_canon : ∀ kvs : List (Bytes × V), SimXKVs canonFloat kvs (tvKVs (canonKVs kvs)) :=
  fun kvs => (simGKVs_eq _ kvs _).1 ((simG_self fun _ => rfl).2.2 kvs).2

/-- what a `toml::Value` leaf comes back as with `preserve_order`: the three passes at every table, doubles after
`leafF cf` -/
def leafI (cf : Nat → Nat) : TV → TV := fun v => mapF (leafF cf) (normTV v)

def LeafOkX (cf : Nat → Nat) (v : TV) : Prop :=
  ∀ (x : V) (w : TV), serValue (svalOfSer (serCalls v)) = .ok x → SimX cf x w → WfTV w ∧ w = leafI cf v

/-- `IndexMap`: the entries arrive in the three-pass order and stay in it -/
theorem lawsInsertion (cf : Nat → Nat) : LeafLaws Eq cf .insertion (leafI cf) where
  str _ := rfl
  int _ := rfl
  bool _ := rfl
  dt _ := rfl
  float _ := rfl
  arr l := by simp [leafI, normTV, mapF, mapFs_eq_map, RoundTrip17.normTVs_eq_map]
  tbl items es es0 h hp a b := by
    subst hp
    have hw := tbl_wf h (tbl_keys (List.Perm.refl es) b) a
    refine ⟨hw, ?_⟩
    rw [place_insertion_id _ (wf_nodup _ hw)]
    rw [placePs_insertion_id es (wfPs_nodup es a)] at b
    simp only [leafI, normTV, mapF, TV.tbl.injEq]
    rw [b, serOrder_normTVPs, mapFPs_eq_map, RoundTrip17.normTVPs_eq_map, List.map_map]
    rfl

/-- with `IndexMap` nothing moves when a well-formed tree is placed, so the data itself is `leafI cf v` -/
theorem leafOkX_of {cf : Nat → Nat} {v : TV} (h : LeafOkG Eq cf .insertion (leafI cf) v) : LeafOkX cf v := by
  intro x w hx hs
  obtain ⟨hw, hp⟩ := h x w hx ((simG_eq cf x w).2 hs)
  exact ⟨hw, by rw [← hp, place_insertion_id _ (wf_nodup _ hw)]⟩

theorem leaf_okX_list (cf : Nat → Nat) : ∀ l : List TV, valueOkList l = true → ∀ v ∈ l, LeafOkX cf v :=
  fun l h v hv => leafOkX_of (leaf_okG_list (lawsInsertion cf) l h v hv)
theorem leaf_okX_pairs (cf : Nat → Nat) : ∀ l : List (Bytes × TV), valueOkPairs l = true → ∀ e ∈ l, LeafOkX cf e.2 :=
  fun l h e he => leafOkX_of (leaf_okG_pairs (lawsInsertion cf) l h e he)

theorem leafRuleX (cf : Nat → Nat) : LeafRule Eq cf .insertion (leafI cf) := leafRuleG (lawsInsertion cf)

theorem coreX (nm : Bytes) (hnm : (nm == dtName) = false) (cf : Nat → Nat) :
    ∀ ty : Ty, WfTy ty = true →
      ∀ (d : Dec) (v : SVal) (x : V) (w : TV), WellTyped ty d = true → serOf nm ty d = some v → serValue v = .ok x →
        SimX cf x w → Good Flavour.insertion ty w (normDecV (leafF cf) (f32F cf) (leafI cf) ty d) :=
  fun ty hwf d v x w hwt hs hx hsim =>
    coreG _ (fun _ _ => List.Perm.of_eq) nm hnm cf .insertion (leafI cf) ty hwf (fun _ => leafRuleX cf) d v x w hwt hs hx ((simG_eq cf x w).2 hsim)

theorem core_tysX (nm : Bytes) (hnm : (nm == dtName) = false) (cf : Nat → Nat) :
    ∀ ts : Tys, WfTys ts = true →
      ∀ (l : List Dec) (vs : List SVal) (xs : List V) (ws : List TV), WellTypedTys ts l = true →
        serOfTys nm ts l = some vs → serSeq vs = .ok xs → SimXList cf xs ws → GoodTys Flavour.insertion ts ws (normTysV (leafF cf) (f32F cf) (leafI cf) ts l) :=
  fun ts hwf l vs xs ws hwt hs hx hsim =>
    (coreG_all _ (fun _ _ => List.Perm.of_eq) nm hnm cf .insertion (leafI cf)).2.1 ts hwf (fun _ => leafRuleX cf) l vs xs ws hwt hs hx
      ((simGList_eq cf xs ws).2 hsim)

theorem core_fieldsX (nm : Bytes) (hnm : (nm == dtName) = false) (cf : Nat → Nat) :
    ∀ fs : Fields, WfFields fs = true → (Fields.names fs).Nodup →
      ∀ (l : List (Bytes × Dec)) (fields : List (Bytes × SVal)) (img : List (Bytes × V)) (es : List (Bytes × TV)),
        WellTypedFields fs l = true → serOfFields nm fs l = some fields → FieldsImg fields img →
        (∀ k x, (k, x) ∈ img → ∃ y, alookup k es = some y ∧ SimX cf x y) →
        (∀ k ∈ Fields.names fs, k ∉ img.map Prod.fst → alookup k es = none) →
        GoodFields Flavour.insertion fs es (normFieldsV (leafF cf) (f32F cf) (leafI cf) fs l) :=
  fun fs hwf hnd l fields img es hwt hs himg h1 h2 =>
    (coreG_all _ (fun _ _ => List.Perm.of_eq) nm hnm cf .insertion (leafI cf)).2.2.1 fs hwf (fun _ => leafRuleX cf) hnd l fields img es hwt hs himg
      (fun k x hm => (h1 k x hm).imp fun y hy => ⟨hy.1, (simG_eq cf x y).2 hy.2⟩) h2

theorem core_shapeX (nm : Bytes) (hnm : (nm == dtName) = false) (cf : Nat → Nat) :
    ∀ s : Shape, WfShape s = true →
      ∀ (name : Bytes) (d : Dec) (v : SVal) (x : V) (w : TV), WellTypedShape s d = true → variantName d = some name →
        serOfShape nm s name d = some v → serValue v = .ok x → SimX cf x w →
        (w = .str name ∧ s = .unit ∧ normShapeV (leafF cf) (f32F cf) (leafI cf) s d = .vUnit name) ∨
          (∃ p, w = .tbl [(name, p)] ∧ GoodShape Flavour.insertion s name p (normShapeV (leafF cf) (f32F cf) (leafI cf) s d)) :=
  fun s hwf name d v x w hwt hname hs hx hsim =>
    (coreG_all _ (fun _ _ => List.Perm.of_eq) nm hnm cf .insertion (leafI cf)).2.2.2.1 s hwf (fun _ => leafRuleX cf) name d v x w hwt hname hs hx
      ((simG_eq cf x w).2 hsim)

theorem core_variantsX (nm : Bytes) (hnm : (nm == dtName) = false) (cf : Nat → Nat) :
    ∀ vs : Variants, WfVariants vs = true →
      ∀ (d : Dec) (n : Bytes) (v : SVal) (x : V) (w : TV), variantName d = some n → WellTypedVariants vs d = true →
        serOfVariants nm vs d = some v → serValue v = .ok x → SimX cf x w →
        VariantGoal Flavour.insertion vs n w (normVariantsV (leafF cf) (f32F cf) (leafI cf) vs d) :=
  fun vs hwf d n v x w hn hwt hs hx hsim =>
    (coreG_all _ (fun _ _ => List.Perm.of_eq) nm hnm cf .insertion (leafI cf)).2.2.2.2 vs hwf (fun _ => leafRuleX cf) d n v x w hn hwt hs hx
      ((simG_eq cf x w).2 hsim)

end TomlVerif.Lemmas.TypedGaps
