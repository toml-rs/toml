import TomlVerif.Lemmas.RoundTrip17MapOrder
/-! C17, fixed point for `preserve_order`: serializing the tree in document order (`docTbl` of the normalised tree)
    lists the same statements as serializing the tree.

    `normTV` is idempotent (`nrm_normTV`, `normTV_of_nrm`); on a normalised table `s` the three passes applied to
    its document order, `reTbl s = serOrder (normTVPs (docTbl s))`, keep the own values (`ownValues_reTbl`) and the
    sequence of sections (`subsOf_reTbl`) — only arrays of tables move in front of / behind mixed arrays inside the
    second pass, and those are printed in different places anyway —, so `emitDoc (reTbl s) = emitDoc s`
    (`emitDoc_fix`). -/
namespace TomlVerif.Lemmas.RoundTrip17
open TomlVerif TomlVerif.Model TomlVerif.Model.TomlValue TomlVerif.Model.DeRoutes
open TomlVerif.Lemmas.TomlValue17 (pass_exactly_one)

theorem filter_serOrder (q : Bytes × TV → Bool) (l : List (Bytes × TV)) :
    (serOrder l).filter q = serOrder (l.filter q) := by
  simp only [serOrder, List.filter_append, List.filter_filter, Bool.and_comm]

theorem filter_excl {α : Type} (p q : α → Bool) (h : ∀ a, p a = true → q a = false) (l : List α) :
    (l.filter p).filter q = [] := by
  rw [List.filter_filter, List.filter_eq_nil_iff]
  intro a _
  cases hp : p a
  · simp
  · simp [h a hp]

theorem filter_idem {α : Type} (p : α → Bool) (l : List α) : (l.filter p).filter p = l.filter p := by
  rw [List.filter_filter]; simp

theorem pass_excl (v : TV) :
    (pass1 v = true → pass2 v = false ∧ pass3 v = false) ∧ (pass2 v = true → pass1 v = false ∧ pass3 v = false) ∧
      (pass3 v = true → pass1 v = false ∧ pass2 v = false) := by
  rcases pass_exactly_one v with ⟨a, b, c⟩ | ⟨a, b, c⟩ | ⟨a, b, c⟩ <;> simp [a, b, c]

theorem serOrder_idem (l : List (Bytes × TV)) : serOrder (serOrder l) = serOrder l := by
  have e12 : ∀ a : Bytes × TV, pass1 a.2 = true → pass2 a.2 = false := fun a h => ((pass_excl a.2).1 h).1
  have e13 : ∀ a : Bytes × TV, pass1 a.2 = true → pass3 a.2 = false := fun a h => ((pass_excl a.2).1 h).2
  have e21 : ∀ a : Bytes × TV, pass2 a.2 = true → pass1 a.2 = false := fun a h => ((pass_excl a.2).2.1 h).1
  have e23 : ∀ a : Bytes × TV, pass2 a.2 = true → pass3 a.2 = false := fun a h => ((pass_excl a.2).2.1 h).2
  have e31 : ∀ a : Bytes × TV, pass3 a.2 = true → pass1 a.2 = false := fun a h => ((pass_excl a.2).2.2 h).1
  have e32 : ∀ a : Bytes × TV, pass3 a.2 = true → pass2 a.2 = false := fun a h => ((pass_excl a.2).2.2 h).2
  conv => lhs; unfold serOrder
  simp only [serOrder, List.filter_append, filter_idem,
    filter_excl _ _ e12, filter_excl _ _ e13, filter_excl _ _ e21, filter_excl _ _ e23, filter_excl _ _ e31,
    filter_excl _ _ e32, List.append_nil, List.nil_append]

theorem serOrder_map (g : TV → TV) (h1 : ∀ v, pass1 (g v) = pass1 v) (h2 : ∀ v, pass2 (g v) = pass2 v)
    (h3 : ∀ v, pass3 (g v) = pass3 v) (l : List (Bytes × TV)) :
    serOrder (l.map fun e => (e.1, g e.2)) = (serOrder l).map fun e => (e.1, g e.2) := by
  have c1 : ((fun e : Bytes × TV => pass1 e.2) ∘ fun e : Bytes × TV => (e.1, g e.2)) = fun e => pass1 e.2 := by
    funext e; simp [h1]
  have c2 : ((fun e : Bytes × TV => pass2 e.2) ∘ fun e : Bytes × TV => (e.1, g e.2)) = fun e => pass2 e.2 := by
    funext e; simp [h2]
  have c3 : ((fun e : Bytes × TV => pass3 e.2) ∘ fun e : Bytes × TV => (e.1, g e.2)) = fun e => pass3 e.2 := by
    funext e; simp [h3]
  simp only [serOrder, List.filter_map, List.map_append, c1, c2, c3]

theorem filter_kind_map (g : TV → TV) (hg : ∀ v, kindOf (g v) = kindOf v) (q : Kind → Bool) (l : List (Bytes × TV)) :
    (l.map fun e => (e.1, g e.2)).filter (fun e => q (kindOf e.2)) =
      (l.filter fun e => q (kindOf e.2)).map fun e => (e.1, g e.2) := by
  rw [List.filter_map]
  congr 1
  apply List.filter_congr
  intro e _
  simp [hg]

theorem isTable_normTV (v : TV) : (normTV v).isTable = v.isTable := by
  cases v <;> simp [normTV, TV.isTable]

theorem any_normTVs (l : List TV) : (normTVs l).any TV.isTable = l.any TV.isTable := by
  rw [normTVs_eq_map, List.any_map]; exact congrArg (List.any l) (funext isTable_normTV)

theorem all_normTVs (l : List TV) : (normTVs l).all TV.isTable = l.all TV.isTable := by
  rw [normTVs_eq_map, List.all_map]; exact congrArg (List.all l) (funext isTable_normTV)

theorem isAotList_normTVs (l : List TV) : isAotList (normTVs l) = isAotList l := by
  unfold isAotList
  rw [all_normTVs]
  cases l <;> simp [normTVs]

theorem kindOf_normTV (v : TV) : kindOf (normTV v) = kindOf v := by
  cases v <;> simp [normTV, kindOf, isAotList_normTVs]

theorem pass1_normTV (v : TV) : pass1 (normTV v) = pass1 v := by
  cases v <;> simp [normTV, pass1, TV.isTable, TV.isArray, TV.arrayHasTable, any_normTVs]

theorem pass2_normTV (v : TV) : pass2 (normTV v) = pass2 v := by
  cases v <;> simp [normTV, pass2, TV.arrayHasTable, any_normTVs]

theorem pass3_normTV (v : TV) : pass3 (normTV v) = pass3 v := by
  cases v <;> simp [normTV, pass3, TV.isTable]

theorem serOrder_normTVPs (l : List (Bytes × TV)) : serOrder (normTVPs l) = normTVPs (serOrder l) := by
  rw [normTVPs_eq_map, normTVPs_eq_map]
  exact serOrder_map normTV pass1_normTV pass2_normTV pass3_normTV l

mutual
/-- every table of the tree is in the order of the three passes -/
def NrmV : TV → Prop
  | .arr l => NrmVs l
  | .tbl items => NrmPs items ∧ serOrder items = items
  | _ => True
def NrmVs : List TV → Prop
  | [] => True
  | v :: r => NrmV v ∧ NrmVs r
def NrmPs : List (Bytes × TV) → Prop
  | [] => True
  | (_, v) :: r => NrmV v ∧ NrmPs r
end

theorem nrmPs_iff (l : List (Bytes × TV)) : NrmPs l ↔ ∀ e ∈ l, NrmV e.2 := by
  induction l with
  | nil => simp [NrmPs]
  | cons x r ih => obtain ⟨k, v⟩ := x; simp [NrmPs, ih]

mutual
theorem nrm_normTV : ∀ v : TV, NrmV (normTV v)
  | .str _ | .int _ | .float _ | .bool _ | .dt _ => by simp [normTV, NrmV]
  | .arr l => by rw [normTV, NrmV]; exact nrm_normTVs l
  | .tbl items => by
    rw [normTV, NrmV]
    refine ⟨?_, serOrder_idem _⟩
    rw [nrmPs_iff]
    intro e he
    exact (nrmPs_iff _).1 (nrm_normTVPs items) e ((mem_serOrder _ e).1 he)
theorem nrm_normTVs : ∀ l : List TV, NrmVs (normTVs l)
  | [] => by simp [normTVs, NrmVs]
  | v :: r => by rw [normTVs, NrmVs]; exact ⟨nrm_normTV v, nrm_normTVs r⟩
theorem nrm_normTVPs : ∀ l : List (Bytes × TV), NrmPs (normTVPs l)
  | [] => by simp [normTVPs, NrmPs]
  | (k, v) :: r => by rw [normTVPs, NrmPs]; exact ⟨nrm_normTV v, nrm_normTVPs r⟩
end

mutual
theorem normTV_of_nrm : ∀ v : TV, NrmV v → normTV v = v
  | .str _, _ | .int _, _ | .float _, _ | .bool _, _ | .dt _, _ => by simp [normTV]
  | .arr l, h => by rw [NrmV] at h; rw [normTV, normTVs_of_nrm l h]
  | .tbl items, h => by rw [NrmV] at h; rw [normTV, normTVPs_of_nrm items h.1, h.2]
theorem normTVs_of_nrm : ∀ l : List TV, NrmVs l → normTVs l = l
  | [], _ => by simp [normTVs]
  | v :: r, h => by rw [NrmVs] at h; rw [normTVs, normTV_of_nrm v h.1, normTVs_of_nrm r h.2]
theorem normTVPs_of_nrm : ∀ l : List (Bytes × TV), NrmPs l → normTVPs l = l
  | [], _ => by simp [normTVPs]
  | (k, v) :: r, h => by rw [NrmPs] at h; rw [normTVPs, normTV_of_nrm v h.1, normTVPs_of_nrm r h.2]
end


/-- what the document order makes of one entry of a table -/
def docV : TV → TV
  | .tbl s => .tbl (docTbl s)
  | .arr l => if isAotList l then .arr (docAot l) else .arr l
  | v => v

theorem docAot_tables : ∀ l : List TV, (∀ v ∈ l, v.isTable = true) →
    (∀ v ∈ docAot l, v.isTable = true) ∧ (docAot l).length = l.length
  | [], _ => by simp [docAot]
  | v :: r, h => by
    cases v with
    | tbl items =>
      obtain ⟨h1, h2⟩ := docAot_tables r fun v hv => h v (List.mem_cons_of_mem _ hv)
      rw [docAot]
      refine ⟨?_, by simp [h2]⟩
      intro v hv
      rcases List.mem_cons.1 hv with hv | hv
      · subst hv; rfl
      · exact h1 v hv
    | _ => have := h _ (List.mem_cons_self ..); simp [TV.isTable] at this

theorem isAotList_iff (l : List TV) : isAotList l = true ↔ l ≠ [] ∧ ∀ v ∈ l, v.isTable = true := by
  unfold isAotList
  cases l <;> simp

theorem isAotList_docAot (l : List TV) (h : isAotList l = true) : isAotList (docAot l) = true := by
  rw [isAotList_iff] at h ⊢
  obtain ⟨h1, h2⟩ := docAot_tables l h.2
  refine ⟨?_, h1⟩
  intro e
  rw [e] at h2
  cases l with
  | nil => exact h.1 rfl
  | cons _ _ => simp at h2

theorem isAotList_any (l : List TV) (h : isAotList l = true) : l.any TV.isTable = true := by
  rw [isAotList_iff] at h
  cases l with
  | nil => exact absurd rfl h.1
  | cons x r => simp [h.2 x (List.mem_cons_self ..)]

theorem kindOf_docV (v : TV) : kindOf (docV v) = kindOf v := by
  cases v with
  | arr l =>
    cases h : isAotList l
    · simp [docV, kindOf, h]
    · simp [docV, kindOf, h, isAotList_docAot l h]
  | _ => simp [docV, kindOf]

theorem any_docV (l : List TV) (h : isAotList l = true) : (docAot l).any TV.isTable = l.any TV.isTable := by
  rw [isAotList_any l h, isAotList_any _ (isAotList_docAot l h)]

theorem pass1_docV (v : TV) : pass1 (docV v) = pass1 v := by
  cases v with
  | arr l =>
    cases h : isAotList l
    · simp [docV, h]
    · simp [docV, h, pass1, TV.isTable, TV.isArray, TV.arrayHasTable, any_docV l h]
  | _ => simp [docV, pass1, TV.isTable, TV.isArray, TV.arrayHasTable]

theorem pass2_docV (v : TV) : pass2 (docV v) = pass2 v := by
  cases v with
  | arr l =>
    cases h : isAotList l
    · simp [docV, h]
    · simp [docV, h, pass2, TV.arrayHasTable, any_docV l h]
  | _ => simp [docV, pass2, TV.arrayHasTable]

theorem pass3_docV (v : TV) : pass3 (docV v) = pass3 v := by
  cases v with
  | arr l => cases h : isAotList l <;> simp [docV, h, pass3, TV.isTable]
  | _ => simp [docV, pass3, TV.isTable]

theorem docSubs_eq_map : ∀ items : List (Bytes × TV),
    docSubs items = (subsOf items).map fun e => (e.1, docV e.2)
  | [] => by simp [docSubs, subsOf]
  | (k, v) :: r => by
    rw [docSubs, docSubs_eq_map r]
    cases hv : kindOf v == .value
    · have e : subsOf ((k, v) :: r) = (k, v) :: subsOf r := by simp [subsOf, hv]
      rw [e]
      cases v with
      | tbl s => simp [docItem, docV, docTbl]
      | arr l =>
        have ha : isAotList l = true := by
          cases ha : isAotList l
          · simp [kindOf, ha] at hv
          · rfl
        simp [docItem, docV, ha]
      | _ => simp [kindOf] at hv
    · have e : subsOf ((k, v) :: r) = subsOf r := by simp [subsOf, hv]
      rw [e, docItem_value k v hv]
      rfl

def reV (v : TV) : TV := normTV (docV v)

theorem kindOf_reV (v : TV) : kindOf (reV v) = kindOf v := by rw [reV, kindOf_normTV, kindOf_docV]
theorem pass1_reV (v : TV) : pass1 (reV v) = pass1 v := by rw [reV, pass1_normTV, pass1_docV]
theorem pass2_reV (v : TV) : pass2 (reV v) = pass2 v := by rw [reV, pass2_normTV, pass2_docV]
theorem pass3_reV (v : TV) : pass3 (reV v) = pass3 v := by rw [reV, pass3_normTV, pass3_docV]

def reTbl (s : List (Bytes × TV)) : List (Bytes × TV) := serOrder (normTVPs (docTbl s))

theorem ownValues_map (g : TV → TV) (hg : ∀ v, kindOf (g v) = kindOf v) (l : List (Bytes × TV)) :
    ownValues (l.map fun e => (e.1, g e.2)) = (ownValues l).map fun e => (e.1, g e.2) :=
  filter_kind_map g hg (fun k => k == Kind.value) l

theorem subsOf_map (g : TV → TV) (hg : ∀ v, kindOf (g v) = kindOf v) (l : List (Bytes × TV)) :
    subsOf (l.map fun e => (e.1, g e.2)) = (subsOf l).map fun e => (e.1, g e.2) :=
  filter_kind_map g hg (fun k => !(k == Kind.value)) l

theorem ownValues_serOrder (l : List (Bytes × TV)) : ownValues (serOrder l) = serOrder (ownValues l) :=
  filter_serOrder _ l

theorem subsOf_serOrder (l : List (Bytes × TV)) : subsOf (serOrder l) = serOrder (subsOf l) :=
  filter_serOrder _ l

theorem ownValues_append (a b : List (Bytes × TV)) : ownValues (a ++ b) = ownValues a ++ ownValues b :=
  List.filter_append a b

theorem subsOf_append (a b : List (Bytes × TV)) : subsOf (a ++ b) = subsOf a ++ subsOf b :=
  List.filter_append a b

theorem ownValues_subsOf (l : List (Bytes × TV)) : ownValues (subsOf l) = [] := by
  unfold ownValues subsOf
  apply filter_excl
  intro a h
  simpa using h

theorem subsOf_ownValues (l : List (Bytes × TV)) : subsOf (ownValues l) = [] := by
  unfold ownValues subsOf
  apply filter_excl
  intro a h
  simpa using h

theorem ownValues_ownValues (l : List (Bytes × TV)) : ownValues (ownValues l) = ownValues l := filter_idem _ l
theorem subsOf_subsOf (l : List (Bytes × TV)) : subsOf (subsOf l) = subsOf l := filter_idem _ l

theorem ownValues_docTbl (s : List (Bytes × TV)) : ownValues (docTbl s) = ownValues s := by
  rw [docTbl, docSubs_eq_map, ownValues_append, ownValues_map docV kindOf_docV, ownValues_subsOf, ownValues_ownValues]
  simp

theorem subsOf_docTbl (s : List (Bytes × TV)) : subsOf (docTbl s) = docSubs s := by
  rw [docTbl, docSubs_eq_map, subsOf_append, subsOf_map docV kindOf_docV, subsOf_ownValues, subsOf_subsOf]
  simp

theorem ownValues_reTbl (s : List (Bytes × TV)) (hn : NrmPs s) (hs : serOrder s = s) :
    ownValues (reTbl s) = ownValues s := by
  have h1 : ownValues (reTbl s) = serOrder (normTVPs (ownValues (docTbl s))) := by
    unfold reTbl
    rw [ownValues_serOrder, normTVPs_eq_map, ownValues_map normTV kindOf_normTV, ← normTVPs_eq_map]
  rw [h1, ownValues_docTbl]
  have h2 : normTVPs (ownValues s) = ownValues s := by
    apply normTVPs_of_nrm
    rw [nrmPs_iff]
    intro e he
    exact (nrmPs_iff s).1 hn e (mem_ownValues s e he)
  rw [h2, ← ownValues_serOrder, hs]

theorem subsOf_reTbl (s : List (Bytes × TV)) (hs : serOrder s = s) :
    subsOf (reTbl s) = (subsOf s).map fun e => (e.1, reV e.2) := by
  have h1 : subsOf (reTbl s) = serOrder (normTVPs (subsOf (docTbl s))) := by
    unfold reTbl
    rw [subsOf_serOrder, normTVPs_eq_map, subsOf_map normTV kindOf_normTV, ← normTVPs_eq_map]
  rw [h1, subsOf_docTbl, docSubs_eq_map, normTVPs_eq_map, List.map_map]
  have h2 : ((fun e : Bytes × TV => (e.1, normTV e.2)) ∘ fun e : Bytes × TV => (e.1, docV e.2)) =
      fun e => (e.1, reV e.2) := by funext e; rfl
  rw [h2, serOrder_map reV pass1_reV pass2_reV pass3_reV, ← subsOf_serOrder, hs]

theorem length_reTbl (s : List (Bytes × TV)) : (reTbl s).length = s.length := by
  unfold reTbl
  rw [(TomlValue17.serOrder_perm _).length_eq, normTVPs_eq_map, List.length_map, docTbl, docSubs_eq_map, List.length_append, List.length_map,
    ← List.length_append, (own_subs_perm s).length_eq]

theorem isEmpty_reTbl (s : List (Bytes × TV)) : (reTbl s).isEmpty = s.isEmpty := by
  have := length_reTbl s
  cases h1 : reTbl s <;> cases s <;> simp_all

theorem emitSubs_subsOf (path : List Bytes) : ∀ l : List (Bytes × TV), emitSubs path (subsOf l) = emitSubs path l
  | [] => rfl
  | (k, v) :: r => by
    cases hv : kindOf v == .value
    · have e : subsOf ((k, v) :: r) = (k, v) :: subsOf r := by simp [subsOf, hv]
      rw [e, emitSubs, emitSubs, emitSubs_subsOf path r]
    · have e : subsOf ((k, v) :: r) = subsOf r := by simp [subsOf, hv]
      rw [e, emitSubs, emitItem_value _ v hv, emitSubs_subsOf path r]
      rfl

theorem tableStmts_congr (path : List Bytes) (a : Bool) (X Y : List (Bytes × TV)) (subs : List TomlValue.Stmt)
    (h1 : X.isEmpty = Y.isEmpty) (h2 : ownValues X = ownValues Y) :
    tableStmts path a X subs = tableStmts path a Y subs := by
  simp only [tableStmts, headerOf, ownKvs, h1, h2]

/-- `hsub` is the induction hypothesis of the block below, passed in so that `[t]` and `[[t]]` share this step -/
theorem table_fix (path : List Bytes) (a : Bool) (s : List (Bytes × TV)) (hn : NrmPs s) (hs : serOrder s = s)
    (hsub : emitSubs path (s.map fun e => (e.1, reV e.2)) = emitSubs path s) :
    tableStmts path a (reTbl s) (emitSubs path (reTbl s)) = tableStmts path a s (emitSubs path s) := by
  have : emitSubs path (reTbl s) = emitSubs path s := by
    rw [← emitSubs_subsOf, subsOf_reTbl s hs, ← subsOf_map reV kindOf_reV, emitSubs_subsOf, hsub]
  rw [this]
  exact tableStmts_congr path a _ _ _ (isEmpty_reTbl s) (ownValues_reTbl s hn hs)

theorem reV_tbl (s : List (Bytes × TV)) : reV (.tbl s) = .tbl (reTbl s) := by
  simp [reV, docV, normTV, reTbl]

mutual
theorem fix_item : ∀ (v : TV), NrmV v → ∀ path : List Bytes, emitItem path (reV v) = emitItem path v
  | .tbl s, h, path => by
    rw [NrmV] at h
    rw [reV_tbl, emitItem, emitItem]
    exact table_fix path false s h.1 h.2 (fix_subs s h.1 path)
  | .arr l, h, path => by
    rw [NrmV] at h
    cases ha : isAotList l
    · have : reV (.arr l) = .arr (normTVs l) := by simp [reV, docV, ha, normTV]
      rw [this, emitItem, emitItem]
      simp [isAotList_normTVs, ha]
    · have : reV (.arr l) = .arr (normTVs (docAot l)) := by simp [reV, docV, ha, normTV]
      rw [this, emitItem, emitItem]
      simp only [isAotList_normTVs, isAotList_docAot l ha, ha, if_true]
      exact fix_aot l h path
  | .str _, _, _ | .int _, _, _ | .float _, _, _ | .bool _, _, _ | .dt _, _, _ => by simp [reV, docV, normTV]
theorem fix_aot : ∀ (l : List TV), NrmVs l → ∀ path : List Bytes, emitAot path (normTVs (docAot l)) = emitAot path l
  | [], _, _ => by simp [docAot, normTVs]
  | v :: r, h, path => by
    rw [NrmVs] at h
    cases v with
    | tbl s =>
      rw [NrmV] at h
      have e : normTVs (docAot (.tbl s :: r)) = .tbl (reTbl s) :: normTVs (docAot r) := by
        simp [docAot, normTVs, normTV, reTbl, docTbl]
      rw [e, emitAot, emitAot, fix_aot r h.2 path, table_fix path true s h.1.1 h.1.2 (fix_subs s h.1.1 path)]
    | _ => simp only [docAot, emitAot]; exact fix_aot r h.2 path
theorem fix_subs : ∀ (s : List (Bytes × TV)), NrmPs s → ∀ path : List Bytes,
    emitSubs path (s.map fun e => (e.1, reV e.2)) = emitSubs path s
  | [], _, _ => rfl
  | (k, v) :: r, h, path => by
    rw [NrmPs] at h
    simp only [List.map_cons, emitSubs]
    rw [fix_item v h.1 (path ++ [k]), fix_subs r h.2 path]
end

theorem emitDoc_fix (items : List (Bytes × TV)) (h : NrmV (.tbl items)) :
    emitDoc (reTbl items) = emitDoc items ∧ ownValues (reTbl items) = ownValues items := by
  rw [NrmV] at h
  exact ⟨table_fix [] false items h.1 h.2 (fix_subs items h.1 []), ownValues_reTbl items h.1 h.2⟩

end TomlVerif.Lemmas.RoundTrip17
