import TomlVerif.Lemmas.Macro19Lexer
import TomlVerif.Lemmas.Macro19TokenTrees
import TomlVerif.Lemmas.Macro19Doc
import TomlVerif.Model.Value
import TomlVerif.Spec.AstString
/-! C19: the canonical text `textOf ds` of a document of the modelled macro syntax — one statement per line (`LF`
    after each), `key = value`, `[key]`, `[[key]]`; keys without blanks (`a.b-c."d e"`), arrays `[v, v,]`, inline tables
    `{k = v, k = v}`, signs directly before the number, date-times with `-`/`:` directly between the fields and one blank
    between date and time in the `…Sp` shapes — and `synOk ds`, the decidable condition under which rustc's lexer reads
    it back as `spellDoc ds` (`tokens_textOf`) and the TOML parser as the statements `stmtsOf ds`. -/
namespace TomlVerif.Lemmas.Macro19c
open TomlVerif TomlVerif.Spec TomlVerif.Model TomlVerif.Model.Macro TomlVerif.Lemmas.Macro19 TomlVerif.Lemmas.Macro19b
open TomlVerif.Spec.AstString (BasicChar renderBasic semBasic wfBasic)

/-- `\n \r \t \\ \"` — the one-letter escapes with the same meaning in a Rust string literal and a TOML basic string -/
def comEsc (c : Byte) : Bool := c == 0x6E || c == 0x72 || c == 0x74 || c == 0x5C || c == 0x22

/-- reads the body of a string literal (after the opening quote, up to and including the closing quote at the very
    end) as `basic-char`s of the common subset: a `basic-unescaped` byte, or one of the five shared escapes -/
def comParse : Nat → Bytes → Option (List BasicChar)
  | 0, _ => none
  | _ + 1, [] => none
  | fuel + 1, b :: r =>
    if b == 0x22 then (if r.isEmpty then some [] else none)
    else if b == 0x5C then
      match r with
      | c :: r' => if comEsc c then (comParse fuel r').map (BasicChar.escaped (.simple c) :: ·) else none
      | [] => none
    else if isBasicUnescaped b then (comParse fuel r).map (BasicChar.raw b :: ·)
    else none

def strOk (raw val : Bytes) : Bool :=
  match raw with
  | b :: body =>
    b == 0x22 &&
      match comParse (body.length + 1) body with
      | some cs => semBasic cs == val
      | none => false
  | [] => false

def comChar : BasicChar → Bool
  | .raw b => isBasicUnescaped b
  | .escaped (.simple c) => comEsc c
  | .escaped _ => false

theorem comParse_spec (fuel : Nat) (body : Bytes) : ∀ cs : List BasicChar, comParse fuel body = some cs →
    body = cs.flatMap BasicChar.render ++ [0x22] ∧ cs.all comChar = true := by
  induction fuel, body using comParse.induct with
  | case3 f b r hb hr =>
    intro cs h
    simp only [comParse, hb, hr, if_true, Option.some.injEq] at h
    subst h
    simp_all
  | case5 f b hb1 hb2 c r' hc ih =>
    intro cs h
    simp only [comParse, hb1, hb2, hc, if_true, Bool.false_eq_true, if_false, Option.map_eq_some_iff] at h
    obtain ⟨cs', hp, rfl⟩ := h
    obtain ⟨e, ha⟩ := ih cs' hp
    have : b = 0x5C := by simpa using hb2
    subst this
    exact ⟨by rw [e]; simp [BasicChar.render, AstString.Escaped.render, AstString.Escaped.tail], by simp [comChar, hc, ha]⟩
  | case8 f b r hb1 hb2 hu ih =>
    intro cs h
    simp only [comParse, hb1, hb2, hu, if_true, Bool.false_eq_true, if_false, Option.map_eq_some_iff] at h
    obtain ⟨cs', hp, rfl⟩ := h
    obtain ⟨e, ha⟩ := ih cs' hp
    exact ⟨by rw [e]; simp [BasicChar.render], by simp [comChar, hu, ha]⟩
  -- everywhere else `comParse` fails
  | _ => intro cs h; simp_all [comParse]

theorem comChar_wf (cs : List BasicChar) (h : cs.all comChar = true) : wfBasic cs = true := by
  unfold wfBasic
  rw [List.all_eq_true] at h ⊢
  intro c hc
  have := h c hc
  cases c with
  | raw b => simpa [comChar, BasicChar.wf] using this
  | escaped e =>
    cases e with
    | simple x =>
      simp only [comChar, comEsc, Bool.or_eq_true, beq_iff_eq] at this
      rcases this with (((h | h) | h) | h) | h <;> subst h <;> decide
    | u4 a b c d => simp [comChar] at this
    | u8 a b c d e f g h => simp [comChar] at this

theorem strOk_spec (raw val : Bytes) (h : strOk raw val = true) :
    ∃ cs, raw = renderBasic cs ∧ val = semBasic cs ∧ cs.all comChar = true ∧ wfBasic cs = true := by
  cases raw with
  | nil => simp [strOk] at h
  | cons b body =>
    simp only [strOk, Bool.and_eq_true, beq_iff_eq] at h
    obtain ⟨hb, h⟩ := h
    cases hp : comParse (body.length + 1) body with
    | none => simp [hp] at h
    | some cs =>
      simp [hp] at h
      obtain ⟨e, ha⟩ := comParse_spec _ _ _ hp
      exact ⟨cs, by rw [hb, e]; rfl, h.symm, ha, comChar_wf cs ha⟩

theorem lexStr_quote (r raw val : Bytes) : lexStrBody (0x22 :: r) raw val = some (raw, val, r) := by
  simp [lexStrBody]

theorem basicUnescaped_facts (b : Byte) (h : isBasicUnescaped b = true) : b ≠ 0x22 ∧ b ≠ 0x5C ∧ (b == 0x0D) = false :=
  ⟨ne_of_class (c := 0x22) h (by decide), ne_of_class (c := 0x5C) h (by decide), by simpa using ne_of_class (c := 0x0D) h (by decide)⟩

theorem lexStr_raw (b : Byte) (r raw val : Bytes) (hb : isBasicUnescaped b = true) :
    lexStrBody (b :: r) raw val = lexStrBody r (raw ++ [b]) (val ++ [b]) := by
  obtain ⟨n1, n2, n3⟩ := basicUnescaped_facts b hb
  conv => lhs; unfold lexStrBody
  split
  · rename_i heq; cases heq
  · rename_i heq; injection heq with h _; exact absurd h n1
  · rename_i heq; injection heq with h _; exact absurd h n2
  · rename_i heq; injection heq with h _; exact absurd h n2
  · rename_i heq; injection heq with h1 h2; subst h1 h2; simp [n3]

theorem lexStr_esc (c : Byte) (r raw val : Bytes) (hc : comEsc c = true) :
    lexStrBody (0x5C :: c :: r) raw val =
      lexStrBody r (raw ++ [0x5C, c]) (val ++ (BasicChar.escaped (.simple c)).sem) := by
  simp only [comEsc, Bool.or_eq_true, beq_iff_eq] at hc
  rcases hc with (((h | h) | h) | h) | h <;> subst h <;>
    simp [lexStrBody, BasicChar.sem, AstString.Escaped.sem, AstString.escMeaning]

theorem lexStr_com (cs : List BasicChar) (h : cs.all comChar = true) : ∀ (rest raw val : Bytes),
    lexStrBody (cs.flatMap BasicChar.render ++ 0x22 :: rest) raw val =
      some (raw ++ cs.flatMap BasicChar.render, val ++ semBasic cs, rest) := by
  induction cs with
  | nil => intro rest raw val; simp [lexStr_quote, semBasic]
  | cons c cs ih =>
    intro rest raw val
    simp only [List.all_cons, Bool.and_eq_true] at h
    cases c with
    | raw b =>
      have hb : isBasicUnescaped b = true := by simpa [comChar] using h.1
      simp only [List.flatMap_cons, BasicChar.render, List.cons_append, List.nil_append]
      rw [lexStr_raw b _ raw val hb, ih h.2]
      simp [semBasic, BasicChar.sem]
    | escaped e =>
      cases e with
      | simple x =>
        have hx : comEsc x = true := by simpa [comChar] using h.1
        simp only [List.flatMap_cons, BasicChar.render, AstString.Escaped.render, AstString.Escaped.tail,
          List.cons_append, List.nil_append]
        rw [lexStr_esc x _ raw val hx, ih h.2]
        simp [semBasic]
      | u4 a b c d => simp [comChar] at h
      | u8 a b c d e f g h' => simp [comChar] at h

theorem strTok_step (raw val : Bytes) (h : strOk raw val = true) :
    LexStep (Hd strFol) raw [.t (.str raw val)] ∧ HdIn (fun c => c == 0x22) raw := by
  obtain ⟨cs, rfl, rfl, ha, _⟩ := strOk_spec raw val h
  refine ⟨?_, ⟨0x22, _, rfl, rfl⟩⟩
  have := str_step (cs.flatMap BasicChar.render ++ [0x22]) (cs.flatMap BasicChar.render) (semBasic cs) (by
    intro rest
    have := lexStr_com cs ha rest [] []
    simpa using this)
  simpa [renderBasic] using this

@[simp] theorem flatTT_pc (c : Byte) : flatTT (pc c) = [.t (.punct c)] := rfl
@[simp] theorem flatTT_dash : flatTT dash = [.t (.punct 0x2D)] := rfl
@[simp] theorem flatTT_dot : flatTT dot = [.t (.punct 0x2E)] := rfl
@[simp] theorem flatTT_commaT : flatTT commaT = [.t (.punct 0x2C)] := rfl
@[simp] theorem flatTT_eqT : flatTT eqT = [.t (.punct 0x3D)] := rfl

def tokText : Tok → Bytes
  | .ident s => s
  | .num b s _ => b ++ s
  | .str raw _ => raw
  | .chr raw _ => raw
  | .punct c => [c]

def atomText (a : KAtom) : Bytes := tokText a.tok

def dashedText : List KAtom → Bytes
  | [] => []
  | a :: r => 0x2D :: (atomText a ++ dashedText r)

def segText (s : Seg) : Bytes := atomText s.head ++ dashedText s.tail

def dottedText : List Seg → Bytes
  | [] => []
  | s :: r => 0x2E :: (segText s ++ dottedText r)

/-- `a.b-c."d e"` -/
def keyText (k : MKey) : Bytes := segText k.head ++ dottedText k.tail

def identAtom : KAtom → Bool
  | .ident w => identOk w
  | _ => false

/-- a segment: one quoted key of the common subset, or identifiers joined by `-` -/
def segOk (s : Seg) : Bool :=
  match s.head with
  | .str raw val => strOk raw val && s.tail.isEmpty
  | .ident w => identOk w && s.tail.all identAtom
  | _ => false

def keyOk (k : MKey) : Bool := segOk k.head && k.tail.all segOk && decide (k.tail.length + 1 < Value.LIMIT)

def keyFol (c : Byte) : Bool := c == 0x20 || c == 0x5D || c == 0x2D || c == 0x2E
def atomHd (c : Byte) : Bool := isIdStart c || c == 0x22

theorem keyFol_facts : ∀ c : Byte, keyFol c = true → identFol c = true ∧ strFol c = true := by
  intro c h
  simp only [keyFol, Bool.or_eq_true, beq_iff_eq] at h
  rcases h with ((rfl | rfl) | rfl) | rfl <;> decide
theorem atomHd_facts (c : Byte) (h : atomHd c = true) : punctFol 0x2D c = true ∧ punctFol 0x2E c = true := by
  -- what glues to `-` or `.` (`=`, `>`, `.`) starts no atom
  simp [punctFol, glues, ne_of_class (c := 0x3D) h (by decide), ne_of_class (c := 0x3E) h (by decide), ne_of_class (c := 0x2E) h (by decide)]

theorem identOk_hd (w : Bytes) (h : identOk w = true) : HdIn atomHd w := by
  cases w with
  | nil => simp [identOk] at h
  | cons b t =>
    simp only [identOk, Bool.and_eq_true] at h
    exact ⟨b, t, rfl, by simp [atomHd, h.1.1]⟩

theorem identAtom_step (a : KAtom) (h : identAtom a = true) :
    LexStep (Hd keyFol) (atomText a) (flatTTs [a.tt]) ∧ HdIn atomHd (atomText a) := by
  cases a with
  | ident w =>
    simp only [identAtom] at h
    refine ⟨?_, identOk_hd w h⟩
    have := (ident_step w h).weaken (B' := Hd keyFol) (fun r hr => Hd_mono hr (fun c hc => (keyFol_facts c hc).1))
    simpa [atomText, KAtom.tok, tokText, KAtom.tt, flatTTs_tok] using this
  | _ => simp [identAtom] at h

theorem Hd_keyFol_dashed (l : List KAtom) (rest : Bytes) (h : Hd keyFol rest) : Hd keyFol (dashedText l ++ rest) := by
  cases l with
  | nil => exact h
  | cons a r => simp [dashedText, Hd, keyFol]

theorem dashp_step : LexStep (Hd (punctFol 0x2D)) [0x2D] [.t (.punct 0x2D)] := punct_step _ (by decide)

theorem dashed_step (l : List KAtom) (h : l.all identAtom = true) :
    LexStep (Hd keyFol) (dashedText l) (flatTTs (dashed l)) := by
  induction l with
  | nil => exact LexStep.nil _
  | cons a r ih =>
    simp only [List.all_cons, Bool.and_eq_true] at h
    obtain ⟨ha, hh⟩ := identAtom_step a h.1
    have h2 := LexStep.comp ha (ih h.2) (Hd_keyFol_dashed r)
    have h3 := LexStep.seq dashp_step h2 (HdIn_append (HdIn_mono hh (fun c hc => (atomHd_facts c hc).1)) _)
    simpa [dashedText, dashed, flatTTs, flatTT] using h3

theorem seg_step (s : Seg) (h : segOk s = true) :
    LexStep (Hd keyFol) (segText s) (flatTTs s.toks) ∧ HdIn atomHd (segText s) := by
  obtain ⟨hd, tl⟩ := s
  cases hd with
  | ident w =>
    simp only [segOk, Bool.and_eq_true] at h
    obtain ⟨ha, hh⟩ := identAtom_step (.ident w) (by simpa [identAtom] using h.1)
    refine ⟨?_, HdIn_append hh _⟩
    have := LexStep.comp ha (dashed_step tl h.2) (Hd_keyFol_dashed tl)
    simpa [segText, Seg.toks, flatTTs, flatTT, KAtom.tt] using this
  | str raw val =>
    simp only [segOk, Bool.and_eq_true, List.isEmpty_iff] at h
    obtain ⟨h1, h2⟩ := h
    subst h2
    obtain ⟨hs, hh⟩ := strTok_step raw val h1
    refine ⟨?_, ?_⟩
    · have := hs.weaken (B' := Hd keyFol) (fun r hr => Hd_mono hr (fun c hc => (keyFol_facts c hc).2))
      simpa [segText, Seg.toks, dashed, dashedText, atomText, KAtom.tok, tokText, KAtom.tt, flatTTs, flatTT] using this
    · simp only [segText, dashedText, atomText, KAtom.tok, tokText, List.append_nil]
      exact HdIn_mono hh (by intro c hc; simp only [beq_iff_eq] at hc; subst hc; decide)
  | _ => simp [segOk] at h

theorem Hd_keyFol_dotted (l : List Seg) (rest : Bytes) (h : Hd keyFol rest) : Hd keyFol (dottedText l ++ rest) := by
  cases l with
  | nil => exact h
  | cons a r => simp [dottedText, Hd, keyFol]

theorem dotted_step (l : List Seg) (h : l.all segOk = true) :
    LexStep (Hd keyFol) (dottedText l) (flatTTs (dotted l)) := by
  induction l with
  | nil => exact LexStep.nil _
  | cons s r ih =>
    simp only [List.all_cons, Bool.and_eq_true] at h
    obtain ⟨hs, hh⟩ := seg_step s h.1
    have h1 : LexStep (Hd (punctFol 0x2E)) [0x2E] [.t (.punct 0x2E)] := punct_step 0x2E (by decide)
    have h2 := LexStep.comp hs (ih h.2) (Hd_keyFol_dotted r)
    have h3 := LexStep.seq h1 h2 (HdIn_append (HdIn_mono hh (fun c hc => (atomHd_facts c hc).2)) _)
    simpa [dottedText, dotted, flatTTs, flatTT, flatTTs_append] using h3

theorem key_step (k : MKey) (h : keyOk k = true) :
    LexStep (Hd keyFol) (keyText k) (flatTTs k.toks) ∧ HdIn atomHd (keyText k) := by
  simp only [keyOk, Bool.and_eq_true] at h
  obtain ⟨hs, hh⟩ := seg_step k.head h.1.1
  refine ⟨?_, HdIn_append hh _⟩
  have := LexStep.comp hs (dotted_step k.tail h.1.2) (Hd_keyFol_dotted k.tail)
  simpa [keyText, MKey.toks, flatTTs_append] using this

def signText : Sign → Bytes
  | .none => []
  | .plus => [0x2B]
  | .minus => [0x2D]

def numText (n : Num) : Bytes := n.body ++ n.suffix

/-- non-empty decimal digits without a leading zero (`0` itself is fine): an integer in both languages -/
def decOk (ds : Bytes) : Bool :=
  !ds.isEmpty && ds.all isDigit && (match ds with | 0x30 :: t => t.isEmpty | _ => true)

/-- `int.frac` with a canonical integer part and a non-empty fraction: a float in both languages -/
def fracOk (body : Bytes) : Bool :=
  match spanP isDigit body with
  | (ip, 0x2E :: fp) => decOk ip && !fp.isEmpty && fp.all isDigit
  | _ => false

/-- a number token inside a date-time: digits, or `digits.digits` (seconds with a fraction), with no suffix or a
    suffix that starts with `T` / `t` / `Z` / `z` (`T07`, `Z`; `sfxOk`) -/
def numOk (n : Num) : Bool :=
  (n.suffix.isEmpty || sfxOk n.suffix) &&
  (if n.fl then
    (match spanP isDigit n.body with
     | (ip, 0x2E :: fp) => !ip.isEmpty && !fp.isEmpty && fp.all isDigit
     | _ => false)
   else !n.body.isEmpty && n.body.all isDigit)

/-- the date-time shapes that arise from TOML text: the six without a separate fraction token -/
def dtText : DtForm → Bytes
  | .odt yr mo dhr mi sec tzh tzm =>
    numText yr ++ 0x2D :: (numText mo ++ 0x2D :: (numText dhr ++ 0x3A :: (numText mi ++ 0x3A :: (numText sec ++
      0x2D :: (numText tzh ++ 0x3A :: numText tzm)))))
  | .ldt yr mo dhr mi sec =>
    numText yr ++ 0x2D :: (numText mo ++ 0x2D :: (numText dhr ++ 0x3A :: (numText mi ++ 0x3A :: numText sec)))
  | .date yr mo day => numText yr ++ 0x2D :: (numText mo ++ 0x2D :: numText day)
  | .time hr mi sec => numText hr ++ 0x3A :: (numText mi ++ 0x3A :: numText sec)
  | .odtSp yr mo day hr mi sec tzh tzm =>
    numText yr ++ 0x2D :: (numText mo ++ 0x2D :: (numText day ++ 0x20 :: (numText hr ++ 0x3A :: (numText mi ++ 0x3A ::
      (numText sec ++ 0x2D :: (numText tzh ++ 0x3A :: numText tzm))))))
  | .ldtSp yr mo day hr mi sec =>
    numText yr ++ 0x2D :: (numText mo ++ 0x2D :: (numText day ++ 0x20 :: (numText hr ++ 0x3A :: (numText mi ++ 0x3A ::
      numText sec))))
  | _ => []

/-- exactly `k` digits, no suffix: the year, month and day of the shapes with a blank between date and time -/
def plainN (k : Nat) (n : Num) : Bool := n.body.length == k && n.body.all isDigit && n.suffix.isEmpty && !n.fl

def dtOk : DtForm → Bool
  | .odt yr mo dhr mi sec tzh tzm => numOk yr && numOk mo && numOk dhr && numOk mi && numOk sec && numOk tzh && numOk tzm
  | .ldt yr mo dhr mi sec => numOk yr && numOk mo && numOk dhr && numOk mi && numOk sec
  | .date yr mo day => numOk yr && numOk mo && numOk day
  | .time hr mi sec => numOk hr && numOk mi && numOk sec
  | .odtSp yr mo day hr mi sec tzh tzm =>
    plainN 4 yr && plainN 2 mo && plainN 2 day && numOk hr && numOk mi && numOk sec && numOk tzh && numOk tzm
  | .ldtSp yr mo day hr mi sec => plainN 4 yr && plainN 2 mo && plainN 2 day && numOk hr && numOk mi && numOk sec
  | _ => false

def leafText : MacroVal → Bytes
  | .int s body => signText s ++ body
  | .float s body => signText s ++ body
  | .special s nan => signText s ++ (if nan then bNan else bInf)
  | .bool b => if b then bTrue else bFalse
  | .str raw _ => raw
  | .chr raw _ => raw
  | .dt f => dtText f
  | .arr _ _ => []

def leafOk : MacroVal → Bool
  | .int _ body => decOk body
  | .float _ body => fracOk body
  | .special _ _ => true
  | .bool _ => true
  | .str raw val => strOk raw val
  | .chr _ _ => false
  | .dt f => dtOk f
  | .arr _ _ => false

def valFol (c : Byte) : Bool := c == 0x2C || c == 0x5D || c == 0x7D || c == 0x0A || c == 0x20
def numFol (c : Byte) : Bool := !isIdCont c && !(c == 0x2E)

theorem valFol_facts : ∀ c : Byte, valFol c = true →
    numFol c = true ∧ identFol c = true ∧ strFol c = true ∧ intFol c = true ∧ floatFol c = true := by
  intro c h
  simp only [valFol, Bool.or_eq_true, beq_iff_eq] at h
  rcases h with (((rfl | rfl) | rfl) | rfl) | rfl <;> decide
theorem numFol_facts (c : Byte) (h : numFol c = true) :
    intFol c = true ∧ floatFol c = true ∧ (!isIdCont c) = true := by
  -- `_`, `e`, `E` continue an identifier
  have h1 := ne_of_class (c := 0x5F) h (by decide)
  have h2 := ne_of_class (c := 0x65) h (by decide)
  have h3 := ne_of_class (c := 0x45) h (by decide)
  simp only [numFol, isIdCont, Bool.and_eq_true, Bool.not_eq_true', Bool.or_eq_false_iff, beq_eq_false_iff_ne] at h
  simp [intFol, floatFol, decStop, isDigU, isIdCont, h.1.1, h.1.2, h.2, h1, h2, h3]
theorem dtSep_facts : numFol 0x2D = true ∧ numFol 0x3A = true ∧ numFol 0x20 = true := by decide
theorem digit_punctFol (c : Byte) (h : isDigit c = true ∨ isIdStart c = true) :
    punctFol 0x2D c = true ∧ punctFol 0x3A c = true ∧ punctFol 0x2B c = true := by
  -- what glues to `-`, `:` or `+` (`=`, `>`, `:`) is neither a digit nor a letter
  have h' : isIdCont c = true := by rcases h with h | h <;> simp [isIdCont, h]
  simp [punctFol, glues, ne_of_class (c := 0x3D) h' (by decide), ne_of_class (c := 0x3E) h' (by decide), ne_of_class (c := 0x3A) h' (by decide)]

theorem spanP_spec (p : Byte → Bool) : ∀ (s a t : Bytes), spanP p s = (a, t) → s = a ++ t ∧ a.all p = true := by
  intro s
  induction s with
  | nil => intro a t h; simp [spanP] at h; obtain ⟨rfl, rfl⟩ := h; simp
  | cons b r ih =>
    intro a t h
    simp only [spanP] at h
    by_cases hb : p b = true
    · simp only [hb, if_true] at h
      cases hs : spanP p r with
      | mk a' t' =>
        rw [hs] at h
        simp only [Prod.mk.injEq] at h
        obtain ⟨rfl, rfl⟩ := h
        obtain ⟨e, ha⟩ := ih a' t' hs
        exact ⟨by rw [e]; rfl, by simp [hb, ha]⟩
    · simp only [hb, Bool.false_eq_true, if_false, Prod.mk.injEq] at h
      obtain ⟨rfl, rfl⟩ := h
      simp

/-- the two spellings `int.frac` are recognised by the same split at the first byte that is no digit -/
theorem frac_split (body : Bytes) (P : Bytes → Bytes → Bool)
    (h : (match spanP isDigit body with | (ip, 0x2E :: fp) => P ip fp | _ => false) = true) :
    ∃ ip fp, body = ip ++ 0x2E :: fp ∧ ip.all isDigit = true ∧ P ip fp = true := by
  cases hsp : spanP isDigit body with
  | mk ip r =>
    rw [hsp] at h
    obtain ⟨e, hi⟩ := spanP_spec isDigit body ip r hsp
    cases r with
    | nil => cases h
    | cons c fp =>
      by_cases hc : c = 0x2E
      · subst hc; exact ⟨ip, fp, e, hi, h⟩
      · split at h
        · rename_i heq; injection heq with _ h2; injection h2 with h2 _; exact absurd h2 hc
        · cases h

theorem all_hd (ds : Bytes) (hne : ds.isEmpty = false) (h : ds.all isDigit = true) : HdIn isDigit ds := by
  cases ds with
  | nil => simp at hne
  | cons b t => simp at h; exact ⟨b, t, rfl, h.1⟩

theorem sfxAt_numFol {sf rest : Bytes} (hsf : sf = [] ∨ sfxOk sf = true) (hr : Hd numFol rest) :
    SfxAt intFol sf rest ∧ SfxAt floatFol sf rest :=
  ⟨hsf.imp (fun e => ⟨e, Hd_mono hr fun c hc => (numFol_facts c hc).1⟩) (fun hs => ⟨hs, Hd_mono hr fun c hc => (numFol_facts c hc).2.2⟩),
   hsf.imp (fun e => ⟨e, Hd_mono hr fun c hc => (numFol_facts c hc).2.1⟩) (fun hs => ⟨hs, Hd_mono hr fun c hc => (numFol_facts c hc).2.2⟩)⟩

theorem numTok_step (n : Num) (h : numOk n = true) :
    LexStep (Hd numFol) (numText n) [.t (.num n.body n.suffix n.fl)] ∧ HdIn isDigit (numText n) := by
  obtain ⟨body, sf, fl⟩ := n
  simp only [numOk, Bool.and_eq_true, Bool.or_eq_true, List.isEmpty_iff] at h
  obtain ⟨hsf, hb⟩ := h
  cases fl with
  | false =>
    simp only [Bool.false_eq_true, if_false, Bool.and_eq_true, Bool.not_eq_true'] at hb
    have hne : body ≠ [] := by intro e; rw [e] at hb; simp at hb
    have hh : HdIn isDigit body := all_hd body hb.1 hb.2
    exact ⟨num_step (body ++ sf) body sf false (HdIn_append hh _) (fun rest hr => by
      rw [List.append_assoc]; exact lexNumber_int body sf rest hne hb.2 (sfxAt_numFol hsf hr).1), HdIn_append hh _⟩
  | true =>
    simp only [if_true] at hb
    obtain ⟨ip, fp, e, hi, hb⟩ := frac_split body _ hb
    simp only [Bool.and_eq_true, Bool.not_eq_true', List.isEmpty_eq_false_iff] at hb
    obtain ⟨⟨h1, h2⟩, h3⟩ := hb
    have hh : HdIn isDigit body := by rw [e]; exact HdIn_append (all_hd ip (by simpa using h1) hi) _
    refine ⟨num_step (body ++ sf) body sf true (HdIn_append hh _) (fun rest hr => ?_), HdIn_append hh _⟩
    have := lexNumber_frac ip fp sf rest h1 hi h3 h2 (sfxAt_numFol hsf hr).2
    simpa [e, List.append_assoc] using this

theorem num_sep_step {B : Bytes → Prop} (n : Num) (hn : numOk n = true) (sep : Byte) (hsep : sep = 0x2D ∨ sep = 0x3A)
    {t : Bytes} {o : List FTok} (ht : LexStep B t o) (hd : HdIn isDigit t) :
    LexStep B (numText n ++ sep :: t) (.t (.num n.body n.suffix n.fl) :: .t (.punct sep) :: o) ∧
      HdIn isDigit (numText n ++ sep :: t) := by
  obtain ⟨h1, h2⟩ := numTok_step n hn
  refine ⟨?_, HdIn_append h2 _⟩
  rcases hsep with rfl | rfl
  · have := LexStep.seq h1 (LexStep.seq dashp_step ht (HdIn_mono hd (fun c hc => (digit_punctFol c (Or.inl hc)).1)))
      ⟨0x2D, _, rfl, dtSep_facts.1⟩
    simpa using this
  · have := LexStep.seq h1 (LexStep.seq (punct_step 0x3A (by decide)) ht (HdIn_mono hd (fun c hc => (digit_punctFol c (Or.inl hc)).2.1)))
      ⟨0x3A, _, rfl, dtSep_facts.2.1⟩
    simpa using this

theorem plainN_numOk (k : Nat) (n : Num) (hk : 0 < k) (h : plainN k n = true) : numOk n = true := by
  obtain ⟨body, sf, fl⟩ := n
  simp only [plainN, Bool.and_eq_true, beq_iff_eq, Bool.not_eq_true', List.isEmpty_iff] at h
  obtain ⟨⟨⟨h1, h2⟩, h3⟩, h4⟩ := h
  subst h3 h4
  have : body.isEmpty = false := by cases body with
    | nil => simp at h1; omega
    | cons x y => rfl
  simp [numOk, h2, this]

theorem num_sp_step {B : Bytes → Prop} (n : Num) (hn : numOk n = true) {t : Bytes} {o : List FTok} (ht : LexStep B t o) :
    LexStep B (numText n ++ 0x20 :: t) (.t (.num n.body n.suffix n.fl) :: o) ∧ HdIn isDigit (numText n ++ 0x20 :: t) := by
  obtain ⟨h1, h2⟩ := numTok_step n hn
  refine ⟨?_, HdIn_append h2 _⟩
  have := LexStep.seq h1 (LexStep.seqT sp_step ht) ⟨0x20, _, rfl, dtSep_facts.2.2⟩
  simpa using this

/-- number tokens, each with the byte written behind it (`-`, `:`, or a blank), and a last one -/
def chainText : List (Num × Byte) → Num → Bytes
  | [], n => numText n
  | (m, c) :: r, n => numText m ++ c :: chainText r n

def chainToks : List (Num × Byte) → Num → List FTok
  | [], n => [.t (.num n.body n.suffix n.fl)]
  | (m, c) :: r, n =>
    .t (.num m.body m.suffix m.fl) :: (if c = 0x20 then chainToks r n else .t (.punct c) :: chainToks r n)

def chainOk : List (Num × Byte) → Bool
  | [] => true
  | (m, c) :: r => numOk m && (c == 0x2D || c == 0x3A || c == 0x20) && chainOk r

theorem chain_step (l : List (Num × Byte)) (n : Num) (hl : chainOk l = true) (hn : numOk n = true) :
    LexStep (Hd numFol) (chainText l n) (chainToks l n) ∧ HdIn isDigit (chainText l n) := by
  induction l with
  | nil => exact numTok_step n hn
  | cons p r ih =>
    obtain ⟨m, c⟩ := p
    simp only [chainOk, Bool.and_eq_true, Bool.or_eq_true, beq_iff_eq] at hl
    obtain ⟨⟨hm, hc⟩, hr⟩ := hl
    obtain ⟨s, d⟩ := ih hr
    rcases hc with (rfl | rfl) | rfl
    · exact num_sep_step m hm 0x2D (Or.inl rfl) s d
    · exact num_sep_step m hm 0x3A (Or.inr rfl) s d
    · exact num_sp_step m hm s

theorem dt_step (f : DtForm) (h : dtOk f = true) :
    LexStep (Hd numFol) (dtText f) (flatTTs f.toks) ∧ HdIn isDigit (dtText f) := by
  have p4 := fun n => plainN_numOk 4 n (by decide)
  have p2 := fun n => plainN_numOk 2 n (by decide)
  cases f <;> simp only [dtOk, Bool.and_eq_true, Bool.false_eq_true] at h
  case odt yr mo dhr mi sec tzh tzm =>
    exact chain_step [(yr, 0x2D), (mo, 0x2D), (dhr, 0x3A), (mi, 0x3A), (sec, 0x2D), (tzh, 0x3A)] tzm (by simp [chainOk, h]) h.2
  case ldt yr mo dhr mi sec =>
    exact chain_step [(yr, 0x2D), (mo, 0x2D), (dhr, 0x3A), (mi, 0x3A)] sec (by simp [chainOk, h]) h.2
  case date yr mo day => exact chain_step [(yr, 0x2D), (mo, 0x2D)] day (by simp [chainOk, h]) h.2
  case time hr mi sec => exact chain_step [(hr, 0x3A), (mi, 0x3A)] sec (by simp [chainOk, h]) h.2
  case odtSp yr mo day hr mi sec tzh tzm =>
    exact chain_step [(yr, 0x2D), (mo, 0x2D), (day, 0x20), (hr, 0x3A), (mi, 0x3A), (sec, 0x2D), (tzh, 0x3A)] tzm
      (by simp [chainOk, h, p4, p2]) h.2
  case ldtSp yr mo day hr mi sec =>
    exact chain_step [(yr, 0x2D), (mo, 0x2D), (day, 0x20), (hr, 0x3A), (mi, 0x3A)] sec (by simp [chainOk, h, p4, p2]) h.2

theorem sign_step {B : Bytes → Prop} (s : Sign) {t : Bytes} {o : List FTok} (ht : LexStep B t o)
    (hd : HdIn (fun c => isDigit c || isIdStart c) t) :
    LexStep B (signText s ++ t) (flatTTs s.toks ++ o) := by
  have hd' : ∀ c, (isDigit c || isIdStart c) = true → isDigit c = true ∨ isIdStart c = true := by
    intro c hc; simpa using hc
  cases s with
  | none => simpa [signText, Sign.toks, flatTTs] using ht
  | plus =>
    have := LexStep.seq (punct_step 0x2B (by decide)) ht (HdIn_mono hd (fun c hc => (digit_punctFol c (hd' c hc)).2.2))
    simpa [signText, Sign.toks, flatTTs, flatTT] using this
  | minus =>
    have := LexStep.seq dashp_step ht (HdIn_mono hd (fun c hc => (digit_punctFol c (hd' c hc)).1))
    simpa [signText, Sign.toks, flatTTs, flatTT] using this

theorem decOk_facts (ds : Bytes) (h : decOk ds = true) : ds ≠ [] ∧ ds.all isDigit = true ∧ HdIn isDigit ds := by
  simp only [decOk, Bool.and_eq_true, Bool.not_eq_true', List.isEmpty_eq_false_iff] at h
  exact ⟨h.1.1, h.1.2, all_hd ds (by simpa using h.1.1) h.1.2⟩

theorem fracOk_facts (body : Bytes) (h : fracOk body = true) :
    ∃ ip fp, body = ip ++ 0x2E :: fp ∧ decOk ip = true ∧ fp ≠ [] ∧ fp.all isDigit = true := by
  obtain ⟨ip, fp, e, _, h⟩ := frac_split body _ h
  simp only [Bool.and_eq_true, Bool.not_eq_true', List.isEmpty_eq_false_iff] at h
  exact ⟨ip, fp, e, h.1.1, h.1.2, h.2⟩

theorem leaf_step (a : MacroVal) (h : leafOk a = true) : LexStep (Hd valFol) (leafText a) (flatTTs a.toks) := by
  have wk : ∀ {q : Byte → Bool} {t : Bytes} {o : List FTok}, LexStep (Hd q) t o → (∀ c, valFol c = true → q c = true) →
      LexStep (Hd valFol) t o := fun hs hq => hs.weaken (fun r hr => Hd_mono hr hq)
  cases a with
  | int s body =>
    obtain ⟨hne, hd, hh⟩ := decOk_facts body h
    have h1 : LexStep (Hd valFol) body [.t (.num body [] false)] :=
      wk (num_step body body [] false hh (fun rest hr => lexNumber_int body [] rest hne hd (.inl ⟨rfl, hr⟩))) (fun c hc => (valFol_facts c hc).2.2.2.1)
    have := sign_step s h1 (HdIn_mono hh (by intro c hc; simp [hc]))
    simpa [leafText, MacroVal.toks, flatTTs_append, flatTTs_tok] using this
  | float s body =>
    obtain ⟨ip, fp, e, hip, hfne, hf⟩ := fracOk_facts body h
    obtain ⟨hne, hd, hh⟩ := decOk_facts ip hip
    have hh' : HdIn isDigit body := by rw [e]; exact HdIn_append hh _
    have h1 : LexStep (Hd valFol) body [.t (.num body [] true)] :=
      wk (num_step body body [] true hh' (fun rest hr => by
        have := lexNumber_frac ip fp [] rest hne hd hf hfne (.inl ⟨rfl, hr⟩)
        simpa [e, List.append_assoc] using this)) (fun c hc => (valFol_facts c hc).2.2.2.2)
    have := sign_step s h1 (HdIn_mono hh' (by intro c hc; simp [hc]))
    simpa [leafText, MacroVal.toks, flatTTs_append, flatTTs_tok] using this
  | special s nan =>
    have h1 : LexStep (Hd valFol) (if nan then bNan else bInf) [.t (.ident (if nan then bNan else bInf))] :=
      wk (ident_step _ (by cases nan <;> decide)) (fun c hc => (valFol_facts c hc).2.1)
    have := sign_step s h1 (by cases nan <;> exact ⟨_, _, rfl, by decide⟩)
    simpa [leafText, MacroVal.toks, flatTTs_append, flatTTs_tok] using this
  | bool b =>
    have h1 : LexStep (Hd valFol) (if b then bTrue else bFalse) [.t (.ident (if b then bTrue else bFalse))] :=
      wk (ident_step _ (by cases b <;> decide)) (fun c hc => (valFol_facts c hc).2.1)
    simpa [leafText, MacroVal.toks, flatTTs_tok] using h1
  | str raw val =>
    have := wk (strTok_step raw val h).1 (fun c hc => (valFol_facts c hc).2.2.1)
    simpa [leafText, MacroVal.toks, flatTTs_tok] using this
  | dt f =>
    have := wk (dt_step f h).1 (fun c hc => (valFol_facts c hc).1)
    simpa [leafText, MacroVal.toks] using this
  | _ => simp [leafOk] at h

mutual
def valText : MTree → Bytes
  | .leaf a => leafText a
  | .arr items tr => 0x5B :: (itemsText items ++ ((if tr && !items.isEmpty then [0x2C] else []) ++ [0x5D]))
  | .tbl es _ => 0x7B :: (entriesText es ++ [0x7D])
/-- `v, v, v` -/
def itemsText : List MTree → Bytes
  | [] => []
  | a :: r => valText a ++ itemsSepText r
def itemsSepText : List MTree → Bytes
  | [] => []
  | a :: r => 0x2C :: 0x20 :: (valText a ++ itemsSepText r)
/-- `k = v, k = v` -/
def entriesText : List (MKey × MTree) → Bytes
  | [] => []
  | (k, a) :: r => keyText k ++ 0x20 :: 0x3D :: 0x20 :: (valText a ++ entriesSepText r)
def entriesSepText : List (MKey × MTree) → Bytes
  | [] => []
  | (k, a) :: r => 0x2C :: 0x20 :: (keyText k ++ 0x20 :: 0x3D :: 0x20 :: (valText a ++ entriesSepText r))
end

mutual
/-- lexical side conditions on a value: every leaf is one of the shared scalar spellings, every key of an inline
    table is a shared key, and an inline table has no trailing comma (TOML 1.0 forbids it, the macro accepts it) -/
def valOk : MTree → Bool
  | .leaf a => leafOk a
  | .arr items _ => itemsOk items
  | .tbl es tr => entriesOk es && (!tr || es.isEmpty)
def itemsOk : List MTree → Bool
  | [] => true
  | a :: r => valOk a && itemsOk r
def entriesOk : List (MKey × MTree) → Bool
  | [] => true
  | (k, a) :: r => keyOk k && valOk a && entriesOk r
end

mutual
/-- nesting depth as the parser counts it (each component of a dotted key but the last is one more table) -/
def mdepth : MTree → Nat
  | .leaf _ => 0
  | .arr items _ => 1 + mdepthL items
  | .tbl es _ => 1 + mdepthE es
def mdepthL : List MTree → Nat
  | [] => 0
  | a :: r => max (mdepth a) (mdepthL r)
def mdepthE : List (MKey × MTree) → Nat
  | [] => 0
  | (k, a) :: r => max (k.tail.length + mdepth a) (mdepthE r)
end

def stmtText : DStmt → Bytes
  | .kv k v => keyText k ++ 0x20 :: 0x3D :: 0x20 :: valText v
  | .std k => 0x5B :: (keyText k ++ [0x5D])
  | .arr k => 0x5B :: 0x5B :: (keyText k ++ [0x5D, 0x5D])

def textOf : List DStmt → Bytes
  | [] => []
  | s :: r => stmtText s ++ 0x0A :: textOf r

def stmtOk : DStmt → Bool
  | .kv k v => keyOk k && valOk v && decide (k.tail.length + mdepth v < Value.LIMIT)
  | .std k => keyOk k
  | .arr k => keyOk k

def synOk (ds : List DStmt) : Bool := ds.all stmtOk

theorem itemsSepText_cons (b : MTree) (r : List MTree) : itemsSepText (b :: r) = 0x2C :: 0x20 :: itemsText (b :: r) := by
  simp [itemsSepText, itemsText]
theorem entriesSepText_cons (e : MKey × MTree) (r : List (MKey × MTree)) :
    entriesSepText (e :: r) = 0x2C :: 0x20 :: entriesText (e :: r) := by
  obtain ⟨k, a⟩ := e
  simp [entriesSepText, entriesText]

theorem eq_step : LexStep (fun _ => True) [0x20, 0x3D, 0x20] [.t (.punct 0x3D)] := by
  have := LexStep.seqT sp_step (LexStep.seq (punct_step 0x3D (by decide)) sp_step ⟨0x20, [], rfl, by decide⟩)
  simpa using this

theorem commaSp_step : LexStep (fun _ => True) [0x2C, 0x20] [.t (.punct 0x2C)] := by
  have := LexStep.seqT comma_step sp_step
  simpa using this

theorem entry_step (k : MKey) {t : Bytes} {o : List FTok} (hk : keyOk k = true) (ht : LexStep (Hd valFol) t o) :
    LexStep (Hd valFol) (keyText k ++ 0x20 :: 0x3D :: 0x20 :: t) (flatTTs k.toks ++ .t (.punct 0x3D) :: o) := by
  have h1 := (key_step k hk).1
  have h2 := LexStep.seqT eq_step ht
  have := LexStep.seq h1 h2 ⟨0x20, _, rfl, by decide⟩
  simpa using this

mutual
theorem val_step : ∀ v : MTree, valOk v = true → LexStep (Hd valFol) (valText v) (flatTTs v.toks)
  | .leaf a, h => by
    simp only [valOk] at h
    simpa [valText, MTree.toks] using leaf_step a h
  | .arr items tr, h => by
    simp only [valOk] at h
    have := group_step (B := Hd valFol) .bracket (items_step items h tr) (by decide)
    simpa [valText, MTree.toks, flatTTs_group, openByte, closeByte] using this
  | .tbl es tr, h => by
    simp only [valOk, Bool.and_eq_true, Bool.or_eq_true, Bool.not_eq_true', List.isEmpty_iff] at h
    have hj : joinC (chunksE es) tr = joinC (chunksE es) false := by
      rcases h.2 with rfl | rfl
      · rfl
      · simp [chunksE, joinC]
    have := group_step (B := Hd valFol) .brace (entries_step es h.1) (by decide)
    simpa [valText, MTree.toks, flatTTs_group, openByte, closeByte, hj] using this
theorem items_step : ∀ items : List MTree, itemsOk items = true → ∀ tr : Bool,
    LexStep (Hd valFol) (itemsText items ++ (if tr && !items.isEmpty then [0x2C] else []))
      (flatTTs (joinC (chunksT items) tr))
  | [], _, tr => by simpa [itemsText, chunksT, joinC, flatTTs] using LexStep.nil (Hd valFol)
  | [a], h, tr => by
    simp only [itemsOk, Bool.and_eq_true] at h
    have h1 := val_step a h.1
    cases tr with
    | false => simpa [itemsText, itemsSepText, chunksT, joinC] using h1
    | true =>
      have := LexStep.seq h1 (comma_step.anyB (B := Hd valFol)) ⟨0x2C, [], rfl, by decide⟩
      simpa [itemsText, itemsSepText, chunksT, joinC, flatTTs_append, flatTTs] using this
  | a :: b :: r, h, tr => by
    have h' : valOk a = true ∧ itemsOk (b :: r) = true := by
      have := h; simp only [itemsOk, Bool.and_eq_true] at this ⊢; exact ⟨this.1, this.2⟩
    have h1 := val_step a h'.1
    have h2 := items_step (b :: r) h'.2 tr
    have := LexStep.seq h1 (LexStep.seqT commaSp_step h2) ⟨0x2C, _, rfl, by decide⟩
    have e : itemsText (a :: b :: r) = valText a ++ 0x2C :: 0x20 :: itemsText (b :: r) := by
      rw [itemsText, itemsSepText_cons]
    rw [e]
    simpa [chunksT, joinC, flatTTs_append, flatTTs, flatTT] using this
theorem entries_step : ∀ es : List (MKey × MTree), entriesOk es = true →
    LexStep (Hd valFol) (entriesText es) (flatTTs (joinC (chunksE es) false))
  | [], _ => by simpa [entriesText, chunksE, joinC, flatTTs] using LexStep.nil (Hd valFol)
  | [(k, a)], h => by
    simp only [entriesOk, Bool.and_eq_true] at h
    have := entry_step k h.1.1 (val_step a h.1.2)
    simpa [entriesText, entriesSepText, chunksE, joinC, flatTTs_append, flatTTs, flatTT] using this
  | (k, a) :: e2 :: r, h => by
    have h' : (keyOk k = true ∧ valOk a = true) ∧ entriesOk (e2 :: r) = true := by
      have := h; simp only [entriesOk, Bool.and_eq_true] at this ⊢; exact this
    have h1 := val_step a h'.1.2
    have h2 := entries_step (e2 :: r) h'.2
    have h3 := LexStep.seq h1 (LexStep.seqT commaSp_step h2) ⟨0x2C, _, rfl, by decide⟩
    have := entry_step k h'.1.1 h3
    have e : entriesText ((k, a) :: e2 :: r) =
        keyText k ++ 0x20 :: 0x3D :: 0x20 :: (valText a ++ 0x2C :: 0x20 :: entriesText (e2 :: r)) := by
      rw [entriesText, entriesSepText_cons]
    rw [e]
    obtain ⟨k2, a2⟩ := e2
    simpa [chunksE, joinC, flatTTs_append, flatTTs, flatTT] using this
end

theorem stmt_step (s : DStmt) (h : stmtOk s = true) : LexStep (Hd valFol) (stmtText s) (flatTTs s.toks) := by
  cases s with
  | kv k v =>
    simp only [stmtOk, Bool.and_eq_true] at h
    have := entry_step k h.1.1 (val_step v h.1.2)
    simpa [stmtText, DStmt.toks, flatTTs_append, flatTTs, flatTT] using this
  | std k =>
    simp only [stmtOk] at h
    have := group_step (B := Hd valFol) .bracket (key_step k h).1 (by decide)
    simpa [stmtText, DStmt.toks, flatTTs_group, openByte, closeByte] using this
  | arr k =>
    simp only [stmtOk] at h
    have h1 := group_step (B := Hd (fun c => c == 0x5D)) .bracket (key_step k h).1 (by decide)
    have := group_step (B := Hd valFol) .bracket h1 (by decide)
    simpa [stmtText, DStmt.toks, flatTTs_group, openByte, closeByte] using this

theorem doc_step (ds : List DStmt) (h : synOk ds = true) :
    LexStep (fun _ => True) (textOf ds) (flatTTs (spellDoc ds)) := by
  induction ds with
  | nil => exact LexStep.nil _
  | cons s r ih =>
    simp only [synOk, List.all_cons, Bool.and_eq_true] at h
    have := LexStep.seq (stmt_step s h.1) (LexStep.seqT (ws_step 0x0A (by decide)) (ih h.2)) ⟨0x0A, _, rfl, by decide⟩
    simpa [textOf, spellDoc, flatTTs_append] using this

theorem tokens_textOf (ds : List DStmt) (h : synOk ds = true) : tokens (textOf ds) = some (spellDoc ds) :=
  tokens_of_lex _ _ (lex_of_step (doc_step ds h) trivial)

end TomlVerif.Lemmas.Macro19c
