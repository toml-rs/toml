import TomlVerif.Model.Macro
/-! C19: how the muncher reads ONE value. `MacroVal` is the scalar / date-time / array part of the value grammar as
    rustc tokenises it (spelling `toks`, meaning `sem`); `Reads` says what the value arms make of the tokens of a
    value, and every position of a value (array element, table entry, top level) is proved from it. In namespace
    `Macro19b`, in the middle: comma-separated chunks of tokens and what `@trailingcomma` makes of them. -/
namespace TomlVerif.Lemmas.Macro19
open TomlVerif TomlVerif.Model TomlVerif.Model.Macro

def R.bind {α β} : R α → (α → R β) → R β
  | .ok a, f => f a
  | .unsupported, _ => .unsupported
  | .panic, _ => .panic

structure Num where
  body : Bytes
  suffix : Bytes
  fl : Bool

def Num.tt (n : Num) : TT := .tok (.num n.body n.suffix n.fl)

def pc (c : Byte) : TT := .tok (.punct c)
def dash : TT := pc 0x2D
def colon : TT := pc 0x3A
def dot : TT := pc 0x2E
def commaT : TT := pc 0x2C
def identT : TT := .tok (.ident [0x54])

/-- the eleven token shapes of a date-time, one per arm of `dtArms` (same order). A trailing `Z`/`z` is a
    suffix of the seconds token, a fraction written without blanks is part of the seconds token (a float literal) -/
inductive DtForm where
  | odtFrac (yr mo dhr mi sec frac tzh tzm : Num)
  | odtFracSp (yr mo day hr mi sec frac tzh tzm : Num)
  | odt (yr mo dhr mi sec tzh tzm : Num)
  | odtSp (yr mo day hr mi sec tzh tzm : Num)
  | ldtFrac (yr mo dhr mi sec frac : Num)
  | ldtFracSp (yr mo day hr mi sec frac : Num)
  | ldt (yr mo dhr mi sec : Num)
  | ldtSp (yr mo day hr mi sec : Num)
  | date (yr mo day : Num)
  | timeFrac (hr mi sec frac : Num)
  | time (hr mi sec : Num)

def DtForm.toks : DtForm → List TT
  | .odtFrac yr mo dhr mi sec frac tzh tzm => [yr.tt, dash, mo.tt, dash, dhr.tt, colon, mi.tt, colon, sec.tt, dot, frac.tt, dash, tzh.tt, colon, tzm.tt]
  | .odtFracSp yr mo day hr mi sec frac tzh tzm => [yr.tt, dash, mo.tt, dash, day.tt, hr.tt, colon, mi.tt, colon, sec.tt, dot, frac.tt, dash, tzh.tt, colon, tzm.tt]
  | .odt yr mo dhr mi sec tzh tzm => [yr.tt, dash, mo.tt, dash, dhr.tt, colon, mi.tt, colon, sec.tt, dash, tzh.tt, colon, tzm.tt]
  | .odtSp yr mo day hr mi sec tzh tzm => [yr.tt, dash, mo.tt, dash, day.tt, hr.tt, colon, mi.tt, colon, sec.tt, dash, tzh.tt, colon, tzm.tt]
  | .ldtFrac yr mo dhr mi sec frac => [yr.tt, dash, mo.tt, dash, dhr.tt, colon, mi.tt, colon, sec.tt, dot, frac.tt]
  | .ldtFracSp yr mo day hr mi sec frac => [yr.tt, dash, mo.tt, dash, day.tt, hr.tt, colon, mi.tt, colon, sec.tt, dot, frac.tt]
  | .ldt yr mo dhr mi sec => [yr.tt, dash, mo.tt, dash, dhr.tt, colon, mi.tt, colon, sec.tt]
  | .ldtSp yr mo day hr mi sec => [yr.tt, dash, mo.tt, dash, day.tt, hr.tt, colon, mi.tt, colon, sec.tt]
  | .date yr mo day => [yr.tt, dash, mo.tt, dash, day.tt]
  | .timeFrac hr mi sec frac => [hr.tt, colon, mi.tt, colon, sec.tt, dot, frac.tt]
  | .time hr mi sec => [hr.tt, colon, mi.tt, colon, sec.tt]

/-- the text TOML reads: the tokens with `T` where the source has a blank between date and time -/
def DtForm.text : DtForm → List TT
  | .odtFracSp yr mo day hr mi sec frac tzh tzm => [yr.tt, dash, mo.tt, dash, day.tt, identT, hr.tt, colon, mi.tt, colon, sec.tt, dot, frac.tt, dash, tzh.tt, colon, tzm.tt]
  | .odtSp yr mo day hr mi sec tzh tzm => [yr.tt, dash, mo.tt, dash, day.tt, identT, hr.tt, colon, mi.tt, colon, sec.tt, dash, tzh.tt, colon, tzm.tt]
  | .ldtFracSp yr mo day hr mi sec frac => [yr.tt, dash, mo.tt, dash, day.tt, identT, hr.tt, colon, mi.tt, colon, sec.tt, dot, frac.tt]
  | .ldtSp yr mo day hr mi sec => [yr.tt, dash, mo.tt, dash, day.tt, identT, hr.tt, colon, mi.tt, colon, sec.tt]
  | f => f.toks

def RestOk (rest : List TT) : Prop := ∀ t r, rest = t :: r → isP 0x3A t = false

@[simp] theorem isP_punct (c c' : Byte) : isP c (.tok (.punct c')) = (c == c') := rfl
@[simp] theorem isP_num (c : Byte) (b s : Bytes) (f : Bool) : isP c (.tok (.num b s f)) = false := rfl
@[simp] theorem isP_ident (c : Byte) (s : Bytes) : isP c (.tok (.ident s)) = false := rfl
@[simp] theorem isP_str (c : Byte) (r v : Bytes) : isP c (.tok (.str r v)) = false := rfl
@[simp] theorem isP_chr (c : Byte) (r v : Bytes) : isP c (.tok (.chr r v)) = false := rfl
@[simp] theorem isP_group (c : Byte) (d : Delim) (ts : List TT) : isP c (.group d ts) = false := rfl
@[simp] theorem isP_pc (c c' : Byte) : isP c (pc c') = (c == c') := rfl
@[simp] theorem isP_dash (c : Byte) : isP c dash = (c == 0x2D) := rfl
@[simp] theorem isP_colon (c : Byte) : isP c colon = (c == 0x3A) := rfl
@[simp] theorem isP_dot (c : Byte) : isP c dot = (c == 0x2E) := rfl
@[simp] theorem isP_commaT (c : Byte) : isP c commaT = (c == 0x2C) := rfl
@[simp] theorem isP_numtt (c : Byte) (n : Num) : isP c n.tt = false := rfl

/-- Every shape but `date` is told apart from the arms before its own within its own tokens and the comma, so the
    arms evaluate. After a `date` the `…Sp` arms read one token further: the first of `rest` must not be a `:`. -/
theorem firstDt_form (f : DtForm) (rest : List TT) (h : RestOk rest) :
    firstDt comma (f.toks ++ commaT :: rest) dtArms = some (f.text, rest) := by
  cases f with
  | date yr mo day =>
    cases rest with
    | nil => rfl
    | cons t r =>
      simp [DtForm.toks, DtForm.text, firstDt, dtArms, matchPat, comma, h t r rfl]
  | _ => rfl

def RestTopOk (rest : List TT) : Prop :=
  (∀ t r, rest = t :: r → isP 0x3A t = false ∧ isP 0x2E t = false ∧ isP 0x2D t = false) ∧
  (∀ t u r, rest = t :: u :: r → isP 0x3A u = false)

theorem matchPat_p_none (c : Byte) (ps : List Pat) (rest : List TT)
    (h : ∀ t r, rest = t :: r → isP c t = false) : matchPat (.p c :: ps) rest = none := by
  cases rest with
  | nil => rfl
  | cons t r => rw [matchPat, if_neg (by rw [h t r rfl]; decide)]

theorem matchPat_any_p_none (c : Byte) (ps : List Pat) (rest : List TT)
    (h : ∀ t u r, rest = t :: u :: r → isP c u = false) : matchPat (.any :: .p c :: ps) rest = none := by
  cases rest with
  | nil => rfl
  | cons t r => rw [matchPat, matchPat_p_none c ps r fun u r' e => h t u r' (e ▸ rfl)]

/-- Without a comma to stop at, the arms read on into `rest`; `RestTopOk` says exactly that each of them fails there. -/
theorem firstDt_form_top (f : DtForm) (rest : List TT) (h : RestTopOk rest) :
    firstDt [] (f.toks ++ rest) dtArms = some (f.text, rest) := by
  have hc := fun ps => matchPat_p_none 0x3A ps rest fun t r e => (h.1 t r e).1
  have hd := fun ps => matchPat_p_none 0x2E ps rest fun t r e => (h.1 t r e).2.1
  have hm := fun ps => matchPat_p_none 0x2D ps rest fun t r e => (h.1 t r e).2.2
  have h2 := fun ps => matchPat_any_p_none 0x3A ps rest h.2
  cases f <;>
    simp [DtForm.toks, DtForm.text, firstDt, dtArms, matchPat, identT, hc, hd, hm, h2]


inductive Sign where
  | none | plus | minus
  deriving DecidableEq

inductive MacroVal where
  | int (s : Sign) (body : Bytes)
  | float (s : Sign) (body : Bytes)
  | special (s : Sign) (nan : Bool)
  | bool (b : Bool)
  | str (raw val : Bytes)
  | chr (raw val : Bytes)
  | dt (f : DtForm)
  | arr (items : List MacroVal) (trailing : Bool)

def Sign.toks : Sign → List TT
  | .none => []
  | .plus => [pc 0x2B]
  | .minus => [dash]

def Sign.neg : Sign → Bool
  | .minus => true
  | _ => false

mutual
def MacroVal.toks : MacroVal → List TT
  | .int s body => s.toks ++ [.tok (.num body [] false)]
  | .float s body => s.toks ++ [.tok (.num body [] true)]
  | .special s nan => s.toks ++ [.tok (.ident (if nan then bNan else bInf))]
  | .bool b => [.tok (.ident (if b then bTrue else bFalse))]
  | .str raw val => [.tok (.str raw val)]
  | .chr raw val => [.tok (.chr raw val)]
  | .dt f => f.toks
  | .arr items trailing => [.group .bracket (joinToks items trailing)]
def joinToks : List MacroVal → Bool → List TT
  | [], _ => []
  | [a], trailing => a.toks ++ (if trailing then [commaT] else [])
  | a :: b :: r, trailing => a.toks ++ commaT :: joinToks (b :: r) trailing
end

mutual
/-- the value of the spelling as a Rust literal (`litValue`: `007` is `7`, `3000000000` does not fit `i32`) or through
    `toml_datetime` (`dtValue`): both are shared with the model, they are rustc's / `toml_datetime`'s, not the muncher's -/
def MacroVal.sem : MacroVal → R MVal
  | .int s body => litValue s.neg (.num body [] false)
  | .float s body => litValue s.neg (.num body [] true)
  | .special s nan =>
    .ok (.float ((if nan then Spec.Ieee.nanBits else Spec.Ieee.infBits) + (if s.neg then Spec.Ieee.signBit else 0)))
  | .bool b => .ok (.bool b)
  | .str _ val => .ok (.str val)
  | .chr _ val => .ok (.str val)
  | .dt f => dtValue f.text
  | .arr items _ => R.bind (semItems items []) fun vs => .ok (.arr vs)
def semItems : List MacroVal → List MVal → R (List MVal)
  | [], acc => .ok acc
  | a :: r, acc => R.bind a.sem fun v => semItems r (acc ++ [v])
end

mutual
def MacroVal.cost : MacroVal → Nat
  | .arr items _ => costs items + 1
  | _ => 0
def costs : List MacroVal → Nat
  | [] => 1
  | a :: r => a.cost + 2 + costs r
end

/-- every item followed by a comma: what `@trailingcomma` hands to `@array` -/
def itemsToks : List MacroVal → List TT
  | [] => []
  | a :: r => a.toks ++ commaT :: itemsToks r


end TomlVerif.Lemmas.Macro19

namespace TomlVerif.Lemmas.Macro19b
open TomlVerif TomlVerif.Model TomlVerif.Model.Macro TomlVerif.Lemmas.Macro19

def joinC : List (List TT) → Bool → List TT
  | [], _ => []
  | [c], trailing => c ++ (if trailing then [commaT] else [])
  | c :: d :: r, trailing => c ++ commaT :: joinC (d :: r) trailing

def termC : List (List TT) → List TT
  | [] => []
  | c :: r => c ++ commaT :: termC r

def ChunkOk (c : List TT) : Prop := ∃ t, c.getLast? = some t ∧ isP 0x2C t = false

theorem joinC_items (l : List (List TT)) (hne : l ≠ []) (hc : ∀ c ∈ l, ChunkOk c) :
    joinC l true = termC l ∧ joinC l false ++ [commaT] = termC l ∧
    ∃ t, (joinC l false).getLast? = some t ∧ isP 0x2C t = false := by
  induction l with
  | nil => exact absurd rfl hne
  | cons a r ih =>
    cases r with
    | nil =>
      obtain ⟨t, ht, hc⟩ := hc a (by simp)
      refine ⟨by simp [joinC, termC], by simp [joinC, termC], t, ?_, hc⟩
      simpa [joinC] using ht
    | cons b r =>
      obtain ⟨h1, h2, t, ht, hc⟩ := ih (by simp) (fun c hm => hc c (by simp [hm]))
      refine ⟨?_, ?_, t, ?_, hc⟩
      · rw [joinC, h1]; simp [termC]
      · rw [joinC]; simp only [List.append_assoc, List.cons_append]; rw [h2]; simp [termC]
      · rw [joinC]
        have hne2 : joinC (b :: r) false ≠ [] := by intro h; rw [h] at ht; simp at ht
        obtain ⟨x, xs, hx⟩ := List.exists_cons_of_ne_nil hne2
        rw [hx] at ht ⊢
        simp [List.getLast?_append, List.getLast?_cons_cons, ht]

theorem withComma_last {ts : List TT} {l : TT} (h : ts.getLast? = some l) :
    withComma ts = if isP 0x2C l then ts else ts ++ [commaT] := by
  rw [withComma, h]; rfl

theorem withComma_joinC (l : List (List TT)) (tr : Bool) (hc : ∀ c ∈ l, ChunkOk c) :
    withComma (joinC l tr) = termC l := by
  cases l with
  | nil => simp [joinC, termC, withComma]
  | cons a r =>
    obtain ⟨h1, h2, t, ht, hc⟩ := joinC_items (a :: r) (by simp) hc
    cases tr with
    | true =>
      rw [h1]
      have : (termC (a :: r)).getLast? = some commaT := by rw [← h2]; simp
      simp [withComma_last this]
    | false =>
      simp only [withComma_last ht, hc, Bool.false_eq_true, if_false]
      exact h2

end TomlVerif.Lemmas.Macro19b

namespace TomlVerif.Lemmas.Macro19
open TomlVerif TomlVerif.Model TomlVerif.Model.Macro TomlVerif.Lemmas.Macro19b

theorem isP_comma_eq {c : TT} (h : isP 0x2C c = true) : c = commaT := by
  cases c with
  | tok t =>
    cases t with
    | punct c' => simp at h; subst h; rfl
    | _ => simp at h
  | group d ts => simp at h

theorem R.bind_ok {α β} (a : α) (f : α → R β) : R.bind (.ok a) f = f a := rfl

/-- the arms shared by `@array` and `@table`: sign rewriting, the eleven date-time arms, `$v:tt ,` -/
def readVal (fuel : Nat) (ts0 : List TT) : R (MVal × List TT) :=
  let ts := rewriteSignComma ts0
  match firstDt comma ts dtArms with
  | some (dts, rest) => R.bind (dtValue dts) fun v => .ok (v, rest)
  | none =>
    match ts with
    | v :: c :: rest => if isP 0x2C c then R.bind (value fuel v) fun x => .ok (x, rest) else .unsupported
    | _ => .unsupported

theorem array_eq (fuel : Nat) (acc : List MVal) (ts : List TT) (hne : ts ≠ []) :
    array (fuel + 1) acc ts = R.bind (readVal fuel ts) fun p => array fuel (acc ++ [p.1]) p.2 := by
  rw [array]
  · unfold readVal
    simp only []
    cases hfd : firstDt comma (rewriteSignComma ts) dtArms with
    | some p =>
      obtain ⟨dts, rest⟩ := p
      simp only []
      cases dtValue dts <;> simp [R.bind]
    | none =>
      simp only []
      cases rewriteSignComma ts with
      | nil => rfl
      | cons v r =>
        cases r with
        | nil => rfl
        | cons c rest =>
          simp only []
          by_cases hc : isP 0x2C c = true
          · simp only [hc, if_true]
            cases value fuel v <;> simp [R.bind]
          · simp only [hc]; rfl
  · exact hne

/-- the `- $v` / `+ $v` arms put the token tree behind a sign into a parenthesis group and re-enter -/
def Sign.wrap : Sign → TT → TT
  | .none, m => m
  | .plus, m => posGroup m
  | .minus, m => negGroup m

/-- How the muncher, with fuel `f + 1`, reads the tokens of ONE value: the shapes of a date-time are taken by the
    date-time arms; everything else is an optional sign and one token tree that is no punctuation, and goes to
    `@value` (in a parenthesis group if signed). All positions of a value (array element, table entry, top level)
    are proved from this. -/
inductive Reads (f : Nat) : List TT → R MVal → Prop
  | dt (d : DtForm) : Reads f d.toks (dtValue d.text)
  | tt (s : Sign) (m : TT) (hm : ∀ c, isP c m = false) : Reads f (s.toks ++ [m]) (value (f + 1) (s.wrap m))

theorem dt_toks_head (f : DtForm) : ∃ n : Num, ∃ r, f.toks = n.tt :: r := by
  cases f <;> exact ⟨_, _, rfl⟩

theorem Reads.restOk {f : Nat} {ts : List TT} {r : R MVal} (h : Reads f ts r) (x : List TT) : RestOk (ts ++ x) := by
  intro t r' e
  cases h with
  | dt d =>
    obtain ⟨n, r, hn⟩ := dt_toks_head d
    rw [hn] at e; injection e with e; rw [← e]; rfl
  | tt s m hm => cases s <;> injection e with e <;> rw [← e] <;> first | exact hm _ | rfl

theorem Reads.last {f : Nat} {ts : List TT} {r : R MVal} (h : Reads f ts r) :
    ∃ t, ts.getLast? = some t ∧ isP 0x2C t = false := by
  cases h with
  | dt d => cases d <;> exact ⟨_, rfl, rfl⟩
  | tt s m hm => exact ⟨m, by simp, hm _⟩

theorem Reads.single {f : Nat} {t : TT} {r : R MVal} (h : Reads f [t] r) : r = value (f + 1) t := by
  generalize e : [t] = ts at h
  cases h with
  | dt d => cases d <;> cases e
  | tt s m hm =>
    cases s <;> injection e with e1 e2
    · rw [e1]; rfl
    · cases e2
    · cases e2

theorem firstDt_none_comma2 (sfx : List Pat) (v : TT) (rest : List TT) :
    firstDt sfx (v :: commaT :: rest) dtArms = none := by
  simp [firstDt, dtArms, matchPat]

theorem rewriteSignComma_nonsign (m : TT) (r : List TT) (h1 : isP 0x2D m = false) (h2 : isP 0x2B m = false) :
    rewriteSignComma (m :: r) = m :: r := by
  unfold rewriteSignComma
  split <;> simp_all

theorem rewriteSignComma_sign (s : Sign) (m : TT) (rest : List TT) (hm : ∀ c, isP c m = false) :
    rewriteSignComma (s.toks ++ m :: commaT :: rest) = s.wrap m :: commaT :: rest := by
  cases s with
  | none => exact rewriteSignComma_nonsign m _ (hm _) (hm _)
  | plus => simp [Sign.toks, Sign.wrap, rewriteSignComma]
  | minus => simp [Sign.toks, Sign.wrap, rewriteSignComma]

theorem readVal_reads {f : Nat} {ts : List TT} {r : R MVal} (h : Reads f ts r) (rest : List TT) (hr : RestOk rest) :
    readVal (f + 1) (ts ++ commaT :: rest) = R.bind r fun v => .ok (v, rest) := by
  unfold readVal
  cases h with
  | dt d =>
    obtain ⟨n, r, hn⟩ := dt_toks_head d
    have hs : rewriteSignComma (d.toks ++ commaT :: rest) = d.toks ++ commaT :: rest := by
      rw [hn]; exact rewriteSignComma_nonsign _ _ rfl rfl
    simp only [hs, firstDt_form d rest hr]
  | tt s m hm =>
    simp only [List.append_assoc, List.singleton_append, rewriteSignComma_sign s m rest hm, firstDt_none_comma2]
    simp

theorem array_reads {f : Nat} {ts : List TT} {r : R MVal} (h : Reads f ts r) (acc : List MVal) (rest : List TT)
    (hr : RestOk rest) :
    array (f + 2) acc (ts ++ commaT :: rest) = R.bind r fun v => array (f + 1) (acc ++ [v]) rest := by
  rw [array_eq _ _ _ (by simp), readVal_reads h rest hr]
  cases r <;> rfl

theorem value_wrap_num (f : Nat) (s : Sign) (b : Bytes) (fl : Bool) :
    value (f + 1) (s.wrap (.tok (.num b [] fl))) = litValue s.neg (.num b [] fl) := by
  cases s <;> simp [Sign.wrap, Sign.neg, value, negGroup, posGroup, parenValue]

theorem value_wrap_special (f : Nat) (s : Sign) (nan : Bool) :
    value (f + 1) (s.wrap (.tok (.ident (if nan then bNan else bInf)))) =
      .ok (.float ((if nan then Spec.Ieee.nanBits else Spec.Ieee.infBits) + (if s.neg then Spec.Ieee.signBit else 0))) := by
  cases s <;> cases nan <;> simp [Sign.wrap, Sign.neg, value, negGroup, posGroup, parenValue, bNan, bInf]

theorem value_bool (fuel : Nat) (b : Bool) :
    value (fuel + 1) (.tok (.ident (if b then bTrue else bFalse))) = .ok (.bool b) := by
  cases b <;> simp [value, litValue, bNan, bInf, bTrue, bFalse]
theorem value_str (fuel : Nat) (raw val : Bytes) : value (fuel + 1) (.tok (.str raw val)) = .ok (.str val) := by
  simp [value, litValue]
theorem value_chr (fuel : Nat) (raw val : Bytes) : value (fuel + 1) (.tok (.chr raw val)) = .ok (.str val) := by
  simp [value, litValue]

theorem joinToks_eq (l : List MacroVal) (tr : Bool) : joinToks l tr = joinC (l.map MacroVal.toks) tr := by
  induction l with
  | nil => rfl
  | cons a r ih =>
    cases r with
    | nil => simp [joinToks, joinC]
    | cons b r => rw [joinToks, ih]; rfl

theorem itemsToks_eq (l : List MacroVal) : itemsToks l = termC (l.map MacroVal.toks) := by
  induction l with
  | nil => rfl
  | cons a r ih => rw [itemsToks, ih]; rfl

theorem MacroVal.shape (a : MacroVal) (f : Nat) : ∃ r, Reads f a.toks r := by
  cases a with
  | int s b => exact ⟨_, .tt s _ fun _ => rfl⟩
  | float s b => exact ⟨_, .tt s _ fun _ => rfl⟩
  | special s n => exact ⟨_, .tt s _ fun _ => rfl⟩
  | dt d => exact ⟨_, .dt d⟩
  | _ => exact ⟨_, .tt .none _ fun _ => rfl⟩

theorem withComma_join (l : List MacroVal) (tr : Bool) : withComma (joinToks l tr) = itemsToks l := by
  rw [joinToks_eq, itemsToks_eq]
  apply withComma_joinC
  intro c hc
  obtain ⟨a, _, rfl⟩ := List.mem_map.1 hc
  obtain ⟨_, h⟩ := a.shape 0
  exact h.last

theorem toks_head_ok (a : MacroVal) (x : List TT) : RestOk (a.toks ++ x) := by
  obtain ⟨_, h⟩ := a.shape 0
  exact h.restOk x

theorem restOk_nil : RestOk [] := by intro t r h; cases h

theorem itemsToks_restOk (l : List MacroVal) : RestOk (itemsToks l) := by
  cases l with
  | nil => exact restOk_nil
  | cons a r => exact toks_head_ok a _

mutual
theorem MacroVal.reads (a : MacroVal) (f : Nat) (hf : a.cost ≤ f) : Reads f a.toks a.sem := by
  match a with
  | .int s b => rw [MacroVal.sem, ← value_wrap_num f]; exact .tt s _ fun _ => rfl
  | .float s b => rw [MacroVal.sem, ← value_wrap_num f]; exact .tt s _ fun _ => rfl
  | .special s n => rw [MacroVal.sem, ← value_wrap_special f]; exact .tt s _ fun _ => rfl
  | .bool b => rw [MacroVal.sem, ← value_bool f]; exact .tt .none _ fun _ => rfl
  | .str raw v => rw [MacroVal.sem, ← value_str f raw]; exact .tt .none _ fun _ => rfl
  | .chr raw v => rw [MacroVal.sem, ← value_chr f raw]; exact .tt .none _ fun _ => rfl
  | .dt d => exact .dt d
  | .arr items tr =>
    have hv : value (f + 1) (.group .bracket (joinToks items tr)) = (MacroVal.arr items tr).sem := by
      rw [value, withComma_join, array_items items f [] (by simp [MacroVal.cost] at hf; omega), MacroVal.sem]
      cases semItems items [] <;> rfl
    rw [← hv]; exact .tt .none _ fun _ => rfl

theorem array_items (l : List MacroVal) : ∀ (fuel : Nat) (acc : List MVal), costs l ≤ fuel →
    array fuel acc (itemsToks l) = semItems l acc := by
  intro fuel acc hf
  match l with
  | [] =>
    obtain ⟨f, rfl⟩ : ∃ f, fuel = f + 1 := ⟨fuel - 1, by simp [costs] at hf; omega⟩
    simp [itemsToks, semItems, array]
  | a :: r =>
    have hf' : a.cost + 2 + costs r ≤ fuel := by simpa [costs] using hf
    obtain ⟨f, rfl⟩ : ∃ f, fuel = f + 2 := ⟨fuel - 2, by omega⟩
    rw [itemsToks, array_reads (a.reads f (by omega)) _ _ (itemsToks_restOk r), semItems]
    cases a.sem with
    | ok v => exact array_items r (f + 1) (acc ++ [v]) (by omega)
    | _ => rfl
end

theorem sizeTTs_append (x y : List TT) : sizeTTs (x ++ y) = sizeTTs x + sizeTTs y := by
  induction x with
  | nil => simp [sizeTTs]
  | cons t r ih => simp [sizeTTs, ih]; omega

def sumSizes : List MacroVal → Nat
  | [] => 0
  | a :: r => sizeTTs a.toks + sumSizes r

theorem sumSizes_le_join (l : List MacroVal) (tr : Bool) : sumSizes l ≤ sizeTTs (joinToks l tr) := by
  induction l with
  | nil => simp [sumSizes]
  | cons a r ih =>
    cases r with
    | nil => simp [sumSizes, joinToks, sizeTTs_append]
    | cons b r => rw [joinToks, sizeTTs_append, sumSizes, sizeTTs]; omega

theorem Reads.size {f : Nat} {ts : List TT} {r : R MVal} (h : Reads f ts r) : 1 ≤ sizeTTs ts := by
  cases h with
  | dt d =>
    obtain ⟨n, r, hn⟩ := dt_toks_head d
    rw [hn, sizeTTs, Num.tt, sizeTT]; omega
  | tt s m hm =>
    rw [sizeTTs_append, sizeTTs]
    cases m <;> rw [sizeTT] <;> omega

theorem leaf_cost_le (a : MacroVal) (h : a.cost = 0) : a.cost + 2 ≤ 2 * sizeTTs a.toks := by
  obtain ⟨_, hr⟩ := a.shape 0
  have := hr.size
  omega

mutual
theorem cost_le (a : MacroVal) : a.cost + 2 ≤ 2 * sizeTTs a.toks := by
  cases a with
  | arr items tr =>
    have h1 := costs_le items
    have h2 := sumSizes_le_join items tr
    simp [MacroVal.cost, MacroVal.toks, sizeTTs, sizeTT]; omega
  | _ => exact leaf_cost_le _ rfl
theorem costs_le (l : List MacroVal) : costs l ≤ 1 + 2 * sumSizes l := by
  match l with
  | [] => simp [costs, sumSizes]
  | a :: r =>
    have h1 := cost_le a
    have h2 := costs_le r
    simp [costs, sumSizes]; omega
end

end TomlVerif.Lemmas.Macro19
