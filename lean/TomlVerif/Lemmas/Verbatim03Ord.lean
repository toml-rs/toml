import TomlVerif.Lemmas.Same03State
/-! C03, documents whose sections are NOT in pre-order — the proof for `ordRunV`.  The class is
    inside `genRun2`, so the text `T` the printer over `f` writes for the parse state is followed
    by `PhaseF f` (`Lemmas/Same03State.lean`).  What the class adds: a header is spelled like the
    stored keys and takes nothing over, dotted keys are adjacent and spelled alike, so `T` grows
    at its end by the line as the source spells it: `T` is the source consumed so far (`OInv`). -/
namespace TomlVerif.Lemmas.Tiling03More
open TomlVerif TomlVerif.Spec TomlVerif.Model TomlVerif.Model.Strings TomlVerif.Model.Value
open TomlVerif.Model.Cst TomlVerif.Model.Encode TomlVerif.Lemmas.Suffix03 TomlVerif.Lemmas.Cst03
open TomlVerif.Lemmas.LastByte03 TomlVerif.Lemmas.Tiling03 TomlVerif.Lemmas.Tiling03Hdr
open TomlVerif.Lemmas.Tiling03Nest TomlVerif.Lemmas.Tiling03More.Tko TomlVerif.Lemmas.Tiling03More.Nad
open TomlVerif.Lemmas.Tiling03More.Gen TomlVerif.Lemmas.Tiling03More.VS

theorem pathOkO_stored (f : Bytes → Bytes) (inp : Bytes) (a : Bool) (key : CKey) :
    ∀ (pp : List CKey) (t : CTbl), pathOkO inp a key t pp = true →
      (∃ P L, storedPath a key t pp = P ++ [L] ∧ SegsEq f inp P pp ∧ LeafEq f inp L key) ∧
      (a = false → findTable key.key t pp = none)
  | [], t, h => by
    simp only [pathOkO, Bool.and_eq_true] at h
    have h2 := h.2
    cases hl : clookup key.key t.items with
    | none =>
      refine ⟨⟨[], key, ?_, .nil, LeafEq.refl f inp key⟩, fun _ => by simp [findTable, hl]⟩
      simp [storedPath, ckeyOf_none hl]
    | some y =>
      rw [hl] at h2
      cases y with
      | value v => simp at h2
      | table sub => simp at h2
      | aot ts asp =>
        simp only [Bool.and_eq_true] at h2
        obtain ⟨ha, hs⟩ := h2
        subst ha
        obtain ⟨A, k', B, e1, e2, e3, e4, _⟩ := clookup_split _ _ _ hl
        simp only [segChk, e4, if_true] at hs
        refine ⟨⟨[], k', by simp [storedPath, e4], .nil, (sameLeaf_leafEq f inp key k' hs).symm⟩, fun h => by cases h⟩
  | k :: ks, t, h => by
    simp only [pathOkO, Bool.and_eq_true] at h
    have h2 := h.2
    cases hl : clookup k.key t.items with
    | none =>
      refine ⟨⟨k :: ks, key, by simp [storedPath, hl, ckeyOf_none hl, storedPath_new], SegsEq.refl f inp _, LeafEq.refl f inp key⟩,
        fun _ => by simp [findTable, hl]⟩
    | some y =>
      rw [hl] at h2
      obtain ⟨A, k', B, e1, e2, e3, e4, _⟩ := clookup_split _ _ _ hl
      cases y with
      | value v => simp at h2
      | table sub =>
        simp only [Bool.and_eq_true, segChk, e4, Bool.false_eq_true, if_false] at h2
        obtain ⟨⟨P, L, i1, i2, i3⟩, i4⟩ := pathOkO_stored f inp a key ks sub h2.2
        refine ⟨⟨k' :: P, L, by simp [storedPath, hl, e4, i1], .cons (sameSeg_segEq f inp k k' h2.1).symm i2, i3⟩, ?_⟩
        intro ha; simp only [findTable, hl]; exact i4 ha
      | aot ts asp =>
        simp only [Bool.and_eq_true, segChk, e4, Bool.false_eq_true, if_false] at h2
        obtain ⟨hseg, h3⟩ := h2
        cases hrev : ts.reverse with
        | nil => rw [hrev] at h3; cases h3
        | cons l rest =>
          rw [hrev] at h3
          simp only [] at h3
          obtain ⟨⟨P, L, i1, i2, i3⟩, i4⟩ := pathOkO_stored f inp a key ks l h3
          refine ⟨⟨k' :: P, L, by simp [storedPath, hl, e4, hrev, i1], .cons (sameSeg_segEq f inp k k' hseg).symm i2, i3⟩, ?_⟩
          intro ha; simp only [findTable, hl, hrev]; exact i4 ha

theorem hdrText_stored (f : Bytes → Bytes) (inp : Bytes) (a : Bool) (key : CKey) (pp : List CKey) (t : CTbl)
    (h : pathOkO inp a key t pp = true) (dec : Decor) :
    hdrText f inp dec (storedPath a key t pp) a = hdrText f inp dec (pp ++ [key]) a := by
  obtain ⟨⟨P, L, e, h1, h2⟩, _⟩ := pathOkO_stored f inp a key pp t h
  unfold hdrText
  rw [e, encodeKeyPath_congr f inp P pp L key [] [] h1 h2]
  simp

def OInv (f : Bytes → Bytes) (inp base : Bytes) (st : CState) (s : Bytes) : Prop :=
  ∃ T, PhaseF f inp st T ∧ PInvT st ∧ gk2Items inp st.root.items ∧ bodyOkN st.current.items = true ∧
    TxtOf inp base st.trailing T s

theorem oinv_consume (f : Bytes → Bytes) (inp base : Bytes) (st : CState) (s s' : Bytes) (hs : s' <:+ s)
    (h : OInv f inp base st s) : OInv f inp base (onWs st (pos inp.length s) (pos inp.length s')) s' := by
  obtain ⟨w, rfl⟩ := hs
  obtain ⟨e1, e2, e3, e4, e5⟩ := onWs_fields st (pos inp.length (w ++ s')) (pos inp.length s')
  obtain ⟨T, hsh, hP, hg, hbn, htx⟩ := h
  refine ⟨T, ?_, ?_, by rw [e1]; exact hg, by rw [e2]; exact hbn,
    txtOf_onWs inp base st _ w s' htx⟩
  · unfold PhaseF; rw [e1, e2, e3, e4, e5]; exact hsh
  · unfold PInvT; rw [e1, e2, e3, e5]; exact hP

theorem oinv_parseWs (f : Bytes → Bytes) (inp base : Bytes) (st : CState) (s : Bytes)
    (h : OInv f inp base st s) :
    OInv f inp base (parseWs inp.length st s).1 (parseWs inp.length st s).2 :=
  oinv_consume f inp base st s (dropWs s) (Suffix03.dropWs_suffix s) h

theorem header_step_ord (f : Bytes → Bytes) (inp base : Bytes) (hf : FixOn f inp)
    (st st' : CState) (s r3 : Bytes)
    (h : ctableLine inp.length st s = some (st', r3)) (hok : hdrLineOkO inp st s = true)
    (hI : OInv f inp base st s) : OInv f inp base st' r3 := by
  obtain ⟨isArr, r, ks, r2, hsr, hk, hlt, ho⟩ := table_frame _ _ _ _ _ h
  obtain ⟨T, hsh, hP, hg, _, htx⟩ := hI
  obtain ⟨SP, _, _, _, p4, p5, p6, _, p8, st1, pp, key, hfin, hks, hSP, hnil⟩ :=
    header_phase f inp st st' s r r2 isArr ks T (txtOf_suffix htx) hsr hk ho
      (hdrLineOkT_T2 inp st s (hdrLineOkA_T inp st s (hdrLineOkO_A inp st s hok))) hsh hP hg
  have hsl : splitLast ks = some (pp, key) := by rw [hks]; exact vsplitLast_snoc pp key
  have hpo := hdrLineOkWith_use (p := pathOkO inp) st st1 isArr r _ ks pp key
    (show hdrLineOkO inp st _ = true by rw [← hsr]; exact hok) hfin hk hsl
  have hci : st'.current.items = [] := by
    cases isArr with
    | false => exact hnil (Or.inr ((pathOkO_stored f inp false key pp st1.root hpo).2 rfl))
    | true => exact hnil (Or.inl rfl)
  refine ⟨_, p4, p5, p6, by rw [hci]; rfl, ?_⟩
  rw [hSP, hdrText_stored f inp isArr key pp st1.root hpo, ← hks, p8]
  exact txtOf_header f inp base hf st.trailing isArr s r r2 r3 ks hsr hk hlt (by rw [hks]; simp) T htx

theorem keyval_step_ord (f : Bytes → Bytes) (inp base : Bytes) (hf : FixOn f inp)
    (st st' : CState) (s r3 : Bytes)
    (h : ckeyvalLine inp.length st s = some (st', r3)) (hok : kvLineOkV inp st s = true)
    (hI : OInv f inp base st s) : OInv f inp base st' r3 := by
  obtain ⟨T, hsh, hP, hg, hbn, htx⟩ := hI
  have hs := txtOf_suffix htx
  obtain ⟨ks, r1, v, r2, path, key, c, hk, hv, hlt, hsl, hd, he⟩ := keyval_frame _ _ _ _ _ h
  clear h
  subst he
  obtain ⟨hsv0, hdo⟩ := kvLineOkV_use inp st s r1 r2 ks path key v hok hk hv hsl
  have hks := vsplitLast_some _ _ _ hsl
  have hksG := ckeyPath_GK inp s _ ks hs hk
  have hpathG : ∀ k ∈ path, GKey inp k := fun k hk' => hksG k (by rw [hks]; exact List.mem_append_left _ hk')
  obtain ⟨items, imp, p, dec, sp, hcur, _, hgi⟩ := phaseF_current hsh
  have hitems : st.current.items = items := by rw [hcur]; rfl
  rw [hitems] at hbn
  have hbody := bodyOkN_U _ hbn
  have hbg : bodyG inp items := gk2_bodyG inp items hbody hgi
  have hcm := kvCur_mk st (kvVal inp.length v r1 r2) items imp false p dec sp hcur
  have hci : (kvCur st (kvVal inp.length v r1 r2)).items = items := by
    rw [(kvCur_fields st (kvVal inp.length v r1 r2)).1, hcur]; rfl
  obtain ⟨src, out, tr, eol, h1, h2, h3, h4, h5⟩ := htx
  have htrs : tr ++ s <:+ inp := ⟨base ++ src, by rw [h2]; simp [List.append_assoc]⟩
  have hund0 := (cvalue_undotted hv).1
  have hund : undotted (kvVal inp.length v r1 r2) = true := by
    unfold kvVal; rw [undotted_setDecor]; exact hund0
  have hdo' : dottedOk inp (kvCur st (kvVal inp.length v r1 r2)) path = true := by
    rw [dottedOk_items inp st.current _ (by rw [hci, hcur]; rfl)]; exact hdo
  -- the text: the entry is appended, under the keys as spelled
  obtain ⟨k1, k2, X, k3, k4⟩ := kv_descendU f inp (kvFn path (kvKey st key) (kvVal inp.length v r1 r2)) (kvKey st key)
    (kvVal inp.length v r1 r2) hund (fun p p' hp => (kvFn_facts _ _ _ _ _ hp).1) path _ c [] [] hdo'
    (by rw [hci]; exact hbody) .nil hd
  -- the same `descend` once more, for the shape `bodyOkN` and the grammatical keys of the new body
  obtain ⟨_, n3, n4, _⟩ := kv_descendN inp (kvFn path (kvKey st key) (kvVal inp.length v r1 r2)) (kvKey st key)
    (kvVal inp.length v r1 r2) hund (fun p p' hp => kvFn_facts _ _ _ _ _ hp) path _ c []
    (dottedOkA_N path _ (dottedOk_A inp path _ hdo')) (by rw [hci]; exact hbn)
    (by rw [hci]; exact hbg) hpathG hd
  have htic : tiTbl c = true := by
    refine descend_ti _ (kvFn_ti path (kvKey st key) (kvVal inp.length v r1 r2)) path _ _ _ ?_ hd
    rw [hcm]
    have := hP.current
    rw [hcur] at this
    exact this
  obtain ⟨ci, hci2⟩ : ∃ ci, c.items = ci := ⟨_, rfl⟩
  rw [hci2] at k1 k2 k3 n3 n4
  rw [hci] at k3
  have hc' : c = .mk ci imp false p dec (kvCur st (kvVal inp.length v r1 r2)).span := by
    rw [k1]
    conv => lhs; rw [hcm]
    simp [CTbl.setItems, CTbl.dotted, CTbl.implicit, CTbl.pos, CTbl.decor, CTbl.span]
  clear k1
  subst hc'
  obtain ⟨H, hT, hph⟩ := phaseF_body f inp st T items imp p dec sp hsh hcur
  refine ⟨_, hph ci _ (mixOk_body inp _ k2 n4) ?_ (fun _ => bodyG_gk2 inp _ k2 n4), ?_, hg, n3, ?_⟩
  · intro g Y
    rw [bodyOkU_ns g inp _ k2 Y, bodyOkU_ns g inp _ hbody Y]
  · obtain ⟨p1, p2, p3, p4, p5, p6⟩ := hP
    refine ⟨p1, p2, p3, p4, htic, ?_⟩
    intro hne
    have := p6 hne
    rw [hcur] at this
    exact this
  · have k4' := k4 [] [0x20]
    simp only [List.nil_append] at k4'
    have hT' : H ++ encodeBody f inp (valuesTbl ci []) = T ++ (encodeKeyPath f inp (path ++ [kvKey st key]) [] [0x20] ++ [0x3D]
        ++ encodeValue f inp (kvVal inp.length v r1 r2) [0x20] [] ++ [0x0A]) := by
      rw [hT, k3, encodeBody_append]
      simp only [encodeBody, k4', List.append_assoc, List.append_nil]
    obtain ⟨line, e, hs', hle, hl, htext⟩ := keyval_text_nV f inp hf st s r1 r2 r3 tr ks path key v hk hv hlt hsl hsv0 h1 htrs
    have := txtOf_line inp base T s src out tr eol line e r3 _ h2 h3 h4 h5 hs' hle hl
    simp only []
    rw [hT', htext]
    simpa [List.append_assoc] using this

theorem clines_oinv (f : Bytes → Bytes) (inp base : Bytes) (hf : FixOn f inp) (fuel : Nat) (st : CState)
    (s : Bytes) (stf : CState) (h : clines inp.length fuel st s = some stf) (hr : runOkO inp fuel st s = true)
    (hI : OInv f inp base st s) : OInv f inp base stf [] := by
  rw [runOkO_with] at hr
  refine clines_runOkWith (I := OInv f inp base) (E := fun st => OInv f inp base st [])
    (fun _ h => h) ?_ (oinv_parseWs f inp base) ?_ ?_
    (fun st st' s r hl hok => header_step_ord f inp base hf st st' s r hl hok)
    (fun st st' s r hl hok => keyval_step_ord f inp base hf st st' s r hl hok) fuel st s stf h hr hI
  · intro st t _ hI
    have h1 := oinv_consume f inp base st (0x23 :: t) [] List.nil_suffix hI
    rw [pos_nil] at h1
    exact oinv_parseWs f inp base _ [] h1
  · intro st t r _ hnl hI
    exact oinv_consume f inp base st (0x23 :: t) r
      (((newline?_adv hnl).1.trans (Suffix03.dropComment_suffix t)).trans (List.suffix_cons _ t)) hI
  · intro st s r hnl hI
    exact oinv_consume f inp base st s r (newline?_adv hnl).1 hI

theorem oinv_init (f : Bytes → Bytes) (s base : Bytes) (hbase : s = base ++ Doc.stripBom s) :
    OInv f s base {} (Doc.stripBom s) :=
  ⟨[], Or.inl ⟨rfl, rfl, [], false, some (0, 0), rfl, mixOk_nil s, fun _ => rfl, gk2_nil s, rfl⟩,
    ⟨rfl, rfl, rfl, rfl, rfl, fun h => absurd rfl h⟩, gk2_nil s, rfl,
    [], [], [], [], Or.inl ⟨rfl, rfl⟩, by simpa using hbase, rfl, .nil, Or.inl rfl⟩

/-- the printer over a decor transformation fixing the pieces of the source writes the source
    without its BOM, with some of its CR LF pairs written LF (`EolRel`; the parser drops the CR
    of the line end of a key/value or header line), plus a final LF when the source does not end
    in one -/
theorem ord_doc_tiling (f : Bytes → Bytes) (s : Bytes) (d : CDoc) (hf : FixOn f s)
    (h : parseCst s = some d) (hrun : ordRunV s = true) :
    ∃ out eol, printDocG f s d = out ++ eol ∧ EolRel out (Doc.stripBom s) ∧
      (eol = [] ∨ (eol = [0x0A] ∧ (Doc.stripBom s).getLast? ≠ some 0x0A)) := by
  obtain ⟨base, hbase⟩ := stripBom_split s
  obtain ⟨stf, st', hcl, hfin, rfl⟩ := parseCst_ok h
  unfold ordRunV at hrun
  simp only [] at hrun
  have h1 := oinv_parseWs f s base _ _ (oinv_init f s base hbase)
  obtain ⟨T, hsh, hP, hg, _, htx⟩ := clines_oinv f s base hf _ _ _ _ hcl hrun h1
  obtain ⟨f1, f2, f3, _, _, f6, f7, f8, f9, _⟩ := finalize_F f s stf st' T hfin hsh hP hg
  obtain ⟨src, out, tr, eol, g1, g2, g3, g4, g5⟩ := htx
  have htr : rawText s (takeTrailing stf.trailing) = tr :=
    trailIs_text s _ tr [] g1 ⟨base ++ src, by rw [g2]; simp [List.append_assoc]⟩
  have hs0 : Doc.stripBom s = src ++ tr := by
    have : base ++ Doc.stripBom s = base ++ (src ++ tr) := by
      rw [← hbase]; simpa [List.append_assoc] using g2
    exact List.append_cancel_left this
  have hp : printDocG f s { root := st'.root, trailing := takeTrailing st'.trailing } = out ++ eol ++ tr := by
    rw [printDocG_ord f s _ f7 f8 f6 f2 (fun x hx => (f9 x hx).1)]
    simp only []
    rw [f1, g3, f3, encRaw_fix hf, htr]
  rcases g5 with g5 | ⟨g5, _, g6, g7⟩
  · subst g5
    refine ⟨out ++ tr, [], by rw [hp]; simp, ?_, Or.inl rfl⟩
    rw [hs0]; exact g4.append (EolRel.refl tr)
  · subst g5; subst g6
    refine ⟨out, [0x0A], by rw [hp]; simp, ?_, Or.inr ⟨rfl, ?_⟩⟩
    · rw [hs0, List.append_nil]; exact g4
    · rw [hs0, List.append_nil]; exact g7

end TomlVerif.Lemmas.Tiling03More
