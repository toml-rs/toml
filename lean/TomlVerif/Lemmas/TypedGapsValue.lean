import TomlVerif.Lemmas.SerTyped07Core
import TomlVerif.Lemmas.DeTyped13Sorted
/-! C07, reading back, `toml::Value` INSIDE a typed value (the case `hasValue ty = true`, for which `coreG` of
    `Lemmas/SerTyped07Core.lean` asks for a `LeafRule`): the leaf.

    A field of type `toml::Value` holding `v` serializes through `impl Serialize for Value` (`serCalls v`: the three
    passes at every table), read as serde calls (`svalOfSer`), into the `toml_edit` value `x` (`serValue`). Whatever data
    `w` holds `x` (`Sim cf`: doubles after `cf`, the entries of every table in ANY order), `Value`'s visitor of the
    default build (`BTreeMap`, `fl = .sorted`) on `w` returns `mapF (cf ∘ clearNanSign) v`: the value itself, its doubles
    after the serializer (`copysign` on a NaN) and the transport (`cf`). The walk over `v` is done once for either build
    (`leaf_okG` over `LeafLaws`); `lawsSorted` is the default build, `lawsInsertion` (Lemmas/TypedGapsInsertionA.lean)
    the one with `preserve_order`. -/
namespace TomlVerif.Lemmas.TypedGaps
open TomlVerif TomlVerif.Model TomlVerif.Model.TomlValue TomlVerif.Model.DeRoutes TomlVerif.Model.DeTyped
open TomlVerif.Model.SerTyped TomlVerif.Model.Ser TomlVerif.Spec TomlVerif.Spec.Serde
open TomlVerif.Lemmas.SerTyped07 TomlVerif.Lemmas.DeTyped13 TomlVerif.Lemmas.DeRoutes13
open TomlVerif.Lemmas.RoundTrip17 (KSorted ksorted_nodup placeTV placeTVs placeTVPs placeTVPs_eq_map insertAll_of_sorted
  mem_serOrder serOrder_keys_perm)

mutual
def mapF (g : Nat → Nat) : TV → TV
  | .float b => .float (g b)
  | .arr l => .arr (mapFs g l)
  | .tbl items => .tbl (mapFPs g items)
  | .str s => .str s
  | .int n => .int n
  | .bool b => .bool b
  | .dt d => .dt d
def mapFs (g : Nat → Nat) : List TV → List TV
  | [] => []
  | v :: r => mapF g v :: mapFs g r
def mapFPs (g : Nat → Nat) : List (Bytes × TV) → List (Bytes × TV)
  | [] => []
  | (k, v) :: r => (k, mapF g v) :: mapFPs g r
end

theorem mapFPs_eq_map (g : Nat → Nat) (l : List (Bytes × TV)) : mapFPs g l = l.map fun e => (e.1, mapF g e.2) := by
  induction l with
  | nil => rfl
  | cons x r ih => obtain ⟨k, v⟩ := x; simp [mapFPs, ih]

mutual
theorem mapF_id : ∀ v : TV, mapF id v = v
  | .float _ => by simp [mapF]
  | .arr l => by simp [mapF, mapFs_id l]
  | .tbl items => by simp [mapF, mapFPs_id items]
  | .str _ => by simp [mapF]
  | .int _ => by simp [mapF]
  | .bool _ => by simp [mapF]
  | .dt _ => by simp [mapF]
theorem mapFs_id : ∀ l : List TV, mapFs id l = l
  | [] => rfl
  | v :: r => by simp [mapFs, mapF_id v, mapFs_id r]
theorem mapFPs_id : ∀ l : List (Bytes × TV), mapFPs id l = l
  | [] => rfl
  | (k, v) :: r => by simp [mapFPs, mapF_id v, mapFPs_id r]
end

theorem serCallsPairs_eq_map (items : List (Bytes × TV)) :
    serCallsPairs items =
      items.map fun e => (e.1, ((if pass1 e.2 then 1 else if pass2 e.2 then 2 else 3), serCalls e.2)) := by
  induction items with
  | nil => rfl
  | cons x r ih => obtain ⟨k, v⟩ := x; simp [serCallsPairs, ih]

theorem serOrderSer_serCallsPairs (items : List (Bytes × TV)) :
    serOrderSer (serCallsPairs items) = (serOrder items).map fun e => (e.1, serCalls e.2) := by
  rw [serCallsPairs_eq_map]
  unfold serOrderSer serOrder
  simp only [List.filter_map, List.map_append, List.map_map]
  have e : ∀ (n : Nat) (p : TV → Bool),
      (∀ v, ((if pass1 v then 1 else if pass2 v then 2 else 3 : Nat) == n) = p v) → ∀ l : List (Bytes × TV),
      (l.filter ((fun e : Bytes × (Nat × Ser) => e.2.1 == n) ∘
        fun e : Bytes × TV => (e.1, ((if pass1 e.2 then 1 else if pass2 e.2 then 2 else 3), serCalls e.2)))) =
      l.filter fun e => p e.2 :=
    fun n p h l => List.filter_congr fun e _ => h e.2
  have h : ∀ v, (((if pass1 v then 1 else if pass2 v then 2 else 3 : Nat) == 1) = pass1 v) ∧
      (((if pass1 v then 1 else if pass2 v then 2 else 3 : Nat) == 2) = pass2 v) ∧
      (((if pass1 v then 1 else if pass2 v then 2 else 3 : Nat) == 3) = pass3 v) := by
    intro v
    rcases TomlValue17.pass_exactly_one v with ⟨a, b, c⟩ | ⟨a, b, c⟩ | ⟨a, b, c⟩ <;> simp [a, b, c]
  rw [e 1 _ fun v => (h v).1, e 2 _ fun v => (h v).2.1, e 3 _ fun v => (h v).2.2]
  rfl

def ImgRelList : List TV → List V → Prop
  | [], [] => True
  | v :: r, x :: r' => serValue (svalOfSer (serCalls v)) = .ok x ∧ ImgRelList r r'
  | _, _ => False

theorem svalOfSerMap_calls (M : List (Bytes × TV)) :
    svalOfSerMap (M.map fun e => (e.1, serCalls e.2)) =
      (M.map fun e => (e.1, svalOfSer (serCalls e.2))).map fun kv => (SVal.str kv.1, kv.2) := by
  induction M with
  | nil => rfl
  | cons x r ih => obtain ⟨k, v⟩ := x; simp [svalOfSerMap, ih]

theorem serSeq_leaf : ∀ (l : List TV) (xs : List V), serSeq (svalOfSerList (serCallsList l)) = .ok xs → ImgRelList l xs
  | [], xs, h => by
    simp only [serCallsList, svalOfSerList] at h
    rw [serSeq_nil xs h]; trivial
  | v :: r, xs, h => by
    simp only [serCallsList, svalOfSerList] at h
    obtain ⟨x, xs', rfl, hx, hr⟩ := serSeq_cons _ _ _ h
    exact ⟨hx, serSeq_leaf r xs' hr⟩

/-! ## the leaf, for either build of the map

What comes back for a leaf `v` (`lf v`) depends on the build (`fl`, with the order relation `P` of `SimG`) at one place only:
how a table's entries, each already read back, are put into the map. `LeafLaws.tbl` is that step; the rest of the walk
over `v` is shared (`leaf_okG`). -/

theorem mapFs_eq_map (g : Nat → Nat) (l : List TV) : mapFs g l = l.map (mapF g) := by
  induction l with
  | nil => rfl
  | cons x r ih => simp [mapFs, ih]

theorem dtName_eq : dtName = NAME := by decide
theorem dtField_eq : dtField = FIELD := by decide

section
variable (P : List (Bytes × TV) → List (Bytes × TV) → Prop) (cf : Nat → Nat) (fl : Flavour) (lf : TV → TV)

/-- the statement for one embedded `toml::Value`: whatever data holds its serialized form (up to `P` on the order of
the entries of a table), `Value`'s visitor accepts it and its placement into the maps of the build is `lf v` -/
def LeafOkG (v : TV) : Prop :=
  ∀ (x : V) (w : TV), serValue (svalOfSer (serCalls v)) = .ok x → SimG P cf x w → WfTV w ∧ placeTV fl w = lf v

structure LeafLaws : Prop where
  str : ∀ s, lf (.str s) = .str s
  int : ∀ n, lf (.int n) = .int n
  bool : ∀ b, lf (.bool b) = .bool b
  dt : ∀ d, lf (.dt d) = .dt d
  float : ∀ b, lf (.float b) = .float (leafF cf b)
  arr : ∀ l, lf (.arr l) = .arr (l.map lf)
  /-- the entries `es` of the table arrive in an order `P` relates to the three-pass order `es0`; each is placed -/
  tbl : ∀ items es es0, valueOk (.tbl items) = true → P es es0 → WfPs es0 →
    placeTVPs fl es0 = (serOrder items).map (fun e => (e.1, lf e.2)) →
    WfTV (.tbl es) ∧ placeTV fl (.tbl es) = lf (.tbl items)

variable {P cf fl lf}

theorem leaf_pairsG : ∀ (M : List (Bytes × TV)) (img : List (Bytes × V)) (es0 : List (Bytes × TV)),
    (∀ e ∈ M, LeafOkG P cf fl lf e.2) → FieldsImg (M.map fun e => (e.1, svalOfSer (serCalls e.2))) img →
    SimGKVs P cf img es0 → WfPs es0 ∧ placeTVPs fl es0 = M.map (fun e => (e.1, lf e.2))
  | [], img, es0, _, hi, hs => by
    simp only [List.map_nil, FieldsImg] at hi; subst hi
    simp only [SimGKVs] at hs; subst hs
    simp [WfPs, placeTVPs]
  | (k, v) :: r, img, es0, ih, hi, hs => by
    simp only [List.map_cons, FieldsImg, svalOfSer_notNone, Bool.false_eq_true, if_false] at hi
    obtain ⟨x, img', rfl, hx, hr⟩ := hi
    simp only [SimGKVs] at hs
    obtain ⟨y, es', rfl, hy, hr'⟩ := hs
    obtain ⟨h1, h2⟩ := ih (k, v) (by simp) x y hx hy
    obtain ⟨a, b⟩ := leaf_pairsG r img' es' (fun e he => ih e (by simp [he])) hr hr'
    simp only [WfPs, placeTVPs, List.map_cons, h2, b]
    exact ⟨⟨h1, a⟩, trivial⟩

theorem leaf_listG : ∀ (l : List TV) (xs : List V) (ws : List TV),
    (∀ v ∈ l, LeafOkG P cf fl lf v) → ImgRelList l xs → SimGList P cf xs ws →
    WfVs ws ∧ placeTVs fl ws = l.map lf
  | [], [], ws, _, _, hs => by
    simp only [SimGList] at hs; subst hs
    simp [WfVs, placeTVs]
  | [], _ :: _, _, _, hi, _ => by simp [ImgRelList] at hi
  | _ :: _, [], _, _, hi, _ => by simp [ImgRelList] at hi
  | v :: r, x :: r', ws, ih, hi, hs => by
    simp only [ImgRelList] at hi
    obtain ⟨hx, hr⟩ := hi
    simp only [SimGList] at hs
    obtain ⟨y, ws', rfl, hy, hr'⟩ := hs
    obtain ⟨h1, h2⟩ := ih v (by simp) x y hx hy
    obtain ⟨a, b⟩ := leaf_listG r r' ws' (fun e he => ih e (by simp [he])) hr hr'
    simp only [WfVs, placeTVs, List.map_cons, h2, b]
    exact ⟨⟨h1, a⟩, trivial⟩

mutual
theorem leaf_okG (L : LeafLaws P cf fl lf) : ∀ v : TV, valueOk v = true → LeafOkG P cf fl lf v
  | .str s, _ | .bool b, _ => by
    intro x w hx hs
    simp only [serCalls, svalOfSer, serValue, Except.ok.injEq] at hx; subst hx
    simp only [SimG] at hs; subst hs
    simp [WfTV, placeTV, L.str, L.bool]
  | .int n, _ => by
    intro x w hx hs
    simp only [serCalls, svalOfSer, serValue, is128, Bool.false_eq_true, if_false] at hx
    have : (IntW.i64 == IntW.u64) = false := by decide
    simp only [this, Bool.false_and, Bool.false_eq_true, if_false, Except.ok.injEq] at hx; subst hx
    simp only [SimG] at hs; subst hs
    simp [WfTV, placeTV, L.int]
  | .float b, _ => by
    intro x w hx hs
    simp only [serCalls, svalOfSer, serValue, Except.ok.injEq] at hx; subst hx
    simp only [SimG] at hs; subst hs
    simp [WfTV, placeTV, L.float, leafF]
  | .dt d, h => by
    intro x w hx hs
    simp only [valueOk] at h
    simp only [serCalls, svalOfSer, svalOfSerFields] at hx
    rw [← dtName_eq, ← dtField_eq, serValue_dt d h] at hx
    injection hx with hx; subst hx
    simp only [SimG] at hs; subst hs
    simp only [dtOk, beq_iff_eq] at h
    simp [WfTV, placeTV, L.dt, h]
  | .arr l, h => by
    intro x w hx hs
    simp only [valueOk] at h
    simp only [serCalls, svalOfSer, serValue] at hx
    split at hx
    · rename_i xs hxs
      injection hx with hx; subst hx
      simp only [SimG] at hs
      obtain ⟨ws, rfl, hws⟩ := hs
      obtain ⟨a, b⟩ := leaf_listG l xs ws (leaf_okG_list L l h) (serSeq_leaf l xs hxs) hws
      simp only [WfTV, placeTV, L.arr, b]
      exact ⟨a, trivial⟩
    · cases hx
  | .tbl items, h => by
    intro x w hx hs
    have h0 := h
    simp only [valueOk, Bool.and_eq_true, Bool.not_eq_true'] at h
    obtain ⟨⟨hasc, _⟩, hps⟩ := h
    have hnd : (items.map Prod.fst).Nodup := ksorted_nodup items (ascending_ksorted items hasc)
    simp only [serCalls, svalOfSer, serOrderSer_serCallsPairs, serValue] at hx
    split at hx
    · rename_i out hout
      injection hx with hx; subst hx
      have hndM : ((serOrder items).map Prod.fst).Nodup := ((serOrder_keys_perm items).nodup_iff).2 hnd
      rw [svalOfSerMap_calls, Ser07.serMap_str] at hout
      obtain ⟨img, ho, hi⟩ := serFields_spec _ [] out (by rw [List.map_map]; exact hndM) (by simp) hout
      simp only [List.nil_append] at ho; subst ho
      simp only [SimG] at hs
      obtain ⟨es, es0, rfl, hp, hkv⟩ := hs
      have ihM : ∀ e ∈ serOrder items, LeafOkG P cf fl lf e.2 :=
        fun e he => leaf_okG_pairs L items hps e ((mem_serOrder items e).1 he)
      obtain ⟨a, b⟩ := leaf_pairsG (serOrder items) out es0 ihM hi hkv
      exact L.tbl items es es0 h0 hp a b
    · cases hx
theorem leaf_okG_list (L : LeafLaws P cf fl lf) : ∀ l : List TV, valueOkList l = true → ∀ v ∈ l, LeafOkG P cf fl lf v
  | [], _, v, hv => by cases hv
  | a :: r, h, v, hv => by
    simp only [valueOkList, Bool.and_eq_true] at h
    rcases List.mem_cons.1 hv with hv | hv
    · rw [hv]; exact leaf_okG L a h.1
    · exact leaf_okG_list L r h.2 v hv
theorem leaf_okG_pairs (L : LeafLaws P cf fl lf) : ∀ l : List (Bytes × TV), valueOkPairs l = true →
    ∀ e ∈ l, LeafOkG P cf fl lf e.2
  | [], _, e, he => by cases he
  | (k, a) :: r, h, e, he => by
    simp only [valueOkPairs, Bool.and_eq_true] at h
    rcases List.mem_cons.1 he with he | he
    · rw [he]; exact leaf_okG L a h.1
    · exact leaf_okG_pairs L r h.2 e he
end

theorem leafRuleG (L : LeafLaws P cf fl lf) : LeafRule P cf fl lf := by
  intro v h x w hx hs
  obtain ⟨hw, hp⟩ := leaf_okG L v h x w hx hs
  constructor
  · intro c it hit
    subst hit
    unfold decodeEdit
    rw [value_of_item fl it hw, hp]
    rfl
  · intro cv
    unfold decodeValue
    rw [show currentDtAsMap = true from rfl, presValue_true_eq, visit_presEdit_wf fl _ w hw, hp]
    rfl

theorem tbl_keys {items es es0 : List (Bytes × TV)} (hp : es.Perm es0)
    (b : placeTVPs fl es0 = (serOrder items).map (fun e => (e.1, lf e.2))) :
    (es.map Prod.fst).Perm (items.map Prod.fst) := by
  refine (hp.map Prod.fst).trans ?_
  have := congrArg (List.map Prod.fst) b
  rw [RoundTrip17.placeTVPs_keys, List.map_map] at this
  rw [this]; exact serOrder_keys_perm items

theorem tbl_wf {items es : List (Bytes × TV)} (h : valueOk (.tbl items) = true)
    (hkeys : (es.map Prod.fst).Perm (items.map Prod.fst)) (a : WfPs es) : WfTV (.tbl es) := by
  simp only [valueOk, Bool.and_eq_true, Bool.not_eq_true'] at h
  rw [WfTV]
  refine ⟨a, (hkeys.nodup_iff).2 (ksorted_nodup items (ascending_ksorted items h.1.1)), fun hm => ?_⟩
  have : (items.map Prod.fst).contains FIELD = true := by simpa using hkeys.subset hm
  rw [this] at h; cases h.1.2

end

def LeafOk (cf : Nat → Nat) (v : TV) : Prop :=
  ∀ (x : V) (w : TV), serValue (svalOfSer (serCalls v)) = .ok x → Sim cf x w →
    WfTV w ∧ placeTV .sorted w = mapF (leafF cf) v

/-- what a `toml::Value` leaf comes back as in the default build: itself, its doubles after `leafF cf` -/
def leafS (cf : Nat → Nat) : TV → TV := mapF (leafF cf)

/-- `BTreeMap`: whatever the order of arrival, the map sorts, and the keys of a `valueOk` leaf ascend -/
theorem lawsSorted (cf : Nat → Nat) : LeafLaws List.Perm cf .sorted (leafS cf) where
  str _ := rfl
  int _ := rfl
  bool _ := rfl
  dt _ := rfl
  float _ := rfl
  arr l := by rw [leafS, mapF, mapFs_eq_map]
  tbl items es es0 h hp a b := by
    have hks : KSorted items := by
      simp only [valueOk, Bool.and_eq_true] at h
      exact ascending_ksorted items h.1.1
    refine ⟨tbl_wf h (tbl_keys hp b) ?_, ?_⟩
    · rw [wfPs_forall] at a ⊢
      exact fun e he => a e (hp.subset he)
    · simp only [placeTV, leafS, mapF, TV.tbl.injEq]
      apply insertAll_of_sorted
      · unfold KSorted at hks ⊢
        rw [mapFPs_eq_map, List.pairwise_map]
        exact hks
      · rw [placeTVPs_eq_map]
        refine (hp.map _).trans ?_
        rw [← placeTVPs_eq_map, b, mapFPs_eq_map]
        exact (TomlValue17.serOrder_perm items).map _

theorem leaf_ok_list (cf : Nat → Nat) : ∀ l : List TV, valueOkList l = true → ∀ v ∈ l, LeafOk cf v :=
  fun l h v hv x w hx hs => leaf_okG_list (lawsSorted cf) l h v hv x w hx ((simG_perm cf x w).2 hs)
theorem leaf_ok_pairs (cf : Nat → Nat) : ∀ l : List (Bytes × TV), valueOkPairs l = true → ∀ e ∈ l, LeafOk cf e.2 :=
  fun l h e he x w hx hs => leaf_okG_pairs (lawsSorted cf) l h e he x w hx ((simG_perm cf x w).2 hs)

theorem leafRuleS (cf : Nat → Nat) : LeafRule List.Perm cf .sorted (leafS cf) := leafRuleG (lawsSorted cf)

theorem coreV (nm : Bytes) (hnm : (nm == dtName) = false) (cf : Nat → Nat) :
    ∀ ty : Ty, WfTy ty = true →
      ∀ (d : Dec) (v : SVal) (x : V) (w : TV), WellTyped ty d = true → serOf nm ty d = some v → serValue v = .ok x →
        Sim cf x w → Good Flavour.sorted ty w (normDecV (leafF cf) (f32F cf) (leafS cf) ty d) :=
  fun ty hwf d v x w hwt hs hx hsim =>
    coreG _ (fun _ _ h => h) nm hnm cf .sorted (leafS cf) ty hwf (fun _ => leafRuleS cf) d v x w hwt hs hx ((simG_perm cf x w).2 hsim)

theorem core_tysV (nm : Bytes) (hnm : (nm == dtName) = false) (cf : Nat → Nat) :
    ∀ ts : Tys, WfTys ts = true →
      ∀ (l : List Dec) (vs : List SVal) (xs : List V) (ws : List TV), WellTypedTys ts l = true →
        serOfTys nm ts l = some vs → serSeq vs = .ok xs → SimList cf xs ws → GoodTys Flavour.sorted ts ws (normTysV (leafF cf) (f32F cf) (leafS cf) ts l) :=
  fun ts hwf l vs xs ws hwt hs hx hsim =>
    (coreG_all _ (fun _ _ h => h) nm hnm cf .sorted (leafS cf)).2.1 ts hwf (fun _ => leafRuleS cf) l vs xs ws hwt hs hx
      ((simGList_perm cf xs ws).2 hsim)

theorem core_fieldsV (nm : Bytes) (hnm : (nm == dtName) = false) (cf : Nat → Nat) :
    ∀ fs : Fields, WfFields fs = true → (Fields.names fs).Nodup →
      ∀ (l : List (Bytes × Dec)) (fields : List (Bytes × SVal)) (img : List (Bytes × V)) (es : List (Bytes × TV)),
        WellTypedFields fs l = true → serOfFields nm fs l = some fields → FieldsImg fields img →
        (∀ k x, (k, x) ∈ img → ∃ y, alookup k es = some y ∧ Sim cf x y) →
        (∀ k ∈ Fields.names fs, k ∉ img.map Prod.fst → alookup k es = none) →
        GoodFields Flavour.sorted fs es (normFieldsV (leafF cf) (f32F cf) (leafS cf) fs l) :=
  fun fs hwf hnd l fields img es hwt hs himg h1 h2 =>
    (coreG_all _ (fun _ _ h => h) nm hnm cf .sorted (leafS cf)).2.2.1 fs hwf (fun _ => leafRuleS cf) hnd l fields img es hwt hs himg
      (fun k x hm => (h1 k x hm).imp fun y hy => ⟨hy.1, (simG_perm cf x y).2 hy.2⟩) h2

theorem core_shapeV (nm : Bytes) (hnm : (nm == dtName) = false) (cf : Nat → Nat) :
    ∀ s : Shape, WfShape s = true →
      ∀ (name : Bytes) (d : Dec) (v : SVal) (x : V) (w : TV), WellTypedShape s d = true → variantName d = some name →
        serOfShape nm s name d = some v → serValue v = .ok x → Sim cf x w →
        (w = .str name ∧ s = .unit ∧ normShapeV (leafF cf) (f32F cf) (leafS cf) s d = .vUnit name) ∨
          (∃ p, w = .tbl [(name, p)] ∧ GoodShape Flavour.sorted s name p (normShapeV (leafF cf) (f32F cf) (leafS cf) s d)) :=
  fun s hwf name d v x w hwt hname hs hx hsim =>
    (coreG_all _ (fun _ _ h => h) nm hnm cf .sorted (leafS cf)).2.2.2.1 s hwf (fun _ => leafRuleS cf) name d v x w hwt hname hs hx
      ((simG_perm cf x w).2 hsim)

theorem core_variantsV (nm : Bytes) (hnm : (nm == dtName) = false) (cf : Nat → Nat) :
    ∀ vs : Variants, WfVariants vs = true →
      ∀ (d : Dec) (n : Bytes) (v : SVal) (x : V) (w : TV), variantName d = some n → WellTypedVariants vs d = true →
        serOfVariants nm vs d = some v → serValue v = .ok x → Sim cf x w →
        VariantGoal Flavour.sorted vs n w (normVariantsV (leafF cf) (f32F cf) (leafS cf) vs d) :=
  fun vs hwf d n v x w hn hwt hs hx hsim =>
    (coreG_all _ (fun _ _ h => h) nm hnm cf .sorted (leafS cf)).2.2.2.2 vs hwf (fun _ => leafRuleS cf) d n v x w hn hwt hs hx
      ((simG_perm cf x w).2 hsim)

end TomlVerif.Lemmas.TypedGaps
