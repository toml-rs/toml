import TomlVerif.Lemmas.CstInduct
import TomlVerif.Lemmas.Tiling03InlineRun
import TomlVerif.Lemmas.Tiling03Positions
import TomlVerif.Lemmas.CstEraseValue
/-! C03, documents with dotted keys in table bodies AND inside inline tables: the class `nestRunV`
    (= `nestRun true` with the value check of a key/value line relaxed from `simpleVal v` to the
    checked run `okValue` of `Tiling03InlineRun.lean`), bodies whose values are merely
    `undotted`, `descend` along adjacent dotted keys (`kv_descendU`) and the text of a key/value
    line (`keyval_text_nV`).  The file also holds `ctableLine_rest` / `ckeyvalLine_rest` (what a line
    leaves is a suffix of what it was given), which `Same03State` uses. -/
namespace TomlVerif.Lemmas.Tiling03More
open TomlVerif TomlVerif.Spec TomlVerif.Model TomlVerif.Model.Strings TomlVerif.Model.Value
open TomlVerif.Model.Cst TomlVerif.Model.Encode TomlVerif.Lemmas.Suffix03 TomlVerif.Lemmas.Cst03
open TomlVerif.Lemmas.LastByte03 TomlVerif.Lemmas.Tiling03 TomlVerif.Lemmas.Tiling03Hdr
open TomlVerif.Lemmas.Tiling03Nest

/-- the check of a key/value line: the value passes the checked run of the value parser
    (`okValue`: inside every inline table the dotted keys with a common prefix are adjacent and
    spell the shared segments alike) and the key passes `dottedOk` (the same for the dotted keys
    of the table body).  `3 * r1.length + 4` is the fuel `ckeyvalLine` gives `cvalue`, so the check
    follows the run the line makes. -/
def kvLineOkV (inp : Bytes) (st : CState) (s : Bytes) : Bool :=
  match ckeyPath inp.length s with
  | .ok ks (0x3D :: r1) =>
    (match cvalue inp.length (3 * r1.length + 4) (ks.length - 1) (dropWs r1) with
     | .ok _ _ =>
       okValue inp (3 * r1.length + 4) (ks.length - 1) (dropWs r1) &&
       (match splitLast ks with
        | some (path, _) => dottedOk inp st.current path
        | none => true)
     | _ => true)
  | _ => true

theorem kvLineOkV_use (inp : Bytes) (st : CState) (s r1 r2 : Bytes) (ks path : List CKey) (key : CKey)
    (v : CVal) (hok : kvLineOkV inp st s = true) (hk : ckeyPath inp.length s = .ok ks (0x3D :: r1))
    (hv : cvalue inp.length (3 * r1.length + 4) (ks.length - 1) (dropWs r1) = .ok v r2)
    (hsl : splitLast ks = some (path, key)) :
    okValue inp (3 * r1.length + 4) (ks.length - 1) (dropWs r1) = true ∧ dottedOk inp st.current path = true := by
  unfold kvLineOkV at hok
  rw [hk] at hok
  simp only [] at hok
  rw [hv] at hok
  simp only [hsl, Bool.and_eq_true] at hok
  exact hok

/-- the run checker: `runOk` with `kvLineOkV` at key/value lines -/
def runOkV (inp : Bytes) : Nat → CState → Bytes → Bool
  | 0, _, _ => true
  | fuel + 1, st, s =>
    let n := inp.length
    match s with
    | [] => true
    | b :: r =>
      if b == 0x23 then
        let r1 := dropComment r
        match r1 with
        | [] => true
        | _ => match newline? r1 with
          | some r2 =>
            let (st', r3) := parseWs n (onWs st (pos n s) (pos n r2)) r2
            runOkV inp fuel st' r3
          | none => true
      else if b == 0x5B then
        hdrLineOk inp st s &&
        (match ctableLine n st s with
         | some (st', r1) =>
           let (st'', r2) := parseWs n st' r1
           runOkV inp fuel st'' r2
         | none => true)
      else if b == 0x0A || b == 0x0D then
        match newline? s with
        | some r1 =>
          let (st', r2) := parseWs n (onWs st (pos n s) (pos n r1)) r1
          runOkV inp fuel st' r2
        | none => true
      else
        kvLineOkV inp st s &&
        (match ckeyvalLine n st s with
         | some (st', r1) =>
           let (st'', r2) := parseWs n st' r1
           runOkV inp fuel st'' r2
         | none => true)

/-- the source-side class: the checked run of `parse_document` -/
def nestRunV (s : Bytes) : Bool :=
  let n := s.length
  let s0 := Doc.stripBom s
  let (st0, s1) := parseWs n {} s0
  runOkV s (s1.length + 1) st0 s1

theorem runOkV_with (inp : Bytes) : ∀ (fuel : Nat) (st : CState) (s : Bytes),
    runOkV inp fuel st s = runOkWith (hdrLineOk inp) (kvLineOkV inp) inp.length fuel st s
  | 0, _, _ => rfl
  | fuel + 1, st, s => by
    unfold runOkV runOkWith
    simp only [runOkV_with inp fuel]
    rfl

theorem ctableLine_rest {n : Nat} {st st' : CState} {s r3 : Bytes} (h : ctableLine n st s = some (st', r3)) :
    r3 <:+ s := by
  obtain ⟨isArr, r, ks, r2, hsr, hk, hlt, _⟩ := table_frame _ _ _ _ _ h
  subst hsr
  have h1 : r3 <:+ r2 := (lineTrailing_suffix _ _ hlt).trans (trailEnd_suffix r2)
  exact ((h1.trans (List.suffix_append _ r2)).trans (Tiling03More.ckeyPath_adv hk).1).trans (List.suffix_append _ r)

theorem ckeyvalLine_rest {n : Nat} {st st' : CState} {s r3 : Bytes} (h : ckeyvalLine n st s = some (st', r3)) :
    r3 <:+ s := by
  obtain ⟨ks, r1, v, r2, path, key, c, hk, hv, hlt, _, _, _⟩ := keyval_frame _ _ _ _ _ h
  have h1 : r3 <:+ r2 := (lineTrailing_suffix _ _ hlt).trans (trailEnd_suffix r2)
  exact (h1.trans (cvalue_adv hv).1).trans
    ((Suffix03.dropWs_suffix r1).trans ((List.suffix_cons _ r1).trans (Tiling03More.ckeyPath_adv hk).1))

mutual
/-- a table body as key/value lines build it: values that are not dotted inline tables, and
    dotted-key tables of the same -/
def bodyOkU : List (CKey × CItem) → Bool
  | [] => true
  | (_, it) :: r =>
    match it with
    | .value v => undotted v && bodyOkU r
    | .table t => bodyTblU t && bodyOkU r
    | .aot _ _ => false
def bodyTblU : CTbl → Bool
  | .mk items _ dot _ _ _ => dot && bodyOkU items
end

/-- before the first header -/
def RootPhU (st : CState) : Prop :=
  st.root = CTbl.empty ∧ st.currentPath = [] ∧
  ∃ items imp sp, st.current = .mk items imp false none {} sp ∧ bodyOkU items = true

mutual
theorem bodyOkU_text (f : Bytes → Bytes) (inp : Bytes) : ∀ (items : Items), bodyOkU items = true →
    ∀ X, textItems f inp items X = []
  | [], _, _ => rfl
  | (k, .value v) :: r, h, X => by
    simp only [bodyOkU, Bool.and_eq_true] at h
    rw [textItems]; exact bodyOkU_text f inp r h.2 X
  | (k, .table t) :: r, h, X => by
    simp only [bodyOkU, Bool.and_eq_true] at h
    rw [textItems]
    rw [bodyTblU_text f inp t h.1, bodyOkU_text f inp r h.2 X]; rfl
  | (k, .aot _ _) :: r, h, _ => by simp [bodyOkU] at h
theorem bodyTblU_text (f : Bytes → Bytes) (inp : Bytes) : ∀ (t : CTbl), bodyTblU t = true →
    ∀ X a, textTbl f inp t X a = []
  | .mk items imp dot p dec sp, h, X, a => by
    simp only [bodyTblU, Bool.and_eq_true] at h
    rw [textTbl, h.1, bodyOkU_text f inp items h.2 X]; rfl
end

theorem body_sum :
    (∀ (items : Items), bodyOkU items = true → sumItems items = []) ∧
    (∀ (t : CTbl), bodyTblU t = true → ∀ r a, sumTbl t r a = []) ∧ (∀ _ : List CTbl, True) := by
  refine items_induct (fun _ => rfl) ?_ ?_ ?_ ?_ trivial (fun _ _ _ _ => trivial)
  · intro k v r ihr h
    simp only [bodyOkU, Bool.and_eq_true] at h
    rw [sumItems]; exact ihr h.2
  · intro k t r iht ihr h
    simp only [bodyOkU, Bool.and_eq_true] at h
    rw [sumItems, iht h.1, ihr h.2]; rfl
  · intro k ts sp r _ _ h
    simp [bodyOkU] at h
  · intro items imp dot p dec sp ih h r a
    simp only [bodyTblU, Bool.and_eq_true] at h
    rw [sumTbl, ih h.2]
    simp [hdSum, CTbl.dotted, h.1]

theorem bodyOkU_sum : ∀ (items : Items), bodyOkU items = true → sumItems items = [] := body_sum.1
theorem bodyTblU_sum : ∀ (t : CTbl), bodyTblU t = true → ∀ r a, sumTbl t r a = [] := body_sum.2.1

theorem bodyOkU_append : ∀ (x y : Items), bodyOkU (x ++ y) = (bodyOkU x && bodyOkU y)
  | [], y => by simp [bodyOkU]
  | (k, .value v) :: r, y => by simp [bodyOkU, bodyOkU_append r y, Bool.and_assoc]
  | (k, .table t) :: r, y => by simp [bodyOkU, bodyOkU_append r y, Bool.and_assoc]
  | (k, .aot _ _) :: r, y => by simp [bodyOkU]

theorem bodyTblU_eq (t : CTbl) : bodyTblU t = (t.dotted && bodyOkU t.items) := by
  cases t; rfl

theorem bodyOkU_snoc_table (init : Items) (k : CKey) (c : CTbl) :
    bodyOkU (init ++ [(k, .table c)]) = (bodyOkU init && (c.dotted && bodyOkU c.items)) := by
  rw [bodyOkU_append]; simp [bodyOkU, bodyTblU_eq]

mutual
theorem bodyOk_bodyOkU : ∀ (items : Items), bodyOk items = true → bodyOkU items = true
  | [], _ => rfl
  | (k, .value v) :: r, h => by
    simp only [bodyOk, Bool.and_eq_true] at h
    simp only [bodyOkU, Bool.and_eq_true]
    exact ⟨simpleVal_undotted v h.1, bodyOk_bodyOkU r h.2⟩
  | (k, .table t) :: r, h => by
    simp only [bodyOk, Bool.and_eq_true] at h
    simp only [bodyOkU, Bool.and_eq_true]
    exact ⟨bodyTbl_bodyTblU t h.1, bodyOk_bodyOkU r h.2⟩
  | (k, .aot _ _) :: r, h => by simp [bodyOk] at h
theorem bodyTbl_bodyTblU : ∀ (t : CTbl), bodyTbl t = true → bodyTblU t = true
  | .mk items imp dot p dec sp, h => by
    simp only [bodyTbl, Bool.and_eq_true] at h
    simp only [bodyTblU, Bool.and_eq_true]
    exact ⟨h.1, bodyOk_bodyOkU items h.2⟩
end

theorem bodyTbl_sum : ∀ (t : CTbl), bodyTbl t = true → ∀ r a, sumTbl t r a = [] :=
  fun t h => bodyTblU_sum t (bodyTbl_bodyTblU t h)

theorem valuesTbl_value_atU (k : CKey) (v : CVal) (h : undotted v = true) (P : List CKey) :
    valuesTbl [(k, .value v)] P = [(P ++ [k], v)] := by
  cases v with
  | scalar a b c => simp [valuesTbl]
  | arr a b c d e => simp [valuesTbl]
  | inl sub pre imp dot dec sp =>
    have : dot = false := by simpa [undotted] using h
    subst this
    simp [valuesTbl]

/-- `descend` along adjacent dotted keys that pass `dottedOk` appends ONE entry to the flattened body,
    and its key path prints as the line spelled it (`Q` is the spelling, in the source, of the stored
    parent path `P`); the value need only not be a dotted inline table -/
theorem kv_descendU (f : Bytes → Bytes) (inp : Bytes) (g : CTbl → Option CTbl) (key' : CKey) (v : CVal)
    (hv : undotted v = true)
    (hg : ∀ p p', g p = some p' → p' = p.setItems (p.items ++ [(key', .value v)])) :
    ∀ (path : List CKey) (t c : CTbl) (P Q : List CKey), dottedOk inp t path = true → bodyOkU t.items = true →
      SegsEq f inp P Q → descend t path true g = some c →
      c = t.setItems c.items ∧ bodyOkU c.items = true ∧
      ∃ X, valuesTbl c.items P = valuesTbl t.items P ++ [(X, v)] ∧
        ∀ dp ds, encodeKeyPath f inp X dp ds = encodeKeyPath f inp (Q ++ path ++ [key']) dp ds := by
  intro path t c P Q hok hb hPQ hd
  revert P Q hok hb
  have hlist : ∀ (Q : List CKey) (k0 : CKey) (ks : List CKey),
      Q ++ [k0] ++ ks ++ [key'] = Q ++ k0 :: ks ++ [key'] := by intro Q k0 ks; simp
  refine descend_induction (P := fun t path c => ∀ (P Q : List CKey), dottedOk inp t path = true →
    bodyOkU t.items = true → SegsEq f inp P Q →
    c = t.setItems c.items ∧ bodyOkU c.items = true ∧
    ∃ X, valuesTbl c.items P = valuesTbl t.items P ++ [(X, v)] ∧
      ∀ dp ds, encodeKeyPath f inp X dp ds = encodeKeyPath f inp (Q ++ path ++ [key']) dp ds)
    ?_ ?_ ?_ ?_ path t c hd
  · intro t c hd P Q _ hb hPQ
    have e := hg _ _ hd
    subst e
    refine ⟨by simp, ?_, P ++ [key'], ?_, ?_⟩
    · rw [setItems_items, bodyOkU_append, hb]; simp [bodyOkU, hv]
    · rw [setItems_items, valuesTbl_append, valuesTbl_value_atU key' v hv]
    · intro dp ds
      rw [List.append_nil]
      exact encodeKeyPath_congr f inp P Q key' key' dp ds hPQ (LeafEq.refl f inp key')
  · intro t k ks sub' hl _ ih P Q _ hb hPQ
    obtain ⟨i1, i2, X, i3, i4⟩ := ih (P ++ [k]) (Q ++ [k]) (dottedOk_empty inp _ rfl ks) rfl
      (hPQ.snoc (SegEq.refl f inp k))
    have hsd : sub'.dotted = true := by rw [setItems_eq_dotted _ _ i1]; rfl
    refine ⟨by simp, ?_, X, ?_, fun dp ds => by rw [i4, hlist]⟩
    · rw [setItems_items, bodyOkU_snoc_table, hb, hsd, i2]; rfl
    · rw [setItems_items, valuesTbl_snoc_dotted _ _ _ hsd, i3]
      simp [newImplicit, CTbl.items, valuesTbl]
  · intro t k ks sub sub' hl _ ih P Q hok hb hPQ
    simp only [dottedOk, hl] at hok
    split at hok
    · rename_i init k' sub0 hle
      obtain ⟨e1, e2, e3, e4⟩ := lastEntry_some _ _ _ _ _ hle
      rw [hl] at e4
      cases e4
      simp only [Bool.and_eq_true] at hok
      obtain ⟨⟨hseg, hsubd⟩, hok2⟩ := hok
      rw [e1, bodyOkU_snoc_table] at hb
      simp only [Bool.and_eq_true] at hb
      obtain ⟨i1, i2, X, i3, i4⟩ := ih (P ++ [k']) (Q ++ [k]) hok2 hb.2.2
        (hPQ.snoc (sameSeg_segEq f inp k k' hseg).symm)
      have hsd : sub'.dotted = true := by rw [setItems_eq_dotted _ _ i1]; exact hsubd
      rw [(last_lookup e1 e2 e3).2]
      refine ⟨by simp, ?_, X, ?_, fun dp ds => by rw [i4, hlist]⟩
      · rw [setItems_items, bodyOkU_snoc_table, hb.1, hsd, i2]; rfl
      · rw [setItems_items, valuesTbl_snoc_dotted _ _ _ hsd, i3, e1, valuesTbl_snoc_dotted _ _ _ hsubd]
        simp [List.append_assoc]
    · cases hok
  · intro t k ks tsI l l' sp hl _ _ P Q hok _ _
    simp only [dottedOk, hl] at hok
    split at hok
    · rename_i init k' sub0 hle
      obtain ⟨_, _, _, e4⟩ := lastEntry_some _ _ _ _ _ hle
      rw [hl] at e4
      cases e4
    · cases hok

/-- the printed entry (without the final LF) is the pending trivia followed by the line up to its
    terminator -/
theorem keyval_text_nV (f : Bytes → Bytes) (inp : Bytes) (hf : FixOn f inp) (st : CState) (s r1 r2 r3 tr : Bytes)
    (ks path : List CKey) (key : CKey) (v : CVal)
    (hk : ckeyPath inp.length s = .ok ks (0x3D :: r1))
    (hv : cvalue inp.length (3 * r1.length + 4) (ks.length - 1) (dropWs r1) = .ok v r2)
    (hlt : lineTrailing r2 = .ok () r3) (hsl : splitLast ks = some (path, key))
    (hsv : okValue inp (3 * r1.length + 4) (ks.length - 1) (dropWs r1) = true)
    (h5 : TrailIs inp.length st.trailing tr s) (htrs : tr ++ s <:+ inp) :
    ∃ line e, s = line ++ e ++ r3 ∧ LineEnd (trailEnd r2) e r3 ∧ (∃ t b, line = t ++ [b] ∧ b ≠ 0x0A) ∧
      encodeKeyPath f inp (path ++ [kvKey st key]) [] [0x20] ++ [0x3D]
        ++ encodeValue f inp (kvVal inp.length v r1 r2) [0x20] [] = tr ++ line := by
  have hs : s <:+ inp := (List.suffix_append tr s).trans htrs
  have hks := vsplitLast_some _ _ _ hsl
  have hkp := ckeyPath_tiling f inp hf s _ ks hs hk [] [0x20]
  have hleaf := ckeyPath_leafPre inp s _ ks path key hk hsl
  obtain ⟨kw1, hkw1⟩ := Suffix03.dropWs_suffix s
  have hr1 : r1 <:+ inp := ((List.suffix_cons _ r1).trans (Tiling03More.ckeyPath_adv hk).1).trans hs
  obtain ⟨w1, hw1⟩ := Suffix03.dropWs_suffix r1
  have hr1' : dropWs r1 <:+ inp := (Suffix03.dropWs_suffix r1).trans hr1
  obtain ⟨tv, htv, hvt⟩ := cvalue_tiling_dotted f inp hf _ _ _ _ _ hr1' hv
  have hdec := (cvalue_undotted hv).2
  have hr2 : r2 <:+ inp := (htv ▸ List.suffix_append tv r2).trans hr1'
  obtain ⟨te, hte⟩ := trailEnd_suffix r2
  obtain ⟨e, he⟩ := lineTrailing_lineEnd r2 r3 hlt
  have hval : encodeValue f inp (kvVal inp.length v r1 r2) [0x20] [] = w1 ++ tv ++ te := by
    unfold kvVal
    rw [encodeValue_setDecor f hf.nil inp v _ _ hdec [0x20] [] [] [], hvt hsv [] [],
      encRaw_fix hf, encRaw_fix hf,
      rawText_between inp r1 w1 (dropWs r1) hr1 hw1.symm,
      rawText_between inp r2 te (trailEnd r2) hr2 hte.symm]
  have hsrc : encodeKeyPath f inp ks [] [0x20] = kw1 ++ kpTail f inp path key [0x20] := by
    rw [hks, encodeKeyPath_split]
    simp only [prefixEncode, hleaf]
    rw [encRaw_fix hf, rawText_between inp s kw1 (dropWs s) hs hkw1.symm]
  have hprt : encodeKeyPath f inp (path ++ [kvKey st key]) [] [0x20] = tr ++ kw1 ++ kpTail f inp path key [0x20] := by
    rw [encodeKeyPath_split, kpTail_kvKey]
    have hl' : (kvKey st key).leaf.pre = some (takeTrailing (mergeSpan st.trailing (rawBetween inp.length s (dropWs s)).span)) := by
      unfold kvKey; simp only [hleaf]
    simp only [prefixEncode, hl']
    rw [encRaw_fix hf, mergePre_text inp st.trailing tr s kw1 (dropWs s) h5 htrs hkw1.symm]
  generalize kpTail f inp path key [0x20] = kt at hsrc hprt
  have hstext : s = kw1 ++ kt ++ [0x3D] ++ w1 ++ tv ++ te ++ trailEnd r2 := by
    conv => lhs; rw [hkp, hsrc]
    simp only [List.append_assoc, List.cons_append, List.nil_append]
    rw [hte, ← htv, hw1]
  refine ⟨kw1 ++ kt ++ [0x3D] ++ w1 ++ tv ++ te, e, ?_, he, ?_, ?_⟩
  · rw [List.append_assoc, ← lineEnd_split he]; exact hstext
  · have l1 : LastNe r2 (dropWs r1) := cvalue_lastNe hv
    have l2 : LastNe (trailEnd r2) (dropWs r1) := (trailEnd_orEq r2).trans_lastNe l1
    obtain ⟨t, b, ht, hb⟩ := l2
    refine ⟨kw1 ++ kt ++ [0x3D] ++ w1 ++ t, b, ?_, hb⟩
    have e1 : tv ++ te ++ trailEnd r2 = t ++ [b] ++ trailEnd r2 := by
      rw [List.append_assoc, hte, ← htv, ht]; simp
    have := List.append_cancel_right e1
    simp only [List.append_assoc] at this ⊢
    rw [this]
  · rw [hprt, hval]; simp [List.append_assoc]

end TomlVerif.Lemmas.Tiling03More

namespace TomlVerif.Lemmas.Tiling03Nest
open TomlVerif TomlVerif.Spec TomlVerif.Model TomlVerif.Model.Strings TomlVerif.Model.Value
open TomlVerif.Model.Cst TomlVerif.Model.Encode TomlVerif.Lemmas.Suffix03 TomlVerif.Lemmas.Cst03
open TomlVerif.Lemmas.LastByte03 TomlVerif.Lemmas.Tiling03 TomlVerif.Lemmas.Tiling03Hdr

theorem bodyTbl_text (f : Bytes → Bytes) (inp : Bytes) : ∀ (t : CTbl), bodyTbl t = true →
    ∀ X a, textTbl f inp t X a = [] :=
  fun t h => Tiling03More.bodyTblU_text f inp t (Tiling03More.bodyTbl_bodyTblU t h)

end TomlVerif.Lemmas.Tiling03Nest
