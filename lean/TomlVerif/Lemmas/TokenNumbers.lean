import TomlVerif.Model.Numbers
import TomlVerif.Lemmas.Bytes
/-! The number readers of the document parser against literals (`signBytes`, `joinU` of `GoodGroups`, a rest that
    `Stops` the run), for everything that reasons about number tokens: a literal is read with its value (`_lit`),
    whatever a reader accepts is such a literal (`_inv`); what the integer writer prints is a literal (`writeInt_eq`), and
    std's `Display` text of a float has a dot exactly when it has a fraction (`dispBytes_contains_dot`). -/
namespace TomlVerif.Lemmas.Numbers11
open TomlVerif TomlVerif.Spec TomlVerif.Model.Numbers

def AllB (p : Byte → Bool) (ds : Bytes) : Prop := ∀ b ∈ ds, p b = true

/-- what may follow a digit run of class `isD` so that the run ends there: end of input, or a byte that
    is neither of the class nor an underscore -/
def Stops (isD : Byte → Bool) : Bytes → Prop
  | [] => True
  | b :: _ => isD b = false ∧ b ≠ 0x5F

instance (p : Byte → Bool) (ds : Bytes) : Decidable (AllB p ds) := by unfold AllB; infer_instance

instance (isD : Byte → Bool) : (t : Bytes) → Decidable (Stops isD t)
  | [] => isTrue trivial
  | b :: _ => inferInstanceAs (Decidable (isD b = false ∧ b ≠ 0x5F))

def tailGroups : List Bytes → Bytes
  | [] => []
  | g :: gs => 0x5F :: (g ++ tailGroups gs)

/-- `g0_g1_g2…` : digit groups joined by underscores -/
def joinU : List Bytes → Bytes
  | [] => []
  | g :: gs => g ++ tailGroups gs

def GoodGroups (isD : Byte → Bool) (groups : List Bytes) : Prop :=
  groups ≠ [] ∧ ∀ g ∈ groups, g ≠ [] ∧ AllB isD g

theorem AllB_nil (p : Byte → Bool) : AllB p [] := by intro b h; cases h

theorem AllB_cons {p : Byte → Bool} {b : Byte} {ds : Bytes} : AllB p (b :: ds) ↔ p b = true ∧ AllB p ds := by
  unfold AllB; simp

theorem GoodGroups.cons {isD : Byte → Bool} {groups : List Bytes} (hg : GoodGroups isD groups) :
    ∃ d g0 gs, groups = (d :: g0) :: gs ∧ isD d = true := by
  obtain ⟨hne, hall⟩ := hg
  cases groups with
  | nil => exact absurd rfl hne
  | cons g gs =>
    cases g with
    | nil => exact absurd rfl (hall _ (List.mem_cons_self ..)).1
    | cons d g0 => exact ⟨d, g0, gs, rfl, (AllB_cons.1 (hall _ (List.mem_cons_self ..)).2).1⟩

theorem runTail_cons_digit (isD : Byte → Bool) (b : Byte) (r acc : Bytes) (h : isD b = true) :
    runTail isD (b :: r) acc = runTail isD r (acc ++ [b]) := by
  rw [runTail.eq_def]; simp [h]

theorem runTail_under (isD : Byte → Bool) (d : Byte) (r acc : Bytes) (hU : isD 0x5F = false) (h : isD d = true) :
    runTail isD (0x5F :: d :: r) acc = runTail isD r (acc ++ [d]) := by
  rw [runTail.eq_def]; simp [h, hU]

theorem runTail_cons_stop (isD : Byte → Bool) (b : Byte) (r acc : Bytes) (h : isD b = false) (h2 : b ≠ 0x5F) :
    runTail isD (b :: r) acc = .ok acc (b :: r) := by
  rw [runTail.eq_def]; simp [h, h2]

theorem runTail_digits (isD : Byte → Bool) : ∀ (ds t acc : Bytes), AllB isD ds →
    runTail isD (ds ++ t) acc = runTail isD t (acc ++ ds) := by
  intro ds
  induction ds with
  | nil => intro t acc _; simp
  | cons b ds ih =>
    intro t acc h
    rw [AllB_cons] at h
    rw [List.cons_append, runTail_cons_digit isD b _ _ h.1, ih t (acc ++ [b]) h.2]
    simp

theorem runTail_stop (isD : Byte → Bool) (t acc : Bytes) (h : Stops isD t) : runTail isD t acc = .ok acc t := by
  cases t with
  | nil => simp [runTail]
  | cons b r =>
    obtain ⟨h1, h2⟩ := h
    exact runTail_cons_stop isD b r acc h1 h2

theorem runTail_groups (isD : Byte → Bool) (hU : isD 0x5F = false) : ∀ (gs : List Bytes) (rest acc : Bytes),
    (∀ g ∈ gs, g ≠ [] ∧ AllB isD g) → Stops isD rest →
    runTail isD (tailGroups gs ++ rest) acc = .ok (acc ++ gs.flatten) rest := by
  intro gs
  induction gs with
  | nil => intro rest acc _ hs; simp [tailGroups, runTail_stop isD rest acc hs]
  | cons g gs ih =>
    intro rest acc hg hs
    have hg0 := hg g (List.mem_cons_self ..)
    cases g with
    | nil => exact absurd rfl hg0.1
    | cons d g' =>
      have hd := AllB_cons.1 hg0.2
      simp only [tailGroups, List.cons_append, List.append_assoc]
      rw [runTail_under isD d _ _ hU hd.1, runTail_digits isD g' _ _ hd.2,
        ih rest _ (fun g hgm => hg g (List.mem_cons_of_mem _ hgm)) hs]
      simp

theorem runTail_joinU (isD : Byte → Bool) (hU : isD 0x5F = false) (d : Byte) (g0 : Bytes) (gs : List Bytes)
    (rest : Bytes) (hg : ∀ g ∈ (d :: g0) :: gs, g ≠ [] ∧ AllB isD g) (hs : Stops isD rest) :
    runTail isD (g0 ++ tailGroups gs ++ rest) [d] = .ok (((d :: g0) :: gs).flatten) rest := by
  have h0 := (AllB_cons.1 (hg _ (List.mem_cons_self ..)).2).2
  rw [List.append_assoc, runTail_digits isD g0 _ _ h0,
    runTail_groups isD hU gs rest _ (fun g hgm => hg g (List.mem_cons_of_mem _ hgm)) hs]
  simp

/-- `dec_int` after its optional sign -/
def decBody (neg signed : Bool) : Bytes → Res (Bool × Bool × Bytes)
  | b :: r =>
    if isDigit1_9 b then (runTail isDigit r [b]).map fun ds => (neg, signed, ds)
    else if isDigit b then .ok (neg, signed, [b]) r
    else .bt
  | [] => .bt

theorem decInt_plus (r : Bytes) : decInt (0x2B :: r) = decBody false true r := rfl

theorem decInt_minus (r : Bytes) : decInt (0x2D :: r) = decBody true true r := rfl


theorem decInt_nosign (b : Byte) (r : Bytes) (h1 : b ≠ 0x2B) (h2 : b ≠ 0x2D) :
    decInt (b :: r) = decBody false false (b :: r) := by
  unfold decInt
  split
  · rename_i h; split at h
    · rename_i heq; injection heq with heq _; exact absurd heq h1
    · rename_i heq; injection heq with heq _; exact absurd heq h2
    · injection h with h3 h4; injection h4 with h4 h5; subst h3 h4 h5; rfl

/-- the decimal arm of `integer` -/
def intOfDec (s : Bytes) : Res Int :=
  match decInt s with
  | .ok (neg, _, ds) rest =>
    let n : Int := natOfDigitsBase 10 ds
    let v : Int := if neg then -n else n
    if inI64 v then .ok v rest else .cut
  | .bt => .bt
  | .cut => .cut

theorem integer_cases (s : Bytes) :
    (∃ c t, s = 0x30 :: c :: t ∧ (c = 0x78 ∨ c = 0x6F ∨ c = 0x62)) ∨ integer s = intOfDec s := by
  unfold integer
  split
  · exact Or.inl ⟨_, _, rfl, Or.inl rfl⟩
  · exact Or.inl ⟨_, _, rfl, Or.inr (Or.inl rfl)⟩
  · exact Or.inl ⟨_, _, rfl, Or.inr (Or.inr rfl)⟩
  · exact Or.inr rfl

theorem integer_dec (s : Bytes) (hx : ∀ r, s ≠ 0x30 :: 0x78 :: r) (ho : ∀ r, s ≠ 0x30 :: 0x6F :: r)
    (hb : ∀ r, s ≠ 0x30 :: 0x62 :: r) : integer s = intOfDec s := by
  rcases integer_cases s with ⟨c, t, e, rfl | rfl | rfl⟩ | h
  · exact absurd e (hx t)
  · exact absurd e (ho t)
  · exact absurd e (hb t)
  · exact h

theorem integer_hex (r : Bytes) : integer (0x30 :: 0x78 :: r) = prefixedInt isHexdig 16 r := rfl

theorem integer_oct (r : Bytes) : integer (0x30 :: 0x6F :: r) = prefixedInt isDigit0_7 8 r := rfl

theorem integer_bin (r : Bytes) : integer (0x30 :: 0x62 :: r) = prefixedInt isDigit0_1 2 r := rfl

theorem digit_facts : ∀ d : Byte, isDigit d = true →
    d ≠ 0x2B ∧ d ≠ 0x2D ∧ (d ≠ 0x30 → isDigit1_9 d = true) :=
  forall_byte (by decide +kernel)

theorem isDigit_under : isDigit 0x5F = false := by decide

theorem isHexdig_under : isHexdig 0x5F = false := by decide

theorem isDigit0_7_under : isDigit0_7 0x5F = false := by decide

theorem isDigit0_1_under : isDigit0_1 0x5F = false := by decide

/-- optional sign of a decimal literal: `none`, `some false` = `+`, `some true` = `-` -/
def signBytes : Option Bool → Bytes
  | none => []
  | some false => [0x2B]
  | some true => [0x2D]

def isNegSign : Option Bool → Bool
  | some true => true
  | _ => false

/-- no leading zero: a first digit `0` is the whole literal -/
def NoLeadingZero (groups : List Bytes) : Prop :=
  ∀ g0 gs, groups = (0x30 :: g0) :: gs → g0 = [] ∧ gs = []

/-- the next byte is not one of the radix letters `x`, `o`, `b` -/
def NoRadix : Bytes → Prop
  | [] => True
  | b :: _ => b ≠ 0x78 ∧ b ≠ 0x6F ∧ b ≠ 0x62

instance : (t : Bytes) → Decidable (NoRadix t)
  | [] => isTrue trivial
  | b :: _ => inferInstanceAs (Decidable (b ≠ 0x78 ∧ b ≠ 0x6F ∧ b ≠ 0x62))

def decValue (sign : Option Bool) (groups : List Bytes) : Int :=
  if isNegSign sign then -((natOfDigitsBase 10 groups.flatten : Nat) : Int)
  else ((natOfDigitsBase 10 groups.flatten : Nat) : Int)

theorem decBody_zero (neg sg : Bool) (rest : Bytes) : decBody neg sg (0x30 :: rest) = .ok (neg, sg, [0x30]) rest := by
  have h1 : isDigit1_9 0x30 = false := by decide
  have h2 : isDigit 0x30 = true := by decide
  simp [decBody, h1, h2]

theorem decBody_groups (neg sg : Bool) (groups : List Bytes) (rest : Bytes) (hg : GoodGroups isDigit groups)
    (hz : NoLeadingZero groups) (hs : Stops isDigit rest) :
    decBody neg sg (joinU groups ++ rest) = .ok (neg, sg, groups.flatten) rest := by
  obtain ⟨d, g0, gs, rfl, hd⟩ := hg.cons
  by_cases h0 : d = 0x30
  · subst h0
    obtain ⟨e1, e2⟩ := hz g0 gs rfl
    subst e1 e2
    simp [joinU, tailGroups, decBody_zero]
  · have h19 := (digit_facts d hd).2.2 h0
    have := runTail_joinU isDigit isDigit_under d g0 gs rest hg.2 hs
    simp only [joinU, List.cons_append, decBody, h19, if_true, this, Res.map]

theorem decInt_lit (sign : Option Bool) (groups : List Bytes) (rest : Bytes) (hg : GoodGroups isDigit groups)
    (hz : NoLeadingZero groups) (hs : Stops isDigit rest) :
    decInt (signBytes sign ++ joinU groups ++ rest) = .ok (isNegSign sign, sign.isSome, groups.flatten) rest := by
  have hb := fun neg sg => decBody_groups neg sg groups rest hg hz hs
  match sign with
  | some true => simp only [signBytes, List.cons_append, List.nil_append, decInt_minus, hb]; rfl
  | some false => simp only [signBytes, List.cons_append, List.nil_append, decInt_plus, hb]; rfl
  | none =>
    obtain ⟨d, g0, gs, rfl, hd⟩ := hg.cons
    have hf := digit_facts d hd
    have := hb false false
    simp only [joinU, List.cons_append] at this
    simp only [signBytes, List.nil_append, joinU, List.cons_append]
    rw [decInt_nosign d _ hf.1 hf.2.1, this]; rfl

/-- `hr`: an unsigned lone `0` followed by `x`, `o` or `b` is read by the prefixed arm. -/
theorem integer_dec_lit (sign : Option Bool) (groups : List Bytes) (rest : Bytes) (hg : GoodGroups isDigit groups)
    (hz : NoLeadingZero groups) (hs : Stops isDigit rest)
    (hr : sign = none → groups = [[0x30]] → NoRadix rest) :
    integer (signBytes sign ++ joinU groups ++ rest) =
      if inI64 (decValue sign groups) then .ok (decValue sign groups) rest else .cut := by
  have hdec := decInt_lit sign groups rest hg hz hs
  have hd : integer (signBytes sign ++ joinU groups ++ rest) = intOfDec (signBytes sign ++ joinU groups ++ rest) := by
    match sign with
    | some true =>
      apply integer_dec <;> (intro r h; simp only [signBytes, List.cons_append] at h; injection h with h _; exact absurd h (by decide))
    | some false =>
      apply integer_dec <;> (intro r h; simp only [signBytes, List.cons_append] at h; injection h with h _; exact absurd h (by decide))
    | none =>
      obtain ⟨d, g0, gs, rfl, _⟩ := hg.cons
      by_cases h0 : d = 0x30
      · subst h0
        obtain ⟨e1, e2⟩ := hz g0 gs rfl
        subst e1 e2
        have hr' := hr rfl rfl
        cases rest with
        | nil => rfl
        | cons b r =>
          obtain ⟨n1, n2, n3⟩ := hr'
          apply integer_dec <;>
            (intro r h; simp only [signBytes, joinU, tailGroups, List.nil_append, List.cons_append, List.append_nil] at h
             injection h with _ h; injection h with h _; first | exact absurd h n1 | exact absurd h n2 | exact absurd h n3)
      · apply integer_dec <;>
          (intro r h; simp only [signBytes, joinU, List.nil_append, List.cons_append] at h
           injection h with h _; exact absurd h h0)
  rw [hd]
  unfold intOfDec
  rw [hdec]
  rfl

theorem small_digit : ∀ k : Fin 10, isDigit (UInt8.ofNat (0x30 + k.val)) = true ∧
    digitVal (UInt8.ofNat (0x30 + k.val)) = k.val ∧ (UInt8.ofNat (0x30 + k.val) = 0x30 → k.val = 0) := by
  decide

theorem natOfDigitsBase_snoc (base : Nat) (ds : Bytes) (d : Byte) :
    natOfDigitsBase base (ds ++ [d]) = natOfDigitsBase base ds * base + digitVal d := by
  simp [natOfDigitsBase, List.foldl_append]

theorem natOfDigitsBase_single (base : Nat) (d : Byte) : natOfDigitsBase base [d] = digitVal d := by
  simp [natOfDigitsBase]

theorem natDigitsAux_spec : ∀ (fuel n : Nat) (acc : Bytes), n < fuel →
    ∃ ds, natDigitsAux fuel n acc = ds ++ acc ∧ ds ≠ [] ∧ AllB isDigit ds ∧ natOfDigitsBase 10 ds = n ∧
      (∀ t, ds = 0x30 :: t → n = 0 ∧ t = []) := by
  intro fuel
  induction fuel with
  | zero => intro n acc h; omega
  | succ fuel ih =>
    intro n acc hlt
    have hk := small_digit ⟨n % 10, Nat.mod_lt _ (by decide)⟩
    simp only [] at hk
    obtain ⟨hk1, hk2, hk3⟩ := hk
    unfold natDigitsAux
    simp only []
    by_cases h0 : n / 10 = 0
    · refine ⟨[UInt8.ofNat (0x30 + n % 10)], ?_, by simp, ?_, ?_, ?_⟩
      · have hb : (n / 10 == 0) = true := by simpa using h0
        simp only [hb, if_true, List.cons_append, List.nil_append]
      · exact AllB_cons.2 ⟨hk1, AllB_nil _⟩
      · rw [natOfDigitsBase_single, hk2]; omega
      · intro t ht; injection ht with h1 h2
        exact ⟨by have := hk3 h1; omega, h2.symm⟩
    · have hlt' : n / 10 < fuel := by omega
      obtain ⟨ds, e, hne, hall, hv, hz⟩ := ih (n / 10) (UInt8.ofNat (0x30 + n % 10) :: acc) hlt'
      refine ⟨ds ++ [UInt8.ofNat (0x30 + n % 10)], ?_, by simp, ?_, ?_, ?_⟩
      · have hb : (n / 10 == 0) = false := by simpa using h0
        simp only [hb, Bool.false_eq_true, if_false, e, List.append_assoc, List.cons_append, List.nil_append]
      · exact List.forall_mem_append.2 ⟨hall, AllB_cons.2 ⟨hk1, AllB_nil _⟩⟩
      · rw [natOfDigitsBase_snoc, hv, hk2]; omega
      · intro t ht
        cases ds with
        | nil => exact absurd rfl hne
        | cons x ds' =>
          simp only [List.cons_append] at ht
          injection ht with h1 h2
          subst h1
          exact absurd (hz ds' rfl).1 h0

theorem natDigits_spec (n : Nat) : natDigits n ≠ [] ∧ AllB isDigit (natDigits n) ∧
    natOfDigitsBase 10 (natDigits n) = n ∧ (∀ t, natDigits n = 0x30 :: t → n = 0 ∧ t = []) := by
  obtain ⟨ds, e, h⟩ := natDigitsAux_spec (n + 1) n [] (by omega)
  unfold natDigits
  rw [e, List.append_nil]
  exact h

theorem writeInt_eq (n : Int) :
    writeInt n = signBytes (if n < 0 then some true else none) ++ joinU [natDigits n.natAbs] := by
  unfold writeInt
  split <;> simp [signBytes, joinU, tailGroups]

theorem decValue_writeInt (n : Int) : decValue (if n < 0 then some true else none) [natDigits n.natAbs] = n := by
  unfold decValue
  simp only [List.flatten_cons, List.flatten_nil, List.append_nil, (natDigits_spec n.natAbs).2.2.1]
  split
  · simp [isNegSign]; omega
  · simp [isNegSign]; omega

theorem prefixedInt_lit (isD : Byte → Bool) (base : Nat) (hU : isD 0x5F = false) (groups : List Bytes)
    (rest : Bytes) (hg : GoodGroups isD groups) (hs : Stops isD rest) :
    prefixedInt isD base (joinU groups ++ rest) =
      if inI64 ((natOfDigitsBase base groups.flatten : Nat) : Int)
      then .ok ((natOfDigitsBase base groups.flatten : Nat) : Int) rest else .cut := by
  obtain ⟨d, g0, gs, rfl, hd⟩ := hg.cons
  have := runTail_joinU isD hU d g0 gs rest hg.2 hs
  simp only [joinU, List.cons_append, prefixedInt, hd, if_true, this]

theorem digit19_digit : ∀ b : Byte, isDigit1_9 b = true → isDigit b = true :=
  forall_byte (by decide +kernel)

theorem float_radix (c : Byte) (t : Bytes) (hc : c = 0x78 ∨ c = 0x6F ∨ c = 0x62) :
    float (0x30 :: c :: t) = .bt := by
  rcases hc with hc | hc | hc <;> subst hc <;> rfl

theorem startsWith_head (a : Byte) (p s t : Bytes) (h : startsWith (a :: p) s = some t) : ∃ r, s = a :: r := by
  cases s with
  | nil => simp [startsWith] at h
  | cons x r =>
    simp [startsWith] at h
    exact ⟨r, by rw [h.1.1]⟩

theorem startsWith_cons_ne {a d : Byte} (p l : Bytes) (h : d ≠ a) : startsWith (a :: p) (d :: l) = none := by
  cases hs : startsWith (a :: p) (d :: l) with
  | none => rfl
  | some t =>
    obtain ⟨r, e⟩ := startsWith_head a p _ t hs
    injection e with e _
    exact absurd e h

/-- `special_float` after its optional sign -/
def specialBody (sgn : Nat) (r : Bytes) : Res Nat :=
  match startsWith [0x69, 0x6E, 0x66] r with
  | some t => .ok (sgn + Ieee.infBits) t
  | none =>
    match startsWith [0x6E, 0x61, 0x6E] r with
    | some t => .ok (sgn + Ieee.nanBits) t
    | none => .bt

theorem specialFloat_plus (r : Bytes) : specialFloat (0x2B :: r) = specialBody 0 r := rfl

theorem specialFloat_minus (r : Bytes) : specialFloat (0x2D :: r) = specialBody Ieee.signBit r := rfl

theorem specialFloat_nil : specialFloat [] = .bt := rfl

theorem specialFloat_nosign (c : Byte) (r : Bytes) (h1 : c ≠ 0x2B) (h2 : c ≠ 0x2D) :
    specialFloat (c :: r) = specialBody 0 (c :: r) := by
  unfold specialFloat
  split
  · rename_i h; split at h
    · rename_i heq; injection heq with heq _; exact absurd heq h1
    · rename_i heq; injection heq with heq _; exact absurd heq h2
    · injection h with h3 h4; subst h3 h4; rfl

/-- what may follow a float literal without exponent: not a digit, `_`, `e`, `E` -/
def FloatStops : Bytes → Prop
  | [] => True
  | b :: _ => isDigit b = false ∧ b ≠ 0x5F ∧ b ≠ 0x65 ∧ b ≠ 0x45

instance : (t : Bytes) → Decidable (FloatStops t)
  | [] => isTrue trivial
  | b :: _ => inferInstanceAs (Decidable (isDigit b = false ∧ b ≠ 0x5F ∧ b ≠ 0x65 ∧ b ≠ 0x45))

theorem FloatStops.stops {rest : Bytes} (h : FloatStops rest) : Stops isDigit rest := by
  cases rest with
  | nil => trivial
  | cons b r => exact ⟨h.1, h.2.1⟩

theorem expPart_bt (rest : Bytes) (h : FloatStops rest) : expPart rest = .bt := by
  cases rest with
  | nil => rfl
  | cons b r =>
    obtain ⟨_, _, h1, h2⟩ := h
    simp [expPart, h1, h2]

theorem zeroPrefixableInt_groups (groups : List Bytes) (rest : Bytes) (hg : GoodGroups isDigit groups)
    (hs : Stops isDigit rest) : zeroPrefixableInt (joinU groups ++ rest) = .ok groups.flatten rest := by
  obtain ⟨d, g0, gs, rfl, hd⟩ := hg.cons
  have := runTail_joinU isDigit isDigit_under d g0 gs rest hg.2 hs
  simp only [joinU, List.cons_append, zeroPrefixableInt, hd, if_true, this]

theorem floatLit_frac (sign : Option Bool) (igroups fgroups : List Bytes) (rest : Bytes)
    (hi : GoodGroups isDigit igroups) (hz : NoLeadingZero igroups) (hf : GoodGroups isDigit fgroups)
    (hs : FloatStops rest) :
    floatLit (signBytes sign ++ joinU igroups ++ 0x2E :: (joinU fgroups ++ rest)) =
      .ok ⟨isNegSign sign, igroups.flatten, fgroups.flatten, false, []⟩ rest := by
  have hdec := decInt_lit sign igroups (0x2E :: (joinU fgroups ++ rest)) hi hz ⟨by decide, by decide⟩
  have hzp := zeroPrefixableInt_groups fgroups rest hf hs.stops
  have he := expPart_bt rest hs
  unfold floatLit
  rw [hdec]
  simp only [hzp, he]

/-- std's `Display` text of a finite float: `-`? digits (`.` digits)? -/
def dispBytes (negD : Bool) (intDs : Bytes) (frac : Option Bytes) : Bytes :=
  (if negD then [0x2D] else []) ++ intDs ++ (match frac with | none => [] | some f => 0x2E :: f)

theorem digits_no_dot (ds : Bytes) (h : AllB isDigit ds) : ds.contains 0x2E = false :=
  Bool.eq_false_iff.2 fun hc => absurd (h _ (List.contains_iff_mem.1 hc)) (by decide)

theorem dispBytes_contains_dot (negD : Bool) (intDs : Bytes) (frac : Option Bytes) (hi : AllB isDigit intDs) :
    (dispBytes negD intDs frac).contains 0x2E = frac.isSome := by
  unfold dispBytes
  rw [List.contains_append, List.contains_append, digits_no_dot intDs hi]
  cases negD <;> cases frac <;> simp

def expSignSplit (r : Bytes) : Bool × Bytes :=
  match r with
  | 0x2B :: t => (false, t)
  | 0x2D :: t => (true, t)
  | _ => (false, r)

theorem expPart_cons (c : Byte) (r : Bytes) (hc : c = 0x65 ∨ c = 0x45) :
    expPart (c :: r) =
      match zeroPrefixableInt (expSignSplit r).2 with
      | .ok ds rest => .ok ((expSignSplit r).1, ds) rest
      | _ => .cut := by
  rcases hc with hc | hc <;> subst hc <;> rfl

theorem expSignSplit_nosign (d : Byte) (t : Bytes) (h1 : d ≠ 0x2B) (h2 : d ≠ 0x2D) :
    expSignSplit (d :: t) = (false, d :: t) := by
  unfold expSignSplit
  split
  · rename_i heq; injection heq with heq _; exact absurd heq h1
  · rename_i heq; injection heq with heq _; exact absurd heq h2
  · rfl

theorem expSignSplit_lit (esign : Option Bool) (egroups : List Bytes) (rest : Bytes)
    (hg : GoodGroups isDigit egroups) :
    expSignSplit (signBytes esign ++ joinU egroups ++ rest) = (isNegSign esign, joinU egroups ++ rest) := by
  match esign with
  | some true => rfl
  | some false => rfl
  | none =>
    obtain ⟨d, g0, gs, rfl, hd⟩ := hg.cons
    have hf := digit_facts d hd
    simp only [signBytes, List.nil_append, joinU, List.cons_append]
    rw [expSignSplit_nosign d _ hf.1 hf.2.1]; rfl

theorem expPart_lit (e : Byte) (he : e = 0x65 ∨ e = 0x45) (esign : Option Bool) (egroups : List Bytes)
    (rest : Bytes) (hg : GoodGroups isDigit egroups) (hs : Stops isDigit rest) :
    expPart (e :: (signBytes esign ++ joinU egroups ++ rest)) = .ok (isNegSign esign, egroups.flatten) rest := by
  rw [expPart_cons e _ he, expSignSplit_lit esign egroups rest hg]
  simp only [zeroPrefixableInt_groups egroups rest hg hs]

def fracBytes : Option (List Bytes) → Bytes
  | none => []
  | some fg => 0x2E :: joinU fg

theorem floatLit_exp (sign : Option Bool) (igroups : List Bytes) (frac : Option (List Bytes)) (e : Byte)
    (esign : Option Bool) (egroups : List Bytes) (rest : Bytes)
    (hi : GoodGroups isDigit igroups) (hz : NoLeadingZero igroups)
    (hf : ∀ fg, frac = some fg → GoodGroups isDigit fg) (he : e = 0x65 ∨ e = 0x45)
    (hg : GoodGroups isDigit egroups) (hs : Stops isDigit rest) :
    floatLit (signBytes sign ++ joinU igroups ++ (fracBytes frac ++ e :: (signBytes esign ++ joinU egroups ++ rest))) =
      .ok ⟨isNegSign sign, igroups.flatten, (frac.map List.flatten).getD [], isNegSign esign, egroups.flatten⟩ rest := by
  have hexp := expPart_lit e he esign egroups rest hg hs
  have hstop : Stops isDigit (e :: (signBytes esign ++ joinU egroups ++ rest)) := by
    rcases he with he | he <;> subst he <;> exact ⟨by decide, by decide⟩
  cases frac with
  | none =>
    have hdec := decInt_lit sign igroups (e :: (signBytes esign ++ joinU egroups ++ rest)) hi hz hstop
    unfold floatLit
    simp only [fracBytes, List.nil_append]
    rw [hdec]
    rcases he with he | he <;> subst he <;> simp only [hexp] <;> rfl
  | some fg =>
    have hdec := decInt_lit sign igroups (0x2E :: (joinU fg ++ e :: (signBytes esign ++ joinU egroups ++ rest))) hi hz
      ⟨by decide, by decide⟩
    have hzp := zeroPrefixableInt_groups fg _ (hf fg rfl) hstop
    unfold floatLit
    simp only [fracBytes, List.cons_append]
    rw [hdec]
    simp only [hzp, hexp]
    rfl

/-! ### the readers read backwards

The converse of the `_lit` lemmas: what a reader accepts is the text of a literal (`signBytes`, `joinU` of
`GoodGroups`) followed by the rest, and the reader stopped because the rest cannot continue the literal.  What a
proof needs to know about the consumed text (its digits, its first and last byte, that it is read the same before
another rest) is then a fact about `joinU`, or the `_lit` lemma applied to the other rest. -/

/-- The induction is on a bound `n` of the length, not on `s`: the step at an underscore consumes two bytes. -/
theorem runTail_inv (isD : Byte → Bool) : ∀ (n : Nat) (s acc ds rest : Bytes), s.length ≤ n →
    runTail isD s acc = .ok ds rest →
    ∃ g gs, s = g ++ tailGroups gs ++ rest ∧ AllB isD g ∧ (∀ x ∈ gs, x ≠ [] ∧ AllB isD x) ∧ Stops isD rest ∧
      ds = acc ++ g ++ gs.flatten := by
  intro n
  induction n with
  | zero =>
    intro s acc ds rest hl h
    obtain rfl : s = [] := List.eq_nil_of_length_eq_zero (by omega)
    simp [runTail] at h
    exact ⟨[], [], by simp [tailGroups, h.2], AllB_nil _, by simp, by rw [h.2]; trivial, by simp [h.1]⟩
  | succ n ih =>
    intro s acc ds rest hl h
    cases s with
    | nil =>
      simp [runTail] at h
      exact ⟨[], [], by simp [tailGroups, h.2], AllB_nil _, by simp, by rw [h.2]; trivial, by simp [h.1]⟩
    | cons b r =>
      simp only [List.length_cons] at hl
      by_cases hb : isD b = true
      · rw [runTail_cons_digit isD b r acc hb] at h
        obtain ⟨g, gs, e, hg, hgs, hs, hd⟩ := ih r (acc ++ [b]) ds rest (by omega) h
        exact ⟨b :: g, gs, by simp [e], AllB_cons.2 ⟨hb, hg⟩, hgs, hs, by simp [hd]⟩
      · have hb' : isD b = false := by simpa using hb
        by_cases hu : b = 0x5F
        · subst hu
          cases r with
          | nil => rw [runTail.eq_def] at h; simp [hb'] at h
          | cons d r' =>
            by_cases hd : isD d = true
            · rw [runTail_under isD d r' acc hb' hd] at h
              simp only [List.length_cons] at hl
              obtain ⟨g, gs, e, hg, hgs, hs, hds⟩ := ih r' (acc ++ [d]) ds rest (by omega) h
              refine ⟨[], (d :: g) :: gs, by simp [tailGroups, e], AllB_nil _, ?_, hs, by simp [hds]⟩
              intro x hx
              rcases List.mem_cons.1 hx with rfl | hx
              · exact ⟨by simp, AllB_cons.2 ⟨hd, hg⟩⟩
              · exact hgs x hx
            · rw [runTail.eq_def] at h; simp [hb', hd] at h
        · rw [runTail_cons_stop isD b r acc hb' hu] at h
          injection h with h1 h2
          subst h1 h2
          exact ⟨[], [], by simp [tailGroups], AllB_nil _, by simp, ⟨hb', hu⟩, by simp⟩

theorem runTail_groups_inv (isD : Byte → Bool) (b : Byte) (r ds rest : Bytes) (hb : isD b = true)
    (h : runTail isD r [b] = .ok ds rest) :
    ∃ groups, GoodGroups isD groups ∧ b :: r = joinU groups ++ rest ∧ Stops isD rest ∧ ds = groups.flatten := by
  obtain ⟨g, gs, e, hg, hgs, hs, hd⟩ := runTail_inv isD _ r [b] ds rest (Nat.le_refl _) h
  refine ⟨(b :: g) :: gs, ⟨by simp, ?_⟩, by simp [joinU, e], hs, by simp [hd]⟩
  intro x hx
  rcases List.mem_cons.1 hx with rfl | hx
  · exact ⟨by simp, AllB_cons.2 ⟨hb, hg⟩⟩
  · exact hgs x hx

theorem zeroPrefixableInt_inv (s ds rest : Bytes) (h : zeroPrefixableInt s = .ok ds rest) :
    ∃ groups, GoodGroups isDigit groups ∧ s = joinU groups ++ rest ∧ Stops isDigit rest ∧ ds = groups.flatten := by
  cases s with
  | nil => simp [zeroPrefixableInt] at h
  | cons b r =>
    simp only [zeroPrefixableInt] at h
    split at h
    · rename_i hb; exact runTail_groups_inv isDigit b r ds rest hb h
    · contradiction

theorem prefixedInt_inv (isD : Byte → Bool) (base : Nat) (s rest : Bytes) (n : Int)
    (h : prefixedInt isD base s = .ok n rest) :
    ∃ groups, GoodGroups isD groups ∧ s = joinU groups ++ rest ∧ Stops isD rest ∧
      n = ((natOfDigitsBase base groups.flatten : Nat) : Int) ∧ inI64 n = true := by
  cases s with
  | nil => simp [prefixedInt] at h
  | cons b r =>
    simp only [prefixedInt] at h
    split at h
    · rename_i hb
      cases hrt : runTail isD r [b] with
      | ok ds rest0 =>
        rw [hrt] at h
        simp only [] at h
        split at h
        · rename_i hin
          injection h with h1 h2
          subst h1 h2
          obtain ⟨groups, hg, e, hs, rfl⟩ := runTail_groups_inv isD b r ds rest0 hb hrt
          exact ⟨groups, hg, e, hs, rfl, hin⟩
        · cases h
      | bt => rw [hrt] at h; cases h
      | cut => rw [hrt] at h; cases h
    · cases h

/-- after a lone `0` anything may follow (`0123` reads `0`); otherwise the digits end where the literal ends -/
theorem decBody_inv (neg sg : Bool) (s : Bytes) (x : Bool × Bool × Bytes) (rest : Bytes)
    (h : decBody neg sg s = .ok x rest) :
    ∃ groups, GoodGroups isDigit groups ∧ NoLeadingZero groups ∧ s = joinU groups ++ rest ∧
      (groups ≠ [[0x30]] → Stops isDigit rest) ∧ x = (neg, sg, groups.flatten) := by
  cases s with
  | nil => simp [decBody] at h
  | cons b r =>
    simp only [decBody] at h
    split at h
    · rename_i hb
      cases hrt : runTail isDigit r [b] with
      | ok ds rest' =>
        rw [hrt] at h
        simp only [Res.map] at h
        injection h with h1 h2
        subst h1 h2
        obtain ⟨groups, hg, e, hs, rfl⟩ := runTail_groups_inv isDigit b r ds rest' (digit19_digit b hb) hrt
        refine ⟨groups, hg, ?_, e, fun _ => hs, rfl⟩
        intro g0 gs hz
        subst hz
        simp only [joinU, List.cons_append, List.cons.injEq] at e
        rw [e.1] at hb
        exact absurd hb (by decide)
      | bt => rw [hrt] at h; simp [Res.map] at h
      | cut => rw [hrt] at h; simp [Res.map] at h
    · rename_i h19
      split at h
      · rename_i hb
        injection h with h1 h2
        subst h1 h2
        have hb0 : b = 0x30 := Decidable.byContradiction fun h0 => h19 ((digit_facts b hb).2.2 h0)
        subst hb0
        refine ⟨[[0x30]], ⟨by simp, ?_⟩, ?_, by simp [joinU, tailGroups], fun hne => absurd rfl hne, rfl⟩
        · intro g hg; simp only [List.mem_singleton] at hg; subst hg
          exact ⟨by simp, AllB_cons.2 ⟨hb, AllB_nil _⟩⟩
        · intro g0 gs hz; injection hz with hz1 hz2; injection hz1 with _ hz1; exact ⟨hz1.symm, hz2.symm⟩
      · contradiction

theorem decInt_inv (s : Bytes) (x : Bool × Bool × Bytes) (rest : Bytes) (h : decInt s = .ok x rest) :
    ∃ sign groups, GoodGroups isDigit groups ∧ NoLeadingZero groups ∧ s = signBytes sign ++ joinU groups ++ rest ∧
      (groups ≠ [[0x30]] → Stops isDigit rest) ∧ x = (isNegSign sign, sign.isSome, groups.flatten) := by
  cases s with
  | nil => cases h
  | cons b r =>
    by_cases h1 : b = 0x2B
    · subst h1; rw [decInt_plus] at h
      obtain ⟨groups, hg, hz, e, hs, hx⟩ := decBody_inv _ _ _ _ _ h
      exact ⟨some false, groups, hg, hz, by simp [signBytes, e], hs, hx⟩
    · by_cases h2 : b = 0x2D
      · subst h2; rw [decInt_minus] at h
        obtain ⟨groups, hg, hz, e, hs, hx⟩ := decBody_inv _ _ _ _ _ h
        exact ⟨some true, groups, hg, hz, by simp [signBytes, e], hs, hx⟩
      · rw [decInt_nosign b r h1 h2] at h
        obtain ⟨groups, hg, hz, e, hs, hx⟩ := decBody_inv _ _ _ _ _ h
        exact ⟨none, groups, hg, hz, by simp [signBytes, e], hs, hx⟩

/-- the letter, digit class and base of the three prefixed forms `0x`, `0o`, `0b` -/
def Radix (c : Byte) (isD : Byte → Bool) (base : Nat) : Prop :=
  (c = 0x78 ∧ isD = isHexdig ∧ base = 16) ∨ (c = 0x6F ∧ isD = isDigit0_7 ∧ base = 8) ∨
    (c = 0x62 ∧ isD = isDigit0_1 ∧ base = 2)

theorem integer_inv (s rest : Bytes) (n : Int) (h : integer s = .ok n rest) :
    inI64 n = true ∧
    ((∃ c isD base groups, Radix c isD base ∧ GoodGroups isD groups ∧
        s = 0x30 :: c :: (joinU groups ++ rest) ∧ Stops isD rest ∧
        n = ((natOfDigitsBase base groups.flatten : Nat) : Int)) ∨
     (∃ sign groups, GoodGroups isDigit groups ∧ NoLeadingZero groups ∧ s = signBytes sign ++ joinU groups ++ rest ∧
        (groups ≠ [[0x30]] → Stops isDigit rest) ∧ n = decValue sign groups)) := by
  have pre : ∀ (c : Byte) (isD : Byte → Bool) (base : Nat) (t : Bytes), prefixedInt isD base t = .ok n rest →
      inI64 n = true ∧ ∃ groups, GoodGroups isD groups ∧ 0x30 :: c :: t = 0x30 :: c :: (joinU groups ++ rest) ∧
        Stops isD rest ∧ n = ((natOfDigitsBase base groups.flatten : Nat) : Int) := by
    intro c isD base t hp
    obtain ⟨groups, hg, rfl, hs, hn, hin⟩ := prefixedInt_inv isD base t rest n hp
    exact ⟨hin, groups, hg, rfl, hs, hn⟩
  unfold integer at h
  split at h
  · obtain ⟨hin, groups, h'⟩ := pre _ _ _ _ h
    exact ⟨hin, .inl ⟨_, _, _, groups, .inl ⟨rfl, rfl, rfl⟩, h'⟩⟩
  · obtain ⟨hin, groups, h'⟩ := pre _ _ _ _ h
    exact ⟨hin, .inl ⟨_, _, _, groups, .inr (.inl ⟨rfl, rfl, rfl⟩), h'⟩⟩
  · obtain ⟨hin, groups, h'⟩ := pre _ _ _ _ h
    exact ⟨hin, .inl ⟨_, _, _, groups, .inr (.inr ⟨rfl, rfl, rfl⟩), h'⟩⟩
  · cases hd : decInt s with
    | bt => rw [hd] at h; cases h
    | cut => rw [hd] at h; cases h
    | ok x r =>
      obtain ⟨sign, groups, hg, hz, e, hs, rfl⟩ := decInt_inv s x r hd
      rw [hd] at h
      change (if inI64 (decValue sign groups) = true then Res.ok (decValue sign groups) r else Res.cut) = _ at h
      by_cases hin : inI64 (decValue sign groups) = true
      · rw [if_pos hin] at h
        injection h with h1 h2
        subst h1 h2
        exact ⟨hin, .inr ⟨sign, groups, hg, hz, e, hs, rfl⟩⟩
      · rw [if_neg hin] at h; cases h

theorem expPart_inv (s : Bytes) (x : Bool × Bytes) (rest : Bytes) (h : expPart s = .ok x rest) :
    ∃ e esign egroups, (e = 0x65 ∨ e = 0x45) ∧ GoodGroups isDigit egroups ∧
      s = e :: (signBytes esign ++ joinU egroups ++ rest) ∧ Stops isDigit rest ∧
      x = (isNegSign esign, egroups.flatten) := by
  cases s with
  | nil => simp [expPart] at h
  | cons c r =>
    by_cases hc : c = 0x65 ∨ c = 0x45
    · rw [expPart_cons c r hc] at h
      cases hz : zeroPrefixableInt (expSignSplit r).2 with
      | ok ds rest0 =>
        rw [hz] at h
        injection h with h1 h2
        subst h1 h2
        obtain ⟨groups, hg, e, hs, rfl⟩ := zeroPrefixableInt_inv _ _ _ hz
        have key : ∃ esign, r = signBytes esign ++ joinU groups ++ rest0 ∧ (expSignSplit r).1 = isNegSign esign := by
          unfold expSignSplit at e ⊢
          split
          · exact ⟨some false, by simp [signBytes, ← e], rfl⟩
          · exact ⟨some true, by simp [signBytes, ← e], rfl⟩
          · exact ⟨none, by simp [signBytes, ← e], rfl⟩
        obtain ⟨esign, er, es⟩ := key
        exact ⟨c, esign, groups, hc, hg, by rw [er], hs, by rw [es]⟩
      | bt => rw [hz] at h; cases h
      | cut => rw [hz] at h; cases h
    · have h1 : c ≠ 0x65 := fun e => hc (Or.inl e)
      have h2 : c ≠ 0x45 := fun e => hc (Or.inr e)
      simp [expPart, h1, h2] at h

/-- an accepted float literal has one of the two forms of `floatLit_frac` and `floatLit_exp` -/
theorem floatLit_inv (s rest : Bytes) (l : FloatLit) (h : floatLit s = .ok l rest) :
    ∃ sign igroups, GoodGroups isDigit igroups ∧ NoLeadingZero igroups ∧
      ((∃ fgroups, GoodGroups isDigit fgroups ∧ FloatStops rest ∧
          s = signBytes sign ++ joinU igroups ++ 0x2E :: (joinU fgroups ++ rest) ∧
          l = ⟨isNegSign sign, igroups.flatten, fgroups.flatten, false, []⟩) ∨
       (∃ frac e esign egroups, (∀ fg, frac = some fg → GoodGroups isDigit fg) ∧ (e = 0x65 ∨ e = 0x45) ∧
          GoodGroups isDigit egroups ∧ Stops isDigit rest ∧
          s = signBytes sign ++ joinU igroups ++ (fracBytes frac ++ e :: (signBytes esign ++ joinU egroups ++ rest)) ∧
          l = ⟨isNegSign sign, igroups.flatten, (frac.map List.flatten).getD [], isNegSign esign, egroups.flatten⟩)) := by
  unfold floatLit at h
  cases hd : decInt s with
  | bt => rw [hd] at h; cases h
  | cut => rw [hd] at h; cases h
  | ok x r =>
    obtain ⟨sign, ig, hi, hz, rfl, -, rfl⟩ := decInt_inv s x r hd
    rw [hd] at h
    refine ⟨sign, ig, hi, hz, ?_⟩
    simp only at h
    split at h
    · rename_i r1
      cases hzp : zeroPrefixableInt r1 with
      | bt => rw [hzp] at h; cases h
      | cut => rw [hzp] at h; cases h
      | ok fds r2 =>
        obtain ⟨fg, hf, rfl, hs2, rfl⟩ := zeroPrefixableInt_inv _ _ _ hzp
        rw [hzp] at h
        simp only at h
        cases he : expPart r2 with
        | cut => rw [he] at h; cases h
        | bt =>
          rw [he] at h
          injection h with h1 h2
          subst h1 h2
          refine .inl ⟨fg, hf, ?_, rfl, rfl⟩
          cases r2 with
          | nil => trivial
          | cons b t =>
            -- `expPart` backtracked, so `b` is neither `e` nor `E`
            refine ⟨hs2.1, hs2.2, ?_, ?_⟩ <;>
              (intro hb; subst hb; rw [expPart_cons _ _ (by simp)] at he; revert he; split <;> intro he <;> cases he)
        | ok y r3 =>
          rw [he] at h
          injection h with h1 h2
          subst h1 h2
          obtain ⟨e, esign, eg, hec, hg, rfl, hs3, rfl⟩ := expPart_inv _ _ _ he
          exact .inr ⟨some fg, e, esign, eg, (by intro _ h; injection h with h; subst h; exact hf), hec, hg, hs3,
            by simp [fracBytes], rfl⟩
    · cases he : expPart r with
      | cut => rw [he] at h; cases h
      | bt => rw [he] at h; cases h
      | ok y r3 =>
        rw [he] at h
        injection h with h1 h2
        subst h1 h2
        obtain ⟨e, esign, eg, hec, hg, rfl, hs3, rfl⟩ := expPart_inv _ _ _ he
        exact .inr ⟨none, e, esign, eg, (by intro _ h; cases h), hec, hg, hs3, by simp [fracBytes], rfl⟩

theorem flatten_of_good {isD : Byte → Bool} {groups : List Bytes} (hg : GoodGroups isD groups) :
    groups.flatten ≠ [] ∧ AllB isD groups.flatten := by
  obtain ⟨d, g0, gs, rfl, _⟩ := hg.cons
  refine ⟨by simp, ?_⟩
  intro b hb
  obtain ⟨g, hgm, hbg⟩ := List.mem_flatten.1 hb
  exact (hg.2 g hgm).2 b hbg

theorem tailGroups_text {isD : Byte → Bool} : ∀ (gs : List Bytes), (∀ x ∈ gs, x ≠ [] ∧ AllB isD x) →
    (∀ b ∈ tailGroups gs, isD b = true ∨ b = 0x5F) ∧
    (gs ≠ [] → ∃ t b, tailGroups gs = t ++ [b] ∧ isD b = true) := by
  intro gs
  induction gs with
  | nil => intro _; exact ⟨fun b hb => (by cases hb), fun h => absurd rfl h⟩
  | cons g gs ih =>
    intro hg
    obtain ⟨ih1, ih2⟩ := ih (fun x hx => hg x (List.mem_cons_of_mem _ hx))
    obtain ⟨hne, hall⟩ := hg g (List.mem_cons_self ..)
    refine ⟨?_, fun _ => ?_⟩
    · intro b hb
      simp only [tailGroups, List.mem_cons, List.mem_append] at hb
      rcases hb with rfl | hb | hb
      · exact Or.inr rfl
      · exact Or.inl (hall b hb)
      · exact ih1 b hb
    · by_cases hgs : gs = []
      · subst hgs
        obtain ⟨t, b, e⟩ : ∃ t b, g = t ++ [b] := ⟨g.dropLast, g.getLast hne, (List.dropLast_concat_getLast hne).symm⟩
        exact ⟨0x5F :: t, b, by simp [tailGroups, e], hall b (by simp [e])⟩
      · obtain ⟨t, b, e, hb⟩ := ih2 hgs
        exact ⟨0x5F :: (g ++ t), b, by simp [tailGroups, e], hb⟩

theorem joinU_text {isD : Byte → Bool} {groups : List Bytes} (hg : GoodGroups isD groups) :
    (∃ d m, joinU groups = d :: m ∧ isD d = true ∧ ∀ b ∈ m, isD b = true ∨ b = 0x5F) ∧
    (∃ t b, joinU groups = t ++ [b] ∧ isD b = true) := by
  obtain ⟨d, g0, gs, rfl, hd⟩ := hg.cons
  have h0 := (AllB_cons.1 (hg.2 _ (List.mem_cons_self ..)).2).2
  obtain ⟨t1, t2⟩ := tailGroups_text (isD := isD) gs (fun x hx => hg.2 x (List.mem_cons_of_mem _ hx))
  refine ⟨⟨d, g0 ++ tailGroups gs, rfl, hd, ?_⟩, ?_⟩
  · intro b hb
    rcases List.mem_append.1 hb with hb | hb
    · exact Or.inl (h0 b hb)
    · exact t1 b hb
  · by_cases hgs : gs = []
    · subst hgs
      have hne : d :: g0 ≠ [] := by simp
      exact ⟨(d :: g0).dropLast, (d :: g0).getLast hne, by simp [joinU, tailGroups, List.dropLast_concat_getLast],
        (hg.2 _ (List.mem_cons_self ..)).2 _ (List.getLast_mem hne)⟩
    · obtain ⟨t, b, e, hb⟩ := t2 hgs
      exact ⟨d :: (g0 ++ t), b, by simp [joinU, e], hb⟩

end TomlVerif.Lemmas.Numbers11
