import TomlVerif.Model.DeTyped
import TomlVerif.Spec.SerdeData
import TomlVerif.Spec.Encode06

/-! `f32 → f64 → f32` is the identity on non-NaN bit patterns (C07 typed round trip, `f32` leaf). -/

namespace TomlVerif.Lemmas.TypedGapsF32
open TomlVerif.Spec.Ieee (bitLength divRoundEven)
open TomlVerif.Spec.Serde (f32to64 clearNanSign isNan64)
open TomlVerif.Model.DeTyped (roundRat32 f64ToF32)

def isNaN32 (b : Nat) : Bool := b / 2 ^ 23 % 256 == 255 && b % 2 ^ 23 != 0

theorem bitLength_pos {a : Nat} (ha : 0 < a) : bitLength a = Nat.log2 a + 1 := by
  unfold bitLength
  have : (a == 0) = false := by simp; omega
  simp [this]

theorem bitLength_bounds {a : Nat} (ha : 0 < a) :
    2 ^ (bitLength a - 1) ≤ a ∧ a < 2 ^ bitLength a := by
  rw [bitLength_pos ha]
  exact ⟨Nat.log2_self_le (by omega), Nat.lt_log2_self⟩

theorem bitLength_le {a n : Nat} (ha : 0 < a) (h : a < 2 ^ n) : bitLength a ≤ n := by
  have h1 : 2 ^ (bitLength a - 1) < 2 ^ n := Nat.lt_of_le_of_lt (bitLength_bounds ha).1 h
  have := (Nat.pow_lt_pow_iff_right (by decide : 1 < 2)).1 h1
  have : 1 ≤ bitLength a := by rw [bitLength_pos ha]; omega
  omega

theorem bitLength_unique {a L : Nat} (h1 : 2 ^ L ≤ a) (h2 : a < 2 ^ (L + 1)) :
    bitLength a = L + 1 := by
  have hpos : 0 < a := Nat.lt_of_lt_of_le (Nat.two_pow_pos L) h1
  have hne : a ≠ 0 := by omega
  rw [bitLength_pos hpos]
  have hA : Nat.log2 a < L + 1 := (Nat.log2_lt hne).2 h2
  have hB : L ≤ Nat.log2 a := (Nat.le_log2 hne).2 h1
  omega

theorem bitLength_two_pow (j : Nat) : bitLength (2 ^ j) = j + 1 :=
  bitLength_unique (Nat.le_refl _) (Nat.pow_lt_pow_right (by decide) (by omega))

theorem bitLength_mul_two_pow {a : Nat} (ha : 0 < a) (i : Nat) :
    bitLength (a * 2 ^ i) = bitLength a + i := by
  obtain ⟨h1, h2⟩ := bitLength_bounds ha
  have hL : 1 ≤ bitLength a := by rw [bitLength_pos ha]; omega
  have e : bitLength a + i = (bitLength a - 1 + i) + 1 := by omega
  rw [e]
  apply bitLength_unique
  · rw [Nat.pow_add]; exact Nat.mul_le_mul_right _ h1
  · have : bitLength a - 1 + i + 1 = bitLength a + i := by omega
    rw [this, Nat.pow_add]
    exact Nat.mul_lt_mul_of_pos_right h2 (Nat.two_pow_pos i)

/-! The stages of `roundRat32`'s `let` chain: the operands `scaled` to an exponent, the exponent estimate corrected
    twice (`adj`), then clamped, the quotient rounded and the bits assembled (`fin`). -/

def scaled (p q : Nat) (k : Int) : Nat × Nat :=
  if k ≥ 0 then (p, q * 2 ^ k.toNat) else (p * 2 ^ (-k).toNat, q)

def adj (p q : Nat) (k : Int) : Int :=
  let (a, b) := scaled p q k
  if a / b ≥ 2 ^ 24 then k + 1 else if a / b < 2 ^ 23 then k - 1 else k

def fin (p q : Nat) (k2 : Int) : Nat :=
  let k : Int := if k2 < -149 then -149 else k2
  let (a, b) := scaled p q k
  let mant := divRoundEven a b
  let (mant, k) : Nat × Int := if mant ≥ 2 ^ 24 then (mant / 2, k + 1) else (mant, k)
  if mant < 2 ^ 23 then mant
  else
    let e : Int := k + 150
    if e ≥ 255 then 0x7F800000
    else e.toNat * 2 ^ 23 + (mant - 2 ^ 23)

theorem roundRat32_eq (p q : Nat) :
    roundRat32 p q = fin p q (adj p q (adj p q ((bitLength p : Int) - (bitLength q : Int) - 24))) := by
  unfold roundRat32 fin adj scaled
  with_reducible rfl


theorem scaled_pow (a i j : Nat) (k : Int) (hk : k ≤ (i : Int) - j) :
    ∃ B, 0 < B ∧
      scaled (a * 2 ^ i) (2 ^ j) k = (B * (a * 2 ^ ((i : Int) - j - k).toNat), B) := by
  unfold scaled
  by_cases h : k ≥ 0
  · rw [if_pos h]
    refine ⟨2 ^ j * 2 ^ k.toNat, Nat.mul_pos (Nat.two_pow_pos _) (Nat.two_pow_pos _), ?_⟩
    have e : i = j + k.toNat + ((i : Int) - j - k).toNat := by omega
    generalize ((i : Int) - j - k).toNat = d at e ⊢
    generalize k.toNat = n at e ⊢
    have e2 : a * 2 ^ i = 2 ^ j * 2 ^ n * (a * 2 ^ d) := by
      rw [e, Nat.pow_add, Nat.pow_add]; ac_rfl
    rw [e2]
  · rw [if_neg h]
    refine ⟨2 ^ j, Nat.two_pow_pos _, ?_⟩
    have e : i + (-k).toNat = j + ((i : Int) - j - k).toNat := by omega
    generalize ((i : Int) - j - k).toNat = d at e ⊢
    generalize (-k).toNat = n at e ⊢
    have e2 : a * 2 ^ i * 2 ^ n = 2 ^ j * (a * 2 ^ d) := by
      rw [Nat.mul_assoc, ← Nat.pow_add, e, Nat.pow_add]; ac_rfl
    rw [e2]

theorem adj_of {p q B c : Nat} {k : Int} (hs : scaled p q k = (B * c, B)) (hB : 0 < B) :
    adj p q k = if c ≥ 2 ^ 24 then k + 1 else if c < 2 ^ 23 then k - 1 else k := by
  unfold adj
  rw [hs]
  simp only [Nat.mul_div_cancel_left c hB]

theorem divRoundEven_mul (B c : Nat) (hB : 0 < B) : divRoundEven (B * c) B = c := by
  unfold divRoundEven
  simp only [Nat.mul_div_cancel_left c hB, Nat.mul_mod_right]
  rw [if_pos (by omega)]

theorem fin_of {p q B c : Nat} {k2 : Int}
    (hs : scaled p q (if k2 < -149 then -149 else k2) = (B * c, B)) (hB : 0 < B)
    (hc : c < 2 ^ 24) :
    fin p q k2 =
      if c < 2 ^ 23 then c
      else if (if k2 < -149 then -149 else k2) + 150 ≥ 255 then 0x7F800000
      else ((if k2 < -149 then -149 else k2) + 150).toNat * 2 ^ 23 + (c - 2 ^ 23) := by
  unfold fin
  have hge : ¬ c ≥ 2 ^ 24 := by omega
  simp only [hs, divRoundEven_mul B c hB, if_neg hge]

theorem mul_pow_ge {a L n d : Nat} (h : 2 ^ (L - 1) ≤ a) (e : L - 1 + d = n) :
    2 ^ n ≤ a * 2 ^ d := by
  subst e; rw [Nat.pow_add]; exact Nat.mul_le_mul_right _ h

theorem mul_pow_lt {a L n d : Nat} (h : a < 2 ^ L) (e : L + d ≤ n) : a * 2 ^ d < 2 ^ n :=
  calc a * 2 ^ d < 2 ^ L * 2 ^ d := Nat.mul_lt_mul_of_pos_right h (Nat.two_pow_pos d)
    _ = 2 ^ (L + d) := (Nat.pow_add ..).symm
    _ ≤ 2 ^ n := Nat.pow_le_pow_right (by decide) e

/-- `roundRat32` on a dyadic rational `a · 2^(i-j)` with at most 24 significant bits that is not below
the smallest subnormal's grid: no rounding happens -/
theorem roundRat32_pow (a i j : Nat) (ha : 0 < a) (ha2 : a < 2 ^ 24)
    (hT : -149 ≤ (i : Int) - j) :
    roundRat32 (a * 2 ^ i) (2 ^ j) =
      if (i : Int) - j + bitLength a - 24 < -149 then a * 2 ^ (i + 149 - j)
      else if (i : Int) - j + bitLength a - 24 + 150 ≥ 255 then 0x7F800000
      else ((i : Int) - j + bitLength a - 24 + 150).toNat * 2 ^ 23
        + (a * 2 ^ (24 - bitLength a) - 2 ^ 23) := by
  rw [roundRat32_eq, bitLength_mul_two_pow ha, bitLength_two_pow]
  obtain ⟨hL1, hL2⟩ := bitLength_bounds ha
  have hLpos : 1 ≤ bitLength a := by rw [bitLength_pos ha]; omega
  have hL24 : bitLength a ≤ 24 := bitLength_le ha ha2
  generalize bitLength a = L at *
  -- first adjustment: the estimate is one too small
  have h0 : adj (a * 2 ^ i) (2 ^ j) (((L + i : Nat) : Int) - ((j + 1 : Nat) : Int) - 24)
      = (i : Int) - j + L - 24 := by
    obtain ⟨B, hB, hs⟩ := scaled_pow a i j (((L + i : Nat) : Int) - ((j + 1 : Nat) : Int) - 24)
      (by omega)
    rw [adj_of hs hB]
    have e : ((i : Int) - j - (((L + i : Nat) : Int) - ((j + 1 : Nat) : Int) - 24)).toNat
        = 25 - L := by omega
    rw [e, if_pos (mul_pow_ge hL1 (by omega))]
    omega
  rw [h0]
  have h1 : adj (a * 2 ^ i) (2 ^ j) ((i : Int) - j + L - 24) = (i : Int) - j + L - 24 := by
    obtain ⟨B, hB, hs⟩ := scaled_pow a i j ((i : Int) - j + L - 24) (by omega)
    rw [adj_of hs hB]
    have e : ((i : Int) - j - ((i : Int) - j + L - 24)).toNat = 24 - L := by omega
    have c1 : 2 ^ 23 ≤ a * 2 ^ (24 - L) := mul_pow_ge hL1 (by omega)
    have c2 : a * 2 ^ (24 - L) < 2 ^ 24 := mul_pow_lt hL2 (by omega)
    rw [e, if_neg (by omega), if_neg (by omega)]
  rw [h1]
  by_cases hk : (i : Int) - j + L - 24 < -149
  · obtain ⟨B, hB, hs⟩ := scaled_pow a i j (-149) hT
    have e : ((i : Int) - j - (-149)).toNat = i + 149 - j := by omega
    rw [e] at hs
    have c2 : a * 2 ^ (i + 149 - j) < 2 ^ 23 := mul_pow_lt hL2 (by omega)
    have hs' : scaled (a * 2 ^ i) (2 ^ j)
        (if (i : Int) - j + L - 24 < -149 then -149 else (i : Int) - j + L - 24)
        = (B * (a * 2 ^ (i + 149 - j)), B) := by rw [if_pos hk]; exact hs
    rw [fin_of hs' hB (by omega), if_pos c2, if_pos hk]
  · obtain ⟨B, hB, hs⟩ := scaled_pow a i j ((i : Int) - j + L - 24) (by omega)
    have e : ((i : Int) - j - ((i : Int) - j + L - 24)).toNat = 24 - L := by omega
    rw [e] at hs
    have c1 : 2 ^ 23 ≤ a * 2 ^ (24 - L) := mul_pow_ge hL1 (by omega)
    have c2 : a * 2 ^ (24 - L) < 2 ^ 24 := mul_pow_lt hL2 (by omega)
    have hs' : scaled (a * 2 ^ i) (2 ^ j)
        (if (i : Int) - j + L - 24 < -149 then -149 else (i : Int) - j + L - 24)
        = (B * (a * 2 ^ (24 - L)), B) := by rw [if_neg hk]; exact hs
    rw [fin_of hs' hB c2, if_neg (by omega), if_neg hk, if_neg hk]


theorem roundRat32_normal (a i j : Nat) (h1 : 2 ^ 23 ≤ a) (h2 : a < 2 ^ 24)
    (hlo : j + 1 ≤ i + 150) (hhi : i + 150 < j + 255) :
    roundRat32 (a * 2 ^ i) (2 ^ j) = (i + 150 - j) * 2 ^ 23 + (a - 2 ^ 23) := by
  have hL : bitLength a = 24 := bitLength_unique h1 h2
  rw [roundRat32_pow a i j (by omega) h2 (by omega), hL, if_neg (by omega), if_neg (by omega)]
  have e : ((i : Int) - j + (24 : Nat) - 24 + 150).toNat = i + 150 - j := by omega
  rw [e, Nat.sub_self, Nat.pow_zero, Nat.mul_one]

theorem roundRat32_subnormal (a i j : Nat) (h1 : 0 < a) (h2 : a < 2 ^ 23) (hij : i + 149 = j) :
    roundRat32 (a * 2 ^ i) (2 ^ j) = a := by
  have hL23 : bitLength a ≤ 23 := bitLength_le h1 h2
  rw [roundRat32_pow a i j h1 (by omega) (by omega), if_pos (by omega)]
  have e : i + 149 - j = 0 := by omega
  rw [e, Nat.pow_zero, Nat.mul_one]

/-! ### a double by its fields

`s · 2^63 + E · 2^52 + M` with `E < 2048`, `M < 2^52`: the arithmetic that takes the pattern apart is done once
(`fields64`); each function that looks at bits then has one equation on this form. -/

theorem div_lo {M B : Nat} (E : Nat) (h : M < B) : (E * B + M) / B = E := by
  rw [Nat.add_comm, Nat.add_mul_div_right _ _ (Nat.lt_of_le_of_lt (Nat.zero_le _) h), Nat.div_eq_of_lt h, Nat.zero_add]

theorem fields64 {s E M : Nat} (hE : E < 2048) (hM : M < 2 ^ 52) :
    (s * 2 ^ 63 + E * 2 ^ 52 + M) / 2 ^ 52 % 2048 = E ∧ (s * 2 ^ 63 + E * 2 ^ 52 + M) % 2 ^ 52 = M ∧
    (s * 2 ^ 63 + E * 2 ^ 52 + M) / 2 ^ 63 = s ∧ (s * 2 ^ 63 + E * 2 ^ 52 + M) % 2 ^ 63 = E * 2 ^ 52 + M := by
  have hx : E * 2 ^ 52 + M < 2 ^ 63 := by omega
  have e : s * 2 ^ 63 + E * 2 ^ 52 + M = (s * 2048 + E) * 2 ^ 52 + M := by omega
  refine ⟨?_, ?_, ?_, ?_⟩
  · rw [e, div_lo _ hM, Nat.mul_add_mod_of_lt hE]
  · rw [e, Nat.mul_add_mod_of_lt hM]
  · rw [Nat.add_assoc, div_lo _ hx]
  · rw [Nat.add_assoc, Nat.mul_add_mod_of_lt hx]

theorem isNan64_fields {s E M : Nat} (hE : E < 2048) (hM : M < 2 ^ 52) :
    isNan64 (s * 2 ^ 63 + E * 2 ^ 52 + M) = (E == 2047 && M != 0) := by
  obtain ⟨h1, h2, _, _⟩ := fields64 (s := s) hE hM
  rw [isNan64, h1, h2]

theorem clearNanSign_fields {s E M : Nat} (hE : E < 2048) (hM : M < 2 ^ 52) :
    clearNanSign (s * 2 ^ 63 + E * 2 ^ 52 + M) =
      if (E == 2047 && M != 0) = true then E * 2 ^ 52 + M else s * 2 ^ 63 + E * 2 ^ 52 + M := by
  rw [clearNanSign, isNan64_fields hE hM, (fields64 hE hM).2.2.2]

theorem canonFloat_fields {s E M : Nat} (hE : E < 2048) (hM : M < 2 ^ 52) :
    TomlVerif.Spec.Encode06.canonFloat (s * 2 ^ 63 + E * 2 ^ 52 + M) =
      if (E == 2047 && M != 0) = true then (if s == 1 then TomlVerif.Spec.Ieee.signBit else 0) + TomlVerif.Spec.Ieee.nanBits
      else s * 2 ^ 63 + E * 2 ^ 52 + M := by
  obtain ⟨h1, h2, h3, _⟩ := fields64 (s := s) hE hM
  rw [TomlVerif.Spec.Encode06.canonFloat, show (2 : Nat) ^ 11 = 2048 from rfl, h1, h2, h3]

theorem sign64 {s x : Nat} (hs : s < 2) (hx : x < 2 ^ 63) :
    (if s * 2 ^ 63 + x ≥ 2 ^ 63 then 0x80000000 else 0) = s * 2 ^ 31 := by
  have : s = 0 ∨ s = 1 := by omega
  rcases this with rfl | rfl
  · rw [Nat.zero_mul, Nat.zero_add, if_neg (Nat.not_le.2 hx)]
  · rw [Nat.one_mul, if_pos (Nat.le_add_right _ _)]

theorem f64ToF32_parts (s E M : Nat) (hs : s < 2) (hE0 : 0 < E) (hE : E < 2047)
    (hM : M < 2 ^ 52) :
    f64ToF32 (s * 2 ^ 63 + E * 2 ^ 52 + M) =
      s * 2 ^ 31 + (if E ≥ 1075 then roundRat32 ((2 ^ 52 + M) * 2 ^ (E - 1075)) 1
        else roundRat32 (2 ^ 52 + M) (2 ^ (1075 - E))) := by
  have hmag := (fields64 (s := s) (show E < 2048 by omega) hM).2.2.2
  have hsign := sign64 (x := E * 2 ^ 52 + M) hs (by omega)
  rw [← Nat.add_assoc] at hsign
  have hE1 : (E == 2047) = false := beq_false_of_ne (Nat.ne_of_lt hE)
  have hE2 : (E == 0) = false := beq_false_of_ne (Nat.ne_of_gt hE0)
  have hmag0 : (E * 2 ^ 52 + M == 0) = false :=
    beq_false_of_ne (Nat.ne_of_gt (Nat.lt_of_lt_of_le (Nat.mul_pos hE0 (Nat.two_pow_pos 52)) (Nat.le_add_right _ _)))
  unfold f64ToF32
  rw [show TomlVerif.Spec.Ieee.signBit = 2 ^ 63 from rfl]
  simp only [hmag, div_lo E hM, Nat.mul_add_mod_of_lt (a := E) hM, hsign, hE1, hE2, hmag0, Bool.false_eq_true, if_false]
  by_cases h : E ≥ 1075
  · rw [if_pos h, if_pos h]
  · rw [if_neg h, if_neg h]

theorem f64ToF32_nan (s M : Nat) (hs : s < 2) (h0 : 0 < M) (hM : M < 2 ^ 52) :
    f64ToF32 (s * 2 ^ 63 + 2047 * 2 ^ 52 + M) = s * 2 ^ 31 + 0x7FC00000 := by
  have hmag := (fields64 (s := s) (show 2047 < 2048 by decide) hM).2.2.2
  have hsign := sign64 (x := 2047 * 2 ^ 52 + M) hs (by omega)
  rw [← Nat.add_assoc] at hsign
  unfold f64ToF32
  rw [show TomlVerif.Spec.Ieee.signBit = 2 ^ 63 from rfl]
  simp only [hmag, div_lo 2047 hM, Nat.mul_add_mod_of_lt (a := 2047) hM, hsign, beq_self_eq_true, if_true,
    beq_false_of_ne (Nat.ne_of_gt h0), Bool.false_eq_true, if_false]


/-- `f32to64` on the fields of the bit pattern. The constants are those of the two formats: `896 = 1023 - 127` (the
    difference of the biases), `29 = 52 - 23` (of the fraction widths), `873 = 1023 - 149 - 1` (a subnormal `m` of
    bit length `k` is `1.… · 2^(k - 1 - 149)`); below, `1075 = 1023 + 52` is the exponent at which a double's
    53-bit significand is an integer, `179 = 1075 - 896` and `202 = 1075 - 873`. -/
def widen (s e m : Nat) : Nat :=
  if e == 255 then s * 2 ^ 63 + 2047 * 2 ^ 52 + m * 2 ^ 29
  else if e == 0 then
    if m == 0 then s * 2 ^ 63
    else s * 2 ^ 63 + (bitLength m + 873) * 2 ^ 52 + (m * 2 ^ (53 - bitLength m) - 2 ^ 52)
  else s * 2 ^ 63 + (e + 896) * 2 ^ 52 + m * 2 ^ 29

theorem f32to64_eq_widen (b : Nat) :
    f32to64 b = widen (b / 2 ^ 31 % 2) (b / 2 ^ 23 % 256) (b % 2 ^ 23) := rfl

theorem widen_narrow_inf (s : Nat) (hs : s < 2) :
    f64ToF32 (widen s 255 0) = s * 2 ^ 31 + 255 * 2 ^ 23 + 0 := by
  have : s = 0 ∨ s = 1 := by omega
  rcases this with rfl | rfl <;> decide

theorem widen_narrow_zero (s : Nat) (hs : s < 2) :
    f64ToF32 (widen s 0 0) = s * 2 ^ 31 + 0 * 2 ^ 23 + 0 := by
  have : s = 0 ∨ s = 1 := by omega
  rcases this with rfl | rfl <;> decide

theorem widen_narrow_subnormal (s m : Nat) (hs : s < 2) (hm0 : 0 < m) (hm : m < 2 ^ 23) :
    f64ToF32 (widen s 0 m) = s * 2 ^ 31 + 0 * 2 ^ 23 + m := by
  have hm1 : (m == 0) = false := by simp; omega
  unfold widen
  simp only [hm1, Bool.false_eq_true, if_false, beq_self_eq_true, if_true]
  rw [if_neg (by decide)]
  obtain ⟨hL1, hL2⟩ := bitLength_bounds hm0
  have hLpos : 1 ≤ bitLength m := by rw [bitLength_pos hm0]; omega
  have hL23 : bitLength m ≤ 23 := bitLength_le hm0 hm
  generalize bitLength m = k at *
  have c1 : 2 ^ 52 ≤ m * 2 ^ (53 - k) := mul_pow_ge hL1 (by omega)
  have c2 : m * 2 ^ (53 - k) < 2 ^ 53 := mul_pow_lt hL2 (by omega)
  rw [f64ToF32_parts s (k + 873) _ hs (by omega) (by omega) (by omega), if_neg (by omega)]
  have e1 : 2 ^ 52 + (m * 2 ^ (53 - k) - 2 ^ 52) = m * 2 ^ (53 - k) := by omega
  have e2 : 1075 - (k + 873) = 202 - k := by omega
  rw [e1, e2, roundRat32_subnormal m (53 - k) (202 - k) hm0 hm (by omega)]
  omega

theorem widen_narrow_normal (s e m : Nat) (hs : s < 2) (he0 : 0 < e) (he : e < 255)
    (hm : m < 2 ^ 23) :
    f64ToF32 (widen s e m) = s * 2 ^ 31 + e * 2 ^ 23 + m := by
  have he1 : (e == 255) = false := by simp; omega
  have he2 : (e == 0) = false := by simp; omega
  unfold widen
  simp only [he1, he2, Bool.false_eq_true, if_false]
  rw [f64ToF32_parts s (e + 896) _ hs (by omega) (by omega) (by omega)]
  have e1 : 2 ^ 52 + m * 2 ^ 29 = (2 ^ 23 + m) * 2 ^ 29 := by omega
  rw [e1]
  by_cases h : e + 896 ≥ 1075
  · rw [if_pos h]
    have e2 : (2 ^ 23 + m) * 2 ^ 29 * 2 ^ (e + 896 - 1075)
        = (2 ^ 23 + m) * 2 ^ (29 + (e - 179)) := by
      have e0 : e + 896 - 1075 = e - 179 := by omega
      rw [e0, Nat.mul_assoc, ← Nat.pow_add]
    have e3 : (1 : Nat) = 2 ^ 0 := rfl
    rw [e2, e3, roundRat32_normal (2 ^ 23 + m) (29 + (e - 179)) 0 (by omega) (by omega)
      (by omega) (by omega)]
    have : 29 + (e - 179) + 150 - 0 = e := by omega
    rw [this]; omega
  · rw [if_neg h]
    have e2 : 1075 - (e + 896) = 179 - e := by omega
    rw [e2, roundRat32_normal (2 ^ 23 + m) 29 (179 - e) (by omega) (by omega)
      (by omega) (by omega)]
    have : 29 + 150 - (179 - e) = e := by omega
    rw [this]; omega

theorem widen_narrow (s e m : Nat) (hs : s < 2) (he : e < 256) (hm : m < 2 ^ 23)
    (hn : e = 255 → m = 0) :
    f64ToF32 (widen s e m) = s * 2 ^ 31 + e * 2 ^ 23 + m := by
  by_cases h255 : e = 255
  · subst h255; rw [hn rfl]; exact widen_narrow_inf s hs
  · by_cases h0 : e = 0
    · subst h0
      by_cases hm0 : m = 0
      · subst hm0; exact widen_narrow_zero s hs
      · exact widen_narrow_subnormal s m hs (by omega) hm
    · exact widen_narrow_normal s e m hs (by omega) (by omega) hm

/-- **C07, `f32` leaf**: widening an `f32` that is not a NaN to `f64` (`serialize_f32`) and narrowing it
back (`visit_f64` of `f32`) gives the same bits -/
theorem T07_f32_widen_narrow (b : Nat) (hb : b < 2 ^ 32) (hn : isNaN32 b = false) :
    f64ToF32 (f32to64 b) = b := by
  have hdec : (b / 2 ^ 31 % 2) * 2 ^ 31 + (b / 2 ^ 23 % 256) * 2 ^ 23 + b % 2 ^ 23 = b := by omega
  rw [f32to64_eq_widen, widen_narrow _ _ _ (by omega) (by omega) (by omega), hdec]
  intro h255
  unfold isNaN32 at hn
  simp [h255] at hn
  omega


theorem isNan64_parts (s E M : Nat) (hE : E < 2047) (hM : M < 2 ^ 52) :
    isNan64 (s * 2 ^ 63 + E * 2 ^ 52 + M) = false := by
  rw [isNan64_fields (by omega) hM, beq_false_of_ne (Nat.ne_of_lt hE), Bool.false_and]

theorem isNan64_widen (s e m : Nat) (he : e < 256) (hm : m < 2 ^ 23)
    (hn : e = 255 → m = 0) : isNan64 (widen s e m) = false := by
  unfold widen
  by_cases h255 : e = 255
  · subst h255
    rw [hn rfl, if_pos (by decide), isNan64_fields (by decide) (by decide)]
    rfl
  · have he1 : (e == 255) = false := by simp; omega
    simp only [he1, Bool.false_eq_true, if_false]
    by_cases h0 : e = 0
    · subst h0
      simp only [beq_self_eq_true, if_true]
      by_cases hm0 : m = 0
      · subst hm0
        simp only [beq_self_eq_true, if_true]
        have := isNan64_parts s 0 0 (by omega) (by omega)
        simpa using this
      · have hm1 : (m == 0) = false := by simp; omega
        simp only [hm1, Bool.false_eq_true, if_false]
        have hmpos : 0 < m := by omega
        obtain ⟨hL1, hL2⟩ := bitLength_bounds hmpos
        have hLpos : 1 ≤ bitLength m := by rw [bitLength_pos hmpos]; omega
        have hL23 : bitLength m ≤ 23 := bitLength_le hmpos hm
        generalize bitLength m = k at *
        have c2 : m * 2 ^ (53 - k) < 2 ^ 53 := mul_pow_lt hL2 (by omega)
        exact isNan64_parts s (k + 873) _ (by omega) (by omega)
    · have he2 : (e == 0) = false := by simp; omega
      simp only [he2, Bool.false_eq_true, if_false]
      exact isNan64_parts s (e + 896) _ (by omega) (by omega)

theorem isNan64_f32to64 (b : Nat) (hn : isNaN32 b = false) : isNan64 (f32to64 b) = false := by
  rw [f32to64_eq_widen]
  apply isNan64_widen _ _ _ (by omega) (by omega)
  intro h255
  unfold isNaN32 at hn
  simp [h255] at hn
  omega

theorem clearNanSign_f32to64 (b : Nat) (hn : isNaN32 b = false) :
    clearNanSign (f32to64 b) = f32to64 b := by
  unfold clearNanSign
  rw [isNan64_f32to64 b hn]
  simp

theorem canonFloat_of_not_nan (x : Nat) (h : isNan64 x = false) :
    TomlVerif.Spec.Encode06.canonFloat x = x := by
  unfold isNan64 at h
  unfold TomlVerif.Spec.Encode06.canonFloat
  have e : (2 : Nat) ^ 11 = 2048 := by decide
  rw [e, h]
  rfl

/-- what the serializer stores for an `f32` (`clearNanSign ∘ f32to64`) narrows back to the `f32` -/
theorem f64ToF32_clear_widen (b : Nat) (hb : b < 2 ^ 32) (hn : isNaN32 b = false) :
    f64ToF32 (clearNanSign (f32to64 b)) = b := by
  rw [clearNanSign_f32to64 b hn, T07_f32_widen_narrow b hb hn]

/-- the same through the NaN canonicalisation of the text round trip -/
theorem f64ToF32_canon_clear_widen (b : Nat) (hb : b < 2 ^ 32) (hn : isNaN32 b = false) :
    f64ToF32 (TomlVerif.Spec.Encode06.canonFloat (clearNanSign (f32to64 b))) = b := by
  rw [clearNanSign_f32to64 b hn, canonFloat_of_not_nan _ (isNan64_f32to64 b hn),
    T07_f32_widen_narrow b hb hn]

example : f64ToF32 (f32to64 0x3DCCCCCD) = 0x3DCCCCCD :=
  T07_f32_widen_narrow 0x3DCCCCCD (by decide) (by decide)
example : f64ToF32 (f32to64 1) = 1 := T07_f32_widen_narrow 1 (by decide) (by decide)
example : f64ToF32 (clearNanSign (f32to64 0xFF7FFFFF)) = 0xFF7FFFFF :=
  f64ToF32_clear_widen 0xFF7FFFFF (by decide) (by decide)
example : f64ToF32 (TomlVerif.Spec.Encode06.canonFloat (clearNanSign (f32to64 0x80000001)))
    = 0x80000001 := f64ToF32_canon_clear_widen 0x80000001 (by decide) (by decide)
/-- the hypothesis is needed: narrowing keeps only the sign of a NaN, its payload is dropped -/
example : isNaN32 0x7F800001 = true ∧ f64ToF32 (f32to64 0x7F800001) ≠ 0x7F800001 := by decide

end TomlVerif.Lemmas.TypedGapsF32

