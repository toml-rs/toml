import TomlVerif.Lemmas.Fuel04
import TomlVerif.Lemmas.DocStmts
/-! The value parser (`value`, `arrayValues`, `arrayElems`, `inlineKeyvals`) and the fuel: above the
    bound the result does not depend on it (`fuelGoal`); below the bound a result other than `.cut`
    is the result with any larger fuel (`monoGoal`). Also here, for the statement loop: every pass
    consumes input (`keyvalLine_len`, `tableLine_len`). -/
namespace TomlVerif.Lemmas.FuelValue04
open TomlVerif TomlVerif.Spec TomlVerif.Model TomlVerif.Model.Strings TomlVerif.Model.Value
open TomlVerif.Lemmas.Fuel04 TomlVerif.Lemmas.Suffix03 TomlVerif.Lemmas.ValueParse
open TomlVerif.Model.State TomlVerif.Model.Doc TomlVerif.Lemmas.SoundDoc01U

theorem value_len (f d : Nat) (s : Bytes) (v : Val) (r : Bytes) (h : value f d s = .ok v r) : r.length ≤ s.length :=
  (value_adv h).suffix.length_le

/-- Every byte consumed buys three units; a call on the same input goes to a function with a smaller
    constant (`arrayValues` → `arrayElems` → `value`), so every call made with fuel `g` is above its
    bound. -/
theorem fuelGoal : ∀ f₁ : Nat,
    (∀ f₂ d s, 3 * s.length + 1 ≤ f₁ → 3 * s.length + 1 ≤ f₂ → value f₁ d s = value f₂ d s) ∧
    (∀ f₂ d s, 3 * s.length + 3 ≤ f₁ → 3 * s.length + 3 ≤ f₂ → arrayValues f₁ d s = arrayValues f₂ d s) ∧
    (∀ f₂ d s acc, 3 * s.length + 2 ≤ f₁ → 3 * s.length + 2 ≤ f₂ → arrayElems f₁ d s acc = arrayElems f₂ d s acc) ∧
    (∀ f₂ d s acc, 3 * s.length + 3 ≤ f₁ → 3 * s.length + 3 ≤ f₂ → inlineKeyvals f₁ d s acc = inlineKeyvals f₂ d s acc) := by
  intro f
  induction f with
  | zero =>
    exact ⟨fun _ _ _ h => by omega, fun _ _ _ h => by omega, fun _ _ _ _ h => by omega, fun _ _ _ _ h => by omega⟩
  | succ g₁ ih =>
    obtain ⟨ihV, ihAV, ihAE, ihIK⟩ := ih
    refine ⟨?_, ?_, ?_, ?_⟩
    · intro f₂ d s h1 h2
      obtain ⟨g₂, rfl⟩ : ∃ g, f₂ = g + 1 := ⟨f₂ - 1, by omega⟩
      cases s with
      | nil => simp [value]
      | cons b t =>
        simp only [List.length_cons] at h1 h2
        exact value_congr (fun _ _ => ihAV g₂ (d + 1) t (by omega) (by omega))
          (fun _ _ => ihIK g₂ (d + 1) t [] (by omega) (by omega))
    · intro f₂ d s h1 h2
      obtain ⟨g₂, rfl⟩ : ∃ g, f₂ = g + 1 := ⟨f₂ - 1, by omega⟩
      exact arrayValues_congr fun _ => ihAE g₂ d s [] (by omega) (by omega)
    · intro f₂ d s acc h1 h2
      obtain ⟨g₂, rfl⟩ : ∃ g, f₂ = g + 1 := ⟨f₂ - 1, by omega⟩
      refine arrayElems_congr (fun s1 hw => ?_) (fun s1 v s2 s4 hw hv hw2 => ?_)
      · have := (wcn_suffix _ _ _ hw).length_le
        exact ihV g₂ d s1 (by omega) (by omega)
      · have := (wcn_suffix _ _ _ hw).length_le
        have := value_len _ _ _ _ _ hv
        have := (wcn_suffix _ _ _ hw2).length_le
        simp only [List.length_cons] at this
        exact ihAE g₂ d s4 _ (by omega) (by omega)
    · intro f₂ d s acc h1 h2
      obtain ⟨g₂, rfl⟩ : ∃ g, f₂ = g + 1 := ⟨f₂ - 1, by omega⟩
      refine inlineKeyvals_congr (fun ks r1 hk _ => ?_) (fun ks r1 v r2 path key r4 hk _ hv _ hc => ?_)
      · have := (keyPath_ok hk).1.length_lt
        have := dropWs_len r1
        simp only [List.length_cons] at *
        exact ihV g₂ _ (dropWs r1) (by omega) (by omega)
      · have := (keyPath_ok hk).1.length_lt
        have := dropWs_len r1
        have := value_len _ _ _ _ _ hv
        have h4 := dropWs_len r2
        rw [hc] at h4
        simp only [List.length_cons] at *
        exact ihIK g₂ d r4 _ (by omega) (by omega)

theorem monoGoal : ∀ f : Nat,
    (∀ f' d s, f ≤ f' → value f d s ≠ .cut → value f' d s = value f d s) ∧
    (∀ f' d s, f ≤ f' → arrayValues f d s ≠ .cut → arrayValues f' d s = arrayValues f d s) ∧
    (∀ f' d s acc, f ≤ f' → arrayElems f d s acc ≠ .cut → arrayElems f' d s acc = arrayElems f d s acc) ∧
    (∀ f' d s acc, f ≤ f' → inlineKeyvals f d s acc ≠ .cut → inlineKeyvals f' d s acc = inlineKeyvals f d s acc) := by
  intro f
  induction f with
  | zero =>
    refine ⟨?_, ?_, ?_, ?_⟩
    · intro f' d s _ h; exact absurd (by simp [value]) h
    · intro f' d s _ h; exact absurd (by simp [arrayValues]) h
    · intro f' d s acc _ h; exact absurd (by simp [arrayElems]) h
    · intro f' d s acc _ h; exact absurd (by simp [inlineKeyvals]) h
  | succ g ih =>
    obtain ⟨ihV, ihAV, ihAE, ihIK⟩ := ih
    -- no call returned `.cut`, or the caller would have
    refine ⟨?_, ?_, ?_, ?_⟩
    · intro f' d s hf h
      obtain ⟨g', rfl⟩ : ∃ g', f' = g' + 1 := ⟨f' - 1, by omega⟩
      cases s with
      | nil => simp [value]
      | cons b t =>
        refine (value_congr (fun e _ => ?_) (fun e _ => ?_)).symm
        · subst e
          exact (ihAV g' (d + 1) t (by omega) fun c => h (value_cut_arr (.inr c))).symm
        · subst e
          exact (ihIK g' (d + 1) t [] (by omega) fun c => h (value_cut_inl (.inr c))).symm
    · intro f' d s hf h
      obtain ⟨g', rfl⟩ : ∃ g', f' = g' + 1 := ⟨f' - 1, by omega⟩
      exact (arrayValues_congr fun hne =>
        (ihAE g' d s [] (by omega) fun c => h (arrayValues_cut hne c)).symm).symm
    · intro f' d s acc hf h
      obtain ⟨g', rfl⟩ : ∃ g', f' = g' + 1 := ⟨f' - 1, by omega⟩
      refine (arrayElems_congr (fun s1 hw => ?_) (fun s1 v s2 s4 hw hv hw2 => ?_)).symm
      · exact (ihV g' d s1 (by omega) fun c => h (arrayElems_cut_value hw c)).symm
      · exact (ihAE g' d s4 _ (by omega) fun c => h (arrayElems_cut_rest hw hv hw2 c)).symm
    · intro f' d s acc hf h
      obtain ⟨g', rfl⟩ : ∃ g', f' = g' + 1 := ⟨f' - 1, by omega⟩
      refine (inlineKeyvals_congr (fun ks r1 hk _ => ?_) (fun ks r1 v r2 path key r4 hk _ hv hsl hc => ?_)).symm
      · exact (ihV g' _ (dropWs r1) (by omega) fun c =>
          h (inlineKeyvals_cut_value hk fun v r2 e => by rw [c] at e; cases e)).symm
      · exact (ihIK g' d r4 _ (by omega) fun c => h (inlineKeyvals_cut_rest hk hv hsl hc c)).symm

theorem lineTrailing_len (s r : Bytes) (h : lineTrailing s = .ok () r) : r.length ≤ s.length := by
  unfold lineTrailing at h
  simp only [] at h
  -- what is left after the blanks and a comment
  have mid : ∀ s1 : Bytes, (match s1 with | 0x23 :: t => dropComment t | _ => s1).length ≤ s1.length := by
    intro s1
    split
    · rename_i t
      have := dropComment_len t
      simp only [List.length_cons]; omega
    · exact Nat.le_refl _
  split at h
  · injection h with _ h; subst h; exact Nat.zero_le _
  · split at h
    · rename_i r' hn
      injection h with _ h; subst h
      exact Nat.le_trans (Nat.le_of_lt (newline?_adv hn).length_lt) (Nat.le_trans (mid (dropWs s)) (dropWs_len s))
    · cases h

/-- a key/value line consumes its dotted key at least -/
theorem keyvalLine_len (st st' : ParseState) (s r : Bytes) (h : keyvalLine st s = some (st', r)) :
    r.length < s.length := by
  rw [keyvalLine_factor] at h
  obtain ⟨x, hx, _⟩ := step_of_factor st st' _ r h
  obtain ⟨ks, r1, v, r2, _, _, hk, _, hv, hl, _⟩ := keyvalStmt_some_iff.1 hx
  have := (keyPath_ok hk).1.length_lt
  have := dropWs_len r1
  have := value_len _ _ _ _ _ hv
  have := lineTrailing_len _ _ hl
  simp only [List.length_cons] at *
  omega

theorem tableLine_len (st st' : ParseState) (s r : Bytes) (h : tableLine st s = some (st', r)) :
    r.length < s.length := by
  rw [tableLine_factor] at h
  obtain ⟨x, hx, _⟩ := step_of_factor st st' _ r h
  rcases tableStmt_some_iff.1 hx with ⟨t, ks, r2, rfl, hk, hl, _⟩ | ⟨t, ks, r2, rfl, _, hk, hl, _⟩
  all_goals
    have := (keyPath_ok hk).1.length_lt
    have := lineTrailing_len _ _ hl
    simp only [List.length_cons] at *
    omega

end TomlVerif.Lemmas.FuelValue04
