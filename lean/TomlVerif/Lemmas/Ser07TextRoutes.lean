import TomlVerif.Lemmas.RoundTrip17Tree
/-! C07 at the TEXT level: the texts of `toml::to_string`, `toml::to_string_pretty` and (guarded)
    `toml_edit::ser::to_string_pretty`, and what the document parser makes of them.

    The serializer's table `kvs` (plain data `V`) is handed, as a `toml::Value`-shaped tree (`tvKVs`), to the
    model of `DocumentFormatter` + `Display for DocumentMut` in `Model/TomlValue.lean` (`emitDoc`, `renderStmts`):
    below a table inline tables become `[tables]` (header hidden when the table is non-empty and has no values of
    its own) and non-empty arrays of inline tables become `[[arrays of tables]]`; below a value everything stays
    inline; the pretty layout puts arrays of two or more elements one element per line. -/
namespace TomlVerif.Lemmas.Ser07Text
open TomlVerif TomlVerif.Model TomlVerif.Model.Ser TomlVerif.Spec TomlVerif.Spec.Serde
open TomlVerif.Model.TomlValue TomlVerif.Spec.Encode06 TomlVerif.Props.C06 TomlVerif.Spec.AstValue
open TomlVerif.Model.Encode06 (reprFloat)
open TomlVerif.Model.Value (LIMIT)
open TomlVerif.Lemmas.RoundTrip17 TomlVerif.Lemmas.Ser07TextF

mutual
/-- plain data as a `toml::Value`-shaped tree -/
def tvOf : V → TV
  | .sc (.str s) => .str s
  | .sc (.int n) => .int n
  | .sc (.float b) => .float b
  | .sc (.bool b) => .bool b
  | .sc (.dt d) => .dt d
  | .arr xs => .arr (tvList xs)
  | .inl kvs => .tbl (tvKVs kvs)
def tvList : List V → List TV
  | [] => []
  | x :: r => tvOf x :: tvList r
def tvKVs : List (Bytes × V) → List (Bytes × TV)
  | [] => []
  | (k, v) :: r => (k, tvOf v) :: tvKVs r
end

/-- `toml_write`'s text of a double, on top of std's `Display` text -/
def flOf (disp : FloatDisp) : FloatText := fun b => reprFloat b (disp b)

/-- the text `DocumentFormatter { multiline_array: pretty }` + `Display for DocumentMut` print for the table `kvs` -/
def fmtText (disp : FloatDisp) (pretty : Bool) (kvs : List (Bytes × V)) : Bytes :=
  renderStmts (flOf disp) pretty (ownValues (tvKVs kvs)).isEmpty (emitDoc (tvKVs kvs))

/-- **`toml::to_string`** (`byName = true` is /repo, whose `serialize_struct` passes the name on: its fix ff4912f of F31;
    `false` the upstream code) -/
def textToml (byName : Bool) (disp : FloatDisp) (v : SVal) : Except SerErr Bytes :=
  match tomlDocument byName v with
  | .ok kvs => .ok (fmtText disp false kvs)
  | .error e => .error e

/-- **`toml::to_string_pretty`** -/
def textTomlPretty (byName : Bool) (disp : FloatDisp) (v : SVal) : Except SerErr Bytes :=
  match tomlDocument byName v with
  | .ok kvs => .ok (fmtText disp true kvs)
  | .error e => .error e

/-- **`toml_edit::ser::to_string_pretty`** with the `is_value` guard of `DocumentFormatter` in `Pretty`
    (`routeEditPretty true`: /repo, its fix 0887a5a of F5); the guarded `Pretty` is
    `DocumentFormatter { multiline_array: true }` -/
def textEditPretty (disp : FloatDisp) (v : SVal) : Except SerErr Bytes :=
  match serDocument v with
  | .ok kvs => .ok (fmtText disp true kvs)
  | .error e => .error e

/-- a table in the order the printed document defines its entries: at every table that is printed as a
    `[table]` / `[[array of tables]]` section (and at the root) the entries that stay values first, then the
    sub-tables and arrays of tables; tables below a value (inline) keep their order -/
def docOrder (kvs : List (Bytes × V)) : List (Bytes × V) := vOfPs (docTbl (tvKVs kvs))

mutual
theorem vOf_tvOf : ∀ v : V, vOf (tvOf v) = v
  | .sc (.str _) | .sc (.int _) | .sc (.float _) | .sc (.bool _) | .sc (.dt _) => rfl
  | .arr xs => by rw [tvOf, vOf, vOfList_tvList xs]
  | .inl kvs => by rw [tvOf, vOf, vOfPs_tvKVs kvs]
theorem vOfList_tvList : ∀ l : List V, vOfList (tvList l) = l
  | [] => rfl
  | x :: r => by rw [tvList, vOfList, vOf_tvOf x, vOfList_tvList r]
theorem vOfPs_tvKVs : ∀ l : List (Bytes × V), vOfPs (tvKVs l) = l
  | [] => rfl
  | (k, v) :: r => by rw [tvKVs, vOfPs, vOf_tvOf v, vOfPs_tvKVs r]
end

theorem keys_tvKVs : ∀ l : List (Bytes × V), (tvKVs l).map Prod.fst = l.map Prod.fst
  | [] => rfl
  | (k, v) :: r => by simp [tvKVs, keys_tvKVs r]

theorem keys_canonKVs : ∀ l : List (Bytes × V), (canonKVs l).map Prod.fst = l.map Prod.fst
  | [] => rfl
  | (k, v) :: r => by simp [canonKVs, keys_canonKVs r]

mutual
theorem depth_tvOf : ∀ v : V, depthTV (tvOf (canonV v)) = depthS v
  | .sc (.str _) | .sc (.int _) | .sc (.float _) | .sc (.bool _) | .sc (.dt _) => rfl
  | .arr xs => by rw [canonV, tvOf, depthTV, depthS, depth_tvList xs]
  | .inl kvs => by rw [canonV, tvOf, depthTV, depthS, depth_tvKVs kvs]
theorem depth_tvList : ∀ l : List V, depthTVs (tvList (canonVs l)) = depthSs l
  | [] => rfl
  | x :: r => by rw [canonVs, tvList, depthTVs, depthSs, depth_tvOf x, depth_tvList r]
theorem depth_tvKVs : ∀ l : List (Bytes × V), depthTVPs (tvKVs (canonKVs l)) = depthSKVs l
  | [] => rfl
  | (k, v) :: r => by rw [canonKVs, tvKVs, depthTVPs, depthSKVs, depth_tvOf v, depth_tvKVs r]
end

theorem flOf_canon (disp : FloatDisp) (b : Nat) : flOf disp (canonFloat b) = flOf disp b := by
  unfold canonFloat
  split
  · rename_i hc
    simp only [Bool.and_eq_true, beq_iff_eq, bne_iff_ne, ne_eq] at hc
    unfold flOf
    rw [Lemmas.Encode06.reprFloat_nan b (disp b) hc.1 hc.2]
    cases hs : b / 2 ^ 63 == 1
    · rw [Lemmas.Encode06.reprFloat_nan _ _ (by decide) (by decide)]; rfl
    · rw [Lemmas.Encode06.reprFloat_nan _ _ (by decide) (by decide)]; rfl
  · rfl

mutual
theorem okF_tvOf (disp : FloatDisp) : ∀ v : V, LeavesOkS disp v → NodupS v → OkF (flOf disp) (tvOf (canonV v))
  | .sc (.str _), _, _ => by simp [canonV, canonScalar, tvOf, OkF]
  | .sc (.int n), h, _ => by simpa [canonV, canonScalar, tvOf, OkF, LeavesOkS, ScalarOkS] using h
  | .sc (.float b), h, _ => by
    have h' : FloatOk b (disp b) := by simpa [LeavesOkS, ScalarOkS] using h
    have := scalarOK_reprFloat b (disp b) h'
    simp only [canonV, canonScalar, tvOf, OkF]
    rw [flOf_canon]
    exact this
  | .sc (.bool _), _, _ => by simp [canonV, canonScalar, tvOf, OkF]
  | .sc (.dt d), h, _ => by
    have h' : Props.C12.FieldsInRange d ∧ ∀ x, d.date = some x → x.year ≤ 9999 := by
      simpa [LeavesOkS, ScalarOkS] using h
    simp only [canonV, canonScalar, tvOf, OkF]
    exact h'
  | .arr xs, h, hn => by
    rw [LeavesOkS] at h; rw [NodupS] at hn
    rw [canonV, tvOf, OkF]; exact okF_tvList disp xs h hn
  | .inl kvs, h, hn => by
    rw [LeavesOkS] at h; rw [NodupS] at hn
    rw [canonV, tvOf, OkF]
    exact ⟨okF_tvKVs disp kvs h hn.1, by rw [keys_tvKVs, keys_canonKVs]; exact hn.2, trivial⟩
theorem okF_tvList (disp : FloatDisp) : ∀ l : List V, LeavesOkSs disp l → NodupSs l → OkFs (flOf disp) (tvList (canonVs l))
  | [], _, _ => by simp [canonVs, tvList, OkFs]
  | x :: r, h, hn => by
    rw [LeavesOkSs] at h; rw [NodupSs] at hn
    rw [canonVs, tvList, OkFs]; exact ⟨okF_tvOf disp x h.1 hn.1, okF_tvList disp r h.2 hn.2⟩
theorem okF_tvKVs (disp : FloatDisp) : ∀ l : List (Bytes × V), LeavesOkSKVs disp l → NodupSKVs l →
    OkFPs (flOf disp) (tvKVs (canonKVs l))
  | [], _, _ => by simp [canonKVs, tvKVs, OkFPs]
  | (k, v) :: r, h, hn => by
    rw [LeavesOkSKVs] at h; rw [NodupSKVs] at hn
    rw [canonKVs, tvKVs, OkFPs]; exact ⟨okF_tvOf disp v h.1 hn.1, okF_tvKVs disp r h.2 hn.2⟩
end

theorem parse_fmtText_canon (disp : FloatDisp) (pretty : Bool) (kvs : List (Bytes × V))
    (hn : NodupSKVs kvs ∧ (kvs.map Prod.fst).Nodup) (hl : LeavesOkSKVs disp kvs) (hd : depthSKVs kvs < LIMIT) :
    (Doc.parseDocument (fmtText disp pretty (canonKVs kvs))).map dataTbl = some (docOrder (canonKVs kvs)) := by
  have hok := okF_tvKVs disp kvs hl hn.1
  have hdep : 1 + depthTVPs (tvKVs (canonKVs kvs)) ≤ LIMIT := by rw [depth_tvKVs]; omega
  have hnd : ((tvKVs (canonKVs kvs)).map Prod.fst).Nodup := by rw [keys_tvKVs, keys_canonKVs]; exact hn.2
  unfold fmtText
  rw [parseDocument_stmtsF (flOf disp) pretty _ (emitDoc (tvKVs (canonKVs kvs))) (stokF_doc (flOf disp) _ hok hdep)]
  obtain ⟨T, hT, hdata⟩ := run_emitDocD (flOf disp) (tvKVs (canonKVs kvs)) hok hnd
  rw [hT]
  simp only [Option.map, hdata, docOrder]

end TomlVerif.Lemmas.Ser07Text
