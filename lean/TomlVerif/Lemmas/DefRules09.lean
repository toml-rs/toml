import TomlVerif.Spec.DefRules
/-! The simulation between the table-building state machine (`Model/State.lean`) and the flat-map
    definition rules (`Spec/DefRules.lean`). Every statement goes the same way: the prefix of its path
    is walked on both sides (`Walked`), the entry under the last key is compared (`Entry`), and the
    table the statement makes of the one reached is put back (`plug_rebuild`).

    Inside a list literal `Comp.name k` checks faster than `.name k` where a `SubX` hypothesis has to
    be matched: with `.name k` the constructor is elaborated late, and until then every attempt to match
    fails only after unfolding `SubX`. -/
namespace TomlVerif.Lemmas.DefRules09
open TomlVerif TomlVerif.Model TomlVerif.Model.State TomlVerif.Lemmas.State09 TomlVerif.Spec.DefRules

theorem kget_kset {β : Type} (m : List (EPath × β)) (p q : EPath) (k : β) :
    kget (kset m p k) q = if p = q then some k else kget m q := rfl

theorem kget_kset_same {β : Type} (m : List (EPath × β)) (p : EPath) (k : β) : kget (kset m p k) p = some k := by
  simp [kget_kset]

theorem kget_kset_ne {β : Type} (m : List (EPath × β)) (p q : EPath) (k : β) (h : p ≠ q) :
    kget (kset m p k) q = kget m q := by
  simp [kget_kset, h]

theorem cget_kset_same (C : CMap) (p : EPath) (n : Nat) : cget (kset C p n) p = n := by
  simp [cget, kget_kset]

theorem cget_kset_ne (C : CMap) (p q : EPath) (n : Nat) (h : p ≠ q) : cget (kset C p n) q = cget C q := by
  simp [cget, kget_kset, h]

/-- what the tree can tell about an entry: value / table with its two flags / array with its length -/
inductive TKind where
  | value
  | tbl (implicit dotted : Bool)
  | aot (n : Nat)
  deriving DecidableEq

def Kind.toT (n : Nat) : Kind → TKind
  | .value => .value
  | .explicit => .tbl false false
  | .implicit => .tbl true false
  | .dotted _ => .tbl true true
  | .aot => .aot n

/-- the flat map with section ids erased and counts attached -/
def flat (K : KMap) (C : CMap) (p : EPath) : Option TKind := (kget K p).map (Kind.toT (cget C p))

theorem flat_none (K : KMap) (C : CMap) (p : EPath) : flat K C p = none ↔ kget K p = none := by
  simp [flat]

def itemKind : Item → TKind
  | .value _ => .value
  | .table t => .tbl t.implicit t.dotted
  | .aot ts => .aot ts.length

def stepE : Item → Comp → Option Item
  | .table t, .name k => alookup k t.items
  | .aot ts, .elem i => ts[i]?.map .table
  | _, _ => none

def walkE : Item → EPath → Option Item
  | it, [] => some it
  | it, c :: r => match stepE it c with
    | some it' => walkE it' r
    | none => none

def kindI (it : Item) (r : EPath) : Option TKind := (walkE it r).map itemKind

theorem kindI_cons_some (it it' : Item) (c : Comp) (r : EPath) (h : stepE it c = some it') :
    kindI it (c :: r) = kindI it' r := by
  simp [kindI, walkE, h]

theorem kindI_cons_none (it : Item) (c : Comp) (r : EPath) (h : stepE it c = none) :
    kindI it (c :: r) = none := by
  simp [kindI, walkE, h]

theorem kindI_single (it : Item) (c : Comp) : kindI it [c] = (stepE it c).map itemKind := by
  unfold kindI walkE
  cases stepE it c <;> simp [walkE]

/-- `κ` restricted to the paths strictly below `b` (and outside `X`) is what the item `it` holds -/
def SubX (X : EPath → Prop) (κ : EPath → Option TKind) (it : Item) (b : EPath) : Prop :=
  ∀ r, r ≠ [] → ¬ X (b ++ r) → κ (b ++ r) = kindI it r

def NoX : EPath → Prop := fun _ => False

theorem noX (q : EPath) : ¬ NoX q := id

abbrev Rep (K : KMap) (C : CMap) (t : Tbl) (b : EPath) : Prop := SubX NoX (flat K C) (.table t) b

theorem subX_child {X : EPath → Prop} {κ : EPath → Option TKind} {it it' : Item} {b : EPath} {c : Comp}
    (h : SubX X κ it b) (hs : stepE it c = some it') : SubX X κ it' (b ++ [c]) := by
  intro r hr hx
  have e : b ++ [c] ++ r = b ++ (c :: r) := by simp
  rw [e] at hx ⊢
  rw [h (c :: r) (by simp) hx, kindI_cons_some it it' c r hs]

theorem subX_here {X : EPath → Prop} {κ : EPath → Option TKind} {it : Item} {b : EPath} (c : Comp)
    (h : SubX X κ it b) (hx : ¬ X (b ++ [c])) : κ (b ++ [c]) = (stepE it c).map itemKind := by
  rw [h [c] (by simp) hx, kindI_single]

theorem subX_none {X : EPath → Prop} {κ : EPath → Option TKind} {it : Item} {b : EPath} {c : Comp} (r : EPath)
    (h : SubX X κ it b) (hs : stepE it c = none) (hx : ¬ X (b ++ c :: r)) : κ (b ++ c :: r) = none := by
  rw [h (c :: r) (by simp) hx, kindI_cons_none it c r hs]

theorem subX_rebuild {X : EPath → Prop} {κ : EPath → Option TKind} {it it' ch' : Item} {b : EPath} {c0 : Comp}
    (hstep : ∀ c, c ≠ c0 → stepE it' c = stepE it c)
    (hc0 : stepE it' c0 = some ch')
    (hsib : ∀ c r, c ≠ c0 → ¬ X (b ++ c :: r) → κ (b ++ c :: r) = kindI it (c :: r))
    (hk : ¬ X (b ++ [c0]) → κ (b ++ [c0]) = some (itemKind ch'))
    (hch : SubX X κ ch' (b ++ [c0])) : SubX X κ it' b := by
  intro r hr hx
  cases r with
  | nil => exact absurd rfl hr
  | cons c r' =>
    by_cases hc : c = c0
    · subst hc
      cases r' with
      | nil => rw [hk hx, kindI_single, hc0]; rfl
      | cons c1 r'' =>
        have e : b ++ c :: c1 :: r'' = b ++ [c] ++ (c1 :: r'') := by simp
        rw [kindI_cons_some it' ch' c _ hc0, e]
        rw [e] at hx
        exact hch (c1 :: r'') (by simp) hx
    · rw [hsib c r' hc hx]
      unfold kindI walkE
      rw [hstep c hc]

theorem subX_weaken {X X' : EPath → Prop} {κ : EPath → Option TKind} {it : Item} {b : EPath}
    (h : SubX X κ it b) (hxx : ∀ q, X q → X' q) : SubX X' κ it b :=
  fun r hr hx => h r hr (fun hq => hx (hxx _ hq))

theorem subX_of_noX {X : EPath → Prop} {κ : EPath → Option TKind} {it : Item} {b : EPath} (h : SubX NoX κ it b) :
    SubX X κ it b :=
  subX_weaken h fun _ h => h.elim

theorem subX_congr {X : EPath → Prop} {κ κ' : EPath → Option TKind} {it : Item} {b : EPath}
    (h : SubX X κ it b) (hk : ∀ r, r ≠ [] → ¬ X (b ++ r) → κ' (b ++ r) = κ (b ++ r)) : SubX X κ' it b :=
  fun r hr hx => by rw [hk r hr hx]; exact h r hr hx

/-- the flat map's kind at a path against the item a table has there: the six ways they can agree -/
inductive Entry (K : KMap) (C : CMap) (e : EPath) : Option Item → Prop
  | absent : kget K e = none → Entry K C e none
  | value (v : Val) : kget K e = some .value → Entry K C e (some (.value v))
  | explicit (s : Tbl) : kget K e = some .explicit → s.implicit = false → s.dotted = false → Entry K C e (some (.table s))
  | implicit (s : Tbl) : kget K e = some .implicit → s.implicit = true → s.dotted = false → Entry K C e (some (.table s))
  | dotted (s : Tbl) (sid : Nat) : kget K e = some (.dotted sid) → s.implicit = true → s.dotted = true →
      Entry K C e (some (.table s))
  | aot (ts : List Tbl) : kget K e = some .aot → cget C e = ts.length → Entry K C e (some (.aot ts))

theorem entry_of_flat {K : KMap} {C : CMap} {e : EPath} {o : Option Item} (h : flat K C e = o.map itemKind) :
    Entry K C e o := by
  unfold flat at h
  cases hk : kget K e with
  | none =>
    rw [hk] at h
    cases o with
    | none => exact .absent hk
    | some it => cases h
  | some kd =>
    rw [hk] at h
    cases o with
    | none => cases h
    | some it =>
      simp only [Option.map_some, Option.some.injEq] at h
      cases it with
      | value v => cases kd <;> first | exact .value v hk | cases h
      | aot ts => cases kd <;> first | (injection h with h; exact .aot ts hk h) | cases h
      | table s =>
        cases kd with
        | value => cases h
        | aot => cases h
        | explicit => injection h with h1 h2; exact .explicit s hk h1.symm h2.symm
        | implicit => injection h with h1 h2; exact .implicit s hk h1.symm h2.symm
        | dotted sid => injection h with h1 h2; exact .dotted s sid hk h1.symm h2.symm

theorem Rep.entry {K : KMap} {C : CMap} {t : Tbl} {b : EPath} (h : Rep K C t b) (k : Bytes) :
    Entry K C (b ++ [Comp.name k]) (alookup k t.items) :=
  entry_of_flat (subX_here (.name k) h (noX _))

theorem Entry.none_iff {K : KMap} {C : CMap} {e : EPath} {o : Option Item} (h : Entry K C e o) :
    kget K e = none ↔ o = none := by
  cases h <;> simp [*]

/-- the effective path that `descend … false` follows along existing tables (last elements of
    arrays of tables), with the table reached -/
def effPath : Tbl → List Bytes → Option (EPath × Tbl)
  | t, [] => some ([], t)
  | t, k :: ks => match alookup k t.items with
    | some (.table sub) => (effPath sub ks).map fun p => (.name k :: p.1, p.2)
    | some (.aot ts) => match ts.getLast? with
      | some l => (effPath l ks).map fun p => (.name k :: .elem (ts.length - 1) :: p.1, p.2)
      | none => none
    | _ => none

theorem effPath_cons_table (t sub : Tbl) (k : Bytes) (ks : List Bytes) (h : alookup k t.items = some (.table sub)) :
    effPath t (k :: ks) = (effPath sub ks).map fun p => (Comp.name k :: p.1, p.2) := by
  simp [effPath, h]

theorem effPath_cons_aot (t l : Tbl) (init : List Tbl) (k : Bytes) (ks : List Bytes)
    (h : alookup k t.items = some (.aot (init ++ [l]))) :
    effPath t (k :: ks) = (effPath l ks).map fun p => (Comp.name k :: Comp.elem init.length :: p.1, p.2) := by
  simp [effPath, h]

theorem effPath_cons_some (t u : Tbl) (k : Bytes) (ks : List Bytes) (er : EPath) (h : effPath t (k :: ks) = some (er, u)) :
    (∃ sub er', alookup k t.items = some (.table sub) ∧ effPath sub ks = some (er', u) ∧ er = .name k :: er') ∨
    (∃ init l er', alookup k t.items = some (.aot (init ++ [l])) ∧ effPath l ks = some (er', u) ∧
      er = .name k :: Comp.elem init.length :: er') := by
  unfold effPath at h
  split at h
  · rename_i sub ha
    left
    cases he : effPath sub ks with
    | none => simp [he] at h
    | some p =>
      obtain ⟨er', u'⟩ := p
      simp [he] at h
      exact ⟨sub, er', ha, by rw [← h.2]; exact he, h.1.symm⟩
  · rename_i ts ha
    right
    split at h
    · rename_i l hl
      obtain ⟨init, hi⟩ := List.getLast?_eq_some_iff.1 hl
      subst hi
      cases he : effPath l ks with
      | none => simp [he] at h
      | some p =>
        obtain ⟨er', u'⟩ := p
        simp [he] at h
        exact ⟨init, l, er', ha, by rw [← h.2]; exact he, h.1.symm⟩
    · simp at h
  · simp at h

theorem stepE_table_name (t : Tbl) (k : Bytes) : stepE (.table t) (.name k) = alookup k t.items := rfl
theorem stepE_table_elem (t : Tbl) (i : Nat) : stepE (.table t) (.elem i) = none := rfl
theorem stepE_aot_elem (ts : List Tbl) (i : Nat) : stepE (.aot ts) (.elem i) = ts[i]?.map .table := rfl
theorem stepE_aot_name (ts : List Tbl) (k : Bytes) : stepE (.aot ts) (.name k) = none := rfl
theorem stepE_value (v : Val) (c : Comp) : stepE (.value v) c = none := by cases c <;> rfl

theorem stepE_aot_last (init : List Tbl) (l : Tbl) : stepE (.aot (init ++ [l])) (.elem init.length) = some (.table l) := by
  simp [stepE]

theorem effPath_sub {X : EPath → Prop} {κ : EPath → Option TKind} (pp : List Bytes) (t u : Tbl) (b er : EPath)
    (h : SubX X κ (.table t) b) (he : effPath t pp = some (er, u)) : SubX X κ (.table u) (b ++ er) := by
  induction pp generalizing t b er with
  | nil => simp [effPath] at he; obtain ⟨h1, h2⟩ := he; subst h1; subst h2; simpa using h
  | cons k ks ih =>
    rcases effPath_cons_some t u k ks er he with ⟨sub, er', ha, hs, e⟩ | ⟨init, l, er', ha, hs, e⟩
    · subst e
      have := ih sub (b ++ [Comp.name k]) er' (subX_child h (by rw [stepE_table_name]; exact ha)) hs
      simpa using this
    · subst e
      have h1 : SubX X κ (.aot (init ++ [l])) (b ++ [Comp.name k]) := subX_child h (by rw [stepE_table_name]; exact ha)
      have h2 : SubX X κ (.table l) (b ++ [Comp.name k] ++ [Comp.elem init.length]) := subX_child h1 (stepE_aot_last init l)
      have := ih l _ er' h2 hs
      simpa using this


theorem stepE_aset_other (t : Tbl) (k : Bytes) (item : Item) (c : Comp) (hc : c ≠ .name k) :
    stepE (.table (t.setItems (aset k item t.items))) c = stepE (.table t) c := by
  cases c with
  | elem i => rfl
  | name k' =>
    have : k' ≠ k := fun e => hc (by rw [e])
    simp [stepE, alookup_aset_other _ _ _ _ this]

theorem stepE_aot_append_other (ts : List Tbl) (l : Tbl) (c : Comp) (hc : c ≠ .elem ts.length) :
    stepE (.aot (ts ++ [l])) c = stepE (.aot ts) c := by
  cases c with
  | name k => rfl
  | elem i =>
    have hi : i ≠ ts.length := fun e => hc (by rw [e])
    simp only [stepE]
    by_cases h : i < ts.length
    · rw [List.getElem?_append_left h]
    · have h' : ts.length ≤ i := Nat.le_of_not_lt h
      rw [List.getElem?_append_right h', List.getElem?_eq_none h']
      have : i - ts.length ≠ 0 := by omega
      cases hj : i - ts.length with
      | zero => exact absurd hj this
      | succ j => simp

theorem subX_aset {X : EPath → Prop} {κ : EPath → Option TKind} {t : Tbl} {k : Bytes} {it' : Item} {b : EPath}
    (hsib : ∀ c r, c ≠ .name k → ¬ X (b ++ c :: r) → κ (b ++ c :: r) = kindI (.table t) (c :: r))
    (hk : ¬ X (b ++ [Comp.name k]) → κ (b ++ [Comp.name k]) = some (itemKind it'))
    (hch : SubX X κ it' (b ++ [Comp.name k])) : SubX X κ (.table (t.setItems (aset k it' t.items))) b :=
  subX_rebuild (it := .table t) (fun c hc => stepE_aset_other t k _ c hc) (by simp [stepE, alookup_aset_same]) hsib hk hch

theorem subX_last {X : EPath → Prop} {κ : EPath → Option TKind} {init : List Tbl} {l l' : Tbl} {b : EPath}
    (hsib : ∀ c r, c ≠ .elem init.length → ¬ X (b ++ c :: r) → κ (b ++ c :: r) = kindI (.aot (init ++ [l])) (c :: r))
    (hk : ¬ X (b ++ [Comp.elem init.length]) → κ (b ++ [Comp.elem init.length]) = some (.tbl l'.implicit l'.dotted))
    (hch : SubX X κ (.table l') (b ++ [Comp.elem init.length])) : SubX X κ (.aot (init ++ [l'])) b :=
  subX_rebuild (it := .aot (init ++ [l])) (fun c hc => (stepE_aot_append_other init l' c hc).trans (stepE_aot_append_other init l c hc).symm)
    (stepE_aot_last init l') hsib hk hch

theorem not_prefix_sibling (e : EPath) {c0 c : Comp} (x r : EPath) (hc : c ≠ c0) : ¬ (e ++ c0 :: x <+: e ++ c :: r) := by
  intro hq
  rw [List.prefix_append_right_inj, List.cons_prefix_cons] at hq
  exact hc hq.1.symm

def Below (e : EPath) : EPath → Prop := fun q => ∃ r, r ≠ [] ∧ q = e ++ r

theorem below_of_prefix {e q : EPath} {c : Comp} {x : EPath} (h : e ++ c :: x <+: q) : Below e q := by
  obtain ⟨s, rfl⟩ := h
  exact ⟨c :: x ++ s, by simp, by simp⟩

theorem Below.prefix {e q : EPath} (h : Below e q) : e <+: q := by
  obtain ⟨r, _, rfl⟩ := h; exact List.prefix_append _ _

theorem Below.not_le {e q : EPath} (hle : q.length ≤ e.length) : ¬ Below e q := by
  intro ⟨r, hr, h⟩
  have := congrArg List.length h
  cases r with
  | nil => exact hr rfl
  | cons c r' => simp only [List.length_append, List.length_cons] at this; omega

theorem effPath_plug (d : Bool) (pp : List Bytes) (t u : Tbl) (er : EPath) (x : Tbl) (he : effPath t pp = some (er, u)) :
    effPath (plug d t pp x) pp = some (er, x) := by
  induction pp generalizing t er with
  | nil => simp [effPath] at he; obtain ⟨rfl, rfl⟩ := he; rfl
  | cons k ks ih =>
    rcases effPath_cons_some t u k ks er he with ⟨sub, er', ha, hs, rfl⟩ | ⟨init, l, er', ha, hs, rfl⟩
    · rw [plug_cons_table (sub := sub) ks x (by simp [ha]),
        effPath_cons_table _ (plug d sub ks x) k ks (by simp [alookup_aset_same]), ih sub er' hs]; rfl
    · rw [plug_cons_aot ks x ha, effPath_cons_aot _ (plug d l ks x) init k ks (by simp [alookup_aset_same]), ih l er' hs]; rfl

theorem plug_flags_eff (d : Bool) (ks : List Bytes) (sub u u' : Tbl) (er' : EPath) (hs : effPath sub ks = some (er', u))
    (hfl : u'.implicit = u.implicit ∧ u'.dotted = u.dotted) :
    (plug d sub ks u').implicit = sub.implicit ∧ (plug d sub ks u').dotted = sub.dotted := by
  cases ks with
  | nil => simp [effPath] at hs; obtain ⟨_, rfl⟩ := hs; exact hfl
  | cons k2 ks' =>
    rcases effPath_cons_some sub u k2 ks' er' hs with ⟨s2, _, ha, _, _⟩ | ⟨init, l, _, ha, _, _⟩
    · rw [plug_cons_table (sub := s2) ks' u' (by simp [ha])]; exact ⟨rfl, rfl⟩
    · rw [plug_cons_aot ks' u' ha]; exact ⟨rfl, rfl⟩

/-- `u'` is asked to have the flags of `u` because the kind at the end `b ++ er` itself is not
    `Below` it: `ht` still speaks of it. -/
theorem plug_rebuild {d : Bool} {pp : List Bytes} {t u u' : Tbl} {er : EPath} (he : effPath t pp = some (er, u))
    (hfl : u'.implicit = u.implicit ∧ u'.dotted = u.dotted) {X' : EPath → Prop} {κ : EPath → Option TKind} {b : EPath}
    (ht : SubX (Below (b ++ er)) κ (.table t) b) (hu : SubX X' κ (.table u') (b ++ er)) :
    SubX X' κ (.table (plug d t pp u')) b := by
  induction pp generalizing t er b with
  | nil =>
    simp [effPath] at he; obtain ⟨rfl, rfl⟩ := he
    rw [List.append_nil] at hu; exact hu
  | cons k ks ih =>
    rcases effPath_cons_some t u k ks er he with ⟨sub, er', ha, hs, rfl⟩ | ⟨init, l, er', ha, hs, rfl⟩
    · have hst : stepE (.table t) (Comp.name k) = some (.table sub) := by rw [stepE_table_name]; exact ha
      have hfl' := plug_flags_eff d ks sub u u' er' hs hfl
      rw [plug_cons_table (sub := sub) ks u' (by simp [ha])]
      refine subX_aset (fun c r hc _ => ?_) (fun _ => ?_) (ih hs ?_ ?_)
      · exact ht (c :: r) (by simp) fun hb => not_prefix_sibling b er' r hc hb.prefix
      · rw [subX_here (.name k) ht (Below.not_le (by simp only [List.length_append, List.length_cons, List.length_nil]; omega)), hst]
        simp [itemKind, hfl'.1, hfl'.2]
      · rw [← List.append_cons]; exact subX_child ht hst
      · rw [← List.append_cons]; exact hu
    · have hst : stepE (.table t) (Comp.name k) = some (.aot (init ++ [l])) := by rw [stepE_table_name]; exact ha
      have hfl' := plug_flags_eff d ks l u u' er' hs hfl
      have ht1 := subX_child ht hst
      have e3 : ∀ r, b ++ [Comp.name k] ++ [Comp.elem init.length] ++ r = b ++ Comp.name k :: Comp.elem init.length :: r := by
        intro r; simp
      rw [plug_cons_aot ks u' ha]
      -- two components: the key, then the last element of the array
      refine subX_aset (fun c r hc _ => ?_) (fun _ => ?_)
        (subX_last (l := l) (fun c r hc _ => ?_) (fun _ => ?_) (ih hs ?_ ?_))
      · exact ht (c :: r) (by simp) fun hb => not_prefix_sibling b _ r hc hb.prefix
      · rw [subX_here (.name k) ht (Below.not_le (by simp only [List.length_append, List.length_cons, List.length_nil]; omega)), hst]
        simp [itemKind]
      · refine ht1 (c :: r) (by simp) fun hb => ?_
        have := hb.prefix
        rw [List.append_cons b (Comp.name k) (Comp.elem init.length :: er')] at this
        exact not_prefix_sibling _ er' r hc this
      · rw [subX_here (.elem init.length) ht1 (Below.not_le (by simp only [List.length_append, List.length_cons, List.length_nil]; omega)),
          stepE_aot_last]
        simp [itemKind, hfl'.1, hfl'.2]
      · rw [e3]; exact subX_child ht1 (stepE_aot_last init l)
      · rw [e3]; exact hu

theorem flat_congr (K K' : KMap) (C : CMap) (q : EPath) (h : kget K' q = kget K q) : flat K' C q = flat K C q := by
  simp [flat, h]

theorem kindI_empty (t : Tbl) (h : t.items = []) (r : EPath) (hr : r ≠ []) : kindI (.table t) r = none := by
  cases r with
  | nil => exact absurd rfl hr
  | cons c r' =>
    have : stepE (.table t) c = none := by cases c <;> simp [stepE, h, alookup]
    exact kindI_cons_none _ c r' this

theorem ne_append_cons (b : EPath) (c : Comp) (r : EPath) : b ≠ b ++ c :: r := by
  intro h
  have := congrArg List.length h
  simp at this

theorem kget_kset_sibling (K : KMap) (b : EPath) (c0 c : Comp) (r : EPath) (k : Kind) (hc : c ≠ c0) :
    kget (kset K (b ++ [c0]) k) (b ++ c :: r) = kget K (b ++ c :: r) := by
  refine kget_kset_ne _ _ _ _ fun e => ?_
  rw [List.append_right_inj] at e
  injection e with e1 _
  exact hc e1.symm

/-- `K'` extends `K` only by entries satisfying `P`, at paths strictly below `b` -/
def Frame (P : Option Kind → Prop) (b : EPath) (K K' : KMap) : Prop :=
  ∀ q, kget K' q = kget K q ∨ (kget K q = none ∧ P (kget K' q) ∧ Below b q)

namespace Frame
variable {P : Option Kind → Prop} {b : EPath} {K K' : KMap}

theorem refl (P : Option Kind → Prop) (b : EPath) (K : KMap) : Frame P b K K := fun _ => Or.inl rfl

theorem down {c : Comp} (h : Frame P (b ++ [c]) K K') : Frame P b K K' := by
  intro q
  rcases h q with h1 | ⟨h1, h2, r, hr, e⟩
  · exact Or.inl h1
  · exact Or.inr ⟨h1, h2, c :: r, by simp, by rw [e, ← List.append_cons]⟩

theorem off (h : Frame P b K K') (q : EPath) (hq : ∀ r, r ≠ [] → q ≠ b ++ r) : kget K' q = kget K q := by
  rcases h q with h1 | ⟨_, _, r, hr, e⟩
  · exact h1
  · exact absurd e (hq r hr)

theorem self (h : Frame P b K K') : kget K' b = kget K b :=
  h.off b fun r hr e => by
    cases r with
    | nil => exact hr rfl
    | cons c r' => exact ne_append_cons _ _ _ e

theorem sibling {c0 c : Comp} (h : Frame P (b ++ [c0]) K K') (hc : c ≠ c0) (r : EPath) :
    kget K' (b ++ c :: r) = kget K (b ++ c :: r) :=
  h.off _ fun r' _ e => by
    rw [← List.append_cons, List.append_right_inj] at e
    injection e with e1 _
    exact hc e1

theorem of_kset {c : Comp} {k : Kind} (h : Frame P (b ++ [c]) (kset K (b ++ [c]) k) K') (hn : kget K (b ++ [c]) = none)
    (hk : P (some k)) : Frame P b K K' := by
  intro q
  rcases h q with h1 | ⟨h1, h2, r, hr, e⟩
  · by_cases hq : b ++ [c] = q
    · subst hq
      rw [kget_kset_same] at h1
      exact Or.inr ⟨hn, h1 ▸ hk, [c], by simp, rfl⟩
    · exact Or.inl (by rw [h1, kget_kset_ne _ _ _ _ hq])
  · have hq : b ++ [c] ≠ q := by
      rw [e]
      cases r with
      | nil => exact absurd rfl hr
      | cons c' r' => exact ne_append_cons _ _ _
    rw [kget_kset_ne _ _ _ _ hq] at h1
    exact Or.inr ⟨h1, h2, c :: r, by simp, by rw [e, ← List.append_cons]⟩

end Frame

abbrev HFrame := Frame (· = some .implicit)

theorem subX_lift {P : Option Kind → Prop} {C : CMap} {K K2 K1 : KMap} {t sub' : Tbl} {k : Bytes} {b : EPath}
    (hs : Rep K C t b)
    (hoff : ∀ c r, c ≠ .name k → kget K2 (b ++ c :: r) = kget K (b ++ c :: r))
    (hke : flat K2 C (b ++ [Comp.name k]) = some (.tbl sub'.implicit sub'.dotted))
    (hfr : Frame P (b ++ [Comp.name k]) K2 K1)
    (hsub' : Rep K1 C sub' (b ++ [Comp.name k])) :
    Rep K1 C (t.setItems (aset k (.table sub') t.items)) b := by
  refine subX_aset (fun c r hc _ => ?_) (fun _ => ?_) hsub'
  · rw [flat_congr K _ C _ ((hfr.sibling hc r).trans (hoff c r hc))]
    exact hs (c :: r) (by simp) (noX _)
  · rw [flat_congr K2 _ C _ hfr.self, hke]
    rfl

theorem subX_fresh {C : CMap} {K : KMap} {t : Tbl} {k : Bytes} {b : EPath} (kd : Kind) (d : Bool)
    (hs : Rep K C t b) (ha : alookup k t.items = none) :
    Rep (kset K (b ++ [Comp.name k]) kd) C (newImplicit d) (b ++ [Comp.name k]) := by
  intro r hr _
  rw [kindI_empty _ rfl r hr]
  cases r with
  | nil => exact absurd rfl hr
  | cons c r' =>
    rw [flat_congr K _ C _ (kget_kset_ne _ _ _ _ (ne_append_cons _ _ _)), ← List.append_cons]
    exact subX_none (c :: r') hs (by rw [stepE_table_name]; exact ha) (noX _)

theorem hwalk_cons_none (C : CMap) (K : KMap) (b : EPath) (k : Bytes) (ks : List Bytes)
    (h : kget K (b ++ [Comp.name k]) = none) :
    hwalk C K b (k :: ks) = hwalk C (kset K (b ++ [Comp.name k]) .implicit) (b ++ [Comp.name k]) ks := by
  simp [hwalk, h]

theorem hwalk_cons_value (C : CMap) (K : KMap) (b : EPath) (k : Bytes) (ks : List Bytes)
    (h : kget K (b ++ [Comp.name k]) = some .value) : hwalk C K b (k :: ks) = none := by
  simp [hwalk, h]

theorem hwalk_cons_aot (C : CMap) (K : KMap) (b : EPath) (k : Bytes) (ks : List Bytes)
    (h : kget K (b ++ [Comp.name k]) = some .aot) :
    hwalk C K b (k :: ks) = hwalk C K (b ++ [Comp.name k] ++ [Comp.elem (cget C (b ++ [Comp.name k]) - 1)]) ks := by
  simp [hwalk, h]

theorem hwalk_cons_tbl (C : CMap) (K : KMap) (b : EPath) (k : Bytes) (ks : List Bytes) (kd : Kind)
    (h : kget K (b ++ [Comp.name k]) = some kd) (h1 : kd ≠ .value) (h2 : kd ≠ .aot) :
    hwalk C K b (k :: ks) = hwalk C K (b ++ [Comp.name k]) ks := by
  cases kd <;> simp [hwalk, h] at h1 h2 ⊢

/-- A walk both sides can make: it ends in `u`; with `u` put back (the path made to exist) the tree
    holds what the walked map `K'` says, and `K'` extends `K` by entries `P` below `b`. -/
structure Walked (d : Bool) (C : CMap) (P : Option Kind → Prop) (K K' : KMap) (b e : EPath) (t : Tbl)
    (p : List Bytes) (u : Tbl) : Prop where
  foc : focus d t p = some u
  eff : ∃ er, effPath (plug d t p u) p = some (er, u) ∧ e = b ++ er
  rep : Rep K' C (plug d t p u) b
  frame : Frame P b K K'

theorem Walked.nil {d : Bool} {C : CMap} {P : Option Kind → Prop} {K : KMap} {b : EPath} {t : Tbl}
    (hs : Rep K C t b) : Walked d C P K K b b t [] t :=
  ⟨rfl, ⟨[], rfl, by simp⟩, hs, Frame.refl _ _ _⟩

/-- the step through the table under `k` (found there, or freshly made: then `K2` has the new entry) -/
theorem Walked.cons_table {d : Bool} {C : CMap} {P : Option Kind → Prop} {K K2 K' : KMap} {b e : EPath}
    {t sub u : Tbl} {k : Bytes} {ks : List Bytes} (hs : Rep K C t b)
    (he : (alookup k t.items).getD (.table (newImplicit d)) = .table sub) (hc : (d && !sub.implicit) = false)
    (hoff : ∀ c r, c ≠ .name k → kget K2 (b ++ c :: r) = kget K (b ++ c :: r))
    (hke : flat K2 C (b ++ [Comp.name k]) = some (.tbl sub.implicit sub.dotted))
    (hdown : ∀ K1, Frame P (b ++ [Comp.name k]) K2 K1 → Frame P b K K1)
    (h : Walked d C P K2 K' (b ++ [Comp.name k]) e sub ks u) : Walked d C P K K' b e t (k :: ks) u := by
  obtain ⟨hf, ⟨er, hep, hat⟩, hrep, hfr⟩ := h
  have hfl := plug_flags hf
  refine ⟨by rw [focus_cons_table ks he, hc]; exact hf, ⟨Comp.name k :: er, ?_, by rw [hat, ← List.append_cons]⟩, ?_, hdown _ hfr⟩
  · rw [plug_cons_table ks u he, effPath_cons_table _ (plug d sub ks u) k ks (by simp [alookup_aset_same]), hep]; rfl
  · rw [plug_cons_table ks u he]
    exact subX_lift hs hoff (by rw [hfl.1, hfl.2]; exact hke) hfr hrep

theorem Walked.cons_aot {d : Bool} {C : CMap} {P : Option Kind → Prop} {K K' : KMap} {b e : EPath}
    {t l u : Tbl} {init : List Tbl} {k : Bytes} {ks : List Bytes} (hs : Rep K C t b)
    (ha : alookup k t.items = some (.aot (init ++ [l]))) (hc : (d && !ks.isEmpty) = false)
    (h : Walked d C P K K' (b ++ [Comp.name k] ++ [Comp.elem init.length]) e l ks u) :
    Walked d C P K K' b e t (k :: ks) u := by
  obtain ⟨hf, ⟨er, hep, hat⟩, hrep, hfr⟩ := h
  have hfl := plug_flags hf
  have hst : stepE (.table t) (.name k) = some (.aot (init ++ [l])) := by rw [stepE_table_name]; exact ha
  have hs1 := subX_child hs hst
  have hfr1 : Frame P (b ++ [Comp.name k]) K K' := hfr.down
  refine ⟨by rw [focus_cons_aot ks ha, hc]; exact hf,
    ⟨Comp.name k :: Comp.elem init.length :: er, ?_, by rw [hat]; simp⟩, ?_, hfr1.down⟩
  · rw [plug_cons_aot ks u ha, effPath_cons_aot _ (plug d l ks u) init k ks (by simp [alookup_aset_same]), hep]; rfl
  · rw [plug_cons_aot ks u ha]
    refine subX_aset (fun c r hc _ => ?_) (fun _ => ?_) (subX_last (l := l) (fun c r hc _ => ?_) (fun _ => ?_) hrep)
    · rw [flat_congr K _ C _ (hfr1.sibling hc r)]
      exact hs (c :: r) (by simp) (noX _)
    · rw [flat_congr K _ C _ hfr1.self, subX_here (.name k) hs (noX _), hst]
      simp [itemKind]
    · rw [flat_congr K _ C _ (hfr.sibling hc r)]
      exact hs1 (c :: r) (by simp) (noX _)
    · rw [flat_congr K _ C _ hfr.self, subX_here (.elem init.length) hs1 (noX _), stepE_aot_last]
      simp [itemKind, hfl.1, hfl.2]

/-- every array of tables of the rules has at least one element: so the header walk, which enters
    element `count - 1`, enters the element the state machine's walk enters (the last) -/
def CPos (K : KMap) (C : CMap) : Prop := ∀ q, kget K q = some .aot → 1 ≤ cget C q

theorem cpos_kset {K : KMap} {C : CMap} (h : CPos K C) (e : EPath) (k : Kind) (hk : k ≠ .aot) : CPos (kset K e k) C := by
  intro q hq
  rw [kget_kset] at hq
  split at hq
  · injection hq with hq; exact absurd hq hk
  · exact h q hq

def HWalkOK (C : CMap) (K : KMap) (b : EPath) (t : Tbl) (pp : List Bytes) : Option (KMap × EPath) → Prop
  | none => focus false t pp = none
  | some (K', e) => ∃ u, Walked false C (· = some .implicit) K K' b e t pp u

theorem hwalk_sim (C : CMap) (pp : List Bytes) (K : KMap) (b : EPath) (t : Tbl)
    (hs : Rep K C t b) (hcp : CPos K C) : HWalkOK C K b t pp (hwalk C K b pp) := by
  induction pp generalizing K b t with
  | nil => exact ⟨t, Walked.nil hs⟩
  | cons k ks ih =>
    -- the step through a table `sub` under `k`; `K2` is `K`, or `K` with the new implicit entry
    have table_step : ∀ (K2 : KMap) (sub : Tbl), (alookup k t.items).getD (.table (newImplicit false)) = .table sub →
        (∀ c r, c ≠ .name k → kget K2 (b ++ c :: r) = kget K (b ++ c :: r)) →
        flat K2 C (b ++ [Comp.name k]) = some (.tbl sub.implicit sub.dotted) →
        (∀ K', HFrame (b ++ [Comp.name k]) K2 K' → HFrame b K K') →
        HWalkOK C K2 (b ++ [Comp.name k]) sub ks (hwalk C K2 (b ++ [Comp.name k]) ks) →
        HWalkOK C K b t (k :: ks) (hwalk C K2 (b ++ [Comp.name k]) ks) := by
      intro K2 sub hent hoff hke hdown h
      cases hw : hwalk C K2 (b ++ [Comp.name k]) ks with
      | none => rw [hw] at h; show focus false t (k :: ks) = none; rw [focus_cons_table ks hent]; exact h
      | some r =>
        rw [hw] at h
        obtain ⟨u, hwk⟩ := h
        exact ⟨u, hwk.cons_table hs hent rfl hoff hke hdown⟩
    have tbl_case : ∀ (s : Tbl) (kd : Kind), alookup k t.items = some (.table s) → kget K (b ++ [Comp.name k]) = some kd →
        kd ≠ .value → kd ≠ .aot → Kind.toT (cget C (b ++ [Comp.name k])) kd = .tbl s.implicit s.dotted →
        HWalkOK C K b t (k :: ks) (hwalk C K b (k :: ks)) := by
      intro s kd ha hk h1 h2 hkd
      have hst : stepE (.table t) (.name k) = some (.table s) := by rw [stepE_table_name]; exact ha
      rw [hwalk_cons_tbl C K b k ks kd hk h1 h2]
      exact table_step K s (by simp [ha]) (fun _ _ _ => rfl) (by simp [flat, hk, hkd]) (fun K' hfr => hfr.down)
        (ih _ _ _ (subX_child hs hst) hcp)
    have hE := hs.entry k
    generalize ha : alookup k t.items = o at hE
    cases hE with
    | absent hkn =>
      rw [hwalk_cons_none C K b k ks hkn]
      exact table_step _ (newImplicit false) (by simp [ha]) (fun c r hc => kget_kset_sibling K b _ c r _ hc)
        (by simp [flat, kget_kset_same, Kind.toT, newImplicit, Tbl.implicit, Tbl.dotted])
        (fun K' hfr => hfr.of_kset hkn rfl) (ih _ _ _ (subX_fresh .implicit false hs ha) (cpos_kset hcp _ _ (by simp)))
    | value v hk =>
      rw [hwalk_cons_value C K b k ks hk]
      show focus false t (k :: ks) = none
      rw [focus, ha]; rfl
    | explicit s hk hi hd => exact tbl_case s _ ha hk (by simp) (by simp) (by simp [Kind.toT, hi, hd])
    | implicit s hk hi hd => exact tbl_case s _ ha hk (by simp) (by simp) (by simp [Kind.toT, hi, hd])
    | dotted s sid hk hi hd => exact tbl_case s _ ha hk (by simp) (by simp) (by simp [Kind.toT, hi, hd])
    | aot ts hk hn =>
      have hpos := hcp _ hk
      rcases List.eq_nil_or_concat ts with rfl | ⟨init, l, rfl⟩
      · rw [hn] at hpos; cases hpos
      · rw [List.concat_eq_append] at ha hn
        have hst : stepE (.table t) (.name k) = some (.aot (init ++ [l])) := by rw [stepE_table_name]; exact ha
        rw [hwalk_cons_aot C K b k ks hk, hn]
        have hlen : (init ++ [l]).length - 1 = init.length := by simp
        rw [hlen]
        have := ih K _ l (subX_child (subX_child hs hst) (stepE_aot_last init l)) hcp
        cases hw : hwalk C K (b ++ [Comp.name k] ++ [Comp.elem init.length]) ks with
        | none => rw [hw] at this; show focus false t (k :: ks) = none; rw [focus_cons_aot ks ha]; exact this
        | some r =>
          rw [hw] at this
          obtain ⟨u, hwk⟩ := this
          exact ⟨u, hwk.cons_aot hs ha rfl⟩

theorem kindI_table_congr (t t' : Tbl) (h : t'.items = t.items) (r : EPath) (hr : r ≠ []) :
    kindI (.table t') r = kindI (.table t) r := by
  cases r with
  | nil => exact absurd rfl hr
  | cons c r' =>
    have : stepE (.table t') c = stepE (.table t) c := by cases c <;> simp [stepE, h]
    unfold kindI walkE
    rw [this]

theorem subX_table_congr {X : EPath → Prop} {κ : EPath → Option TKind} {t t' : Tbl} {b : EPath}
    (h : SubX X κ (.table t) b) (hi : t'.items = t.items) : SubX X κ (.table t') b :=
  fun r hr hx => by rw [h r hr hx, kindI_table_congr t t' hi r hr]

/-- taking an entry out of a table whose sub-tree is excluded anyway -/
theorem subX_erase {X : EPath → Prop} {κ : EPath → Option TKind} {u : Tbl} {b : EPath} (key : Bytes)
    (h : SubX X κ (.table u) b) (hx : ∀ r, X (b ++ .name key :: r)) :
    SubX X κ (.table (u.setItems (aerase key u.items))) b := by
  intro r hr hnx
  cases r with
  | nil => exact absurd rfl hr
  | cons c r' =>
    by_cases hc : c = .name key
    · subst hc; exact absurd (hx r') hnx
    · rw [h (c :: r') hr hnx]
      have : stepE (.table (u.setItems (aerase key u.items))) c = stepE (.table u) c := by
        cases c with
        | elem i => rfl
        | name k' =>
          have : k' ≠ key := fun e => hc (by rw [e])
          simp [stepE, alookup_aerase_other _ _ _ this]
      unfold kindI walkE
      rw [this]

theorem stepE_append_other (u : Tbl) (key : Bytes) (item : Item) (c : Comp) (hc : c ≠ .name key) :
    stepE (.table (u.setItems (u.items ++ [(key, item)]))) c = stepE (.table u) c := by
  cases c with
  | elem i => rfl
  | name k' =>
    have : k' ≠ key := fun e => hc (by rw [e])
    simp [stepE, alookup_append_other _ _ _ _ this]

theorem subX_append {X : EPath → Prop} {κ : EPath → Option TKind} {t : Tbl} {k : Bytes} {it' : Item} {b : EPath}
    (hv : alookup k t.items = none)
    (hsib : ∀ c r, c ≠ .name k → ¬ X (b ++ c :: r) → κ (b ++ c :: r) = kindI (.table t) (c :: r))
    (hk : ¬ X (b ++ [Comp.name k]) → κ (b ++ [Comp.name k]) = some (itemKind it'))
    (hch : SubX X κ it' (b ++ [Comp.name k])) : SubX X κ (.table (t.setItems (t.items ++ [(k, it')]))) b :=
  subX_rebuild (it := .table t) (fun c hc => stepE_append_other t k _ c hc)
    (by simp [stepE, alookup_append_new _ _ _ hv]) hsib hk hch

/-- elements of arrays of tables are explicit tables: so the last element of an array is never a
    dotted table, which is why `a.k = v` with `a` an array of tables is refused -/
def ElemExp (K : KMap) : Prop := ∀ p i k, kget K (p ++ [.elem i]) = some k → k = .explicit

theorem elemExp_kset_name {K : KMap} (h : ElemExp K) (x : EPath) (n : Bytes) (k : Kind) :
    ElemExp (kset K (x ++ [Comp.name n]) k) := by
  intro p i k' hk
  rw [kget_kset_ne] at hk
  · exact h p i k' hk
  · intro e
    have := List.append_inj' e rfl
    simp at this

theorem elemExp_kset_explicit {K : KMap} (h : ElemExp K) (x : EPath) : ElemExp (kset K x .explicit) := by
  intro p i k' hk
  rw [kget_kset] at hk
  split at hk
  · injection hk with hk; exact hk.symm
  · exact h p i k' hk

theorem hwalk_elemExp (C : CMap) (pp : List Bytes) (K : KMap) (b : EPath) (K' : KMap) (e : EPath)
    (h : ElemExp K) (hw : hwalk C K b pp = some (K', e)) : ElemExp K' := by
  induction pp generalizing K b with
  | nil => simp [hwalk] at hw; rw [← hw.1]; exact h
  | cons n r ih =>
    simp only [hwalk] at hw
    split at hw
    · exact ih _ _ (elemExp_kset_name h _ _ _) hw
    · cases hw
    · exact ih _ _ h hw
    · exact ih _ _ h hw



/-- Dotted tables are children of the root, of explicitly defined tables, or of dotted tables of the
    same section. With `DJ.cur` this makes every dotted table a dotted-key walk meets one of the open
    section, so the rules' case "dotted table of another section: invalid" never has to be compared
    with the state machine (which has no section ids). -/
def Par (K : KMap) : Prop :=
  ∀ p c s, kget K (p ++ [c]) = some (.dotted s) → p = [] ∨ kget K p = some .explicit ∨ kget K p = some (.dotted s)

theorem par_hframe {b : EPath} {K K' : KMap} (h : Par K) (hf : HFrame b K K') : Par K' := by
  intro p c s hk
  rcases hf (p ++ [c]) with h1 | ⟨_, h2, _⟩
  · rw [h1] at hk
    rcases h p c s hk with h0 | h0 | h0
    · exact Or.inl h0
    · rcases hf p with h3 | ⟨h3, _⟩
      · exact Or.inr (Or.inl (by rw [h3]; exact h0))
      · rw [h3] at h0; cases h0
    · rcases hf p with h3 | ⟨h3, _⟩
      · exact Or.inr (Or.inr (by rw [h3]; exact h0))
      · rw [h3] at h0; cases h0
  · rw [h2] at hk; cases hk

theorem par_kset_explicit {K : KMap} (h : Par K) (e : EPath) : Par (kset K e .explicit) := by
  intro p c s hk
  rw [kget_kset] at hk
  split at hk
  · cases hk
  · rcases h p c s hk with h0 | h0 | h0
    · exact Or.inl h0
    · by_cases hp : e = p
      · subst hp; exact Or.inr (Or.inl (kget_kset_same _ _ _))
      · exact Or.inr (Or.inl (by rw [kget_kset_ne _ _ _ _ hp]; exact h0))
    · by_cases hp : e = p
      · subst hp; exact Or.inr (Or.inl (kget_kset_same _ _ _))
      · exact Or.inr (Or.inr (by rw [kget_kset_ne _ _ _ _ hp]; exact h0))

theorem par_kset_absent {K : KMap} (h : Par K) (e : EPath) (k : Kind) (hn : kget K e = none) (hk : ∀ s, k ≠ .dotted s) :
    Par (kset K e k) := by
  intro p c s hd
  rw [kget_kset] at hd
  split at hd
  · injection hd with hd; exact absurd hd (hk s)
  · have hp : ∀ x, kget K p = some x → kget (kset K e k) p = some x := by
      intro x hx
      have : e ≠ p := by intro e'; subst e'; rw [hn] at hx; cases hx
      rw [kget_kset_ne _ _ _ _ this]; exact hx
    rcases h p c s hd with h0 | h0 | h0
    · exact Or.inl h0
    · exact Or.inr (Or.inl (hp _ h0))
    · exact Or.inr (Or.inr (hp _ h0))

/-- the two facts about dotted tables a dotted-key walk from `sect` needs (see `Par`) -/
structure DJ (K : KMap) (sect : EPath) (sid : Nat) : Prop where
  par : Par K
  cur : ∀ c s, kget K (sect ++ [c]) = some (.dotted s) → s = sid

/-- Where the open section sits in the finalized tree: no section opened yet; a `[table]` section whose
    key is vacant in its parent; or the next element of an array of tables.  Outside the open section
    (`hsub`) the finalized tree holds what the flat map says: the rules have booked the open section
    already (its kind `explicit`; for an array also the count, hence the exception at the array's own
    path), the tree gets it only when the section is closed. -/
inductive Shape (st : ParseState) (ds : DState) : Prop where
  | root (hp : st.currentPath = []) (hr : st.root.items = []) (hs : ds.sect = [])
  | std (pp : List Bytes) (key : Bytes) (er : EPath) (u : Tbl)
      (hp : st.currentPath = pp ++ [key]) (ha : st.currentIsArray = false)
      (he : effPath st.root pp = some (er, u)) (hv : alookup key u.items = none)
      (hs : ds.sect = er ++ [.name key]) (hk : kget ds.kinds ds.sect = some .explicit)
      (hsub : SubX (fun q => ds.sect <+: q) (flat ds.kinds ds.count) (.table st.root) [])
  | arr (pp : List Bytes) (key : Bytes) (er : EPath) (u : Tbl) (ts : List Tbl)
      (hp : st.currentPath = pp ++ [key]) (ha : st.currentIsArray = true)
      (he : effPath st.root pp = some (er, u)) (hv : alookup key u.items = some (.aot ts))
      (hs : ds.sect = er ++ [.name key, .elem ts.length]) (hk : kget ds.kinds ds.sect = some .explicit)
      (hka : kget ds.kinds (er ++ [.name key]) = some .aot) (hc : cget ds.count (er ++ [.name key]) = ts.length + 1)
      (hsub : SubX (fun q => ds.sect <+: q ∨ q = er ++ [.name key]) (flat ds.kinds ds.count) (.table st.root) [])

/-- The simulation relation between a state of the machine and a state of the rules: the table of the
    open section holds what the flat map says below `ds.sect` (`cur`), the finalized tree holds the rest
    (`shape`), and both sides keep their invariants. -/
structure R (st : ParseState) (ds : DState) : Prop where
  inv : Inv st
  cur : SubX NoX (flat ds.kinds ds.count) (.table st.current) ds.sect
  curI : st.current.implicit = false
  curD : st.current.dotted = false
  shape : Shape st ds
  dj : DJ ds.kinds ds.sect ds.sid
  cpos : CPos ds.kinds ds.count
  elemExp : ElemExp ds.kinds

theorem effPath_focus {pp : List Bytes} {t u : Tbl} {er : EPath} (he : effPath t pp = some (er, u)) :
    focus false t pp = some u := by
  refine focus_false_of_lookup ?_
  induction pp generalizing t er with
  | nil => simp [effPath] at he; simp [lookupTbl, he.2]
  | cons k ks ih =>
    rcases effPath_cons_some t u k ks er he with ⟨sub, er', ha, hs, _⟩ | ⟨init, l, er', ha, hs, _⟩
    · simp [lookupTbl, ha, ih hs]
    · simp [lookupTbl, ha, ih hs]

theorem fin_sim (st : ParseState) (ds : DState) (h : R st ds) :
    ∃ sf, finalizeTable st = some sf ∧ Rep ds.kinds ds.count sf.root [] := by
  rcases h.shape with ⟨hp, hr, hs⟩ | ⟨pp, key, er, u, hp, ha, he, hv, hs, hk, hsub⟩ |
      ⟨pp, key, er, u, ts, hp, ha, he, hv, hs, hk, hka, hc, hsub⟩
  · refine ⟨{ st with current := Tbl.empty, currentPath := [], root := st.current }, ?_, ?_⟩
    · rw [finalizeTable_eq]; simp [hp, splitLast, hr]
    · have := h.cur; rw [hs] at this; exact this
  · have hcur := h.cur
    rw [hs] at hcur hk hsub
    have hf : finF st.currentIsArray key st.current u = some (u.setItems (u.items ++ [(key, .table st.current)])) := by
      simp [finF, ha, finStdF, hv]
    refine ⟨_, by rw [finalizeTable_append st pp key hp, effPath_focus he]; simp only [Option.bind_some, hf]; rfl, ?_⟩
    have hsu := effPath_sub pp st.root u [] er hsub he
    refine plug_rebuild (u' := u.setItems (u.items ++ [(key, .table st.current)])) (b := []) he ⟨rfl, rfl⟩
      (subX_weaken hsub fun q hq => below_of_prefix hq) ?_
    simp only [List.nil_append] at hsu ⊢
    refine subX_append hv (fun c r hc _ => ?_) (fun _ => ?_) hcur
    · exact hsu (c :: r) (by simp) (not_prefix_sibling er [] r hc)
    · simp [flat, hk, Kind.toT, itemKind, h.curI, h.curD]
  · have hcur := h.cur
    rw [hs] at hcur hk hsub
    have hf : finF st.currentIsArray key st.current u = some (u.setItems (aset key (.aot (ts ++ [st.current])) u.items)) := by
      simp [finF, ha, finArrF, hv]
    refine ⟨_, by rw [finalizeTable_append st pp key hp, effPath_focus he]; simp only [Option.bind_some, hf]; rfl, ?_⟩
    have hsu := effPath_sub pp st.root u [] er hsub he
    refine plug_rebuild (u' := u.setItems (aset key (.aot (ts ++ [st.current])) u.items)) (b := []) he ⟨rfl, rfl⟩
      (subX_weaken hsub fun q hq => ?_) ?_
    · rcases hq with hq | hq
      · exact below_of_prefix hq
      · exact ⟨[Comp.name key], by simp, hq⟩
    simp only [List.nil_append] at hsu ⊢
    have hst : stepE (.table u) (.name key) = some (.aot ts) := by rw [stepE_table_name]; exact hv
    have hsa := subX_child hsu hst
    have e2 : er ++ [Comp.name key] ++ [Comp.elem ts.length] = er ++ [Comp.name key, Comp.elem ts.length] := by simp
    refine subX_aset (fun c r hc _ => ?_) (fun _ => by simp [flat, hka, hc, Kind.toT, itemKind]) ?_
    · refine hsu (c :: r) (by simp) fun hq => ?_
      rcases hq with hq | hq
      · exact not_prefix_sibling er _ r hc hq
      · rw [List.append_right_inj] at hq
        injection hq with hq _
        exact hc hq
    · refine subX_rebuild (it := .aot ts) (c0 := .elem ts.length) (ch' := .table st.current)
        (fun c hc => stepE_aot_append_other ts _ c hc) (stepE_aot_last ts _) (fun c r hc _ => ?_) (fun _ => ?_) ?_
      · refine hsa (c :: r) (by simp) fun hq => ?_
        rcases hq with hq | hq
        · rw [List.append_assoc, List.prefix_append_right_inj] at hq
          simp only [List.singleton_append, List.cons_prefix_cons] at hq
          exact hc hq.2.1.symm
        · have := congrArg List.length hq
          simp at this
      · rw [e2]
        simp [flat, hk, Kind.toT, itemKind, h.curI, h.curD]
      · rw [e2]; exact hcur


theorem walk_data (C : CMap) (K : KMap) (root : Tbl) (pp : List Bytes) (K' : KMap) (e : EPath)
    (hG : Rep K C root []) (hcp : CPos K C) (hw : hwalk C K [] pp = some (K', e)) :
    ∃ u, focus false root pp = some u ∧ effPath (plug false root pp u) pp = some (e, u) ∧
      Rep K' C (plug false root pp u) [] ∧ HFrame [] K K' ∧ Rep K' C u e := by
  have h := hwalk_sim C pp K [] root hG hcp
  rw [hw] at h
  obtain ⟨u, hf, ⟨er, hep, hat⟩, hrep, hfr⟩ := h
  simp only [List.nil_append] at hat
  subst hat
  have hsu := effPath_sub pp _ u [] e hrep hep
  simp only [List.nil_append] at hsu
  exact ⟨u, hf, hep, hrep, hfr, hsu⟩

theorem headerStep_none (ds : DState) (path : List Bytes) (fin : KMap → EPath → Verdict × DState)
    (h : splitLast path = none) : headerStep ds path fin = (.invalid, ds) := by
  simp [headerStep, h]

theorem headerStep_walk_none (ds : DState) (path pp : List Bytes) (key : Bytes) (fin : KMap → EPath → Verdict × DState)
    (h : splitLast path = some (pp, key)) (hw : hwalk ds.count ds.kinds [] pp = none) :
    headerStep ds path fin = (.invalid, ds) := by
  simp [headerStep, h, hw]

theorem headerStep_walk_some (ds : DState) (path pp : List Bytes) (key : Bytes) (fin : KMap → EPath → Verdict × DState)
    (K' : KMap) (e : EPath)
    (h : splitLast path = some (pp, key)) (hw : hwalk ds.count ds.kinds [] pp = some (K', e)) :
    headerStep ds path fin = fin K' (e ++ [Comp.name key]) := by
  simp [headerStep, h, hw]

theorem cpos_hframe {b : EPath} {K K' : KMap} {C : CMap} (h : CPos K C) (hf : HFrame b K K') : CPos K' C := by
  intro q hq
  rcases hf q with h1 | ⟨_, h2, _⟩
  · rw [h1] at hq; exact h q hq
  · rw [h2] at hq; cases hq

def Agree (res : Verdict × DState) (start : Option ParseState) : Prop :=
  (∀ ds', res = (.valid, ds') → ∃ st1, start = some st1 ∧ R st1 ds') ∧
  (∀ ds', res = (.invalid, ds') → start = none)

theorem agree_invalid {ds : DState} {start : Option ParseState} (h : start = none) : Agree (.invalid, ds) start :=
  ⟨fun ds' h => by simp at h, fun _ _ => h⟩

theorem agree_valid {ds : DState} {start : Option ParseState} (h : ∃ st1, start = some st1 ∧ R st1 ds) :
    Agree (.valid, ds) start :=
  ⟨fun ds' hd => by injection hd with _ hd; subst hd; exact h, fun ds' h => by simp at h⟩

theorem header_sim (sf : ParseState) (ds : DState) (path : List Bytes) (fin : KMap → EPath → Verdict × DState)
    (start : Option ParseState)
    (hG : Rep ds.kinds ds.count sf.root []) (hcp : CPos ds.kinds ds.count)
    (hnone : splitLast path = none → start = none)
    (hblock : ∀ pp key, path = pp ++ [key] → focus false sf.root pp = none → start = none)
    (hfin : ∀ pp key K' e, path = pp ++ [key] → hwalk ds.count ds.kinds [] pp = some (K', e) →
      Agree (fin K' (e ++ [Comp.name key])) start) :
    Agree (headerStep ds path fin) start := by
  cases hsp : splitLast path with
  | none =>
    rw [headerStep_none ds path _ hsp]
    exact agree_invalid (hnone hsp)
  | some pr =>
    obtain ⟨pp, key⟩ := pr
    have hp := splitLast_some _ _ _ hsp
    cases hw : hwalk ds.count ds.kinds [] pp with
    | none =>
      rw [headerStep_walk_none ds path pp key _ hsp hw]
      have := hwalk_sim ds.count pp ds.kinds [] sf.root hG hcp
      rw [hw] at this
      exact agree_invalid (hblock pp key hp this)
    | some pr2 =>
      obtain ⟨K', e⟩ := pr2
      rw [headerStep_walk_some ds path pp key _ K' e hsp hw]
      exact hfin pp key K' e hp hw

theorem start_std_ok (sf : ParseState) (ds : DState) (pp : List Bytes) (key : Bytes) (K' : KMap) (e : EPath)
    (u : Tbl) (o : Option Tbl) (hwf : WF sf.root) (hcur : sf.current = Tbl.empty)
    (hfoc : focus false sf.root pp = some u) (hep : effPath (plug false sf.root pp u) pp = some (e, u))
    (hsub' : Rep K' ds.count (plug false sf.root pp u) []) (hsu : Rep K' ds.count u e)
    (hpar : Par K') (hcp : CPos K' ds.count) (hee : ElemExp K') (ho : reopen u key = some o)
    (hk : kget K' (e ++ [Comp.name key]) = none ∨ kget K' (e ++ [Comp.name key]) = some .implicit) :
    ∃ st1, startTable sf (pp ++ [key]) = some st1 ∧
      R st1 { ds with kinds := kset K' (e ++ [Comp.name key]) .explicit, sect := e ++ [Comp.name key], sid := ds.sid + 1 } := by
  have hstart : startTable sf (pp ++ [key]) = some
      { sf with root := plug false sf.root pp (u.setItems (aerase key u.items)), position := sf.position + 1,
                current := .mk (o.getD sf.current).items false false (some (sf.position + 1)),
                currentIsArray := false, currentPath := pp ++ [key] } := by
    rw [startTable_append, hfoc]
    simp only [Option.bind_some, ho, Option.map_some]
  refine ⟨_, hstart, ?_⟩
  obtain ⟨_, _, _, hinv⟩ := std_step (fun _ => True) sf _ _ hwf hcur hstart
  have hwu : WF u := (plug_wf hfoc hwf).1
  -- the new section table holds what was under the key
  have hbase : ∀ r, r ≠ [] →
      kindI (.table (.mk (o.getD sf.current).items false false (some (sf.position + 1)))) r =
      kindI (.table u) (.name key :: r) := by
    intro r hr
    rcases reopen_some ho with ⟨hn, rfl⟩ | ⟨t0, ha, _, _, rfl⟩
    · rw [kindI_empty _ (by simp [hcur]; rfl) r hr, kindI_cons_none _ _ _ (by rw [stepE_table_name]; exact hn)]
    · rw [kindI_cons_some _ (.table t0) _ _ (by rw [stepE_table_name]; exact ha)]
      exact kindI_table_congr t0 (.mk t0.items false false _) rfl r hr
  have hK1 : ∀ q, q ≠ e ++ [Comp.name key] → kget (kset K' (e ++ [Comp.name key]) .explicit) q = kget K' q :=
    fun q hq => kget_kset_ne _ _ _ _ (fun h => hq h.symm)
  have hoff : ∀ q, ¬ (e ++ [Comp.name key] <+: q) → flat (kset K' (e ++ [Comp.name key]) .explicit) ds.count q = flat K' ds.count q :=
    fun q hq => flat_congr K' _ _ _ (hK1 q (fun h => hq (h ▸ List.prefix_refl _)))
  exact {
    inv := hinv
    cur := by
      intro r hr _
      show flat _ _ (e ++ [Comp.name key] ++ r) = _
      cases r with
      | nil => exact absurd rfl hr
      | cons c r' =>
        rw [hbase _ hr, flat_congr K' _ _ _ (hK1 _ (fun h => ne_append_cons _ _ _ h.symm)), ← List.append_cons]
        exact hsu _ (by simp) (noX _)
    curI := rfl
    curD := rfl
    shape := by
      refine .std pp key e (u.setItems (aerase key u.items)) rfl rfl ?_ (alookup_aerase_same _ _ (wf_nodup _ hwu)) rfl
        (kget_kset_same _ _ _) ?_
      · show effPath (plug false sf.root pp (u.setItems (aerase key u.items))) pp = _
        rw [← plug_plug hfoc u]; exact effPath_plug false pp _ u e _ hep
      · show SubX (fun q => e ++ [Comp.name key] <+: q) (flat (kset K' (e ++ [Comp.name key]) .explicit) ds.count)
          (.table (plug false sf.root pp (u.setItems (aerase key u.items)))) []
        rw [← plug_plug hfoc u]
        refine plug_rebuild (u' := u.setItems (aerase key u.items)) (b := []) hep ⟨rfl, rfl⟩
          (subX_congr (subX_of_noX hsub') fun r _ hx => hoff _ fun hq => hx (below_of_prefix hq)) ?_
        simp only [List.nil_append]
        refine subX_erase key (subX_congr (subX_of_noX hsu) (fun r _ hx => hoff _ hx)) fun r => ?_
        show e ++ [Comp.name key] <+: e ++ Comp.name key :: r
        rw [List.append_cons e (Comp.name key) r]; exact List.prefix_append _ _
    dj := by
      refine ⟨par_kset_explicit hpar _, ?_⟩
      intro c s hd
      show s = ds.sid + 1
      exfalso
      rw [hK1 _ (by intro h; exact ne_append_cons (e ++ [Comp.name key]) c [] h.symm)] at hd
      rcases hpar _ c s hd with h0 | h0 | h0
      · simp at h0
      · rcases hk with hk | hk <;> rw [hk] at h0 <;> cases h0
      · rcases hk with hk | hk <;> rw [hk] at h0 <;> cases h0
    cpos := by
      intro q hq
      show 1 ≤ cget ds.count q
      by_cases hqe : q = e ++ [Comp.name key]
      · subst hqe; rw [kget_kset_same] at hq; cases hq
      · rw [hK1 q hqe] at hq
        exact hcp q hq
    elemExp := elemExp_kset_explicit hee _ }


theorem stdAt_ok (ds : DState) (K : KMap) (e : EPath) (h : kget K e = none ∨ kget K e = some .implicit) :
    stdAt ds K e = (.valid, { ds with kinds := kset K e .explicit, sect := e, sid := ds.sid + 1 }) := by
  rcases h with h | h <;> simp [stdAt, h]

theorem stdAt_bad (ds : DState) (K : KMap) (e : EPath) (k : Kind) (h : kget K e = some k) (hk : k ≠ .implicit) :
    stdAt ds K e = (.invalid, ds) := by
  cases k <;> simp [stdAt, h] at hk ⊢

theorem start_std_sim (sf : ParseState) (ds : DState) (path : List Bytes)
    (hG : Rep ds.kinds ds.count sf.root []) (hwf : WF sf.root) (hcur : sf.current = Tbl.empty)
    (hpar : Par ds.kinds) (hcp : CPos ds.kinds ds.count) (hee : ElemExp ds.kinds) :
    Agree (headerStep ds path (stdAt ds)) (startTable sf path) := by
  refine header_sim sf ds path _ _ hG hcp (fun hsp => by rw [startTable_eq]; simp only [hsp])
    (fun pp key hp hb => by rw [hp, startTable_append, hb]; rfl) fun pp key K' e hp hw => ?_
  subst hp
  obtain ⟨u, hfoc, hep, hsub', hfr, hsu⟩ := walk_data _ _ sf.root pp K' e hG hcp hw
  have hbad : ∀ k, kget K' (e ++ [Comp.name key]) = some k → k ≠ .implicit → reopen u key = none →
      Agree (stdAt ds K' (e ++ [Comp.name key])) (startTable sf (pp ++ [key])) := by
    intro k hk hne hr
    rw [stdAt_bad ds K' _ k hk hne]
    exact agree_invalid (by rw [startTable_append, hfoc, Option.bind_some, hr]; rfl)
  have hgood : ∀ o, (kget K' (e ++ [Comp.name key]) = none ∨ kget K' (e ++ [Comp.name key]) = some .implicit) →
      reopen u key = some o → Agree (stdAt ds K' (e ++ [Comp.name key])) (startTable sf (pp ++ [key])) := by
    intro o hk ho
    rw [stdAt_ok ds K' _ hk]
    exact agree_valid (start_std_ok sf ds pp key K' e u o hwf hcur hfoc hep hsub' hsu (par_hframe hpar hfr)
      (cpos_hframe hcp hfr) (hwalk_elemExp _ _ _ _ _ _ hee hw) ho hk)
  have hE := hsu.entry key
  generalize ha : alookup key u.items = oi at hE
  cases hE with
  | absent hk => exact hgood none (Or.inl hk) (by simp [reopen, ha])
  | value v hk => exact hbad _ hk (by simp) (by simp [reopen, ha])
  | aot ts hk _ => exact hbad _ hk (by simp) (by simp [reopen, ha])
  | explicit s hk hi hd => exact hbad _ hk (by simp) (by simp [reopen, ha, hi, hd])
  | implicit s hk hi hd => exact hgood (some s) (Or.inr hk) (by simp [reopen, ha, hi, hd])
  | dotted s sid hk hi hd => exact hbad _ hk (by simp) (by simp [reopen, ha, hi, hd])


theorem par_kset_dotted {K : KMap} (h : Par K) (b : EPath) (c : Comp) (sid : Nat) (hn : kget K (b ++ [c]) = none)
    (hbk : b = [] ∨ kget K b = some .explicit ∨ kget K b = some (.dotted sid)) : Par (kset K (b ++ [c]) (.dotted sid)) := by
  have hp : ∀ p x, kget K p = some x → kget (kset K (b ++ [c]) (.dotted sid)) p = some x := by
    intro p x hx
    have : b ++ [c] ≠ p := by intro e'; subst e'; rw [hn] at hx; cases hx
    rw [kget_kset_ne _ _ _ _ this]; exact hx
  intro p c' s hd
  rw [kget_kset] at hd
  split at hd
  · rename_i heq
    injection hd with hd; injection hd with hd; subst hd
    obtain ⟨h1, _⟩ := List.append_inj' heq rfl
    subst h1
    rcases hbk with h0 | h0 | h0
    · exact Or.inl h0
    · exact Or.inr (Or.inl (hp _ _ h0))
    · exact Or.inr (Or.inr (hp _ _ h0))
  · rcases h p c' s hd with h0 | h0 | h0
    · exact Or.inl h0
    · exact Or.inr (Or.inl (hp _ _ h0))
    · exact Or.inr (Or.inr (hp _ _ h0))

/-- What a walk of the rules along a dotted key says about the walk of the state machine. `valid`: the
    walk passes, and ends in a dotted table unless the path is empty, which is what `kvF`'s
    mixed-table-types test asks. `invalid`: the walk is blocked, or (a last segment that is an array of
    tables) passes into a table that is not dotted, which `kvF` then refuses. -/
def KWalkOK (sid : Nat) (C : CMap) (K : KMap) (b : EPath) (t : Tbl) (path : List Bytes) : Verdict × KMap × EPath → Prop
  | (.valid, K', e) => ∃ u, Walked true C (· = some (.dotted sid)) K K' b e t path u ∧
      (path ≠ [] → u.dotted = true) ∧ Par K' ∧ ElemExp K'
  | (.invalid, _, _) => path ≠ [] ∧ ∀ u, focus true t path = some u → u.dotted = false
  | (.undecided, _, _) => True


theorem kwalk_cons_none (sid : Nat) (K : KMap) (b : EPath) (k : Bytes) (ks : List Bytes)
    (h : kget K (b ++ [Comp.name k]) = none) :
    kwalk sid K b (k :: ks) = kwalk sid (kset K (b ++ [Comp.name k]) (.dotted sid)) (b ++ [Comp.name k]) ks := by
  simp [kwalk, h]

theorem kwalk_cons_dotted (sid : Nat) (K : KMap) (b : EPath) (k : Bytes) (ks : List Bytes)
    (h : kget K (b ++ [Comp.name k]) = some (.dotted sid)) :
    kwalk sid K b (k :: ks) = kwalk sid K (b ++ [Comp.name k]) ks := by
  simp [kwalk, h]

theorem kwalk_cons_implicit (sid : Nat) (K : KMap) (b : EPath) (k : Bytes) (ks : List Bytes)
    (h : kget K (b ++ [Comp.name k]) = some .implicit) :
    kwalk sid K b (k :: ks) = (.undecided, K, b) := by
  simp [kwalk, h]

theorem kwalk_cons_bad (sid : Nat) (K : KMap) (b : EPath) (k : Bytes) (ks : List Bytes) (x : Kind)
    (h : kget K (b ++ [Comp.name k]) = some x) (hx : x = .value ∨ x = .explicit ∨ x = .aot) :
    kwalk sid K b (k :: ks) = (.invalid, K, b) := by
  rcases hx with e | e | e <;> subst e <;> simp [kwalk, h]

theorem kwalk_sim (sid : Nat) (C : CMap) (path : List Bytes) (K : KMap) (b : EPath) (t : Tbl)
    (hs : Rep K C t b) (hpar : Par K) (hee : ElemExp K)
    (hbk : b = [] ∨ kget K b = some .explicit ∨ kget K b = some (.dotted sid))
    (hcur : ∀ c s, kget K (b ++ [c]) = some (.dotted s) → s = sid) :
    KWalkOK sid C K b t path (kwalk sid K b path) := by
  induction path generalizing K b t with
  | nil => exact ⟨t, Walked.nil hs, fun h => absurd rfl h, hpar, hee⟩
  | cons k ks ih =>
    have hE := hs.entry k
    generalize ha : alookup k t.items = o at hE
    cases hE with
    | absent hkn =>
      rw [kwalk_cons_none sid K b k ks hkn]
      have hent : (alookup k t.items).getD (.table (newImplicit true)) = .table (newImplicit true) := by simp [ha]
      have := ih (kset K (b ++ [Comp.name k]) (.dotted sid)) (b ++ [Comp.name k]) (newImplicit true)
        (subX_fresh (.dotted sid) true hs ha) (par_kset_dotted hpar b _ sid hkn hbk) (elemExp_kset_name hee _ _ _)
        (Or.inr (Or.inr (kget_kset_same _ _ _))) (fun c s hd => by
          rw [kget_kset_ne _ _ _ _ (ne_append_cons _ _ _)] at hd
          have := subX_none [c] hs (show stepE (.table t) (.name k) = none by rw [stepE_table_name]; exact ha) (noX _)
          have e : b ++ [Comp.name k] ++ [c] = b ++ Comp.name k :: [c] := by simp
          rw [e, (flat_none _ _ _).1 this] at hd
          cases hd)
      revert this
      generalize kwalk sid (kset K (b ++ [Comp.name k]) (.dotted sid)) (b ++ [Comp.name k]) ks = res
      obtain ⟨vd, K', e⟩ := res
      cases vd with
      | undecided => exact fun _ => trivial
      | invalid =>
        intro ⟨_, h⟩
        exact ⟨by simp, fun u hu => h u (by rw [focus_cons_table ks hent] at hu; exact hu)⟩
      | valid =>
        intro ⟨u, hw, hd, hp', he'⟩
        refine ⟨u, hw.cons_table hs hent rfl (fun c r hc => kget_kset_sibling K b _ c r _ hc)
          (by simp [flat, kget_kset_same, Kind.toT, newImplicit, Tbl.implicit, Tbl.dotted])
          (fun K1 hfr => hfr.of_kset hkn rfl), fun _ => ?_, hp', he'⟩
        cases ks with
        | nil => have := hw.foc; simp only [focus, Option.some.injEq] at this; rw [← this]; rfl
        | cons k2 r => exact hd (by simp)
    | value v hk =>
      rw [kwalk_cons_bad sid K b k ks .value hk (Or.inl rfl)]
      exact ⟨by simp, fun u hu => by rw [focus, ha] at hu; cases hu⟩
    | explicit s hk hi hd =>
      rw [kwalk_cons_bad sid K b k ks .explicit hk (Or.inr (Or.inl rfl))]
      exact ⟨by simp, fun u hu => by rw [focus, ha] at hu; simp [hi] at hu⟩
    | implicit s hk hi hd => rw [kwalk_cons_implicit sid K b k ks hk]; trivial
    | aot ts hk hn =>
      rw [kwalk_cons_bad sid K b k ks .aot hk (Or.inr (Or.inr rfl))]
      refine ⟨by simp, fun u hu => ?_⟩
      rw [focus, ha] at hu
      cases ks with
      | cons k2 r => cases hu
      | nil =>
        simp only [Option.getD_some, List.isEmpty_nil, Bool.not_true, Bool.and_false, Bool.false_eq_true, if_false] at hu
        rcases List.eq_nil_or_concat ts with rfl | ⟨init, l, rfl⟩
        · cases hu
        · rw [List.concat_eq_append] at hu ha
          simp only [List.getLast?_append, List.getLast?_singleton, Option.some_or, focus, Option.some.injEq] at hu
          subst hu
          have hst : stepE (.table t) (.name k) = some (.aot (init ++ [l])) := by rw [stepE_table_name]; exact ha
          have hE2 := entry_of_flat (o := some (.table l)) (by
            rw [subX_here (.elem init.length) (subX_child hs hst) (noX _), stepE_aot_last])
          cases hE2 with
          | explicit _ _ _ hd => exact hd
          | implicit _ hk' _ _ => cases hee _ _ _ hk'
          | dotted _ _ hk' _ _ => cases hee _ _ _ hk'
    | dotted sub s hk hi hd =>
      have hsid : s = sid := hcur _ s hk
      subst hsid
      rw [kwalk_cons_dotted s K b k ks hk]
      have hent : (alookup k t.items).getD (.table (newImplicit true)) = .table sub := by simp [ha]
      have hst : stepE (.table t) (.name k) = some (.table sub) := by rw [stepE_table_name]; exact ha
      have := ih K (b ++ [Comp.name k]) sub (subX_child hs hst) hpar hee (Or.inr (Or.inr hk)) (fun c s' hd' => by
        rcases hpar _ c s' hd' with h1 | h1 | h1
        · simp at h1
        · rw [hk] at h1; cases h1
        · rw [hk] at h1; injection h1 with h1; injection h1 with h1; exact h1.symm)
      revert this
      generalize kwalk s K (b ++ [Comp.name k]) ks = res
      obtain ⟨vd, K', e⟩ := res
      cases vd with
      | undecided => exact fun _ => trivial
      | invalid =>
        intro ⟨_, h⟩
        exact ⟨by simp, fun u hu => h u (by rw [focus_cons_table ks hent] at hu; simpa [hi] using hu)⟩
      | valid =>
        intro ⟨u, hw, hd', hp', he'⟩
        refine ⟨u, hw.cons_table hs hent (by simp [hi]) (fun _ _ _ => rfl)
          (by simp [flat, hk, Kind.toT, hi, hd]) (fun K1 hfr => hfr.down), fun _ => ?_, hp', he'⟩
        cases ks with
        | nil => have := hw.foc; simp only [focus, Option.some.injEq] at this; rw [← this]; exact hd
        | cons k2 r => exact hd' (by simp)

theorem kvAt_some (ds : DState) (K : KMap) (e : EPath) (k : Kind) (h : kget K e = some k) : kvAt ds K e = (.invalid, ds) := by
  simp [kvAt, h]

theorem kvAt_none (ds : DState) (K : KMap) (e : EPath) (h : kget K e = none) :
    kvAt ds K e = (.valid, { ds with kinds := kset K e .value }) := by
  simp [kvAt, h]

theorem rep_insert_value {K : KMap} {C : CMap} {u : Tbl} {e : EPath} (key : Bytes) (v : Val) (hu : Rep K C u e)
    (ha : alookup key u.items = none) :
    Rep (kset K (e ++ [Comp.name key]) .value) C (u.setItems (u.items ++ [(key, .value v)])) e := by
  have hKne : ∀ q, q ≠ e ++ [Comp.name key] → kget (kset K (e ++ [Comp.name key]) .value) q = kget K q :=
    fun q hq => kget_kset_ne _ _ _ _ (fun h => hq h.symm)
  refine subX_append ha (fun c r hc _ => ?_) (fun _ => by simp [flat, kget_kset_same, Kind.toT, itemKind]) ?_
  · rw [flat_congr _ _ _ _ (hKne _ (fun h => hc (by rw [List.append_right_inj] at h; injection h with h1 _)))]
    exact hu (c :: r) (by simp) (noX _)
  · intro r hr _
    cases r with
    | nil => exact absurd rfl hr
    | cons c r' =>
      rw [kindI_cons_none _ _ _ (stepE_value v c), flat_congr _ _ _ _ (hKne _ (ne_append_cons _ _ _).symm), ← List.append_cons]
      exact subX_none (c :: r') hu (by rw [stepE_table_name]; exact ha) (noX _)

theorem Frame.kset {P Q : Option Kind → Prop} {b : EPath} {K K' : KMap} (h : Frame P b K K') (hPQ : ∀ o, P o → Q o)
    (q : EPath) (k : Kind) (hq : Below b q) (hn : kget K' q = none) (hk : Q (some k)) :
    Frame Q b K (kset K' q k) := by
  intro q'
  by_cases e : q = q'
  · subst e
    rw [kget_kset_same]
    rcases h q with h1 | ⟨h1, _⟩
    · exact Or.inr ⟨by rw [← h1]; exact hn, hk, hq⟩
    · exact Or.inr ⟨h1, hk, hq⟩
  · rw [kget_kset_ne _ _ _ _ e]
    rcases h q' with h1 | ⟨h1, h2, h3⟩
    · exact Or.inl h1
    · exact Or.inr ⟨h1, hPQ _ h2, h3⟩

theorem R.keyval {st : ParseState} {ds : DState} (h : R st ds) (c : Tbl) (K2 : KMap)
    (hinv : Inv { st with current := c }) (hcur : Rep K2 ds.count c ds.sect)
    (hfl : c.implicit = st.current.implicit ∧ c.dotted = st.current.dotted)
    (hfr : Frame (fun o => o = some (.dotted ds.sid) ∨ o = some .value) ds.sect ds.kinds K2) (hpar : Par K2)
    (hee : ElemExp K2) :
    R { st with current := c } { ds with kinds := K2 } := by
  have hoff : ∀ q, ¬ ds.sect <+: q → kget K2 q = kget ds.kinds q :=
    fun q hq => hfr.off q (fun r _ e => hq ⟨r, e.symm⟩)
  exact {
    inv := hinv
    cur := hcur
    curI := by rw [← h.curI]; exact hfl.1
    curD := by rw [← h.curD]; exact hfl.2
    shape := by
      rcases h.shape with ⟨hp, hr, hs⟩ | ⟨pp, key', er, u, hp, ha, he, hv, hs, hk', hsubr⟩ |
          ⟨pp, key', er, u, ts, hp, ha, he, hv, hs, hk', hka, hcn, hsubr⟩
      · exact .root hp hr hs
      · refine .std pp key' er u hp ha he hv hs (by rw [← hk']; exact hfr.self) ?_
        exact subX_congr hsubr (fun r _ hx => flat_congr _ _ _ _ (hoff _ hx))
      · refine .arr pp key' er u ts hp ha he hv hs (by rw [← hk']; exact hfr.self) ?_ hcn ?_
        · rw [← hka]
          refine hoff _ ?_
          intro hq
          have hq' : ds.sect <+: er ++ [Comp.name key'] := hq
          rw [hs] at hq'
          have := hq'.length_le
          simp at this
        · exact subX_congr hsubr (fun r _ hx => flat_congr _ _ _ _ (hoff _ (fun hq => hx (Or.inl hq))))
    dj := by
      refine ⟨hpar, ?_⟩
      intro c s hd'
      have hd'' : kget K2 (ds.sect ++ [c]) = some (.dotted s) := hd'
      rcases hfr (ds.sect ++ [c]) with h1 | ⟨_, h2, _⟩
      · rw [h1] at hd''; exact h.dj.cur c s hd''
      · rcases h2 with h2 | h2
        · rw [h2] at hd''; injection hd'' with h3; injection h3 with h3; exact h3.symm
        · rw [h2] at hd''; cases hd''
    cpos := by
      intro q hq
      have hq' : kget K2 q = some .aot := hq
      rcases hfr q with h1 | ⟨_, h2, _⟩
      · rw [h1] at hq'; exact h.cpos q hq'
      · rcases h2 with h2 | h2 <;> rw [h2] at hq' <;> cases hq'
    elemExp := hee }

theorem kv_sim (st : ParseState) (ds : DState) (path : List Bytes) (key : Bytes) (v : Val) (h : R st ds) :
    Agree (dstep ds (.kv path key v)) (onKeyval st path key v) := by
  have hbk : ds.sect = [] ∨ kget ds.kinds ds.sect = some .explicit ∨ kget ds.kinds ds.sect = some (.dotted ds.sid) := by
    rcases h.shape with ⟨_, _, hs⟩ | ⟨_, _, _, _, _, _, _, _, _, hk, _⟩ | ⟨_, _, _, _, _, _, _, _, _, _, hk, _⟩
    · exact Or.inl hs
    · exact Or.inr (Or.inl hk)
    · exact Or.inr (Or.inl hk)
  have hc := kwalk_sim ds.sid ds.count path ds.kinds ds.sect st.current h.cur h.dj.par h.elemExp hbk h.dj.cur
  have hds : dstep ds (.kv path key v) = match kwalk ds.sid ds.kinds ds.sect path with
      | (.valid, K, eff) => kvAt ds K (eff ++ [Comp.name key])
      | (v, _, _) => (v, ds) := rfl
  rw [hds]
  generalize kwalk ds.sid ds.kinds ds.sect path = res at hc
  obtain ⟨vd, K', e⟩ := res
  cases vd with
  | undecided => exact ⟨fun ds' h => by simp at h, fun ds' h => by simp at h⟩
  | invalid =>
    obtain ⟨hne, hc⟩ := hc
    refine ⟨fun ds' h => by simp at h, fun _ _ => (onKeyval_none_iff ..).2 fun u hu => Or.inl ?_⟩
    rw [hc u hu]; cases path <;> simp at hne ⊢
  | valid =>
    obtain ⟨u, hw, hdot, hpar', hee'⟩ := hc
    obtain ⟨er, hep, hat⟩ := hw.eff
    subst hat
    have hu : Rep K' ds.count u (ds.sect ++ er) := effPath_sub path _ u ds.sect er hw.rep hep
    have hE := hu.entry key
    simp only []
    cases hk : kget K' (ds.sect ++ er ++ [Comp.name key]) with
    | some k =>
      rw [kvAt_some ds K' _ k hk]
      refine ⟨fun ds' h => by simp at h, fun _ _ => (onKeyval_none_iff ..).2 fun x hx => Or.inr ?_⟩
      rw [hw.foc] at hx; injection hx with hx; subst hx
      cases ha : alookup key u.items with
      | none => rw [(hE.none_iff).2 ha] at hk; cases hk
      | some it => rfl
    | none =>
      have ha := hE.none_iff.1 hk
      rw [kvAt_none ds K' _ hk]
      refine ⟨fun ds' hd => ?_, fun ds' h => by simp at h⟩
      injection hd with _ hd
      subst hd
      generalize hu' : u.setItems (u.items ++ [(key, .value v)]) = u' at *
      have hkvF : kvF path key v u = some u' := by
        have : (u.dotted == path.isEmpty) = false := by
          cases path with
          | nil => have := hw.foc; simp only [focus, Option.some.injEq] at this; rw [← this, h.curD]; rfl
          | cons a r => rw [hdot (by simp)]; rfl
        simp only [kvF, this, ha, hu']; rfl
      have hd : descend st.current path true (kvF path key v) = some (plug true st.current path u') := by
        rw [descend_eq, hw.foc]; simp only [Option.bind_some, hkvF, Option.map_some]
      have hkv : onKeyval st path key v = some { st with current := plug true st.current path u' } := by
        rw [onKeyval_eq, hd]; rfl
      refine ⟨_, hkv, ?_⟩
      -- `kv_step` asks for a closed state; only its `Inv`, which does not depend on `sf`, is kept
      obtain ⟨sf, hf, _⟩ := fin_sim st ds h
      obtain ⟨_, _, _, hinv⟩ := kv_step (fun _ => True) st _ sf path key v h.inv hkv hf
      have hfl : (plug true st.current path u').implicit = st.current.implicit ∧
          (plug true st.current path u').dotted = st.current.dotted := by
        rw [← plug_plug hw.foc u, ← (plug_flags hw.foc).1, ← (plug_flags hw.foc).2]
        exact plug_flags_eff true path _ u u' _ hep (by rw [← hu']; exact ⟨rfl, rfl⟩)
      refine h.keyval _ _ hinv ?_ hfl
        (hw.frame.kset (fun _ ho => Or.inl ho) _ .value ⟨er ++ [Comp.name key], by simp, by simp⟩ hk (Or.inr rfl))
        (par_kset_absent hpar' _ .value hk (by intro s; simp)) (elemExp_kset_name hee' _ key .value)
      -- the new section table holds the new map: it differs from the walked one strictly below the walk's end
      rw [← plug_plug hw.foc u]
      refine plug_rebuild (u' := u') hep (by rw [← hu']; exact ⟨rfl, rfl⟩)
        (subX_congr (subX_of_noX hw.rep) fun r _ hx =>
          flat_congr _ _ _ _ (kget_kset_ne _ _ _ _ fun hq => hx ⟨[Comp.name key], by simp, hq.symm⟩)) ?_
      rw [← hu']
      exact rep_insert_value key v hu ha


/-- `K2` is the walked map with the array's entry present (it was there, or has just been set), so
    that a new and an existing array are one case. -/
theorem start_arr_at (sf : ParseState) (ds : DState) (pp : List Bytes) (key : Bytes) (K' K2 : KMap) (e : EPath)
    (u u'' : Tbl) (ts : List Tbl)
    (hwf : WF sf.root) (hcur : sf.current = Tbl.empty)
    (hfoc : focus false sf.root pp = some u) (hep : effPath (plug false sf.root pp u) pp = some (e, u))
    (hsub' : Rep K' ds.count (plug false sf.root pp u) []) (hsu : Rep K' ds.count u e)
    (hf : arrStartF key u = some u'')
    (hv : alookup key u''.items = some (.aot ts))
    (hstep : ∀ c, c ≠ Comp.name key → stepE (.table u'') c = stepE (.table u) c)
    (hfl : u''.implicit = u.implicit ∧ u''.dotted = u.dotted)
    (hch : SubX NoX (flat K' ds.count) (.aot ts) (e ++ [Comp.name key]))
    (hK2a : kget K2 (e ++ [Comp.name key]) = some .aot)
    (hK2off : ∀ q, q ≠ e ++ [Comp.name key] → kget K2 q = kget K' q)
    (hbelow : ∀ r, kget K' (e ++ [Comp.name key, Comp.elem ts.length] ++ r) = none)
    (hpar2 : Par K2) (hee2 : ElemExp K2)
    (hcp2 : ∀ q, q ≠ e ++ [Comp.name key] → kget K2 q = some .aot → 1 ≤ cget ds.count q) :
    ∃ st1, startArrayTable sf (pp ++ [key]) = some st1 ∧
      R st1 { kinds := kset K2 (e ++ [Comp.name key, Comp.elem ts.length]) .explicit,
              count := kset ds.count (e ++ [Comp.name key]) (ts.length + 1),
              sect := e ++ [Comp.name key, Comp.elem ts.length], sid := ds.sid + 1 } := by
  have hlen : ∀ r : EPath, e ++ [Comp.name key, Comp.elem ts.length] ++ r ≠ e ++ [Comp.name key] := by
    intro r h
    have := congrArg List.length h
    simp at this
  -- `K1`, `C1` only keep the two `kset` terms out of the structure literal below
  suffices h : ∀ K1 C1, K1 = kset K2 (e ++ [Comp.name key, Comp.elem ts.length]) .explicit →
      C1 = kset ds.count (e ++ [Comp.name key]) (ts.length + 1) → ∃ st1, startArrayTable sf (pp ++ [key]) = some st1 ∧
        R st1 { kinds := K1, count := C1, sect := e ++ [Comp.name key, Comp.elem ts.length], sid := ds.sid + 1 } from
    h _ _ rfl rfl
  intro K1 C1 hK1 hC1
  have hks : kget K1 (e ++ [Comp.name key, Comp.elem ts.length]) = some .explicit := by rw [hK1]; exact kget_kset_same _ _ _
  have hka : kget K1 (e ++ [Comp.name key]) = some .aot := by
    rw [hK1, kget_kset_ne _ _ _ _ (by simp)]; exact hK2a
  have hcn : cget C1 (e ++ [Comp.name key]) = ts.length + 1 := by rw [hC1]; exact cget_kset_same _ _ _
  have hoff : ∀ q, ¬ (e ++ [Comp.name key, Comp.elem ts.length] <+: q) → q ≠ e ++ [Comp.name key] →
      flat K1 C1 q = flat K' ds.count q := by
    intro q hq1 hq2
    have h1 : kget K1 q = kget K' q := by
      rw [hK1, kget_kset_ne _ _ _ _ (fun h => hq1 (by rw [← h]; exact List.prefix_refl _)), hK2off q hq2]
    rw [hC1]
    simp only [flat, h1, cget_kset_ne ds.count _ q _ (fun h => hq2 h.symm)]
  have hcurr : ∀ r, r ≠ [] → flat K1 C1 (e ++ [Comp.name key, Comp.elem ts.length] ++ r) = none := by
    intro r hr
    rw [flat_none, hK1]
    cases r with
    | nil => exact absurd rfl hr
    | cons c r' =>
      rw [kget_kset_ne _ _ _ _ (ne_append_cons _ _ _), hK2off _ (hlen _)]
      exact hbelow _
  have hcp1 : CPos K1 C1 := by
    intro q hq
    rw [hK1, kget_kset] at hq
    rw [hC1]
    split at hq
    · cases hq
    · by_cases hqe : e ++ [Comp.name key] = q
      · subst hqe; rw [cget_kset_same]; omega
      · rw [cget_kset_ne _ _ _ _ hqe]
        exact hcp2 q (fun h => hqe h.symm) hq
  have hstart : startArrayTable sf (pp ++ [key]) = some
      { sf with root := plug false sf.root pp u'', position := sf.position + 1,
                current := .mk sf.current.items false false (some (sf.position + 1)),
                currentIsArray := true, currentPath := pp ++ [key] } := by
    rw [startArrayTable_append, hfoc]
    simp only [Option.bind_some, hf, Option.map_some]
  refine ⟨_, hstart, ?_⟩
  obtain ⟨_, _, _, hinv⟩ := arr_step sf _ _ hwf hcur hstart
  have hoff' : ∀ q, ¬ (e ++ [Comp.name key, Comp.elem ts.length] <+: q ∨ q = e ++ [Comp.name key]) → flat K1 C1 q = flat K' ds.count q :=
    fun q hq => hoff q (fun h => hq (Or.inl h)) (fun h => hq (Or.inr h))
  exact {
    inv := hinv
    cur := by
      intro r hr _
      rw [kindI_empty _ (by simp [hcur]; rfl) r hr]
      exact hcurr r hr
    curI := rfl
    curD := rfl
    shape := by
      refine .arr pp key e u'' ts rfl rfl ?_ hv rfl hks hka hcn ?_
      · show effPath (plug false sf.root pp u'') pp = _
        rw [← plug_plug hfoc u]; exact effPath_plug false pp _ u e _ hep
      · show SubX (fun q => e ++ [Comp.name key, Comp.elem ts.length] <+: q ∨ q = e ++ [Comp.name key]) (flat K1 C1)
          (.table (plug false sf.root pp u'')) []
        rw [← plug_plug hfoc u]
        refine plug_rebuild (u' := u'') (b := []) hep hfl
          (subX_congr (subX_of_noX hsub') fun r _ hx => hoff' _ fun hq => hx ?_) ?_
        · rcases hq with hq | hq
          · exact below_of_prefix hq
          · exact ⟨[Comp.name key], by simp, hq⟩
        simp only [List.nil_append]
        exact subX_rebuild (it := .table u) (c0 := .name key) (ch' := .aot ts) hstep (by rw [stepE_table_name]; exact hv)
          (fun c r hc hx => by rw [hoff' _ hx]; exact hsu (c :: r) (by simp) (noX _))
          (fun hx => absurd (Or.inr rfl) hx)
          (subX_congr (subX_of_noX hch) fun r _ hx => hoff' _ hx)
    dj := by
      refine ⟨by rw [hK1]; exact par_kset_explicit hpar2 _, ?_⟩
      intro c s hd
      have := hcurr [c] (by simp)
      rw [(flat_none _ _ _).1 this] at hd
      cases hd
    cpos := hcp1
    elemExp := by rw [hK1]; exact elemExp_kset_explicit hee2 _ }

theorem arrAt_new (ds : DState) (K : KMap) (e : EPath) (h : kget K e = none) :
    arrAt ds K e = (.valid, { kinds := kset (kset K e .aot) (e ++ [Comp.elem 0]) .explicit, count := kset ds.count e 1,
                              sect := e ++ [Comp.elem 0], sid := ds.sid + 1 }) := by
  simp [arrAt, h]

theorem arrAt_more (ds : DState) (K : KMap) (e : EPath) (n : Nat) (h : kget K e = some .aot) (hn : cget ds.count e = n) :
    arrAt ds K e = (.valid, { kinds := kset K (e ++ [Comp.elem n]) .explicit, count := kset ds.count e (n + 1),
                              sect := e ++ [Comp.elem n], sid := ds.sid + 1 }) := by
  simp [arrAt, h, hn]

theorem arrAt_bad (ds : DState) (K : KMap) (e : EPath) (k : Kind) (h : kget K e = some k) (hk : k ≠ .aot) :
    arrAt ds K e = (.invalid, ds) := by
  cases k <;> simp [arrAt, h] at hk ⊢

theorem start_arr_sim (sf : ParseState) (ds : DState) (path : List Bytes)
    (hG : Rep ds.kinds ds.count sf.root []) (hwf : WF sf.root) (hcur : sf.current = Tbl.empty)
    (hpar : Par ds.kinds) (hcp : CPos ds.kinds ds.count) (hee : ElemExp ds.kinds) :
    Agree (headerStep ds path (arrAt ds)) (startArrayTable sf path) := by
  refine header_sim sf ds path _ _ hG hcp (fun hsp => by rw [startArrayTable_def]; simp only [hsp])
    (fun pp key hp hb => by rw [hp, startArrayTable_append, hb]; rfl) fun pp key K' e hp hw => ?_
  subst hp
  obtain ⟨u, hfoc, hep, hsub', hfr, hsu⟩ := walk_data _ _ sf.root pp K' e hG hcp hw
  have hpar' : Par K' := par_hframe hpar hfr
  have hcp' : CPos K' ds.count := cpos_hframe hcp hfr
  have hee' : ElemExp K' := hwalk_elemExp _ _ _ _ _ _ hee hw
  have hbad : ∀ k, kget K' (e ++ [Comp.name key]) = some k → k ≠ .aot → arrStartF key u = none →
      Agree (arrAt ds K' (e ++ [Comp.name key])) (startArrayTable sf (pp ++ [key])) := by
    intro k hk hne hr
    rw [arrAt_bad ds K' _ k hk hne]
    exact agree_invalid (by rw [startArrayTable_append, hfoc, Option.bind_some, hr]; rfl)
  have hE := hsu.entry key
  generalize ha : alookup key u.items = oi at hE
  cases hE with
  | absent hkn =>
    rw [arrAt_new ds K' _ hkn]
    refine agree_valid ?_
    have e0 : e ++ [Comp.name key] ++ [Comp.elem 0] = e ++ [Comp.name key, Comp.elem ([] : List Tbl).length] := by simp
    rw [e0]
    have hbelow : ∀ r, r ≠ [] → kget K' (e ++ [Comp.name key] ++ r) = none := by
      intro r hr
      cases r with
      | nil => exact absurd rfl hr
      | cons c r' =>
        rw [← List.append_cons]
        exact (flat_none _ _ _).1 (subX_none (c :: r') hsu (by rw [stepE_table_name]; exact ha) (noX _))
    refine start_arr_at sf ds pp key K' (kset K' (e ++ [Comp.name key]) .aot) e u
      (u.setItems (u.items ++ [(key, .aot [])])) [] hwf hcur hfoc hep hsub' hsu
      (by simp [arrStartF, ha]) (by simp [alookup_append_new _ _ _ ha])
      (fun c hc => stepE_append_other _ key _ c hc) ⟨rfl, rfl⟩ ?_ (kget_kset_same _ _ _)
      (fun q hq => kget_kset_ne _ _ _ _ (fun h => hq h.symm)) ?_
      (par_kset_absent hpar' _ _ hkn (by intro s; simp)) (elemExp_kset_name hee' _ _ _) ?_
    · intro r hr _
      cases r with
      | nil => exact absurd rfl hr
      | cons c r' =>
        rw [(flat_none _ _ _).2 (hbelow _ hr)]
        unfold kindI walkE
        cases c <;> simp [stepE]
    · intro r
      have := hbelow (Comp.elem ([] : List Tbl).length :: r) (by simp)
      simpa using this
    · intro q hq hqa
      rw [kget_kset_ne _ _ _ _ (fun h => hq h.symm)] at hqa
      exact hcp' q hqa
  | value v hk => exact hbad _ hk (by simp) (by simp [arrStartF, ha])
  | explicit s hk _ _ => exact hbad _ hk (by simp) (by simp [arrStartF, ha])
  | implicit s hk _ _ => exact hbad _ hk (by simp) (by simp [arrStartF, ha])
  | dotted s sid hk _ _ => exact hbad _ hk (by simp) (by simp [arrStartF, ha])
  | aot ts hka hcn =>
    rw [arrAt_more ds K' _ ts.length hka hcn]
    refine agree_valid ?_
    have e0 : e ++ [Comp.name key] ++ [Comp.elem ts.length] = e ++ [Comp.name key, Comp.elem ts.length] := by simp
    rw [e0]
    have hst : stepE (.table u) (.name key) = some (.aot ts) := by rw [stepE_table_name]; exact ha
    have hch := subX_child hsu hst
    have hbelow : ∀ r, kget K' (e ++ [Comp.name key, Comp.elem ts.length] ++ r) = none := by
      intro r
      have := hch (Comp.elem ts.length :: r) (by simp) (noX _)
      rw [kindI_cons_none _ _ _ (by simp [stepE])] at this
      rw [← e0, ← List.append_cons]
      exact (flat_none _ _ _).1 this
    exact start_arr_at sf ds pp key K' K' e u u ts hwf hcur hfoc hep hsub' hsu
      (by simp [arrStartF, ha]) ha (fun _ _ => rfl) ⟨rfl, rfl⟩ hch hka (fun _ _ => rfl) hbelow
      hpar' hee' (fun q _ hq => hcp' q hq)


theorem step_sim (st : ParseState) (ds : DState) (s : Stmt) (h : R st ds) : Agree (dstep ds s) (step st s) := by
  cases s with
  | kv p k v => exact kv_sim st ds p k v h
  | std p =>
    obtain ⟨sf, hf, hG⟩ := fin_sim st ds h
    have hwf := finalize_wf st sf h.inv hf
    have hc := (finalize_fields st sf hf).1
    have hs : step st (.std p) = startTable sf p := by simp only [step, onStdHeader, hf]
    rw [hs]
    exact start_std_sim sf ds p hG hwf hc h.dj.par h.cpos h.elemExp
  | arr p =>
    obtain ⟨sf, hf, hG⟩ := fin_sim st ds h
    have hwf := finalize_wf st sf h.inv hf
    have hc := (finalize_fields st sf hf).1
    have hs : step st (.arr p) = startArrayTable sf p := by simp only [step, onArrayHeader, hf]
    rw [hs]
    exact start_arr_sim sf ds p hG hwf hc h.dj.par h.cpos h.elemExp

theorem run_sim (stmts : List Stmt) (st : ParseState) (ds : DState) (h : R st ds) :
    (drunFrom ds stmts = .valid → (run st stmts).isSome) ∧
    ((run st stmts).isSome → drunFrom ds stmts ≠ .invalid) := by
  induction stmts generalizing st ds with
  | nil => exact ⟨fun _ => rfl, fun _ => by simp [drunFrom]⟩
  | cons s r ih =>
    obtain ⟨h1, h2⟩ := step_sim st ds s h
    cases hd : dstep ds s with
    | mk vd ds' =>
      cases vd with
      | valid =>
        obtain ⟨st1, hs, hr⟩ := h1 ds' hd
        have e1 : drunFrom ds (s :: r) = drunFrom ds' r := by simp only [drunFrom, hd]
        have e2 : run st (s :: r) = run st1 r := by simp only [run, hs]
        rw [e1, e2]
        exact ih st1 ds' hr
      | invalid =>
        have e1 : drunFrom ds (s :: r) = .invalid := by simp only [drunFrom, hd]
        have e2 : run st (s :: r) = none := by simp only [run, h2 ds' hd]
        rw [e1, e2]
        exact ⟨fun h => (by cases h), fun h => (by simp at h)⟩
      | undecided =>
        have e1 : drunFrom ds (s :: r) = .undecided := by simp only [drunFrom, hd]
        rw [e1]
        exact ⟨fun h => (by cases h), fun _ h => (by cases h)⟩


theorem kwalk_append (sid : Nat) (p q : List Bytes) (K : KMap) (b : EPath) :
    kwalk sid K b (p ++ q) = match kwalk sid K b p with
      | (.valid, K', e) => kwalk sid K' e q
      | r => r := by
  induction p generalizing K b with
  | nil => simp [kwalk]
  | cons n r ih =>
    simp only [List.cons_append, kwalk]
    split
    · exact ih _ _
    · split
      · exact ih _ _
      · rfl
    · rfl
    · rfl

theorem u1_direct (st : ParseState) (ds : DState) (p : List Bytes) (k key : Bytes) (v : Val) (h : R st ds)
    (K' : KMap) (e : EPath) (hw : kwalk ds.sid ds.kinds ds.sect p = (.valid, K', e))
    (hk : kget K' (e ++ [Comp.name k]) = some .implicit) :
    dstep ds (.kv (p ++ [k]) key v) = (.undecided, ds) ∧ onKeyval st (p ++ [k]) key v = none := by
  have hbk : ds.sect = [] ∨ kget ds.kinds ds.sect = some .explicit ∨ kget ds.kinds ds.sect = some (.dotted ds.sid) := by
    rcases h.shape with ⟨_, _, hs⟩ | ⟨_, _, _, _, _, _, _, _, _, hk, _⟩ | ⟨_, _, _, _, _, _, _, _, _, _, hk, _⟩
    · exact Or.inl hs
    · exact Or.inr (Or.inl hk)
    · exact Or.inr (Or.inl hk)
  refine ⟨?_, ?_⟩
  · have : kwalk ds.sid ds.kinds ds.sect (p ++ [k]) = (.undecided, K', e) := by
      rw [kwalk_append, hw]
      simp [kwalk, hk]
    have hds : dstep ds (.kv (p ++ [k]) key v) = match kwalk ds.sid ds.kinds ds.sect (p ++ [k]) with
        | (.valid, K, eff) => kvAt ds K (eff ++ [Comp.name key])
        | (v, _, _) => (v, ds) := rfl
    rw [hds, this]
  · have hc := kwalk_sim ds.sid ds.count p ds.kinds ds.sect st.current h.cur h.dj.par h.elemExp hbk h.dj.cur
    rw [hw] at hc
    obtain ⟨u, hwk, _, _, _⟩ := hc
    obtain ⟨er, hep, hat⟩ := hwk.eff
    have hu : Rep K' ds.count u e := by rw [hat]; exact effPath_sub p _ u ds.sect er hwk.rep hep
    refine (onKeyval_none_iff ..).2 fun x hx => Or.inl ?_
    obtain ⟨u', h1, h2⟩ := focus_append hx
    rw [hwk.foc] at h1; injection h1 with h1; subst h1
    have hE := hu.entry k
    rw [focus] at h2
    generalize alookup k u.items = o at hE h2
    cases hE with
    | implicit s _ hi hd =>
      simp only [Option.getD_some, hi, Bool.not_true, Bool.and_false, Bool.false_eq_true, if_false, focus, Option.some.injEq] at h2
      rw [← h2, hd]; simp
    | absent hk' => rw [hk] at hk'; cases hk'
    | value _ hk' => rw [hk] at hk'; cases hk'
    | explicit _ hk' => rw [hk] at hk'; cases hk'
    | dotted _ _ hk' => rw [hk] at hk'; cases hk'
    | aot _ hk' => rw [hk] at hk'; cases hk'


def dstateFrom : DState → List Stmt → Option DState
  | ds, [] => some ds
  | ds, s :: r => match dstep ds s with
    | (.valid, ds') => dstateFrom ds' r
    | _ => none

theorem dstateFrom_cons (ds ds1 : DState) (s : Stmt) (r : List Stmt) (h : dstateFrom ds (s :: r) = some ds1) :
    ∃ ds', dstep ds s = (.valid, ds') ∧ dstateFrom ds' r = some ds1 := by
  simp only [dstateFrom] at h
  cases hd : dstep ds s with
  | mk vd ds' =>
    rw [hd] at h
    cases vd with
    | valid => exact ⟨ds', rfl, h⟩
    | invalid => simp at h
    | undecided => simp at h

theorem run_R (stmts : List Stmt) (st : ParseState) (ds ds1 : DState) (h : R st ds) (hd : dstateFrom ds stmts = some ds1) :
    ∃ st1, run st stmts = some st1 ∧ R st1 ds1 := by
  induction stmts generalizing st ds with
  | nil => simp [dstateFrom] at hd; subst hd; exact ⟨st, rfl, h⟩
  | cons s r ih =>
    obtain ⟨ds', h1, h2⟩ := dstateFrom_cons ds ds1 s r hd
    obtain ⟨st', hs, hr⟩ := (step_sim st ds s h).1 ds' h1
    obtain ⟨st1, hr1, hR⟩ := ih st' ds' hr h2
    exact ⟨st1, by simp only [run, hs, hr1], hR⟩

theorem drunFrom_append (s1 r : List Stmt) (ds ds1 : DState) (hd : dstateFrom ds s1 = some ds1) :
    drunFrom ds (s1 ++ r) = drunFrom ds1 r := by
  induction s1 generalizing ds with
  | nil => simp [dstateFrom] at hd; subst hd; rfl
  | cons s r' ih =>
    obtain ⟨ds', h1, h2⟩ := dstateFrom_cons ds ds1 s r' hd
    simp only [List.cons_append, drunFrom, h1]
    exact ih ds' h2

end TomlVerif.Lemmas.DefRules09
