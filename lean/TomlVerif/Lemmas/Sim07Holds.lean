import TomlVerif.Lemmas.SerTyped07Core
import TomlVerif.Lemmas.Ser07TextRoutes
/-! C07, reading back: where `Sim` holds — the serializer's tree itself, the tree a text parses to (NaNs
    reduced to their sign), and any reordering of the tables of either (`PermTV`: the document order of the formatted
    routes, the key order of a `BTreeMap`-backed `toml::Value`). -/
namespace TomlVerif.Lemmas.SerTyped07
open TomlVerif TomlVerif.Model TomlVerif.Model.TomlValue TomlVerif.Model.DeRoutes TomlVerif.Model.DeTyped
open TomlVerif.Model.SerTyped TomlVerif.Model.Ser TomlVerif.Spec TomlVerif.Spec.Serde
open TomlVerif.Spec.Encode06 (canonFloat)
open TomlVerif.Lemmas.Ser07Text TomlVerif.Lemmas.DeTyped13 TomlVerif.Lemmas.TypedGaps TomlVerif.Lemmas.Ser07
open TomlVerif.Lemmas.RoundTrip17 (PermTV PermTVs PermTVPs valOf valOfList valOfPairs)

theorem simG_self {P : List (Bytes × TV) → List (Bytes × TV) → Prop} (hP : ∀ a, P a a) :
    (∀ x : V, SimG P id x (tvOf x) ∧ SimG P canonFloat x (tvOf (canonV x))) ∧
    (∀ xs : List V, SimGList P id xs (tvList xs) ∧ SimGList P canonFloat xs (tvList (canonVs xs))) ∧
    ∀ kvs : List (Bytes × V), SimGKVs P id kvs (tvKVs kvs) ∧ SimGKVs P canonFloat kvs (tvKVs (canonKVs kvs)) := by
  refine V.induction ?_ ?_ ?_ ?_ ?_ ?_ ?_
  · intro s; cases s <;> simp [SimG, tvOf, canonV, canonScalar]
  · intro xs ih; simp only [SimG, tvOf, canonV]; exact ⟨⟨_, rfl, ih.1⟩, ⟨_, rfl, ih.2⟩⟩
  · intro kvs ih; simp only [SimG, tvOf, canonV]; exact ⟨⟨_, _, rfl, hP _, ih.1⟩, ⟨_, _, rfl, hP _, ih.2⟩⟩
  · simp [SimGList, tvList, canonVs]
  · intro x r hx hr; simp only [SimGList, tvList, canonVs]; exact ⟨⟨_, _, rfl, hx.1, hr.1⟩, ⟨_, _, rfl, hx.2, hr.2⟩⟩
  · simp [SimGKVs, tvKVs, canonKVs]
  · intro k x r hx hr; simp only [SimGKVs, tvKVs, canonKVs]; exact ⟨⟨_, _, rfl, hx.1, hr.1⟩, ⟨_, _, rfl, hx.2, hr.2⟩⟩

theorem sim_tvOf : ∀ x : V, Sim id x (tvOf x) :=
  fun x => (simG_perm id x _).1 ((simG_self List.Perm.refl).1 x).1
theorem simList_tvOf : ∀ xs : List V, SimList id xs (tvList xs) :=
  fun xs => (simGList_perm id xs _).1 ((simG_self List.Perm.refl).2.1 xs).1
theorem simKVs_tvOf : ∀ kvs : List (Bytes × V), SimKVs id kvs (tvKVs kvs) :=
  fun kvs => (simGKVs_perm id kvs _).1 ((simG_self List.Perm.refl).2.2 kvs).1

theorem sim_canon : ∀ x : V, Sim canonFloat x (tvOf (canonV x)) :=
  fun x => (simG_perm _ x _).1 ((simG_self List.Perm.refl).1 x).2
theorem simList_canon : ∀ xs : List V, SimList canonFloat xs (tvList (canonVs xs)) :=
  fun xs => (simGList_perm _ xs _).1 ((simG_self List.Perm.refl).2.1 xs).2
theorem simKVs_canon : ∀ kvs : List (Bytes × V), SimKVs canonFloat kvs (tvKVs (canonKVs kvs)) :=
  fun kvs => (simGKVs_perm _ kvs _).1 ((simG_self List.Perm.refl).2.2 kvs).2

mutual
theorem tvOf_dataVal : ∀ v : Val, tvOf (dataVal v) = plainVal v
  | .str _ | .int _ | .float _ | .bool _ | .dt _ => by simp [dataVal, tvOf, plainVal]
  | .arr l => by simp [dataVal, tvOf, plainVal, tvList_dataVals l]
  | .inl items _ _ => by simp [dataVal, tvOf, plainVal, tvKVs_dataPairs items]
theorem tvList_dataVals : ∀ l : List Val, tvList (dataVals l) = plainVals l
  | [] => by simp [dataVals, tvList, plainVals]
  | v :: r => by simp [dataVals, tvList, plainVals, tvOf_dataVal v, tvList_dataVals r]
theorem tvKVs_dataPairs : ∀ l : List (Bytes × Val), tvKVs (dataPairs l) = plainValPairs l
  | [] => by simp [dataPairs, tvKVs, plainValPairs]
  | (k, v) :: r => by simp [dataPairs, tvKVs, plainValPairs, tvOf_dataVal v, tvKVs_dataPairs r]
end

mutual
theorem tvOf_dataItem : ∀ i : Item, tvOf (dataItem i) = plainItem i
  | .value v => by simp [dataItem, plainItem, tvOf_dataVal v]
  | .table t => by simp [dataItem, plainItem, tvOf, tvKVs_dataTbl t]
  | .aot ts => by simp [dataItem, plainItem, tvOf, tvList_dataTbls ts]
theorem tvKVs_dataTbl : ∀ t : Tbl, .tbl (tvKVs (dataTbl t)) = plainTbl t
  | .mk items _ _ _ => by simp [dataTbl, plainTbl, tvKVs_dataItems items]
theorem tvList_dataTbls : ∀ l : List Tbl, tvList (dataTbls l) = plainTbls l
  | [] => by simp [dataTbls, tvList, plainTbls]
  | t :: r => by simp [dataTbls, tvList, plainTbls, tvOf, tvKVs_dataTbl t, tvList_dataTbls r]
theorem tvKVs_dataItems : ∀ l : List (Bytes × Item), tvKVs (dataItems l) = plainItems l
  | [] => by simp [dataItems, tvKVs, plainItems]
  | (k, i) :: r => by simp [dataItems, tvKVs, plainItems, tvOf_dataItem i, tvKVs_dataItems r]
end

mutual
theorem plainVal_valOf : ∀ w : TV, plainVal (valOf w) = w
  | .str _ | .int _ | .float _ | .bool _ | .dt _ => by simp [valOf, plainVal]
  | .arr l => by simp [valOf, plainVal, plainVals_valOfList l]
  | .tbl es => by simp [valOf, plainVal, plainValPairs_valOfPairs es]
theorem plainVals_valOfList : ∀ l : List TV, plainVals (valOfList l) = l
  | [] => by simp [valOfList, plainVals]
  | w :: r => by simp [valOfList, plainVals, plainVal_valOf w, plainVals_valOfList r]
theorem plainValPairs_valOfPairs : ∀ l : List (Bytes × TV), plainValPairs (valOfPairs l) = l
  | [] => by simp [valOfPairs, plainValPairs]
  | (k, w) :: r => by simp [valOfPairs, plainValPairs, plainVal_valOf w, plainValPairs_valOfPairs r]
end

/-- entry by entry: same key, values indistinguishable for `Sim`: the induction hypothesis of `sim_permTV` for the entries
of a table, carried through the permutation `Sim` hides (`relPs_perm`) -/
def RelPs (cf : Nat → Nat) : List (Bytes × TV) → List (Bytes × TV) → Prop
  | [], [] => True
  | (k, y) :: r, (k', y') :: r' => k = k' ∧ (∀ x, Sim cf x y ↔ Sim cf x y') ∧ RelPs cf r r'
  | _, _ => False

theorem relPs_symm (cf : Nat → Nat) : ∀ a b, RelPs cf a b → RelPs cf b a
  | [], [], _ => trivial
  | [], _ :: _, h => by simp [RelPs] at h
  | _ :: _, [], h => by simp [RelPs] at h
  | (k, y) :: r, (k', y') :: r', h => by
    simp only [RelPs] at h ⊢
    exact ⟨h.1.symm, fun x => (h.2.1 x).symm, relPs_symm cf r r' h.2.2⟩

theorem relPs_simKVs (cf : Nat → Nat) : ∀ (kvs : List (Bytes × V)) (a b : List (Bytes × TV)), RelPs cf a b →
    SimKVs cf kvs a → SimKVs cf kvs b
  | [], a, b, hr, h => by
    simp only [SimKVs] at h ⊢
    subst h
    cases b with
    | nil => rfl
    | cons _ _ => simp [RelPs] at hr
  | (k, x) :: r, a, b, hr, h => by
    simp only [SimKVs] at h ⊢
    obtain ⟨y, a', rfl, hy, ha'⟩ := h
    match b, hr with
    | (k', y') :: b', hr =>
      simp only [RelPs] at hr
      obtain ⟨rfl, hyy, hr'⟩ := hr
      exact ⟨y', b', rfl, (hyy x).1 hy, relPs_simKVs cf r a' b' hr' ha'⟩
    | [], hr => simp [RelPs] at hr

theorem relPs_perm (cf : Nat → Nat) {a es0 : List (Bytes × TV)} (hp : a.Perm es0) :
    ∀ b, RelPs cf a b → ∃ es0', b.Perm es0' ∧ RelPs cf es0 es0' := by
  induction hp with
  | nil => intro b h; exact ⟨b, List.Perm.refl _, by cases b <;> simp_all [RelPs]⟩
  | cons x _ ih =>
    intro b h
    obtain ⟨k, y⟩ := x
    match b, h with
    | (k', y') :: b', h =>
      simp only [RelPs] at h
      obtain ⟨l, hl, hr⟩ := ih b' h.2.2
      exact ⟨(k', y') :: l, List.Perm.cons _ hl, by simp only [RelPs]; exact ⟨h.1, h.2.1, hr⟩⟩
    | [], h => simp [RelPs] at h
  | swap x y l =>
    intro b h
    obtain ⟨kx, wx⟩ := x
    obtain ⟨ky, wy⟩ := y
    match b, h with
    | (k1, d1) :: (k2, d2) :: ds, h =>
      simp only [RelPs] at h
      refine ⟨(k2, d2) :: (k1, d1) :: ds, List.Perm.swap _ _ _, ?_⟩
      simp only [RelPs]
      exact ⟨h.2.2.1, h.2.2.2.1, h.1, h.2.1, h.2.2.2.2⟩
    | [(_, _)], h => simp [RelPs] at h
    | [], h => simp [RelPs] at h
  | trans _ _ ih1 ih2 =>
    intro b h
    obtain ⟨l1, hp1, hg1⟩ := ih1 b h
    obtain ⟨l2, hp2, hg2⟩ := ih2 l1 hg1
    exact ⟨l2, hp1.trans hp2, hg2⟩

/-- a table target sees `Sim` through any reordering of its entries -/
theorem sim_tbl_iff (cf : Nat → Nat) (a b : List (Bytes × TV))
    (h : ∀ kvs, (∃ es0, a.Perm es0 ∧ SimKVs cf kvs es0) → ∃ es0, b.Perm es0 ∧ SimKVs cf kvs es0)
    (h' : ∀ kvs, (∃ es0, b.Perm es0 ∧ SimKVs cf kvs es0) → ∃ es0, a.Perm es0 ∧ SimKVs cf kvs es0) (x : V) :
    Sim cf x (.tbl a) ↔ Sim cf x (.tbl b) := by
  cases x with
  | sc s => cases s <;> simp [Sim]
  | arr xs => simp [Sim]
  | inl kvs =>
    simp only [Sim, TV.tbl.injEq]
    constructor
    · rintro ⟨es, es0, rfl, hp, hs⟩
      obtain ⟨l, hl, hs'⟩ := h kvs ⟨es0, hp, hs⟩
      exact ⟨_, l, rfl, hl, hs'⟩
    · rintro ⟨es, es0, rfl, hp, hs⟩
      obtain ⟨l, hl, hs'⟩ := h' kvs ⟨es0, hp, hs⟩
      exact ⟨_, l, rfl, hl, hs'⟩

mutual
theorem sim_permTV (cf : Nat → Nat) : ∀ {w w' : TV}, PermTV w w' → ∀ x, Sim cf x w ↔ Sim cf x w'
  | _, _, .refl _ => fun _ => Iff.rfl
  | _, _, .symm h => fun x => (sim_permTV cf h x).symm
  | _, _, .trans h1 h2 => fun x => (sim_permTV cf h1 x).trans (sim_permTV cf h2 x)
  | _, _, .arr h => by
    intro x
    cases x with
    | sc s => cases s <;> simp [Sim]
    | inl kvs => simp [Sim]
    | arr xs =>
      simp only [Sim, TV.arr.injEq]
      constructor
      · rintro ⟨ws, rfl, hs⟩; exact ⟨_, rfl, (simList_permTVs cf h xs).1 hs⟩
      · rintro ⟨ws, rfl, hs⟩; exact ⟨_, rfl, (simList_permTVs cf h xs).2 hs⟩
  | _, _, .perm (a := a) (b := b) h => by
    intro x
    apply sim_tbl_iff
    · rintro kvs ⟨es0, hp, hs⟩; exact ⟨es0, h.symm.trans hp, hs⟩
    · rintro kvs ⟨es0, hp, hs⟩; exact ⟨es0, h.trans hp, hs⟩
  | _, _, .tbl (a := a) (b := b) h => by
    intro x
    have hr := relPs_permTVPs cf h
    apply sim_tbl_iff
    · rintro kvs ⟨es0, hp, hs⟩
      obtain ⟨l, hl, hrel⟩ := relPs_perm cf hp b hr
      exact ⟨l, hl, relPs_simKVs cf kvs es0 l hrel hs⟩
    · rintro kvs ⟨es0, hp, hs⟩
      obtain ⟨l, hl, hrel⟩ := relPs_perm cf hp a (relPs_symm cf a b hr)
      exact ⟨l, hl, relPs_simKVs cf kvs es0 l hrel hs⟩
theorem simList_permTVs (cf : Nat → Nat) : ∀ {l l' : List TV}, PermTVs l l' → ∀ xs, SimList cf xs l ↔ SimList cf xs l'
  | _, _, .nil => fun _ => Iff.rfl
  | _, _, .cons (x := y) (y := y') (r := r) (t := t) h1 h2 => by
    intro xs
    cases xs with
    | nil => simp [SimList]
    | cons x xs =>
      simp only [SimList, List.cons.injEq]
      constructor
      · rintro ⟨_, _, ⟨rfl, rfl⟩, hy, hr⟩
        exact ⟨_, _, ⟨rfl, rfl⟩, (sim_permTV cf h1 x).1 hy, (simList_permTVs cf h2 xs).1 hr⟩
      · rintro ⟨_, _, ⟨rfl, rfl⟩, hy, hr⟩
        exact ⟨_, _, ⟨rfl, rfl⟩, (sim_permTV cf h1 x).2 hy, (simList_permTVs cf h2 xs).2 hr⟩
theorem relPs_permTVPs (cf : Nat → Nat) : ∀ {a b : List (Bytes × TV)}, PermTVPs a b → RelPs cf a b
  | _, _, .nil => trivial
  | _, _, .cons h1 h2 => by
    simp only [RelPs]
    exact ⟨trivial, sim_permTV cf h1, relPs_permTVPs cf h2⟩
end

/-! ## distinct keys, which `perm_placeTV` asks of the tree placed into a map -/

open TomlVerif.Lemmas.RoundTrip17 (NodupTV NodupVs NodupPs) in
mutual
theorem nodupTV_tvOf : ∀ x : V, NodupS x → NodupTV (tvOf x)
  | .sc (.str _), _ | .sc (.int _), _ | .sc (.float _), _ | .sc (.bool _), _ | .sc (.dt _), _ => by simp [tvOf, NodupTV]
  | .arr xs, h => by simp only [NodupS] at h; simp only [tvOf, NodupTV]; exact nodupVs_tvList xs h
  | .inl kvs, h => by
    simp only [NodupS] at h
    simp only [tvOf, NodupTV, keys_tvKVs]
    exact ⟨h.2, nodupPs_tvKVs kvs h.1⟩
theorem nodupVs_tvList : ∀ xs : List V, NodupSs xs → NodupVs (tvList xs)
  | [], _ => by simp [tvList, NodupVs]
  | x :: r, h => by
    simp only [NodupSs] at h
    simp only [tvList, NodupVs]
    exact ⟨nodupTV_tvOf x h.1, nodupVs_tvList r h.2⟩
theorem nodupPs_tvKVs : ∀ kvs : List (Bytes × V), NodupSKVs kvs → NodupPs (tvKVs kvs)
  | [], _ => by simp [tvKVs, NodupPs]
  | (k, x) :: r, h => by
    simp only [NodupSKVs] at h
    simp only [tvKVs, NodupPs]
    exact ⟨nodupTV_tvOf x h.1, nodupPs_tvKVs r h.2⟩
end

end TomlVerif.Lemmas.SerTyped07
