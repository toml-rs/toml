import TomlVerif.Model.Value
/-! What a run of the value parser looks like. `value`, `arrayValues`, `arrayElems`, `inlineKeyvals`
    are long `match`/`if` chains; their case analysis is done once here, in three forms: the
    inversion of a successful call, with the induction over all successful parses; the converse
    introduction lemmas; and, for all results, what a call with fuel `g + 1` takes from the calls
    with fuel `g`. -/
namespace TomlVerif.Lemmas.ValueParse
open TomlVerif TomlVerif.Spec TomlVerif.Model TomlVerif.Model.Strings TomlVerif.Model.Value

theorem map_ok {α β} {f : α → β} {x : Res α} {v : β} {r : Bytes} (h : x.map f = .ok v r) :
    ∃ a, x = .ok a r ∧ v = f a := by
  cases x with
  | ok a r' => simp only [Res.map, Res.ok.injEq] at h; exact ⟨a, by rw [h.2], h.1.symm⟩
  | bt => cases h
  | cut => cases h

/-- `ws_comment_newline` with the fuel every caller gives it -/
abbrev wcn (s : Bytes) : Option Bytes := wsCommentNewline (s.length + 1) s

/-- The hypotheses on the first byte are the dispatch conditions of `value`; a date-time is tried
    before a float, a float before an integer. -/
inductive ScalarParse : Bytes → Val → Bytes → Prop
  | str {b t w r} : (b == 0x22 || b == 0x27) = true → Strings.string (b :: t) = .ok w r →
      ScalarParse (b :: t) (.str w) r
  | dt {b t x r} : (b == 0x2B || b == 0x2D || isDigit b) = true → Datetime.Doc.dateTime (b :: t) = .ok x r →
      ScalarParse (b :: t) (.dt x) r
  | float {b t x r} : (b == 0x2B || b == 0x2D || isDigit b) = true → Datetime.Doc.dateTime (b :: t) = .bt →
      Numbers.float (b :: t) = .ok x r → ScalarParse (b :: t) (.float x) r
  | int {b t n r} : (b == 0x2B || b == 0x2D || isDigit b) = true → Datetime.Doc.dateTime (b :: t) = .bt →
      Numbers.float (b :: t) = .bt → Numbers.integer (b :: t) = .ok n r → ScalarParse (b :: t) (.int n) r
  | tt {s u r} : Numbers.keyword [0x74, 0x72, 0x75, 0x65] s = .ok u r → ScalarParse s (.bool true) r
  | ff {s u r} : Numbers.keyword [0x66, 0x61, 0x6C, 0x73, 0x65] s = .ok u r → ScalarParse s (.bool false) r
  | inf {s r} : Numbers.startsWith [0x69, 0x6E, 0x66] s = some r → ScalarParse s (.float Ieee.infBits) r
  | nan {s r} : Numbers.startsWith [0x6E, 0x61, 0x6E] s = some r → ScalarParse s (.float Ieee.nanBits) r

inductive ValueOk (f d : Nat) : Bytes → Val → Bytes → Prop
  | scalar {s v r} : ScalarParse s v r → ValueOk f d s v r
  | arr {t vs r} : d + 1 < LIMIT → arrayValues f (d + 1) t = .ok vs (0x5D :: r) →
      ValueOk f d (0x5B :: t) (.arr vs) r
  | inl {t kvs r1 items r} : d + 1 < LIMIT → inlineKeyvals f (d + 1) t [] = .ok kvs r1 →
      tableFromPairs kvs [] = some items → dropWs r1 = 0x7D :: r →
      ValueOk f d (0x7B :: t) (.inl items false false) r

theorem value_ok {f d : Nat} {s : Bytes} {v : Val} {r : Bytes} (h : value (f + 1) d s = .ok v r) :
    ValueOk f d s v r := by
  unfold value at h
  cases s with
  | nil => cases h
  | cons b t =>
  simp only [] at h
  -- the dispatch on the first byte, one `if` at a time; `rw [if_pos/if_neg]` touches only that `if`,
  -- `split` would simplify the whole remaining chain at every step
  by_cases hq : (b == 0x22 || b == 0x27) = true
  · rw [if_pos hq] at h
    obtain ⟨w, hw, rfl⟩ := map_ok h
    exact .scalar (.str hq hw)
  rw [if_neg hq] at h
  by_cases hb : (b == 0x5B) = true
  · rw [if_pos hb] at h
    have : b = 0x5B := eq_of_beq hb
    subst this
    split at h
    · cases h
    · split at h
      · split at h
        · rename_i hav
          injection h with h1 h2; subst h1 h2
          exact .arr (by omega) hav
        · cases h
      · cases h
  rw [if_neg hb] at h
  by_cases hc : (b == 0x7B) = true
  · rw [if_pos hc] at h
    have : b = 0x7B := eq_of_beq hc
    subst this
    split at h
    · cases h
    · split at h
      · rename_i hik
        split at h
        · cases h
        · rename_i htp
          split at h
          · rename_i hclose
            injection h with h1 h2; subst h1 h2
            exact .inl (by omega) hik htp hclose
          · cases h
      · cases h
  rw [if_neg hc] at h
  by_cases hn : (b == 0x2B || b == 0x2D || isDigit b) = true
  · rw [if_pos hn] at h
    split at h
    · rename_i hd
      injection h with h1 h2; subst h1 h2
      exact .scalar (.dt hn hd)
    · cases h
    · rename_i hd
      split at h
      · rename_i hf
        injection h with h1 h2; subst h1 h2
        exact .scalar (.float hn hd hf)
      · cases h
      · rename_i hf
        obtain ⟨n, hi, rfl⟩ := map_ok h
        exact .scalar (.int hn hd hf hi)
  rw [if_neg hn] at h
  by_cases hu : (b == 0x5F) = true
  · -- `integer` refuses a leading underscore
    rw [if_pos hu, eq_of_beq hu] at h
    cases h
  rw [if_neg hu] at h
  by_cases hdot : (b == 0x2E) = true
  · -- `float` refuses a leading dot
    rw [if_pos hdot, eq_of_beq hdot] at h
    cases h
  rw [if_neg hdot] at h
  by_cases ht : (b == 0x74) = true
  · rw [if_pos ht] at h
    obtain ⟨u, hk, rfl⟩ := map_ok h
    exact .scalar (.tt hk)
  rw [if_neg ht] at h
  by_cases hf : (b == 0x66) = true
  · rw [if_pos hf] at h
    obtain ⟨u, hk, rfl⟩ := map_ok h
    exact .scalar (.ff hk)
  rw [if_neg hf] at h
  by_cases hi : (b == 0x69) = true
  · rw [if_pos hi] at h
    split at h
    · rename_i hs
      injection h with h1 h2; subst h1 h2
      exact .scalar (.inf hs)
    · cases h
  rw [if_neg hi] at h
  by_cases hna : (b == 0x6E) = true
  · rw [if_pos hna] at h
    split at h
    · rename_i hs
      injection h with h1 h2; subst h1 h2
      exact .scalar (.nan hs)
    · cases h
  rw [if_neg hna] at h
  cases h

theorem arrayValues_zero (d : Nat) (s : Bytes) : arrayValues 0 d s = .cut := by
  unfold arrayValues; rfl

theorem inlineKeyvals_zero (d : Nat) (s : Bytes) (acc) : inlineKeyvals 0 d s acc = .cut := by
  unfold inlineKeyvals; rfl

theorem value_one_ok {d : Nat} {s : Bytes} {v : Val} {r : Bytes} (h : value 1 d s = .ok v r) : ScalarParse s v r := by
  cases value_ok h with
  | scalar hs => exact hs
  | arr _ hav => rw [arrayValues_zero] at hav; cases hav
  | inl _ hik => rw [inlineKeyvals_zero] at hik; cases hik

/-- the input after the elements of an array: one trailing comma is allowed after a non-empty list -/
def afterComma (vs : List Val) (r : Bytes) : Bytes :=
  if vs.isEmpty then r else (match r with | 0x2C :: t => t | _ => r)

theorem afterComma_suffix (vs : List Val) (r : Bytes) : afterComma vs r <:+ r := by
  unfold afterComma
  split
  · exact List.suffix_refl _
  · split
    · exact List.suffix_cons _ _
    · exact List.suffix_refl _

inductive ArrayValuesOk (f d : Nat) : Bytes → List Val → Bytes → Prop
  | empty {t} : ArrayValuesOk f d (0x5D :: t) [] (0x5D :: t)
  | elems {s vs r0 r} : arrayElems f d s [] = .ok vs r0 → wcn (afterComma vs r0) = some r →
      ArrayValuesOk f d s vs r

theorem arrayValues_ok {f d : Nat} {s : Bytes} {vs : List Val} {r : Bytes}
    (h : arrayValues (f + 1) d s = .ok vs r) : ArrayValuesOk f d s vs r := by
  unfold arrayValues at h
  split at h
  · injection h with h1 h2; subst h1 h2; exact .empty
  · split at h
    · rename_i hae
      simp only [] at h
      split at h
      · rename_i hw
        injection h with h1 h2; subst h1 h2
        exact .elems hae hw
      · cases h
    · rename_i hne
      exact absurd h (hne _ _)

/-! `arrayElems` and `inlineKeyvals` only ever append to their accumulator (`X_acc`), so a result is
`acc ++ es` with `es` the entries read. Seen this way the model's test "is the result of the call
after the separator as long as what was passed to it" asks whether that call read anything: if not,
the separator was a trailing one and the input is handed back from it on. -/

theorem arrayElems_acc : ∀ (f d : Nat) (s : Bytes) (acc : List Val),
    arrayElems f d s acc = (arrayElems f d s []).map (acc ++ ·) := by
  intro f
  induction f with
  | zero => intro d s acc; unfold arrayElems; rfl
  | succ f ih =>
    intro d s acc
    conv => lhs; unfold arrayElems
    conv => rhs; unfold arrayElems
    cases wsCommentNewline (s.length + 1) s with
    | none => simp [Res.map]
    | some s1 =>
      simp only []
      cases value f d s1 with
      | cut => rfl
      | bt => simp [Res.map]
      | ok v s2 =>
        simp only []
        cases wsCommentNewline (s2.length + 1) s2 with
        | none => simp [Res.map]
        | some s3 =>
          simp only []
          split
          · rename_i s4
            -- both sides make the same call, up to the accumulator; an empty list read passes the test on both
            rw [ih d s4 (acc ++ [v]), ih d s4 ([] ++ [v])]
            cases arrayElems f d s4 [] with
            | ok vs r => cases vs <;> simp [Res.map]
            | bt => rfl
            | cut => rfl
          · simp [Res.map]

theorem inlineKeyvals_acc : ∀ (f d : Nat) (s : Bytes) (acc : List (List Bytes × Bytes × Val)),
    inlineKeyvals f d s acc = (inlineKeyvals f d s []).map (acc ++ ·) := by
  intro f
  induction f with
  | zero => intro d s acc; unfold inlineKeyvals; rfl
  | succ f ih =>
    intro d s acc
    conv => lhs; unfold inlineKeyvals
    conv => rhs; unfold inlineKeyvals
    cases keyPath s with
    | cut => rfl
    | bt => simp [Res.map]
    | ok ks r =>
      simp only []
      split
      · rfl
      · split
        · rename_i r1
          cases value f (d + (ks.length - 1)) (dropWs r1) with
          | cut => rfl
          | bt => rfl
          | ok v r2 =>
            simp only []
            cases splitLast ks with
            | none => rfl
            | some pk =>
              obtain ⟨path, key⟩ := pk
              simp only []
              split
              · rename_i r4 _
                rw [ih d r4 (acc ++ [(path, key, v)]), ih d r4 ([] ++ [(path, key, v)])]
                cases inlineKeyvals f d r4 [] with
                | ok kvs r => cases kvs <;> simp [Res.map]
                | bt => rfl
                | cut => rfl
              · simp [Res.map]
        · rfl

/-- `one`: after a single element either no comma follows or nothing could be read after it -/
inductive ArrayElemsOk (f d : Nat) : Bytes → List Val → Bytes → Prop
  | nil {s} : ArrayElemsOk f d s [] s
  | one {s s1 v s2 s3} : wcn s = some s1 → value f d s1 = .ok v s2 → wcn s2 = some s3 →
      ((∀ t, s3 ≠ 0x2C :: t) ∨ ∃ s4 r, s3 = 0x2C :: s4 ∧ arrayElems f d s4 [] = .ok [] r) →
      ArrayElemsOk f d s [v] s3
  | cons {s s1 v s2 s4 w ws r} : wcn s = some s1 → value f d s1 = .ok v s2 → wcn s2 = some (0x2C :: s4) →
      arrayElems f d s4 [] = .ok (w :: ws) r → ArrayElemsOk f d s (v :: w :: ws) r

theorem arrayElems_ok {f d : Nat} {s : Bytes} {acc vs : List Val} {r : Bytes}
    (h : arrayElems (f + 1) d s acc = .ok vs r) : ∃ es, vs = acc ++ es ∧ ArrayElemsOk f d s es r := by
  have nil : ∃ es, acc = acc ++ es ∧ ArrayElemsOk f d s es s := ⟨[], (List.append_nil _).symm, .nil⟩
  unfold arrayElems at h
  split at h
  · injection h with h1 h2; subst h1 h2; exact nil
  · rename_i s1 hw
    split at h
    · cases h
    · injection h with h1 h2; subst h1 h2; exact nil
    · rename_i v s2 hv
      split at h
      · injection h with h1 h2; subst h1 h2; exact nil
      · rename_i s3 hw2
        split at h
        · rename_i s4
          -- the call after the comma, seen from the empty accumulator: did it read anything?
          rw [arrayElems_acc] at h
          cases hae : arrayElems f d s4 [] with
          | ok es r' =>
            rw [hae] at h
            cases es with
            | nil =>
              simp only [Res.map, List.append_nil, beq_self_eq_true, if_true, Res.ok.injEq] at h
              obtain ⟨rfl, rfl⟩ := h
              exact ⟨[v], rfl, .one hw hv hw2 (.inr ⟨s4, r', rfl, hae⟩)⟩
            | cons w ws =>
              simp only [Res.map, List.length_append, List.length_cons, Nat.add_eq_left, beq_iff_eq,
                Nat.add_one_ne_zero, if_false, Res.ok.injEq] at h
              obtain ⟨rfl, rfl⟩ := h
              exact ⟨v :: w :: ws, by simp, .cons hw hv hw2 hae⟩
          | bt => rw [hae] at h; cases h
          | cut => rw [hae] at h; cases h
        · rename_i hnc
          injection h with h1 h2; subst h1 h2
          exact ⟨[v], rfl, .one hw hv hw2 (.inl fun t ht => hnc t ht)⟩

inductive InlineKeyvalsOk (f d : Nat) : Bytes → List (List Bytes × Bytes × Val) → Bytes → Prop
  | nil {s} : InlineKeyvalsOk f d s [] s
  | one {s ks r1 v r2 path key} : keyPath s = .ok ks (0x3D :: r1) → d + (ks.length - 1) < LIMIT →
      value f (d + (ks.length - 1)) (dropWs r1) = .ok v r2 → splitLast ks = some (path, key) →
      ((∀ t, dropWs r2 ≠ 0x2C :: t) ∨ ∃ r4 r, dropWs r2 = 0x2C :: r4 ∧ inlineKeyvals f d r4 [] = .ok [] r) →
      InlineKeyvalsOk f d s [(path, key, v)] (dropWs r2)
  | cons {s ks r1 v r2 path key r4 w ws r} : keyPath s = .ok ks (0x3D :: r1) → d + (ks.length - 1) < LIMIT →
      value f (d + (ks.length - 1)) (dropWs r1) = .ok v r2 → splitLast ks = some (path, key) →
      dropWs r2 = 0x2C :: r4 → inlineKeyvals f d r4 [] = .ok (w :: ws) r →
      InlineKeyvalsOk f d s ((path, key, v) :: w :: ws) r

theorem inlineKeyvals_ok {f d : Nat} {s : Bytes} {acc kvs : List (List Bytes × Bytes × Val)} {r : Bytes}
    (h : inlineKeyvals (f + 1) d s acc = .ok kvs r) : ∃ es, kvs = acc ++ es ∧ InlineKeyvalsOk f d s es r := by
  unfold inlineKeyvals at h
  split at h
  · cases h
  · injection h with h1 h2; subst h1 h2; exact ⟨[], (List.append_nil _).symm, .nil⟩
  · rename_i ks r0 hk
    split at h
    · cases h
    · rename_i hlim
      have hl : d + (ks.length - 1) < LIMIT := by omega
      split at h
      · rename_i r1
        split at h
        · rename_i v r2 hv
          simp only [] at h
          split at h
          · cases h
          · rename_i path key hsl
            split at h
            · rename_i r4 hc
              rw [inlineKeyvals_acc] at h
              cases hik : inlineKeyvals f d r4 [] with
              | ok es r' =>
                rw [hik] at h
                cases es with
                | nil =>
                  simp only [Res.map, List.append_nil, beq_self_eq_true, if_true, Res.ok.injEq] at h
                  obtain ⟨rfl, rfl⟩ := h
                  exact ⟨[(path, key, v)], rfl, .one hk hl hv hsl (.inr ⟨r4, r', hc, hik⟩)⟩
                | cons w ws =>
                  simp only [Res.map, List.length_append, List.length_cons, Nat.add_eq_left, beq_iff_eq,
                    Nat.add_one_ne_zero, if_false, Res.ok.injEq] at h
                  obtain ⟨rfl, rfl⟩ := h
                  exact ⟨(path, key, v) :: w :: ws, by simp, .cons hk hl hv hsl hc hik⟩
              | bt => rw [hik] at h; cases h
              | cut => rw [hik] at h; cases h
            · rename_i hnc
              injection h with h1 h2; subst h1 h2
              exact ⟨[(path, key, v)], rfl, .one hk hl hv hsl (.inl fun t ht => hnc t ht)⟩
        · cases h
      · cases h

/-- The premises are the constructors of `ValueOk`, `ArrayValuesOk`, `ArrayElemsOk`, `InlineKeyvalsOk`
    with the recursive calls replaced by the property (the two `one` cases without their last premise); the motives of `arrayElems` and
    `inlineKeyvals` speak of the entries read, whatever the accumulator. -/
theorem parse_induction
    {PV : Nat → Bytes → Val → Bytes → Prop} {PA : Nat → Bytes → List Val → Bytes → Prop}
    {PE : Nat → Bytes → List Val → Bytes → Prop}
    {PK : Nat → Bytes → List (List Bytes × Bytes × Val) → Bytes → Prop}
    (scalar : ∀ d s v r, ScalarParse s v r → PV d s v r)
    (arr : ∀ d t vs r, d + 1 < LIMIT → PA (d + 1) t vs (0x5D :: r) → PV d (0x5B :: t) (.arr vs) r)
    (inl : ∀ d t kvs r1 items r, d + 1 < LIMIT → PK (d + 1) t kvs r1 → tableFromPairs kvs [] = some items →
      dropWs r1 = 0x7D :: r → PV d (0x7B :: t) (.inl items false false) r)
    (avEmpty : ∀ d t, PA d (0x5D :: t) [] (0x5D :: t))
    (avElems : ∀ d s vs r0 r, PE d s vs r0 → wcn (afterComma vs r0) = some r → PA d s vs r)
    (aeNil : ∀ d s, PE d s [] s)
    (aeOne : ∀ d s s1 v s2 s3, wcn s = some s1 → PV d s1 v s2 → wcn s2 = some s3 → PE d s [v] s3)
    (aeCons : ∀ d s s1 v s2 s4 w ws r, wcn s = some s1 → PV d s1 v s2 → wcn s2 = some (0x2C :: s4) →
      PE d s4 (w :: ws) r → PE d s (v :: w :: ws) r)
    (ikNil : ∀ d s, PK d s [] s)
    (ikOne : ∀ d s ks r1 v r2 path key, keyPath s = .ok ks (0x3D :: r1) → d + (ks.length - 1) < LIMIT →
      PV (d + (ks.length - 1)) (dropWs r1) v r2 → splitLast ks = some (path, key) →
      PK d s [(path, key, v)] (dropWs r2))
    (ikCons : ∀ d s ks r1 v r2 path key r4 w ws r, keyPath s = .ok ks (0x3D :: r1) →
      d + (ks.length - 1) < LIMIT → PV (d + (ks.length - 1)) (dropWs r1) v r2 → splitLast ks = some (path, key) →
      dropWs r2 = 0x2C :: r4 → PK d r4 (w :: ws) r → PK d s ((path, key, v) :: w :: ws) r)
    (f : Nat) :
    (∀ d s v r, value f d s = .ok v r → PV d s v r) ∧
    (∀ d s vs r, arrayValues f d s = .ok vs r → PA d s vs r) ∧
    (∀ d s acc vs r, arrayElems f d s acc = .ok vs r → ∃ es, vs = acc ++ es ∧ PE d s es r) ∧
    (∀ d s acc kvs r, inlineKeyvals f d s acc = .ok kvs r → ∃ es, kvs = acc ++ es ∧ PK d s es r) := by
  induction f with
  | zero =>
    refine ⟨?_, ?_, ?_, ?_⟩
    · intro d s v r h; unfold value at h; cases h
    · intro d s vs r h; rw [arrayValues_zero] at h; cases h
    · intro d s acc vs r h; unfold arrayElems at h; cases h
    · intro d s acc kvs r h; rw [inlineKeyvals_zero] at h; cases h
  | succ f ih =>
    obtain ⟨ihV, ihA, ihE, ihK⟩ := ih
    have ihE' : ∀ d s es r, arrayElems f d s [] = .ok es r → PE d s es r := by
      intro d s es r h
      obtain ⟨es', e, h'⟩ := ihE d s [] es r h
      rw [List.nil_append] at e; subst e; exact h'
    have ihK' : ∀ d s es r, inlineKeyvals f d s [] = .ok es r → PK d s es r := by
      intro d s es r h
      obtain ⟨es', e, h'⟩ := ihK d s [] es r h
      rw [List.nil_append] at e; subst e; exact h'
    refine ⟨?_, ?_, ?_, ?_⟩
    · intro d s v r h
      cases value_ok h with
      | scalar hs => exact scalar _ _ _ _ hs
      | arr hd hav => exact arr _ _ _ _ hd (ihA _ _ _ _ hav)
      | inl hd hik htp hc => exact inl _ _ _ _ _ _ hd (ihK' _ _ _ _ hik) htp hc
    · intro d s vs r h
      cases arrayValues_ok h with
      | empty => exact avEmpty _ _
      | elems hae hw => exact avElems _ _ _ _ _ (ihE' _ _ _ _ hae) hw
    · intro d s acc vs r h
      obtain ⟨es, e, hes⟩ := arrayElems_ok h
      refine ⟨es, e, ?_⟩
      cases hes with
      | nil => exact aeNil _ _
      | one hw hv hw2 _ => exact aeOne _ _ _ _ _ _ hw (ihV _ _ _ _ hv) hw2
      | cons hw hv hw2 hae => exact aeCons _ _ _ _ _ _ _ _ _ hw (ihV _ _ _ _ hv) hw2 (ihE' _ _ _ _ hae)
    · intro d s acc kvs r h
      obtain ⟨es, e, hes⟩ := inlineKeyvals_ok h
      refine ⟨es, e, ?_⟩
      cases hes with
      | nil => exact ikNil _ _
      | one hk hl hv hsl _ => exact ikOne _ _ _ _ _ _ _ _ hk hl (ihV _ _ _ _ hv) hsl
      | cons hk hl hv hsl hc hik =>
        exact ikCons _ _ _ _ _ _ _ _ _ _ _ _ hk hl (ihV _ _ _ _ hv) hsl hc (ihK' _ _ _ _ hik)

theorem value_close (f d : Nat) (r : Bytes) : value (f + 1) d (0x5D :: r) = .bt := by
  simp [value, isDigit, inR]

theorem arrayElems_stop (g d : Nat) (s s1 : Bytes) (acc : List Val)
    (h1 : wcn s = some s1) (h2 : value g d s1 = .bt) :
    arrayElems (g + 1) d s acc = .ok acc s := by
  conv => lhs; unfold arrayElems
  simp only [h1, h2]

theorem arrayElems_last (g d : Nat) (s s1 s2 s3 : Bytes) (v : Val) (acc : List Val)
    (h1 : wcn s = some s1) (h2 : value g d s1 = .ok v s2)
    (h3 : wcn s2 = some s3) (h4 : ∀ t, s3 ≠ 0x2C :: t) :
    arrayElems (g + 1) d s acc = .ok (acc ++ [v]) s3 := by
  conv => lhs; unfold arrayElems
  -- the last `match`, on `s3`, falls through by `h4`: `simp` takes the side condition from the context
  simp only [h1, h2, h3]

theorem arrayElems_more (g d : Nat) (s s1 s2 s4 r : Bytes) (v : Val) (acc vs : List Val)
    (h1 : wcn s = some s1) (h2 : value g d s1 = .ok v s2)
    (h3 : wcn s2 = some (0x2C :: s4))
    (h4 : arrayElems g d s4 (acc ++ [v]) = .ok vs r) :
    arrayElems (g + 1) d s acc =
      if vs.length == (acc ++ [v]).length then .ok vs (0x2C :: s4) else .ok vs r := by
  conv => lhs; unfold arrayElems
  simp only [h1, h2, h3, h4]

theorem value_arr_ok (f d : Nat) (r r2 : Bytes) (vs : List Val) (hd : d + 1 < LIMIT)
    (h : arrayValues f (d + 1) r = .ok vs (0x5D :: r2)) : value (f + 1) d (0x5B :: r) = .ok (.arr vs) r2 := by
  have : ¬ LIMIT ≤ d + 1 := by omega
  conv => lhs; unfold value
  simp [this, h]

theorem arrayValues_close (f d : Nat) (r : Bytes) : arrayValues (f + 1) d (0x5D :: r) = .ok [] (0x5D :: r) := by
  conv => lhs; unfold arrayValues
  simp

theorem arrayValues_none (f d : Nat) (s r2 : Bytes) (hs : ∀ t, s ≠ 0x5D :: t)
    (h : arrayElems f d s [] = .ok [] s) (h2 : wcn s = some r2) :
    arrayValues (f + 1) d s = .ok [] r2 := by
  conv => lhs; unfold arrayValues
  split
  · rename_i t; exact absurd rfl (hs t)
  · simp [h, h2]

theorem arrayValues_comma (f d : Nat) (s t r2 : Bytes) (vs : List Val) (hs : ∀ t, s ≠ 0x5D :: t) (hv : vs ≠ [])
    (h : arrayElems f d s [] = .ok vs (0x2C :: t)) (h2 : wcn t = some r2) :
    arrayValues (f + 1) d s = .ok vs r2 := by
  conv => lhs; unfold arrayValues
  split
  · rename_i t; exact absurd rfl (hs t)
  · cases vs with
    | nil => exact absurd rfl hv
    | cons v vs => simp [h, h2]

theorem arrayValues_nocomma (f d : Nat) (s r r2 : Bytes) (vs : List Val) (hs : ∀ t, s ≠ 0x5D :: t) (hv : vs ≠ [])
    (h : arrayElems f d s [] = .ok vs r) (hr : ∀ t, r ≠ 0x2C :: t) (h2 : wcn r = some r2) :
    arrayValues (f + 1) d s = .ok vs r2 := by
  conv => lhs; unfold arrayValues
  split
  · rename_i t; exact absurd rfl (hs t)
  · cases vs with
    | nil => exact absurd rfl hv
    | cons v vs =>
      cases r with
      | nil => simp [wcn] at h2; simp [h, h2]
      | cons b t =>
        by_cases hb : b = 0x2C
        · subst hb; exact absurd rfl (hr t)
        · simp only [wcn, List.length_cons] at h2; simp [h, h2]

theorem inl_stop (g d : Nat) (s : Bytes) (acc : List (List Bytes × Bytes × Val)) (h : keyPath s = .bt) :
    inlineKeyvals (g + 1) d s acc = .ok acc s := by
  conv => lhs; unfold inlineKeyvals
  simp only [h]

theorem inl_last (g d : Nat) (s r1 r2 key : Bytes) (ks path : List Bytes) (v : Val) (acc : List (List Bytes × Bytes × Val))
    (hk : keyPath s = .ok ks (0x3D :: r1)) (hsl : splitLast ks = some (path, key)) (hd : d + (ks.length - 1) < LIMIT)
    (hv : value g (d + (ks.length - 1)) (dropWs r1) = .ok v r2) (h3 : ∀ t, dropWs r2 ≠ 0x2C :: t) :
    inlineKeyvals (g + 1) d s acc = .ok (acc ++ [(path, key, v)]) (dropWs r2) := by
  have : ¬ LIMIT ≤ d + (ks.length - 1) := by omega
  conv => lhs; unfold inlineKeyvals
  -- the last `match`, on `dropWs r2`, falls through by `h3`
  simp only [hk, this, if_false, hv, hsl]

theorem inl_more (g d : Nat) (s r1 r2 r4 r5 key : Bytes) (ks path : List Bytes) (v : Val)
    (acc kvs : List (List Bytes × Bytes × Val))
    (hk : keyPath s = .ok ks (0x3D :: r1)) (hsl : splitLast ks = some (path, key)) (hd : d + (ks.length - 1) < LIMIT)
    (hv : value g (d + (ks.length - 1)) (dropWs r1) = .ok v r2)
    (h3 : dropWs r2 = 0x2C :: r4) (h4 : inlineKeyvals g d r4 (acc ++ [(path, key, v)]) = .ok kvs r5) :
    inlineKeyvals (g + 1) d s acc =
      if kvs.length == (acc ++ [(path, key, v)]).length then .ok kvs (0x2C :: r4) else .ok kvs r5 := by
  have : ¬ LIMIT ≤ d + (ks.length - 1) := by omega
  conv => lhs; unfold inlineKeyvals
  simp only [hk, this, if_false, hv, hsl, h3, h4]

theorem value_inl_ok (f d : Nat) (r r1 r2 : Bytes) (kvs : List (List Bytes × Bytes × Val)) (items : List (Bytes × Val))
    (hd : d + 1 < LIMIT) (h : inlineKeyvals f (d + 1) r [] = .ok kvs r1) (ht : tableFromPairs kvs [] = some items)
    (hc : dropWs r1 = 0x7D :: r2) : value (f + 1) d (0x7B :: r) = .ok (.inl items false false) r2 := by
  have : ¬ LIMIT ≤ d + 1 := by omega
  conv => lhs; unfold value
  simp [this, h, ht, hc]

/-! `X_congr`: the hypotheses name exactly the calls made with fuel `g`; `X_cut…`: a `.cut` from one of
    them is the caller's result. -/

def valueArr (av : Res (List Val)) : Res Val :=
  match av with
  | .ok vs r1 =>
    match r1 with
    | 0x5D :: r2 => .ok (.arr vs) r2
    | _ => .cut
  | _ => .cut

def valueInl (ik : Res (List (List Bytes × Bytes × Val))) : Res Val :=
  match ik with
  | .ok kvs r1 =>
    match tableFromPairs kvs [] with
    | none => .cut
    | some items =>
      match dropWs r1 with
      | 0x7D :: r2 => .ok (.inl items false false) r2
      | _ => .cut
  | _ => .cut

theorem value_brack (g d : Nat) (t : Bytes) :
    value (g + 1) d (0x5B :: t) = if LIMIT ≤ d + 1 then .cut else valueArr (arrayValues g (d + 1) t) := by
  conv => lhs; unfold value
  simp only [valueArr]
  rfl

theorem value_brace (g d : Nat) (t : Bytes) :
    value (g + 1) d (0x7B :: t) = if LIMIT ≤ d + 1 then .cut else valueInl (inlineKeyvals g (d + 1) t []) := by
  conv => lhs; unfold value
  simp only [valueInl]
  rfl

theorem value_other (g g' d : Nat) (b : UInt8) (t : Bytes) (h1 : b ≠ 0x5B) (h2 : b ≠ 0x7B) :
    value (g + 1) d (b :: t) = value (g' + 1) d (b :: t) := by
  have e1 : (b == 0x5B) = false := by simpa using h1
  have e2 : (b == 0x7B) = false := by simpa using h2
  unfold value
  simp only [e1, e2, Bool.false_eq_true, if_false]

theorem value_congr {g g' d : Nat} {b : UInt8} {t : Bytes}
    (hav : b = 0x5B → ¬ LIMIT ≤ d + 1 → arrayValues g (d + 1) t = arrayValues g' (d + 1) t)
    (hik : b = 0x7B → ¬ LIMIT ≤ d + 1 → inlineKeyvals g (d + 1) t [] = inlineKeyvals g' (d + 1) t []) :
    value (g + 1) d (b :: t) = value (g' + 1) d (b :: t) := by
  by_cases h1 : b = 0x5B
  · subst h1
    rw [value_brack, value_brack]
    by_cases hl : LIMIT ≤ d + 1
    · rw [if_pos hl, if_pos hl]
    · rw [if_neg hl, if_neg hl, hav rfl hl]
  by_cases h2 : b = 0x7B
  · subst h2
    rw [value_brace, value_brace]
    by_cases hl : LIMIT ≤ d + 1
    · rw [if_pos hl, if_pos hl]
    · rw [if_neg hl, if_neg hl, hik rfl hl]
  exact value_other g g' d b t h1 h2

theorem value_cut_arr {g d : Nat} {t : Bytes} (h : LIMIT ≤ d + 1 ∨ arrayValues g (d + 1) t = .cut) :
    value (g + 1) d (0x5B :: t) = .cut := by
  rw [value_brack]
  rcases h with h | h
  · rw [if_pos h]
  · rw [h]; split <;> rfl

theorem value_cut_inl {g d : Nat} {t : Bytes} (h : LIMIT ≤ d + 1 ∨ inlineKeyvals g (d + 1) t [] = .cut) :
    value (g + 1) d (0x7B :: t) = .cut := by
  rw [value_brace]
  rcases h with h | h
  · rw [if_pos h]
  · rw [h]; split <;> rfl

theorem arrayValues_congr {g g' d : Nat} {s : Bytes}
    (he : (∀ t, s ≠ 0x5D :: t) → arrayElems g d s [] = arrayElems g' d s []) :
    arrayValues (g + 1) d s = arrayValues (g' + 1) d s := by
  unfold arrayValues
  split
  · rfl
  · rename_i hne
    rw [he fun t => hne t]

theorem arrayValues_cut {g d : Nat} {s : Bytes} (hne : ∀ t, s ≠ 0x5D :: t) (h : arrayElems g d s [] = .cut) :
    arrayValues (g + 1) d s = .cut := by
  unfold arrayValues
  split
  · rename_i t; exact absurd rfl (hne t)
  · rw [h]

theorem arrayElems_congr {g g' d : Nat} {s : Bytes} {acc : List Val}
    (hv : ∀ s1, wcn s = some s1 → value g d s1 = value g' d s1)
    (he : ∀ s1 v s2 s4, wcn s = some s1 → value g d s1 = .ok v s2 → wcn s2 = some (0x2C :: s4) →
      arrayElems g d s4 (acc ++ [v]) = arrayElems g' d s4 (acc ++ [v])) :
    arrayElems (g + 1) d s acc = arrayElems (g' + 1) d s acc := by
  unfold arrayElems
  cases hw : wsCommentNewline (s.length + 1) s with
  | none => rfl
  | some s1 =>
    simp only []
    rw [← hv s1 hw]
    cases hval : value g d s1 with
    | cut => rfl
    | bt => rfl
    | ok v s2 =>
      simp only []
      cases hw2 : wsCommentNewline (s2.length + 1) s2 with
      | none => rfl
      | some s3 =>
        simp only []
        split
        · rename_i s4
          rw [he s1 v s2 s4 hw hval hw2]
        · rfl

theorem arrayElems_cut_value {g d : Nat} {s s1 : Bytes} {acc : List Val}
    (hw : wcn s = some s1) (h : value g d s1 = .cut) : arrayElems (g + 1) d s acc = .cut := by
  unfold arrayElems
  simp only [hw, h]

theorem arrayElems_cut_rest {g d : Nat} {s s1 s2 s4 : Bytes} {v : Val} {acc : List Val}
    (hw : wcn s = some s1) (hv : value g d s1 = .ok v s2) (hw2 : wcn s2 = some (0x2C :: s4))
    (h : arrayElems g d s4 (acc ++ [v]) = .cut) : arrayElems (g + 1) d s acc = .cut := by
  unfold arrayElems
  simp only [hw, hv, hw2, h]

theorem inlineKeyvals_congr {g g' d : Nat} {s : Bytes} {acc : List (List Bytes × Bytes × Val)}
    (hv : ∀ ks r1, keyPath s = .ok ks (0x3D :: r1) → ¬ LIMIT ≤ d + (ks.length - 1) →
      value g (d + (ks.length - 1)) (dropWs r1) = value g' (d + (ks.length - 1)) (dropWs r1))
    (hk : ∀ ks r1 v r2 path key r4, keyPath s = .ok ks (0x3D :: r1) → ¬ LIMIT ≤ d + (ks.length - 1) →
      value g (d + (ks.length - 1)) (dropWs r1) = .ok v r2 → splitLast ks = some (path, key) →
      dropWs r2 = 0x2C :: r4 →
      inlineKeyvals g d r4 (acc ++ [(path, key, v)]) = inlineKeyvals g' d r4 (acc ++ [(path, key, v)])) :
    inlineKeyvals (g + 1) d s acc = inlineKeyvals (g' + 1) d s acc := by
  unfold inlineKeyvals
  cases hkp : keyPath s with
  | cut => rfl
  | bt => rfl
  | ok ks r =>
    simp only []
    split
    · rfl
    · rename_i hl
      split
      · rename_i r1
        rw [← hv ks r1 hkp hl]
        cases hval : value g (d + (ks.length - 1)) (dropWs r1) with
        | cut => rfl
        | bt => rfl
        | ok v r2 =>
          simp only []
          cases hsl : splitLast ks with
          | none => rfl
          | some pk =>
            obtain ⟨path, key⟩ := pk
            simp only []
            split
            · rename_i r4 hc
              rw [hk ks r1 v r2 path key r4 hkp hl hval hsl hc]
            · rfl
      · rfl

theorem inlineKeyvals_cut_value {g d : Nat} {s : Bytes} {acc : List (List Bytes × Bytes × Val)} {ks : List Bytes}
    {r1 : Bytes} (hkp : keyPath s = .ok ks (0x3D :: r1))
    (h : ∀ v r2, value g (d + (ks.length - 1)) (dropWs r1) ≠ .ok v r2) : inlineKeyvals (g + 1) d s acc = .cut := by
  unfold inlineKeyvals
  simp only [hkp]
  split
  · rfl
  · cases hval : value g (d + (ks.length - 1)) (dropWs r1) with
    | ok v r2 => exact absurd hval (h v r2)
    | bt => rfl
    | cut => rfl

theorem inlineKeyvals_cut_rest {g d : Nat} {s : Bytes} {acc : List (List Bytes × Bytes × Val)} {ks path : List Bytes}
    {r1 r2 r4 key : Bytes} {v : Val} (hkp : keyPath s = .ok ks (0x3D :: r1))
    (hv : value g (d + (ks.length - 1)) (dropWs r1) = .ok v r2) (hsl : splitLast ks = some (path, key))
    (hc : dropWs r2 = 0x2C :: r4) (h : inlineKeyvals g d r4 (acc ++ [(path, key, v)]) = .cut) :
    inlineKeyvals (g + 1) d s acc = .cut := by
  unfold inlineKeyvals
  simp only [hkp, hv, hsl, hc, h]
  split <;> rfl

/-- The entry is appended where the path ends; on the way a missing table is created, and an existing
    one, which must itself have been made by a dotted key, is replaced by its updated copy. -/
theorem inlInsert_induction {pe : Bool} {key : Bytes} {v : Val}
    {P : List (Bytes × Val) → List Bytes → List (Bytes × Val) → Prop}
    (leaf : ∀ items, alookup key items = none → P items [] (items ++ [(key, v)]))
    (fresh : ∀ items k ks sub, alookup k items = none → P [] ks sub →
      P items (k :: ks) (items ++ [(k, .inl sub true true)]))
    (descend : ∀ items k ks sub dot sub', alookup k items = some (.inl sub true dot) → P sub ks sub' →
      P items (k :: ks) (areplace k (.inl sub' true dot) items)) :
    ∀ (path : List Bytes) (items : List (Bytes × Val)) (td : Bool) (items' : List (Bytes × Val)),
      inlInsert items td path pe key v = some items' → P items path items' := by
  intro path
  induction path with
  | nil =>
    intro items td items' h
    unfold inlInsert at h
    split at h
    · cases h
    · split at h
      · cases h
      · rename_i hl
        injection h with h; subst h
        exact leaf items hl
  | cons k ks ih =>
    intro items td items' h
    unfold inlInsert at h
    split at h
    · rename_i hl
      split at h
      · rename_i sub hs
        injection h with h; subst h
        exact fresh items k ks sub hl (ih _ _ _ hs)
      · cases h
    · rename_i sub imp dot hl
      cases imp with
      | false => cases h
      | true =>
        simp only [Bool.not_true, Bool.false_eq_true, if_false] at h
        split at h
        · rename_i sub' hs
          injection h with h; subst h
          exact descend items k ks sub dot sub' hl (ih _ _ _ hs)
        · cases h
    · cases h

end TomlVerif.Lemmas.ValueParse
