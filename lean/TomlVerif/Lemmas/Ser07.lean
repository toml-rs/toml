import TomlVerif.Model.Ser
/-! C07, value level: the `toml_edit` value serializer computes the documented mapping
    (`Except.toOption ∘ serValue = expected`), `expected` is undefined exactly on the documented unsupported shapes, and
    the guarded formatting visitor / no visitor leave the printed data unchanged. -/
namespace TomlVerif.Lemmas.Ser07
open TomlVerif TomlVerif.Model TomlVerif.Model.Ser TomlVerif.Spec TomlVerif.Spec.Serde

theorem serFields_cons (k : Bytes) {v : SVal} (r : List (Bytes × SVal)) (acc : List (Bytes × V)) (hn : v ≠ .none) :
    serFields ((k, v) :: r) acc =
      match serValue v with | .error e => .error e | .ok x => serFields r (aset k x acc) := by
  rw [serFields] <;> trivial

theorem serMap_cons (k : SVal) {v : SVal} (r : List (SVal × SVal)) (acc : List (Bytes × V)) (hn : v ≠ .none) :
    serMap ((k, v) :: r) acc =
      match serKey k with
      | .error e => .error e
      | .ok key => match serValue v with | .error e => .error e | .ok x => serMap r (aset key x acc) := by
  rw [serMap]
  cases serKey k with
  | error e => rfl
  | ok key => dsimp only; split <;> first | exact absurd rfl hn | rfl

theorem expectedFields_cons (k : Bytes) {v : SVal} (r : List (Bytes × SVal)) (acc : List (Bytes × V)) (hn : v ≠ .none) :
    expectedFields ((k, v) :: r) acc =
      match expected v with | none => none | some x => expectedFields r (aset k x acc) := by
  rw [expectedFields] <;> trivial

theorem expectedMap_cons (k : SVal) {v : SVal} (r : List (SVal × SVal)) (acc : List (Bytes × V)) (hn : v ≠ .none) :
    expectedMap ((k, v) :: r) acc =
      match expectedKey k with
      | none => none
      | some key => match expected v with | none => none | some x => expectedMap r (aset key x acc) := by
  rw [expectedMap]
  cases expectedKey k with
  | none => rfl
  | some key => dsimp only; split <;> first | exact absurd rfl hn | rfl

theorem unsupportedFields_cons (k : Bytes) {v : SVal} (r : List (Bytes × SVal)) (hn : v ≠ .none) :
    unsupportedFields ((k, v) :: r) = (unsupported v || unsupportedFields r) := by
  rw [unsupportedFields] <;> trivial

theorem unsupportedMap_cons (k : SVal) {v : SVal} (r : List (SVal × SVal)) (hn : v ≠ .none) :
    unsupportedMap ((k, v) :: r) = ((expectedKey k).isNone || (unsupported v || unsupportedMap r)) := by
  rw [unsupportedMap] <;> trivial

theorem valFields_cons (fx : ValFix) (k : Bytes) {v : SVal} (r : List (Bytes × SVal)) (acc : List (Bytes × V))
    (hn : v ≠ .none) :
    valFields fx ((k, v) :: r) acc =
      match valSer fx v with
      | .error .unsupportedNone => if fx.strictNone then .error .unsupportedNone else valFields fx r acc
      | .error e => .error e
      | .ok x => valFields fx r (aset k x acc) := by
  rw [valFields] <;> trivial

theorem valMap_cons (fx : ValFix) (k : SVal) {v : SVal} (r : List (SVal × SVal)) (acc : List (Bytes × V))
    (hn : v ≠ .none) :
    valMap fx ((k, v) :: r) acc =
      match valSer fx k with
      | .error e => .error e
      | .ok kv =>
        match strOfV kv with
        | none => .error .keyNotString
        | some key =>
          match valSer fx v with
          | .error .unsupportedNone => if fx.strictNone then .error .unsupportedNone else valMap fx r acc
          | .error e => .error e
          | .ok x => valMap fx r (aset key x acc) := by
  cases v <;> first | exact absurd rfl hn | rfl
theorem serMap_str : ∀ (l : List (Bytes × SVal)) (acc : List (Bytes × V)),
    serMap (l.map fun kv => (SVal.str kv.1, kv.2)) acc = serFields l acc
  | [], _ => rfl
  | (k, v) :: r, acc => by
    by_cases hn : v = .none
    · subst hn; exact serMap_str r acc
    · rw [List.map_cons, serMap_cons _ _ acc hn, serFields_cons k r acc hn]
      simp only [serKey]
      cases serValue v with
      | error e => rfl
      | ok x => exact serMap_str r _

theorem serKey_opt : ∀ k : SVal, (serKey k).toOption = expectedKey k
  | .str _ => rfl
  | .unitVariant _ _ => rfl
  | .newtype _ v => by simp only [serKey, expectedKey]; exact serKey_opt v
  | .bool _ => rfl | .int w _ => by cases w <;> rfl | .f32 _ => rfl | .f64 _ => rfl | .char _ => rfl
  | .bytes _ => rfl | .none => rfl | .some _ => rfl | .unit => rfl | .unitStruct _ => rfl
  | .seq _ => rfl | .tuple _ => rfl | .tupleStruct _ _ => rfl | .map _ => rfl | .struct _ _ => rfl
  | .newtypeVariant _ _ _ => rfl | .tupleVariant _ _ _ => rfl | .structVariant _ _ _ => rfl

theorem serDatetime_opt : ∀ (fs : List (Bytes × SVal)) (acc : Option Datetime.Datetime),
    (serDatetime fs acc).toOption = expectedDatetime fs acc
  | [], acc => by cases acc <;> rfl
  | (k, v) :: r, acc => by
    unfold serDatetime expectedDatetime
    by_cases hk : (k == dtField) = true
    · simp only [hk, if_true]
      cases v <;> try rfl
      case int w n => cases w <;> rfl
      case str s =>
        simp only []
        cases h : Datetime.Std.fromStr s
        · rfl
        · exact serDatetime_opt r _
    · simp only [hk]
      exact serDatetime_opt r acc

mutual
theorem serValue_opt : ∀ v : SVal, (serValue v).toOption = expected v
  | .bool _ | .f32 _ | .f64 _ | .char _ | .str _ | .bytes _ | .none | .unit | .unitStruct _ | .unitVariant _ _ => rfl
  | .int w n => by
    simp only [serValue, expected, intOk]
    by_cases h1 : is128 w = true
    · simp [h1, Except.toOption]
    · by_cases h2 : (w == IntW.u64 && decide (n > i64Max)) = true
      · simp [h1, h2, Except.toOption]
      · simp [h1, h2, Except.toOption]
  | .some v | .newtype _ v => by simp only [serValue, expected]; exact serValue_opt v
  | .seq xs | .tuple xs | .tupleStruct _ xs | .tupleVariant _ _ xs => by
    simp only [serValue, expected]; rw [← serSeq_opt xs]; cases serSeq xs <;> rfl
  | .map kvs => by
    simp only [serValue, expected]; rw [← serMap_opt kvs []]; cases serMap kvs [] <;> rfl
  | .struct name fs => by
    simp only [serValue, expected]
    split
    · rw [← serDatetime_opt fs none]; cases serDatetime fs none <;> rfl
    · rw [← serFields_opt fs []]; cases serFields fs [] <;> rfl
  | .newtypeVariant _ _ v => by
    simp only [serValue, expected]; rw [← serValue_opt v]; cases serValue v <;> rfl
  | .structVariant _ _ fs => by
    simp only [serValue, expected]; rw [← serFields_opt fs []]; cases serFields fs [] <;> rfl
theorem serSeq_opt : ∀ xs : List SVal, (serSeq xs).toOption = expectedList xs
  | [] => rfl
  | x :: r => by
    simp only [serSeq, expectedList]
    rw [← serValue_opt x, ← serSeq_opt r]
    cases serValue x with
    | error e => rfl
    | ok v => cases serSeq r <;> rfl
theorem serFields_opt : ∀ (fs : List (Bytes × SVal)) (acc : List (Bytes × V)),
    (serFields fs acc).toOption = expectedFields fs acc
  | [], _ => rfl
  | (k, v) :: r, acc => by
    by_cases hn : v = .none
    · subst hn; simp only [serFields, expectedFields]; exact serFields_opt r acc
    · rw [serFields_cons k r acc hn, expectedFields_cons k r acc hn, ← serValue_opt v]
      cases serValue v
      · rfl
      · exact serFields_opt r _
theorem serMap_opt : ∀ (kvs : List (SVal × SVal)) (acc : List (Bytes × V)),
    (serMap kvs acc).toOption = expectedMap kvs acc
  | [], _ => rfl
  | (k, v) :: r, acc => by
    by_cases hn : v = .none
    · subst hn; simp only [serMap, expectedMap]; rw [← serKey_opt k]
      cases serKey k
      · rfl
      · exact serMap_opt r acc
    · rw [serMap_cons k r acc hn, expectedMap_cons k r acc hn, ← serKey_opt k, ← serValue_opt v]
      cases serKey k
      · rfl
      · cases serValue v
        · rfl
        · exact serMap_opt r _
end

theorem expectedDatetime_none : ∀ (fs : List (Bytes × SVal)) (acc : Option Datetime.Datetime),
    (expectedDatetime fs acc).isNone = (badDatetimeFields fs || (!hasDtField fs && acc.isNone))
  | [], acc => by cases acc <;> rfl
  | (k, v) :: r, acc => by
    unfold expectedDatetime badDatetimeFields hasDtField
    by_cases hk : (k == dtField) = true
    · simp only [hk, if_true]
      cases v <;> try rfl
      case str s =>
        simp only []
        cases h : Datetime.Std.fromStr s
        · rfl
        · rw [expectedDatetime_none r _]; simp
    · have hk' : (k == dtField) = false := by simpa using hk
      simp only [hk', Bool.false_eq_true, if_false, Bool.false_or]
      exact expectedDatetime_none r acc

mutual
theorem expected_none : ∀ v : SVal, (expected v).isNone = unsupported v
  | .bool _ | .f32 _ | .f64 _ | .char _ | .str _ | .bytes _ | .none | .unit | .unitStruct _ | .unitVariant _ _ => rfl
  | .int w n => by
    simp only [expected, unsupported]
    cases intOk w n <;> rfl
  | .some v | .newtype _ v => by simp only [expected, unsupported]; exact expected_none v
  | .seq xs | .tuple xs | .tupleStruct _ xs | .tupleVariant _ _ xs => by
    simp only [expected, unsupported]; rw [← expectedList_none xs]; cases expectedList xs <;> rfl
  | .map kvs => by
    simp only [expected, unsupported]; rw [← expectedMap_none kvs []]; cases expectedMap kvs [] <;> rfl
  | .struct name fs => by
    simp only [expected, unsupported]
    split
    · have := expectedDatetime_none fs none
      simp only [Option.isNone_none, Bool.and_true] at this
      rw [← this]; cases expectedDatetime fs none <;> rfl
    · rw [← expectedFields_none fs []]; cases expectedFields fs [] <;> rfl
  | .newtypeVariant _ _ v => by
    simp only [expected, unsupported]; rw [← expected_none v]; cases expected v <;> rfl
  | .structVariant _ _ fs => by
    simp only [expected, unsupported]; rw [← expectedFields_none fs []]; cases expectedFields fs [] <;> rfl
theorem expectedList_none : ∀ xs : List SVal, (expectedList xs).isNone = unsupportedList xs
  | [] => rfl
  | x :: r => by
    simp only [expectedList, unsupportedList]
    rw [← expected_none x, ← expectedList_none r]
    cases expected x with
    | none => rfl
    | some v => cases expectedList r <;> rfl
theorem expectedFields_none : ∀ (fs : List (Bytes × SVal)) (acc : List (Bytes × V)),
    (expectedFields fs acc).isNone = unsupportedFields fs
  | [], _ => rfl
  | (k, v) :: r, acc => by
    by_cases hn : v = .none
    · subst hn; simp only [expectedFields, unsupportedFields]; exact expectedFields_none r acc
    · rw [unsupportedFields_cons k r hn, expectedFields_cons k r acc hn, ← expected_none v]
      cases expected v with
      | none => rfl
      | some x => simp only [Option.isNone_some, Bool.false_or]; exact expectedFields_none r _
theorem expectedMap_none : ∀ (kvs : List (SVal × SVal)) (acc : List (Bytes × V)),
    (expectedMap kvs acc).isNone = unsupportedMap kvs
  | [], _ => rfl
  | (k, v) :: r, acc => by
    by_cases hn : v = .none
    · subst hn; simp only [expectedMap, unsupportedMap]
      cases expectedKey k with
      | none => rfl
      | some key => simp only [Option.isNone_some, Bool.false_or]; exact expectedMap_none r acc
    · rw [unsupportedMap_cons k r hn, expectedMap_cons k r acc hn, ← expected_none v]
      cases expectedKey k with
      | none => rfl
      | some key =>
        cases expected v with
        | none => rfl
        | some x => simp only [Option.isNone_some, Bool.false_or]; exact expectedMap_none r _
end

theorem _root_.TomlVerif.Spec.Serde.V.induction {P : V → Prop} {Ps : List V → Prop} {Pk : List (Bytes × V) → Prop}
    (sc : ∀ s, P (.sc s)) (arr : ∀ xs, Ps xs → P (.arr xs)) (inl : ∀ kvs, Pk kvs → P (.inl kvs))
    (nil : Ps []) (cons : ∀ x r, P x → Ps r → Ps (x :: r))
    (knil : Pk []) (kcons : ∀ k x r, P x → Pk r → Pk ((k, x) :: r)) :
    (∀ v, P v) ∧ (∀ xs, Ps xs) ∧ (∀ kvs, Pk kvs) :=
  ⟨V.rec (motive_4 := fun p => P p.2) sc arr inl nil cons knil (fun p r => kcons p.1 p.2 r) (fun _ _ h => h),
   V.rec_1 (motive_4 := fun p => P p.2) sc arr inl nil cons knil (fun p r => kcons p.1 p.2 r) (fun _ _ h => h),
   V.rec_2 (motive_4 := fun p => P p.2) sc arr inl nil cons knil (fun p r => kcons p.1 p.2 r) (fun _ _ h => h)⟩

theorem visitAot_ne (g : Bool) : ∀ xs : List V, xs ≠ [] → visitAot g xs ≠ []
  | [], h => absurd rfl h
  | x :: r, _ => by cases x <;> simp [visitAot]

theorem present_visitItem (g : Bool) : ∀ v : V, present (visitItem g false v) = true
  | .sc _ => by simp [visitItem, present]
  | .arr xs => by
    simp only [visitItem]
    split
    · rename_i h
      simp only [present]
      have : xs ≠ [] := by
        intro e; subst e; simp at h
      have := visitAot_ne g xs this
      cases hh : visitAot g xs with
      | nil => exact absurd hh this
      | cons a b => rfl
    · rfl
  | .inl kvs => by
    simp only [visitItem, Bool.and_false, Bool.false_eq_true, if_false]
    simp only [present]
    cases kvs with
    | nil => rfl
    | cons kv r =>
      obtain ⟨k, v⟩ := kv
      simp only [visitKVs, presentAny, present_visitItem g v, Bool.true_or, Bool.or_true]

/-- the guarded visitor changes nothing the text shows. Per value: what the visited value contributes at the head of
    an array, of an inline table and of a standard table, and (fourth clause) the entries of an inline table visited as
    those of a standard table, which is what `visitAot` does to the elements of an array of tables; per list: the
    whole array / table. -/
theorem shown_visit :
    (∀ v : V, (∀ ns, shownArr (visitValue true v :: ns) = v :: shownArr ns) ∧
      (∀ k ns, shownInl ((k, visitItem true true v) :: ns) = (k, v) :: shownInl ns) ∧
      (∀ k ns, shownTbl ((k, visitItem true false v) :: ns) = (k, v) :: shownTbl ns) ∧
      ∀ kvs, v = .inl kvs → shownTbl (visitKVs true false kvs) = kvs) ∧
    (∀ xs : List V, shownArr (visitArr true xs) = xs ∧ (allInl xs = true → shownAot (visitAot true xs) = xs)) ∧
    ∀ kvs : List (Bytes × V), shownInl (visitKVs true true kvs) = kvs ∧ shownTbl (visitKVs true false kvs) = kvs := by
  refine V.induction ?_ ?_ ?_ ?_ ?_ ?_ ?_
  · intro s
    simp only [visitValue, visitItem, shownArr, shownInl, shownTbl, implies_true, true_and]
    exact nofun
  · intro xs ih
    refine ⟨?_, ?_, ?_, nofun⟩
    · intro ns; rw [visitValue, shownArr, ih.1]
    · intro k ns
      rw [visitItem, if_neg (by simp), shownInl, ih.1]
    · intro k ns
      rw [visitItem]
      by_cases h : (!(true && false) && !xs.isEmpty && allInl xs) = true
      · -- a non-empty array of inline tables becomes an array of tables
        have hne : xs ≠ [] := by intro e; subst e; simp at h
        have hall : allInl xs = true := by simp at h; exact h.2
        rw [if_pos h, shownTbl, ih.2 hall]
        cases hh : visitAot true xs with
        | nil => exact absurd hh (visitAot_ne true xs hne)
        | cons a b => rfl
      · rw [if_neg h, shownTbl, ih.1]
  · intro kvs ih
    refine ⟨?_, ?_, ?_, ?_⟩
    · intro ns; rw [visitValue, shownArr, ih.1]
    · intro k ns; rw [visitItem, if_pos (by rfl), shownInl, ih.1]
    · intro k ns
      have hp := present_visitItem true (.inl kvs)
      rw [visitItem, if_neg (by simp)] at hp ⊢
      rw [shownTbl, if_pos hp, ih.2]
    · intro kvs' e; cases e; exact ih.2
  · exact ⟨by rw [visitArr, shownArr], fun _ => by rw [visitAot, shownAot]⟩
  · intro x r hx hr
    refine ⟨by rw [visitArr, hx.1, hr.1], ?_⟩
    intro h
    cases x with
    | inl kvs =>
      rw [visitAot, shownAot, hx.2.2.2 kvs rfl, hr.2 (by simpa [allInl, isInl] using h)]
    | sc s => simp [allInl, isInl] at h
    | arr ys => simp [allInl, isInl] at h
  · exact ⟨by rw [visitKVs, shownInl], by rw [visitKVs, shownTbl]⟩
  · intro k x r hx hr
    exact ⟨by rw [visitKVs, hx.2.1, hr.1], by rw [visitKVs, hx.2.2.1, hr.2]⟩

theorem shownInl_visit : ∀ kvs : List (Bytes × V), shownInl (visitKVs true true kvs) = kvs :=
  fun kvs => (shown_visit.2.2 kvs).1
theorem shownAot_visit : ∀ xs : List V, allInl xs = true → shownAot (visitAot true xs) = xs :=
  fun xs => (shown_visit.2.1 xs).2

theorem shown_embed :
    (∀ v : V, (∀ ns, shownArr (embed v :: ns) = v :: shownArr ns) ∧
      (∀ k ns, shownInl ((k, embed v) :: ns) = (k, v) :: shownInl ns) ∧
      ∀ k ns, shownTbl ((k, embed v) :: ns) = (k, v) :: shownTbl ns) ∧
    (∀ xs : List V, shownArr (embedList xs) = xs) ∧
    ∀ kvs : List (Bytes × V), shownInl (embedKVs kvs) = kvs ∧ shownTbl (embedKVs kvs) = kvs := by
  refine V.induction ?_ ?_ ?_ ?_ ?_ ?_ ?_
  · intro s; simp only [embed, shownArr, shownInl, shownTbl, implies_true, and_self]
  · intro xs ih; simp only [embed, shownArr, shownInl, shownTbl, ih, implies_true, and_self]
  · intro kvs ih; simp only [embed, shownArr, shownInl, shownTbl, ih, implies_true, and_self]
  · rw [embedList, shownArr]
  · intro x r hx hr; rw [embedList, hx.1, hr]
  · rw [embedKVs, shownInl, shownTbl]; exact ⟨rfl, rfl⟩
  · intro k x r hx hr; rw [embedKVs, hx.2.1, hx.2.2, hr.1, hr.2]; exact ⟨rfl, rfl⟩


/-- the shapes `toml::ser::Serializer` refuses at the root although they have a table image:
    struct and tuple variants -/
def variantRoot : SVal → Bool
  | .structVariant _ _ _ => true
  | .tupleVariant _ _ _ => true
  | _ => false

def datetimeRoot : SVal → Bool
  | .struct name _ => name == dtName
  | _ => false

/-- the ways `serValue v` succeeds, one per arm; used as `cases serValue_step h` -/
inductive SerValueStep : SVal → V → Prop
  | bool b : SerValueStep (.bool b) (.sc (.bool b))
  | int w n : ¬ is128 w = true → ¬ (w == .u64 && decide (n > i64Max)) = true → SerValueStep (.int w n) (.sc (.int n))
  | f32 b : SerValueStep (.f32 b) (.sc (.float (clearNanSign (f32to64 b))))
  | f64 b : SerValueStep (.f64 b) (.sc (.float (clearNanSign b)))
  | char cp : SerValueStep (.char cp) (.sc (.str (Utf8.encode cp)))
  | str s : SerValueStep (.str s) (.sc (.str s))
  | bytes b : SerValueStep (.bytes b) (.arr (intsOfBytes b))
  | some v t : serValue v = .ok t → SerValueStep (.some v) t
  | newtype n v t : serValue v = .ok t → SerValueStep (.newtype n v) t
  | seq xs l : serSeq xs = .ok l → SerValueStep (.seq xs) (.arr l)
  | tuple xs l : serSeq xs = .ok l → SerValueStep (.tuple xs) (.arr l)
  | tupleStruct n xs l : serSeq xs = .ok l → SerValueStep (.tupleStruct n xs) (.arr l)
  | map kvs l : serMap kvs [] = .ok l → SerValueStep (.map kvs) (.inl l)
  | datetime name fs d : (name == dtName) = true → serDatetime fs none = .ok d →
      SerValueStep (.struct name fs) (.sc (.dt d))
  | struct name fs l : ¬ (name == dtName) = true → serFields fs [] = .ok l → SerValueStep (.struct name fs) (.inl l)
  | unitVariant n vr : SerValueStep (.unitVariant n vr) (.sc (.str vr))
  | newtypeVariant n vr v x : serValue v = .ok x → SerValueStep (.newtypeVariant n vr v) (.inl [(vr, x)])
  | tupleVariant n vr xs l : serSeq xs = .ok l → SerValueStep (.tupleVariant n vr xs) (.inl [(vr, .arr l)])
  | structVariant n vr fs l : serFields fs [] = .ok l → SerValueStep (.structVariant n vr fs) (.inl [(vr, .inl l)])

theorem serValue_step {v : SVal} {t : V} (h : serValue v = .ok t) : SerValueStep v t := by
  revert h
  fun_cases serValue v <;> intro h
  -- cases 11 and 14 of `serValue.fun_cases` (the `int` arm gives three) are `Some` and a newtype struct: they hand `h`
  -- on; in every other case `h` determines `t`
  case case11 => exact .some _ _ h
  case case14 => exact .newtype _ _ _ h
  all_goals cases h <;> constructor <;> assumption

theorem serDocument_value (v : SVal) (kvs : List (Bytes × V)) (h : serDocument v = .ok kvs) :
    serValue v = .ok (.inl kvs) := by
  unfold serDocument at h
  cases hs : serValue v with
  | error e => rw [hs] at h; cases h
  | ok t =>
    rw [hs] at h
    cases t with
    | sc s => cases h
    | arr xs => cases h
    | inl l => injection h with h; rw [h]

theorem tomlDocument_eq (b : Bool) (v : SVal) (h1 : variantRoot v = false)
    (h2 : b = true ∨ ∀ n fs, v ≠ .struct n fs) : tomlDocument b v = serDocument v := by
  cases v <;> first
    | rfl
    | (simp [variantRoot] at h1; done)
    | (cases h2 with
       | inl hb => subst hb; rfl
       | inr hn => exact absurd rfl (hn _ _))

theorem tomlDocument_ok (b : Bool) (v : SVal) (l : List (Bytes × V))
    (hd : b = true ∨ datetimeRoot v = false) (hs : tomlDocument b v = .ok l) : serDocument v = .ok l := by
  cases v with
  | structVariant n vr fs => simp [tomlDocument] at hs
  | tupleVariant n vr xs =>
    simp only [tomlDocument] at hs
    cases hq : serSeq xs <;> rw [hq] at hs <;> cases hs
  | struct name fs =>
    cases b with
    | true => exact hs
    | false =>
      have hn : (name == dtName) = false := by
        cases hd with
        | inl h => cases h
        | inr h => exact h
      simp only [tomlDocument, Bool.false_eq_true, if_false] at hs
      simp only [serDocument, serValue, hn, Bool.false_eq_true, if_false, hs]
  | _ => exact hs

theorem valSer_key (fx : ValFix) (k : SVal) (key : Bytes) (h : expectedKey k = some key) :
    valSer fx k = .ok (.sc (.str key)) := by
  fun_induction expectedKey k with
  | case1 s => cases h; rw [valSer]
  | case2 _ v => cases h; rw [valSer]
  | case3 _ v ih => rw [valSer]; exact ih h
  | case4 => cases h

mutual
theorem valSer_image (fx : ValFix) : ∀ (v : SVal) (t : V), expected v = some t →
    dtShape fx.dtAware v = true → valSer fx v = .ok t
  | .bool _, t, h, _ | .f32 _, t, h, _ | .f64 _, t, h, _ | .char _, t, h, _ | .str _, t, h, _ | .bytes _, t, h, _
  | .unitVariant _ _, t, h, _ => by simp only [expected, Option.some.injEq] at h; subst h; simp only [valSer]
  | .int w n, t, h, _ => by
    simp only [expected, intOk] at h
    by_cases h1 : is128 w = true
    · simp [h1] at h
    · by_cases h2 : (w == IntW.u64 && decide (n > i64Max)) = true
      · simp [h1, h2] at h
      · simp [h1, h2] at h; subst h; simp [valSer, h1, h2]
  | .none, t, h, _ | .unit, t, h, _ | .unitStruct _, t, h, _ => by simp [expected] at h
  | .some v, t, h, hd | .newtype _ v, t, h, hd => by
    simp only [expected] at h; simp only [valSer]
    exact valSer_image fx v t h (by simpa only [dtShape] using hd)
  | .seq xs, t, h, hd | .tuple xs, t, h, hd | .tupleStruct _ xs, t, h, hd | .tupleVariant _ _ xs, t, h, hd => by
    simp only [expected] at h
    cases hl : expectedList xs with
    | none => rw [hl] at h; cases h
    | some l =>
      rw [hl] at h; simp only [Option.some.injEq] at h; subst h
      simp only [valSer, valSeq_image fx xs l hl (by simpa only [dtShape] using hd)]
  | .map kvs, t, h, hd => by
    simp only [expected] at h
    cases hl : expectedMap kvs [] with
    | none => rw [hl] at h; cases h
    | some l =>
      rw [hl] at h; simp only [Option.some.injEq] at h; subst h
      simp only [valSer, valMap_image fx kvs [] l hl (by simpa only [dtShape] using hd)]
  | .struct name fs, t, h, hd => by
    simp only [expected] at h
    by_cases hn : (name == dtName) = true
    · -- a date-time struct as `toml_datetime::Datetime` produces it, and an aware serializer
      simp only [dtShape, hn, if_true, Bool.and_eq_true] at hd
      obtain ⟨haw, hfs⟩ := hd
      simp only [hn, if_true] at h
      match fs, hfs with
      | [(k, .str s)], hfs =>
        have hk : (k == dtField) = true := by simpa [isDtFields] using hfs
        simp only [expectedDatetime, hk, if_true] at h
        cases hp : Datetime.Std.fromStr s with
        | none => rw [hp] at h; cases h
        | some d =>
          rw [hp] at h; simp only [Option.some.injEq] at h; subst h
          have hk' : k = dtField := by simpa using hk
          subst hk'
          have e : valFields fx [(dtField, SVal.str s)] [] = .ok [(dtField, .sc (.str s))] := rfl
          have e2 : alookup dtField [(dtField, V.sc (Scalar.str s))] = some (.sc (.str s)) := by
            simp [alookup]
          simp only [valSer, e, haw, hn, Bool.and_self, if_true, valDatetime, e2, hp]
    · have hn' : (name == dtName) = false := by simpa using hn
      simp only [hn', Bool.false_eq_true, if_false] at h
      cases hl : expectedFields fs [] with
      | none => rw [hl] at h; cases h
      | some l =>
        rw [hl] at h; simp only [Option.some.injEq] at h; subst h
        have hd' : dtShapeFields fx.dtAware fs = true := by
          simpa only [dtShape, hn', Bool.false_eq_true, if_false] using hd
        simp only [valSer, hn', Bool.and_false, Bool.false_eq_true, if_false,
          valFields_image fx fs [] l hl hd']
  | .newtypeVariant _ vr v, t, h, hd => by
    simp only [expected] at h
    cases hx : expected v with
    | none => rw [hx] at h; cases h
    | some x =>
      rw [hx] at h; simp only [Option.some.injEq] at h; subst h
      simp only [valSer, valSer_image fx v x hx (by simpa only [dtShape] using hd)]
  | .structVariant _ vr fs, t, h, hd => by
    simp only [expected] at h
    cases hl : expectedFields fs [] with
    | none => rw [hl] at h; cases h
    | some l =>
      rw [hl] at h; simp only [Option.some.injEq] at h; subst h
      simp only [valSer, valFields_image fx fs [] l hl (by simpa only [dtShape] using hd)]
theorem valSeq_image (fx : ValFix) : ∀ (xs : List SVal) (l : List V), expectedList xs = some l →
    dtShapeList fx.dtAware xs = true → valSeq fx xs = .ok l
  | [], l, h, _ => by simp only [expectedList, Option.some.injEq] at h; subst h; simp only [valSeq]
  | x :: r, l, h, hd => by
    simp only [expectedList] at h
    have hd1 : dtShape fx.dtAware x = true ∧ dtShapeList fx.dtAware r = true := by
      simpa [dtShapeList] using hd
    cases hx : expected x with
    | none => rw [hx] at h; cases h
    | some v =>
      rw [hx] at h
      cases hr : expectedList r with
      | none => rw [hr] at h; cases h
      | some l' =>
        rw [hr] at h; simp only [Option.some.injEq] at h; subst h
        simp only [valSeq, valSer_image fx x v hx hd1.1, valSeq_image fx r l' hr hd1.2]
theorem valFields_image (fx : ValFix) : ∀ (fs : List (Bytes × SVal)) (acc l : List (Bytes × V)),
    expectedFields fs acc = some l → dtShapeFields fx.dtAware fs = true → valFields fx fs acc = .ok l
  | [], acc, l, h, _ => by simp only [expectedFields, Option.some.injEq] at h; subst h; simp only [valFields]
  | (k, v) :: r, acc, l, h, hd => by
    have hd1 : dtShape fx.dtAware v = true ∧ dtShapeFields fx.dtAware r = true := by
      simpa [dtShapeFields] using hd
    by_cases hn : v = .none
    · subst hn
      simp only [expectedFields] at h
      simp only [valFields]
      exact valFields_image fx r acc l h hd1.2
    · rw [expectedFields_cons k r acc hn] at h
      cases hx : expected v with
      | none => rw [hx] at h; cases h
      | some x =>
        rw [hx] at h
        rw [valFields_cons fx k r acc hn, valSer_image fx v x hx hd1.1]
        exact valFields_image fx r _ l h hd1.2
theorem valMap_image (fx : ValFix) : ∀ (kvs : List (SVal × SVal)) (acc l : List (Bytes × V)),
    expectedMap kvs acc = some l → dtShapeMap fx.dtAware kvs = true → valMap fx kvs acc = .ok l
  | [], acc, l, h, _ => by simp only [expectedMap, Option.some.injEq] at h; subst h; rfl
  | (k, v) :: r, acc, l, h, hd => by
    have hd1 : dtShape fx.dtAware v = true ∧ dtShapeMap fx.dtAware r = true := by
      simpa [dtShapeMap] using hd
    by_cases hn : v = .none
    · subst hn
      simp only [expectedMap] at h
      cases hk : expectedKey k with
      | none => rw [hk] at h; cases h
      | some key =>
        rw [hk] at h
        have e0 : valMap fx ((k, SVal.none) :: r) acc =
            (match valSer fx k with
             | .error e => .error e
             | .ok kv =>
               match strOfV kv with
               | none => .error .keyNotString
               | some _ => valMap fx r acc) := rfl
        rw [e0, valSer_key fx k key hk]
        simp only [strOfV]
        exact valMap_image fx r acc l h hd1.2
    · rw [expectedMap_cons k r acc hn] at h
      cases hk : expectedKey k with
      | none => rw [hk] at h; cases h
      | some key =>
        rw [hk] at h
        cases hx : expected v with
        | none => rw [hx] at h; cases h
        | some x =>
          rw [hx] at h
          rw [valMap_cons fx k r acc hn, valSer_key fx k key hk, valSer_image fx v x hx hd1.1]
          simp only [strOfV]
          exact valMap_image fx r _ l h hd1.2
end

end TomlVerif.Lemmas.Ser07

namespace TomlVerif.Lemmas.SerTyped07
open TomlVerif TomlVerif.Model TomlVerif.Model.Ser TomlVerif.Spec.Serde

theorem serSeq_cons (v : SVal) (vs : List SVal) (xs : List V) (h : serSeq (v :: vs) = .ok xs) :
    ∃ x xs', xs = x :: xs' ∧ serValue v = .ok x ∧ serSeq vs = .ok xs' := by
  unfold serSeq at h
  split at h
  · cases h
  · rename_i x hx
    split at h
    · rename_i l hl
      injection h with h
      exact ⟨x, l, h.symm, hx, hl⟩
    · cases h

theorem serSeq_nil (xs : List V) (h : serSeq [] = .ok xs) : xs = [] := by
  simp only [serSeq, Except.ok.injEq] at h; exact h.symm

end TomlVerif.Lemmas.SerTyped07
