import TomlVerif.Lemmas.TypedGapsParsedTree
import TomlVerif.Lemmas.StateInv
/-! For Props/C13TypedParsed and Props/C18Parsed: the parser establishes the predicate of
    `Lemmas/TypedGapsParsedTree.lean`, of every value `value` returns and of every table `parse_document` returns. -/
namespace TomlVerif.Lemmas.TypedGapsParsed
open TomlVerif TomlVerif.Spec TomlVerif.Model TomlVerif.Model.TomlValue TomlVerif.Model.DeRoutes
open TomlVerif.Model.Value TomlVerif.Model.Datetime
open TomlVerif.Lemmas.DeTyped13 TomlVerif.Lemmas.State09
open TomlVerif.Spec.AstValue TomlVerif.Spec.AstValueQ
open TomlVerif.Lemmas.ValueParse (ScalarParse value_one_ok parse_induction inlInsert_induction)

theorem fullDate_year (s rest : Bytes) (d : Date) (h : Doc.fullDate s = .ok d rest) : d.year ≤ 9999 :=
  ((Datetime12.fullDate_ok_text s rest d).1 h).2.1

theorem dateTime_year (s rest : Bytes) (dt : Datetime) (h : Doc.dateTime s = .ok dt rest) :
    ∀ x, dt.date = some x → x.year ≤ 9999 := by
  intro x hx
  cases Datetime12.dateTime_ok h with
  | date hd _ => cases hx; exact fullDate_year _ _ _ hd
  | dateTime hd _ _ _ => cases hx; exact fullDate_year _ _ _ hd
  | offset hd _ _ _ => cases hx; exact fullDate_year _ _ _ hd
  | time _ _ => cases hx

theorem dateTime_roundtrip (s rest : Bytes) (dt : Datetime) (h : Doc.dateTime s = .ok dt rest) :
    Std.fromStr (Std.display dt) = some dt :=
  (Props.C12.T12_roundtrip dt (Props.C12.doc_dateTime_ranges s rest dt h) (dateTime_year s rest dt h)).1

/-- the scalar tokens decode to good values: a date-time comes from `Doc.dateTime` -/
theorem scalarParse_good {s : Bytes} {v : Val} {r : Bytes} (h : ScalarParse s v r) : GV v := by
  cases h with
  | dt _ hd => simp [GV, plainVal, WfTV', dateTime_roundtrip _ _ _ hd]
  | _ => simp [GV, plainVal, WfTV']

def GL (items : List (Bytes × Val)) : Prop := (items.map Prod.fst).Nodup ∧ ∀ p ∈ items, GV p.2

theorem gl_nil : GL [] := ⟨by simp, by simp⟩

theorem gl_append (items : List (Bytes × Val)) (k : Bytes) (v : Val) (h : GL items) (hn : alookup k items = none)
    (hv : GV v) : GL (items ++ [(k, v)]) := by
  refine ⟨append_nodup k v items h.1 hn, ?_⟩
  intro p hp
  rcases List.mem_append.1 hp with hp | hp
  · exact h.2 p hp
  · simp at hp; rw [hp]; exact hv

theorem gl_areplace (items : List (Bytes × Val)) (k : Bytes) (v : Val) (h : GL items) (hv : GV v) :
    GL (areplace k v items) := by
  refine ⟨areplace_nodup k v items h.1, ?_⟩
  intro p hp
  rcases (mem_areplace k v items p hp).symm with hp | hp
  · exact h.2 p hp
  · rw [hp]; exact hv

theorem inlInsert_good (path : List Bytes) (items : List (Bytes × Val)) (dot pe : Bool) (key : Bytes) (v : Val)
    (items' : List (Bytes × Val)) (h : inlInsert items dot path pe key v = some items') (hv : GV v) :
    GL items → GL items' := by
  refine inlInsert_induction (P := fun items _ items' => GL items → GL items')
    ?leaf ?fresh ?descend path items dot items' h
  case leaf => intro items hn hg; exact gl_append items key v hg hn hv
  case fresh =>
    intro items k ks sub hn ih hg
    exact gl_append items k _ hg hn ((gv_inl sub true true).2 (ih gl_nil))
  case descend =>
    intro items k ks sub dot' sub' ha ih hg
    have hold : GV (.inl sub true dot') := hg.2 _ (mem_of_alookup k _ items ha)
    exact gl_areplace items k _ hg ((gv_inl sub' true dot').2 (ih ((gv_inl sub true dot').1 hold)))

theorem tableFromPairs_good : ∀ (l : List (List Bytes × Bytes × Val)) (acc items : List (Bytes × Val)),
    tableFromPairs l acc = some items → GL acc → (∀ e ∈ l, GV e.2.2) → GL items := by
  intro l
  induction l with
  | nil =>
    intro acc items h hg _
    simp [tableFromPairs] at h; subst h; exact hg
  | cons e r ih =>
    intro acc items h hg hv
    obtain ⟨path, key, v⟩ := e
    unfold tableFromPairs at h
    split at h
    · rename_i acc' hi
      exact ih acc' items h (inlInsert_good path acc false _ key v acc' hi (hv (path, key, v) List.mem_cons_self) hg)
        (fun e he => hv e (List.mem_cons_of_mem _ he))
    · simp at h

/-- every value the parser returns is good: the scalars by `scalarParse_good`, an inline table because
    `table_from_pairs` refuses a key that is present -/
theorem value_good (f d : Nat) (s : Bytes) (v : Val) (r : Bytes) (h : value f d s = .ok v r) : GV v :=
  (parse_induction
    (PV := fun _ _ v _ => GV v) (PA := fun _ _ vs _ => ∀ v ∈ vs, GV v)
    (PE := fun _ _ es _ => ∀ v ∈ es, GV v) (PK := fun _ _ es _ => ∀ e ∈ es, GV e.2.2)
    (scalar := fun _ _ _ _ hs => scalarParse_good hs)
    (arr := fun _ _ vs _ _ ih => (gv_arr vs).2 ih)
    (inl := fun _ _ kvs _ items _ _ ih htp _ =>
      (gv_inl items false false).2 (tableFromPairs_good kvs [] items htp gl_nil ih))
    (avEmpty := fun _ _ _ hv => nomatch hv)
    (avElems := fun _ _ _ _ _ ih _ => ih)
    (aeNil := fun _ _ _ hv => nomatch hv)
    (aeOne := fun _ _ _ _ _ _ _ ihv _ _ hx => List.mem_singleton.mp hx ▸ ihv)
    (aeCons := fun _ _ _ _ _ _ _ _ _ _ ihv _ ihe _ hx => (List.mem_cons.mp hx).elim (· ▸ ihv) (ihe _))
    (ikNil := fun _ _ _ he => nomatch he)
    (ikOne := fun _ _ _ _ _ _ _ _ _ _ ihv _ _ hx => List.mem_singleton.mp hx ▸ ihv)
    (ikCons := fun _ _ _ _ _ _ _ _ _ _ _ _ _ _ ihv _ _ ihk _ hx => (List.mem_cons.mp hx).elim (· ▸ ihv) (ihk _))
    f).1 d s v r h

mutual
theorem semQ_good : ∀ v : QVal, WFQ v → GV (semQ v)
  | .scalar t, h => by
    rw [WFQ] at h
    rw [semQ]
    have := h.2 1 0 [] (by decide) ⟨trivial, by intro b r e; cases e⟩
    exact scalarParse_good (value_one_ok this)
  | .arr items tc tail, h => by
    rw [WFQ] at h
    rw [semQ, gv_arr]
    exact semItemsQ_good items h.1
  | .inl items tail, h => by
    rw [WFQ] at h
    rw [semQ]
    cases ht : tableFromPairs (flatPairsQ items) [] with
    | none => rw [ht] at h; simp at h
    | some its =>
      simp only [Option.getD_some]
      rw [gv_inl]
      exact tableFromPairs_good _ _ _ ht gl_nil (flatPairsQ_good items h.1)
theorem semItemsQ_good : ∀ l : List (Wcn × QVal × Wcn), WFItemsQ l → ∀ v ∈ semItemsQ l, GV v
  | [], _ => by intro v hv; simp [semItemsQ] at hv
  | (pre, x, post) :: r, h => by
    rw [WFItemsQ] at h
    intro v hv
    simp only [semItemsQ, List.mem_cons] at hv
    rcases hv with rfl | hv
    · exact semQ_good x h.2.1
    · exact semItemsQ_good r h.2.2.2 v hv
theorem flatPairsQ_good : ∀ l : List (QDKey × Bytes × QVal × Bytes), WFPairsQ l → ∀ e ∈ flatPairsQ l, GV e.2.2
  | [], _ => by intro e he; simp [flatPairsQ] at he
  | (k, w1, x, w2) :: r, h => by
    rw [WFPairsQ] at h
    intro e he
    simp only [flatPairsQ, List.mem_cons] at he
    rcases he with rfl | he
    · exact semQ_good x h.2.2.1
    · exact flatPairsQ_good r h.2.2.2.2 e he
end

end TomlVerif.Lemmas.TypedGapsParsed

-- reopened with other namespaces: `Stmt` of the state machine and `Stmt` of the value printer would clash
namespace TomlVerif.Lemmas.TypedGapsParsed
open TomlVerif TomlVerif.Spec TomlVerif.Model TomlVerif.Model.State
open TomlVerif.Lemmas.DeTyped13 TomlVerif.Lemmas.State09 TomlVerif.Lemmas.StateInv TomlVerif.Lemmas.DocStmts

/-! `GT` (distinct keys in every table at every depth, every element of every array of tables included; good values)
is an entrywise tree property (`gtInv`), so the definition state machine keeps it of the finalized part and of the
open section (`Lemmas/StateInv.lean`) through every statement of a text (`Lemmas/DocStmts.lean`); hence every table
`parse_document` returns satisfies it. (`State09.WF` only follows the last element of each array of tables and
ignores values.) -/

theorem gt_item (t : Tbl) (k : Bytes) (item : Item) (h : GT t) (ha : alookup k t.items = some item) : GI item :=
  ((gt_iff t).1 h).2 _ (mem_of_alookup k item _ ha)

theorem gt_aset (t : Tbl) (k : Bytes) (item : Item) (h : GT t) (hi : GI item) :
    GT (t.setItems (aset k item t.items)) := by
  rw [gt_setItems]
  obtain ⟨h1, h2⟩ := (gt_iff t).1 h
  refine ⟨aset_nodup k item _ h1, ?_⟩
  intro p hp
  rcases (mem_aset k item _ p hp).symm with hp | hp
  · exact h2 p hp
  · rw [hp]; exact hi

theorem gt_aerase (t : Tbl) (k : Bytes) (h : GT t) : GT (t.setItems (aerase k t.items)) := by
  rw [gt_setItems]
  obtain ⟨h1, h2⟩ := (gt_iff t).1 h
  exact ⟨aerase_nodup k _ h1, fun p hp => h2 p (mem_aerase k _ p hp)⟩

theorem gt_congr_items (u u' : Tbl) (he : u'.items = u.items) (h : GT u) : GT u' := by
  rw [gt_iff] at h ⊢; rw [he]; exact h

/-- keys are distinct and values good wherever the table sits, and there is always room -/
def gtInv : TreeInv where
  T := fun t _ _ => GT t
  I := fun it _ _ => GI it
  room := fun _ _ _ => True
  item := fun h ha => gt_item _ _ _ h ha
  aset := fun k _ h hi => gt_aset _ k _ h hi
  aerase := fun k h => gt_aerase _ k h
  items := fun he h => gt_congr_items _ _ he h
  nil := fun _ _ h => gt_of_nil _ h
  table := fun {t n d} => by rw [gi_table]; simp
  aot := fun {ts n d} => by rw [gi_aot]; simp
  zero := fun h => h

/-- a statement of a text fits: its value was returned by `value` -/
theorem scanned_fits {s : Stmt} (hs : Scanned s) : StmtFits gtInv s := by
  cases hs with
  | kv _ hv => exact ⟨fun _ _ _ => trivial, fun _ _ _ => (gi_value _).2 (value_good _ _ _ _ _ hv)⟩
  | std => exact fun _ _ _ => trivial
  | arr => exact fun _ _ _ => trivial

theorem parseDocument_good (s : Bytes) (T : Tbl) (h : Doc.parseDocument s = some T) : GT T := by
  obtain ⟨st, hi, hd⟩ := parseDocument_inv (I := Holds gtInv)
    (fun st x st' hi hx hs => step_inv gtInv st st' x hi (scanned_fits hx) hs) (holds_init gtInv) h
  exact intoDocument_inv gtInv st T hi hd

end TomlVerif.Lemmas.TypedGapsParsed
