import TomlVerif.Model.State
import TomlVerif.Lemmas.AList
/-! `descend` of the table-building state machine (`Model/State.lean`) as a partial lens:
    `descend t p d f` walks along `p`, hands the table it ends in to `f` and puts the result back;
    `focus` is the walk by itself (`none` where `descend` refuses to pass, fresh implicit tables where
    the path is absent), `plug` the way back (`descend_eq`). The lens laws give the laws of `descend`,
    and what `descend` keeps is what `plug` keeps.
    `focus` / `plug` are the handy view where the tree after the walk is wanted (what it holds, two
    actions at one parent fused by `plug_plug`); `descend_cons_some`, `descend_descend`,
    `descend_congr` where a property is carried one path step at a time or two descents are only
    compared. -/
namespace TomlVerif.Lemmas.State09
open TomlVerif TomlVerif.Model TomlVerif.Model.State

/-- follow `path` like `descend` does (through tables and through the last element of arrays of
    tables), creating nothing -/
def lookupTbl : Tbl → List Bytes → Option Tbl
  | t, [] => some t
  | t, k :: ks => match alookup k t.items with
    | some (.table sub) => lookupTbl sub ks
    | some (.aot ts) => match ts.getLast? with
      | some l => lookupTbl l ks
      | none => none
    | _ => none

def valueAt (t : Tbl) (k : Bytes) : Option Val :=
  match alookup k t.items with
  | some (.value v) => some v
  | _ => none

def lookupVal (t : Tbl) (path : List Bytes) (k : Bytes) : Option Val :=
  match lookupTbl t path with
  | some u => valueAt u k
  | none => none

/-- element of an array of tables chosen by a selector: `none` = the last one, `some i` = the i-th -/
def selAot (ts : List Tbl) : Option Nat → Option Tbl
  | none => ts.getLast?
  | some i => ts[i]?

/-- path with a selector at every step (only used at arrays of tables) -/
abbrev IPath := List (Bytes × Option Nat)

def lookupG : Tbl → IPath → Option Tbl
  | t, [] => some t
  | t, (k, s) :: ks => match alookup k t.items with
    | some (.table sub) => lookupG sub ks
    | some (.aot ts) => match selAot ts s with
      | some l => lookupG l ks
      | none => none
    | _ => none

def lookupValG (t : Tbl) (path : IPath) (k : Bytes) : Option Val :=
  match lookupG t path with
  | some u => valueAt u k
  | none => none

theorem lookupTbl_eq_lookupG (t : Tbl) (p : List Bytes) : lookupTbl t p = lookupG t (p.map (·, none)) := by
  induction p generalizing t with
  | nil => rfl
  | cons k ks ih =>
    simp only [lookupTbl, List.map, lookupG, selAot]
    cases alookup k t.items with
    | none => rfl
    | some it =>
      cases it with
      | value v => rfl
      | table sub => exact ih sub
      | aot ts =>
        simp only []
        cases ts.getLast? with
        | none => rfl
        | some l => exact ih l

theorem lookupVal_eq_lookupValG (t : Tbl) (p : List Bytes) (k : Bytes) :
    lookupVal t p k = lookupValG t (p.map (·, none)) k := by
  simp [lookupVal, lookupValG, lookupTbl_eq_lookupG]

theorem lookupTbl_append (t : Tbl) (p q : List Bytes) :
    lookupTbl t (p ++ q) = (lookupTbl t p).bind (fun u => lookupTbl u q) := by
  induction p generalizing t with
  | nil => rfl
  | cons k ks ih =>
    simp only [List.cons_append, lookupTbl]
    cases alookup k t.items with
    | none => rfl
    | some it =>
      cases it with
      | value v => rfl
      | table sub => exact ih sub
      | aot ts =>
        simp only []
        cases ts.getLast? with
        | none => rfl
        | some l => exact ih l

theorem lookupVal_append (t u : Tbl) (p q : List Bytes) (k : Bytes) (h : lookupTbl t p = some u) :
    lookupVal t (p ++ q) k = lookupVal u q k := by
  simp [lookupVal, lookupTbl_append, h]

@[simp] theorem items_setItems (t : Tbl) (l : List (Bytes × Item)) : (t.setItems l).items = l := rfl
@[simp] theorem implicit_setItems (t : Tbl) (l : List (Bytes × Item)) : (t.setItems l).implicit = t.implicit := rfl
@[simp] theorem dotted_setItems (t : Tbl) (l : List (Bytes × Item)) : (t.setItems l).dotted = t.dotted := rfl
@[simp] theorem items_newImplicit (d : Bool) : (newImplicit d).items = [] := rfl

theorem setItems_setItems (t : Tbl) (a b : List (Bytes × Item)) : (t.setItems a).setItems b = t.setItems b := rfl

theorem setItems_self (t : Tbl) : t.setItems t.items = t := by cases t; rfl

theorem modifyLast_append (init : List Tbl) (l : Tbl) (g : Tbl → Option Tbl) :
    modifyLast (init ++ [l]) g = (g l).map (fun l' => init ++ [l']) := by
  unfold modifyLast
  simp
  cases g l <;> rfl

theorem modifyLast_eq (ts : List Tbl) (g : Tbl → Option Tbl) :
    modifyLast ts g = ts.getLast?.bind fun l => (g l).map fun l' => ts.dropLast ++ [l'] := by
  rcases List.eq_nil_or_concat ts with rfl | ⟨init, l, rfl⟩
  · rfl
  · rw [List.concat_eq_append, modifyLast_append]; simp

def focus (d : Bool) : Tbl → List Bytes → Option Tbl
  | t, [] => some t
  | t, k :: ks => match (alookup k t.items).getD (.table (newImplicit d)) with
    | .value _ => none
    | .aot ts => if d && !ks.isEmpty then none else
        match ts.getLast? with
        | some l => focus d l ks
        | none => none
    | .table sub => if d && !sub.implicit then none else focus d sub ks

def plug (d : Bool) : Tbl → List Bytes → Tbl → Tbl
  | _, [], u => u
  | t, k :: ks, u => match (alookup k t.items).getD (.table (newImplicit d)) with
    | .value _ => t
    | .aot ts => match ts.getLast? with
        | some l => t.setItems (aset k (.aot (ts.dropLast ++ [plug d l ks u])) t.items)
        | none => t
    | .table sub => t.setItems (aset k (.table (plug d sub ks u)) t.items)

theorem descend_eq (t : Tbl) (p : List Bytes) (d : Bool) (f : Tbl → Option Tbl) :
    descend t p d f = (focus d t p).bind fun u => (f u).map (plug d t p) := by
  induction p generalizing t with
  | nil => simp [descend, focus, plug]
  | cons k ks ih =>
    rw [descend, focus]
    simp only [plug]
    cases (alookup k t.items).getD (.table (newImplicit d)) with
    | value v => rfl
    | table sub =>
      simp only []
      by_cases hc : (d && !sub.implicit) = true
      · rw [if_pos hc, if_pos hc]; rfl
      · rw [if_neg hc, if_neg hc, ih sub]
        cases focus d sub ks with
        | none => rfl
        | some u => simp only [Option.bind_some]; cases f u <;> rfl
    | aot ts =>
      simp only []
      by_cases hc : (d && !ks.isEmpty) = true
      · rw [if_pos hc, if_pos hc]; rfl
      · rw [if_neg hc, if_neg hc, modifyLast_eq]
        cases ts.getLast? with
        | none => rfl
        | some l =>
          simp only [Option.bind_some, ih l]
          cases focus d l ks with
          | none => rfl
          | some u => simp only [Option.bind_some]; cases f u <;> rfl

theorem descend_none_iff (t : Tbl) (p : List Bytes) (d : Bool) (f : Tbl → Option Tbl) :
    descend t p d f = none ↔ ∀ u, focus d t p = some u → f u = none := by
  rw [descend_eq]
  cases focus d t p with
  | none => simp
  | some u => cases f u <;> simp

theorem descend_some_iff (t t' : Tbl) (p : List Bytes) (d : Bool) (f : Tbl → Option Tbl) :
    descend t p d f = some t' ↔ ∃ u u', focus d t p = some u ∧ f u = some u' ∧ t' = plug d t p u' := by
  rw [descend_eq]
  cases focus d t p with
  | none => simp
  | some u => cases hf : f u <;> simp [hf, eq_comm]

theorem focus_cons_table {d : Bool} {t sub : Tbl} {k : Bytes} (ks : List Bytes)
    (he : (alookup k t.items).getD (.table (newImplicit d)) = .table sub) :
    focus d t (k :: ks) = if d && !sub.implicit then none else focus d sub ks := by
  rw [focus, he]

theorem plug_cons_table {d : Bool} {t sub : Tbl} {k : Bytes} (ks : List Bytes) (x : Tbl)
    (he : (alookup k t.items).getD (.table (newImplicit d)) = .table sub) :
    plug d t (k :: ks) x = t.setItems (aset k (.table (plug d sub ks x)) t.items) := by
  rw [plug, he]

theorem focus_cons_aot {d : Bool} {t l : Tbl} {init : List Tbl} {k : Bytes} (ks : List Bytes)
    (ha : alookup k t.items = some (.aot (init ++ [l]))) :
    focus d t (k :: ks) = if d && !ks.isEmpty then none else focus d l ks := by
  rw [focus, ha]; simp

theorem plug_cons_aot {d : Bool} {t l : Tbl} {init : List Tbl} {k : Bytes} (ks : List Bytes) (x : Tbl)
    (ha : alookup k t.items = some (.aot (init ++ [l]))) :
    plug d t (k :: ks) x = t.setItems (aset k (.aot (init ++ [plug d l ks x])) t.items) := by
  rw [plug, ha]; simp

theorem focus_cons_some {d : Bool} {t u : Tbl} {k : Bytes} {ks : List Bytes} (h : focus d t (k :: ks) = some u) :
    (∃ sub, (alookup k t.items).getD (.table (newImplicit d)) = .table sub ∧ (d && !sub.implicit) = false ∧
        focus d sub ks = some u) ∨
    (∃ init l, alookup k t.items = some (.aot (init ++ [l])) ∧ (d && !ks.isEmpty) = false ∧
        focus d l ks = some u) := by
  rw [focus] at h
  cases he : (alookup k t.items).getD (.table (newImplicit d)) with
  | value v => rw [he] at h; cases h
  | table sub =>
    rw [he] at h
    simp only [] at h
    by_cases hc : (d && !sub.implicit) = true
    · rw [if_pos hc] at h; cases h
    · rw [if_neg hc] at h
      exact Or.inl ⟨sub, rfl, by simpa using hc, h⟩
  | aot ts =>
    rw [he] at h
    simp only [] at h
    have ha : alookup k t.items = some (.aot ts) := by
      cases hx : alookup k t.items with
      | none => simp [hx, newImplicit] at he
      | some it => simp [hx] at he; rw [he]
    by_cases hc : (d && !ks.isEmpty) = true
    · rw [if_pos hc] at h; cases h
    · rw [if_neg hc] at h
      rcases List.eq_nil_or_concat ts with rfl | ⟨init, l, rfl⟩
      · cases h
      · rw [List.concat_eq_append] at h ha
        simp only [List.getLast?_append, List.getLast?_singleton, Option.some_or] at h
        exact Or.inr ⟨init, l, ha, by simpa using hc, h⟩

theorem focus_induct {d : Bool} {motive : Tbl → List Bytes → Tbl → Prop}
    (nil : ∀ t, motive t [] t)
    (table : ∀ t k ks sub u, (alookup k t.items).getD (.table (newImplicit d)) = .table sub →
      (d && !sub.implicit) = false → focus d sub ks = some u → motive sub ks u → motive t (k :: ks) u)
    (aot : ∀ t k ks init l u, alookup k t.items = some (.aot (init ++ [l])) →
      (d && !ks.isEmpty) = false → focus d l ks = some u → motive l ks u → motive t (k :: ks) u)
    {t : Tbl} {p : List Bytes} {u : Tbl} (h : focus d t p = some u) : motive t p u := by
  induction p generalizing t with
  | nil => simp only [focus, Option.some.injEq] at h; subst h; exact nil t
  | cons k ks ih =>
    rcases focus_cons_some h with ⟨sub, he, hc, hs⟩ | ⟨init, l, ha, hc, hs⟩
    · exact table t k ks sub u he hc hs (ih hs)
    · exact aot t k ks init l u ha hc hs (ih hs)

theorem descend_cons_some (t t' : Tbl) (k : Bytes) (ks : List Bytes) (d : Bool) (f : Tbl → Option Tbl)
    (h : descend t (k :: ks) d f = some t') :
    (∃ sub sub', (alookup k t.items).getD (.table (newImplicit d)) = .table sub ∧ (d && !sub.implicit) = false ∧
        descend sub ks d f = some sub' ∧ t' = t.setItems (aset k (.table sub') t.items)) ∨
    (∃ init l l', alookup k t.items = some (.aot (init ++ [l])) ∧ (d && !ks.isEmpty) = false ∧
        descend l ks d f = some l' ∧ t' = t.setItems (aset k (.aot (init ++ [l'])) t.items)) := by
  obtain ⟨u, u', hu, hf, rfl⟩ := (descend_some_iff ..).1 h
  rcases focus_cons_some hu with ⟨sub, he, hc, hs⟩ | ⟨init, l, ha, hc, hs⟩
  · exact Or.inl ⟨sub, _, he, hc, (descend_some_iff ..).2 ⟨u, u', hs, hf, rfl⟩, plug_cons_table ks u' he⟩
  · exact Or.inr ⟨init, l, _, ha, hc, (descend_some_iff ..).2 ⟨u, u', hs, hf, rfl⟩, plug_cons_aot ks u' ha⟩

/-- the table `descend t path d f` hands to `f`: the one found by `lookupTbl`, or a fresh implicit one -/
def target (t : Tbl) (path : List Bytes) (d : Bool) : Tbl := (lookupTbl t path).getD (newImplicit d)

theorem target_cons_table (t sub : Tbl) (k : Bytes) (ks : List Bytes) (d : Bool)
    (h : (alookup k t.items).getD (.table (newImplicit d)) = .table sub) :
    target t (k :: ks) d = target sub ks d := by
  unfold target
  cases ha : alookup k t.items with
  | none =>
    simp [ha] at h; subst h
    cases ks <;> simp [lookupTbl, ha, alookup]
  | some it =>
    simp [ha] at h; subst h
    simp [lookupTbl, ha]

theorem focus_target {d : Bool} {t u : Tbl} {p : List Bytes} (h : focus d t p = some u) : target t p d = u :=
  focus_induct (motive := fun t p u => target t p d = u) (fun _ => rfl)
    (fun t k ks sub _ he _ _ ih => by rw [target_cons_table t sub k ks d he]; exact ih)
    (fun t k ks init l _ ha _ _ ih => by rw [← ih]; simp [target, lookupTbl, ha]) h

theorem focus_of_lookup {d : Bool} {t u x : Tbl} {p : List Bytes} (hl : lookupTbl t p = some u)
    (h : focus d t p = some x) : x = u := by
  rw [← focus_target h, target, hl]; rfl

theorem lookupTbl_plug {d : Bool} {t u : Tbl} {p : List Bytes} (h : focus d t p = some u) (x : Tbl) :
    lookupTbl (plug d t p x) p = some x :=
  focus_induct (motive := fun t p _ => lookupTbl (plug d t p x) p = some x) (fun _ => rfl)
    (fun t k ks sub _ he _ _ ih => by rw [plug_cons_table ks x he]; simp [lookupTbl, alookup_aset_same, ih])
    (fun t k ks init l _ ha _ _ ih => by rw [plug_cons_aot ks x ha]; simp [lookupTbl, alookup_aset_same, ih]) h

/-- Only for header walks: a dotted walk refuses a table that is not implicit, so after an arbitrary
    `x` has been put on the path it need not pass again. -/
theorem focus_plug {t u : Tbl} {p : List Bytes} (h : focus false t p = some u) (x : Tbl) :
    focus false (plug false t p x) p = some x :=
  focus_induct (motive := fun t p _ => focus false (plug false t p x) p = some x) (fun _ => rfl)
    (fun t k ks sub _ he _ _ ih => by
      rw [plug_cons_table ks x he, focus_cons_table (sub := plug false sub ks x) ks (by simp [alookup_aset_same])]
      exact ih)
    (fun t k ks init l _ ha _ _ ih => by
      rw [plug_cons_aot ks x ha,
        focus_cons_aot (l := plug false l ks x) (init := init) ks (by simp [alookup_aset_same])]
      exact ih) h

theorem plug_plug {d : Bool} {t u : Tbl} {p : List Bytes} (h : focus d t p = some u) (x y : Tbl) :
    plug d (plug d t p x) p y = plug d t p y :=
  focus_induct (motive := fun t p _ => plug d (plug d t p x) p y = plug d t p y) (fun _ => rfl)
    (fun t k ks sub _ he _ _ ih => by
      rw [plug_cons_table ks x he, plug_cons_table ks y he,
        plug_cons_table (sub := plug d sub ks x) ks y (by simp [alookup_aset_same]), ih]
      simp only [items_setItems, aset_aset, setItems_setItems])
    (fun t k ks init l _ ha _ _ ih => by
      rw [plug_cons_aot ks x ha, plug_cons_aot ks y ha,
        plug_cons_aot (l := plug d l ks x) (init := init) ks y (by simp [alookup_aset_same]), ih]
      simp only [items_setItems, aset_aset, setItems_setItems]) h

theorem plug_flags {d : Bool} {t u : Tbl} {p : List Bytes} (h : focus d t p = some u) :
    (plug d t p u).implicit = t.implicit ∧ (plug d t p u).dotted = t.dotted :=
  focus_induct (motive := fun t p u => (plug d t p u).implicit = t.implicit ∧ (plug d t p u).dotted = t.dotted)
    (fun _ => ⟨rfl, rfl⟩)
    (fun t k ks sub u he _ _ _ => by rw [plug_cons_table ks u he]; exact ⟨rfl, rfl⟩)
    (fun t k ks init l u ha _ _ _ => by rw [plug_cons_aot ks u ha]; exact ⟨rfl, rfl⟩) h

theorem focus_false_of_lookup {V W : Tbl} {P : List Bytes} (h : lookupTbl V P = some W) : focus false V P = some W := by
  induction P generalizing V with
  | nil => exact h
  | cons k ks ih =>
    rw [lookupTbl] at h
    rw [focus]
    cases ha : alookup k V.items with
    | none => rw [ha] at h; cases h
    | some it =>
      rw [ha] at h
      cases it with
      | value v => cases h
      | table sub => exact ih h
      | aot ts =>
        simp only [Option.getD_some, Bool.false_and, Bool.false_eq_true, if_false] at h ⊢
        cases hl : ts.getLast? with
        | none => rw [hl] at h; cases h
        | some l => rw [hl] at h; exact ih h

/-- A dotted walk refuses an array of tables in the middle of `p ++ q` and accepts one at the end of
    `p`: only an implication (for header walks an equality). -/
theorem focus_append {d : Bool} {t x : Tbl} {p q : List Bytes} (h : focus d t (p ++ q) = some x) :
    ∃ u, focus d t p = some u ∧ focus d u q = some x := by
  induction p generalizing t with
  | nil => exact ⟨t, rfl, h⟩
  | cons k ks ih =>
    rw [List.cons_append] at h
    rcases focus_cons_some h with ⟨sub, he, hc, hs⟩ | ⟨init, l, ha, hc, hs⟩
    · rw [focus_cons_table ks he, hc]; exact ih hs
    · have hc' : (d && !ks.isEmpty) = false := by
        cases d with
        | false => rfl
        | true => cases ks <;> simp at hc ⊢
      rw [focus_cons_aot ks ha, hc']; exact ih hs

theorem descend_cons_table (t sub : Tbl) (k : Bytes) (ks : List Bytes) (d : Bool) (f : Tbl → Option Tbl)
    (he : (alookup k t.items).getD (.table (newImplicit d)) = .table sub) (hc : (d && !sub.implicit) = false) :
    descend t (k :: ks) d f = (descend sub ks d f).map (fun s' => t.setItems (aset k (.table s') t.items)) := by
  rw [descend]
  simp only [he, hc]
  cases descend sub ks d f <;> simp

theorem descend_cons_aot (t l : Tbl) (init : List Tbl) (k : Bytes) (ks : List Bytes) (d : Bool) (f : Tbl → Option Tbl)
    (ha : alookup k t.items = some (.aot (init ++ [l]))) (hca : (d && !ks.isEmpty) = false) :
    descend t (k :: ks) d f = (descend l ks d f).map (fun l' => t.setItems (aset k (.aot (init ++ [l'])) t.items)) := by
  rw [descend]
  simp only [ha, Option.getD_some, modifyLast_append, hca]
  cases descend l ks d f <;> simp

theorem descend_cons_value (t : Tbl) (x : Val) (k : Bytes) (ks : List Bytes) (d : Bool) (f : Tbl → Option Tbl)
    (ha : alookup k t.items = some (.value x)) : descend t (k :: ks) d f = none := by
  rw [descend]
  simp only [ha, Option.getD_some]

theorem descend_append_false (t : Tbl) (p q : List Bytes) (f : Tbl → Option Tbl) :
    descend t (p ++ q) false f = descend t p false (fun u => descend u q false f) := by
  induction p generalizing t with
  | nil => simp [descend]
  | cons k ks ih =>
    rw [List.cons_append, descend, descend]
    simp only [ih, Bool.false_and]

theorem descend_descend (t t' : Tbl) (path : List Bytes) (f g : Tbl → Option Tbl)
    (h : descend t path false f = some t') :
    descend t' path false g = descend t path false (fun u => (f u).bind g) := by
  obtain ⟨u, u', hu, hf, rfl⟩ := (descend_some_iff ..).1 h
  rw [descend_eq, descend_eq, focus_plug hu, hu]
  simp only [Option.bind_some, hf]
  cases g u' with
  | none => rfl
  | some y => simp [plug_plug hu]

theorem descend_congr (t : Tbl) (path : List Bytes) (d : Bool) (f g : Tbl → Option Tbl)
    (h : f (target t path d) = g (target t path d)) : descend t path d f = descend t path d g := by
  rw [descend_eq, descend_eq]
  cases hu : focus d t path with
  | none => rfl
  | some u => rw [focus_target hu] at h; simp only [Option.bind_some, h]

theorem plug_lookup {d : Bool} {t u : Tbl} {p : List Bytes} (h : lookupTbl t p = some u) : plug d t p u = t := by
  induction p generalizing t with
  | nil => simp only [lookupTbl, Option.some.injEq] at h; exact h.symm
  | cons k ks ih =>
    rw [lookupTbl] at h
    rw [plug]
    cases ha : alookup k t.items with
    | none => rw [ha] at h; cases h
    | some it =>
      rw [ha] at h
      cases it with
      | value v => cases h
      | table sub =>
        simp only [Option.getD_some]
        rw [ih h, aset_self _ _ _ ha, setItems_self]
      | aot ts =>
        simp only [Option.getD_some] at h ⊢
        cases hl : ts.getLast? with
        | none => rfl
        | some l =>
          obtain ⟨init, rfl⟩ := List.getLast?_eq_some_iff.1 hl
          rw [hl] at h
          have e : (init ++ [l]).dropLast = init := by simp
          simp only [] at h ⊢
          rw [ih h, e, aset_self _ _ _ ha, setItems_self]

end TomlVerif.Lemmas.State09

namespace TomlVerif.Lemmas.Encode06d
open TomlVerif TomlVerif.Model TomlVerif.Model.State TomlVerif.Lemmas.State09

theorem descend_some (V W W' : Tbl) (P : List Bytes) (f : Tbl → Option Tbl) (h : lookupTbl V P = some W)
    (hf : f W = some W') : ∃ V', descend V P false f = some V' ∧ lookupTbl V' P = some W' :=
  ⟨plug false V P W', (descend_some_iff ..).2 ⟨W, W', focus_false_of_lookup h, hf, rfl⟩,
    lookupTbl_plug (focus_false_of_lookup h) W'⟩

theorem descend_id (V W : Tbl) (P : List Bytes) (f : Tbl → Option Tbl) (h : lookupTbl V P = some W)
    (hf : f W = some W) : descend V P false f = some V := by
  rw [descend_eq, focus_false_of_lookup h]
  simp only [Option.bind_some, hf, Option.map_some, plug_lookup h]

theorem descend_congr_at (V W : Tbl) (P : List Bytes) (f g : Tbl → Option Tbl) (h : lookupTbl V P = some W)
    (hfg : f W = g W) : descend V P false f = descend V P false g :=
  descend_congr V P false f g (by simpa [target, h] using hfg)

theorem descend_then (V V1 W : Tbl) (P : List Bytes) (f g h : Tbl → Option Tbl) (hV1 : descend V P false f = some V1)
    (hW : lookupTbl V P = some W) (hfg : (f W).bind g = h W) : descend V1 P false g = descend V P false h := by
  rw [descend_descend V V1 P f g hV1]
  exact descend_congr_at V W P _ _ hW hfg

end TomlVerif.Lemmas.Encode06d
