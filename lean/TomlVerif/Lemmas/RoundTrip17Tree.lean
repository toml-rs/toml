import TomlVerif.Lemmas.RoundTrip17Sections
/-! Round trip of `toml::Value` trees, facts about the tree itself: `norm` on a well-formed tree is `normTV`
    (`norm_eq`); every printed statement is parseable (`stokG_*`); the tree in document order is well formed
    (`ok_docTbl`); `Value`'s visitor on what `toml_edit`'s deserializer shows of a tree rebuilds it with every
    table's entries placed by the target map (`placeTV`, `visit_presEdit_wf` for the trees `WfTV`: those of a parsed document
    without the private date-time key, of which the `OkV` trees are a part). -/
namespace TomlVerif.Lemmas.RoundTrip17
open TomlVerif.Model.DeText
open TomlVerif TomlVerif.Spec TomlVerif.Model TomlVerif.Model.TomlValue TomlVerif.Model.DeRoutes
open TomlVerif.Model.Value (LIMIT)
open TomlVerif.Lemmas.State09

theorem okPs_iff (l : List (Bytes × TV)) : OkPs l ↔ ∀ e ∈ l, OkV e.2 := by
  induction l with
  | nil => simp [OkPs]
  | cons x r ih => obtain ⟨k, v⟩ := x; simp [OkPs, ih]

theorem okVs_iff (l : List TV) : OkVs l ↔ ∀ v ∈ l, OkV v := by
  induction l with
  | nil => simp [OkVs]
  | cons x r ih => simp [OkVs, ih]

theorem depthTVPs_le (l : List (Bytes × TV)) (n : Nat) : depthTVPs l ≤ n ↔ ∀ e ∈ l, depthTV e.2 ≤ n := by
  induction l with
  | nil => simp [depthTVPs]
  | cons x r ih => obtain ⟨k, v⟩ := x; simp [depthTVPs, ih, Nat.max_le]

theorem depthTVs_le (l : List TV) (n : Nat) : depthTVs l ≤ n ↔ ∀ v ∈ l, depthTV v ≤ n := by
  induction l with
  | nil => simp [depthTVs]
  | cons x r ih => simp [depthTVs, ih, Nat.max_le]

theorem mem_serOrder (l : List (Bytes × TV)) (e : Bytes × TV) : e ∈ serOrder l ↔ e ∈ l := by
  exact (TomlValue17.serOrder_perm l).mem_iff

theorem serOrder_keys_perm (l : List (Bytes × TV)) : ((serOrder l).map Prod.fst).Perm (l.map Prod.fst) :=
  (TomlValue17.serOrder_perm l).map _

mutual
/-- `norm` without the date-time re-read: `serOrder` at every table -/
def normTV : TV → TV
  | .arr l => .arr (normTVs l)
  | .tbl items => .tbl (serOrder (normTVPs items))
  | .str s => .str s
  | .int n => .int n
  | .float b => .float b
  | .bool b => .bool b
  | .dt d => .dt d
def normTVs : List TV → List TV
  | [] => []
  | v :: r => normTV v :: normTVs r
def normTVPs : List (Bytes × TV) → List (Bytes × TV)
  | [] => []
  | (k, v) :: r => (k, normTV v) :: normTVPs r
end

mutual
theorem norm_eq : ∀ v : TV, OkV v → norm v = some (normTV v)
  | .str _, _ | .int _, _ | .float _, _ | .bool _, _ => by simp [norm, normTV]
  | .dt d, h => by
    rw [OkV] at h
    simp [norm, normTV, (Props.C12.T12_roundtrip d h.1 h.2).1]
  | .arr l, h => by rw [OkV] at h; simp [norm, normTV, normList_eq l h]
  | .tbl items, h => by rw [OkV] at h; simp [norm, normTV, normPairs_eq items h.1]
theorem normList_eq : ∀ l : List TV, OkVs l → normList l = some (normTVs l)
  | [], _ => by simp [normList, normTVs]
  | v :: r, h => by rw [OkVs] at h; simp [normList, normTVs, norm_eq v h.1, normList_eq r h.2]
theorem normPairs_eq : ∀ l : List (Bytes × TV), OkPs l → normPairs l = some (normTVPs l)
  | [], _ => by simp [normPairs, normTVPs]
  | (k, v) :: r, h => by rw [OkPs] at h; simp [normPairs, normTVPs, norm_eq v h.1, normPairs_eq r h.2]
end

theorem toText_congr (f : FloatText) (p : Bool) (v w : TV) (hv : OkV v) (hw : OkV w) (e : normTV v = normTV w) :
    toText f p v = toText f p w := by
  unfold toText; rw [norm_eq v hv, norm_eq w hw, e]

theorem toText_tbl (f : FloatText) (p : Bool) (v : TV) (items : List (Bytes × TV)) (h : OkV v)
    (hn : normTV v = .tbl items) :
    toText f p v = .ok (renderStmts f p (ownValues items).isEmpty (emitDoc items)) :=
  (TomlValue17.toText_ok_iff f p v _).2 ⟨items, by rw [norm_eq v h, hn], rfl⟩

theorem toText_ok (f : FloatText) (p : Bool) (v : TV) (t : Bytes) (h : OkV v) (ht : toText f p v = .ok t) :
    ∃ items, normTV v = .tbl items ∧ t = renderStmts f p (ownValues items).isEmpty (emitDoc items) := by
  obtain ⟨items, hn, e⟩ := (TomlValue17.toText_ok_iff f p v t).1 ht
  rw [norm_eq v h] at hn
  exact ⟨items, Option.some.inj hn, e⟩

theorem normTVs_eq_map (l : List TV) : normTVs l = l.map normTV := by
  induction l with
  | nil => rfl
  | cons x r ih => simp [normTVs, ih]

theorem normTVPs_eq_map (l : List (Bytes × TV)) : normTVPs l = l.map fun e => (e.1, normTV e.2) := by
  induction l with
  | nil => rfl
  | cons x r ih => obtain ⟨k, v⟩ := x; simp [normTVPs, ih]

theorem normTVPs_keys (l : List (Bytes × TV)) : (normTVPs l).map Prod.fst = l.map Prod.fst := by
  rw [normTVPs_eq_map, List.map_map]; rfl

mutual
theorem ok_normTV : ∀ v : TV, OkV v → OkV (normTV v) ∧ depthTV (normTV v) ≤ depthTV v
  | .str _, h | .int _, h | .float _, h | .bool _, h | .dt _, h => ⟨by simpa [normTV] using h, by simp [normTV]⟩
  | .arr l, h => by
    rw [OkV] at h
    have := ok_normTVs l h
    rw [normTV, OkV, depthTV, depthTV]
    exact ⟨this.1, by omega⟩
  | .tbl items, h => by
    rw [OkV] at h
    have hp := ok_normTVPs items h.1
    rw [normTV, OkV, depthTV, depthTV]
    refine ⟨⟨?_, ?_, ?_⟩, ?_⟩
    · rw [okPs_iff]
      intro e he
      exact (okPs_iff _).1 hp.1 e ((mem_serOrder _ e).1 he)
    · rw [(serOrder_keys_perm _).nodup_iff, normTVPs_keys]; exact h.2.1
    · rw [(serOrder_keys_perm _).mem_iff, normTVPs_keys]; exact h.2.2
    · have : depthTVPs (serOrder (normTVPs items)) ≤ depthTVPs (normTVPs items) := by
        rw [depthTVPs_le]
        intro e he
        exact (depthTVPs_le _ _).1 (Nat.le_refl _) e ((mem_serOrder _ e).1 he)
      omega
theorem ok_normTVs : ∀ l : List TV, OkVs l → OkVs (normTVs l) ∧ depthTVs (normTVs l) ≤ depthTVs l
  | [], _ => by simp [normTVs, OkVs, depthTVs]
  | v :: r, h => by
    rw [OkVs] at h
    have h1 := ok_normTV v h.1
    have h2 := ok_normTVs r h.2
    rw [normTVs, OkVs, depthTVs, depthTVs]
    exact ⟨⟨h1.1, h2.1⟩, by omega⟩
theorem ok_normTVPs : ∀ l : List (Bytes × TV), OkPs l → OkPs (normTVPs l) ∧ depthTVPs (normTVPs l) ≤ depthTVPs l
  | [], _ => by simp [normTVPs, OkPs, depthTVPs]
  | (k, v) :: r, h => by
    rw [OkPs] at h
    have h1 := ok_normTV v h.1
    have h2 := ok_normTVPs r h.2
    rw [normTVPs, OkPs, depthTVPs, depthTVPs]
    exact ⟨⟨h1.1, h2.1⟩, by omega⟩
end

theorem mem_ownValues (items : List (Bytes × TV)) (e : Bytes × TV) (h : e ∈ ownValues items) : e ∈ items := by
  simp only [ownValues, List.mem_filter] at h; exact h.1

/-- Every printed statement is parseable: stated once over a predicate `Ok` on trees that passes to the children, and
one `S` on statements that holds of short headers and of key/value lines with an `Ok` value (`OkV` / `StmtOk` and
`OkF fl` / `StmtOkF fl` are the instances). -/
structure Printable (Ok : TV → Prop) (S : TomlValue.Stmt → Prop) : Prop where
  tbl : ∀ items, Ok (.tbl items) → ∀ e ∈ items, Ok e.2
  arr : ∀ l, Ok (.arr l) → ∀ v ∈ l, Ok v
  hdr : ∀ path : List Bytes, path ≠ [] → path.length < LIMIT → S (.header path) ∧ S (.aotHeader path)
  kv : ∀ k v, Ok v → depthTV v < LIMIT → S (.kv k v)

section
variable {Ok : TV → Prop} {S : TomlValue.Stmt → Prop}

theorem stokG_table (P : Printable Ok S) (path : List Bytes) (isAot : Bool) (items : List (Bytes × TV)) (subs : List TomlValue.Stmt)
    (hne : path ≠ []) (hl : path.length < LIMIT) (hi : ∀ e ∈ items, Ok e.2) (hd : depthTVPs items < LIMIT)
    (hs : ∀ s ∈ subs, S s) : ∀ s ∈ tableStmts path isAot items subs, S s := by
  intro s hs'
  simp only [tableStmts, List.mem_append] at hs'
  rcases hs' with (hs' | hs') | hs'
  · rw [TomlValue17.headerOf_of_ne hne] at hs'
    split at hs'
    · simp at hs'; subst hs'; exact (P.hdr path hne hl).2
    · split at hs'
      · simp at hs'
      · simp at hs'; subst hs'; exact (P.hdr path hne hl).1
  · simp only [ownKvs, List.mem_map] at hs'
    obtain ⟨e, he, rfl⟩ := hs'
    have he := mem_ownValues items e he
    exact P.kv e.1 e.2 (hi e he) (Nat.lt_of_le_of_lt ((depthTVPs_le items _).1 (Nat.le_refl _) e he) hd)
  · exact hs s hs'

mutual
theorem stokG_subs (P : Printable Ok S) : ∀ (items : List (Bytes × TV)) (path : List Bytes), (∀ e ∈ items, Ok e.2) →
    path.length + 1 + depthTVPs items ≤ LIMIT → ∀ s ∈ emitSubs path items, S s
  | [], _, _, _ => by intro s hs; simp [emitSubs] at hs
  | (k, v) :: r, path, h, hd => by
    rw [depthTVPs] at hd
    intro s hs
    rw [emitSubs, List.mem_append] at hs
    rcases hs with hs | hs
    · exact stokG_item P v (path ++ [k]) (h (k, v) (by simp)) (by simp) (by simp; omega) s hs
    · exact stokG_subs P r path (fun e he => h e (by simp [he])) (by omega) s hs
theorem stokG_item (P : Printable Ok S) : ∀ (v : TV) (path : List Bytes), Ok v → path ≠ [] → path.length + depthTV v ≤ LIMIT →
    ∀ s ∈ emitItem path v, S s
  | .tbl items, path, h, hne, hd => by
    rw [depthTV] at hd
    rw [emitItem]
    exact stokG_table P path false items _ hne (by omega) (P.tbl items h) (by omega)
      (stokG_subs P items path (P.tbl items h) (by omega))
  | .arr l, path, h, hne, hd => by
    rw [depthTV] at hd
    rw [emitItem]
    split
    · exact stokG_aot P l path (P.arr l h) hne (by omega)
    · intro s hs; cases hs
  | .str _, _, _, _, _ | .int _, _, _, _, _ | .float _, _, _, _, _ | .bool _, _, _, _, _ | .dt _, _, _, _, _ => by
    intro s hs; simp [emitItem] at hs
theorem stokG_aot (P : Printable Ok S) : ∀ (l : List TV) (path : List Bytes), (∀ v ∈ l, Ok v) → path ≠ [] →
    path.length + depthTVs l ≤ LIMIT → ∀ s ∈ emitAot path l, S s
  | [], _, _, _, _ => by intro s hs; simp [emitAot] at hs
  | v :: r, path, h, hne, hd => by
    rw [depthTVs] at hd
    have hr := stokG_aot P r path (fun w hw => h w (by simp [hw])) hne (by omega)
    cases v with
    | tbl items =>
      have hi := P.tbl items (h _ (by simp))
      rw [depthTV] at hd
      intro s hs
      rw [emitAot, List.mem_append] at hs
      rcases hs with hs | hs
      · exact stokG_table P path true items _ hne (by omega) hi (by omega)
          (stokG_subs P items path hi (by omega)) s hs
      · exact hr s hs
    | _ => simp only [emitAot]; exact hr
end

theorem stokG_doc (P : Printable Ok S) (items : List (Bytes × TV)) (h : ∀ e ∈ items, Ok e.2) (hd : 1 + depthTVPs items ≤ LIMIT) :
    ∀ s ∈ emitDoc items, S s := by
  intro s hs
  rw [TomlValue17.emitDoc_eq, List.mem_append] at hs
  rcases hs with hs | hs
  · simp only [ownKvs, List.mem_map] at hs
    obtain ⟨e, he, rfl⟩ := hs
    have he := mem_ownValues items e he
    exact P.kv e.1 e.2 (h e he) (by have := (depthTVPs_le items _).1 (Nat.le_refl _) e he; omega)
  · exact stokG_subs P items [] h (by simpa using hd) s hs

end

theorem okV_tbl (items : List (Bytes × TV)) (h : OkV (.tbl items)) : ∀ e ∈ items, OkV e.2 := by
  rw [OkV] at h; exact (okPs_iff items).1 h.1
theorem okV_arr (l : List TV) (h : OkV (.arr l)) : ∀ v ∈ l, OkV v := by
  rw [OkV] at h; exact (okVs_iff l).1 h

theorem okV_printable : Printable OkV StmtOk :=
  ⟨okV_tbl, okV_arr, fun _ a b => ⟨⟨a, b⟩, a, b⟩, fun _ _ a b => ⟨a, b⟩⟩

theorem stok_item : ∀ (v : TV) (path : List Bytes), OkV v → path ≠ [] → path.length + depthTV v ≤ LIMIT →
    ∀ s ∈ emitItem path v, StmtOk s :=
  stokG_item okV_printable

theorem stok_aot : ∀ (l : List TV) (path : List Bytes), OkVs l → path ≠ [] → path.length + depthTVs l ≤ LIMIT →
    ∀ s ∈ emitAot path l, StmtOk s :=
  fun l path h => stokG_aot okV_printable l path ((okVs_iff l).1 h)

theorem stok_doc (items : List (Bytes × TV)) (h : OkPs items) (hd : 1 + depthTVPs items ≤ LIMIT) :
    ∀ s ∈ emitDoc items, StmtOk s :=
  stokG_doc okV_printable items ((okPs_iff items).1 h) hd

end TomlVerif.Lemmas.RoundTrip17

namespace TomlVerif.Lemmas.Ser07TextF
open TomlVerif TomlVerif.Spec TomlVerif.Model TomlVerif.Model.TomlValue TomlVerif.Model.DeRoutes
open TomlVerif.Model.Value (LIMIT)
open TomlVerif.Lemmas.RoundTrip17

theorem okFPs_iff (fl : FloatText) (l : List (Bytes × TV)) : OkFPs fl l ↔ ∀ e ∈ l, OkF fl e.2 := by
  induction l with
  | nil => simp [OkFPs]
  | cons x r ih => obtain ⟨k, v⟩ := x; simp [OkFPs, ih]

theorem okFs_iff (fl : FloatText) (l : List TV) : OkFs fl l ↔ ∀ v ∈ l, OkF fl v := by
  induction l with
  | nil => simp [OkFs]
  | cons x r ih => simp [OkFs, ih]

theorem okF_tbl (fl : FloatText) (items : List (Bytes × TV)) (h : OkF fl (.tbl items)) : ∀ e ∈ items, OkF fl e.2 := by
  rw [OkF] at h; exact (okFPs_iff fl items).1 h.1
theorem okF_arr (fl : FloatText) (l : List TV) (h : OkF fl (.arr l)) : ∀ v ∈ l, OkF fl v := by
  rw [OkF] at h; exact (okFs_iff fl l).1 h

theorem okF_printable (fl : FloatText) : Printable (OkF fl) (StmtOkF fl) :=
  ⟨okF_tbl fl, okF_arr fl, fun _ a b => ⟨⟨a, b⟩, a, b⟩, fun _ _ a b => ⟨a, b⟩⟩

theorem stokF_item (fl : FloatText) : ∀ (v : TV) (path : List Bytes), OkF fl v → path ≠ [] → path.length + depthTV v ≤ LIMIT →
    ∀ s ∈ emitItem path v, StmtOkF fl s :=
  stokG_item (okF_printable fl)

theorem stokF_aot (fl : FloatText) : ∀ (l : List TV) (path : List Bytes), OkFs fl l → path ≠ [] → path.length + depthTVs l ≤ LIMIT →
    ∀ s ∈ emitAot path l, StmtOkF fl s :=
  fun l path h => stokG_aot (okF_printable fl) l path ((okFs_iff fl l).1 h)

theorem stokF_doc (fl : FloatText) (items : List (Bytes × TV)) (h : OkFPs fl items) (hd : 1 + depthTVPs items ≤ LIMIT) :
    ∀ s ∈ emitDoc items, StmtOkF fl s :=
  stokG_doc (okF_printable fl) items ((okFPs_iff fl items).1 h) hd

end TomlVerif.Lemmas.Ser07TextF

namespace TomlVerif.Lemmas.RoundTrip17
open TomlVerif.Model.DeText
open TomlVerif TomlVerif.Spec TomlVerif.Model TomlVerif.Model.TomlValue TomlVerif.Model.DeRoutes
open TomlVerif.Model.Value (LIMIT)
open TomlVerif.Lemmas.State09

theorem ok_docTbl_of (items : List (Bytes × TV)) (h : OkPs items) (hn : (items.map Prod.fst).Nodup)
    (hf : FIELD ∉ items.map Prod.fst) (hs : OkPs (docSubs items)) (hk : (docSubs items).map Prod.fst = subKeys items) :
    OkV (.tbl (ownValues items ++ docSubs items)) := by
  obtain ⟨hn1, hn2, hn3⟩ := keys_split items hn
  rw [OkV]
  refine ⟨?_, ?_, ?_⟩
  · rw [okPs_iff]
    intro e he
    rcases List.mem_append.1 he with he | he
    · exact (okPs_iff items).1 h e (mem_ownValues items e he)
    · exact (okPs_iff _).1 hs e he
  · rw [List.map_append, hk, List.nodup_append]
    exact ⟨hn2, hn1, fun a ha b hb hab => hn3 b hb (hab ▸ ha)⟩
  · rw [List.map_append, hk, List.mem_append]
    intro hc
    rcases hc with hc | hc
    · obtain ⟨e, he, hfe⟩ := List.mem_map.1 hc
      exact hf (hfe ▸ List.mem_map_of_mem (mem_ownValues items e he))
    · exact hf (subKeys_sub items _ hc)

mutual
theorem ok_docSubs : ∀ items : List (Bytes × TV), OkPs items →
    OkPs (docSubs items) ∧ (docSubs items).map Prod.fst = subKeys items
  | [], _ => by simp [docSubs, OkPs, subKeys, subsOf]
  | (k, v) :: r, h => by
    rw [OkPs] at h
    have h1 := ok_docItem k v h.1
    have h2 := ok_docSubs r h.2
    rw [docSubs]
    refine ⟨?_, ?_⟩
    · rw [okPs_iff]
      intro e he
      rcases List.mem_append.1 he with he | he
      · exact (okPs_iff _).1 h1.1 e he
      · exact (okPs_iff _).1 h2.1 e he
    · rw [List.map_append, h1.2, h2.2]
      cases hv : kindOf v == .value <;> simp [subKeys, subsOf, hv]
theorem ok_docItem : ∀ (k : Bytes) (v : TV), OkV v →
    OkPs (docItem k v) ∧ (docItem k v).map Prod.fst = if kindOf v == .value then [] else [k]
  | k, .tbl items, h => by
    rw [OkV] at h
    have hs := ok_docSubs items h.1
    have := ok_docTbl_of items h.1 h.2.1 h.2.2 hs.1 hs.2
    simp [docItem, OkPs, kindOf, this]
  | k, .arr l, h => by
    rw [OkV] at h
    have := ok_docAot l h
    rw [docItem]
    cases ha : isAotList l with
    | true => simp [OkPs, OkV, kindOf, ha, this]
    | false => simp [OkPs, kindOf, ha]
  | _, .str _, _ | _, .int _, _ | _, .float _, _ | _, .bool _, _ | _, .dt _, _ => by simp [docItem, OkPs, kindOf]
theorem ok_docAot : ∀ l : List TV, OkVs l → OkVs (docAot l)
  | [], _ => by simp [docAot, OkVs]
  | v :: r, h => by
    rw [OkVs] at h
    cases v with
    | tbl items =>
      rw [OkV] at h
      have hs := ok_docSubs items h.1.1
      have := ok_docTbl_of items h.1.1 h.1.2.1 h.1.2.2 hs.1 hs.2
      rw [docAot, OkVs]
      exact ⟨this, ok_docAot r h.2⟩
    | _ => simp only [docAot]; exact ok_docAot r h.2
end

theorem ok_docTbl (items : List (Bytes × TV)) (h : OkV (.tbl items)) : OkV (.tbl (docTbl items)) := by
  rw [OkV] at h
  have hs := ok_docSubs items h.1
  exact ok_docTbl_of items h.1 h.2.1 h.2.2 hs.1 hs.2

mutual
/-- every table's entries placed into the target map one by one (`BTreeMap`: sorted by key; `IndexMap`: as they come) -/
def placeTV (fl : Flavour) : TV → TV
  | .arr l => .arr (placeTVs fl l)
  | .tbl items => .tbl (insertAllReplace fl [] (placeTVPs fl items))
  | .str s => .str s
  | .int n => .int n
  | .float b => .float b
  | .bool b => .bool b
  | .dt d => .dt d
def placeTVs (fl : Flavour) : List TV → List TV
  | [] => []
  | v :: r => placeTV fl v :: placeTVs fl r
def placeTVPs (fl : Flavour) : List (Bytes × TV) → List (Bytes × TV)
  | [] => []
  | (k, v) :: r => (k, placeTV fl v) :: placeTVPs fl r
end

theorem placeTVPs_eq_map (fl : Flavour) (l : List (Bytes × TV)) :
    placeTVPs fl l = l.map fun e => (e.1, placeTV fl e.2) := by
  induction l with
  | nil => rfl
  | cons x r ih => obtain ⟨k, v⟩ := x; simp [placeTVPs, ih]

theorem placeTVPs_keys (fl : Flavour) (l : List (Bytes × TV)) : (placeTVPs fl l).map Prod.fst = l.map Prod.fst := by
  rw [placeTVPs_eq_map, List.map_map]; rfl

theorem sortedInsert_keys {α : Type} (k : Bytes) (v : α) (l : List (Bytes × α)) (k' : Bytes) :
    k' ∈ (sortedInsert k v l).map Prod.fst ↔ k' = k ∨ k' ∈ l.map Prod.fst := by
  induction l with
  | nil => simp [sortedInsert]
  | cons x r ih =>
    obtain ⟨a, b⟩ := x
    unfold sortedInsert
    split
    · rename_i he
      have : a = k := by simpa using he
      subst this
      simp
    · split
      · simp
      · simp only [List.map_cons, List.mem_cons, ih]
        constructor
        · rintro (h | h | h)
          · exact Or.inr (Or.inl h)
          · exact Or.inl h
          · exact Or.inr (Or.inr h)
        · rintro (h | h | h)
          · exact Or.inr (Or.inl h)
          · exact Or.inl h
          · exact Or.inr (Or.inr h)

theorem mapInsert_keys {α : Type} (fl : Flavour) (k : Bytes) (v : α) (l : List (Bytes × α)) (k' : Bytes) :
    k' ∈ (mapInsert fl k v l).map Prod.fst ↔ k' = k ∨ k' ∈ l.map Prod.fst := by
  cases fl with
  | sorted => exact sortedInsert_keys k v l k'
  | insertion =>
    simp only [mapInsert, aset_keys]
    cases h : alookup k l with
    | none => simp [or_comm]
    | some x =>
      have hk : k ∈ l.map Prod.fst := List.mem_map_of_mem (mem_of_alookup k x l h)
      simp only [Option.isSome_some, if_true]
      constructor
      · exact Or.inr
      · rintro (h | h)
        · subst h; exact hk
        · exact h

/-- distinct new keys: the duplicate check of `visit_map` never fires, the result is that of plain insertion -/
theorem insertAll_nodup (fl : Flavour) : ∀ (l acc : List (Bytes × TV)), (l.map Prod.fst).Nodup →
    (∀ k ∈ l.map Prod.fst, k ∉ acc.map Prod.fst) → insertAll fl acc l = some (insertAllReplace fl acc l) := by
  intro l
  induction l with
  | nil => intro acc _ _; rfl
  | cons x r ih =>
    obtain ⟨k, v⟩ := x
    intro acc hn ha
    simp only [List.map_cons, List.nodup_cons] at hn
    have hk : alookup k acc = none := (alookup_none_iff _ _).2 (ha k (by simp))
    simp only [insertAll, hk, insertAllReplace]
    apply ih _ hn.2
    intro k' hk' hm
    rw [mapInsert_keys] at hm
    rcases hm with hm | hm
    · subst hm; exact hn.1 hk'
    · exact ha k' (by simp [hk']) hm

end TomlVerif.Lemmas.RoundTrip17

namespace TomlVerif.Lemmas.DeTyped13
open TomlVerif TomlVerif.Model TomlVerif.Model.TomlValue TomlVerif.Model.DeRoutes
open TomlVerif.Lemmas.RoundTrip17

mutual
/-- what the decoders need of a tree; a parsed document gives it when no table holds the private date-time key
    (`FIELD ∉ keys` is not guaranteed by the parser: F24) -/
def WfTV : TV → Prop
  | .dt d => Datetime.Std.fromStr (Datetime.Std.display d) = some d
  | .arr l => WfVs l
  | .tbl items => WfPs items ∧ (items.map Prod.fst).Nodup ∧ FIELD ∉ items.map Prod.fst
  | _ => True
def WfVs : List TV → Prop
  | [] => True
  | v :: r => WfTV v ∧ WfVs r
def WfPs : List (Bytes × TV) → Prop
  | [] => True
  | (_, v) :: r => WfTV v ∧ WfPs r
end


mutual
theorem visit_presEdit_wf (fl : Flavour) (strict : Bool) : ∀ w : TV, WfTV w →
    visitValue fl strict (presEdit w) = some (placeTV fl w)
  | .str _, _ | .int _, _ | .float _, _ | .bool _, _ => by simp [presEdit, visitValue, placeTV]
  | .dt d, h => by
    rw [WfTV] at h
    simp [presEdit, dtMap, visitValue, placeTV, h]
  | .arr l, h => by
    rw [WfTV] at h
    simp [presEdit, visitValue, placeTV, visitList_presEdit_wf fl strict l h]
  | .tbl [], _ => by simp [presEdit, presEditPairs, visitValue, placeTV, placeTVPs, insertAllReplace]
  -- `visit_map` takes the first entry off by itself to test its key for the private date-time field, inserts it
  -- into the empty map and goes on with the rest: hence the case of its own and `mapInsert fl k _ []` below
  | .tbl ((k, v) :: r), h => by
    rw [WfTV, WfPs] at h
    obtain ⟨⟨hv, hr⟩, hn, hf⟩ := h
    simp only [List.map_cons, List.nodup_cons, List.mem_cons, not_or] at hn hf
    have hkf : (k == FIELD) = false := by
      simp only [beq_eq_false_iff_ne, ne_eq]
      exact fun e => hf.1 e.symm
    rw [presEdit, presEditPairs]
    conv => lhs; unfold visitValue
    simp only [hkf, Bool.false_eq_true, if_false, visit_presEdit_wf fl strict v hv, visitPairs_presEdit_wf fl strict r hr]
    have := insertAll_nodup fl (placeTVPs fl r) (mapInsert fl k (placeTV fl v) [])
      (by rw [placeTVPs_keys]; exact hn.2)
      (by intro k' hk' hm
          rw [placeTVPs_keys] at hk'
          rw [mapInsert_keys] at hm
          rcases hm with hm | hm
          · subst hm; exact hn.1 hk'
          · simp at hm)
    rw [this]
    simp [placeTV, placeTVPs, insertAllReplace]
theorem visitList_presEdit_wf (fl : Flavour) (strict : Bool) : ∀ l : List TV, WfVs l →
    visitList fl strict (presEditList l) = some (placeTVs fl l)
  | [], _ => by simp [presEditList, visitList, placeTVs]
  | v :: r, h => by
    rw [WfVs] at h
    simp [presEditList, visitList, placeTVs, visit_presEdit_wf fl strict v h.1, visitList_presEdit_wf fl strict r h.2]
theorem visitPairs_presEdit_wf (fl : Flavour) (strict : Bool) : ∀ l : List (Bytes × TV), WfPs l →
    visitPairs fl strict (presEditPairs l) = some (placeTVPs fl l)
  | [], _ => by simp [presEditPairs, visitPairs, placeTVPs]
  | (k, v) :: r, h => by
    rw [WfPs] at h
    simp [presEditPairs, visitPairs, placeTVPs, visit_presEdit_wf fl strict v h.1, visitPairs_presEdit_wf fl strict r h.2]
end

end TomlVerif.Lemmas.DeTyped13

namespace TomlVerif.Lemmas.RoundTrip17
open TomlVerif.Model.DeText
open TomlVerif TomlVerif.Spec TomlVerif.Model TomlVerif.Model.TomlValue TomlVerif.Model.DeRoutes
open TomlVerif.Lemmas.DeTyped13

mutual
theorem okV_wf : ∀ v : TV, OkV v → WfTV v
  | .str _, _ | .int _, _ | .float _, _ | .bool _, _ => by simp [WfTV]
  | .dt d, h => by rw [OkV] at h; rw [WfTV]; exact (Props.C12.T12_roundtrip d h.1 h.2).1
  | .arr l, h => by rw [OkV] at h; rw [WfTV]; exact okVs_wf l h
  | .tbl items, h => by rw [OkV] at h; rw [WfTV]; exact ⟨okPs_wf items h.1, h.2⟩
theorem okVs_wf : ∀ l : List TV, OkVs l → WfVs l
  | [], _ => by simp [WfVs]
  | v :: r, h => by rw [OkVs] at h; rw [WfVs]; exact ⟨okV_wf v h.1, okVs_wf r h.2⟩
theorem okPs_wf : ∀ l : List (Bytes × TV), OkPs l → WfPs l
  | [], _ => by simp [WfPs]
  | (_, v) :: r, h => by rw [OkPs] at h; rw [WfPs]; exact ⟨okV_wf v h.1, okPs_wf r h.2⟩
end

theorem visitList_presEdit (fl : Flavour) (strict : Bool) : ∀ l : List TV, OkVs l →
    visitList fl strict (presEditList l) = some (placeTVs fl l) :=
  fun l h => visitList_presEdit_wf fl strict l (okVs_wf l h)
theorem visitPairs_presEdit (fl : Flavour) (strict : Bool) : ∀ l : List (Bytes × TV), OkPs l →
    visitPairs fl strict (presEditPairs l) = some (placeTVPs fl l) :=
  fun l h => visitPairs_presEdit_wf fl strict l (okPs_wf l h)
end TomlVerif.Lemmas.RoundTrip17
