import TomlVerif.Lemmas.Tiling03Doc
import TomlVerif.Lemmas.Tiling03Eol
import TomlVerif.Lemmas.Tiling03KeyPath
/-! One line of a document (C03): the text the recorded pieces of a key/value or header line
    cover (a line ends at the end of input, with LF or with CR LF); and the text a run has covered
    so far (`TxtOf`), which every class of documents extends line by line. -/
namespace TomlVerif.Lemmas.Tiling03Hdr
open TomlVerif TomlVerif.Spec TomlVerif.Model TomlVerif.Model.Strings TomlVerif.Model.Value
open TomlVerif.Model.Cst TomlVerif.Model.Encode TomlVerif.Lemmas.Suffix03 TomlVerif.Lemmas.Cst03
open TomlVerif.Lemmas.LastByte03 TomlVerif.Lemmas.Tiling03

inductive LineEnd : Bytes → Bytes → Bytes → Prop
  | eof : LineEnd [] [] []
  | lf (r : Bytes) : LineEnd (0x0A :: r) [0x0A] r
  | crlf (r : Bytes) : LineEnd (0x0D :: 0x0A :: r) [0x0D, 0x0A] r

theorem lineEnd_split {x e r : Bytes} (h : LineEnd x e r) : x = e ++ r := by
  cases h <;> rfl

theorem lineEnd_rel {x e r : Bytes} (h : LineEnd x e r) : e = [] ∨ EolRel [0x0A] e := by
  cases h
  · exact Or.inl rfl
  · exact Or.inr (EolRel.refl _)
  · exact Or.inr (.crlf .nil)

theorem lineTrailing_lineEnd (s r : Bytes) (h : lineTrailing s = .ok () r) : ∃ e, LineEnd (trailEnd s) e r := by
  rcases lineTrailing_cases s r h with ⟨h1, h2⟩ | h1
  · rw [h1, h2]; exact ⟨[], .eof⟩
  · unfold newline? at h1
    split at h1
    · rename_i r' heq; injection h1 with h1; subst h1; rw [heq]; exact ⟨_, .lf _⟩
    · rename_i r' heq; injection h1 with h1; subst h1; rw [heq]; exact ⟨_, .crlf _⟩
    · cases h1

/-- everything `encode_key_path` writes after the leaf prefix -/
def kpTail (f : Bytes → Bytes) (inp : Bytes) (path : List CKey) (L : CKey) (ds : Bytes) : Bytes :=
  match path with
  | [] => encodeKey inp L ++ suffixEncode f inp L.leaf ds
  | k :: r => encodeKey inp k ++ suffixEncode f inp k.dotted [] ++
      (segsText f inp r false ++ [0x2E] ++ prefixEncode f inp L.dotted [] ++ encodeKey inp L ++ suffixEncode f inp L.leaf ds)

theorem encodeKeyPath_split (f : Bytes → Bytes) (inp : Bytes) (path : List CKey) (L : CKey) (dp ds : Bytes) :
    encodeKeyPath f inp (path ++ [L]) dp ds = prefixEncode f inp L.leaf dp ++ kpTail f inp path L ds := by
  unfold encodeKeyPath
  simp only [List.getLast?_append, List.getLast?_singleton, Option.some_or]
  rw [encodeKeyPathAux_snoc]
  cases path with
  | nil => simp [kpTail, List.append_assoc]
  | cons k r =>
    simp only [if_true, kpTail]
    rw [encodeKeyPathAux_tail]
    simp only [List.append_assoc]

theorem kpTail_kvKey (f : Bytes → Bytes) (inp : Bytes) (path : List CKey) (st : CState) (key : CKey) (ds : Bytes) :
    kpTail f inp path (kvKey st key) ds = kpTail f inp path key ds := by
  cases path <;> simp [kpTail, kvKey, encodeKey, suffixEncode]

theorem ckeyPathAux_first (n fuel : Nat) (s : Bytes) (acc ks : List CKey) (r : Bytes)
    (h : ckeyPathAux n fuel s acc = .ok ks r) :
    ∃ k rest, ks = acc ++ k :: rest ∧ k.dotted.pre = some (rawBetween n s (dropWs s)) := by
  obtain ⟨new, hnew, hrun⟩ := Tiling03More.ckeyPathAux_run n fuel s acc ks r h
  cases hrun with
  | last _ => exact ⟨_, [], hnew, rfl⟩
  | more _ _ _ => exact ⟨_, _, hnew, rfl⟩

theorem splitLast_cons_some {α} (a : α) (l : List α) : ∃ i x, splitLast (a :: l) = some (i, x) := by
  cases h : splitLast (a :: l) with
  | none => have := vsplitLast_none _ h; cases this
  | some p => exact ⟨p.1, p.2, rfl⟩

theorem fixLeaf_leafPre (first : CKey) (rest path : List CKey) (key : CKey) (p : Raw)
    (hp : first.dotted.pre = some p) (h : splitLast (fixLeaf (first :: rest)) = some (path, key)) :
    key.leaf.pre = some p := by
  unfold fixLeaf at h
  simp only [hp] at h
  obtain ⟨i, x, hsl⟩ := splitLast_cons_some { first with dotted := { first.dotted with pre := some .empty } } rest
  rw [hsl] at h
  simp only [] at h
  rw [vsplitLast_snoc] at h
  injection h with h
  simp only [Prod.mk.injEq] at h
  rw [← h.2]
  rfl

theorem ckeyPath_leafPre (inp s r : Bytes) (ks path : List CKey) (key : CKey)
    (h : ckeyPath inp.length s = .ok ks r) (hsl : splitLast ks = some (path, key)) :
    key.leaf.pre = some (rawBetween inp.length s (dropWs s)) := by
  obtain ⟨ks0, hk, _, rfl⟩ := Tiling03More.ckeyPath_ok h
  obtain ⟨k, rest, e1, e2⟩ := ckeyPathAux_first _ _ s [] ks0 r hk
  rw [List.nil_append] at e1
  subst e1
  exact fixLeaf_leafPre k rest path key _ e2 hsl

def hdrText (f : Bytes → Bytes) (inp : Bytes) (dec : Decor) (path : List CKey) (a : Bool) : Bytes :=
  if path.isEmpty then []
  else prefixEncode f inp dec [0x0A] ++ (if a then [0x5B, 0x5B] else [0x5B]) ++ encodeKeyPath f inp path [] []
    ++ (if a then [0x5D, 0x5D] else [0x5D]) ++ suffixEncode f inp dec [] ++ [0x0A]

theorem header_text (f : Bytes → Bytes) (inp : Bytes) (hf : FixOn f inp) (isArr : Bool) (s r r2 r3 tr : Bytes)
    (ks : List CKey) (lead : Raw)
    (hsr : s = (if isArr then [0x5B, 0x5B] else [0x5B]) ++ r)
    (hk : ckeyPath inp.length r = .ok ks ((if isArr then [0x5D, 0x5D] else [0x5D]) ++ r2))
    (hlt : lineTrailing r2 = .ok () r3) (hne : ks ≠ [])
    (hlead : rawText inp lead = tr) (hs : s <:+ inp) :
    ∃ line e, s = line ++ e ++ r3 ∧ LineEnd (trailEnd r2) e r3 ∧ (∃ t b, line = t ++ [b] ∧ b ≠ 0x0A) ∧
      hdrText f inp (Decor.new lead (rawBetween inp.length r2 (trailEnd r2))) ks isArr = tr ++ line ++ [0x0A] := by
  have hr : r <:+ inp := (hsr ▸ List.suffix_append _ r).trans hs
  have hkp := ckeyPath_tiling f inp hf r _ ks hr hk [] []
  generalize hkpdef : encodeKeyPath f inp ks [] [] = kp at hkp
  have hr2 : r2 <:+ inp := ((List.suffix_append _ r2).trans (Tiling03More.ckeyPath_adv hk).1).trans hr
  obtain ⟨te, hte⟩ := trailEnd_suffix r2
  obtain ⟨e, he⟩ := lineTrailing_lineEnd r2 r3 hlt
  have hrtext : r = kp ++ (if isArr then [0x5D, 0x5D] else [0x5D]) ++ te ++ trailEnd r2 := by
    rw [hkp]
    simp only [List.append_assoc]
    rw [hte]
  refine ⟨(if isArr then [0x5B, 0x5B] else [0x5B]) ++ kp ++ (if isArr then [0x5D, 0x5D] else [0x5D]) ++ te, e, ?_, he, ?_, ?_⟩
  · rw [List.append_assoc _ e, ← lineEnd_split he, hsr]
    conv => lhs; rw [hrtext]
    simp only [List.append_assoc]
  · have l1 : LastNe r2 (0x5D :: r2) := lastNe_tail r2 (by decide)
    have l2 : LastNe (trailEnd r2) (0x5D :: r2) := (trailEnd_orEq r2).trans_lastNe l1
    obtain ⟨t, b, ht, hb⟩ := l2
    have e1 : [0x5D] ++ te ++ trailEnd r2 = t ++ [b] ++ trailEnd r2 := by
      rw [List.append_assoc, hte]
      simpa using ht
    have e2 := List.append_cancel_right e1
    cases isArr with
    | false =>
      refine ⟨[0x5B] ++ kp ++ t, b, ?_, hb⟩
      simp only [Bool.false_eq_true, if_false, List.append_assoc] at e2 ⊢
      rw [e2]
    | true =>
      refine ⟨[0x5B, 0x5B] ++ kp ++ [0x5D] ++ t, b, ?_, hb⟩
      simp only [if_true, List.append_assoc] at e2 ⊢
      have : [0x5D, 0x5D] ++ te = [0x5D] ++ ([0x5D] ++ te) := rfl
      rw [this, e2]
  · have hpe : ks.isEmpty = false := by cases ks <;> simp_all
    simp only [hdrText, hpe, Bool.false_eq_true, if_false, prefixEncode, suffixEncode, Decor.new]
    rw [hkpdef, encRaw_fix hf, encRaw_fix hf, hlead, rawText_between inp r2 te (trailEnd r2) hr2 hte.symm]
    cases isArr <;> simp [List.append_assoc]

/-- the text part of the invariant: `T` (the printed text of the state) is the consumed source up
    to the end of the last key/value or header line with some CR LF pairs written LF (`EolRel`;
    the proofs do it at the ends of such lines), plus a final LF only if that line ended at the end
    of input -/
def TxtOf (inp base : Bytes) (trailing : Option Span) (T s : Bytes) : Prop :=
  ∃ src out tr eol, TrailIs inp.length trailing tr s ∧ inp = base ++ src ++ tr ++ s ∧
    T = out ++ eol ∧ EolRel out src ∧
    (eol = [] ∨ (eol = [0x0A] ∧ s = [] ∧ tr = [] ∧ src.getLast? ≠ some 0x0A))

theorem txtOf_suffix {inp base : Bytes} {t : Option Span} {T s : Bytes} (h : TxtOf inp base t T s) : s <:+ inp := by
  obtain ⟨src, out, tr, eol, _, h2, _⟩ := h
  exact ⟨base ++ src ++ tr, h2.symm⟩

theorem txtOf_onWs (inp base : Bytes) (st : CState) (T w s' : Bytes)
    (h : TxtOf inp base st.trailing T (w ++ s')) :
    TxtOf inp base (onWs st (pos inp.length (w ++ s')) (pos inp.length s')).trailing T s' := by
  obtain ⟨src, out, tr, eol, h1, h2, h3, h4, h5⟩ := h
  refine ⟨src, out, tr ++ w, eol, trailIs_onWs _ st tr w s' h1, by rw [h2]; simp [List.append_assoc], h3, h4, ?_⟩
  rcases h5 with h5 | ⟨e1, e2, e3, e4⟩
  · exact Or.inl h5
  · right
    have hw : w = [] := (List.append_eq_nil_iff.1 e2).1
    have hs' : s' = [] := (List.append_eq_nil_iff.1 e2).2
    exact ⟨e1, hs', by rw [e3, hw]; rfl, e4⟩

/-- `h2`–`h5` are the `TxtOf` of the state before the line without its `TrailIs` clause: the caller
    has turned the pending trivia into the text `tr0` already. -/
theorem txtOf_line (inp base : Bytes) (T s src out tr0 eol line e r3 x : Bytes)
    (h2 : inp = base ++ src ++ tr0 ++ s) (h3 : T = out ++ eol) (h4 : EolRel out src)
    (h5 : eol = [] ∨ (eol = [0x0A] ∧ s = [] ∧ tr0 = [] ∧ src.getLast? ≠ some 0x0A))
    (hs : s = line ++ e ++ r3) (he : LineEnd x e r3) (hl : ∃ t b, line = t ++ [b] ∧ b ≠ 0x0A) :
    TxtOf inp base none (T ++ tr0 ++ line ++ [0x0A]) r3 := by
  obtain ⟨lt, lb, hl1, hl2⟩ := hl
  have heol : eol = [] := by
    rcases h5 with h5 | ⟨_, e2, _, _⟩
    · exact h5
    · exfalso
      rw [e2, hl1] at hs
      have := congrArg List.length hs
      simp at this
  subst heol
  rw [List.append_nil] at h3
  subst h3
  cases he with
  | eof =>
    refine ⟨src ++ tr0 ++ line, T ++ tr0 ++ line, [], [0x0A], Or.inl ⟨rfl, rfl⟩, ?_, by simp [List.append_assoc],
      (h4.append (EolRel.refl _)).append (EolRel.refl _), Or.inr ⟨rfl, rfl, rfl, ?_⟩⟩
    · rw [h2, hs]; simp [List.append_assoc]
    · rw [hl1]; simp [← List.append_assoc, hl2]
  | lf r =>
    refine ⟨src ++ tr0 ++ line ++ [0x0A], T ++ tr0 ++ line ++ [0x0A], [], [], Or.inl ⟨rfl, rfl⟩, ?_, by simp,
      ((h4.append (EolRel.refl _)).append (EolRel.refl _)).append (EolRel.refl _), Or.inl rfl⟩
    rw [h2, hs]; simp [List.append_assoc]
  | crlf r =>
    refine ⟨src ++ tr0 ++ line ++ [0x0D, 0x0A], T ++ tr0 ++ line ++ [0x0A], [], [], Or.inl ⟨rfl, rfl⟩, ?_, by simp,
      ((h4.append (EolRel.refl _)).append (EolRel.refl _)).append (.crlf .nil), Or.inl rfl⟩
    rw [h2, hs]; simp [List.append_assoc]

theorem txtOf_header (f : Bytes → Bytes) (inp base : Bytes) (hf : FixOn f inp) (trailing : Option Span)
    (isArr : Bool) (s r r2 r3 : Bytes) (ks : List CKey)
    (hsr : s = (if isArr then [0x5B, 0x5B] else [0x5B]) ++ r)
    (hk : ckeyPath inp.length r = .ok ks ((if isArr then [0x5D, 0x5D] else [0x5D]) ++ r2))
    (hlt : lineTrailing r2 = .ok () r3) (hne : ks ≠ [])
    (T : Bytes) (htx : TxtOf inp base trailing T s) :
    TxtOf inp base none (T ++ hdrText f inp
      (Decor.new (takeTrailing trailing) (rawBetween inp.length r2 (trailEnd r2))) ks isArr) r3 := by
  obtain ⟨src, out, tr, eol, h1, h2, h3, h4, h5⟩ := htx
  have hs : s <:+ inp := ⟨base ++ src ++ tr, h2.symm⟩
  have htrs : tr ++ s <:+ inp := ⟨base ++ src, by rw [h2]; simp [List.append_assoc]⟩
  have hlead := trailIs_text inp trailing tr s h1 htrs
  obtain ⟨line, e, hs', hle, hl, hsec⟩ := header_text f inp hf isArr s r r2 r3 tr ks (takeTrailing trailing) hsr hk hlt hne hlead hs
  rw [hsec]
  have := txtOf_line inp base T s src out tr eol line e r3 _ h2 h3 h4 h5 hs' hle hl
  simpa [List.append_assoc] using this

theorem trailIs_unique (inp : Bytes) (t : Option Span) (tr tr' s : Bytes) (hs : s <:+ inp)
    (h1 : TrailIs inp.length t tr s) (h2 : TrailIs inp.length t tr' s)
    (hi : tr ++ s <:+ inp) (hi' : tr' ++ s <:+ inp) : tr' = tr := by
  rw [← trailIs_text inp t tr s h1 hi, ← trailIs_text inp t tr' s h2 hi']

theorem onWs_fields (st : CState) (a b : Nat) :
    (onWs st a b).root = st.root ∧ (onWs st a b).current = st.current ∧
    (onWs st a b).currentPath = st.currentPath ∧ (onWs st a b).currentIsArray = st.currentIsArray ∧
    (onWs st a b).position = st.position := by
  unfold onWs; split <;> exact ⟨rfl, rfl, rfl, rfl, rfl⟩

end TomlVerif.Lemmas.Tiling03Hdr
