import TomlVerif.Lemmas.LinePrint08
import TomlVerif.Lemmas.CstInv
import TomlVerif.Lemmas.Tiling03ValueClasses
/-! No table of a parsed document stores a dotted inline table directly (the parser creates dotted
    inline tables only inside inline tables), so a key/value entry stored directly in a table that is not
    dotted prints as one line `k = v` (`LinePrint08.lean`; an entry of a dotted table prints under the dotted
    path); and the root of a parsed document is not dotted, which no op changes. Both are instances of `TreeInv`
    (`CstInv.lean`). -/
namespace TomlVerif.Lemmas.Refine08c
open TomlVerif TomlVerif.Model
open TomlVerif.Model.Cst TomlVerif.Model.Edit TomlVerif.Lemmas.Cst03 TomlVerif.Lemmas.Spans14

mutual
/-- no value stored directly in the table, or in a table below it, is a dotted inline table -/
def TND : CTbl → Prop
  | .mk items _ _ _ _ _ => IND items
def IND : List (CKey × CItem) → Prop
  | [] => True
  | (_, it) :: r => (match it with
      | .value v => notDottedInl v = true
      | .table t => TND t
      | .aot ts _ => TsND ts) ∧ IND r
def TsND : List CTbl → Prop
  | [] => True
  | t :: r => TND t ∧ TsND r
end

/-- the `V` of the `TreeInv` instance: not a dotted inline table -/
abbrev NDVal (v : CVal) : Prop := notDottedInl v = true

theorem TsND_iff (l : List CTbl) : TsND l ↔ ∀ t ∈ l, TND t := by
  induction l with
  | nil => simp [TsND]
  | cons t r ih => simp [TsND, ih]

theorem IND_iff (l : List (CKey × CItem)) : IND l ↔ AllKV (fun _ => True) (ItemInv NDVal noFr TND) l := by
  induction l with
  | nil => simp [IND, AllKV]
  | cons kv r ih =>
    obtain ⟨k, it⟩ := kv
    rw [AllKV.cons, ← ih]
    cases it <;> simp [IND, ItemInv, TsND_iff, CTbl.fr]

theorem TND_iff (t : CTbl) : TND t ↔ AllKV (fun _ => True) (ItemInv NDVal noFr TND) t.items := by
  cases t
  simp only [TND, IND_iff, CTbl.items]

theorem notDottedInl_eq (v : CVal) : notDottedInl v = Tiling03.undotted v := by
  cases v <;> rfl

theorem notDottedInl_setDecor (v : CVal) (d : Decor) : notDottedInl (v.setDecor d) = notDottedInl v := by
  rw [notDottedInl_eq, notDottedInl_eq, Tiling03.undotted_setDecor]

theorem cvalue_notDotted (n fuel d : Nat) (s r : Bytes) (v : CVal) (h : cvalue n fuel d s = .ok v r) :
    notDottedInl v = true := by
  rw [notDottedInl_eq]; exact (Tiling03.cvalue_undotted h).1

theorem ndTree : TreeInv NDVal noFr noFr TND :=
  .ofItems TND_iff fun v d h => (notDottedInl_setDecor v d).trans h

theorem parseCst_nd (s : Bytes) (d : CDoc) (h : parseCst s = some d) : TND d.root :=
  (ndTree.parseCst_root (R := noFr) (hR := fun _ _ _ _ => trivial) (hRp := fun _ => trivial) cvalue_notDotted h).1

theorem look_nd_tbls :
    (∀ p t n, lookupTbl p t = some n → ∀ T, n = .tbl T → TND t → TND T) ∧
    (∀ k q l n, lookupItems k q l = some n → ∀ T, n = .tbl T → IND l → TND T) ∧
    (∀ q it n, lookupItem q it = some n → ∀ T, n = .tbl T → ItemInv NDVal noFr TND it → TND T) ∧
    (∀ i q l n, lookupNth i q l = some n → ∀ T, n = .tbl T → TsND l → TND T) := by
  refine Edit08.lookupTbl_rel ?here ?mk ?value ?table ?aotHere ?aot ?zero ?succ ?hit ?miss
  case here => intro t T hn hv; cases hn; exact hv
  case mk => intro s r k items imp dot p dec sp n _ ih T hn hv; simp only [TND] at hv; exact ih T hn hv
  case value => intro r v n h T hn _; exact absurd (hn ▸ h) (lookupVal_not_tbl r v T)
  case table => intro r t n ih T hn hv; exact ih T hn hv
  case aotHere => intro ts sp T hn; cases hn
  case aot => intro s r i ts sp n _ ih T hn hv; exact ih T hn ((TsND_iff _).2 fun t ht => (hv t ht).2)
  case zero => intro r t rest n ih T hn hv; simp only [TsND] at hv; exact ih T hn hv.1
  case succ => intro i r t rest n ih T hn hv; simp only [TsND] at hv; exact ih T hn hv.2
  case hit => intro k r k' it rest n _ ih T hn hv; exact ih T hn (AllKV.cons.1 ((IND_iff _).1 hv)).1.2
  case miss =>
    intro k r k' it rest n _ ih T hn hv; exact ih T hn ((IND_iff _).2 (AllKV.cons.1 ((IND_iff _).1 hv)).2)

theorem look_nd_tbl : ∀ (p : List Seg) (t T : CTbl), lookupTbl p t = some (.tbl T) → TND t → TND T :=
  fun p t T h => look_nd_tbls.1 p t _ h T rfl

theorem look_nd_items (k : Bytes) : ∀ (q : List Seg) (items : List (CKey × CItem)) (T : CTbl),
    lookupItems k q items = some (.tbl T) → IND items → TND T :=
  fun q l T h => look_nd_tbls.2.1 k q l _ h T rfl

theorem look_nd_nth : ∀ (i : Nat) (q : List Seg) (ts : List CTbl) (T : CTbl),
    lookupNth i q ts = some (.tbl T) → TsND ts → TND T :=
  fun i q l T h => look_nd_tbls.2.2.2 i q l _ h T rfl

theorem parseCst_root_not_dotted (s : Bytes) (d : CDoc) (h : parseCst s = some d) : d.root.dotted = false :=
  (trivTree.parseCst_root (R := NotDot) (hR := fun _ _ _ _ => trivial) (hRp := fun _ => rfl)
    (fun _ _ _ _ _ _ _ => trivial) h).2

def TblKeeps (u : Upd) : Prop := ∀ t t', u.tbl t = some t' → t'.dotted = t.dotted

theorem updTbl_dotted {u : Upd} (hu : TblKeeps u) (p : List Seg) (t t' : CTbl) (h : updTbl u p t = some t') :
    t'.dotted = t.dotted := by
  cases p with
  | nil => simp only [updTbl] at h; exact hu t t' h
  | cons s r =>
    cases t with
    | mk items imp dot ps dec sp =>
      simp only [updTbl] at h
      cases hi : s.key with
      | none => simp [hi] at h
      | some k =>
        simp only [hi] at h
        obtain ⟨items', _, rfl⟩ := Option.map_eq_some_iff.mp h
        rfl

theorem noTbl_keeps {v a} : TblKeeps ⟨noTbl, v, a⟩ := fun _ _ h => by simp [noTbl] at h

theorem convAt_keeps {k : Bytes} {f : CItem → Option CItem} {v a} : TblKeeps ⟨convAt k f, v, a⟩ := by
  intro t t' h
  simp only [convAt] at h
  split at h
  · obtain ⟨it', _, rfl⟩ := Option.map_eq_some_iff.mp h
    exact Tiling03Hdr.setItems_dotted _ _
  · cases h

theorem tblDel_keeps {k : Bytes} {v a} : TblKeeps ⟨tblDel k, v, a⟩ := by
  intro t t' h
  simp only [tblDel] at h
  split at h
  · simp only [Option.some.injEq] at h; subst h; exact Tiling03Hdr.setItems_dotted _ _
  · cases h

theorem tblPut_keeps {k : Bytes} {kr : Raw} {it : CItem} {v a} : TblKeeps ⟨tblPut k kr it, v, a⟩ := by
  intro t t' h
  simp only [tblPut, Option.some.injEq] at h; subst h; exact Tiling03Hdr.setItems_dotted _ _

theorem sortTbl_dotted (t : CTbl) : (sortTbl t).dotted = t.dotted := by
  cases t; simp [sortTbl, CTbl.dotted]

theorem opUpd_keeps (op : Op) (rs : List Raw) : TblKeeps (op.upd rs) := by
  cases op with
  -- `tblSet` and `tblNewTable` unfold to `tblPut`
  | set k v => exact tblPut_keeps
  | del k => exact tblDel_keeps
  | newt k => exact tblPut_keeps
  | viv k1 k2 v =>
    intro t t' h
    simp only [Op.upd, tblViv] at h
    split at h
    · simp only [Option.some.injEq] at h; subst h; exact Tiling03Hdr.setItems_dotted _ _
    · simp only [Option.some.injEq] at h; subst h; exact Tiling03Hdr.setItems_dotted _ _
    · simp only [Option.some.injEq] at h; subst h; exact Tiling03Hdr.setItems_dotted _ _
    · cases h
  | sort =>
    intro t t' h
    simp only [Op.upd, Option.some.injEq] at h; subst h; exact sortTbl_dotted t
  | fmt =>
    intro t t' h
    simp only [Op.upd, tblFmt, Option.some.injEq] at h; subst h; exact Tiling03Hdr.setItems_dotted _ _
  | push v => exact noTbl_keeps
  | ains i v => exact noTbl_keeps
  | arepl i v => exact noTbl_keeps
  | adel i => exact noTbl_keeps
  | tpush => exact noTbl_keeps
  | tdel i => exact noTbl_keeps
  | inl k => exact convAt_keeps
  | tbl k => exact convAt_keeps
  | aot2arr k => exact convAt_keeps
  | arr2aot k => exact convAt_keeps
  | mv k p2 => exact noTbl_keeps

theorem applyOp_root_dotted (st st' : St) (op : Op) (p : List Seg) (h : applyOp st op p = some st') :
    st'.doc.root.dotted = st.doc.root.dotted := by
  cases Edit08.applyOp_applied h with
  | upd _ _ _ hu => exact updTbl_dotted (opUpd_keeps _ _) p _ _ hu
  | tpush _ _ hu => exact updTbl_dotted noTbl_keeps p _ _ hu
  | mv _ _ h1 h2 => exact (updTbl_dotted tblPut_keeps _ _ _ h2).trans (updTbl_dotted tblDel_keeps p _ _ h1)

theorem run_root_dotted (es : List (Op × List Seg)) (st : St) : (run st es).doc.root.dotted = st.doc.root.dotted :=
  Edit08.run_rel (fun a b => b.doc.root.dotted = a.doc.root.dotted) (fun _ => rfl) (fun h1 h2 => h2.trans h1)
    (fun _ => True) (fun st e st' _ h => applyOp_root_dotted st st' e.1 e.2 h) es st fun _ _ => trivial

end TomlVerif.Lemmas.Refine08c
