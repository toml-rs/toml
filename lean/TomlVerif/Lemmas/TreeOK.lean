import TomlVerif.Lemmas.Spans14Value
import TomlVerif.Lemmas.CstInduct
/-! A tree-wide invariant over local predicates (`Pr`): every `RawString`, every `span` and every scalar
    payload recorded in a decorated tree satisfies its predicate (`VOK` for values, `TOK` for tables).
    Flags, key texts and positions are not looked at. First `notInlVal`, the scalar predicate of the instance
    `cleanPr`, which `SemSort08.lean` needs too. -/
namespace TomlVerif.Lemmas.Refine08bSem
open TomlVerif.Model

/-- a scalar payload that is not an inline table: the type `CVal` lets a `scalar` hold any `Val` -/
def notInlVal : Val → Bool
  | .inl _ _ _ => false
  | _ => true

end TomlVerif.Lemmas.Refine08bSem

namespace TomlVerif.Lemmas.Refine08c
open TomlVerif TomlVerif.Model TomlVerif.Model.Cst
open TomlVerif.Lemmas.Cst03 TomlVerif.Lemmas.Spans14
open TomlVerif.Lemmas.Tiling03More (items_induct)

structure Pr where
  raw : Raw → Prop
  sp : Option Span → Prop
  val : Val → Prop

variable {P : Pr}

def DecOK (P : Pr) (d : Decor) : Prop := (∀ r, d.pre = some r → P.raw r) ∧ (∀ r, d.suf = some r → P.raw r)

def KeyOK (P : Pr) (k : CKey) : Prop := P.raw k.repr ∧ DecOK P k.leaf ∧ DecOK P k.dotted

theorem DecOK_default : DecOK P {} := ⟨fun _ h => (by cases h), fun _ h => (by cases h)⟩

theorem DecOK_new {a b : Raw} (ha : P.raw a) (hb : P.raw b) : DecOK P (Decor.new a b) :=
  ⟨fun r h => by simp only [Decor.new, Option.some.injEq] at h; exact h ▸ ha,
   fun r h => by simp only [Decor.new, Option.some.injEq] at h; exact h ▸ hb⟩

mutual
def VOK (P : Pr) : CVal → Prop
  | .scalar v r d => P.val v ∧ P.raw r ∧ DecOK P d
  | .arr items t _ d sp => VsOK P items ∧ P.raw t ∧ DecOK P d ∧ P.sp sp
  | .inl items p _ _ d sp => KvsOK P items ∧ P.raw p ∧ DecOK P d ∧ P.sp sp
def VsOK (P : Pr) : List CVal → Prop
  | [] => True
  | v :: r => VOK P v ∧ VsOK P r
def KvsOK (P : Pr) : List (CKey × CVal) → Prop
  | [] => True
  | (k, v) :: r => (KeyOK P k ∧ VOK P v) ∧ KvsOK P r
end

theorem VsOK_iff (l : List CVal) : VsOK P l ↔ ∀ v ∈ l, VOK P v := by
  induction l with
  | nil => simp [VsOK]
  | cons v r ih => simp [VsOK, ih]

theorem KvsOK_iff (l : List (CKey × CVal)) : KvsOK P l ↔ AllKV (KeyOK P) (VOK P) l := by
  induction l with
  | nil => simp [KvsOK, AllKV]
  | cons kv r ih => obtain ⟨k, v⟩ := kv; rw [AllKV.cons, ← ih]; simp [KvsOK]

theorem VOK_decor {v : CVal} (h : VOK P v) : DecOK P v.decor := by
  cases v <;> simp only [VOK] at h <;> simp only [CVal.decor]
  · exact h.2.2
  · exact h.2.2.1
  · exact h.2.2.1

theorem VOK_setDecor {v : CVal} {d : Decor} (h : VOK P v) (hd : DecOK P d) : VOK P (v.setDecor d) := by
  cases v <;> simp only [VOK] at h <;> simp only [CVal.setDecor, VOK]
  · exact ⟨h.1, h.2.1, hd⟩
  · exact ⟨h.1, h.2.1, hd, h.2.2.2⟩
  · exact ⟨h.1, h.2.1, hd, h.2.2.2⟩

theorem VOK.inl_map {items items' : List (CKey × CVal)} {pre : Raw} {imp dot : Bool} {d : Decor} {sp : Option Span}
    (h : VOK P (.inl items pre imp dot d sp))
    (f : AllKV (KeyOK P) (VOK P) items → AllKV (KeyOK P) (VOK P) items') : VOK P (.inl items' pre imp dot d sp) := by
  simp only [VOK] at h ⊢
  exact ⟨(KvsOK_iff _).2 (f ((KvsOK_iff _).1 h.1)), h.2⟩

theorem VOK.arr_map {items items' : List CVal} {tr : Raw} {c : Bool} {d : Decor} {sp : Option Span}
    (h : VOK P (.arr items tr c d sp)) (f : (∀ y ∈ items, VOK P y) → ∀ y ∈ items', VOK P y) :
    VOK P (.arr items' tr c d sp) := by
  simp only [VOK] at h ⊢
  exact ⟨(VsOK_iff _).2 (f ((VsOK_iff _).1 h.1)), h.2⟩

mutual
def TOK (P : Pr) : CTbl → Prop
  | .mk items _ _ _ d sp => IsOK P items ∧ DecOK P d ∧ P.sp sp
def IsOK (P : Pr) : List (CKey × CItem) → Prop
  | [] => True
  | (k, it) :: r => (KeyOK P k ∧ (match it with
      | .value v => VOK P v
      | .table t => TOK P t
      | .aot ts sp => TsOK P ts ∧ P.sp sp)) ∧ IsOK P r
def TsOK (P : Pr) : List CTbl → Prop
  | [] => True
  | t :: r => TOK P t ∧ TsOK P r
end

def ItemOK (P : Pr) : CItem → Prop
  | .value v => VOK P v
  | .table t => TOK P t
  | .aot ts sp => TsOK P ts ∧ P.sp sp

theorem IsOK_cons (k : CKey) (it : CItem) (r : List (CKey × CItem)) :
    IsOK P ((k, it) :: r) ↔ (KeyOK P k ∧ ItemOK P it) ∧ IsOK P r := by
  cases it <;> simp [IsOK, ItemOK]

theorem IsOK_iff (l : List (CKey × CItem)) : IsOK P l ↔ AllKV (KeyOK P) (ItemOK P) l := by
  induction l with
  | nil => simp [IsOK, AllKV]
  | cons kv r ih =>
    obtain ⟨k, it⟩ := kv
    rw [AllKV.cons, ← ih, IsOK_cons]

theorem TsOK_iff (l : List CTbl) : TsOK P l ↔ ∀ t ∈ l, TOK P t := by
  induction l with
  | nil => simp [TsOK]
  | cons t r ih => simp [TsOK, ih]

theorem TOK_iff (t : CTbl) : TOK P t ↔ AllKV (KeyOK P) (ItemOK P) t.items ∧ DecOK P t.decor ∧ P.sp t.span := by
  cases t
  simp only [TOK, IsOK_iff, CTbl.items, CTbl.decor, CTbl.span]

theorem TOK_setItems (t : CTbl) (items : List (CKey × CItem)) :
    TOK P (t.setItems items) ↔ AllKV (KeyOK P) (ItemOK P) items ∧ DecOK P t.decor ∧ P.sp t.span := by
  cases t
  simp only [CTbl.setItems, TOK, IsOK_iff, CTbl.decor, CTbl.span]

theorem TOK_setItems' {t : CTbl} {items : List (CKey × CItem)} (ht : TOK P t)
    (h : AllKV (KeyOK P) (ItemOK P) items) : TOK P (t.setItems items) :=
  (TOK_setItems t items).2 ⟨h, ((TOK_iff t).1 ht).2⟩

structure Pr.Le (P Q : Pr) : Prop where
  raw : ∀ r, P.raw r → Q.raw r
  sp : ∀ s, P.sp s → Q.sp s
  val : ∀ v, P.val v → Q.val v

variable {Q : Pr}

theorem DecOK.le (hl : P.Le Q) {d : Decor} (h : DecOK P d) : DecOK Q d :=
  ⟨fun r hr => hl.raw r (h.1 r hr), fun r hr => hl.raw r (h.2 r hr)⟩

theorem KeyOK.le (hl : P.Le Q) {k : CKey} (h : KeyOK P k) : KeyOK Q k :=
  ⟨hl.raw _ h.1, h.2.1.le hl, h.2.2.le hl⟩

theorem VOK.le_all (hl : P.Le Q) :
    (∀ v : CVal, VOK P v → VOK Q v) ∧ (∀ l : List CVal, VsOK P l → VsOK Q l) ∧
    (∀ l : List (CKey × CVal), KvsOK P l → KvsOK Q l) := by
  refine cval_induct ?_ ?_ ?_ ?_ ?_ ?_ ?_
  · intro v r d h; simp only [VOK] at h ⊢; exact ⟨hl.val _ h.1, hl.raw _ h.2.1, h.2.2.le hl⟩
  · intro items t c d sp ih h; simp only [VOK] at h ⊢
    exact ⟨ih h.1, hl.raw _ h.2.1, h.2.2.1.le hl, hl.sp _ h.2.2.2⟩
  · intro items p i dt d sp ih h; simp only [VOK] at h ⊢
    exact ⟨ih h.1, hl.raw _ h.2.1, h.2.2.1.le hl, hl.sp _ h.2.2.2⟩
  · exact fun _ => trivial
  · intro v r hv hr h; simp only [VsOK] at h ⊢; exact ⟨hv h.1, hr h.2⟩
  · exact fun _ => trivial
  · intro k v r hv _ hr h; simp only [KvsOK] at h ⊢; exact ⟨⟨h.1.1.le hl, hv h.1.2⟩, hr h.2⟩

theorem VOK.le (hl : P.Le Q) : ∀ v : CVal, VOK P v → VOK Q v := (VOK.le_all hl).1

theorem VsOK.le (hl : P.Le Q) : ∀ l : List CVal, VsOK P l → VsOK Q l := (VOK.le_all hl).2.1

theorem KvsOK.le (hl : P.Le Q) : ∀ l : List (CKey × CVal), KvsOK P l → KvsOK Q l := (VOK.le_all hl).2.2

theorem TOK.le_all (hl : P.Le Q) :
    (∀ l : List (CKey × CItem), IsOK P l → IsOK Q l) ∧ (∀ t : CTbl, TOK P t → TOK Q t) ∧
    (∀ l : List CTbl, TsOK P l → TsOK Q l) := by
  refine items_induct ?_ ?_ ?_ ?_ ?_ ?_ ?_
  · exact fun _ => trivial
  · intro k v r hr h; simp only [IsOK] at h ⊢; exact ⟨⟨h.1.1.le hl, VOK.le hl v h.1.2⟩, hr h.2⟩
  · intro k t r ht hr h; simp only [IsOK] at h ⊢; exact ⟨⟨h.1.1.le hl, ht h.1.2⟩, hr h.2⟩
  · intro k ts sp r hts hr h; simp only [IsOK] at h ⊢; exact ⟨⟨h.1.1.le hl, hts h.1.2.1, hl.sp _ h.1.2.2⟩, hr h.2⟩
  · intro items imp dot p d sp hi h; simp only [TOK] at h ⊢; exact ⟨hi h.1, h.2.1.le hl, hl.sp _ h.2.2⟩
  · exact fun _ => trivial
  · intro t r ht hr h; simp only [TsOK] at h ⊢; exact ⟨ht h.1, hr h.2⟩

theorem TOK.le (hl : P.Le Q) : ∀ t : CTbl, TOK P t → TOK Q t := (TOK.le_all hl).2.1

theorem IsOK.le (hl : P.Le Q) : ∀ l : List (CKey × CItem), IsOK P l → IsOK Q l := (TOK.le_all hl).1

theorem TsOK.le (hl : P.Le Q) : ∀ l : List CTbl, TsOK P l → TsOK Q l := (TOK.le_all hl).2.2

end TomlVerif.Lemmas.Refine08c
