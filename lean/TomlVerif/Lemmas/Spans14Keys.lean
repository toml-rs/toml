import TomlVerif.Lemmas.CstParse
import TomlVerif.Lemmas.CstSpans
/-! C14 (document level): the lemmas about `Within` / `AllW` (spans in a range), and the span bounds of the
    key parsers. Every offset is `pos n s = n - s.length`; the bounds only need length comparisons between
    the remaining inputs. -/
namespace TomlVerif.Lemmas.Spans14
open TomlVerif TomlVerif.Spec TomlVerif.Model TomlVerif.Model.Strings TomlVerif.Model.Value
open TomlVerif.Model.Cst TomlVerif.Lemmas.Cst03
open TomlVerif.Lemmas.Tiling03More (segAt KeyRun ckeyPathAux_run)

theorem pos_mono {n : Nat} {s r : Bytes} (h : r.length ≤ s.length) : pos n s ≤ pos n r := by
  unfold pos; omega

theorem trailEnd_len (s : Bytes) : (trailEnd s).length ≤ s.length := (trailEnd_suffix s).length_le

theorem rb_allW (n : Nat) (a s r b : Bytes) (h1 : s.length ≤ a.length) (h2 : r.length ≤ s.length)
    (h3 : b.length ≤ r.length) : AllW (pos n a) (pos n b) (rawSp (rawBetween n s r)) :=
  rawBetween_allW n _ _ s r (pos_mono h1) (pos_mono h2) (pos_mono h3)

theorem _root_.TomlVerif.Lemmas.Cst03.Within.mono {lo hi lo' hi' : Nat} {sp : Span} (h : Within lo hi sp) (h1 : lo' ≤ lo)
    (h2 : hi ≤ hi') : Within lo' hi' sp :=
  ⟨Nat.le_trans h1 h.1, h.2.1, Nat.le_trans h.2.2 h2⟩

theorem _root_.TomlVerif.Lemmas.Cst03.Within.join {lo m hi : Nat} {a b : Span} (ha : Within lo m a) (hb : Within m hi b) :
    Within lo hi (a.1, b.2) :=
  ⟨ha.1, Nat.le_trans ha.2.1 (Nat.le_trans ha.2.2 (Nat.le_trans hb.1 hb.2.1)), hb.2.2⟩

theorem _root_.TomlVerif.Lemmas.Cst03.AllW.mono_pos {n : Nat} {a s r b : Bytes} {l : List Span} (h : AllW (pos n s) (pos n r) l)
    (h1 : s.length ≤ a.length) (h3 : b.length ≤ r.length) : AllW (pos n a) (pos n b) l :=
  h.mono (pos_mono h1) (pos_mono h3)

theorem _root_.TomlVerif.Lemmas.Cst03.AllW.single {lo hi : Nat} {sp : Span} (h : Within lo hi sp) : AllW lo hi [sp] := by
  intro x hx
  simp at hx
  subst hx
  exact h

theorem _root_.TomlVerif.Lemmas.Cst03.AllW.left {lo hi : Nat} {a b : List Span} (h : AllW lo hi (a ++ b)) : AllW lo hi a :=
  fun sp hm => h sp (List.mem_append_left _ hm)

theorem _root_.TomlVerif.Lemmas.Cst03.AllW.right {lo hi : Nat} {a b : List Span} (h : AllW lo hi (a ++ b)) : AllW lo hi b :=
  fun sp hm => h sp (List.mem_append_right _ hm)

theorem decorSp_default : decorSp {} = [] := rfl

theorem decorSp_empty : decorSp emptyDecor = [] := rfl

theorem decorSp_new (a b : Raw) : decorSp (Decor.new a b) = rawSp a ++ rawSp b := rfl

theorem mem_kvsSpans {sp : Span} {k : CKey} {v : CVal} : ∀ {items : List (CKey × CVal)}, (k, v) ∈ items →
    (sp ∈ keySpans k ∨ sp ∈ valSpans v) → sp ∈ kvsSpans items
  | [], h, _ => by cases h
  | (k0, v0) :: r, h, hs => by
    simp only [kvsSpans, List.mem_append]
    rcases List.mem_cons.1 h with h | h
    · cases h
      rcases hs with hs | hs
      · exact Or.inl (Or.inl hs)
      · exact Or.inl (Or.inr hs)
    · exact Or.inr (mem_kvsSpans h hs)

theorem mem_elemsSpans {sp : Span} {v : CVal} : ∀ {items : List CVal}, v ∈ items → sp ∈ valSpans v → sp ∈ elemsSpans items
  | [], h, _ => by cases h
  | v0 :: r, h, hs => by
    simp only [elemsSpans, List.mem_append]
    rcases List.mem_cons.1 h with h | h
    · subst h; exact Or.inl hs
    · exact Or.inr (mem_elemsSpans h hs)

theorem mem_tblsSpans {sp : Span} {t : CTbl} : ∀ {ts : List CTbl}, t ∈ ts → sp ∈ tblSpans t → sp ∈ tblsSpans ts
  | [], h, _ => by cases h
  | t0 :: r, h, hs => by
    simp only [tblsSpans, List.mem_append]
    rcases List.mem_cons.1 h with h | h
    · subst h; exact Or.inl hs
    · exact Or.inr (mem_tblsSpans h hs)

theorem keysSpans_append (a b : List CKey) : keysSpans (a ++ b) = keysSpans a ++ keysSpans b := by
  induction a with
  | nil => rfl
  | cons k r ih => simp [keysSpans, ih]

theorem keysSpans_single (k : CKey) : keysSpans [k] = keySpans k := by simp [keysSpans]

theorem mem_keysSpans {sp : Span} {ks : List CKey} : sp ∈ keysSpans ks ↔ ∃ k ∈ ks, sp ∈ keySpans k := by
  induction ks with
  | nil => simp [keysSpans]
  | cons k r ih => simp [keysSpans, ih]

theorem segAt_spans (n : Nat) (s k r0 : Bytes) (hk : Key.simpleKey (dropWs s) = .ok k r0) :
    (dropWs r0).length < s.length ∧
      AllW (pos n s) (pos n (dropWs r0)) (keySpans (segAt n s k r0)) := by
  have h0 := (Suffix03.simpleKey_adv _ _ _ hk).2
  have l1 := (Suffix03.dropWs_suffix s).length_le
  have l2 := (Suffix03.dropWs_suffix r0).length_le
  refine ⟨by omega, ?_⟩
  simp only [segAt, keySpans, decorSp_default, decorSp_new, List.append_nil]
  refine AllW.append (rb_allW _ _ _ _ _ l1 (by omega) l2) (AllW.append ?_ ?_)
  · exact rb_allW _ _ _ _ _ (Nat.le_refl _) l1 (by omega)
  · exact rb_allW _ _ _ _ _ (by omega) l2 (Nat.le_refl _)

theorem _root_.TomlVerif.Lemmas.Tiling03More.KeyRun.spans {n : Nat} {s r : Bytes} {ks : List CKey}
    (h : KeyRun n s ks r) :
    r.length < s.length ∧ AllW (pos n s) (pos n r) (keysSpans ks) := by
  induction h with
  | last hk => rw [keysSpans_single]; exact segAt_spans n _ _ _ hk
  | more hk heq _ ih =>
    obtain ⟨l0, hs⟩ := segAt_spans n _ _ _ hk
    have l3 := congrArg List.length heq
    simp only [List.length_cons] at l3
    refine ⟨by omega, ?_⟩
    simp only [keysSpans]
    exact AllW.append (hs.mono (Nat.le_refl _) (pos_mono (by omega))) (ih.2.mono (pos_mono (by omega)) (Nat.le_refl _))

/-- the first key gives up its dotted prefix -/
def takePre (k : CKey) : Raw × CKey :=
  match k.dotted.pre with
  | some p => (p, { k with dotted := { k.dotted with pre := some .empty } })
  | none => (.empty, k)

/-- the last key gives up its dotted suffix -/
def takeSuf (k : CKey) : Raw × CKey :=
  match k.dotted.suf with
  | some q => (q, { k with dotted := { k.dotted with suf := some .empty } })
  | none => (.empty, k)

/-- `fixLeaf` with its two anonymous matches under the names `takePre` / `takeSuf` -/
theorem fixLeaf_cons (first : CKey) (rest : List CKey) :
    fixLeaf (first :: rest) =
      match Value.splitLast ((takePre first).2 :: rest) with
      | none => (takePre first).2 :: rest
      | some (init, last) => init ++ [{ (takeSuf last).2 with leaf := Decor.new (takePre first).1 (takeSuf last).1 }] := by
  unfold fixLeaf
  simp only []
  cases hp : first.dotted.pre with
  | none =>
    simp only [takePre, hp]
    cases hsl : Value.splitLast (first :: rest) with
    | none => rfl
    | some pr =>
      obtain ⟨init, last⟩ := pr
      simp only []
      cases hq : last.dotted.suf with
      | none => simp only [takeSuf, hq]
      | some q => simp only [takeSuf, hq]
  | some p =>
    simp only [takePre, hp]
    generalize (CKey.mk first.key first.repr first.leaf ⟨some Raw.empty, first.dotted.suf⟩) = f'
    cases hsl : Value.splitLast (f' :: rest) with
    | none => rfl
    | some pr =>
      obtain ⟨init, last⟩ := pr
      simp only []
      cases hq : last.dotted.suf with
      | none => simp only [takeSuf, hq]
      | some q => simp only [takeSuf, hq]

theorem takePre_spans (k : CKey) :
    (∀ sp ∈ rawSp (takePre k).1, sp ∈ keySpans k) ∧ (∀ sp ∈ keySpans (takePre k).2, sp ∈ keySpans k) := by
  unfold takePre
  cases hp : k.dotted.pre with
  | none => simp [rawSp]
  | some p =>
    simp only [keySpans, decorSp, hp, optRawSp, rawSp]
    constructor
    · intro sp hm; simp [hm]
    · intro sp hm; simp at hm ⊢; rcases hm with hm | hm | hm | hm <;> simp [hm]

theorem takeSuf_spans (k : CKey) :
    (∀ sp ∈ rawSp (takeSuf k).1, sp ∈ keySpans k) ∧
    (∀ sp ∈ rawSp (takeSuf k).2.repr ++ decorSp (takeSuf k).2.dotted, sp ∈ keySpans k) := by
  unfold takeSuf
  cases hp : k.dotted.suf with
  | none => simp [rawSp, keySpans]; intro a b hm; rcases hm with hm | hm <;> simp [hm]
  | some p =>
    simp only [keySpans, decorSp, hp, optRawSp, rawSp]
    constructor
    · intro sp hm; simp [hm]
    · intro sp hm; simp at hm ⊢; rcases hm with hm | hm <;> simp [hm]

theorem fixLeaf_spans (ks : List CKey) : ∀ sp ∈ keysSpans (fixLeaf ks), sp ∈ keysSpans ks := by
  intro sp hm
  cases ks with
  | nil => exact hm
  | cons first rest =>
    rw [fixLeaf_cons] at hm
    have hfirst := takePre_spans first
    have hsub : ∀ sp ∈ keysSpans ((takePre first).2 :: rest), sp ∈ keysSpans (first :: rest) := by
      intro sp hm
      simp only [keysSpans, List.mem_append] at hm ⊢
      rcases hm with hm | hm
      · exact Or.inl (hfirst.2 sp hm)
      · exact Or.inr hm
    split at hm
    · exact hsub sp hm
    · rename_i init last hsl
      have hl := Tiling03More.vsplitLast_some _ _ _ hsl
      have hlast : ∀ sp ∈ keySpans last, sp ∈ keysSpans (first :: rest) := by
        intro sp hm
        apply hsub
        rw [hl, keysSpans_append, keysSpans_single]
        exact List.mem_append_right _ hm
      have hinit : ∀ sp ∈ keysSpans init, sp ∈ keysSpans (first :: rest) := by
        intro sp hm
        apply hsub
        rw [hl, keysSpans_append]
        exact List.mem_append_left _ hm
      rw [keysSpans_append, keysSpans_single, List.mem_append] at hm
      rcases hm with hm | hm
      · exact hinit sp hm
      · have hs := takeSuf_spans last
        simp only [keySpans, decorSp_new, List.mem_append] at hm
        rcases hm with (hm | hm | hm) | hm
        · exact hlast sp (hs.2 sp (List.mem_append_left _ hm))
        · simp only [keysSpans, List.mem_append]
          exact Or.inl (hfirst.1 sp hm)
        · exact hlast sp (hs.1 sp hm)
        · exact hlast sp (hs.2 sp (List.mem_append_right _ hm))

theorem ckeyPath_spans (n : Nat) (s : Bytes) (ks : List CKey) (r : Bytes) (h : ckeyPath n s = .ok ks r) :
    r.length < s.length ∧ AllW (pos n s) (pos n r) (keysSpans ks) := by
  unfold ckeyPath at h
  cases hk : ckeyPathAux n (s.length + 1) s [] with
  | ok ks0 r0 =>
    rw [hk] at h
    simp only [] at h
    split at h
    · cases h
    · injection h with h1 h2; subst h1; subst h2
      obtain ⟨new, hnew, hrun⟩ := ckeyPathAux_run n _ _ _ _ _ hk
      simp only [List.nil_append] at hnew
      subst hnew
      exact ⟨hrun.spans.1, hrun.spans.2.of_subset (fixLeaf_spans _)⟩
  | bt => rw [hk] at h; cases h
  | cut => rw [hk] at h; cases h

end TomlVerif.Lemmas.Spans14
