import TomlVerif.Lemmas.MlStrings02
import TomlVerif.Lemmas.Guards10
/-! The writer's output as text of the grammar.  What the escaped writer emits for a byte is the spelling
    of one `basic-char` meaning that byte; so in each of the four encodings the token is the rendering of a
    well-formed string of `Spec/AstString.lean` meaning `s` (the multi-line ones through `MlBody.Body`,
    where the writer's run counter meets the reader's). -/
namespace TomlVerif.Lemmas
open TomlVerif TomlVerif.Spec TomlVerif.Spec.AstString TomlVerif.Model.Write TomlVerif.Model.Strings TomlVerif.Model.Key
open TomlVerif.Lemmas.S02 TomlVerif.Lemmas.MlBody

theorem writeTomlValue_basic (s : Bytes) (nl : Bool) :
    writeTomlValue s (some .basic) nl = 0x22 :: (escBody false 0 s ++ [0x22]) := by
  simp [writeTomlValue, delimiter, isMl, isEscaped]

theorem writeTomlValue_mlBasic (s : Bytes) (nl : Bool) :
    writeTomlValue s (some .mlBasic) nl =
      0x22 :: 0x22 :: 0x22 :: ((if nl then [0x0A] else []) ++ (escBody true 0 s ++ [0x22, 0x22, 0x22])) := by
  simp [writeTomlValue, delimiter, isMl, isEscaped]

theorem writeTomlValue_mlLiteral (s : Bytes) (nl : Bool) :
    writeTomlValue s (some .mlLiteral) nl =
      0x27 :: 0x27 :: 0x27 :: ((if nl then [0x0A] else []) ++ (s ++ [0x27, 0x27, 0x27])) := by
  simp [writeTomlValue, delimiter, isMl, isEscaped]

theorem writeTomlValue_bare (s : Bytes) (nl : Bool) : writeTomlValue s none nl = s := by
  simp [writeTomlValue, delimiter, isMl, isEscaped]

theorem ctl_hex : ∀ b : UInt8, isCtlByte b = true →
    (Escaped.u4 0x30 0x30 (hexUpper (b.toNat / 16)) (hexUpper (b.toNat % 16))).wf = true ∧
    (Escaped.u4 0x30 0x30 (hexUpper (b.toNat / 16)) (hexUpper (b.toNat % 16))).sem = [b] :=
  forall_byte (by decide +kernel)

theorem basicUnescaped_eq : ∀ b : UInt8,
    isBasicUnescaped b = (b == 0x09 || !(isCtlByte b || b == 0x22 || b == 0x5C)) :=
  forall_byte (by decide +kernel)

theorem escNonQuote_char (ml : Bool) (b : UInt8) (hq : b ≠ 0x22) (hn : ml = true → b ≠ 0x0A) :
    ∃ c : BasicChar, c.wf = true ∧ escNonQuote ml b = c.render ∧ c.sem = [b] := by
  unfold escNonQuote
  by_cases h8 : b = 0x08
  · subst h8; exact ⟨.escaped (.simple 0x62), rfl, rfl, rfl⟩
  by_cases h9 : b = 0x09
  · subst h9; exact ⟨.escaped (.simple 0x74), rfl, rfl, rfl⟩
  by_cases hA : b = 0x0A
  · subst hA
    cases ml
    · exact ⟨.escaped (.simple 0x6E), rfl, rfl, rfl⟩
    · exact absurd rfl (hn rfl)
  by_cases hC : b = 0x0C
  · subst hC; exact ⟨.escaped (.simple 0x66), rfl, rfl, rfl⟩
  by_cases hD : b = 0x0D
  · subst hD; exact ⟨.escaped (.simple 0x72), rfl, rfl, rfl⟩
  by_cases h5 : b = 0x5C
  · subst h5; exact ⟨.escaped (.simple 0x5C), rfl, rfl, rfl⟩
  rw [if_neg (by simpa using h8), if_neg (by simpa using h9), if_neg (by simpa using hA),
    if_neg (by simpa using hC), if_neg (by simpa using hD), if_neg (by simpa using h5)]
  by_cases hc : isCtlByte b = true
  · obtain ⟨hw, hs⟩ := ctl_hex b hc
    rw [if_pos (show (decide (b ≤ 0x1F) || b == 0x7F) = true from hc)]
    exact ⟨.escaped (.u4 0x30 0x30 _ _), hw, rfl, hs⟩
  · rw [if_neg (show ¬(decide (b ≤ 0x1F) || b == 0x7F) = true from hc)]
    refine ⟨.raw b, ?_, rfl, rfl⟩
    rw [BasicChar.wf, basicUnescaped_eq]
    simp [hc, hq, h5]

theorem escBody_single (s : Bytes) : ∀ k, ∃ cs : List BasicChar, wfBasic cs = true ∧
    escBody false k s = cs.flatMap BasicChar.render ∧ semBasic cs = s := by
  induction s with
  | nil => intro k; exact ⟨[], rfl, rfl, rfl⟩
  | cons b s ih =>
    intro k
    obtain ⟨cs, hw, hr, hs⟩ := ih 0
    by_cases hq : b = 0x22
    · subst hq
      exact ⟨.escaped (.simple 0x22) :: cs, by rw [wfBasic_cons, hw]; rfl, by simp [escBody, hr]; rfl,
        by simp [semBasic] at hs ⊢; rw [hs]; rfl⟩
    · obtain ⟨c, hc, hcr, hcs⟩ := escNonQuote_char false b hq (by intro h; cases h)
      exact ⟨c :: cs, by rw [wfBasic_cons, hw, hc]; rfl, by simp [escBody, hq, hr, hcr],
        by simp [semBasic] at hs ⊢; rw [hs, hcs]; rfl⟩

theorem writeBasic_ast (s : Bytes) (nl : Bool) : ∃ cs : List BasicChar, wfBasic cs = true ∧
    writeTomlValue s (some .basic) nl = renderBasic cs ∧ semBasic cs = s := by
  obtain ⟨cs, hw, hb, hs⟩ := escBody_single s 0
  exact ⟨cs, hw, by rw [writeTomlValue_basic, hb]; rfl, hs⟩

theorem writeLiteral_ast (s : Bytes) (nl : Bool) : writeTomlValue s (some .literal) nl = renderLiteral s := by
  simp [writeTomlValue, delimiter, isMl, isEscaped, renderLiteral]

theorem mlbUnit_escNonQuote (b : UInt8) (t : Bytes) (hq : b ≠ 0x22) :
    ∃ x u, escNonQuote true b ++ t = x :: u ∧ x ≠ 0x22 ∧ mlbUnit (x :: u) = some ([b], t) := by
  by_cases hA : b = 0x0A
  · subst hA
    exact ⟨0x0A, t, rfl, by decide, mlbUnit_item (.nl false) t rfl rfl (by intro _ _ _ e; cases e)⟩
  · obtain ⟨c, hc, hr, hs⟩ := escNonQuote_char true b hq (fun _ => hA)
    have hw : (MlbItem.char c).wf = true := by cases c <;> exact hc
    obtain ⟨x, u, e, h1, _⟩ := mlb_item_head (.char c) hw
    have hu := mlbUnit_item (.char c) t hw rfl (by intro _ _ _ e; cases e)
    simp only [MlbItem.render, MlbItem.sem] at e hu
    rw [e, hs] at hu
    exact ⟨x, u ++ t, by rw [hr, e]; rfl, h1 rfl, hu⟩

/-- `k` = `seq_double_quotes`: the raw quotation marks the writer has emitted in the current run,
    which the reader has not yet been able to tell from a closing delimiter -/
theorem escBody_ml_body (rest : Bytes) (hr : rest.head? ≠ some 0x22) (s : Bytes) : ∀ k, k ≤ 2 →
    Body 0x22 mlbUnit rest (List.replicate k 0x22 ++ (escBody true k s ++ 0x22 :: 0x22 :: 0x22 :: rest))
      (List.replicate k 0x22 ++ s) := by
  induction s with
  | nil => intro k hk; simpa [escBody] using Body.close (unit := mlbUnit) k hk (Or.inr hr)
  | cons b s ih =>
    intro k hk
    by_cases hq : b = 0x22
    · subst hq
      by_cases hk2 : k < 2
      · have e : escBody true k (0x22 :: s) = 0x22 :: escBody true (k + 1) s := by simp [escBody]; omega
        have := ih (k + 1) (by omega)
        simpa [e, List.replicate_succ'] using this
      · -- the third of a run is written as an escape
        obtain rfl : k = 2 := by omega
        have e : escBody true 2 (0x22 :: s) = 0x5C :: 0x22 :: escBody true 0 s := by simp [escBody]
        have hu := mlbUnit_item (.char (.escaped (.simple 0x22))) (escBody true 0 s ++ 0x22 :: 0x22 :: 0x22 :: rest)
          rfl rfl (by intro _ _ _ e; cases e)
        rw [e]
        exact Body.run 2 hk (by decide) (Body.unit (by decide) hu (by simpa using ih 0 (by omega)))
    · have e : escBody true k (b :: s) = escNonQuote true b ++ escBody true 0 s := by simp [escBody, hq]
      obtain ⟨x, u, hxu, hx, hu⟩ := mlbUnit_escNonQuote b (escBody true 0 s ++ 0x22 :: 0x22 :: 0x22 :: rest) hq
      rw [e, List.append_assoc, hxu]
      exact Body.run k hk hx (Body.unit hx hu (by simpa using ih 0 (by omega)))

theorem mlb_sem_head (j : MlbItem) (tl : List MlbItem) (h : j.isNl = true) :
    ((j :: tl).flatMap MlbItem.sem).head? = some 0x0A := by
  cases j <;> simp [MlbItem.isNl] at h; simp [MlbItem.sem]

/-- `nl`: a newline after the opening delimiter. The reader drops one there, so the writer must put it
    when `s` itself begins with a line feed; then a first `nl` item of the body stays content. -/
theorem writeMlBasic_ast (s rest : Bytes) (nl : Bool) (hr : rest.head? ≠ some 0x22)
    (hnl : nl = false → s.head? ≠ some 0x0A) :
    ∃ a : MlBasic, a.wf = true ∧ MlFollow 0x22 (mlbTrailing a.items) rest ∧
      writeTomlValue s (some .mlBasic) nl = a.render ∧ a.sem = s := by
  obtain ⟨items, hw, hs, hv, hf⟩ := mlb_items_of_body (escBody_ml_body rest hr s 0 (by omega))
  simp only [List.replicate, List.nil_append] at hs hv
  have hs' : escBody true 0 s = items.flatMap MlbItem.render := List.append_cancel_right hs
  refine ⟨⟨if nl then some false else none, items⟩, ?_, hf, ?_, hv.symm⟩
  · simp only [MlBasic.wf, hw, Bool.true_and]
    cases nl with
    | true => rfl
    | false =>
      cases items with
      | nil => rfl
      | cons j tl =>
        cases hj : j.isNl with
        | false => simp [hj]
        | true => exact absurd (hv ▸ mlb_sem_head j tl hj) (hnl rfl)
  · rw [writeTomlValue_mlBasic, hs']; cases nl <;> simp [MlBasic.render, firstNlBytes, nlBytes]

theorem mllUnit_raw (b : UInt8) (t : Bytes) (hb : mllOK b = true) (hq : b ≠ 0x27) :
    mllUnit (b :: t) = some ([b], t) := by
  by_cases hm : isMllChar b = true
  · exact mllUnit_item (.raw b) t hm rfl
  · have : b = 0x0A := by
      unfold mllOK at hb; simp [hm, hq] at hb; exact hb
    subst this
    exact mllUnit_item (.nl false) t rfl rfl

theorem mll_raw_body (rest : Bytes) (hr : rest.head? ≠ some 0x27) (s : Bytes) : ∀ k, k ≤ 2 →
    noTriple 0x27 k s = true → s.all mllOK = true →
    Body 0x27 mllUnit rest (List.replicate k 0x27 ++ (s ++ 0x27 :: 0x27 :: 0x27 :: rest))
      (List.replicate k 0x27 ++ s) := by
  induction s with
  | nil => intro k hk _ _; simpa using Body.close (unit := mllUnit) k hk (Or.inr hr)
  | cons b s ih =>
    intro k hk hn ha
    simp only [List.all_cons, Bool.and_eq_true] at ha
    by_cases hq : b = 0x27
    · subst hq
      simp [noTriple] at hn
      have := ih (k + 1) (by omega) hn.2 ha.2
      simpa [List.replicate_succ'] using this
    · simp [noTriple, hq] at hn
      exact Body.run k hk hq (Body.unit hq (mllUnit_raw b _ ha.1 hq) (by simpa using ih 0 (by omega) hn ha.2))

theorem mll_sem_head (j : MllItem) (tl : List MllItem) (h : j.isNl = true) :
    ((j :: tl).flatMap MllItem.sem).head? = some 0x0A := by
  cases j <;> simp [MllItem.isNl] at h; simp [MllItem.sem]

theorem writeMlLiteral_ast (s rest : Bytes) (nl : Bool) (hr : rest.head? ≠ some 0x27) (hnt : noTriple 0x27 0 s = true)
    (hall : s.all mllOK = true) (hnl : nl = false → s.head? ≠ some 0x0A) :
    ∃ a : MlLiteral, a.wf = true ∧ MlFollow 0x27 (mllTrailing a.items) rest ∧
      writeTomlValue s (some .mlLiteral) nl = a.render ∧ a.sem = s := by
  obtain ⟨items, hw, hs, hv, hf⟩ := mll_items_of_body (mll_raw_body rest hr s 0 (by omega) hnt hall)
  simp only [List.replicate, List.nil_append] at hs hv
  have hs' : s = items.flatMap MllItem.render := List.append_cancel_right hs
  refine ⟨⟨if nl then some false else none, items⟩, ?_, hf, ?_, hv.symm⟩
  · simp only [MlLiteral.wf, hw, Bool.true_and]
    cases nl with
    | true => rfl
    | false =>
      cases items with
      | nil => rfl
      | cons j tl =>
        cases hj : j.isNl with
        | false => simp [hj]
        | true => exact absurd (hv ▸ mll_sem_head j tl hj) (hnl rfl)
  · rw [writeTomlValue_mlLiteral]; cases nl <;> simp [MlLiteral.render, firstNlBytes, nlBytes, ← hs']

end TomlVerif.Lemmas
