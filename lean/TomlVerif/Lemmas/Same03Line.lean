import TomlVerif.Lemmas.Tiling03NestV
import TomlVerif.Lemmas.CstRun
import TomlVerif.Lemmas.Render03Value
import TomlVerif.Lemmas.DocGrammar01
/-! C03, same data — lines: the pending trivia (`TrivOK`: after `stripCr`, blank and comment lines
    with LF ends followed by blanks), and the printed text of a key/value line and of a header
    line as renderings of well-formed grammar lines (`QLine`) with the statement the parser
    executes. -/
namespace TomlVerif.Lemmas.Tiling03More
open TomlVerif TomlVerif.Spec TomlVerif.Model TomlVerif.Model.Strings TomlVerif.Model.Value
open TomlVerif.Model.Cst TomlVerif.Model.Encode TomlVerif.Lemmas.Suffix03 TomlVerif.Lemmas.Cst03
open TomlVerif.Lemmas.LastByte03 TomlVerif.Lemmas.Tiling03 TomlVerif.Lemmas.Tiling03Hdr
open TomlVerif.Lemmas.Tiling03Nest TomlVerif.Lemmas.Tiling03More.VS
open TomlVerif.Spec.AstValue TomlVerif.Spec.AstValueQ TomlVerif.Spec.AstDoc TomlVerif.Spec.AstDocQ
open TomlVerif.Lemmas.Value01 (commentBytes)
open TomlVerif.Lemmas.State09 (Stmt run step run_append)

def TrivLines (tl : List (QLine × Bool)) : Prop := ∀ p ∈ tl, p.1.WF ∧ p.1.stmt = none

def TrivOK (tr : Bytes) : Prop :=
  ∃ tl w, TrivLines tl ∧ AllWs w ∧ stripCr tr = renderLinesQ tl ++ w

/-- the trivia at the end of the document: the last piece may be a comment without line end -/
def TrivEnd (tr : Bytes) : Prop :=
  ∃ tl l, TrivLines tl ∧ QLine.WF l ∧ l.stmt = none ∧ stripCr tr = renderLinesQ tl ++ l.render

theorem trivLines_snoc {tl : List (QLine × Bool)} {l : QLine} {c : Bool} (h : TrivLines tl) (hw : l.WF)
    (hs : l.stmt = none) : TrivLines (tl ++ [(l, c)]) :=
  List.forall_mem_append.2 ⟨h, by simpa using ⟨hw, hs⟩⟩

theorem triv_nil : TrivOK [] := ⟨[], [], List.forall_mem_nil _, AllWs.nil, rfl⟩

theorem triv_ws (tr x : Bytes) (h : TrivOK tr) (hx : AllWs x) : TrivOK (tr ++ x) := by
  obtain ⟨tl, w, h1, h2, h3⟩ := h
  refine ⟨tl, w ++ x, h1, SoundDoc01.allWs_append _ _ h2 hx, ?_⟩
  rw [stripCr_append, h3, allWs_strip x hx, List.append_assoc]

theorem renderLinesQ_one (l : QLine) : renderLinesQ [(l, false)] = l.render ++ [0x0A] := by
  simp [renderLinesQ, nlBytes]

theorem newline?_piece (s r : Bytes) (h : newline? s = some r) :
    ∃ nl, s = nl ++ r ∧ stripCr nl = [0x0A] := by
  obtain ⟨c, e⟩ := Sound01.newline_split s r h
  exact ⟨nlBytes c, e, by cases c <;> decide⟩

theorem triv_nl (tr nl : Bytes) (h : TrivOK tr) (hnl : stripCr nl = [0x0A]) : TrivOK (tr ++ nl) := by
  obtain ⟨tl, w, h1, h2, h3⟩ := h
  refine ⟨tl ++ [(.blank w, false)], [], trivLines_snoc (l := .blank w) h1 h2 rfl, AllWs.nil, ?_⟩
  rw [stripCr_append, h3, hnl, renderLinesQ_append, renderLinesQ_one]
  simp [QLine.render]

theorem stripCr_comment (body : Bytes) (hb : ∀ b ∈ body, isNonEol b = true) :
    stripCr (0x23 :: body) = 0x23 :: body := by
  apply stripCr_of_noCr
  intro b hb'
  rcases List.mem_cons.1 hb' with e | e
  · subst e; decide
  · exact (Lemmas.Value01.nonEol_not_nl b (hb b e)).2

theorem triv_comment (tr body nl : Bytes) (h : TrivOK tr) (hb : ∀ b ∈ body, isNonEol b = true)
    (hnl : stripCr nl = [0x0A]) : TrivOK (tr ++ (0x23 :: body ++ nl)) := by
  obtain ⟨tl, w, h1, h2, h3⟩ := h
  refine ⟨tl ++ [(.comment w body, false)], [], trivLines_snoc (l := .comment w body) h1 ⟨h2, hb⟩ rfl, AllWs.nil, ?_⟩
  rw [stripCr_append, stripCr_append, h3, hnl, stripCr_comment body hb, renderLinesQ_append, renderLinesQ_one]
  simp [QLine.render, List.append_assoc]

theorem triv_end (tr : Bytes) (h : TrivOK tr) : TrivEnd tr := by
  obtain ⟨tl, w, h1, h2, h3⟩ := h
  exact ⟨tl, .blank w, h1, h2, rfl, h3⟩

theorem triv_comment_eof (tr body : Bytes) (h : TrivOK tr) (hb : ∀ b ∈ body, isNonEol b = true) :
    TrivEnd (tr ++ 0x23 :: body) := by
  obtain ⟨tl, w, h1, h2, h3⟩ := h
  refine ⟨tl, .comment w body, h1, ⟨h2, hb⟩, rfl, ?_⟩
  rw [stripCr_append, h3, stripCr_comment body hb]
  simp [QLine.render, List.append_assoc]

theorem trailEnd_split (s : Bytes) :
    ∃ w2 cm, AllWs w2 ∧ CommentOK cm ∧ s = w2 ++ commentBytes cm ++ trailEnd s := by
  obtain ⟨w, hw, es, _⟩ := Sound01.dropWs_split s
  unfold trailEnd
  simp only []
  split
  · rename_i r heq
    obtain ⟨body, hb, eb⟩ := Sound01.dropComment_split r
    refine ⟨w, some body, hw, ?_, ?_⟩
    · intro b' e; injection e with e; subst e; exact hb
    · conv => lhs; rw [es, heq, eb]
      simp [commentBytes, List.append_assoc]
  · exact ⟨w, none, hw, (fun b' e => by cases e), by simpa [commentBytes] using es⟩

theorem lineEnd_text (inp r2 : Bytes) (hr2 : r2 <:+ inp) :
    ∃ w2 cm, AllWs w2 ∧ CommentOK cm ∧
      encRaw stripCr inp (rawBetween inp.length r2 (trailEnd r2)) = w2 ++ commentBytes cm := by
  obtain ⟨w2, cm, h1, h2, h3⟩ := trailEnd_split r2
  refine ⟨w2, cm, h1, h2, ?_⟩
  simp only [encRaw]
  rw [rawText_between inp r2 (w2 ++ commentBytes cm) (trailEnd r2) hr2 h3, stripCr_append, allWs_strip w2 h1]
  cases cm with
  | none => rfl
  | some body => rw [show commentBytes (some body) = 0x23 :: body from rfl, stripCr_comment body (h2 body rfl)]

theorem ckeyPath_limit (n : Nat) (s r : Bytes) (ks : List CKey) (h : ckeyPath n s = .ok ks r) : ks.length < LIMIT := by
  obtain ⟨ks0, _, hl, rfl⟩ := ckeyPath_ok h
  rw [fixLeaf_length]; exact hl

theorem ckeyvalLine_limit (n : Nat) (st : CState) (s r : Bytes) (ks : List CKey) (p : CState × Bytes)
    (h : ckeyvalLine n st s = some p) (hk : ckeyPath n s = .ok ks r) : ks.length - 1 < LIMIT := by
  unfold ckeyvalLine at h
  rw [hk] at h
  simp only [] at h
  by_cases hl : LIMIT ≤ ks.length - 1
  · rw [if_pos hl] at h; cases h
  · omega

def key0 (k : CKey) : CKey := { k with leaf := { k.leaf with pre := none } }

theorem key0_GK (inp : Bytes) (k : CKey) (h : GKey inp k) : GKey inp (key0 k) := by
  refine ⟨h.1, h.2.1, ?_, ?_⟩
  · intro r hr; cases hr
  · intro r hr; exact h.2.2.2 r hr

theorem kpTail_key0 (f : Bytes → Bytes) (inp : Bytes) (path : List CKey) (key : CKey) (ds : Bytes) :
    kpTail f inp path (key0 key) ds = kpTail f inp path key ds := by
  cases path <;> simp [kpTail, key0, encodeKey, suffixEncode]

theorem qd_path_last (qd : QDKey) (pk : List Bytes) (k : Bytes) (h : qd.keys = pk ++ [k]) :
    qd.path = pk ∧ qd.last = k := by
  obtain ⟨h1, h2⟩ := splitKeys_dropLast (qd.more.map QKey.key) qd.first.key
  unfold QDKey.path QDKey.last
  have hk : qd.first.key :: qd.more.map QKey.key = pk ++ [k] := h
  rw [h1, h2, hk]
  simp

/-- the printed key/value line as a grammar line.  `X` are the STORED keys of the dotted path (the
    printer writes those); the keys of the line itself only fix `keysOf X`, i.e. the statement. -/
theorem kv_line_q (inp : Bytes) (st : CState) (s r1 r2 tr : Bytes) (ks path X : List CKey) (key : CKey) (v : CVal)
    (hk : ckeyPath inp.length s = .ok ks (0x3D :: r1))
    (hv : cvalue inp.length (3 * r1.length + 4) (ks.length - 1) (dropWs r1) = .ok v r2)
    (hsl : splitLast ks = some (path, key)) (hlim : ks.length - 1 < LIMIT)
    (h5 : TrailIs inp.length st.trailing tr s) (htrs : tr ++ s <:+ inp) (htriv : TrivOK tr)
    (hX : keysOf X = keysOf path) (hXg : ∀ k ∈ X, GKey inp k) :
    ∃ tl line, TrivLines tl ∧ QLine.WF line ∧
      line.stmt = some (.kv (keysOf path) key.key (eraseVal v)) ∧
      encodeKeyPath stripCr inp (X ++ [kvKey st key]) [] [0x20] ++ [0x3D]
        ++ encodeValue stripCr inp (kvVal inp.length v r1 r2) [0x20] [] ++ [0x0A]
        = renderLinesQ (tl ++ [(line, false)]) := by
  have hs : s <:+ inp := (List.suffix_append tr s).trans htrs
  have hks := vsplitLast_some _ _ _ hsl
  have hkeyG : GKey inp key := ckeyPath_GK inp s _ ks hs hk key (by rw [hks]; simp)
  have hleaf := ckeyPath_leafPre inp s _ ks path key hk hsl
  obtain ⟨kw1, hkw1, ekw1, _⟩ := Sound01.dropWs_split s
  have hr1 : r1 <:+ inp := ((List.suffix_cons _ r1).trans (Tiling03More.ckeyPath_adv hk).1).trans hs
  obtain ⟨w1, hw1, ew1, _⟩ := Sound01.dropWs_split r1
  have hr1' : dropWs r1 <:+ inp := (Suffix03.dropWs_suffix r1).trans hr1
  obtain ⟨tv, htv, hdec, _⟩ := cvalue_tiling_simple id inp (FixOn.id inp) _ _ _ _ _ hr1' hv
  have hr2 : r2 <:+ inp := (htv ▸ List.suffix_append tv r2).trans hr1'
  obtain ⟨q, q1, q2, q3, q4⟩ := cvalue_renderable inp _ _ _ _ _ hr1' hv
  obtain ⟨w2, cm, hw2, hcm, esuf⟩ := lineEnd_text inp r2 hr2
  obtain ⟨tl, w, t1, t2, t3⟩ := htriv
  -- the leaf prefix of the key is written from the pending trivia `w ++ kw1`: `keyPath_q` gets it
  -- as the default prefix, so the key itself goes in without its own (`key0`)
  have hall : ∀ k ∈ X ++ [key0 key], GKey inp k :=
    List.forall_mem_append.2 ⟨hXg, by simpa using key0_GK inp key hkeyG⟩
  obtain ⟨qd, d1, d2, d3, d4, d5⟩ := keyPath_q inp (w ++ kw1) [0x20] (SoundDoc01.allWs_append _ _ t2 hkw1) AllWs.sp
    (X ++ [key0 key]) (by simp) hall
  have hlen : X.length + 1 = ks.length := by
    have := congrArg List.length hX
    simp only [keysOf, List.length_map] at this
    rw [hks, this]; simp
  have hqdwf : qd.WF := by
    refine ⟨d1, d2, ?_⟩
    have := ckeyPath_limit _ _ _ _ hk
    rw [d5]; simp only [List.length_append, List.length_singleton]; omega
  have hkeys : qd.keys = keysOf path ++ [key.key] := by
    rw [d4, keysOf_append, hX]; rfl
  obtain ⟨hp1, hp2⟩ := qd_path_last qd _ _ hkeys
  have hkp : encodeKeyPath stripCr inp (X ++ [kvKey st key]) [] [0x20] = renderLinesQ tl ++ qd.render := by
    rw [d3, encodeKeyPath_split, encodeKeyPath_split, kpTail_kvKey, kpTail_key0]
    have hl' : (kvKey st key).leaf.pre = some (takeTrailing (mergeSpan st.trailing (rawBetween inp.length s (dropWs s)).span)) := by
      unfold kvKey; simp only [hleaf]
    simp only [prefixEncode, hl', key0, encRaw]
    rw [mergePre_text inp st.trailing tr s kw1 (dropWs s) h5 htrs ekw1, stripCr_append, t3, allWs_strip kw1 hkw1]
    simp only [List.append_assoc]
  have hval : encodeValue stripCr inp (kvVal inp.length v r1 r2) [0x20] [] = w1 ++ (renderQ q ++ (w2 ++ commentBytes cm)) := by
    unfold kvVal
    rw [encodeValue_setDecor stripCr rfl inp v _ _ hdec [0x20] [] [] [], ← q2, esuf]
    simp only [encRaw]
    rw [rawText_between inp r1 w1 (dropWs r1) hr1 ew1, allWs_strip w1 hw1]
    simp only [List.append_assoc]
  refine ⟨tl, .keyval qd w1 q w2 cm, t1, ⟨hqdwf, hw1, q1, ?_, hw2, hcm⟩, ?_, ?_⟩
  · have hm : qd.more.length = ks.length - 1 := by
      simp only [List.length_append, List.length_singleton] at d5
      omega
    rw [hm]
    rcases q4 with q4 | q4
    · rw [q4]; omega
    · exact q4
  · simp only [QLine.stmt, hp1, hp2, q3]
  · rw [hkp, hval, renderLinesQ_append, renderLinesQ_one]
    simp only [QLine.render, List.append_assoc, List.cons_append, List.nil_append]

/-- the printed header line as a grammar line; `SP` are the STORED keys of the header's path -/
theorem hdr_line_q (inp : Bytes) (a : Bool) (s r r2 tr : Bytes) (ks SP : List CKey) (trailing : Option Span)
    (hsr : s = (if a then [0x5B, 0x5B] else [0x5B]) ++ r)
    (hk : ckeyPath inp.length r = .ok ks ((if a then [0x5D, 0x5D] else [0x5D]) ++ r2))
    (h5 : TrailIs inp.length trailing tr s) (htrs : tr ++ s <:+ inp) (htriv : TrivOK tr)
    (hSP : keysOf SP = keysOf ks) (hSPg : ∀ k ∈ SP, GKey inp k) (hne : SP ≠ []) :
    ∃ tl line, TrivLines tl ∧ QLine.WF line ∧
      line.stmt = some (if a then .arr (keysOf ks) else .std (keysOf ks)) ∧
      hdrText stripCr inp (Decor.new (takeTrailing trailing) (rawBetween inp.length r2 (trailEnd r2))) SP a
        = renderLinesQ (tl ++ [(line, false)]) := by
  have hs : s <:+ inp := (List.suffix_append tr s).trans htrs
  have hr : r <:+ inp := (hsr ▸ List.suffix_append _ r).trans hs
  have hr2 : r2 <:+ inp := ((List.suffix_append _ r2).trans (Tiling03More.ckeyPath_adv hk).1).trans hr
  obtain ⟨w2, cm, hw2, hcm, esuf⟩ := lineEnd_text inp r2 hr2
  obtain ⟨tl, w, t1, t2, t3⟩ := htriv
  obtain ⟨qd, d1, d2, d3, d4, d5⟩ := keyPath_q inp [] [] AllWs.nil AllWs.nil SP hne hSPg
  have hlen : SP.length = ks.length := by
    have := congrArg List.length hSP
    simpa [keysOf] using this
  have hqdwf : qd.WF := by
    refine ⟨d1, d2, ?_⟩
    have := ckeyPath_limit _ _ _ _ hk
    rw [d5, hlen]; exact this
  have hlead : encRaw stripCr inp (takeTrailing trailing) = renderLinesQ tl ++ w := by
    simp only [encRaw]
    rw [trailIs_text inp trailing tr s h5 htrs, t3]
  have hpe : SP.isEmpty = false := by cases SP <;> simp_all
  have hkeys : qd.keys = keysOf ks := by rw [d4, hSP]
  cases a with
  | false =>
    refine ⟨tl, .std w qd w2 cm, t1, ⟨t2, hqdwf, hw2, hcm⟩, by simp [QLine.stmt, hkeys], ?_⟩
    simp only [hdrText, hpe, Bool.false_eq_true, if_false, prefixEncode, suffixEncode, Decor.new]
    rw [hlead, esuf, ← d3, renderLinesQ_append, renderLinesQ_one]
    simp only [QLine.render, List.append_assoc, List.cons_append, List.nil_append]
  | true =>
    refine ⟨tl, .aot w qd w2 cm, t1, ⟨t2, hqdwf, hw2, hcm⟩, by simp [QLine.stmt, hkeys], ?_⟩
    simp only [hdrText, hpe, Bool.false_eq_true, if_false, if_true, prefixEncode, suffixEncode, Decor.new]
    rw [hlead, esuf, ← d3, renderLinesQ_append, renderLinesQ_one]
    simp only [QLine.render, List.append_assoc, List.cons_append, List.nil_append]

theorem trivLines_stmts : ∀ (tl : List (QLine × Bool)), TrivLines tl → stmtsLinesQ tl = []
  | [], _ => rfl
  | (l, c) :: r, h => by
    have h1 := (h (l, c) (by simp)).2
    simp only [] at h1
    simp only [stmtsLinesQ, h1]
    exact trivLines_stmts r (fun p hp => h p (List.mem_cons_of_mem _ hp))

theorem run_line (ls tl : List (QLine × Bool)) (line : QLine) (x : Stmt) (S S' : State.ParseState)
    (hrun : run {} (stmtsLinesQ ls) = some S) (htl : TrivLines tl) (hx : line.stmt = some x)
    (hstep : step S x = some S') :
    run {} (stmtsLinesQ (ls ++ (tl ++ [(line, false)]))) = some S' := by
  rw [stmtsLinesQ_append, stmtsLinesQ_append, trivLines_stmts tl htl, run_append, hrun]
  simp only [stmtsLinesQ, hx, List.nil_append, Option.bind_some, run, hstep]

theorem lines_wf (ls tl : List (QLine × Bool)) (line : QLine) (h1 : ∀ p ∈ ls, QLine.WF p.1) (h2 : TrivLines tl)
    (h3 : line.WF) : ∀ p ∈ ls ++ (tl ++ [(line, false)]), QLine.WF p.1 :=
  List.forall_mem_append.2 ⟨h1, List.forall_mem_append.2 ⟨fun p hp => (h2 p hp).1, by simpa using h3⟩⟩

end TomlVerif.Lemmas.Tiling03More
