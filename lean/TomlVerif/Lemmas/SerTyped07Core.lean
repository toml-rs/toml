import TomlVerif.Lemmas.SerOf07
import TomlVerif.Lemmas.Good07Tables
/-! C07, reading back, the induction over the type grammar. If `d` is a value of a declarable type `ty` with serde calls
    `serOf nm ty d = some v` that the `toml_edit` value serializer accepts (`serValue v = .ok x`), then every
    deserializer of either family, handed data `w` that holds `x`, returns `d` up to the identifications of the TOML data
    model.

    The induction is done once (`coreG_all`; `CoreG` is the statement for a type): for any build of the map `fl`, any
    relation `SimG P` between the stored data and the data read back (`P` relates the order of a table's entries to the
    stored one), any function `lf` saying what a `toml::Value` leaf comes back as, given the rule for that leaf
    (`LeafRule`, asked for only where the type holds a `toml::Value`). What comes back is `normDecV … lf ty d`:
    `normDec cf ty d` (Model/SerTyped.lean) with the clause for the leaf. -/
namespace TomlVerif.Lemmas.SerTyped07
open TomlVerif TomlVerif.Model TomlVerif.Model.TomlValue TomlVerif.Model.DeRoutes TomlVerif.Model.DeTyped
open TomlVerif.Model.SerTyped TomlVerif.Model.Ser TomlVerif.Spec TomlVerif.Spec.Serde
open TomlVerif.Lemmas.RoundTrip17 (KSorted)

theorem serValue_dt (d : Datetime.Datetime) (h : dtOk d = true) :
    serValue (.struct dtName [(dtField, .str (Datetime.Std.display d))]) = .ok (.sc (.dt d)) := by
  simp only [dtOk, beq_iff_eq] at h
  simp [serValue, serDatetime, h]

theorem ksorted_norm {α β : Type} (l : List (Bytes × α)) (p : Bytes × α → Bool) (f : α → β) (h : KSorted l) :
    KSorted ((l.filter p).map fun kd : Bytes × α => (kd.1, f kd.2)) := by
  unfold KSorted at h ⊢
  rw [List.pairwise_map]
  exact List.Pairwise.sublist List.filter_sublist h

/-- the variant-level statement, in terms of the two searches the deserializers run over the variants -/
def VariantGoal (fl : Flavour) (vs : Variants) (n : Bytes) (w : TV) (nd : Dec) : Prop :=
  (w = .str n ∧ unitOnlyVariant vs n = .ok nd) ∨ (∃ p, w = .tbl [(n, p)] ∧ GoodVariants fl vs n p nd)

theorem wellTypedVariants_name : ∀ (vs : Variants) (d : Dec), WellTypedVariants vs d = true → ∃ n, variantName d = some n
  | .nil, d, h => by simp [WellTypedVariants] at h
  | .cons _ _ _, d, h => by cases d <;> simp [WellTypedVariants, variantName] at h ⊢

end TomlVerif.Lemmas.SerTyped07

namespace TomlVerif.Lemmas.TypedGaps
open TomlVerif TomlVerif.Model TomlVerif.Model.TomlValue TomlVerif.Model.DeRoutes TomlVerif.Model.DeTyped
open TomlVerif.Model.SerTyped TomlVerif.Model.Ser TomlVerif.Spec TomlVerif.Spec.Serde
open TomlVerif.Spec.OrderedPlain (KeysDistinct)
open TomlVerif.Lemmas.Order18 (alookup_perm keysDistinct_perm)
open TomlVerif.Lemmas.RoundTrip17 (KSorted ksorted_nodup ksorted_perm_eq sortedInsert_new)
open TomlVerif.Lemmas.SerTyped07 TomlVerif.Lemmas.Ser07

/-- what the serializer (`copysign` on a NaN) and the transport (`cf`) do to a double -/
def leafF (cf : Nat → Nat) : Nat → Nat := fun b => cf (clearNanSign b)

mutual
/-- what comes back, `toml::Value` leaves included: `g64` / `g32` / `lf` say what an `f64` / `f32` / `toml::Value` leaf comes back as -/
def normDecV (g64 g32 : Nat → Nat) (lf : TV → TV) : Ty → Dec → Dec
  | .f64, .f64 b => .f64 (g64 b)
  | .f32, .f32 b => .f32 (g32 b)
  | .value, .value v => .value (lf v)
  | .option t, .some d => .some (normDecV g64 g32 lf t d)
  | .seq t, .seq l => .seq (l.map (normDecV g64 g32 lf t))
  | .tuple ts, .tuple l => .tuple (normTysV g64 g32 lf ts l)
  | .map t, .map l =>
    .map ((l.filter fun kd => !isNoneDec kd.2).map fun kd : Bytes × Dec => (kd.1, normDecV g64 g32 lf t kd.2))
  | .newtype t, .newtype d => .newtype (normDecV g64 g32 lf t d)
  | .struct fs, .struct l => .struct (normFieldsV g64 g32 lf fs l)
  | .enum vs, d => normVariantsV g64 g32 lf vs d
  | _, d => d
def normTysV (g64 g32 : Nat → Nat) (lf : TV → TV) : Tys → List Dec → List Dec
  | .cons t r, d :: l => normDecV g64 g32 lf t d :: normTysV g64 g32 lf r l
  | _, _ => []
def normFieldsV (g64 g32 : Nat → Nat) (lf : TV → TV) : Fields → List (Bytes × Dec) → List (Bytes × Dec)
  | .cons name t dflt r, (_, d) :: l =>
    (name, if dflt && isNoneDec d then .dflt else normDecV g64 g32 lf t d) :: normFieldsV g64 g32 lf r l
  | _, _ => []
def normShapeV (g64 g32 : Nat → Nat) (lf : TV → TV) : Shape → Dec → Dec
  | .newtype t, .vNewtype n d => .vNewtype n (normDecV g64 g32 lf t d)
  | .tuple ts, .vTuple n l => .vTuple n (normTysV g64 g32 lf ts l)
  | .struct fs, .vStruct n l => .vStruct n (normFieldsV g64 g32 lf fs l)
  | _, d => d
def normVariantsV (g64 g32 : Nat → Nat) (lf : TV → TV) : Variants → Dec → Dec
  | .nil, d => d
  | .cons name s r, d =>
    match d with
    | .vUnit n => if name == n then normShapeV g64 g32 lf s d else normVariantsV g64 g32 lf r d
    | .vNewtype n _ => if name == n then normShapeV g64 g32 lf s d else normVariantsV g64 g32 lf r d
    | .vTuple n _ => if name == n then normShapeV g64 g32 lf s d else normVariantsV g64 g32 lf r d
    | .vStruct n _ => if name == n then normShapeV g64 g32 lf s d else normVariantsV g64 g32 lf r d
    | _ => d
end

/-- what an `f32` comes back as: it travels as a double and returns through `as f32` -/
def f32F (cf : Nat → Nat) : Nat → Nat := fun b => f64ToF32 (cf (clearNanSign (f32to64 b)))

/-! ## the relation, with the order of table entries a parameter

`Sim` (Lemmas/Sim07.lean: tables entry by entry in ANY order) and `SimX` (Lemmas/TypedGapsInsertionA.lean: in the
same order) differ in one clause; `SimG P` has `P es es0` there, so that the induction over the type grammar is done
once, for any `P` that implies `List.Perm`. -/

mutual
def SimG (P : List (Bytes × TV) → List (Bytes × TV) → Prop) (cf : Nat → Nat) : V → TV → Prop
  | .sc (.float b), w => w = .float (cf b)
  | .sc (.str s), w => w = .str s
  | .sc (.int n), w => w = .int n
  | .sc (.bool b), w => w = .bool b
  | .sc (.dt d), w => w = .dt d
  | .arr xs, w => ∃ ws, w = .arr ws ∧ SimGList P cf xs ws
  | .inl kvs, w => ∃ es es0, w = .tbl es ∧ P es es0 ∧ SimGKVs P cf kvs es0
def SimGList (P : List (Bytes × TV) → List (Bytes × TV) → Prop) (cf : Nat → Nat) : List V → List TV → Prop
  | [], ws => ws = []
  | x :: r, ws => ∃ y ws', ws = y :: ws' ∧ SimG P cf x y ∧ SimGList P cf r ws'
def SimGKVs (P : List (Bytes × TV) → List (Bytes × TV) → Prop) (cf : Nat → Nat) :
    List (Bytes × V) → List (Bytes × TV) → Prop
  | [], es => es = []
  | (k, x) :: r, es => ∃ y es', es = (k, y) :: es' ∧ SimG P cf x y ∧ SimGKVs P cf r es'
end

mutual
theorem simG_perm (cf : Nat → Nat) : ∀ (x : V) (w : TV), SimG List.Perm cf x w ↔ Sim cf x w
  | .sc (.float _), _ => by simp only [SimG, Sim]
  | .sc (.str _), _ => by simp only [SimG, Sim]
  | .sc (.int _), _ => by simp only [SimG, Sim]
  | .sc (.bool _), _ => by simp only [SimG, Sim]
  | .sc (.dt _), _ => by simp only [SimG, Sim]
  | .arr xs, _ => by simp only [SimG, Sim, simGList_perm cf xs]
  | .inl kvs, _ => by simp only [SimG, Sim, simGKVs_perm cf kvs]
theorem simGList_perm (cf : Nat → Nat) : ∀ (xs : List V) (ws : List TV), SimGList List.Perm cf xs ws ↔ SimList cf xs ws
  | [], _ => by simp only [SimGList, SimList]
  | x :: r, _ => by simp only [SimGList, SimList, simG_perm cf x, simGList_perm cf r]
theorem simGKVs_perm (cf : Nat → Nat) : ∀ (kvs : List (Bytes × V)) (es : List (Bytes × TV)),
    SimGKVs List.Perm cf kvs es ↔ SimKVs cf kvs es
  | [], _ => by simp only [SimGKVs, SimKVs]
  | (k, x) :: r, _ => by simp only [SimGKVs, SimKVs, simG_perm cf x, simGKVs_perm cf r]
end

theorem simG_mono {P Q : List (Bytes × TV) → List (Bytes × TV) → Prop} (h : ∀ a b, P a b → Q a b) (cf : Nat → Nat) :
    (∀ (x : V) (w : TV), SimG P cf x w → SimG Q cf x w) ∧
    (∀ (xs : List V) (ws : List TV), SimGList P cf xs ws → SimGList Q cf xs ws) ∧
    ∀ (kvs : List (Bytes × V)) (es : List (Bytes × TV)), SimGKVs P cf kvs es → SimGKVs Q cf kvs es := by
  refine V.induction ?_ ?_ ?_ ?_ ?_ ?_ ?_
  · intro s w; cases s <;> simp only [SimG] <;> exact id
  · intro xs ih w; simp only [SimG]; exact fun ⟨ws, e, h'⟩ => ⟨ws, e, ih ws h'⟩
  · intro kvs ih w; simp only [SimG]; exact fun ⟨es, es0, e, p, h'⟩ => ⟨es, es0, e, h _ _ p, ih es0 h'⟩
  · intro ws; simp only [SimGList]; exact id
  · intro x r hx hr ws; simp only [SimGList]; exact fun ⟨y, ws', e, a, b⟩ => ⟨y, ws', e, hx y a, hr ws' b⟩
  · intro es; simp only [SimGKVs]; exact id
  · intro k x r hx hr es; simp only [SimGKVs]; exact fun ⟨y, es', e, a, b⟩ => ⟨y, es', e, hx y a, hr es' b⟩

section
variable (P : List (Bytes × TV) → List (Bytes × TV) → Prop) (hP : ∀ a b, P a b → a.Perm b)
  (nm : Bytes) (hnm : (nm == dtName) = false) (cf : Nat → Nat) (fl : Flavour)
  (lf : TV → TV)

theorem simGKVs_keys : ∀ (kvs : List (Bytes × V)) (es : List (Bytes × TV)),
    SimGKVs P cf kvs es → es.map Prod.fst = kvs.map Prod.fst
  | [], es, h => by simp only [SimGKVs] at h; subst h; rfl
  | (k, x) :: r, es, h => by
    simp only [SimGKVs] at h
    obtain ⟨y, es', rfl, _, hr⟩ := h
    simp [simGKVs_keys r es' hr]

theorem simGKVs_mem : ∀ (kvs : List (Bytes × V)) (es : List (Bytes × TV)),
    SimGKVs P cf kvs es → ∀ k x, (k, x) ∈ kvs → ∃ y, (k, y) ∈ es ∧ SimG P cf x y
  | [], _, _, k, x, hm => by simp at hm
  | (k', x') :: r, es, h, k, x, hm => by
    simp only [SimGKVs] at h
    obtain ⟨y, es', rfl, hs, hr⟩ := h
    rcases List.mem_cons.1 hm with hm | hm
    · injection hm with h1 h2; subst h1 h2; exact ⟨y, by simp, hs⟩
    · obtain ⟨y', hy, hs'⟩ := simGKVs_mem r es' hr k x hm
      exact ⟨y', by simp [hy], hs'⟩


def CoreG (t : Ty) : Prop :=
  ∀ (d : Dec) (v : SVal) (x : V) (w : TV), WellTyped t d = true → serOf nm t d = some v → serValue v = .ok x →
    SimG P cf x w → Good fl t w (normDecV (leafF cf) (f32F cf) lf t d)

/-- the rule for a `toml::Value` leaf; asked of the caller only for types that hold one -/
def LeafRule : Prop :=
  ∀ tv : TV, valueOk tv = true → ∀ (x : V) (w : TV), serValue (svalOfSer (serCalls tv)) = .ok x →
    SimG P cf x w → Good fl .value w (.value (lf tv))

theorem core_listG (t : Ty) (ih : CoreG P nm cf fl lf t) : ∀ (l : List Dec) (vs : List SVal) (xs : List V) (ws : List TV),
    l.all (WellTyped t) = true → mapO (serOf nm t) l = some vs → serSeq vs = .ok xs → SimGList P cf xs ws →
    GoodList fl t ws (l.map (normDecV (leafF cf) (f32F cf) lf t))
  | [], vs, xs, ws, _, hs, hx, hsim => by
    simp only [mapO, Option.some.injEq] at hs
    subst hs
    rw [serSeq_nil xs hx] at hsim
    simp only [SimGList] at hsim
    subst hsim
    simp [GoodList]
  | d :: l, vs, xs, ws, hwt, hs, hx, hsim => by
    simp only [List.all_cons, Bool.and_eq_true] at hwt
    obtain ⟨v, vs', hvs, hv, hvs'⟩ := mapO_cons _ _ _ _ hs
    subst hvs
    obtain ⟨x, xs', hxs, hx1, hx2⟩ := serSeq_cons _ _ _ hx
    subst hxs
    simp only [SimGList] at hsim
    obtain ⟨y, ws', hws, hy, hws'⟩ := hsim
    subst hws
    simp only [List.map_cons, GoodList]
    exact ⟨ih d v x y hwt.1 hv hx1 hy, core_listG t ih l vs' xs' ws' hwt.2 hvs' hx2 hws'⟩

theorem core_pairsG (t : Ty) (ih : CoreG P nm cf fl lf t) : ∀ (l : List (Bytes × Dec)) (fields : List (Bytes × SVal))
    (img : List (Bytes × V)), (l.all fun kd => WellTyped t kd.2) = true →
    mapO (fun kd : Bytes × Dec => (serOf nm t kd.2).map fun v => (kd.1, v)) l = some fields → FieldsImg fields img →
    ∀ es0, SimGKVs P cf img es0 →
      GoodPairs fl t es0 ((l.filter fun kd => !isNoneDec kd.2).map fun kd : Bytes × Dec => (kd.1, normDecV (leafF cf) (f32F cf) lf t kd.2))
  | [], fields, img, _, hs, hi, es0, h => by
    simp only [mapO, Option.some.injEq] at hs
    subst hs
    simp only [FieldsImg] at hi
    subst hi
    simp only [SimGKVs] at h
    subst h
    simp [GoodPairs]
  | (k, d) :: l, fields, img, hwt, hs, hi, es0, h => by
    simp only [List.all_cons, Bool.and_eq_true] at hwt
    obtain ⟨kv, fields', rfl, hkv, hfs⟩ := mapO_cons _ _ _ _ hs
    obtain ⟨v, hv, rfl⟩ := Option.map_eq_some_iff.1 hkv
    obtain ⟨hnone, _⟩ := serOf_isNone nm t d v hv
    simp only [FieldsImg] at hi
    split at hi
    · rename_i hn
      have hdn : isNoneDec d = true := by rw [← hnone]; exact hn
      simp only [List.filter_cons, hdn, Bool.not_true, Bool.false_eq_true, if_false]
      exact core_pairsG t ih l fields' img hwt.2 hfs hi es0 h
    · rename_i hn
      have hdn : isNoneDec d = false := by rw [← hnone]; simpa using hn
      obtain ⟨x, img', rfl, hx, hi'⟩ := hi
      simp only [SimGKVs] at h
      obtain ⟨y, es', rfl, hy, hr⟩ := h
      simp only [List.filter_cons, hdn, Bool.not_false, if_true, List.map_cons, GoodPairs]
      exact ⟨trivial, ih d v x y hwt.1 hv hx hy, core_pairsG t ih l fields' img' hwt.2 hfs hi' es' hr⟩

include hP in
/-- the closing step shared by a derived struct and a struct variant: the table `es` (entries in an order `P` relates to
that of the image) against the fields -/
theorem struct_finishG (fs : Fields) (fields : List (Bytes × SVal)) (out : List (Bytes × V)) (es es0 : List (Bytes × TV))
    (nds : List (Bytes × Dec))
    (hdist : (Fields.names fs).Nodup) (hkeys : fields.map Prod.fst = Fields.names fs)
    (hser : serFields fields [] = .ok out) (hp : P es es0) (hsim : SimGKVs P cf out es0)
    (hcore : ∀ (img : List (Bytes × V)) (es : List (Bytes × TV)), FieldsImg fields img →
      (∀ k x, (k, x) ∈ img → ∃ y, alookup k es = some y ∧ SimG P cf x y) →
      (∀ k ∈ Fields.names fs, k ∉ img.map Prod.fst → alookup k es = none) → GoodFields fl fs es nds) :
    (∀ k ∈ es.map Prod.fst, fs.hasName k = true) ∧ dupField fs (es.map Prod.fst) = false ∧ GoodFields fl fs es nds := by
  have hp := hP es es0 hp
  obtain ⟨img, ho, himg⟩ := serFields_spec fields [] out (hkeys ▸ hdist) (by simp) hser
  simp only [List.nil_append] at ho
  subst ho
  have hk0 : es0.map Prod.fst = out.map Prod.fst := simGKVs_keys P cf out es0 hsim
  have hnd_out : (out.map Prod.fst).Nodup := fieldsImg_nodup fields out himg (hkeys ▸ hdist)
  have hnd0 : (es0.map Prod.fst).Nodup := hk0 ▸ hnd_out
  have hpk : (es.map Prod.fst).Perm (es0.map Prod.fst) := hp.map Prod.fst
  have hnd : (es.map Prod.fst).Nodup := (hpk.nodup_iff).2 hnd0
  have hkd : KeysDistinct es := Order18.keysDistinct_of_nodup es hnd
  refine ⟨?_, dupField_nodup fs _ hnd, ?_⟩
  · intro k hk
    rw [hasName_iff, ← hkeys]
    exact fieldsImg_keys fields out himg k (hk0 ▸ hpk.subset hk)
  · apply hcore out es himg
    · intro k x hm
      obtain ⟨y, hy, hs⟩ := simGKVs_mem P cf out es0 hsim k x hm
      refine ⟨y, ?_, hs⟩
      rw [alookup_perm k hp hkd]
      exact State09.alookup_of_mem es0 k y hnd0 hy
    · intro k _ hk
      apply (State09.alookup_none_iff _ _).2
      intro hm
      exact hk (hk0 ▸ hpk.subset hm)

include hP hnm in
/-- The `Fields` member speaks of an arbitrary entry list `es` with two lookup hypotheses, not of `SimGKVs`: the struct
decoder looks every field up by name in the WHOLE table while the recursion peels the fields off one by one
(`struct_finishG` supplies the two hypotheses from `SimGKVs`). -/
theorem coreG_all :
    (∀ ty : Ty, WfTy ty = true → (hasValue ty = true → LeafRule P cf fl lf) → CoreG P nm cf fl lf ty) ∧
    (∀ ts : Tys, WfTys ts = true → (hasValueTys ts = true → LeafRule P cf fl lf) →
      ∀ (l : List Dec) (vs : List SVal) (xs : List V) (ws : List TV), WellTypedTys ts l = true →
        serOfTys nm ts l = some vs → serSeq vs = .ok xs → SimGList P cf xs ws → GoodTys fl ts ws (normTysV (leafF cf) (f32F cf) lf ts l)) ∧
    (∀ fs : Fields, WfFields fs = true → (hasValueFields fs = true → LeafRule P cf fl lf) → (Fields.names fs).Nodup →
      ∀ (l : List (Bytes × Dec)) (fields : List (Bytes × SVal)) (img : List (Bytes × V)) (es : List (Bytes × TV)),
        WellTypedFields fs l = true → serOfFields nm fs l = some fields → FieldsImg fields img →
        (∀ k x, (k, x) ∈ img → ∃ y, alookup k es = some y ∧ SimG P cf x y) →
        (∀ k ∈ Fields.names fs, k ∉ img.map Prod.fst → alookup k es = none) →
        GoodFields fl fs es (normFieldsV (leafF cf) (f32F cf) lf fs l)) ∧
    (∀ s : Shape, WfShape s = true → (hasValueShape s = true → LeafRule P cf fl lf) →
      ∀ (name : Bytes) (d : Dec) (v : SVal) (x : V) (w : TV), WellTypedShape s d = true → variantName d = some name →
        serOfShape nm s name d = some v → serValue v = .ok x → SimG P cf x w →
        (w = .str name ∧ s = .unit ∧ normShapeV (leafF cf) (f32F cf) lf s d = .vUnit name) ∨
          (∃ p, w = .tbl [(name, p)] ∧ GoodShape fl s name p (normShapeV (leafF cf) (f32F cf) lf s d))) ∧
    (∀ vs : Variants, WfVariants vs = true → (hasValueVariants vs = true → LeafRule P cf fl lf) →
      ∀ (d : Dec) (n : Bytes) (v : SVal) (x : V) (w : TV), variantName d = some n → WellTypedVariants vs d = true →
        serOfVariants nm vs d = some v → serValue v = .ok x → SimG P cf x w →
        VariantGoal fl vs n w (normVariantsV (leafF cf) (f32F cf) lf vs d)) := by
  apply DeTyped13.ty_induct
  case bool | f64 | f32 | string =>
    intro _ _
    unfold CoreG; intro d v x w hwt hs hx hsim
    cases serOf_step hs
    cases serValue_step hx
    simp only [SimG] at hsim; subst hsim
    simp only [normDecV]
    exact good_scalar fl _ rfl _ _ rfl
  case int =>
    intro lo hi _ _
    unfold CoreG; intro d v x w hwt hs hx hsim
    cases serOf_step hs
    rename_i n
    simp [WellTyped] at hwt
    simp only [serValue, widthOf_not128, Bool.false_eq_true, if_false] at hx
    split at hx
    · cases hx
    · rename_i hnot
      injection hx with hx; subst hx
      simp only [SimG] at hsim; subst hsim
      simp only [normDecV]
      apply good_scalar fl _ rfl
      have hhi : n ≤ hi := by
        rcases hwt.2 with h | h
        · exact h
        · -- `u64`: `Ty.int` stops at `i64::MAX`, and the serializer refused anything beyond it (`hnot`)
          rw [widthOf_u64 lo hi h.1]
          simp only [h.1, beq_self_eq_true, Bool.true_and, decide_eq_true_eq] at hnot
          exact Int.not_lt.1 hnot
      simp [presValue, visitScalar, hwt.1, hhi]
  case char =>
    intro _ _
    unfold CoreG; intro d v x w hwt hs hx hsim
    cases serOf_step hs
    rename_i s cp hcp
    simp only [WellTyped, isChar, hcp, Bool.and_eq_true, beq_iff_eq] at hwt
    simp only [serValue, hwt.1.2, Except.ok.injEq] at hx; subst hx
    simp only [SimG] at hsim; subst hsim
    simp only [normDecV]
    apply good_scalar fl .char rfl
    simp [presValue, visitScalar, hwt.2]
  case unit =>
    intro _ _
    unfold CoreG; intro d v x w hwt hs hx hsim
    cases serOf_step hs
    cases serValue_step hx
  case datetime | date | time =>
    intro _ _
    unfold CoreG; intro d v x w hwt hs hx hsim
    cases serOf_step hs
    rename_i dd
    have hd : dtOk dd = true := by
      simp only [WellTyped, Bool.and_eq_true] at hwt
      first | exact hwt | exact hwt.1.1.1
    rw [serValue_dt dd hd] at hx
    injection hx with hx; subst hx
    simp only [SimG] at hsim; subst hsim
    simp only [normDecV]
    exact good_dt fl _ rfl dd hwt
  case value =>
    intro _ hl
    unfold CoreG; intro d v x w hwt hs hx hsim
    cases serOf_step hs
    rename_i tv
    simp only [WellTyped] at hwt
    simp only [normDecV]
    exact hl rfl tv hwt x w hx hsim
  case ignored =>
    intro _ _
    unfold CoreG; intro d v x w hwt hs hx hsim
    cases serOf_step hs
  case option =>
    intro t iht hwf hl
    unfold CoreG; intro d v x w hwt hs hx hsim
    have ih := iht (by simpa [WfTy] using hwf) hl
    cases serOf_step hs with
    | none => cases serValue_step hx
    | some _ d' v' hv' =>
      simp only [WellTyped] at hwt
      simp only [serValue] at hx
      simp only [normDecV]
      exact good_option fl t w _ (ih d' v' x w hwt hv' hx hsim)
  case newtype =>
    intro t iht hwf hl
    unfold CoreG; intro d v x w hwt hs hx hsim
    have ih := iht (by simpa [WfTy] using hwf) hl
    cases serOf_step hs
    rename_i d' v' hv'
    simp only [WellTyped] at hwt
    simp only [serValue] at hx
    simp only [normDecV]
    exact good_newtype fl t w _ (ih d' v' x w hwt hv' hx hsim)
  case seq =>
    intro t iht hwf hl
    unfold CoreG; intro d v x w hwt hs hx hsim
    have ih := iht (by simpa [WfTy] using hwf) hl
    cases serOf_step hs
    rename_i l vs hvs
    simp only [WellTyped] at hwt
    cases serValue_step hx with
    | seq _ xs hxs =>
      simp only [SimG] at hsim
      obtain ⟨ws, rfl, hws⟩ := hsim
      simp only [normDecV]
      exact good_seq fl t ws _ (core_listG P nm cf fl lf t ih l vs xs ws hwt hvs hxs hws)
  case tuple =>
    intro ts ihts hwf hl
    unfold CoreG; intro d v x w hwt hs hx hsim
    cases serOf_step hs
    rename_i l vs hvs
    simp only [WellTyped] at hwt
    cases serValue_step hx with
    | tuple _ xs hxs =>
      simp only [SimG] at hsim
      obtain ⟨ws, rfl, hws⟩ := hsim
      simp only [normDecV]
      exact good_tuple fl ts ws _
        (ihts (by simpa [WfTy] using hwf) hl l vs xs ws hwt hvs hxs hws)
  case map =>
    intro t iht hwf hl
    unfold CoreG; intro d v x w hwt hs hx hsim
    have ih := iht (by simpa [WfTy] using hwf) hl
    cases serOf_step hs
    rename_i l kvs hkvs
    simp only [WellTyped, Bool.and_eq_true] at hwt
    cases serValue_step hx with
    | map _ out hout =>
      simp only [SimG] at hsim
      obtain ⟨es, es0, rfl, hp, hkv⟩ := hsim
      have hks : KSorted l := ascending_ksorted l hwt.1
      obtain ⟨fields, hfs, rfl, hkeys⟩ := mapO_strKeys _ Prod.fst l kvs hkvs
      rw [serMap_str] at hout
      obtain ⟨img, ho, hi⟩ := serFields_spec fields [] out (by rw [hkeys]; exact ksorted_nodup l hks) (by simp) hout
      simp only [List.nil_append] at ho
      subst ho
      obtain ⟨nds, hpn, hg⟩ := goodPairs_perm fl t (hP _ _ hp) _
        (core_pairsG P nm cf fl lf t ih l fields out hwt.2 hfs hi es0 hkv)
      have := good_map fl t es nds hg
      rw [collectSorted_of_sorted _ nds (ksorted_norm l _ (normDecV (leafF cf) (f32F cf) lf t) hks) hpn] at this
      simp only [normDecV]
      exact this
  case struct =>
    intro fs ihfs hwf hl
    unfold CoreG; intro d v x w hwt hs hx hsim
    simp only [WfTy, Bool.and_eq_true] at hwf
    cases serOf_step hs
    rename_i l fields hfields
    simp only [WellTyped] at hwt
    cases serValue_step hx with
    | datetime _ _ _ hdt => rw [hnm] at hdt; cases hdt
    | struct _ _ out _ hout =>
      simp only [SimG] at hsim
      obtain ⟨es, es0, rfl, hp, hkv⟩ := hsim
      have hdist := distinct_nodup _ hwf.1
      obtain ⟨_, hd, hg⟩ := struct_finishG P hP cf fl fs fields out es es0 (normFieldsV (leafF cf) (f32F cf) lf fs l) hdist
        (serOfFields_keys nm fs l fields hfields) hout hp hkv
        (fun img es' himg h1 h2 => ihfs hwf.2 hl hdist
          l fields img es' hwt hfields himg h1 h2)
      simp only [normDecV]
      exact good_struct fl fs es _ hd hg
  case enum =>
    intro vs ihvs hwf hl
    unfold CoreG; intro d v x w hwt hs hx hsim
    simp only [WfTy, Bool.and_eq_true] at hwf
    simp only [WellTyped] at hwt
    simp only [serOf] at hs
    simp only [normDecV]
    obtain ⟨n, hn⟩ := wellTypedVariants_name vs d hwt
    rcases ihvs hwf.2 hl d n v x w hn hwt hs hx hsim with
      ⟨rfl, h⟩ | ⟨p, rfl, h⟩
    · exact good_enum_str fl vs n _ h
    · exact good_enum_tbl fl vs n p _ h
  case tnil =>
    intro _ _ l vs xs ws hwt hs hx hsim
    obtain ⟨rfl, rfl⟩ := serOfTys_nil hs
    rw [serSeq_nil xs hx] at hsim
    simp only [SimGList] at hsim; subst hsim
    simp [GoodTys, normTysV]
  case tcons =>
    intro t r iht ihr hwf hl l vs xs ws hwt hs hx hsim
    simp only [WfTys, Bool.and_eq_true] at hwf
    simp only [hasValueTys, Bool.or_eq_true] at hl
    obtain ⟨d, l, v, vs', rfl, rfl, hv1, hvs'⟩ := serOfTys_cons hs
    simp only [WellTypedTys, Bool.and_eq_true] at hwt
    obtain ⟨x, xs', rfl, hx1, hx2⟩ := serSeq_cons _ _ _ hx
    simp only [SimGList] at hsim
    obtain ⟨y, ws', rfl, hy, hws'⟩ := hsim
    simp only [normTysV, GoodTys]
    exact ⟨iht hwf.1 (hl ∘ .inl) d v x y hwt.1 hv1 hx1 hy,
      ihr hwf.2 (hl ∘ .inr) l vs' xs' ws' hwt.2 hvs' hx2 hws'⟩
  case fnil =>
    intro _ _ _ l fields img es hwt hs himg h1 h2
    rw [(serOfFields_nil hs).1]; simp [GoodFields, normFieldsV]
  case fcons =>
    intro name t dflt r iht ihr hwf hl hnd l fields img es hwt hs himg h1 h2
    simp only [WfFields, Bool.and_eq_true] at hwf
    simp only [hasValueFields, Bool.or_eq_true] at hl
    simp only [Fields.names, List.nodup_cons] at hnd
    obtain ⟨k, d, l, v, vs, rfl, rfl, hv1, hvs⟩ := serOfFields_cons hs
    simp only [WellTypedFields, Bool.and_eq_true] at hwt
    obtain ⟨hnone, hopt⟩ := serOf_isNone nm t d v hv1
    have hkeys := serOfFields_keys nm r l vs hvs
    simp only [FieldsImg] at himg
    simp only [normFieldsV, GoodFields]
    refine ⟨_, _, rfl, ?_, ?_⟩
    · split at himg
      · -- `None`: the field is skipped
        rename_i hn
        have hdn : isNoneDec d = true := by rw [← hnone]; exact hn
        obtain ⟨t', rfl⟩ := hopt hdn
        have hd := isNoneDec_eq d hdn
        subst hd
        have hnot : name ∉ img.map Prod.fst := fun hm => hnd.1 (hkeys ▸ fieldsImg_keys vs img himg name hm)
        rw [h2 name (by simp [Fields.names]) hnot]
        cases dflt with
        | true => simp [isNoneDec]
        | false => simp [isNoneDec, missingField, normDecV]
      · rename_i hn
        have hdn : isNoneDec d = false := by rw [← hnone]; simpa using hn
        obtain ⟨x, img', rfl, hx, _⟩ := himg
        obtain ⟨y, hy, hsim⟩ := h1 name x (by simp)
        rw [hy]
        simp only [hdn, Bool.and_false, Bool.false_eq_true, if_false]
        exact iht hwf.1 (hl ∘ .inl) d v x y hwt.1.2 hv1 hx hsim
    · split at himg
      · exact ihr hwf.2 (hl ∘ .inr) hnd.2 l vs img es hwt.2 hvs himg h1
          (fun k' hk' hn' => h2 k' (by simp [Fields.names, hk']) hn')
      · obtain ⟨x, img', rfl, _, himg'⟩ := himg
        exact ihr hwf.2 (hl ∘ .inr) hnd.2 l vs img' es hwt.2 hvs himg'
          (fun k' x' hm => h1 k' x' (by simp [hm]))
          (fun k' hk' hn' => h2 k' (by simp [Fields.names, hk']) (by
            simp only [List.map_cons, List.mem_cons, not_or]
            exact ⟨fun e => hnd.1 (e ▸ hk'), hn'⟩))
  case sunit =>
    intro _ _ name d v x w hwt hname hs hx hsim
    cases serOfShape_step hs
    simp only [variantName, Option.some.injEq] at hname; subst hname
    cases serValue_step hx
    simp only [SimG] at hsim; subst hsim
    exact .inl ⟨rfl, rfl, by simp [normShapeV]⟩
  case snewtype =>
    intro t iht hwf hl name d v x w hwt hname hs hx hsim
    cases serOfShape_step hs
    rename_i n d' v' hv'
    simp only [WellTypedShape] at hwt
    simp only [variantName, Option.some.injEq] at hname; subst hname
    cases serValue_step hx with
    | newtypeVariant _ _ _ x' hx' =>
      simp only [SimG, SimGKVs] at hsim
      obtain ⟨es, es0, rfl, hp, y, es', rfl, hy, rfl⟩ := hsim
      rw [List.perm_singleton.1 (hP _ _ hp)]
      refine .inr ⟨y, rfl, ?_⟩
      simp only [normShapeV, GoodShape]
      exact ⟨_, rfl, iht (by simpa [WfShape] using hwf) hl
        d' v' x' y hwt hv' hx' hy⟩
  case stuple =>
    intro ts ihts hwf hl name d v x w hwt hname hs hx hsim
    cases serOfShape_step hs
    rename_i n l vs hvs
    simp only [WellTypedShape] at hwt
    simp only [variantName, Option.some.injEq] at hname; subst hname
    cases serValue_step hx with
    | tupleVariant _ _ _ xs hxs =>
      simp only [SimG, SimGKVs] at hsim
      obtain ⟨es, es0, rfl, hp, y, es', rfl, ⟨ws, rfl, hws⟩, rfl⟩ := hsim
      rw [List.perm_singleton.1 (hP _ _ hp)]
      refine .inr ⟨_, rfl, ?_⟩
      simp only [normShapeV, GoodShape]
      exact ⟨ws, _, rfl, rfl, ihts (by simpa [WfShape] using hwf) hl
        l vs xs ws hwt hvs hxs hws⟩
  case sstruct =>
    intro fs ihfs hwf hl name d v x w hwt hname hs hx hsim
    simp only [WfShape, Bool.and_eq_true] at hwf
    cases serOfShape_step hs
    rename_i n l fields hfields
    simp only [WellTypedShape] at hwt
    simp only [variantName, Option.some.injEq] at hname; subst hname
    cases serValue_step hx with
    | structVariant _ _ _ out hout =>
      simp only [SimG, SimGKVs] at hsim
      obtain ⟨es, es0, rfl, hp, y, es', rfl, ⟨es1, es2, rfl, hp1, hkv⟩, rfl⟩ := hsim
      rw [List.perm_singleton.1 (hP _ _ hp)]
      refine .inr ⟨_, rfl, ?_⟩
      have hdist := distinct_nodup _ hwf.1
      obtain ⟨hk, hd, hg⟩ := struct_finishG P hP cf fl fs fields out es1 es2 (normFieldsV (leafF cf) (f32F cf) lf fs l) hdist
        (serOfFields_keys nm fs l fields hfields) hout hp1 hkv
        (fun img es' himg h1 h2 => ihfs hwf.2 hl hdist
          l fields img es' hwt hfields himg h1 h2)
      simp only [normShapeV, GoodShape]
      exact ⟨es1, _, rfl, rfl, hk, hd, hg⟩
  case vnil =>
    intro _ _ d n v x w _ hwt _ _ _
    simp [WellTypedVariants] at hwt
  case vcons =>
    intro name s r ihs ihr hwf hl d n v x w hn hwt hs hx hsim
    simp only [WfVariants, Bool.and_eq_true] at hwf
    simp only [hasValueVariants, Bool.or_eq_true] at hl
    -- the four variant constructors of `d` unfold to the same `if`: one proof for all of them
    have key : (if name == n then WellTypedShape s d else WellTypedVariants r d) = true →
        (if name == n then serOfShape nm s name d else serOfVariants nm r d) = some v →
        VariantGoal fl (.cons name s r) n w
          (if name == n then normShapeV (leafF cf) (f32F cf) lf s d else normVariantsV (leafF cf) (f32F cf) lf r d) := by
      intro hwt' hs'
      by_cases hnn : (name == n) = true
      · simp only [hnn, if_true] at hwt' hs' ⊢
        have hname : name = n := by simpa using hnn
        subst hname
        rcases ihs hwf.1 (hl ∘ .inl) name d v x w hwt' hn hs' hx hsim with
          ⟨rfl, rfl, hnorm⟩ | ⟨p, rfl, hg⟩
        · refine .inl ⟨rfl, ?_⟩
          rw [hnorm]
          simp [unitOnlyVariant]
        · refine .inr ⟨p, rfl, ?_⟩
          simp only [GoodVariants, beq_self_eq_true, if_true]
          exact hg
      · simp only [hnn, Bool.false_eq_true, if_false] at hwt' hs' ⊢
        rcases ihr hwf.2 (hl ∘ .inr) d n v x w hn hwt' hs' hx hsim with
          ⟨rfl, h⟩ | ⟨p, rfl, h⟩
        · refine .inl ⟨rfl, ?_⟩
          simp only [unitOnlyVariant, hnn, Bool.false_eq_true, if_false]
          exact h
        · refine .inr ⟨p, rfl, ?_⟩
          simp only [GoodVariants, hnn, Bool.false_eq_true, if_false]
          exact h
    cases d <;> simp only [variantName, Option.some.injEq] at hn <;> try (exact absurd hn (by simp))
    all_goals
      subst hn
      simp only [WellTypedVariants] at hwt
      simp only [serOfVariants] at hs
      simp only [normVariantsV]
      exact key hwt hs

include hP hnm in
theorem coreG : ∀ ty : Ty, WfTy ty = true → (hasValue ty = true → LeafRule P cf fl lf) → CoreG P nm cf fl lf ty :=
  (coreG_all P hP nm hnm cf fl lf).1

end

theorem normDecV_eq_all (cf : Nat → Nat) (lf : TV → TV) :
    (∀ ty : Ty, hasValue ty = false → ∀ d : Dec, normDecV (leafF cf) (f32F cf) lf ty d = normDec cf ty d) ∧
    (∀ ts : Tys, hasValueTys ts = false → ∀ l, normTysV (leafF cf) (f32F cf) lf ts l = normTys cf ts l) ∧
    (∀ fs : Fields, hasValueFields fs = false → ∀ l, normFieldsV (leafF cf) (f32F cf) lf fs l = normFields cf fs l) ∧
    (∀ s : Shape, hasValueShape s = false → ∀ d, normShapeV (leafF cf) (f32F cf) lf s d = normShape cf s d) ∧
    (∀ vs : Variants, hasValueVariants vs = false →
      ∀ d, normVariantsV (leafF cf) (f32F cf) lf vs d = normVariants cf vs d) := by
  apply DeTyped13.ty_induct
  case value => intro h; simp [hasValue] at h
  case bool | int | string | char | unit | datetime | date | time | ignored => intros; simp only [normDecV, normDec]
  case f64 | f32 => intro _ d; cases d <;> rfl
  case option | newtype | tuple | struct =>
    intro t ih h d
    have ih := ih (by simpa [hasValue] using h)
    cases d <;> first | rfl | rw [normDecV, normDec, ih]
  case seq =>
    intro t ih h d
    have ih := ih (by simpa [hasValue] using h)
    cases d <;> first | rfl | rw [normDecV, normDec, funext ih]
  case map =>
    intro t ih h d
    have ih := ih (by simpa [hasValue] using h)
    cases d <;> first | rfl | simp only [normDecV, normDec, ih]
  case enum =>
    intro vs ih h d
    have ih := ih (by simpa [hasValue] using h)
    simp [normDecV, normDec, ih]
  case tnil => intro _ l; simp [normTysV, normTys]
  case tcons =>
    intro t r iht ihr h l
    simp only [hasValueTys, Bool.or_eq_false_iff] at h
    cases l with
    | nil => simp [normTysV, normTys]
    | cons d l => simp [normTysV, normTys, iht h.1, ihr h.2]
  case fnil => intro _ l; simp [normFieldsV, normFields]
  case fcons =>
    intro name t dflt r iht ihr h l
    simp only [hasValueFields, Bool.or_eq_false_iff] at h
    cases l with
    | nil => simp [normFieldsV, normFields]
    | cons kd l => obtain ⟨k, d⟩ := kd; simp [normFieldsV, normFields, iht h.1, ihr h.2]
  case sunit => intro _ d; simp only [normShapeV, normShape]
  case snewtype | stuple | sstruct =>
    intro t ih h d
    have ih := ih (by simpa [hasValueShape] using h)
    cases d <;> first | rfl | rw [normShapeV, normShape, ih]
  case vnil => intro _ d; simp [normVariantsV, normVariants]
  case vcons =>
    intro name s r ihs ihr h d
    simp only [hasValueVariants, Bool.or_eq_false_iff] at h
    have a := ihs h.1
    have b := ihr h.2
    cases d <;> simp only [normVariantsV, normVariants, a, b]

theorem normDecV_eq (cf : Nat → Nat) (lf : TV → TV) : ∀ ty : Ty, hasValue ty = false → ∀ d : Dec, normDecV (leafF cf) (f32F cf) lf ty d = normDec cf ty d :=
  (normDecV_eq_all cf lf).1
theorem normFieldsV_eq (cf : Nat → Nat) (lf : TV → TV) : ∀ fs : Fields, hasValueFields fs = false →
    ∀ l, normFieldsV (leafF cf) (f32F cf) lf fs l = normFields cf fs l :=
  (normDecV_eq_all cf lf).2.2.1
theorem normShapeV_eq (cf : Nat → Nat) (lf : TV → TV) : ∀ s : Shape, hasValueShape s = false → ∀ d, normShapeV (leafF cf) (f32F cf) lf s d = normShape cf s d :=
  (normDecV_eq_all cf lf).2.2.2.1
theorem normVariantsV_eq (cf : Nat → Nat) (lf : TV → TV) : ∀ vs : Variants, hasValueVariants vs = false →
    ∀ d, normVariantsV (leafF cf) (f32F cf) lf vs d = normVariants cf vs d :=
  (normDecV_eq_all cf lf).2.2.2.2

end TomlVerif.Lemmas.TypedGaps

namespace TomlVerif.Lemmas.SerTyped07
open TomlVerif TomlVerif.Model TomlVerif.Model.TomlValue TomlVerif.Model.DeRoutes TomlVerif.Model.DeTyped
open TomlVerif.Model.SerTyped TomlVerif.Model.Ser TomlVerif.Spec TomlVerif.Spec.Serde
open TomlVerif.Lemmas.TypedGaps

theorem noLeaf {b : Bool} {L : Prop} (h : b = false) : b = true → L := fun h' => absurd (h.symm.trans h') nofun

theorem core (nm : Bytes) (hnm : (nm == dtName) = false) (cf : Nat → Nat) (fl : Flavour) :
    ∀ ty : Ty, WfTy ty = true → hasValue ty = false →
      ∀ (d : Dec) (v : SVal) (x : V) (w : TV), WellTyped ty d = true → serOf nm ty d = some v → serValue v = .ok x →
        Sim cf x w → Good fl ty w (normDec cf ty d) := by
  intro ty hwf hv d v x w hwt hs hx hsim
  rw [← normDecV_eq cf id ty hv d]
  exact coreG _ (fun _ _ h => h) nm hnm cf fl id ty hwf (noLeaf hv) d v x w hwt hs hx ((simG_perm cf x w).2 hsim)

theorem core_fields (nm : Bytes) (hnm : (nm == dtName) = false) (cf : Nat → Nat) (fl : Flavour) :
    ∀ fs : Fields, WfFields fs = true → hasValueFields fs = false → (Fields.names fs).Nodup →
      ∀ (l : List (Bytes × Dec)) (fields : List (Bytes × SVal)) (img : List (Bytes × V)) (es : List (Bytes × TV)),
        WellTypedFields fs l = true → serOfFields nm fs l = some fields → FieldsImg fields img →
        (∀ k x, (k, x) ∈ img → ∃ y, alookup k es = some y ∧ Sim cf x y) →
        (∀ k ∈ Fields.names fs, k ∉ img.map Prod.fst → alookup k es = none) →
        GoodFields fl fs es (normFields cf fs l) := by
  intro fs hwf hv hnd l fields img es hwt hs himg h1 h2
  rw [← normFieldsV_eq cf id fs hv l]
  exact (coreG_all _ (fun _ _ h => h) nm hnm cf fl id).2.2.1 fs hwf (noLeaf hv) hnd l fields img es hwt hs himg
    (fun k x hm => (h1 k x hm).imp fun y hy => ⟨hy.1, (simG_perm cf x y).2 hy.2⟩) h2

theorem core_shape (nm : Bytes) (hnm : (nm == dtName) = false) (cf : Nat → Nat) (fl : Flavour) :
    ∀ s : Shape, WfShape s = true → hasValueShape s = false →
      ∀ (name : Bytes) (d : Dec) (v : SVal) (x : V) (w : TV), WellTypedShape s d = true → variantName d = some name →
        serOfShape nm s name d = some v → serValue v = .ok x → Sim cf x w →
        (w = .str name ∧ s = .unit ∧ normShape cf s d = .vUnit name) ∨
          (∃ p, w = .tbl [(name, p)] ∧ GoodShape fl s name p (normShape cf s d)) := by
  intro s hwf hv name d v x w hwt hname hs hx hsim
  rw [← normShapeV_eq cf id s hv d]
  exact (coreG_all _ (fun _ _ h => h) nm hnm cf fl id).2.2.2.1 s hwf (noLeaf hv) name d v x w hwt hname hs hx
    ((simG_perm cf x w).2 hsim)

theorem core_variants (nm : Bytes) (hnm : (nm == dtName) = false) (cf : Nat → Nat) (fl : Flavour) :
    ∀ vs : Variants, WfVariants vs = true → hasValueVariants vs = false →
      ∀ (d : Dec) (n : Bytes) (v : SVal) (x : V) (w : TV), variantName d = some n → WellTypedVariants vs d = true →
        serOfVariants nm vs d = some v → serValue v = .ok x → Sim cf x w →
        VariantGoal fl vs n w (normVariants cf vs d) := by
  intro vs hwf hv d n v x w hn hwt hs hx hsim
  rw [← normVariantsV_eq cf id vs hv d]
  exact (coreG_all _ (fun _ _ h => h) nm hnm cf fl id).2.2.2.2 vs hwf (noLeaf hv) d n v x w hn hwt hs hx
    ((simG_perm cf x w).2 hsim)

end TomlVerif.Lemmas.SerTyped07
