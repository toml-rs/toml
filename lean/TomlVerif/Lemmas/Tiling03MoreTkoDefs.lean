import TomlVerif.Lemmas.Tiling03MoreSemDefs
/-! C03, same data with `[t]` taking over an implicit table — the class `tkoRun`: `adjRun` where a
    `[t]` header may name an existing table `t` that is implicit and not a dotted-key table (the
    parser's own condition, `probeFn`), provided `t` is spelled like the stored key as a path
    segment (`sameSeg`, so that the headers of its sub-tables are printed as before) and holds only
    sub-tables and arrays of tables (`onlySubs`; always the case for a table the parser made
    implicitly).  Inclusion `adjRun ⊆ tkoRun`. -/
namespace TomlVerif.Lemmas.Tiling03More.Tko
open TomlVerif TomlVerif.Spec TomlVerif.Model TomlVerif.Model.Strings TomlVerif.Model.Value
open TomlVerif.Model.Cst TomlVerif.Model.Encode TomlVerif.Lemmas.Suffix03 TomlVerif.Lemmas.Cst03
open TomlVerif.Lemmas.LastByte03 TomlVerif.Lemmas.Tiling03 TomlVerif.Lemmas.Tiling03Hdr
open TomlVerif.Lemmas.Tiling03Nest

def onlySubs (items : Items) : Bool :=
  items.all fun kv => match kv.2 with
    | .table s => !s.dotted
    | .aot _ _ => true
    | .value _ => false

/-- `pathOkA` where the last key of a `[…]` header may also name an implicit, non-dotted table
    (take-over), spelled like the stored key and holding sub-tables only -/
def pathOkT (inp : Bytes) (a : Bool) (key : CKey) : CTbl → List CKey → Bool
  | t, [] => !t.dotted && (match clookup key.key t.items with
      | none => true
      | some (.aot _ _) => a
      | some (.table t') => !a && t'.implicit && !t'.dotted && segChk inp false key t.items && onlySubs t'.items
      | some (.value _) => false)
  | t, k :: ks => !t.dotted && (match clookup k.key t.items with
      | none => true
      | some (.table sub) => pathOkT inp a key sub ks
      | some (.aot ts _) =>
          (match ts.reverse with
           | l :: _ => pathOkT inp a key l ks
           | [] => false)
      | some (.value _) => false)

def hdrChkT (inp : Bytes) (a : Bool) (st1 : CState) (r : Bytes) : Bool :=
  match ckeyPath inp.length r with
  | .ok ks _ =>
    (match splitLast ks with
     | some (pp, key) => pathOkT inp a key st1.root pp
     | none => true)
  | _ => true

def hdrLineOkT (inp : Bytes) (st : CState) (s : Bytes) : Bool :=
  match finalizeTable st with
  | none => true
  | some st1 =>
    (match s with
     | 0x5B :: 0x5B :: r => hdrChkT inp true st1 r
     | _ => true) &&
    (match s with
     | 0x5B :: r => hdrChkT inp false st1 r
     | _ => true)

def runOkT (inp : Bytes) : Nat → CState → Bytes → Bool
  | 0, _, _ => true
  | fuel + 1, st, s =>
    let n := inp.length
    match s with
    | [] => true
    | b :: r =>
      if b == 0x23 then
        let r1 := dropComment r
        match r1 with
        | [] => true
        | _ => match newline? r1 with
          | some r2 =>
            let (st', r3) := parseWs n (onWs st (pos n s) (pos n r2)) r2
            runOkT inp fuel st' r3
          | none => true
      else if b == 0x5B then
        hdrLineOkT inp st s &&
        (match ctableLine n st s with
         | some (st', r1) =>
           let (st'', r2) := parseWs n st' r1
           runOkT inp fuel st'' r2
         | none => true)
      else if b == 0x0A || b == 0x0D then
        match newline? s with
        | some r1 =>
          let (st', r2) := parseWs n (onWs st (pos n s) (pos n r1)) r1
          runOkT inp fuel st' r2
        | none => true
      else
        kvLineOkA inp st s &&
        (match ckeyvalLine n st s with
         | some (st', r1) =>
           let (st'', r2) := parseWs n st' r1
           runOkT inp fuel st'' r2
         | none => true)

theorem runOkT_with (inp : Bytes) : ∀ (fuel : Nat) (st : CState) (s : Bytes),
    runOkT inp fuel st s = runOkWith (hdrLineOkT inp) (kvLineOkA inp) inp.length fuel st s
  | 0, _, _ => rfl
  | fuel + 1, st, s => by
    unfold runOkT runOkWith
    simp only [runOkT_with inp fuel]
    rfl

/-- the class: the checked run of `parse_document`, structure only -/
def tkoRun (s : Bytes) : Bool :=
  let n := s.length
  let s0 := Doc.stripBom s
  let (st0, s1) := parseWs n {} s0
  runOkT s (s1.length + 1) st0 s1

/-! ### `adjRun ⊆ tkoRun` -/

theorem pathOkA_T (inp : Bytes) (a : Bool) (key : CKey) : ∀ (pp : List CKey) (t : CTbl),
    pathOkA a key t pp = true → pathOkT inp a key t pp = true
  | [], t, h => by
    simp only [pathOkA, Bool.and_eq_true] at h
    simp only [pathOkT, Bool.and_eq_true]
    refine ⟨h.1, ?_⟩
    have h2 := h.2
    cases hl : clookup key.key t.items with
    | none => rfl
    | some y =>
      rw [hl] at h2
      cases y with
      | value v => simp at h2
      | table sub => simp at h2
      | aot ts asp => exact h2
  | k :: ks, t, h => by
    simp only [pathOkA, Bool.and_eq_true] at h
    simp only [pathOkT, Bool.and_eq_true]
    refine ⟨h.1, ?_⟩
    have h2 := h.2
    cases hl : clookup k.key t.items with
    | none => rfl
    | some y =>
      rw [hl] at h2
      cases y with
      | value v => simp at h2
      | table sub => exact pathOkA_T inp a key ks sub h2
      | aot ts asp =>
        simp only [] at h2 ⊢
        split at h2
        · rename_i l rest hrev
          simp only [hrev]
          exact pathOkA_T inp a key ks l h2
        · cases h2

theorem hdrLineOkA_T (inp : Bytes) (st : CState) (s : Bytes) (h : hdrLineOkA inp st s = true) :
    hdrLineOkT inp st s = true :=
  -- both checks unfold to `hdrLineOkWith` of their path predicate
  hdrLineOkWith_mono (fun a key t pp => pathOkA_T inp a key pp t) st s h

theorem adjRun_T (s : Bytes) (h : adjRun s = true) : tkoRun s = true := by
  unfold adjRun at h
  unfold tkoRun
  simp only [] at h ⊢
  rw [runOkA_with] at h
  rw [runOkT_with]
  exact runOkWith_mono _ (hdrLineOkA_T s) (fun _ _ h => h) _ _ _ h

/-! ### the header check on particular inputs -/

theorem pathOkT_dotted {inp : Bytes} {a : Bool} {key : CKey} {t : CTbl} {pp : List CKey}
    (h : pathOkT inp a key t pp = true) : t.dotted = false := by
  cases pp <;> simp only [pathOkT, Bool.and_eq_true, Bool.not_eq_true'] at h <;> exact h.1

theorem pathOkT_empty (inp : Bytes) (a : Bool) (key : CKey) (t : CTbl) (hi : t.items = []) (hd : t.dotted = false) :
    ∀ pp, pathOkT inp a key t pp = true
  | [] => by simp [pathOkT, hi, hd, clookup]
  | k :: ks => by simp [pathOkT, hi, hd, clookup]

end TomlVerif.Lemmas.Tiling03More.Tko
