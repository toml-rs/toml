import TomlVerif.Lemmas.Tiling03ValueClasses
/-! Tiling of multi-segment key paths (C03): what `ckeyPath` records for `ws k1 ws . ws k2 ws …`
    prints back as the consumed text. -/
namespace TomlVerif.Lemmas.Tiling03Hdr
open TomlVerif TomlVerif.Spec TomlVerif.Model TomlVerif.Model.Strings TomlVerif.Model.Value
open TomlVerif.Model.Cst TomlVerif.Model.Encode TomlVerif.Lemmas.Suffix03 TomlVerif.Lemmas.Cst03
open TomlVerif.Lemmas.Tiling03 TomlVerif.Lemmas.Tiling03More

/-- one segment as the key-path parser records it: `ws key ws` -/
def segText (f : Bytes → Bytes) (inp : Bytes) (k : CKey) : Bytes :=
  prefixEncode f inp k.dotted [] ++ encodeKey inp k ++ suffixEncode f inp k.dotted []

def segsText (f : Bytes → Bytes) (inp : Bytes) : List CKey → Bool → Bytes
  | [], _ => []
  | k :: r, first => (if first then [] else [0x2E]) ++ segText f inp k ++ segsText f inp r false

theorem segsText_false (f : Bytes → Bytes) (inp : Bytes) (l : List CKey) (hne : l ≠ []) :
    segsText f inp l false = [0x2E] ++ segsText f inp l true := by
  cases l with
  | nil => exact absurd rfl hne
  | cons k r => simp [segsText]

theorem segsText_append (f : Bytes → Bytes) (inp : Bytes) : ∀ (a b : List CKey) (first : Bool),
    segsText f inp (a ++ b) first = segsText f inp a first ++ segsText f inp b (first && a.isEmpty)
  | [], b, first => by simp [segsText]
  | k :: r, b, first => by
    simp only [List.cons_append, segsText, segsText_append f inp r b false, List.append_assoc]
    simp

theorem segAt_text (f : Bytes → Bytes) (inp : Bytes) (hf : FixOn f inp) (s k r0 : Bytes) (hs : s <:+ inp)
    (hk : Key.simpleKey (dropWs s) = .ok k r0) :
    s = segText f inp (segAt inp.length s k r0) ++ dropWs r0 ∧ dropWs r0 <:+ inp := by
  obtain ⟨w0, hw0⟩ := Suffix03.dropWs_suffix s
  obtain ⟨kt, hkt⟩ := (simpleKey_adv _ _ _ hk).suffix
  obtain ⟨w1, hw1⟩ := Suffix03.dropWs_suffix r0
  have hs0 : dropWs s <:+ inp := (Suffix03.dropWs_suffix s).trans hs
  have hr0 : r0 <:+ inp := (hkt ▸ List.suffix_append kt r0).trans hs0
  refine ⟨?_, (Suffix03.dropWs_suffix r0).trans hr0⟩
  simp only [segText, segAt, prefixEncode, suffixEncode, Decor.new, encodeKey]
  rw [encRaw_fix hf, encRaw_fix hf, rawText_between inp s w0 (dropWs s) hs hw0.symm,
    rawText_between inp (dropWs s) kt r0 hs0 hkt.symm, rawText_between inp r0 w1 (dropWs r0) hr0 hw1.symm,
    List.append_assoc, List.append_assoc, hw1, hkt, hw0]

theorem keyRun_tiling (f : Bytes → Bytes) (inp : Bytes) (hf : FixOn f inp) {s r : Bytes} {ks : List CKey}
    (h : KeyRun inp.length s ks r) (hs : s <:+ inp) :
    s = segsText f inp ks true ++ r ∧ ∀ k ∈ ks, ∃ a b, k.dotted = Decor.new a b := by
  induction h with
  | @last s k r0 hk =>
    obtain ⟨e, _⟩ := segAt_text f inp hf s k r0 hs hk
    refine ⟨by simpa [segsText] using e, fun x hx => ?_⟩
    rw [List.mem_singleton.1 hx]; exact ⟨_, _, rfl⟩
  | @more s k r0 r2 ks r hk heq hrun ih =>
    obtain ⟨e, hr0⟩ := segAt_text f inp hf s k r0 hs hk
    obtain ⟨e3, e4⟩ := ih ((List.suffix_cons _ r2).trans (heq ▸ hr0))
    refine ⟨?_, fun x hx => ?_⟩
    · simp only [segsText, if_true, List.nil_append]
      rw [segsText_false f inp ks hrun.ne_nil, List.append_assoc, List.append_assoc, ← e3,
        show [0x2E] ++ r2 = dropWs r0 from heq.symm]
      exact e
    · rcases List.mem_cons.1 hx with hx | hx
      · rw [hx]; exact ⟨_, _, rfl⟩
      · exact e4 x hx

theorem encodeKeyPathAux_snoc (f : Bytes → Bytes) (inp : Bytes) (leaf : Decor) (dp ds : Bytes) (L : CKey) :
    ∀ (init : List CKey) (first : Bool),
      encodeKeyPathAux f inp leaf dp ds first (init ++ [L]) =
        (match init with
         | [] => (if first then prefixEncode f inp leaf dp else [0x2E] ++ prefixEncode f inp L.dotted [])
                  ++ encodeKey inp L ++ suffixEncode f inp leaf ds
         | k :: r => (if first then prefixEncode f inp leaf dp else [0x2E] ++ prefixEncode f inp k.dotted [])
                  ++ encodeKey inp k ++ suffixEncode f inp k.dotted []
                  ++ encodeKeyPathAux f inp leaf dp ds false (r ++ [L]))
  | [], first => by simp [encodeKeyPathAux]
  | k :: r, first => by simp [encodeKeyPathAux]

theorem encodeKeyPathAux_tail (f : Bytes → Bytes) (inp : Bytes) (leaf : Decor) (dp ds : Bytes) (L : CKey) :
    ∀ (init : List CKey),
      encodeKeyPathAux f inp leaf dp ds false (init ++ [L]) =
        segsText f inp init false ++ [0x2E] ++ prefixEncode f inp L.dotted [] ++ encodeKey inp L
          ++ suffixEncode f inp leaf ds
  | [] => by simp [encodeKeyPathAux, segsText]
  | k :: r => by
    rw [encodeKeyPathAux_snoc]
    simp only [Bool.false_eq_true, if_false]
    rw [encodeKeyPathAux_tail f inp leaf dp ds L r]
    simp [segsText, segText, List.append_assoc]

theorem encodeKeyPath_fixLeaf (f : Bytes → Bytes) (inp : Bytes) (ks : List CKey) (hne : ks ≠ [])
    (hdec : ∀ k ∈ ks, ∃ a b, k.dotted = Decor.new a b) (dp ds : Bytes) :
    encodeKeyPath f inp (fixLeaf ks) dp ds = segsText f inp ks true := by
  cases ks with
  | nil => exact absurd rfl hne
  | cons first rest =>
    obtain ⟨a1, b1, hd1⟩ := hdec first (by simp)
    rcases List.eq_nil_or_concat rest with hr | ⟨init', last, hr⟩
    · subst hr
      simp [fixLeaf, hd1, Decor.new, splitLast, encodeKeyPath, encodeKeyPathAux, segsText, segText,
        prefixEncode, suffixEncode, encodeKey]
    · rw [List.concat_eq_append] at hr
      subst hr
      obtain ⟨a2, b2, hd2⟩ := hdec last (by simp)
      have hsl : ∀ x : CKey, splitLast (x :: (init' ++ [last])) = some (x :: init', last) := by
        intro x
        have := vsplitLast_snoc (x :: init') last
        simpa using this
      unfold fixLeaf
      simp only [hd1, Decor.new, hsl, hd2]
      unfold encodeKeyPath
      simp only [List.getLast?_append, List.getLast?_singleton, Option.some_or]
      rw [List.cons_append, encodeKeyPathAux]
      have hie : ∀ x : CKey, (init' ++ [x]).isEmpty = false := by intro x; cases init' <;> rfl
      simp only [if_true, hie, Bool.false_eq_true, if_false]
      rw [encodeKeyPathAux_tail]
      have hseg : segsText f inp (first :: (init' ++ [last])) true
          = segText f inp first ++ segsText f inp init' false ++ [0x2E] ++ segText f inp last := by
        simp only [segsText, if_true, List.nil_append]
        rw [segsText_append]
        simp [segsText, List.append_assoc]
      rw [hseg]
      simp [segText, prefixEncode, suffixEncode, encodeKey, hd1, hd2, Decor.new, List.append_assoc]

theorem ckeyPath_tiling (f : Bytes → Bytes) (inp : Bytes) (hf : FixOn f inp) (s r : Bytes) (ks : List CKey)
    (hs : s <:+ inp) (h : ckeyPath inp.length s = .ok ks r) (dp ds : Bytes) :
    s = encodeKeyPath f inp ks dp ds ++ r := by
  obtain ⟨ks0, hk, _, rfl⟩ := ckeyPath_ok h
  obtain ⟨new, e1, hrun⟩ := ckeyPathAux_run _ _ s [] ks0 r hk
  rw [List.nil_append] at e1
  subst e1
  obtain ⟨e3, e4⟩ := keyRun_tiling f inp hf hrun hs
  rw [encodeKeyPath_fixLeaf f inp ks0 hrun.ne_nil e4]
  exact e3

end TomlVerif.Lemmas.Tiling03Hdr
