import TomlVerif.Lemmas.Render03Entries
import TomlVerif.Lemmas.CstEraseValue
import TomlVerif.Lemmas.ValueBytes01
/-! Value-level "same data" (C03): the printed key paths and entries of an inline table are
    renderings of well-formed grammar pieces (`QKey`, `QDKey`, pairs of `QVal`). -/
namespace TomlVerif.Lemmas.Tiling03More.VS
open TomlVerif TomlVerif.Spec TomlVerif.Model TomlVerif.Model.Strings TomlVerif.Model.Value
open TomlVerif.Model.Cst TomlVerif.Model.Encode TomlVerif.Lemmas.Suffix03 TomlVerif.Lemmas.Cst03
open TomlVerif.Lemmas.Tiling03 TomlVerif.Spec.AstValue TomlVerif.Spec.AstValueQ

theorem allWs_strip (t : Bytes) (h : AllWs t) : stripCr t = t :=
  stripCr_of_noCr t fun b hb e => by have := h b hb; subst e; revert this; decide

def DecWs (inp : Bytes) (d : Decor) : Prop :=
  (∀ r, d.pre = some r → AllWs (rawText inp r)) ∧ (∀ r, d.suf = some r → AllWs (rawText inp r))

theorem DecWs_default (inp : Bytes) : DecWs inp {} := ⟨(fun r h => by cases h), fun r h => by cases h⟩

theorem DecWs_new (inp : Bytes) (a b : Raw) (ha : AllWs (rawText inp a)) (hb : AllWs (rawText inp b)) :
    DecWs inp (Decor.new a b) := by
  constructor
  · intro r h; simp only [Decor.new] at h; injection h with h; subst h; exact ha
  · intro r h; simp only [Decor.new] at h; injection h with h; subst h; exact hb

theorem prefixEncode_ws (inp : Bytes) (d : Decor) (dflt : Bytes) (hd : DecWs inp d) (hdf : AllWs dflt) :
    AllWs (prefixEncode stripCr inp d dflt) := by
  unfold prefixEncode
  cases hp : d.pre with
  | none => exact hdf
  | some r =>
    simp only [encRaw]
    rw [allWs_strip _ (hd.1 r hp)]
    exact hd.1 r hp

theorem suffixEncode_ws (inp : Bytes) (d : Decor) (dflt : Bytes) (hd : DecWs inp d) (hdf : AllWs dflt) :
    AllWs (suffixEncode stripCr inp d dflt) := by
  unfold suffixEncode
  cases hp : d.suf with
  | none => exact hdf
  | some r =>
    simp only [encRaw]
    rw [allWs_strip _ (hd.2 r hp)]
    exact hd.2 r hp

def GKey (inp : Bytes) (k : CKey) : Prop :=
  KeyText (rawText inp k.repr) k.key ∧ DecWs inp k.dotted ∧ DecWs inp k.leaf

theorem keyPathAux_q (inp : Bytes) (leaf : Decor) (dp ds : Bytes) (hl : DecWs inp leaf) (hds : AllWs ds) :
    ∀ (ks : List CKey), (∀ k ∈ ks, GKey inp k) →
    ∃ qs : List QKey, (∀ x ∈ qs, x.WF) ∧ renderQKeySep qs = encodeKeyPathAux stripCr inp leaf dp ds false ks ∧
      qs.map QKey.key = keysOf ks
  | [], _ => ⟨[], (by intro x hx; cases hx), (by simp [renderQKeySep, encodeKeyPathAux]), rfl⟩
  | k :: rest, h => by
    obtain ⟨qs, h1, h2, h3⟩ := keyPathAux_q inp leaf dp ds hl hds rest (fun k' hk' => h k' (List.mem_cons_of_mem _ hk'))
    obtain ⟨hkt, hkd, _⟩ := h k (by simp)
    refine ⟨⟨prefixEncode stripCr inp k.dotted [], rawText inp k.repr, k.key,
      if rest.isEmpty then suffixEncode stripCr inp leaf ds else suffixEncode stripCr inp k.dotted []⟩ :: qs, ?_, ?_, ?_⟩
    · intro x hx
      rcases List.mem_cons.1 hx with rfl | hx
      · refine ⟨prefixEncode_ws inp _ _ hkd AllWs.nil, ?_, hkt⟩
        show AllWs (if rest.isEmpty then _ else _)
        split
        · exact suffixEncode_ws inp _ _ hl hds
        · exact suffixEncode_ws inp _ _ hkd AllWs.nil
      · exact h1 x hx
    · simp only [renderQKeySep, encodeKeyPathAux, QKey.render, h2, encodeKey, Bool.false_eq_true, if_false]
      simp
    · simp [h3]

theorem keyPath_q (inp : Bytes) (dp ds : Bytes) (hdp : AllWs dp) (hds : AllWs ds) (X : List CKey) (hne : X ≠ [])
    (h : ∀ k ∈ X, GKey inp k) :
    ∃ qd : QDKey, qd.first.WF ∧ (∀ x ∈ qd.more, x.WF) ∧ qd.render = encodeKeyPath stripCr inp X dp ds ∧
      qd.keys = keysOf X ∧ qd.more.length + 1 = X.length := by
  cases X with
  | nil => exact absurd rfl hne
  | cons x rest =>
    unfold encodeKeyPath
    cases hl : (x :: rest).getLast? with
    | none => simp at hl
    | some l =>
      have hlm : l ∈ x :: rest := List.mem_of_getLast? hl
      have hleaf : DecWs inp l.leaf := (h l hlm).2.2
      obtain ⟨qs, h1, h2, h3⟩ := keyPathAux_q inp l.leaf dp ds hleaf hds rest (fun k' hk' => h k' (List.mem_cons_of_mem _ hk'))
      obtain ⟨hkt, hkd, _⟩ := h x (by simp)
      refine ⟨⟨⟨prefixEncode stripCr inp l.leaf dp, rawText inp x.repr, x.key,
        if rest.isEmpty then suffixEncode stripCr inp l.leaf ds else suffixEncode stripCr inp x.dotted []⟩, qs⟩, ?_, h1, ?_, ?_, ?_⟩
      · refine ⟨prefixEncode_ws inp _ _ hleaf hdp, ?_, hkt⟩
        show AllWs (if rest.isEmpty then _ else _)
        split
        · exact suffixEncode_ws inp _ _ hleaf hds
        · exact suffixEncode_ws inp _ _ hkd AllWs.nil
      · simp only [QDKey.render, QKey.render, encodeKeyPathAux, h2, encodeKey, if_true]
      · simp [QDKey.keys, h3]
      · have := congrArg List.length h3
        simp at this
        simp [this]

theorem splitKeys_dropLast (ks : List Bytes) (k : Bytes) :
    (splitKeys k ks).1 = (k :: ks).dropLast ∧ (splitKeys k ks).2 = ((k :: ks).getLast?).getD [] := by
  rw [← Lemmas.InlineKeys01.splitKeys_append ks k]; simp

def core (inp : Bytes) (v : CVal) : Bytes := encodeValue stripCr inp (v.setDecor {}) [] []

theorem encodeValue_core (inp : Bytes) (v : CVal) (dp ds : Bytes) :
    encodeValue stripCr inp v dp ds
      = prefixEncode stripCr inp v.decor dp ++ core inp v ++ suffixEncode stripCr inp v.decor ds := by
  cases v <;> simp [encodeValue, core, CVal.setDecor, CVal.decor, prefixEncode, suffixEncode]

theorem core_setDecor (inp : Bytes) (v : CVal) (d : Decor) : core inp (v.setDecor d) = core inp v := by
  cases v <;> rfl

def RV (inp : Bytes) (m : Nat) (v : CVal) : Prop :=
  ∃ q : QVal, WFQ q ∧ renderQ q = core inp v ∧ semQ q = eraseVal v ∧ (depthQ q = 0 ∨ m + depthQ q < LIMIT)

theorem RV_setDecor (inp : Bytes) (m : Nat) (v : CVal) (d : Decor) : RV inp m (v.setDecor d) ↔ RV inp m v := by
  unfold RV
  rw [core_setDecor, eraseVal_setDecor]

/-- the value of an inline-table entry below `m` further dotted levels of a table parsed at depth `D` -/
structure GVal (inp : Bytes) (D m : Nat) (v : CVal) : Prop where
  decor : DecWs inp v.decor
  rv : RV inp (D + m) v
  lim : D + m < LIMIT
  leaf : LeafG v

def EOK (inp : Bytes) (D : Nat) (e : List CKey × CVal) : Prop :=
  ∃ m, m + 1 = e.1.length ∧ (∀ k ∈ e.1, GKey inp k) ∧ GVal inp D m e.2

theorem entries_pairs (inp : Bytes) (D : Nat) (hD : 0 < D) (hDL : D < LIMIT) :
    ∀ (es : List (List CKey × CVal)) (i len : Nat), (∀ e ∈ es, EOK inp D e) →
    ∃ pairs : List (QDKey × Bytes × QVal × Bytes), WFPairsQ pairs ∧
      (if i != 0 then renderPairsSepQ pairs else renderPairsQ pairs) = encEntries stripCr inp es i len ∧
      flatPairsQ pairs = es.map eTriple ∧ D + depthPairsQ pairs < LIMIT
  | [], i, len, _ => ⟨[], (by rw [WFPairsQ]; trivial), (by simp [renderPairsSepQ, renderPairsQ, encEntries]),
      (by simp [flatPairsQ]), (by simpa [depthPairsQ] using hDL)⟩
  | (X, v) :: r, i, len, h => by
    obtain ⟨pairs, p1, p2, p3, p4⟩ := entries_pairs inp D hD hDL r (i + 1) len (fun e he => h e (List.mem_cons_of_mem _ he))
    obtain ⟨m, hm, hkeys, hdec, ⟨q, q1, q2, q3, q4⟩, hlim, hleaf⟩ := h (X, v) (List.mem_cons_self ..)
    simp only [] at hm hkeys hdec q2 q3
    have hne : X ≠ [] := by intro e; subst e; simp at hm
    obtain ⟨qd, k1, k2, k3, k4, k5⟩ := keyPath_q inp [0x20] [0x20] AllWs.sp AllWs.sp X hne hkeys
    have hi1 : ((i + 1 != 0) = true) := by simp
    simp only [hi1, if_true] at p2
    refine ⟨(qd, prefixEncode stripCr inp v.decor [0x20], q,
      suffixEncode stripCr inp v.decor (if i + 1 == len then [0x20] else [])) :: pairs, ?_, ?_, ?_, ?_⟩
    -- `QDKey.WF` wants `more.length + 1 < LIMIT`: from `D + m < LIMIT` and `hD`
    · refine wfPairsQ_cons.2 ⟨⟨k1, k2, by omega⟩, prefixEncode_ws inp _ _ hdec AllWs.sp, q1, ?_, p1⟩
      apply suffixEncode_ws inp _ _ hdec
      split
      · exact AllWs.sp
      · exact AllWs.nil
    · have e1 : (if i != 0 then renderPairsSepQ ((qd, prefixEncode stripCr inp v.decor [0x20], q,
          suffixEncode stripCr inp v.decor (if i + 1 == len then [0x20] else [])) :: pairs)
          else renderPairsQ ((qd, prefixEncode stripCr inp v.decor [0x20], q,
          suffixEncode stripCr inp v.decor (if i + 1 == len then [0x20] else [])) :: pairs))
          = (if i != 0 then [0x2C] else []) ++ renderPairsQ ((qd, prefixEncode stripCr inp v.decor [0x20], q,
          suffixEncode stripCr inp v.decor (if i + 1 == len then [0x20] else [])) :: pairs) := by
        split
        · rw [Sound01.renderPairsSepQ_cons]; rfl
        · rfl
      rw [e1]
      simp only [renderPairsQ, encEntries, p2, k3, q2, encodeValue_core inp v]
      simp
    · simp only [flatPairsQ, List.map_cons, p3, q3]
      congr 1
      have := splitKeys_dropLast (qd.more.map QKey.key) qd.first.key
      simp only [QDKey.keys] at k4
      simp only [QDKey.path, QDKey.last, eTriple, this.1, this.2, k4]
    · simp only [depthPairsQ]
      have : qd.more.length = m := by omega
      rw [this]
      rcases q4 with q4 | q4
      · rw [q4]; omega
      · omega

end TomlVerif.Lemmas.Tiling03More.VS
