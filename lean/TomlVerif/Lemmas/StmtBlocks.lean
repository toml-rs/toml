import TomlVerif.Lemmas.State09
/-! The definition state machine (`Model/State.lean`) on the statements a printer emits section by section: a header
    followed by the key/value statements of its table. Stated on the *virtual document* `intoDocument st` (the tree if
    the text ended here): `[A.R.key]` with the values of its table appends, at the existing table `A`, a chain of
    implicit tables `R` down to `key ↦` the new table (`R = []` when the parent exists); `[[A.R.key]]` does so with a
    one-element array, and a further `[[P.key]]` extends the array. -/
namespace TomlVerif.Lemmas.Encode06d
open TomlVerif TomlVerif.Spec TomlVerif.Model TomlVerif.Model.State
open TomlVerif.Lemmas.State09

theorem intoDocument_open (st : ParseState) (pp : List Bytes) (key : Bytes) (h : st.currentPath = pp ++ [key]) :
    intoDocument st = descend st.root pp false (finF st.currentIsArray key st.current) := by
  unfold intoDocument
  rw [finalizeTable_of_path st pp key h]
  cases descend st.root pp false (finF st.currentIsArray key st.current) <;> rfl

theorem intoDocument_root (st : ParseState) (hp : st.currentPath = []) (hr : st.root.items = []) :
    intoDocument st = some st.current := by
  unfold intoDocument
  rw [finalizeTable_eq, hp]
  simp [splitLast, hr]

def appendF (its : List (Bytes × Item)) : Tbl → Option Tbl := fun W => some (W.setItems (W.items ++ its))

theorem startArrayTable_of_path (st : ParseState) (pp : List Bytes) (key : Bytes) :
    startArrayTable st (pp ++ [key]) =
      (descend st.root pp false (arrStartF key)).map fun root' =>
        { st with root := root', position := st.position + 1,
                  current := .mk st.current.items false false (some (st.position + 1)),
                  currentIsArray := true, currentPath := pp ++ [key] } := by
  rw [startArrayTable_def, splitLast_append]
  simp only []
  cases descend st.root pp false (arrStartF key) <;> rfl

end TomlVerif.Lemmas.Encode06d

/-! `nest R key i` is the entry a header path `R ++ [key]` leaves in the table the path starts from when no component
exists yet: implicit tables all the way down to `key ↦ i`. -/
namespace TomlVerif.Lemmas.RoundTrip17
open TomlVerif TomlVerif.Spec TomlVerif.Model TomlVerif.Model.State
open TomlVerif.Lemmas.State09 TomlVerif.Lemmas.Encode06d

def nest : List Bytes → Bytes → Item → Bytes × Item
  | [], key, i => (key, i)
  | r :: R, key, i => (r, .table (.mk [nest R key i] true false none))

/-- the first component of `R ++ [key]` -/
def headKey : List Bytes → Bytes → Bytes
  | [], key => key
  | r :: _, _ => r

theorem nest_fst (R : List Bytes) (key : Bytes) (i : Item) : (nest R key i).1 = headKey R key := by
  cases R <;> rfl

theorem headKey_append (R : List Bytes) (key k : Bytes) : headKey (R ++ [key]) k = headKey R key := by
  cases R <;> rfl

theorem nest_append (R : List Bytes) (key k : Bytes) (i : Item) :
    nest (R ++ [key]) k i = nest R key (.table (.mk [(k, i)] true false none)) := by
  induction R with
  | nil => rfl
  | cons r R ih => simp [nest, ih]

def setF (key : Bytes) (i : Item) : Tbl → Option Tbl := fun W => some (W.setItems (aset key i W.items))

theorem newImplicit_eq : newImplicit false = .mk [] true false none := rfl

theorem descend_nest (R : List Bytes) (key : Bytes) (i : Item) : ∀ U : Tbl, alookup (headKey R key) U.items = none →
    descend U R false (appendF [(key, i)]) = some (U.setItems (U.items ++ [nest R key i])) := by
  induction R with
  | nil => intro U _; simp [descend, appendF, nest]
  | cons r R ih =>
    intro U hk
    simp only [headKey] at hk
    rw [descend_cons_table U (newImplicit false) r R false _ (by simp [hk]) rfl]
    rw [ih (newImplicit false) (by simp [alookup])]
    simp only [Option.map, aset_of_none _ _ _ hk, nest]
    rfl

/-- the table found at `R` below `U` after `nest R key i` was appended: `U` with the entry if `R = []`, else the
    innermost implicit table -/
def under (R : List Bytes) (key : Bytes) (i : Item) (U : Tbl) : Tbl :=
  match R with
  | [] => U.setItems (U.items ++ [(key, i)])
  | _ :: _ => .mk [(key, i)] true false none

theorem lookup_nest (R : List Bytes) (key : Bytes) (i : Item) : ∀ U : Tbl, alookup (headKey R key) U.items = none →
    lookupTbl (U.setItems (U.items ++ [nest R key i])) R = some (under R key i U) ∧
    alookup key (under R key i U).items = some i := by
  induction R with
  | nil =>
    intro U hk
    simp only [headKey] at hk
    exact ⟨rfl, by simp [under, alookup_append_new _ _ _ hk]⟩
  | cons r R ih =>
    intro U hk
    simp only [headKey] at hk
    obtain ⟨h1, h2⟩ := ih (newImplicit false) (by simp [alookup])
    constructor
    · simp only [lookupTbl, items_setItems, nest, alookup_append_new _ _ _ hk]
      cases R with
      | nil => simp [lookupTbl, under, nest]
      | cons r' R' =>
        have : (Tbl.mk [nest (r' :: R') key i] true false none) =
            (newImplicit false).setItems ((newImplicit false).items ++ [nest (r' :: R') key i]) := rfl
        rw [this, h1]; rfl
    · simp [under, alookup, Tbl.items]

theorem under_keys (R : List Bytes) (key : Bytes) (i : Item) (U : Tbl) :
    ∀ k ∈ (under R key i U).items.map Prod.fst, k = key ∨ (R = [] ∧ k ∈ U.items.map Prod.fst) := by
  intro k hk
  cases R with
  | nil =>
    simp only [under, items_setItems, List.map_append, List.map_cons, List.map_nil, List.mem_append,
      List.mem_singleton] at hk
    rcases hk with hk | hk
    · exact Or.inr ⟨rfl, hk⟩
    · exact Or.inl hk
  | cons r R => simp [under, Tbl.items] at hk; exact Or.inl hk

theorem descend_set_nest (R : List Bytes) (key : Bytes) (i i' : Item) : ∀ U : Tbl,
    alookup (headKey R key) U.items = none →
    descend (U.setItems (U.items ++ [nest R key i])) R false (setF key i') =
      some (U.setItems (U.items ++ [nest R key i'])) := by
  induction R with
  | nil =>
    intro U hk
    simp only [headKey] at hk
    have e2 : alookup key (U.items ++ [(key, i)]) = some i := alookup_append_new _ _ _ hk
    simp [descend, setF, nest, aset_of_some _ _ _ _ e2, areplace_append_new _ _ _ _ hk, setItems_setItems]
  | cons r R ih =>
    intro U hk
    simp only [headKey] at hk
    have e2 : alookup r (U.items ++ [nest (r :: R) key i]) = some (.table (.mk [nest R key i] true false none)) :=
      alookup_append_new _ _ _ hk
    rw [descend_cons_table _ (.mk [nest R key i] true false none) r R false _ (by simp [e2]) rfl]
    have := ih (newImplicit false) (by simp [alookup])
    simp only [newImplicit, Tbl.setItems, Tbl.items, Tbl.implicit, Tbl.dotted, Tbl.pos, List.nil_append] at this
    rw [this]
    simp only [Option.map, items_setItems]
    rw [aset_of_some _ _ _ _ e2]
    simp only [nest]
    rw [areplace_append_new _ _ _ _ hk]
    rfl

theorem descend_free (V U : Tbl) (A R : List Bytes) (key : Bytes) (i : Item)
    (hU : lookupTbl V A = some U) (hk : alookup (headKey R key) U.items = none) :
    descend V (A ++ R) false (appendF [(key, i)]) = descend V A false (appendF [nest R key i]) := by
  rw [descend_append_false]
  exact descend_congr_at V U A _ _ hU (by rw [descend_nest R key i U hk]; rfl)

theorem target_free (V U : Tbl) (A R : List Bytes) (key : Bytes)
    (hU : lookupTbl V A = some U) (hk : alookup (headKey R key) U.items = none) :
    alookup key (target V (A ++ R) false).items = none := by
  unfold target
  rw [lookupTbl_append, hU]
  cases R with
  | nil => simpa [lookupTbl, headKey] using hk
  | cons r R =>
    simp only [headKey] at hk
    have : lookupTbl U (r :: R) = none := by simp only [lookupTbl, hk]
    simp [this, alookup]

theorem find_free (V U : Tbl) (A R : List Bytes) (key : Bytes)
    (hU : lookupTbl V A = some U) (hk : alookup (headKey R key) U.items = none) :
    startTable.find key V (A ++ R) = none := by
  rw [find_eq, lookupTbl_append, hU]
  cases R with
  | nil => simp only [headKey] at hk; simp [lookupTbl, tableAt, hk]
  | cons r R => simp only [headKey] at hk; simp [lookupTbl, hk]

theorem descend_new_some (T : Tbl) (key : Bytes) : ∀ (R : List Bytes) (t : Tbl),
    alookup (headKey R key) t.items = none → ∃ X, descend t R false (fun _ => some T) = some X := by
  intro R
  induction R with
  | nil => intro t _; exact ⟨T, rfl⟩
  | cons r R ih =>
    intro t hk
    simp only [headKey] at hk
    obtain ⟨X, hX⟩ := ih (newImplicit false) rfl
    rw [descend_cons_table t (newImplicit false) r R false _ (by simp [hk]) rfl, hX]
    exact ⟨_, rfl⟩

theorem descend_free_some (V U : Tbl) (A R : List Bytes) (key : Bytes) (f : Tbl → Option Tbl) (T : Tbl)
    (hU : lookupTbl V A = some U) (hk : alookup (headKey R key) U.items = none)
    (hf : f (target V (A ++ R) false) = some T) : ∃ V', descend V (A ++ R) false f = some V' := by
  rw [descend_congr V (A ++ R) false f (fun _ => some T) hf, descend_append_false]
  obtain ⟨X, hX⟩ := descend_new_some T key R U hk
  obtain ⟨V', hV', _⟩ := descend_some V U X A (fun u => descend u R false fun _ => some T) hU hX
  exact ⟨V', hV'⟩

/-- folds a descent along `A ++ R`, to the table under the fresh chain, into one at `A` -/
theorem descend_under (V V1 U : Tbl) (A R : List Bytes) (key : Bytes) (i i' : Item) (g : Tbl → Option Tbl)
    (hU : lookupTbl V A = some U) (hk : alookup (headKey R key) U.items = none)
    (hV1 : descend V A false (appendF [nest R key i]) = some V1)
    (hg : g (under R key i U) = some ((under R key i U).setItems (aset key i' (under R key i U).items))) :
    descend V1 (A ++ R) false g = descend V A false (appendF [nest R key i']) := by
  have hl : lookupTbl V1 (A ++ R) = some (under R key i U) := by
    obtain ⟨V', h1, h2⟩ := descend_some V U _ A (appendF [nest R key i]) hU rfl
    rw [hV1] at h1
    injection h1 with h1
    subst h1
    rw [lookupTbl_append, h2]
    exact (lookup_nest R key i U hk).1
  rw [descend_congr_at V1 _ (A ++ R) g (setF key i') hl (by rw [hg]; rfl)]
  rw [descend_append_false]
  refine descend_then V V1 U A _ _ _ hV1 hU ?_
  simp only [appendF, Option.bind]
  rw [descend_set_nest R key i i' U hk]

end TomlVerif.Lemmas.RoundTrip17

namespace TomlVerif.Lemmas.StmtBlocks
open TomlVerif TomlVerif.Spec TomlVerif.Model TomlVerif.Model.State
open TomlVerif.Lemmas.State09 TomlVerif.Lemmas.Encode06d TomlVerif.Lemmas.RoundTrip17

def kvRun : List (Bytes × Val) → List Stmt
  | [] => []
  | (k, v) :: r => .kv [] k v :: kvRun r

def valItemsV : List (Bytes × Val) → List (Bytes × Item)
  | [] => []
  | (k, v) :: r => (k, .value v) :: valItemsV r

theorem valItemsV_keys (l : List (Bytes × Val)) : (valItemsV l).map Prod.fst = l.map Prod.fst := by
  induction l with
  | nil => rfl
  | cons x r ih => obtain ⟨k, v⟩ := x; simp [valItemsV, ih]

theorem run_kvRun : ∀ (kvs : List (Bytes × Val)) (st : ParseState), st.current.dotted = false →
    (kvs.map Prod.fst).Nodup → (∀ k ∈ kvs.map Prod.fst, k ∉ st.current.items.map Prod.fst) →
    run st (kvRun kvs) = some { st with current := st.current.setItems (st.current.items ++ valItemsV kvs) } := by
  intro kvs
  induction kvs with
  | nil =>
    intro st _ _ _
    simp [kvRun, run, valItemsV, setItems_self]
  | cons x r ih =>
    obtain ⟨k, v⟩ := x
    intro st hd hn ha
    simp only [List.map_cons, List.nodup_cons] at hn
    have hk : alookup k st.current.items = none := (alookup_none_iff _ _).2 (ha k (by simp))
    have h1 : step st (.kv [] k v) =
        some { st with current := st.current.setItems (st.current.items ++ [(k, .value v)]) } := by
      simp [step, onKeyval, descend, hd, hk]
    simp only [kvRun, run, h1]
    rw [ih _ (by simpa using hd) hn.2]
    · simp [valItemsV, setItems_setItems]
    · intro k' hk' hmem
      simp only [items_setItems, List.map_append, List.map_cons, List.map_nil, List.mem_append, List.mem_singleton] at hmem
      rcases hmem with hmem | hmem
      · exact ha k' (by simp [hk']) hmem
      · subst hmem; exact hn.1 hk'

theorem std_block_free (st : ParseState) (V U : Tbl) (A R : List Bytes) (key : Bytes) (kvs : List (Bytes × Val))
    (hV : intoDocument st = some V) (hU : lookupTbl V A = some U) (hk : alookup (headKey R key) U.items = none)
    (hn : (kvs.map Prod.fst).Nodup) :
    ∃ st1 n, run st (.std (A ++ R ++ [key]) :: kvRun kvs) = some st1 ∧
      intoDocument st1 = descend V A false (appendF [nest R key (.table (.mk (valItemsV kvs) false false (some n)))]) := by
  have hfin := finalize_of_into st V hV
  have htk := target_free V U A R key hU hk
  obtain ⟨r0, hprobe⟩ := descend_free_some V U A R key (probeF key) (target V (A ++ R) false) hU hk
    (by simp only [probeF, htk])
  obtain ⟨R0, herase⟩ := descend_free_some V U A R key (eraseF key) _ hU hk rfl
  have hfind := find_free V U A R key hU hk
  have h1 : step st (.std (A ++ R ++ [key])) =
      some { st with root := R0, position := st.position + 1,
                     current := .mk [] false false (some (st.position + 1)),
                     currentIsArray := false, currentPath := A ++ R ++ [key] } := by
    simp only [step, onStdHeader, hfin, startTable_eq, splitLast_append, hprobe, herase, hfind]
    rfl
  have hrun : run st (.std (A ++ R ++ [key]) :: kvRun kvs) =
      some { st with root := R0, position := st.position + 1,
                     current := .mk (valItemsV kvs) false false (some (st.position + 1)),
                     currentIsArray := false, currentPath := A ++ R ++ [key] } := by
    simp only [run, h1]
    rw [run_kvRun kvs _ rfl hn (by simp [Tbl.items])]
    rfl
  refine ⟨_, st.position + 1, hrun, ?_⟩
  rw [intoDocument_open _ (A ++ R) key rfl]
  simp only [finF, Bool.false_eq_true, if_false]
  rw [descend_descend V R0 (A ++ R) (eraseF key) _ herase, ← descend_free V U A R key _ hU hk]
  exact descend_congr V (A ++ R) false _ _ (by simp [eraseF, finStdF, aerase_of_none _ _ htk, htk, appendF, setItems_self])

theorem arr_block_free (st : ParseState) (V U : Tbl) (A R : List Bytes) (key : Bytes) (kvs : List (Bytes × Val))
    (hV : intoDocument st = some V) (hU : lookupTbl V A = some U) (hk : alookup (headKey R key) U.items = none)
    (hn : (kvs.map Prod.fst).Nodup) :
    ∃ st1 n, run st (.arr (A ++ R ++ [key]) :: kvRun kvs) = some st1 ∧
      intoDocument st1 = descend V A false (appendF [nest R key (.aot [.mk (valItemsV kvs) false false (some n)])]) := by
  have hfin := finalize_of_into st V hV
  have htk := target_free V U A R key hU hk
  obtain ⟨R0, hstart⟩ := descend_free_some V U A R key (arrStartF key)
    ((target V (A ++ R) false).setItems ((target V (A ++ R) false).items ++ [(key, .aot [])])) hU hk
    (by simp only [arrStartF, htk])
  have h1 : step st (.arr (A ++ R ++ [key])) =
      some { st with root := R0, position := st.position + 1,
                     current := .mk [] false false (some (st.position + 1)),
                     currentIsArray := true, currentPath := A ++ R ++ [key] } := by
    simp only [step, onArrayHeader, hfin, startArrayTable_of_path, hstart]
    rfl
  have hrun : run st (.arr (A ++ R ++ [key]) :: kvRun kvs) =
      some { st with root := R0, position := st.position + 1,
                     current := .mk (valItemsV kvs) false false (some (st.position + 1)),
                     currentIsArray := true, currentPath := A ++ R ++ [key] } := by
    simp only [run, h1]
    rw [run_kvRun kvs _ rfl hn (by simp [Tbl.items])]
    rfl
  refine ⟨_, st.position + 1, hrun, ?_⟩
  rw [intoDocument_open _ (A ++ R) key rfl]
  simp only [finF, if_true]
  rw [descend_descend V R0 (A ++ R) (arrStartF key) _ hstart, ← descend_free V U A R key _ hU hk]
  refine descend_congr V (A ++ R) false _ _ ?_
  have e2 : alookup key ((target V (A ++ R) false).items ++ [(key, Item.aot [])]) = some (.aot []) :=
    alookup_append_new _ _ _ htk
  simp only [arrStartF, htk, Option.bind, finArrF, items_setItems, e2, Option.getD_some, appendF, List.nil_append]
  rw [aset_of_some _ _ _ _ e2, areplace_append_new _ _ _ _ htk]
  rfl

theorem arr_block_more (st : ParseState) (V W : Tbl) (P : List Bytes) (key : Bytes) (kvs : List (Bytes × Val))
    (pre : List Tbl) (hV : intoDocument st = some V) (hW : lookupTbl V P = some W)
    (hk : alookup key W.items = some (.aot pre)) (hn : (kvs.map Prod.fst).Nodup) :
    ∃ st1 n, run st (.arr (P ++ [key]) :: kvRun kvs) = some st1 ∧
      intoDocument st1 = descend V P false (setF key (.aot (pre ++ [.mk (valItemsV kvs) false false (some n)]))) := by
  have hfin := finalize_of_into st V hV
  obtain ⟨R0, hR0, _⟩ := descend_some V W W P (arrStartF key) hW (by simp [arrStartF, hk])
  have h1 : step st (.arr (P ++ [key])) =
      some { st with root := R0, position := st.position + 1,
                     current := .mk [] false false (some (st.position + 1)),
                     currentIsArray := true, currentPath := P ++ [key] } := by
    simp only [step, onArrayHeader, hfin, startArrayTable_of_path, hR0]
    rfl
  have hrun : run st (.arr (P ++ [key]) :: kvRun kvs) =
      some { st with root := R0, position := st.position + 1,
                     current := .mk (valItemsV kvs) false false (some (st.position + 1)),
                     currentIsArray := true, currentPath := P ++ [key] } := by
    simp only [run, h1]
    rw [run_kvRun kvs _ rfl hn (by simp [Tbl.items])]
    rfl
  refine ⟨_, st.position + 1, hrun, ?_⟩
  rw [intoDocument_open _ P key rfl]
  simp only [finF, if_true]
  refine descend_then V R0 W P (arrStartF key) _ _ hR0 hW ?_
  simp [arrStartF, finArrF, hk, setF]

end TomlVerif.Lemmas.StmtBlocks
