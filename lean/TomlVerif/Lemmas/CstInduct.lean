import TomlVerif.Model.Cst
/-! Induction over the layout-preserving trees: item lists (`P`), tables (`T`) and arrays of tables
    (`A`) in `items_induct`; values, element lists and entry lists in `cval_induct`.  Each is stated
    once from the recursor of the nested type, so that a proof over the tree is an instance of it and
    needs no structural recursion of its own. -/
namespace TomlVerif.Lemmas.Tiling03More
open TomlVerif.Model.Cst

theorem items_induct {P : List (CKey × CItem) → Prop} {T : CTbl → Prop} {A : List CTbl → Prop}
    (nil : P [])
    (value : ∀ k v r, P r → P ((k, .value v) :: r))
    (table : ∀ k t r, T t → P r → P ((k, .table t) :: r))
    (aot : ∀ k ts sp r, A ts → P r → P ((k, .aot ts sp) :: r))
    (mk : ∀ items imp dot p dec sp, P items → T (.mk items imp dot p dec sp))
    (anil : A []) (acons : ∀ t r, T t → A r → A (t :: r)) :
    (∀ l, P l) ∧ (∀ t, T t) ∧ (∀ ts, A ts) := by
  have hI : ∀ it : CItem, ∀ k r, P r → P ((k, it) :: r) := fun it =>
    CItem.rec (motive_1 := fun it => ∀ k r, P r → P ((k, it) :: r)) (motive_2 := T) (motive_3 := A)
      (motive_4 := P) (motive_5 := fun kv => ∀ r, P r → P (kv :: r))
      (fun v k r hr => value k v r hr) (fun t ht k r hr => table k t r ht hr)
      (fun ts sp hts k r hr => aot k ts sp r hts hr) mk anil acons nil
      (fun kv r hkv hr => hkv r hr) (fun k _ hit r hr => hit k r hr) it
  have hP : ∀ l, P l := by
    intro l
    induction l with
    | nil => exact nil
    | cons kv r ih => exact hI kv.2 kv.1 r ih
  have hT : ∀ t, T t := fun ⟨items, imp, dot, p, dec, sp⟩ => mk items imp dot p dec sp (hP items)
  refine ⟨hP, hT, ?_⟩
  intro ts
  induction ts with
  | nil => exact anil
  | cons t r ih => exact acons t r (hT t) ih

end TomlVerif.Lemmas.Tiling03More

namespace TomlVerif.Lemmas.Cst03
open TomlVerif TomlVerif.Model TomlVerif.Model.Cst

/-- An entry that is an inline table also hands its own entries to `R`: the printer and `get_values`
    recurse into a dotted inline table without passing through the value.  Built once from the recursor of the
    nested type, so that a proof over values can do without a `mutual` block of its own. -/
theorem cval_induct {P : CVal → Prop} {Q : List CVal → Prop} {R : List (CKey × CVal) → Prop}
    (scalar : ∀ v r d, P (.scalar v r d))
    (arr : ∀ items t c d s, Q items → P (.arr items t c d s))
    (inl : ∀ items p i dt d s, R items → P (.inl items p i dt d s))
    (nil : Q []) (cons : ∀ v r, P v → Q r → Q (v :: r))
    (knil : R [])
    (kcons : ∀ k v r, P v → (∀ sub p i dt d s, v = .inl sub p i dt d s → R sub) → R r → R ((k, v) :: r)) :
    (∀ v, P v) ∧ (∀ l, Q l) ∧ (∀ l, R l) := by
  have hP : ∀ v, P v ∧ ∀ sub p i dt d s, v = .inl sub p i dt d s → R sub := fun v =>
    CVal.rec (motive_1 := fun v => P v ∧ ∀ sub p i dt d s, v = .inl sub p i dt d s → R sub)
      (motive_2 := Q) (motive_3 := R)
      (motive_4 := fun kv => P kv.2 ∧ ∀ sub p i dt d s, kv.2 = .inl sub p i dt d s → R sub)
      (fun v r d => ⟨scalar v r d, fun _ _ _ _ _ _ h => nomatch h⟩)
      (fun items t c d s hq => ⟨arr items t c d s hq, fun _ _ _ _ _ _ h => nomatch h⟩)
      (fun items p i dt d s hr => ⟨inl items p i dt d s hr, fun _ _ _ _ _ _ h => by cases h; exact hr⟩)
      nil (fun v r hv hq => cons v r hv.1 hq)
      knil (fun kv r hkv hr => kcons kv.1 kv.2 r hkv.1 hkv.2 hr)
      (fun _ _ h => h) v
  refine ⟨fun v => (hP v).1, ?_, ?_⟩
  · intro l
    induction l with
    | nil => exact nil
    | cons v r ih => exact cons v r (hP v).1 ih
  · intro l
    induction l with
    | nil => exact knil
    | cons kv r ih => exact kcons kv.1 kv.2 r (hP kv.2).1 (hP kv.2).2 ih

end TomlVerif.Lemmas.Cst03
