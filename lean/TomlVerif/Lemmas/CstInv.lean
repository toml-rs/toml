import TomlVerif.Lemmas.Spans14Value
import TomlVerif.Lemmas.CstRun
/-! Invariants of the parse state of `Model/Cst.lean`, in two layers.  A predicate on the state that
    the four state steps keep (`StepInv`) holds of the state `parseCst` finalizes.  For a predicate
    `T` on tables that says "`T` of every sub-table, `V` of every value stored directly, `L` of the
    table's own flags and decor, `M` of the members of arrays of tables" (`TreeInv`), "`T` of the root
    and of the current table" is such a predicate, given that `V` holds of what `cvalue` returns. -/
namespace TomlVerif.Lemmas.Refine08c
open TomlVerif TomlVerif.Model
open TomlVerif.Model.Cst TomlVerif.Lemmas.Cst03 TomlVerif.Lemmas.Spans14
open TomlVerif.Lemmas.Tiling03 (kvKey kvCur kvFn onKeyval_eq)
open TomlVerif.Lemmas.CstState

structure StepInv (I : CState → Prop) : Prop where
  ws : ∀ {st : CState} {a b : Nat}, I st → I (onWs st a b)
  keyval : ∀ {st st' : CState} {path : List CKey} {key : CKey} {n fuel d : Nat} {s r : Bytes} {v : CVal}
    {dec : Decor}, I st → cvalue n fuel d s = .ok v r → onKeyval st path key (v.setDecor dec) = some st' → I st'
  std : ∀ {st st' : CState} {path : List CKey} {trailing : Raw} {span : Span},
    I st → onStdHeader st path trailing span = some st' → I st'
  arr : ∀ {st st' : CState} {path : List CKey} {trailing : Raw} {span : Span},
    I st → onArrayHeader st path trailing span = some st' → I st'

section driver
variable {I : CState → Prop} (hI : StepInv I)
include hI

theorem ctableLine_inv {n : Nat} {st st' : CState} {s r : Bytes} (hinv : I st)
    (h : ctableLine n st s = some (st', r)) : I st' := by
  obtain ⟨isArr, _, ks, r2, _, _, _, ho⟩ := Tiling03Hdr.table_frame n st st' s r h
  cases isArr with
  | true => exact hI.arr hinv ho
  | false => exact hI.std hinv ho

theorem ckeyvalLine_inv {n : Nat} {st st' : CState} {s r : Bytes} (hinv : I st)
    (h : ckeyvalLine n st s = some (st', r)) : I st' := by
  obtain ⟨ks, r1, v, r2, path, key, c, _, hv, _, _, hd, rfl⟩ := Tiling03Hdr.keyval_frame n st st' s r h
  have ho : onKeyval st path key (Tiling03Hdr.kvVal n v r1 r2) = some { st with current := c, trailing := none } := by
    rw [onKeyval_eq, hd]; rfl
  exact hI.keyval hinv hv ho

theorem parseCst_inv (h0 : I {}) {s : Bytes} {d : CDoc} (h : parseCst s = some d) :
    ∃ st st1, I st ∧ finalizeTable st = some st1 ∧ d.root = st1.root := by
  obtain ⟨st, st1, hcl, hfin, rfl⟩ := parseCst_ok h
  exact ⟨st, st1, clines_preserves (I := fun st _ => I st) (fun _ _ _ _ h => hI.ws h)
    (fun _ _ _ _ hl h => ctableLine_inv hI h hl) (fun _ _ _ _ hl h => ckeyvalLine_inv hI h hl) _ _ _ _ hcl (hI.ws h0),
    hfin, rfl⟩

end driver

def _root_.TomlVerif.Model.Cst.CTbl.fr (P : Bool → Bool → Decor → Prop) (t : CTbl) : Prop := P t.implicit t.dotted t.decor

theorem _root_.TomlVerif.Model.Cst.CTbl.fr_setItems (P : Bool → Bool → Decor → Prop) (t : CTbl) (items : List (CKey × CItem)) :
    (t.setItems items).fr P ↔ t.fr P := by cases t; exact Iff.rfl

theorem _root_.TomlVerif.Model.Cst.CTbl.fr_setSpan (P : Bool → Bool → Decor → Prop) (t : CTbl) (sp : Option Span) :
    (t.setSpan sp).fr P ↔ t.fr P := by cases t; exact Iff.rfl

def ItemInv (V : CVal → Prop) (M : Bool → Bool → Decor → Prop) (T : CTbl → Prop) : CItem → Prop
  | .value v => V v
  | .table t => T t
  | .aot ts _ => ∀ t ∈ ts, t.fr M ∧ T t

/-- `V` does not look at the decor of the value; `L` holds of the tables the parser makes up
    (`newImplicit`) and of the ones a header starts. -/
structure TreeInv (V : CVal → Prop) (L M : Bool → Bool → Decor → Prop) (T : CTbl → Prop) : Prop where
  tbl : ∀ t, T t ↔ t.fr L ∧ AllKV (fun _ => True) (ItemInv V M T) t.items
  setDecor : ∀ v d, V v → V (v.setDecor d)
  implicit : ∀ d, L true d {}
  plain : ∀ dec, L false false dec

abbrev noFr : Bool → Bool → Decor → Prop := fun _ _ _ => True

theorem TreeInv.ofItems {V : CVal → Prop} {T : CTbl → Prop}
    (tbl : ∀ t, T t ↔ AllKV (fun _ => True) (ItemInv V noFr T) t.items)
    (setDecor : ∀ v d, V v → V (v.setDecor d)) : TreeInv V noFr noFr T :=
  ⟨fun t => (tbl t).trans ⟨fun h => ⟨trivial, h⟩, fun h => h.2⟩, setDecor, fun _ => trivial, fun _ => trivial⟩

theorem trivTree : TreeInv (fun _ => True) noFr noFr (fun _ => True) := by
  refine .ofItems (fun _ => ⟨fun _ kv _ => ⟨trivial, ?_⟩, fun _ => trivial⟩) fun _ _ _ => trivial
  cases kv.2 with
  | value _ => trivial
  | table _ => trivial
  | aot _ _ => exact fun _ _ => ⟨trivial, trivial⟩

def NotDot : Bool → Bool → Decor → Prop := fun _ dot _ => dot = false

structure TInv (R : Bool → Bool → Decor → Prop) (T : CTbl → Prop) (st : CState) : Prop where
  root : T st.root
  cur : T st.current
  rroot : st.root.fr R
  rcur : st.current.fr R

/- `R` is what is known of the flags of the root and of the current table, `M` what is asked of the
   members of an array of tables: `finalize_table` stores the current table as such a member, hence
   `hR : R → M`.  `R` is kept apart from `L`: `L` has to hold of every table of the tree, the ones
   made by dotted keys and implicit parents included, `R` only of the two tables of the state, of
   which more is true (`NotDot`). -/
section tree
variable {V : CVal → Prop} {L M R : Bool → Bool → Decor → Prop} {T : CTbl → Prop} (hW : TreeInv V L M T)
include hW

theorem TreeInv.mk_iff (items : List (CKey × CItem)) (i d : Bool) (p : Option Nat) (dec : Decor) (sp : Option Span) :
    T (.mk items i d p dec sp) ↔ L i d dec ∧ AllKV (fun _ => True) (ItemInv V M T) items := hW.tbl _

theorem TreeInv.setItems (t : CTbl) (items : List (CKey × CItem)) :
    T (t.setItems items) ↔ t.fr L ∧ AllKV (fun _ => True) (ItemInv V M T) items := by
  cases t; exact hW.mk_iff _ _ _ _ _ _

theorem TreeInv.setSpan (t : CTbl) (sp : Option Span) : T (t.setSpan sp) ↔ T t := by
  cases t
  simp only [CTbl.setSpan, CTbl.items, CTbl.implicit, CTbl.dotted, CTbl.pos, CTbl.decor, hW.mk_iff]

theorem TreeInv.plain_ok (items : List (CKey × CItem)) (p : Option Nat) (dec : Decor) (sp : Option Span)
    (h : AllKV (fun _ => True) (ItemInv V M T) items) : T (.mk items false false p dec sp) :=
  (hW.mk_iff ..).2 ⟨hW.plain dec, h⟩

/-- `∀ P, t.fr P → t'.fr P` says that `implicit`, `dotted` and the decor are unchanged. -/
theorem TreeInv.descend_ok (f : CTbl → Option CTbl)
    (hf : ∀ u u', T u → f u = some u' → T u' ∧ ∀ P, u.fr P → u'.fr P)
    (path : List CKey) (t : CTbl) (dotted : Bool) (t' : CTbl)
    (ht : T t) (h : descend t path dotted f = some t') : T t' ∧ ∀ P, t.fr P → t'.fr P := by
  refine Tiling03Hdr.descend_induction (P := fun t _ t' => T t → T t' ∧ ∀ P, t.fr P → t'.fr P)
    (fun t t' h ht => hf t t' ht h) ?_ ?_ ?_ path t t' h ht
  · intro t k ks sub' _ _ ih ht
    have ht2 := (hW.tbl _).1 ht
    have hnew : T (newImplicit dotted) := (hW.mk_iff ..).2 ⟨hW.implicit dotted, AllKV.nil⟩
    exact ⟨(hW.setItems _ _).2 ⟨ht2.1, ht2.2.append (AllKV.single trivial (ih hnew).1)⟩,
      fun P => (CTbl.fr_setItems P _ _).2⟩
  · intro t k ks sub sub' hl _ ih ht
    have ht2 := (hW.tbl _).1 ht
    have hent : ItemInv V M T (.table sub) := AllKV.lookup ht2.2 hl
    exact ⟨(hW.setItems _ _).2 ⟨ht2.1, AllKV.cset ht2.2 trivial (show ItemInv V M T (.table sub') from (ih hent).1)⟩,
      fun P => (CTbl.fr_setItems P _ _).2⟩
  · intro t k ks tsI l l' sp hl _ ih ht
    have ht2 := (hW.tbl _).1 ht
    have hts : ∀ x ∈ tsI ++ [l], x.fr M ∧ T x := AllKV.lookup (PV := ItemInv V M T) ht2.2 hl
    have hl0 := hts l (by simp)
    have hl' := ih hl0.2
    refine ⟨(hW.setItems _ _).2 ⟨ht2.1, AllKV.cset ht2.2 trivial ?_⟩, fun P => (CTbl.fr_setItems P _ _).2⟩
    intro x hx
    rcases List.mem_append.1 hx with hx | hx
    · exact hts x (List.mem_append_left _ hx)
    · simp at hx; subst hx; exact ⟨hl'.2 M hl0.1, hl'.1⟩

theorem TreeInv.findTable_ok (key : Bytes) : ∀ (path : List CKey) (t x : CTbl), T t →
    findTable key t path = some x → T x := by
  intro path
  induction path with
  | nil =>
    intro t x ht h
    unfold findTable at h
    split at h
    · rename_i y hl
      injection h with h; subst h
      have hent : ItemInv V M T (.table y) := AllKV.lookup ((hW.tbl _).1 ht).2 hl
      exact hent
    · cases h
  | cons k ks ih =>
    intro t x ht h
    unfold findTable at h
    split at h
    · rename_i sub hl
      have hent : ItemInv V M T (.table sub) := AllKV.lookup ((hW.tbl _).1 ht).2 hl
      exact ih _ _ hent h
    · rename_i ts sp hl
      have hent : ItemInv V M T (.aot ts sp) := AllKV.lookup ((hW.tbl _).1 ht).2 hl
      split at h
      · rename_i l rest hrev
        have hmem : l ∈ ts := by
          have : l ∈ ts.reverse := by rw [hrev]; simp
          simpa using this
        exact ih _ _ (hent l hmem).2 h
      · cases h
    · cases h

theorem TreeInv.init (hRp : ∀ dec, R false false dec) : TInv R T {} :=
  ⟨hW.plain_ok _ _ _ _ AllKV.nil, hW.plain_ok _ _ _ _ AllKV.nil, hRp {}, hRp _⟩

omit hW in
theorem TInv.ws {st : CState} {a b : Nat} (h : TInv R T st) : TInv R T (onWs st a b) := by
  unfold onWs
  split <;> exact ⟨h.root, h.cur, h.rroot, h.rcur⟩

theorem TreeInv.onKeyval_ok {st st' : CState} {path : List CKey} {key : CKey} {v : CVal}
    (hinv : TInv R T st) (hv : V v) (h : onKeyval st path key v = some st') : TInv R T st' := by
  rw [onKeyval_eq] at h
  obtain ⟨c, hc, rfl⟩ := Option.map_eq_some_iff.mp h
  have hcur : T (kvCur st v) ∧ (kvCur st v).fr R := by
    unfold kvCur
    split
    · exact ⟨(hW.setSpan _ _).2 hinv.cur, (CTbl.fr_setSpan R _ _).2 hinv.rcur⟩
    · exact ⟨hinv.cur, hinv.rcur⟩
  have hf : ∀ u u', T u → kvFn path (kvKey st key) v u = some u' → T u' ∧ ∀ P, u.fr P → u'.fr P := by
    intro u u' hu hfu
    obtain ⟨rfl, _⟩ := Tiling03Hdr.kvFn_facts _ _ _ _ _ hfu
    have hu1 := (hW.tbl _).1 hu
    exact ⟨(hW.setItems _ _).2 ⟨hu1.1, hu1.2.append (AllKV.single trivial hv)⟩, fun P => (CTbl.fr_setItems P _ _).2⟩
  have hres := hW.descend_ok _ hf path _ true c hcur.1 hc
  exact ⟨hinv.root, hres.1, hinv.rroot, hres.2 R hcur.2⟩

theorem TreeInv.finArr_ok {key : CKey} {table : CTbl} (ht : T table) (hm : table.fr M) (u u' : CTbl) (hu : T u)
    (h : finArr key table u = some u') : T u' ∧ ∀ P, u.fr P → u'.fr P := by
  have hu1 := (hW.tbl _).1 hu
  have hent : ItemInv V M T ((clookup key.key u.items).getD (.aot [] none)) := by
    cases hl : clookup key.key u.items with
    | none => exact fun _ hx => by cases hx
    | some e => exact AllKV.lookup hu1.2 hl
  obtain ⟨ts, sp, he, rfl⟩ := finArr_some h
  rw [he] at hent
  refine ⟨(hW.setItems _ _).2 ⟨hu1.1, AllKV.cset hu1.2 trivial ?_⟩, fun P => (CTbl.fr_setItems P _ _).2⟩
  intro x hx
  rcases List.mem_append.1 hx with hx | hx
  · exact hent x hx
  · simp at hx; subst hx; exact ⟨hm, ht⟩

theorem TreeInv.finStd_ok {key : CKey} {table : CTbl} (ht : T table) (u u' : CTbl) (hu : T u)
    (h : finStd key table u = some u') : T u' ∧ ∀ P, u.fr P → u'.fr P := by
  have hu1 := (hW.tbl _).1 hu
  have hcur : ItemInv V M T (.table table) := ht
  rcases finStd_some h with ⟨_, _, _, rfl⟩ | ⟨_, rfl⟩
  · exact ⟨(hW.setItems _ _).2 ⟨hu1.1, AllKV.creplace hu1.2 hcur⟩, fun P => (CTbl.fr_setItems P _ _).2⟩
  · exact ⟨(hW.setItems _ _).2 ⟨hu1.1, hu1.2.append (AllKV.single trivial hcur)⟩, fun P => (CTbl.fr_setItems P _ _).2⟩

theorem TreeInv.finalizeTable_ok (hR : ∀ i d dec, R i d dec → M i d dec) {st st' : CState} (hinv : TInv R T st) (h : finalizeTable st = some st') :
    T st'.root ∧ st'.root.fr R ∧ st'.current = CTbl.empty := by
  rcases finalizeTable_inv h with ⟨_, _, rfl⟩ | ⟨pp, key, root', _, hd, rfl⟩
  · exact ⟨hinv.cur, hinv.rcur, rfl⟩
  · have hres := hW.descend_ok _ (fun u u' hu hf => by
      split at hf
      · exact hW.finArr_ok hinv.cur (hR _ _ _ hinv.rcur) u u' hu hf
      · exact hW.finStd_ok hinv.cur u u' hu hf) pp _ false root' hinv.root hd
    exact ⟨hres.1, hres.2 R hinv.rroot, rfl⟩

theorem TreeInv.startTable_ok (hRp : ∀ dec, R false false dec) {st st' : CState} {path : List CKey} {decor : Decor}
    {span : Span} (hroot : T st.root) (hrroot : st.root.fr R) (hcur : T st.current)
    (h : startTable st path decor span = some st') : TInv R T st' := by
  obtain ⟨pp, key, root', _, _, hd, rfl⟩ := startTable_inv h
  have hroot' : T root' ∧ ∀ P, st.root.fr P → root'.fr P := by
    refine hW.descend_ok _ ?_ pp _ false root' hroot hd
    intro u u' hu hfu
    cases hfu
    have hu1 := (hW.tbl _).1 hu
    exact ⟨(hW.setItems _ _).2 ⟨hu1.1, AllKV.cerase hu1.2⟩, fun P => (CTbl.fr_setItems P _ _).2⟩
  have hbase : T ((findTable key.key st.root pp).getD st.current) := by
    cases hf : findTable key.key st.root pp with
    | none => exact hcur
    | some x => exact hW.findTable_ok _ _ _ _ hroot hf
  exact ⟨hroot'.1, hW.plain_ok _ _ _ _ ((hW.tbl _).1 hbase).2, hroot'.2 R hrroot, hRp decor⟩

theorem TreeInv.startArrayTable_ok (hRp : ∀ dec, R false false dec) {st st' : CState} {path : List CKey} {decor : Decor}
    {span : Span} (hroot : T st.root) (hrroot : st.root.fr R) (hcur : T st.current)
    (h : startArrayTable st path decor span = some st') : TInv R T st' := by
  obtain ⟨pp, key, root', _, hd, rfl⟩ := startArrayTable_inv h
  have hroot' : T root' ∧ ∀ P, st.root.fr P → root'.fr P := by
    refine hW.descend_ok _ ?_ pp _ false root' hroot hd
    intro u u' hu hfu
    rcases arrFn_some hfu with ⟨_, _, _, rfl⟩ | ⟨_, rfl⟩
    · exact ⟨hu, fun _ => id⟩
    · have hu1 := (hW.tbl _).1 hu
      exact ⟨(hW.setItems _ _).2 ⟨hu1.1, hu1.2.append (AllKV.single trivial (fun _ hx => by cases hx))⟩,
        fun P => (CTbl.fr_setItems P _ _).2⟩
  exact ⟨hroot'.1, hW.plain_ok _ _ _ _ ((hW.tbl _).1 hcur).2, hroot'.2 R hrroot, hRp decor⟩

theorem TreeInv.onStdHeader_ok (hR : ∀ i d dec, R i d dec → M i d dec) (hRp : ∀ dec, R false false dec)
    {st st' : CState} {path : List CKey} {trailing : Raw} {span : Span}
    (hinv : TInv R T st) (h : onStdHeader st path trailing span = some st') : TInv R T st' := by
  unfold onStdHeader at h
  split at h
  · rename_i st1 hfin
    obtain ⟨hroot, hrroot, hcur⟩ := hW.finalizeTable_ok hR hinv hfin
    simp only [] at h
    refine hW.startTable_ok hRp (st := { st1 with trailing := none }) hroot hrroot ?_ h
    show T st1.current
    rw [hcur]; exact hW.plain_ok _ _ _ _ AllKV.nil
  · cases h

theorem TreeInv.onArrayHeader_ok (hR : ∀ i d dec, R i d dec → M i d dec) (hRp : ∀ dec, R false false dec)
    {st st' : CState} {path : List CKey} {trailing : Raw} {span : Span}
    (hinv : TInv R T st) (h : onArrayHeader st path trailing span = some st') : TInv R T st' := by
  unfold onArrayHeader at h
  split at h
  · rename_i st1 hfin
    obtain ⟨hroot, hrroot, hcur⟩ := hW.finalizeTable_ok hR hinv hfin
    simp only [] at h
    refine hW.startArrayTable_ok hRp (st := { st1 with trailing := none }) hroot hrroot ?_ h
    show T st1.current
    rw [hcur]; exact hW.plain_ok _ _ _ _ AllKV.nil
  · cases h

theorem TreeInv.stepInv (hR : ∀ i d dec, R i d dec → M i d dec) (hRp : ∀ dec, R false false dec)
    (hV : ∀ n fuel d s r v, cvalue n fuel d s = .ok v r → V v) : StepInv (TInv R T) where
  ws := TInv.ws
  keyval hinv hv h := hW.onKeyval_ok hinv (hW.setDecor _ _ (hV _ _ _ _ _ _ hv)) h
  std := hW.onStdHeader_ok hR hRp
  arr := hW.onArrayHeader_ok hR hRp

theorem TreeInv.parseCst_root (hR : ∀ i d dec, R i d dec → M i d dec) (hRp : ∀ dec, R false false dec)
    (hV : ∀ n fuel d s r v, cvalue n fuel d s = .ok v r → V v) {s : Bytes} {d : CDoc}
    (h : parseCst s = some d) : T d.root ∧ d.root.fr R := by
  obtain ⟨st, st1, hst, hfin, e⟩ := parseCst_inv (hW.stepInv hR hRp hV) (hW.init hRp) h
  have := hW.finalizeTable_ok hR hst hfin
  exact e ▸ ⟨this.1, this.2.1⟩

end tree

end TomlVerif.Lemmas.Refine08c
