import TomlVerif.Lemmas.TreeOKOps08
import TomlVerif.Lemmas.Arena08
import TomlVerif.Lemmas.SemSort08
import TomlVerif.Lemmas.Clean08
/-! The two instances of the invariant: `spanPr n` (here) is `EndsIn n (tblSpans ·)` (`DocSpansIn`),
    `cleanPr` (`Clean08.lean`) gives `inlOK` of every value the tree holds (`inlOK_of_clean`). Both are
    families the ops keep. -/
namespace TomlVerif.Lemmas.Refine08c
open TomlVerif TomlVerif.Model TomlVerif.Model.Cst TomlVerif.Model.Edit TomlVerif.Model.Encode
open TomlVerif.Lemmas.Edit08 TomlVerif.Lemmas.Cst03 TomlVerif.Lemmas.Refine08bPrint
open TomlVerif.Lemmas.Refine08bSem TomlVerif.Lemmas.Spans14
open TomlVerif.Lemmas.Tiling03More (items_induct)

/-- every recorded span ends at or before `n` -/
def spanPr (n : Nat) : Pr := ⟨fun r => EndsIn n (rawSp r), fun s => EndsIn n (optSp s), fun _ => True⟩

variable {n : Nat}

theorem DecOK_span (d : Decor) : DecOK (spanPr n) d ↔ EndsIn n (decorSp d) := by
  obtain ⟨pre, suf⟩ := d
  cases pre <;> cases suf <;> simp [DecOK, spanPr, decorSp, optRawSp]

theorem KeyOK_span (k : CKey) : KeyOK (spanPr n) k ↔ EndsIn n (keySpans k) := by
  simp only [KeyOK, DecOK_span, keySpans, endsIn_append, and_assoc]
  -- the two sides now differ only in `(spanPr n).raw r` against `EndsIn n (rawSp r)`: equal by unfolding `spanPr`
  -- (the same for the bare `rfl`s below)
  rfl

theorem VOK_span_all :
    (∀ v : CVal, VOK (spanPr n) v ↔ EndsIn n (valSpans v)) ∧
    (∀ l : List CVal, VsOK (spanPr n) l ↔ EndsIn n (elemsSpans l)) ∧
    (∀ l : List (CKey × CVal), KvsOK (spanPr n) l ↔ EndsIn n (kvsSpans l)) := by
  refine cval_induct ?_ ?_ ?_ ?_ ?_ ?_ ?_
  · intro v r d
    simp only [VOK, valSpans, endsIn_append, DecOK_span]
    exact ⟨fun h => ⟨h.2.1, h.2.2⟩, fun h => ⟨trivial, h.1, h.2⟩⟩
  · intro items t _ d sp ih
    simp only [VOK, valSpans, endsIn_append, DecOK_span, ih, and_assoc]
    rfl
  · intro items p _ _ d sp ih
    simp only [VOK, valSpans, endsIn_append, DecOK_span, ih, and_assoc]
    rfl
  · simp [VsOK, elemsSpans]
  · intro v r hv hr; simp only [VsOK, elemsSpans, endsIn_append, hv, hr]
  · simp [KvsOK, kvsSpans]
  · intro k v r hv _ hr; simp only [KvsOK, kvsSpans, endsIn_append, KeyOK_span, hv, hr]

theorem VOK_span : ∀ v : CVal, VOK (spanPr n) v ↔ EndsIn n (valSpans v) := VOK_span_all.1

theorem VsOK_span : ∀ l : List CVal, VsOK (spanPr n) l ↔ EndsIn n (elemsSpans l) := VOK_span_all.2.1

theorem TOK_span_all :
    (∀ l : List (CKey × CItem), IsOK (spanPr n) l ↔ EndsIn n (itemsSpans l)) ∧
    (∀ t : CTbl, TOK (spanPr n) t ↔ EndsIn n (tblSpans t)) ∧
    (∀ l : List CTbl, TsOK (spanPr n) l ↔ EndsIn n (tblsSpans l)) := by
  refine items_induct ?_ ?_ ?_ ?_ ?_ ?_ ?_
  · simp [IsOK, itemsSpans]
  · intro k v r hr; simp only [IsOK, itemsSpans, endsIn_append, KeyOK_span, VOK_span v, hr]
  · intro k t r ht hr; simp only [IsOK, itemsSpans, endsIn_append, KeyOK_span, ht, hr]
  · intro k ts sp r hts hr
    simp only [IsOK, itemsSpans, endsIn_append, KeyOK_span, hts, hr]
    rfl
  · intro items _ _ _ d sp hi
    simp only [TOK, tblSpans, endsIn_append, DecOK_span, hi, and_assoc]
    rfl
  · simp [TsOK, tblsSpans]
  · intro t r ht hr; simp only [TsOK, tblsSpans, endsIn_append, ht, hr]

theorem TOK_span : ∀ t : CTbl, TOK (spanPr n) t ↔ EndsIn n (tblSpans t) := TOK_span_all.2.1

theorem IsOK_span : ∀ l : List (CKey × CItem), IsOK (spanPr n) l ↔ EndsIn n (itemsSpans l) := TOK_span_all.1

theorem TsOK_span : ∀ l : List CTbl, TsOK (spanPr n) l ↔ EndsIn n (tblsSpans l) := TOK_span_all.2.2

theorem spanPr_le {n m : Nat} (h : n ≤ m) : (spanPr n).Le (spanPr m) :=
  ⟨fun _ hr => endsIn_mono hr h, fun _ hs => endsIn_mono hs h, fun _ _ => trivial⟩

/-- the family of `DocSpansIn`: the bound is the length of the arena -/
theorem spanFam : Fam (fun inp => spanPr inp.length) where
  adm inp := ⟨by simp [spanPr, rawSp], by simp [spanPr, optSp], fun _ => trivial⟩
  le inp x := spanPr_le (by simp)
  mkRaw inp t := by
    show EndsIn (inp ++ t).length (rawSp (mkRaw inp t).2)
    simp only [mkRaw, Raw.withSpan]
    split
    · simp [rawSp]
    · intro sp hs
      simp only [rawSp, List.mem_singleton] at hs
      subst hs
      simp

theorem cleanFam : Fam (fun _ => cleanPr) where
  adm _ := ⟨trivial, trivial, fun v => by cases v <;> rfl⟩
  le _ _ := ⟨fun _ h => h, fun _ h => h, fun _ h => h⟩
  mkRaw _ _ := trivial

theorem inlOK_of_clean_all :
    (∀ v : CVal, VOK cleanPr v → inlOK v = true) ∧ (∀ _ : List CVal, True) ∧
    (∀ l : List (CKey × CVal), KvsOK cleanPr l → inlKvsOK l = true) := by
  refine cval_induct ?_ ?_ ?_ ?_ ?_ ?_ ?_
  · intro v _ _ h; simp only [VOK] at h; simp only [inlOK]; exact h.1
  · intro _ _ _ _ _ _ _; rfl
  · intro items _ _ _ _ _ ih h; simp only [VOK] at h; simp only [inlOK]; exact ih h.1
  · trivial
  · intro _ _ _ _; trivial
  · intro _; rfl
  · intro k v r hv _ hr h
    simp only [KvsOK] at h
    simp only [inlKvsOK, Bool.and_eq_true]
    exact ⟨hv h.1.2, hr h.2⟩

theorem inlOK_of_clean : ∀ v : CVal, VOK cleanPr v → inlOK v = true := inlOK_of_clean_all.1

theorem inlKvsOK_of_clean : ∀ l : List (CKey × CVal), KvsOK cleanPr l → inlKvsOK l = true := inlOK_of_clean_all.2.2

end TomlVerif.Lemmas.Refine08c
