import TomlVerif.Basic
/-! Facts about bytes settled by evaluation.  `forall_byte`: a fact checked on the 256 values holds of every
    `UInt8`.  `strBytes s` is `s.toUTF8.toList`, and `ByteArray.toList` runs a loop defined by well-founded
    recursion, which the kernel evaluates slowly (it unfolds an accessibility proof for every byte);
    `strBytes_eq rfl` rewrites `strBytes "…"` to `['…', …].flatMap String.utf8EncodeChar` (the unifier opens
    the literal), which evaluates by structural recursion. -/
namespace TomlVerif

theorem ne_of_class {p : Byte → Bool} {b c : Byte} (hb : p b = true) (hc : p c = false) : b ≠ c :=
  fun e => by rw [e, hc] at hb; cases hb

theorem forall_byte {p : UInt8 → Prop} (h : ∀ n : Fin 256, p (UInt8.ofNat n.val)) : ∀ b, p b := by
  intro b
  have := h ⟨b.toNat, b.toNat_lt⟩
  simpa using this

theorem ByteArray_toList_loop (bs : ByteArray) (i : Nat) (r : List UInt8) :
    ByteArray.toList.loop bs i r = r.reverse ++ bs.data.toList.drop i := by
  induction h : bs.size - i generalizing i r with
  | zero =>
    rw [ByteArray.toList.loop, if_neg (by omega),
      List.drop_of_length_le (by simpa using (by omega : bs.size ≤ i)), List.append_nil]
  | succ n ih =>
    have hi : i < bs.size := by omega
    rw [ByteArray.toList.loop, if_pos hi, ih _ _ (by omega), List.reverse_cons, List.append_assoc,
      List.drop_eq_getElem_cons (i := i) (by simpa using hi), ByteArray.get!, getElem!_pos bs.data i hi]
    rfl

theorem strBytes_eq {s : String} {l : List Char} (h : s = String.ofList l) :
    strBytes s = l.flatMap String.utf8EncodeChar := by
  subst h
  unfold strBytes ByteArray.toList
  rw [ByteArray_toList_loop]
  exact List.toList_data_toByteArray

theorem strBytes_append (a b : String) : strBytes (a ++ b) = strBytes a ++ strBytes b := by
  unfold strBytes ByteArray.toList
  simp only [ByteArray_toList_loop, List.reverse_nil, List.nil_append, List.drop_zero]
  simp

end TomlVerif
