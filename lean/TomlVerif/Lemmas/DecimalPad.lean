import TomlVerif.Model.Datetime
import TomlVerif.Lemmas.Bytes
/-! Fixed-width decimal numbers: what the printer's `Std.pad` writes (`digitsW`: exactly `w` digits, most significant
    first) is what the readers `digits2` / `digits4` read, with the value of a digit run (`natOfDigits`) and the
    printer's `trimZeros`. -/
namespace TomlVerif.Lemmas.Datetime12
open TomlVerif TomlVerif.Spec TomlVerif.Model.Datetime

def digitByte (d : Nat) : Byte := UInt8.ofNat (48 + d)

theorem digit_inv : ∀ b : Byte, isDigit b = true → digitByte (dval b) = b ∧ dval b ≤ 9 :=
  forall_byte (by decide +kernel)

theorem natOfDigits_foldl (ds : Bytes) : ∀ a : Nat,
    ds.foldl (fun acc b => acc * 10 + dval b) a = a * 10 ^ ds.length + natOfDigits ds := by
  induction ds with
  | nil => intro a; simp [natOfDigits]
  | cons b r ih =>
    intro a
    simp only [List.foldl_cons, natOfDigits, List.length_cons]
    rw [ih (a * 10 + dval b), ih (0 * 10 + dval b)]
    rw [Nat.pow_succ]
    simp [Nat.add_mul, Nat.mul_assoc, Nat.add_assoc, Nat.mul_comm (10 ^ r.length) 10]

theorem natOfDigits_cons (b : Byte) (r : Bytes) :
    natOfDigits (b :: r) = dval b * 10 ^ r.length + natOfDigits r := by
  have := natOfDigits_foldl r (0 * 10 + dval b)
  simpa [natOfDigits] using this

def digitsW : Nat → Nat → Bytes
  | 0, _ => []
  | w + 1, n => digitsW w (n / 10) ++ [digitByte (n % 10)]

theorem digitByte_facts : ∀ d : Fin 10, isDigit (digitByte d.val) = true ∧ dval (digitByte d.val) = d.val ∧
    UInt8.ofNat (Nat.digitChar d.val).toNat = digitByte d.val := by decide

theorem isDigit_digitByte (d : Nat) (h : d < 10) : isDigit (digitByte d) = true := (digitByte_facts ⟨d, h⟩).1

theorem dval_digitByte (d : Nat) (h : d < 10) : dval (digitByte d) = d := (digitByte_facts ⟨d, h⟩).2.1

theorem ofNat_digitChar (d : Nat) (h : d < 10) : UInt8.ofNat (Nat.digitChar d).toNat = digitByte d :=
  (digitByte_facts ⟨d, h⟩).2.2

theorem digitsW_zero (w : Nat) : digitsW w 0 = List.replicate w 0x30 := by
  induction w with
  | zero => rfl
  | succ w ih => simp [digitsW, ih, digitByte, List.replicate_succ']

theorem pad_one (n : Nat) (h : n < 10) : Std.pad 1 n = [digitByte n] := by
  simp [Std.pad, Nat.toDigits_of_lt_base h, ofNat_digitChar n h]

theorem pad_succ (w n : Nat) (hw : 1 ≤ w) :
    Std.pad (w + 1) n = Std.pad w (n / 10) ++ [digitByte (n % 10)] := by
  by_cases h10 : n < 10
  · have e1 : n / 10 = 0 := by omega
    have e2 : n % 10 = n := by omega
    obtain ⟨k, rfl⟩ : ∃ k, w = k + 1 := ⟨w - 1, by omega⟩
    simp [Std.pad, Nat.toDigits_of_lt_base h10, ofNat_digitChar n h10, e1, e2, List.replicate_succ']
  · have hd := Nat.toDigits_of_base_le (b := 10) (n := n) (by decide) (by omega)
    simp only [Std.pad, hd, List.map_append, List.length_append, List.length_map, List.map_cons, List.map_nil,
      List.length_cons, List.length_nil, ofNat_digitChar (n % 10) (Nat.mod_lt _ (by decide))]
    have : w + 1 - ((Nat.toDigits 10 (n / 10)).length + (0 + 1)) = w - (Nat.toDigits 10 (n / 10)).length := by omega
    rw [this, List.append_assoc]

theorem pad_eq_digitsW : ∀ (w n : Nat), 1 ≤ w → n < 10 ^ w → Std.pad w n = digitsW w n := by
  intro w
  induction w with
  | zero => intro n h; omega
  | succ w ih =>
    intro n _ hn
    by_cases hw : w = 0
    · subst hw
      simp at hn
      have e2 : n % 10 = n := by omega
      simp [pad_one n hn, digitsW, e2]
    · rw [pad_succ w n (by omega), ih (n / 10) (by omega)]
      · rfl
      · rw [Nat.pow_succ] at hn
        exact (Nat.div_lt_iff_lt_mul (by decide)).mpr hn

theorem digitsW_length : ∀ (w n : Nat), (digitsW w n).length = w := by
  intro w
  induction w with
  | zero => intro n; rfl
  | succ w ih => intro n; simp [digitsW, ih]

theorem digitsW_all : ∀ (w n : Nat), ∀ b ∈ digitsW w n, isDigit b = true := by
  intro w
  induction w with
  | zero => intro n b hb; simp [digitsW] at hb
  | succ w ih =>
    intro n b hb
    simp [digitsW] at hb
    rcases hb with hb | hb
    · exact ih _ b hb
    · subst hb; exact isDigit_digitByte _ (Nat.mod_lt _ (by decide))

theorem natOfDigits_append_one (ds : Bytes) (b : Byte) : natOfDigits (ds ++ [b]) = natOfDigits ds * 10 + dval b := by
  simp [natOfDigits, List.foldl_append]

theorem natOfDigits_digitsW : ∀ (w n : Nat), natOfDigits (digitsW w n) = n % 10 ^ w := by
  intro w
  induction w with
  | zero => intro n; simp [digitsW, natOfDigits, Nat.mod_one]
  | succ w ih =>
    intro n
    rw [digitsW, natOfDigits_append_one, ih, dval_digitByte _ (Nat.mod_lt _ (by decide)), Nat.pow_succ,
      Nat.mul_comm (10 ^ w) 10, Nat.mod_mul]
    omega

theorem snoc10 (n d : Nat) (hd : d ≤ 9) : (n * 10 + d) / 10 = n ∧ (n * 10 + d) % 10 = d := by omega

theorem two_digits (x y : Nat) (hx : x ≤ 9) (hy : y ≤ 9) :
    x * 10 + y < 100 ∧ (x * 10 + y) / 10 % 10 = x ∧ (x * 10 + y) % 10 = y := by
  obtain ⟨h1, h2⟩ := snoc10 x y hy
  rw [h1, h2]
  exact ⟨by omega, Nat.mod_eq_of_lt (by omega), rfl⟩

theorem four_digits (x y z w : Nat) (hx : x ≤ 9) (hy : y ≤ 9) (hz : z ≤ 9) (hw : w ≤ 9) :
    x * 1000 + y * 100 + z * 10 + w < 10000 ∧ (x * 1000 + y * 100 + z * 10 + w) / 10 / 10 / 10 % 10 = x ∧
    (x * 1000 + y * 100 + z * 10 + w) / 10 / 10 % 10 = y ∧ (x * 1000 + y * 100 + z * 10 + w) / 10 % 10 = z ∧
    (x * 1000 + y * 100 + z * 10 + w) % 10 = w := by
  have hlt : x * 1000 + y * 100 + z * 10 + w < 10000 := by omega
  have e : x * 1000 + y * 100 + z * 10 + w = ((x * 10 + y) * 10 + z) * 10 + w := by omega
  obtain ⟨a1, a2⟩ := snoc10 ((x * 10 + y) * 10 + z) w hw
  obtain ⟨b1, b2⟩ := snoc10 (x * 10 + y) z hz
  obtain ⟨c1, c2⟩ := snoc10 x y hy
  refine ⟨hlt, ?_⟩
  rw [e, a1, a2, b1, b2, c1, c2]
  exact ⟨Nat.mod_eq_of_lt (by omega), rfl, rfl, rfl⟩

theorem pad2_eq (v : Nat) (h : v < 100) : Std.pad 2 v = [digitByte (v / 10 % 10), digitByte (v % 10)] := by
  rw [pad_eq_digitsW 2 v (by omega) (by omega)]; rfl

theorem pad4_eq (v : Nat) (h : v < 10000) : Std.pad 4 v =
    [digitByte (v / 10 / 10 / 10 % 10), digitByte (v / 10 / 10 % 10), digitByte (v / 10 % 10), digitByte (v % 10)] := by
  rw [pad_eq_digitsW 4 v (by omega) (by omega)]; rfl

theorem digits2_iff (s r : Bytes) (v : Nat) : digits2 s = some (v, r) ↔ v < 100 ∧ s = Std.pad 2 v ++ r := by
  constructor
  · intro h
    unfold digits2 at h
    split at h
    · rename_i a b r0
      split at h
      · rename_i hd
        injection h with h; injection h with h1 h2; subst h1 h2
        simp only [Bool.and_eq_true] at hd
        obtain ⟨ea, la⟩ := digit_inv a hd.1
        obtain ⟨eb, lb⟩ := digit_inv b hd.2
        obtain ⟨hv, e1, e2⟩ := two_digits _ _ la lb
        refine ⟨hv, ?_⟩
        rw [pad2_eq _ hv, e1, e2, ea, eb]; rfl
      · cases h
    · cases h
  · rintro ⟨hv, rfl⟩
    have h1 : v / 10 % 10 < 10 := Nat.mod_lt _ (by decide)
    have h2 : v % 10 < 10 := Nat.mod_lt _ (by decide)
    rw [pad2_eq v hv]
    simp only [digits2, List.cons_append, List.nil_append, isDigit_digitByte _ h1, isDigit_digitByte _ h2,
      dval_digitByte _ h1, dval_digitByte _ h2, Bool.and_self, if_true]
    have : v / 10 % 10 * 10 + v % 10 = v := by omega
    rw [this]

theorem digits4_iff (s r : Bytes) (v : Nat) : digits4 s = some (v, r) ↔ v < 10000 ∧ s = Std.pad 4 v ++ r := by
  constructor
  · intro h
    unfold digits4 at h
    split at h
    · rename_i a b c d r0
      split at h
      · rename_i hd
        injection h with h; injection h with h1 h2; subst h1 h2
        simp only [Bool.and_eq_true] at hd
        obtain ⟨ea, la⟩ := digit_inv a hd.1.1.1
        obtain ⟨eb, lb⟩ := digit_inv b hd.1.1.2
        obtain ⟨ec, lc⟩ := digit_inv c hd.1.2
        obtain ⟨ed, ld⟩ := digit_inv d hd.2
        obtain ⟨hv, e1, e2, e3, e4⟩ := four_digits _ _ _ _ la lb lc ld
        refine ⟨hv, ?_⟩
        rw [pad4_eq _ hv, e1, e2, e3, e4, ea, eb, ec, ed]; rfl
      · cases h
    · cases h
  · rintro ⟨hv, rfl⟩
    have h1 : v / 10 / 10 / 10 % 10 < 10 := Nat.mod_lt _ (by decide)
    have h2 : v / 10 / 10 % 10 < 10 := Nat.mod_lt _ (by decide)
    have h3 : v / 10 % 10 < 10 := Nat.mod_lt _ (by decide)
    have h4 : v % 10 < 10 := Nat.mod_lt _ (by decide)
    rw [pad4_eq v hv]
    simp only [digits4, List.nil_append, List.cons_append, isDigit_digitByte _ h1, isDigit_digitByte _ h2,
      isDigit_digitByte _ h3, isDigit_digitByte _ h4, dval_digitByte _ h1, dval_digitByte _ h2,
      dval_digitByte _ h3, dval_digitByte _ h4, Bool.and_self, if_true]
    have : v / 10 / 10 / 10 % 10 * 1000 + v / 10 / 10 % 10 * 100 + v / 10 % 10 * 10 + v % 10 = v := by omega
    rw [this]

theorem trimZeros_split (ds : Bytes) :
    ds = Std.trimZeros ds ++ List.replicate (ds.length - (Std.trimZeros ds).length) 0x30 := by
  have h := List.takeWhile_append_dropWhile (p := (· == (0x30 : UInt8))) (l := ds.reverse)
  have h2 : ds = (ds.reverse.dropWhile (· == 0x30)).reverse ++ (ds.reverse.takeWhile (· == 0x30)).reverse := by
    rw [← List.reverse_append, h, List.reverse_reverse]
  have h3 : (ds.reverse.takeWhile (· == 0x30)).reverse =
      List.replicate (ds.reverse.takeWhile (· == (0x30 : UInt8))).length 0x30 := by
    rw [List.eq_replicate_iff]
    refine ⟨by simp, ?_⟩
    intro b hb
    have hall := List.all_takeWhile (p := (· == (0x30 : UInt8))) (l := ds.reverse)
    rw [List.all_eq_true] at hall
    simpa using hall b (List.mem_reverse.mp hb)
  have hl : ds.length = (Std.trimZeros ds).length + (ds.reverse.takeWhile (· == (0x30 : UInt8))).length := by
    have := congrArg List.length h2
    simpa [Std.trimZeros] using this
  have e : ds.length - (Std.trimZeros ds).length = (ds.reverse.takeWhile (· == (0x30 : UInt8))).length := by omega
  rw [e, ← h3]
  exact h2

theorem trimZeros_mem (ds : Bytes) : ∀ b ∈ Std.trimZeros ds, b ∈ ds := by
  intro b hb
  rw [trimZeros_split ds]
  exact List.mem_append_left _ hb

theorem natOfDigits_zeros (k : Nat) : natOfDigits (List.replicate k 0x30) = 0 := by
  induction k with
  | zero => rfl
  | succ k ih =>
    rw [List.replicate_succ, natOfDigits_cons, ih]
    simp [dval]

theorem natOfDigits_append_zeros (ds : Bytes) (k : Nat) :
    natOfDigits (ds ++ List.replicate k 0x30) = natOfDigits ds * 10 ^ k := by
  have := natOfDigits_foldl (List.replicate k 0x30) (natOfDigits ds)
  rw [natOfDigits_zeros] at this
  simp only [natOfDigits, List.foldl_append] at this ⊢
  simpa using this

end TomlVerif.Lemmas.Datetime12
