import TomlVerif.Lemmas.CstSpans
/-! Byte-level relations in which the C03 normalisations are stated for sources with CR:
    `EolRel o s` (some CR LF pairs of `s` became LF) and `DropCr o s` (some CRs of `s` deleted). -/
namespace TomlVerif.Lemmas.Tiling03Hdr
open TomlVerif TomlVerif.Model TomlVerif.Model.Cst TomlVerif.Model.Encode TomlVerif.Lemmas.Cst03 TomlVerif.Lemmas.Tiling03

inductive EolRel : Bytes → Bytes → Prop
  | nil : EolRel [] []
  | keep (b : UInt8) {o s : Bytes} : EolRel o s → EolRel (b :: o) (b :: s)
  | crlf {o s : Bytes} : EolRel o s → EolRel (0x0A :: o) (0x0D :: 0x0A :: s)

inductive DropCr : Bytes → Bytes → Prop
  | nil : DropCr [] []
  | keep (b : UInt8) {o s : Bytes} : DropCr o s → DropCr (b :: o) (b :: s)
  | drop {o s : Bytes} : DropCr o s → DropCr o (0x0D :: s)

theorem EolRel.refl : ∀ s : Bytes, EolRel s s
  | [] => .nil
  | b :: r => .keep b (EolRel.refl r)

theorem EolRel.append {o1 s1 o2 s2 : Bytes} (h1 : EolRel o1 s1) (h2 : EolRel o2 s2) :
    EolRel (o1 ++ o2) (s1 ++ s2) := by
  induction h1 with
  | nil => simpa using h2
  | keep b _ ih => exact .keep b ih
  | crlf _ ih => exact .crlf ih

theorem EolRel.nil_right {o : Bytes} (h : EolRel o []) : o = [] := by
  cases h; rfl

theorem EolRel.nil_left {s : Bytes} (h : EolRel [] s) : s = [] := by
  cases h; rfl

theorem EolRel.getLast {o s : Bytes} (h : EolRel o s) : o.getLast? = s.getLast? := by
  induction h with
  | nil => rfl
  | @keep b o s h ih =>
    cases o with
    | nil => have := h.nil_left; subst this; rfl
    | cons x o' =>
      cases s with
      | nil => cases h
      | cons y s' => simpa [List.getLast?_cons_cons] using ih
  | @crlf o s h ih =>
    cases o with
    | nil => have := h.nil_left; subst this; rfl
    | cons x o' =>
      cases s with
      | nil => cases h
      | cons y s' => simpa [List.getLast?_cons_cons] using ih

theorem EolRel.toDropCr {o s : Bytes} (h : EolRel o s) : DropCr o s := by
  induction h with
  | nil => exact .nil
  | keep b _ ih => exact .keep b ih
  | crlf _ ih => exact .drop (.keep _ ih)

theorem DropCr.refl : ∀ s : Bytes, DropCr s s
  | [] => .nil
  | b :: r => .keep b (DropCr.refl r)

theorem DropCr.append {o1 s1 o2 s2 : Bytes} (h1 : DropCr o1 s1) (h2 : DropCr o2 s2) :
    DropCr (o1 ++ o2) (s1 ++ s2) := by
  induction h1 with
  | nil => simpa using h2
  | keep b _ ih => exact .keep b ih
  | drop _ ih => exact .drop ih

theorem DropCr.trans {a b c : Bytes} (h1 : DropCr a b) (h2 : DropCr b c) : DropCr a c := by
  induction h2 generalizing a with
  | nil => exact h1
  | keep x _ ih =>
    cases h1 with
    | keep _ h1' => exact .keep x (ih h1')
    | drop h1' => exact .drop (ih h1')
  | drop _ ih => exact .drop (ih h1)

theorem DropCr.stripCr : ∀ t : Bytes, DropCr (stripCr t) t
  | [] => .nil
  | b :: r => by
    by_cases hb : b = 0x0D
    · subst hb
      have : Encode.stripCr (0x0D :: r) = Encode.stripCr r := by simp [Encode.stripCr]
      rw [this]; exact .drop (DropCr.stripCr r)
    · have : Encode.stripCr (b :: r) = b :: Encode.stripCr r := by simp [Encode.stripCr, hb]
      rw [this]; exact .keep b (DropCr.stripCr r)

theorem DropCr.eq_of_noCr {o s : Bytes} (h : DropCr o s) (hcr : ∀ b ∈ s, b ≠ 0x0D) : o = s := by
  induction h with
  | nil => rfl
  | keep b _ ih => rw [ih (fun x hx => hcr x (List.mem_cons_of_mem _ hx))]
  | drop _ _ => exact absurd rfl (hcr 0x0D (by simp))

theorem DropCr.stripCr_eq {o s : Bytes} (h : DropCr o s) : Encode.stripCr o = Encode.stripCr s := by
  induction h with
  | nil => rfl
  | keep b _ ih => simp only [Encode.stripCr, List.filter_cons] at ih ⊢; rw [ih]
  | drop _ ih => rw [ih]; simp [Encode.stripCr]

theorem eolRel_noCr {X s : Bytes} {P : Bytes → Prop}
    (h : ∃ out eol, X = out ++ eol ∧ EolRel out (Doc.stripBom s) ∧ P eol) (hcr : ∀ b ∈ s, b ≠ 0x0D) :
    ∃ eol, X = Doc.stripBom s ++ eol ∧ P eol := by
  obtain ⟨out, eol, h1, h2, h3⟩ := h
  obtain ⟨base, hbase⟩ := stripBom_split s
  have hcr' : ∀ b ∈ Doc.stripBom s, b ≠ 0x0D :=
    fun b hb => hcr b (by rw [hbase]; exact List.mem_append_right _ hb)
  exact ⟨eol, by rw [← h2.toDropCr.eq_of_noCr hcr']; exact h1, h3⟩

theorem DropCr.split : ∀ (p r o : Bytes), DropCr o (p ++ r) → ∃ o1 o2, o = o1 ++ o2 ∧ DropCr o1 p ∧ DropCr o2 r
  | [], r, o, h => ⟨[], o, rfl, .nil, h⟩
  | b :: p, r, o, h => by
    cases h with
    | keep _ h' =>
      obtain ⟨o1, o2, e, h1, h2⟩ := DropCr.split p r _ h'
      exact ⟨b :: o1, o2, by rw [e]; rfl, .keep b h1, h2⟩
    | drop h' =>
      obtain ⟨o1, o2, e, h1, h2⟩ := DropCr.split p r _ h'
      exact ⟨o1, o2, e, .drop h1, h2⟩

theorem DropCr.infix_noCr {o s c : Bytes} (h : DropCr o s) (hc : c <:+: s) (hcr : ∀ b ∈ c, b ≠ 0x0D) : c <:+: o := by
  obtain ⟨p, q, e⟩ := hc
  subst e
  rw [List.append_assoc] at h
  obtain ⟨o1, o2, e1, _, h2⟩ := DropCr.split p (c ++ q) o h
  obtain ⟨o3, o4, e2, h3, _⟩ := DropCr.split c q o2 h2
  have : o3 = c := h3.eq_of_noCr hcr
  subst this
  exact ⟨o1, o4, by rw [e1, e2, List.append_assoc]⟩

end TomlVerif.Lemmas.Tiling03Hdr
