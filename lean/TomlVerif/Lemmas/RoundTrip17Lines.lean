import TomlVerif.Lemmas.RoundTrip17Inline
/-! Round trip of `toml::Value` trees, the printed document as text: the text `renderStmts` prints is the rendering of
    well-formed lines of the grammar (`linesOf`: one line per statement, a blank line before every header but a first
    one) whose statements are the statements printed, so parsing the text is running the definition state machine
    over them (`parseDocument_stmtsF`, by `PrintedDoc.parseDocument_lines`). -/
namespace TomlVerif.Lemmas.RoundTrip17
open TomlVerif TomlVerif.Spec TomlVerif.Model TomlVerif.Model.TomlValue TomlVerif.Model.DeRoutes
open TomlVerif.Model.Value (LIMIT)

def stmtOf : TomlValue.Stmt → State09.Stmt
  | .header p => .std p
  | .aotHeader p => .arr p
  | .kv k v => .kv [] k (valOf v)

def StmtOk : TomlValue.Stmt → Prop
  | .header p => p ≠ [] ∧ p.length < LIMIT
  | .aotHeader p => p ≠ [] ∧ p.length < LIMIT
  | .kv _ v => OkV v ∧ depthTV v < LIMIT

end TomlVerif.Lemmas.RoundTrip17

namespace TomlVerif.Lemmas.Ser07TextF
open TomlVerif TomlVerif.Spec TomlVerif.Model TomlVerif.Model.TomlValue TomlVerif.Model.DeRoutes
open TomlVerif.Model.Value (LIMIT)
open TomlVerif.Model.State TomlVerif.Model.Doc
open TomlVerif.Spec.AstValue TomlVerif.Spec.AstValueQ TomlVerif.Spec.AstDoc TomlVerif.Spec.AstDocQ
open TomlVerif.Lemmas.State09 TomlVerif.Lemmas.PrintedDoc TomlVerif.Lemmas.RoundTrip17

def StmtOkF (fl : FloatText) : TomlValue.Stmt → Prop
  | .header p => p ≠ [] ∧ p.length < LIMIT
  | .aotHeader p => p ≠ [] ∧ p.length < LIMIT
  | .kv _ v => OkF fl v ∧ depthTV v < LIMIT

def lineOf (fl : FloatText) (p : Bool) : TomlValue.Stmt → QLine
  | .kv k v => kvLineQ k (qOfF fl p v)
  | .header path => hdrLineQ false path
  | .aotHeader path => hdrLineQ true path

def linesOf (fl : FloatText) (p : Bool) : Bool → List TomlValue.Stmt → List (QLine × Bool)
  | _, [] => []
  | first, s :: r =>
    if s.isKv then (lineOf fl p s, false) :: linesOf fl p first r
    else (if first then [] else [(QLine.blank [], false)]) ++ (lineOf fl p s, false) :: linesOf fl p false r

theorem renderPath_eq (path : List Bytes) (hne : path ≠ []) : renderPath path = (pathKey path).render := by
  cases path with
  | nil => exact absurd rfl hne
  | cons k0 ks =>
    rw [pathKey_render, renderPath]
    clear hne
    induction ks generalizing k0 with
    | nil => simp [joinWith, renderKey]
    | cons k1 r ih =>
      have e : joinWith [0x2E] ((k0 :: k1 :: r).map renderKey) =
          renderKey k0 ++ [0x2E] ++ joinWith [0x2E] ((k1 :: r).map renderKey) := rfl
      rw [e, ih k1]
      simp [renderKey]

/-- the third conjunct is the one-step equation of `renderStmts`, written uniformly in `s.isKv` so that `linesOf_spec`
    splits on `isKv` and `first` only -/
theorem lineOf_spec (fl : FloatText) (p : Bool) (s : TomlValue.Stmt) (h : StmtOkF fl s) :
    (lineOf fl p s).WF ∧ (lineOf fl p s).stmt = some (stmtOf s) ∧
      ∀ first r, renderStmts fl p first (s :: r) =
        (if s.isKv || first then [] else [0x0A]) ++ (lineOf fl p s).render ++ 0x0A ::
          renderStmts fl p (if s.isKv then first else false) r := by
  cases s with
  | kv k v =>
    refine ⟨kvLineQ_wf k _ (wfF_qOf fl p v h.1) (by rw [depthF_qOf]; exact h.2), ?_, fun first r => ?_⟩
    · rw [lineOf, kvLineQ_stmt, semF_qOf fl p v h.1]; rfl
    · simp [lineOf, kvLineQ_render, renderStmts, renderF_qOf, sp, renderKey, TomlValue.Stmt.isKv]
  | header path =>
    refine ⟨hdrLineQ_wf false path h.1 h.2, hdrLineQ_stmt false path h.1, fun first r => ?_⟩
    cases first <;> simp [lineOf, hdrLineQ_render, renderStmts, renderPath_eq path h.1, TomlValue.Stmt.isKv]
  | aotHeader path =>
    refine ⟨hdrLineQ_wf true path h.1 h.2, hdrLineQ_stmt true path h.1, fun first r => ?_⟩
    cases first <;> simp [lineOf, hdrLineQ_render, renderStmts, renderPath_eq path h.1, TomlValue.Stmt.isKv]

theorem linesOf_spec (fl : FloatText) (p : Bool) : ∀ (stmts : List TomlValue.Stmt) (first : Bool),
    (∀ s ∈ stmts, StmtOkF fl s) →
    (∀ l ∈ linesOf fl p first stmts, l.1.WF) ∧ stmtsLinesQ (linesOf fl p first stmts) = stmts.map stmtOf ∧
      renderLinesQ (linesOf fl p first stmts) = renderStmts fl p first stmts := by
  intro stmts
  induction stmts with
  | nil => intro first _; simp [linesOf, stmtsLinesQ, renderLinesQ, renderStmts]
  | cons s r ih =>
    intro first h
    obtain ⟨hwf, hst, hre⟩ := lineOf_spec fl p s (h s (by simp))
    have hr : ∀ x ∈ r, StmtOkF fl x := fun x hx => h x (by simp [hx])
    rw [hre first r, linesOf]
    cases hk : s.isKv with
    | true =>
      obtain ⟨i1, i2, i3⟩ := ih first hr
      refine ⟨?_, by simp [stmtsLinesQ, hst, i2], by simp [renderLinesQ, nlBytes, i3]⟩
      intro l hl
      simp only [if_true, List.mem_cons] at hl
      rcases hl with rfl | hl
      · exact hwf
      · exact i1 l hl
    | false =>
      obtain ⟨i1, i2, i3⟩ := ih false hr
      refine ⟨?_, ?_, ?_⟩
      · intro l hl
        simp only [Bool.false_eq_true, if_false, List.mem_append, List.mem_cons] at hl
        rcases hl with hl | rfl | hl
        · cases first <;> simp at hl
          subst hl; exact AllWs.nil
        · exact hwf
        · exact i1 l hl
      · cases first <;> simp [stmtsLinesQ, hst, i2]
        simp [QLine.stmt]
      · cases first <;> simp [renderLinesQ, nlBytes, i3, QLine.render]

theorem parseDocument_stmtsF (fl : FloatText) (p first : Bool) (stmts : List TomlValue.Stmt)
    (h : ∀ s ∈ stmts, StmtOkF fl s) :
    parseDocument (renderStmts fl p first stmts) = (run {} (stmts.map stmtOf)).bind intoDocument := by
  obtain ⟨hwf, hst, hre⟩ := linesOf_spec fl p stmts first h
  rw [← hre, ← hst]
  exact parseDocument_lines _ hwf

end TomlVerif.Lemmas.Ser07TextF

namespace TomlVerif.Lemmas.RoundTrip17
open TomlVerif TomlVerif.Spec TomlVerif.Model TomlVerif.Model.TomlValue TomlVerif.Model.DeRoutes
open TomlVerif.Model.State TomlVerif.Model.Doc
open TomlVerif.Lemmas.State09 TomlVerif.Lemmas.Ser07TextF

theorem stmtOk_okF (fl : FloatText) : ∀ s : TomlValue.Stmt, StmtOk s → StmtOkF fl s
  | .header _, h | .aotHeader _, h => h
  | .kv _ v, h => ⟨okV_okF fl v h.1, h.2⟩

end TomlVerif.Lemmas.RoundTrip17
