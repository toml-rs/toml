import TomlVerif.Lemmas.StmtBlocks
import TomlVerif.Spec.Encode06
/-! The definition state machine on a document printed section by section. A printer that walks a tree depth first
    emits, for a table, its header (unless it hides it: a non-empty table without values of its own), its own key/value
    statements, then the sections of its sub-tables and arrays of tables; for an array of tables one `[[header]]`
    section per element. `Subs / Entry / Elems` say which statement lists such a printer can produce and which entries
    (flags and positions erased) each stands for; `run_sections`: the state machine accepts such a list and builds those
    entries. A particular printer only shows that its output is in the relation, an induction over its tree that never
    mentions the state machine. -/
namespace TomlVerif.Lemmas.Encode06d
open TomlVerif TomlVerif.Model TomlVerif.Spec.Encode06

theorem eraseItems_append (a b : List (Bytes × Item)) : eraseItems (a ++ b) = eraseItems a ++ eraseItems b := by
  induction a with
  | nil => rfl
  | cons x r ih => obtain ⟨k, i⟩ := x; simp [eraseItems, ih]

theorem eraseTbls_append (a b : List Tbl) : eraseTbls (a ++ b) = eraseTbls a ++ eraseTbls b := by
  induction a with
  | nil => rfl
  | cons x r ih => simp [eraseTbls, ih]

end TomlVerif.Lemmas.Encode06d

namespace TomlVerif.Lemmas.Sections
open TomlVerif TomlVerif.Spec TomlVerif.Model TomlVerif.Model.State TomlVerif.Spec.Encode06
open TomlVerif.Lemmas.State09 TomlVerif.Lemmas.Encode06d TomlVerif.Lemmas.RoundTrip17 TomlVerif.Lemmas.StmtBlocks

theorem filter_keys_split {α : Type} (p : Bytes × α → Bool) (l : List (Bytes × α)) (hn : (l.map Prod.fst).Nodup) :
    ((l.filter fun e => !p e).map Prod.fst).Nodup ∧ ((l.filter p).map Prod.fst).Nodup ∧
      ∀ k ∈ (l.filter fun e => !p e).map Prod.fst, k ∉ (l.filter p).map Prod.fst := by
  refine ⟨hn.sublist (List.filter_sublist.map _), hn.sublist (List.filter_sublist.map _), ?_⟩
  induction l with
  | nil => simp
  | cons x r ih =>
    rw [List.map_cons, List.nodup_cons] at hn
    have sub : ∀ (q : Bytes × α → Bool) k, k ∈ (r.filter q).map Prod.fst → k ∈ r.map Prod.fst :=
      fun q k hk => (List.filter_sublist.map _).subset hk
    intro k h1 h2
    cases hx : p x <;> simp only [List.filter_cons, hx, Bool.not_false, Bool.not_true, if_true, Bool.false_eq_true,
      if_false, List.map_cons, List.mem_cons] at h1 h2
    · rcases h1 with rfl | h1
      · exact hn.1 (sub _ _ h2)
      · exact ih hn.2 k h1 h2
    · rcases h2 with rfl | h2
      · exact hn.1 (sub _ _ h1)
      · exact ih hn.2 k h1 h2

def valIts (vals : List (Bytes × Val)) : List (Bytes × Item) := eraseItems (valItemsV vals)

def tblE (its : List (Bytes × Item)) : Tbl := .mk its false false none

def Sect (vals : List (Bytes × Val)) (its : List (Bytes × Item)) : Prop :=
  (vals.map Prod.fst).Nodup ∧ ∀ k ∈ its.map Prod.fst, k ∉ vals.map Prod.fst

mutual
inductive Subs : List Bytes → List Stmt → List (Bytes × Item) → Prop
  | nil (P : List Bytes) : Subs P [] []
  | cons {P : List Bytes} {k : Bytes} {ss ss' : List Stmt} {i : Item} {its : List (Bytes × Item)} :
      Entry (P ++ [k]) ss i → Subs P ss' its → k ∉ its.map Prod.fst → Subs P (ss ++ ss') ((k, i) :: its)
inductive Entry : List Bytes → List Stmt → Item → Prop
  | table {path : List Bytes} {vals : List (Bytes × Val)} {ss : List Stmt} {its : List (Bytes × Item)} :
      Sect vals its → Subs path ss its → Entry path (.std path :: kvRun vals ++ ss) (.table (tblE (valIts vals ++ its)))
  | hidden {path : List Bytes} {ss : List Stmt} {its : List (Bytes × Item)} :
      its ≠ [] → Subs path ss its → Entry path ss (.table (tblE its))
  | aot {path : List Bytes} {ss : List Stmt} {ts : List Tbl} : ts ≠ [] → Elems path ss ts → Entry path ss (.aot ts)
inductive Elems : List Bytes → List Stmt → List Tbl → Prop
  | nil (path : List Bytes) : Elems path [] []
  | cons {path : List Bytes} {vals : List (Bytes × Val)} {ss ss' : List Stmt} {its : List (Bytes × Item)} {ts : List Tbl} :
      Sect vals its → Subs path ss its → Elems path ss' ts →
      Elems path (.arr path :: kvRun vals ++ ss ++ ss') (tblE (valIts vals ++ its) :: ts)
end

/-! An entry may be the first mention of the tables `R` above it (hidden headers), so it is followed from the last
    table `A` that exists. -/

/-- sections below a table that exists (its own values are there already) append their entries to it -/
def SubsClaim (P : List Bytes) (ss : List Stmt) (its : List (Bytes × Item)) : Prop :=
  ∀ st V W, intoDocument st = some V → lookupTbl V P = some W → (∀ k ∈ its.map Prod.fst, k ∉ W.items.map Prod.fst) →
    ∃ st' its', run st ss = some st' ∧ intoDocument st' = descend V P false (appendF its') ∧ eraseItems its' = its

/-- sections below a table whose header was hidden and that does not exist yet: the first of them creates it as an
    implicit table -/
def SubsHClaim (path : List Bytes) (ss : List Stmt) (its : List (Bytes × Item)) : Prop :=
  its ≠ [] → ∀ st V U A R key, path = A ++ R ++ [key] → intoDocument st = some V → lookupTbl V A = some U →
    alookup (headKey R key) U.items = none →
    ∃ st' its', run st ss = some st' ∧
      intoDocument st' = descend V A false (appendF [nest R key (.table (.mk its' true false none))]) ∧
      eraseItems its' = its

/-- one entry, below tables `R` that may not exist yet -/
def EntryClaim (path : List Bytes) (ss : List Stmt) (i : Item) : Prop :=
  ∀ st V U A R key, path = A ++ R ++ [key] → intoDocument st = some V → lookupTbl V A = some U →
    alookup (headKey R key) U.items = none →
    ∃ st' I, run st ss = some st' ∧ intoDocument st' = descend V A false (appendF [nest R key I]) ∧ eraseItem I = i

/-- further elements of an array of tables that exists -/
def ElemsClaim (path : List Bytes) (ss : List Stmt) (ts : List Tbl) : Prop :=
  ∀ st V W P key pre, path = P ++ [key] → intoDocument st = some V → lookupTbl V P = some W →
    alookup key W.items = some (.aot pre) →
    ∃ st' ts', run st ss = some st' ∧ intoDocument st' = descend V P false (setF key (.aot (pre ++ ts'))) ∧
      eraseTbls ts' = ts

/-- all elements of an array of tables that does not exist yet: the first creates it -/
def ElemsFirstClaim (path : List Bytes) (ss : List Stmt) (ts : List Tbl) : Prop :=
  ts ≠ [] → ∀ st V U A R key, path = A ++ R ++ [key] → intoDocument st = some V → lookupTbl V A = some U →
    alookup (headKey R key) U.items = none →
    ∃ st' ts', run st ss = some st' ∧ intoDocument st' = descend V A false (appendF [nest R key (.aot ts')]) ∧
      eraseTbls ts' = ts

/-- how the last step of a header path goes through an entry: a table, or the last element of an array of tables -/
structure Through (wrap : Tbl → Item) : Prop where
  desc : ∀ (W T : Tbl) (key : Bytes) (h : Tbl → Option Tbl), alookup key W.items = some (wrap T) →
    descend W [key] false h = (h T).map (fun T' => W.setItems (aset key (wrap T') W.items))
  look : ∀ (W T : Tbl) (key : Bytes), alookup key W.items = some (wrap T) → lookupTbl W [key] = some T

theorem through_table : Through Item.table where
  desc W T key h ha := by
    rw [descend_cons_table W T key [] false h (by simp [ha]) rfl]
    rfl
  look W T key ha := by simp [lookupTbl, ha]

theorem through_aot (init : List Tbl) : Through (fun T => Item.aot (init ++ [T])) where
  desc W T key h ha := by
    rw [descend_cons_aot W T init key [] false h ha rfl]
    rfl
  look W T key ha := by simp [lookupTbl, ha]

theorem subs_under (wrap : Tbl → Item) (hw : Through wrap) {ss : List Stmt} {its : List (Bytes × Item)}
    (st1 : ParseState) (V U T0 : Tbl) (A R : List Bytes) (key : Bytes) (hs : SubsClaim (A ++ R ++ [key]) ss its)
    (hU : lookupTbl V A = some U) (hk : alookup (headKey R key) U.items = none)
    (hdoc1 : intoDocument st1 = descend V A false (appendF [nest R key (wrap T0)]))
    (hkeys : ∀ k ∈ its.map Prod.fst, k ∉ T0.items.map Prod.fst) :
    ∃ st2 its', run st1 ss = some st2 ∧
      intoDocument st2 = descend V A false (appendF [nest R key (wrap (T0.setItems (T0.items ++ its')))]) ∧
      eraseItems its' = its := by
  obtain ⟨V1, hV1, hl1⟩ := descend_some V U _ A (appendF [nest R key (wrap T0)]) hU rfl
  obtain ⟨hlu, hau⟩ := lookup_nest R key (wrap T0) U hk
  have hlook : lookupTbl V1 (A ++ R ++ [key]) = some T0 := by
    rw [lookupTbl_append, lookupTbl_append, hl1]
    simp only [Option.bind, hlu]
    exact hw.look _ T0 key hau
  obtain ⟨st2, its', hrun2, hdoc2, he⟩ := hs st1 V1 T0 (hdoc1.trans hV1) hlook hkeys
  refine ⟨st2, its', hrun2, ?_, he⟩
  rw [hdoc2, descend_append_false]
  exact descend_under V V1 U A R key (wrap T0) _ _ hU hk hV1 (by rw [hw.desc _ T0 key _ hau]; rfl)

theorem entry_table {path : List Bytes} {vals : List (Bytes × Val)} {ss : List Stmt} {its : List (Bytes × Item)}
    (hsect : Sect vals its) (hs : SubsClaim path ss its) :
    EntryClaim path (.std path :: kvRun vals ++ ss) (.table (tblE (valIts vals ++ its))) := by
  intro st V U A R key hp hV hU hk
  subst hp
  obtain ⟨st1, n, hrun1, hdoc1⟩ := std_block_free st V U A R key vals hV hU hk hsect.1
  obtain ⟨st2, its', hrun2, hdoc2, he⟩ := subs_under Item.table through_table st1 V U
    (.mk (valItemsV vals) false false (some n)) A R key hs hU hk hdoc1
    (by intro k hkm; simpa [Tbl.items, valItemsV_keys] using hsect.2 k hkm)
  refine ⟨st2, _, ?_, hdoc2, ?_⟩
  · show run st ((Stmt.std (A ++ R ++ [key]) :: kvRun vals) ++ ss) = _
    rw [run_append, hrun1]
    exact hrun2
  · simp [eraseItem, eraseTbl, tblE, valIts, Tbl.setItems, Tbl.items, eraseItems_append, he]

theorem entry_hidden {path : List Bytes} {ss : List Stmt} {its : List (Bytes × Item)} (hne : its ≠ [])
    (hs : SubsHClaim path ss its) : EntryClaim path ss (.table (tblE its)) := by
  intro st V U A R key hp hV hU hk
  obtain ⟨st', its', hrun, hdoc, he⟩ := hs hne st V U A R key hp hV hU hk
  exact ⟨st', _, hrun, hdoc, by simp [eraseItem, eraseTbl, tblE, he]⟩

theorem subs_nil (P : List Bytes) : SubsClaim P [] [] := by
  intro st V W hV hW _
  refine ⟨st, [], rfl, ?_, rfl⟩
  rw [hV, descend_id V W P _ hW (by simp [appendF, setItems_self])]

theorem subs_cons {P : List Bytes} {k : Bytes} {ss ss' : List Stmt} {i : Item} {its : List (Bytes × Item)}
    (hi : EntryClaim (P ++ [k]) ss i) (hr : SubsClaim P ss' its) (hk : k ∉ its.map Prod.fst) :
    SubsClaim P (ss ++ ss') ((k, i) :: its) := by
  intro st V W hV hW hkeys
  have hkW : alookup k W.items = none := (alookup_none_iff _ _).2 (hkeys k (by simp))
  obtain ⟨st1, I, hrun1, hdoc1, he1⟩ := hi st V W P [] k (by simp) hV hW hkW
  simp only [nest] at hdoc1
  obtain ⟨V1, hV1, hl1⟩ := descend_some V W _ P (appendF [(k, I)]) hW rfl
  obtain ⟨st2, its', hrun2, hdoc2, he2⟩ := hr st1 V1 _ (hdoc1.trans hV1) hl1
    (by intro a ha hm
        simp only [items_setItems, List.map_append, List.map_cons, List.map_nil, List.mem_append,
          List.mem_singleton] at hm
        rcases hm with hm | hm
        · exact hkeys a (by simp [ha]) hm
        · subst hm; exact hk ha)
  refine ⟨st2, (k, I) :: its', ?_, ?_, ?_⟩
  · rw [run_append, hrun1]; exact hrun2
  · rw [hdoc2]
    refine descend_then V V1 W P _ _ _ hV1 hW ?_
    simp [appendF, setItems_setItems]
  · simp [eraseItems, he1, he2]

/-- the first entry of a hidden table creates it; the others find it there -/
theorem subsH_cons {path : List Bytes} {k : Bytes} {ss ss' : List Stmt} {i : Item} {its : List (Bytes × Item)}
    (hi : EntryClaim (path ++ [k]) ss i) (hr : SubsClaim path ss' its) (hk : k ∉ its.map Prod.fst) :
    SubsHClaim path (ss ++ ss') ((k, i) :: its) := by
  intro _ st V U A R key hp hV hU hk0
  subst hp
  have hk' : alookup (headKey (R ++ [key]) k) U.items = none := by rw [headKey_append]; exact hk0
  obtain ⟨st1, I, hrun1, hdoc1, he1⟩ := hi st V U A (R ++ [key]) k (by simp) hV hU hk'
  rw [nest_append] at hdoc1
  obtain ⟨st2, its', hrun2, hdoc2, he2⟩ := subs_under Item.table through_table st1 V U
    (.mk [(k, I)] true false none) A R key hr hU hk0 hdoc1
    (by intro a ha hm
        simp only [Tbl.items, List.map_cons, List.map_nil, List.mem_singleton] at hm
        subst hm; exact hk ha)
  refine ⟨st2, (k, I) :: its', ?_, ?_, ?_⟩
  · rw [run_append, hrun1]; exact hrun2
  · rw [hdoc2]; rfl
  · simp [eraseItems, he1, he2]

theorem elems_nil (path : List Bytes) : ElemsClaim path [] [] := by
  intro st V W P key pre _ hV hW hk
  refine ⟨st, [], rfl, ?_, rfl⟩
  rw [hV, descend_id V W P _ hW (by simp [setF, aset_self _ _ _ hk, setItems_self])]

theorem elems_cons {path : List Bytes} {vals : List (Bytes × Val)} {ss ss' : List Stmt} {its : List (Bytes × Item)}
    {ts : List Tbl} (hsect : Sect vals its) (hs : SubsClaim path ss its) (hr : ElemsClaim path ss' ts) :
    ElemsClaim path (.arr path :: kvRun vals ++ ss ++ ss') (tblE (valIts vals ++ its) :: ts) := by
  intro st V W P key pre hp hV hW hk
  subst hp
  obtain ⟨st1, n, hrun1, hdoc1⟩ := arr_block_more st V W P key vals pre hV hW hk hsect.1
  obtain ⟨V1, hV1, hl1⟩ := descend_some V W _ P
    (setF key (.aot (pre ++ [.mk (valItemsV vals) false false (some n)]))) hW rfl
  have ha1 : alookup key (W.setItems (aset key (.aot (pre ++ [.mk (valItemsV vals) false false (some n)])) W.items)).items
      = some (.aot (pre ++ [.mk (valItemsV vals) false false (some n)])) := by
    simp [alookup_aset_same]
  have hlook : lookupTbl V1 (P ++ [key]) = some (.mk (valItemsV vals) false false (some n)) := by
    rw [lookupTbl_append, hl1]
    exact (through_aot pre).look _ _ key ha1
  obtain ⟨st2, its', hrun2, hdoc2, he2⟩ := hs st1 V1 _ (hdoc1.trans hV1) hlook
    (by intro k hkm; simpa [Tbl.items, valItemsV_keys] using hsect.2 k hkm)
  have hdoc2' : intoDocument st2 = descend V P false
      (setF key (.aot (pre ++ [.mk (valItemsV vals ++ its') false false (some n)]))) := by
    rw [hdoc2, descend_append_false]
    refine descend_then V V1 W P _ _ _ hV1 hW ?_
    simp only [setF, Option.bind]
    rw [(through_aot pre).desc _ _ key _ ha1]
    simp [appendF, aset_aset, Tbl.setItems, Tbl.items, Tbl.implicit, Tbl.dotted, Tbl.pos]
  obtain ⟨V2, hV2, hl2⟩ := descend_some V W _ P
    (setF key (.aot (pre ++ [.mk (valItemsV vals ++ its') false false (some n)]))) hW rfl
  obtain ⟨st3, ts', hrun3, hdoc3, he3⟩ := hr st2 V2 _ P key
    (pre ++ [.mk (valItemsV vals ++ its') false false (some n)]) rfl (hdoc2'.trans hV2) hl2
    (by simp [alookup_aset_same])
  refine ⟨st3, .mk (valItemsV vals ++ its') false false (some n) :: ts', ?_, ?_, ?_⟩
  · show run st ((Stmt.arr (P ++ [key]) :: kvRun vals) ++ ss ++ ss') = _
    rw [run_append, run_append, hrun1]
    simp only [Option.bind, hrun2]
    exact hrun3
  · rw [hdoc3]
    refine descend_then V V2 W P _ _ _ hV2 hW ?_
    simp [setF, aset_aset, setItems_setItems]
  · simp [eraseTbls, eraseTbl, tblE, valIts, eraseItems_append, he2, he3]

theorem elemsFirst_cons {path : List Bytes} {vals : List (Bytes × Val)} {ss ss' : List Stmt}
    {its : List (Bytes × Item)} {ts : List Tbl} (hsect : Sect vals its) (hs : SubsClaim path ss its)
    (hr : ElemsClaim path ss' ts) :
    ElemsFirstClaim path (.arr path :: kvRun vals ++ ss ++ ss') (tblE (valIts vals ++ its) :: ts) := by
  intro _ st V U A R key hp hV hU hk
  subst hp
  obtain ⟨st1, n, hrun1, hdoc1⟩ := arr_block_free st V U A R key vals hV hU hk hsect.1
  obtain ⟨st2, its', hrun2, hdoc2, he2⟩ := subs_under (fun T => Item.aot ([] ++ [T])) (through_aot []) st1 V U
    (.mk (valItemsV vals) false false (some n)) A R key hs hU hk hdoc1
    (by intro k hkm; simpa [Tbl.items, valItemsV_keys] using hsect.2 k hkm)
  simp only [List.nil_append] at hdoc2
  -- the remaining elements, below the (now existing) table at `A ++ R`
  obtain ⟨V2, hV2, hl2⟩ := descend_some V U _ A
    (appendF [nest R key (.aot [.mk (valItemsV vals ++ its') false false (some n)])]) hU rfl
  obtain ⟨hlu, hau⟩ := lookup_nest R key (.aot [.mk (valItemsV vals ++ its') false false (some n)]) U hk
  have hlook : lookupTbl V2 (A ++ R) =
      some (under R key (.aot [.mk (valItemsV vals ++ its') false false (some n)]) U) := by
    rw [lookupTbl_append, hl2]; exact hlu
  obtain ⟨st3, ts', hrun3, hdoc3, he3⟩ := hr st2 V2 _ (A ++ R) key _ rfl (hdoc2.trans hV2) hlook hau
  refine ⟨st3, .mk (valItemsV vals ++ its') false false (some n) :: ts', ?_, ?_, ?_⟩
  · show run st ((Stmt.arr (A ++ R ++ [key]) :: kvRun vals) ++ ss ++ ss') = _
    rw [run_append, run_append, hrun1]
    simp only [Option.bind, hrun2]
    exact hrun3
  · rw [hdoc3]
    exact descend_under V V2 U A R key _ _ _ hU hk hV2 rfl
  · simp [eraseTbls, eraseTbl, tblE, valIts, eraseItems_append, he2, he3]

theorem entry_aot {path : List Bytes} {ss : List Stmt} {ts : List Tbl} (hne : ts ≠ [])
    (hs : ElemsFirstClaim path ss ts) : EntryClaim path ss (.aot ts) := by
  intro st V U A R key hp hV hU hk
  obtain ⟨st', ts', hrun, hdoc, he⟩ := hs hne st V U A R key hp hV hU hk
  exact ⟨st', _, hrun, hdoc, by simp [eraseItem, he]⟩

mutual
theorem subs_claim : ∀ {P : List Bytes} {ss : List Stmt} {its : List (Bytes × Item)}, Subs P ss its →
    SubsClaim P ss its ∧ SubsHClaim P ss its
  | _, _, _, .nil P => ⟨subs_nil P, fun h => absurd rfl h⟩
  | _, _, _, .cons he hs hk =>
    ⟨subs_cons (entry_claim he) (subs_claim hs).1 hk, subsH_cons (entry_claim he) (subs_claim hs).1 hk⟩
theorem entry_claim : ∀ {path : List Bytes} {ss : List Stmt} {i : Item}, Entry path ss i → EntryClaim path ss i
  | _, _, _, .table hsect hs => entry_table hsect (subs_claim hs).1
  | _, _, _, .hidden hne hs => entry_hidden hne (subs_claim hs).2
  | _, _, _, .aot hne hs => entry_aot hne (elems_claim hs).2
theorem elems_claim : ∀ {path : List Bytes} {ss : List Stmt} {ts : List Tbl}, Elems path ss ts →
    ElemsClaim path ss ts ∧ ElemsFirstClaim path ss ts
  | _, _, _, .nil path => ⟨elems_nil path, fun h => absurd rfl h⟩
  | _, _, _, .cons hsect hs hr =>
    ⟨elems_cons hsect (subs_claim hs).1 (elems_claim hr).1, elemsFirst_cons hsect (subs_claim hs).1 (elems_claim hr).1⟩
end

theorem run_sections (vals : List (Bytes × Val)) (ss : List Stmt) (its : List (Bytes × Item)) (hs : Sect vals its)
    (h : Subs [] ss its) :
    ∃ T, (run {} (kvRun vals ++ ss)).bind intoDocument = some T ∧ eraseTbl T = tblE (valIts vals ++ its) := by
  rw [run_append, run_kvRun vals {} rfl hs.1 (by simp [Tbl.items, Tbl.empty])]
  simp only [Option.bind]
  have hV0 := intoDocument_root
    { ({} : ParseState) with current := ({} : ParseState).current.setItems (({} : ParseState).current.items ++ valItemsV vals) }
    rfl rfl
  obtain ⟨st', its', hrun, hdoc, he⟩ := (subs_claim h).1 _ _ _ hV0 rfl
    (by intro k hk; simpa [Tbl.items, Tbl.empty, Tbl.setItems, valItemsV_keys] using hs.2 k hk)
  rw [hrun]
  simp only [hdoc, descend, appendF]
  exact ⟨_, rfl, by simp [eraseTbl, tblE, valIts, Tbl.setItems, Tbl.items, Tbl.empty, eraseItems_append, he]⟩

end TomlVerif.Lemmas.Sections
