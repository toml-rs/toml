import TomlVerif.Model.Cst
import TomlVerif.Lemmas.Consumed
import TomlVerif.Lemmas.State09
import TomlVerif.Lemmas.CstLookup
/-! The erasure of the format-preserving tree, at the bottom: keys, key paths, association lists
    and `splitLast`.  Every function of the format-preserving parser is its semantic twin under
    the erasure, as an equation (`(cf x).map erase = f (erase x)`: the same results AND the same
    failures); so a successful run is a run of the semantic parser on the same text
    and what it consumed is read off there (`ckeyPath_adv`).  The file also holds `vsplitLast_*` and
    `last_entry_of`, facts on `splitLast` with no erasure in them. -/
namespace TomlVerif.Lemmas.Tiling03More
open TomlVerif TomlVerif.Spec TomlVerif.Model TomlVerif.Model.Strings TomlVerif.Model.Value
open TomlVerif.Model.Cst

def keysOf (l : List CKey) : List Bytes := l.map (·.key)

@[simp] theorem keysOf_nil : keysOf [] = [] := rfl
@[simp] theorem keysOf_cons (k : CKey) (l : List CKey) : keysOf (k :: l) = k.key :: keysOf l := rfl
@[simp] theorem keysOf_append (a b : List CKey) : keysOf (a ++ b) = keysOf a ++ keysOf b := by
  simp [keysOf]
@[simp] theorem keysOf_length (a : List CKey) : (keysOf a).length = a.length := by simp [keysOf]
theorem keysOf_isEmpty (a : List CKey) : (keysOf a).isEmpty = a.isEmpty := by cases a <;> rfl

theorem map_ok {α β} (f : α → β) (v : α) (r : Bytes) : (Res.ok v r).map f = .ok (f v) r := rfl
theorem map_bt {α β} (f : α → β) : (Res.bt : Res α).map f = .bt := rfl
theorem map_cut {α β} (f : α → β) : (Res.cut : Res α).map f = .cut := rfl

theorem ckeyPathAux_erase (n : Nat) : ∀ (fuel : Nat) (s : Bytes) (acc : List CKey),
    (ckeyPathAux n fuel s acc).map keysOf = keyPathAux fuel s (keysOf acc) := by
  intro fuel
  induction fuel with
  | zero => intro s acc; rfl
  | succ fuel ih =>
    intro s acc
    unfold ckeyPathAux keyPathAux
    simp only []
    cases hk : Key.simpleKey (dropWs s) with
    | bt => rfl
    | cut => rfl
    | ok k r =>
      simp only []
      generalize dropWs r = r1
      split
      · rename_i r2
        simp only []
        have := ih r2 (acc ++ [⟨k, rawBetween n (dropWs s) r, {}, Decor.new (rawBetween n s (dropWs s)) (rawBetween n r (0x2E :: r2))⟩])
        simp only [keysOf_append, keysOf_cons, keysOf_nil] at this
        rw [← this]
        cases ckeyPathAux n fuel r2 (acc ++ [⟨k, rawBetween n (dropWs s) r, {}, Decor.new (rawBetween n s (dropWs s)) (rawBetween n r (0x2E :: r2))⟩]) with
        | bt => simp [Res.map]
        | cut => simp [Res.map]
        | ok v r => simp [Res.map]
      · rename_i hne
        split
        · rename_i r2; exact absurd rfl (hne r2)
        · simp [Res.map]

theorem ssplitLast_eq {α} : ∀ (l : List α), State.splitLast l = Value.splitLast l
  | [] => rfl
  | [a] => rfl
  | a :: b :: r => by
    unfold State.splitLast Value.splitLast
    rw [ssplitLast_eq (b :: r)]
    cases Value.splitLast (b :: r) <;> rfl

theorem vsplitLast_some {α} (l i : List α) (x : α) (h : Value.splitLast l = some (i, x)) : l = i ++ [x] :=
  Lemmas.State09.splitLast_some l i x (by rw [ssplitLast_eq]; exact h)

theorem vsplitLast_none {α} (l : List α) (h : Value.splitLast l = none) : l = [] :=
  Lemmas.State09.splitLast_none l (by rw [ssplitLast_eq]; exact h)

theorem vsplitLast_snoc {α} (init : List α) (l : α) : Value.splitLast (init ++ [l]) = some (init, l) := by
  rw [← ssplitLast_eq]; exact Lemmas.State09.splitLast_append init l

/-- what the test of `lastEnt` establishes (`lastEntry` makes the same test), over any payload -/
theorem last_entry_of {α} {k : Bytes} {items init : List (CKey × α)} {k' : CKey} {it : α}
    (hsl : Value.splitLast items = some (init, (k', it)))
    (hc : (k'.key == k && (clookup k init).isNone) = true) :
    items = init ++ [(k', it)] ∧ (k'.key == k) = true ∧ clookup k init = none ∧ clookup k items = some it := by
  have hi := vsplitLast_some _ _ _ hsl
  simp only [Bool.and_eq_true, Option.isNone_iff_eq_none] at hc
  refine ⟨hi, hc.1, hc.2, ?_⟩
  rw [hi, Lemmas.Tiling03Hdr.clookup_append_none _ _ _ hc.2, Lemmas.Tiling03Hdr.clookup_single, hc.1]; rfl

theorem vsplitLast_keysOf : ∀ (l : List CKey),
    Value.splitLast (keysOf l) = (Value.splitLast l).map (fun p => (keysOf p.1, p.2.key))
  | [] => rfl
  | [a] => rfl
  | a :: b :: r => by
    have ih := vsplitLast_keysOf (b :: r)
    simp only [keysOf_cons] at ih ⊢
    unfold Value.splitLast
    rw [ih]
    cases Value.splitLast (b :: r) with
    | none => rfl
    | some p => rfl

theorem fixLeaf_keys (ks : List CKey) : keysOf (fixLeaf ks) = keysOf ks := by
  cases ks with
  | nil => rfl
  | cons first rest =>
    unfold fixLeaf
    simp only []
    cases first.dotted.pre <;> simp only [] <;> split
    · simp
    · rename_i init last hs
      have h3 := congrArg keysOf (vsplitLast_some _ _ _ hs)
      simp only [keysOf_cons, keysOf_append, keysOf_nil] at h3 ⊢
      rw [h3]
      cases last.dotted.suf <;> rfl
    · simp
    · rename_i init last hs
      have h3 := congrArg keysOf (vsplitLast_some _ _ _ hs)
      simp only [keysOf_cons, keysOf_append, keysOf_nil] at h3 ⊢
      rw [h3]
      cases last.dotted.suf <;> rfl

theorem fixLeaf_length (ks : List CKey) : (fixLeaf ks).length = ks.length := by
  have := congrArg List.length (fixLeaf_keys ks)
  simpa using this

theorem ckeyPath_erase (n : Nat) (s : Bytes) : (ckeyPath n s).map keysOf = keyPath s := by
  unfold ckeyPath keyPath
  have h0 := ckeyPathAux_erase n (s.length + 1) s []
  simp only [keysOf_nil] at h0
  rw [← h0]
  cases ckeyPathAux n (s.length + 1) s [] with
  | bt => rfl
  | cut => rfl
  | ok ks r =>
    simp only [Res.map, keysOf_length]
    by_cases h : LIMIT ≤ ks.length
    · simp [h]
    · simp [h, fixLeaf_keys]

theorem ckeyPath_adv {n : Nat} {s r : Bytes} {ks : List CKey} (h : ckeyPath n s = .ok ks r) :
    Lemmas.Suffix03.Adv r s :=
  (Lemmas.Suffix03.keyPath_ok (s := s) (ks := keysOf ks) (by rw [← ckeyPath_erase n, h]; rfl)).1

def mapKv {α β} (f : α → β) (l : List (CKey × α)) : List (Bytes × β) := l.map (fun p => (p.1.key, f p.2))

@[simp] theorem mapKv_nil {α β} (f : α → β) : mapKv f [] = [] := rfl
@[simp] theorem mapKv_cons {α β} (f : α → β) (k : CKey) (v : α) (l : List (CKey × α)) :
    mapKv f ((k, v) :: l) = (k.key, f v) :: mapKv f l := rfl
@[simp] theorem mapKv_append {α β} (f : α → β) (a b : List (CKey × α)) :
    mapKv f (a ++ b) = mapKv f a ++ mapKv f b := by simp [mapKv]
theorem mapKv_isEmpty {α β} (f : α → β) (a : List (CKey × α)) : (mapKv f a).isEmpty = a.isEmpty := by
  cases a <;> rfl

theorem alookup_mapKv {α β} (f : α → β) (k : Bytes) : ∀ (l : List (CKey × α)),
    alookup k (mapKv f l) = (clookup k l).map f
  | [] => rfl
  | (k', v) :: r => by
    simp only [mapKv_cons, alookup, clookup]
    by_cases h : (k'.key == k) = true
    · simp [h]
    · simp [h, alookup_mapKv f k r]

theorem mapKv_creplace {α β} (f : α → β) (k : Bytes) (v : α) : ∀ (l : List (CKey × α)),
    mapKv f (creplace k v l) = areplace k (f v) (mapKv f l)
  | [] => rfl
  | (k', v') :: r => by
    simp only [mapKv_cons, areplace, creplace]
    by_cases h : (k'.key == k) = true
    · simp [h]
    · simp [h, mapKv_creplace f k v r]

theorem mapKv_cerase {α β} (f : α → β) (k : Bytes) : ∀ (l : List (CKey × α)),
    mapKv f (cerase k l) = aerase k (mapKv f l)
  | [] => rfl
  | (k', v') :: r => by
    simp only [mapKv_cons, aerase, cerase]
    by_cases h : (k'.key == k) = true
    · simp [h]
    · simp [h, mapKv_cerase f k r]

theorem mapKv_cset {α β} (f : α → β) (k : CKey) (v : α) (l : List (CKey × α)) :
    mapKv f (cset k v l) = aset k.key (f v) (mapKv f l) := by
  unfold aset cset
  rw [alookup_mapKv]
  cases clookup k.key l with
  | none => simp
  | some x => simp [mapKv_creplace]

theorem eraseVal_setDecor (v : CVal) (d : Decor) : eraseVal (v.setDecor d) = eraseVal v := by
  cases v <;> simp [CVal.setDecor, eraseVal]

theorem eraseVals_eq : ∀ (l : List CVal), eraseVals l = l.map eraseVal
  | [] => by simp [eraseVals]
  | v :: r => by simp [eraseVals, eraseVals_eq r]

theorem eraseKvs_eq : ∀ (l : List (CKey × CVal)), eraseKvs l = mapKv eraseVal l
  | [] => by simp [eraseKvs]
  | (k, v) :: r => by simp [eraseKvs, eraseKvs_eq r]

theorem eraseTbls_eq : ∀ (l : List CTbl), eraseTbls l = l.map eraseTbl
  | [] => by simp [eraseTbls]
  | v :: r => by simp [eraseTbls, eraseTbls_eq r]

theorem eraseItems_eq : ∀ (l : List (CKey × CItem)), eraseItems l = mapKv eraseItem l
  | [] => by simp [eraseItems]
  | (k, v) :: r => by simp [eraseItems, eraseItems_eq r]

end TomlVerif.Lemmas.Tiling03More
