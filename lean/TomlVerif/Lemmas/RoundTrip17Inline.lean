import TomlVerif.Model.DeRoutes
import TomlVerif.Lemmas.Leaves06
import TomlVerif.Lemmas.PrintedDoc
/-! Round trip of `toml::Value` trees, inline values. `qOfF fl pretty v` is a grammar tree (`QVal`,
    `Lemmas/AstValueQ01.lean`) whose rendering is `renderVal fl pretty v` and whose denotation is `valOf v`, well formed
    for every tree that meets `OkF fl`; so `value` reads the printed value back (`value_renderValF`, by
    `T01_value_completeQ`), and the document round trip takes `qOfF` as the value of a `key = value` line.

    `OkF fl` (namespace `Ser07TextF`) admits floats whose text `fl bits` is a scalar token denoting exactly `bits`, and
    any key; `OkV` excludes floats (the float printer is a parameter of the model) and the key
    `$__toml_private_datetime` (because of what `impl Deserialize for toml::Value` does with it). `qOf` is the tree
    without a float printer in it; it is `qOfF fl` on trees without floats, and nothing else goes through it. -/
namespace TomlVerif.Lemmas.RoundTrip17
open TomlVerif TomlVerif.Spec TomlVerif.Model TomlVerif.Model.TomlValue TomlVerif.Model.DeRoutes
open TomlVerif.Model.Value TomlVerif.Model.Strings
open TomlVerif.Spec.AstValue TomlVerif.Spec.AstValueQ

mutual
/-- the `toml_edit` value the parser builds for the text of `v` (inline tables in printed order) -/
def valOf : TV → Val
  | .str s => .str s
  | .int n => .int n
  | .float b => .float b
  | .bool b => .bool b
  | .dt d => .dt d
  | .arr l => .arr (valOfList l)
  | .tbl items => .inl (valOfPairs items) false false
def valOfList : List TV → List Val
  | [] => []
  | v :: r => valOf v :: valOfList r
def valOfPairs : List (Bytes × TV) → List (Bytes × Val)
  | [] => []
  | (k, v) :: r => (k, valOf v) :: valOfPairs r
end

/-- a date-time the printer can print and the parser reads back -/
def DtOk (d : Datetime.Datetime) : Prop :=
  Props.C12.FieldsInRange d ∧ ∀ x, d.date = some x → x.year ≤ 9999

mutual
/-- what the round trip needs of a tree; no float, because the float printer is a parameter of the model; not the
    private date-time key, because of what `impl Deserialize for toml::Value` does with it (F24) -/
def OkV : TV → Prop
  | .str _ => True
  | .int n => Numbers.inI64 n = true
  | .float _ => False
  | .bool _ => True
  | .dt d => DtOk d
  | .arr l => OkVs l
  | .tbl items => OkPs items ∧ (items.map Prod.fst).Nodup ∧ FIELD ∉ items.map Prod.fst
def OkVs : List TV → Prop
  | [] => True
  | v :: r => OkV v ∧ OkVs r
def OkPs : List (Bytes × TV) → Prop
  | [] => True
  | (_, v) :: r => OkV v ∧ OkPs r
end

mutual
/-- nesting of containers: what the value parser's recursion counter has to have room for -/
def depthTV : TV → Nat
  | .arr l => 1 + depthTVs l
  | .tbl items => 1 + depthTVPs items
  | _ => 0
def depthTVs : List TV → Nat
  | [] => 0
  | v :: r => max (depthTV v) (depthTVs r)
def depthTVPs : List (Bytes × TV) → Nat
  | [] => 0
  | (_, v) :: r => max (depthTV v) (depthTVPs r)
end

def scalarOf (v : TV) : ScalarTok :=
  match v with
  | .str s => ⟨(Write.writeValue .default s).getD [], .str s⟩
  | .int n => ⟨Numbers.writeInt n, .int n⟩
  | .float b => ⟨[], .float b⟩
  | .bool b => ⟨if b then strBytes "true" else strBytes "false", .bool b⟩
  | .dt d => ⟨Datetime.Std.display d, .dt d⟩
  | _ => ⟨[], .bool false⟩

/-- a key of an inline table as the printer writes it: one blank on either side -/
def spKey (k : Bytes) : QDKey := ⟨⟨[0x20], renderKey k, k, [0x20]⟩, []⟩

mutual
def qOf (pretty : Bool) : TV → QVal
  | .arr l =>
    if !pretty || l.length ≤ 1 then .arr (qElems pretty true l) false []
    else .arr (qElemsMl pretty l) true [.nl false]
  | .tbl items => .inl (qPairs pretty items) []
  | .str s => .scalar (scalarOf (.str s))
  | .int n => .scalar (scalarOf (.int n))
  | .float b => .scalar (scalarOf (.float b))
  | .bool b => .scalar (scalarOf (.bool b))
  | .dt d => .scalar (scalarOf (.dt d))
def qElems (pretty : Bool) (first : Bool) : List TV → List (Wcn × QVal × Wcn)
  | [] => []
  | v :: r => ((if first then [] else [.ws [0x20]]), qOf pretty v, []) :: qElems pretty false r
def qElemsMl (pretty : Bool) : List TV → List (Wcn × QVal × Wcn)
  | [] => []
  | v :: r => ([.nl false, .ws [0x20, 0x20, 0x20, 0x20]], qOf pretty v, []) :: qElemsMl pretty r
def qPairs (pretty : Bool) : List (Bytes × TV) → List (QDKey × Bytes × QVal × Bytes)
  | [] => []
  | (k, v) :: r => (spKey k, [0x20], qOf pretty v, (if r.isEmpty then [0x20] else [])) :: qPairs pretty r
end

theorem renderElems_cons_false (fl : FloatText) (p : Bool) (v : TV) (r : List TV) :
    renderElems fl p false (v :: r) = 0x2C :: 0x20 :: (renderVal fl p v ++ renderElems fl p false r) := by
  simp [renderElems, comma, sp]

/-- what the entries of the printed inline table denote before they are put into the table: no dotted keys -/
def plainOf : List (Bytes × TV) → List (List Bytes × Bytes × Val)
  | [] => []
  | (k, v) :: r => ([], k, valOf v) :: plainOf r

theorem keys_valOfPairs (l : List (Bytes × TV)) : (valOfPairs l).map Prod.fst = l.map Prod.fst := by
  induction l with
  | nil => rfl
  | cons x r ih => obtain ⟨k, v⟩ := x; simp [valOfPairs, ih]

theorem tableFromPairs_plainOf : ∀ (l : List (Bytes × TV)) (acc : List (Bytes × Val)),
    (l.map Prod.fst).Nodup → (∀ k ∈ l.map Prod.fst, k ∉ acc.map Prod.fst) →
    tableFromPairs (plainOf l) acc = some (acc ++ valOfPairs l) := by
  intro l
  induction l with
  | nil => intro acc _ _; simp [plainOf, tableFromPairs, valOfPairs]
  | cons x l ih =>
    obtain ⟨k, v⟩ := x
    intro acc hn ha
    simp only [List.map_cons, List.nodup_cons] at hn
    have hk : k ∉ acc.map Prod.fst := ha k (by simp)
    simp only [plainOf, tableFromPairs, List.isEmpty_nil, inlInsert, (Lemmas.State09.alookup_none_iff _ _).2 hk, valOfPairs]
    simp only [Bool.false_eq_true, if_false, beq_iff_eq]
    rw [ih (acc ++ [(k, valOf v)]) hn.2]
    · simp
    · intro k' hk' hmem
      simp only [List.map_append, List.map_cons, List.map_nil, List.mem_append, List.mem_singleton] at hmem
      rcases hmem with hmem | hmem
      · exact ha k' (by simp [hk']) hmem
      · subst hmem; exact hn.1 hk'

theorem spKey_path (k : Bytes) : (spKey k).path = [] ∧ (spKey k).last = k := by
  simp [spKey, QDKey.path, QDKey.last, splitKeys]

mutual
theorem depth_qOf (p : Bool) : ∀ v : TV, depthQ (qOf p v) = depthTV v
  | .str s | .int n | .float b | .bool b | .dt d => by simp [qOf, depthQ, depthTV]
  | .arr l => by
    rw [qOf, depthTV]
    split
    · simp [depthQ, (depth_qElems p l).1]
    · simp [depthQ, (depth_qElems p l).2]
  | .tbl items => by
    rw [qOf, depthTV]
    simp [depthQ, depth_qPairs p items]
theorem depth_qElems (p : Bool) : ∀ l : List TV,
    (∀ first, depthItemsQ (qElems p first l) = depthTVs l) ∧ depthItemsQ (qElemsMl p l) = depthTVs l
  | [] => by simp [qElems, qElemsMl, depthItemsQ, depthTVs]
  | v :: r => by
    have h1 := depth_qOf p v
    have h2 := depth_qElems p r
    exact ⟨fun first => by simp [qElems, depthItemsQ, depthTVs, h1, h2.1], by simp [qElemsMl, depthItemsQ, depthTVs, h1, h2.2]⟩
theorem depth_qPairs (p : Bool) : ∀ l : List (Bytes × TV), depthPairsQ (qPairs p l) = depthTVPs l
  | [] => by simp [qPairs, depthPairsQ, depthTVPs]
  | (k, v) :: r => by
    simp [qPairs, depthPairsQ, depthTVPs, depth_qOf p v, depth_qPairs p r, spKey]
end

theorem spKey_wf (k : Bytes) : (spKey k).WF :=
  ⟨⟨AllWs.sp, AllWs.sp, PrintedDoc.keyText_written k⟩, (by intro x hx; cases hx), (by simp [spKey, LIMIT])⟩

theorem wcn_indent : WcnWF [.nl false, .ws [0x20, 0x20, 0x20, 0x20]] :=
  Lemmas.Sound01.wcnWF_cons _ _ trivial (Lemmas.Sound01.wcnWF_cons _ _
    (by intro b hb; simp at hb; subst hb; decide) Lemmas.Sound01.wcnWF_nil)

end TomlVerif.Lemmas.RoundTrip17

namespace TomlVerif.Lemmas.Ser07TextF
open TomlVerif TomlVerif.Spec TomlVerif.Model TomlVerif.Model.TomlValue TomlVerif.Model.DeRoutes
open TomlVerif.Model.Value TomlVerif.Model.Strings
open TomlVerif.Spec.AstValue TomlVerif.Spec.AstValueQ
open TomlVerif.Lemmas.RoundTrip17

mutual
/-- `OkV` with floats (their text must be a scalar token for exactly these bits) and without the restriction on the
    private date-time key (the third conjunct of the table case is `True`, so that the two have the same shape) -/
def OkF (fl : FloatText) : TV → Prop
  | .str _ => True
  | .int n => Numbers.inI64 n = true
  | .float b => ScalarOK ⟨fl b, .float b⟩
  | .bool _ => True
  | .dt d => DtOk d
  | .arr l => OkFs fl l
  | .tbl items => OkFPs fl items ∧ (items.map Prod.fst).Nodup ∧ True
def OkFs (fl : FloatText) : List TV → Prop
  | [] => True
  | v :: r => OkF fl v ∧ OkFs fl r
def OkFPs (fl : FloatText) : List (Bytes × TV) → Prop
  | [] => True
  | (_, v) :: r => OkF fl v ∧ OkFPs fl r
end


def scalarOfF (fl : FloatText) (v : TV) : ScalarTok :=
  match v with
  | .str s => ⟨(Write.writeValue .default s).getD [], .str s⟩
  | .int n => ⟨Numbers.writeInt n, .int n⟩
  | .float b => ⟨fl b, .float b⟩
  | .bool b => ⟨if b then strBytes "true" else strBytes "false", .bool b⟩
  | .dt d => ⟨Datetime.Std.display d, .dt d⟩
  | _ => ⟨[], .bool false⟩

mutual
/-- the grammar tree of the text `renderVal fl pretty v`: elements after `, ` on one line; in the pretty layout an
    array of two or more elements has each element after a line end and four blanks, a trailing comma (`true`) and a
    line end before `]` (`[.nl false]`); an inline table has ` key = value` entries and a blank before `}` -/
def qOfF (fl : FloatText) (pretty : Bool) : TV → QVal
  | .arr l =>
    if !pretty || l.length ≤ 1 then .arr (qElemsF fl pretty true l) false []
    else .arr (qElemsMlF fl pretty l) true [.nl false]
  | .tbl items => .inl (qPairsF fl pretty items) []
  | .str s => .scalar (scalarOfF fl (.str s))
  | .int n => .scalar (scalarOfF fl (.int n))
  | .float b => .scalar (scalarOfF fl (.float b))
  | .bool b => .scalar (scalarOfF fl (.bool b))
  | .dt d => .scalar (scalarOfF fl (.dt d))
def qElemsF (fl : FloatText) (pretty : Bool) (first : Bool) : List TV → List (Wcn × QVal × Wcn)
  | [] => []
  | v :: r => ((if first then [] else [.ws [0x20]]), qOfF fl pretty v, []) :: qElemsF fl pretty false r
def qElemsMlF (fl : FloatText) (pretty : Bool) : List TV → List (Wcn × QVal × Wcn)
  | [] => []
  | v :: r => ([.nl false, .ws [0x20, 0x20, 0x20, 0x20]], qOfF fl pretty v, []) :: qElemsMlF fl pretty r
def qPairsF (fl : FloatText) (pretty : Bool) : List (Bytes × TV) → List (QDKey × Bytes × QVal × Bytes)
  | [] => []
  | (k, v) :: r => (spKey k, [0x20], qOfF fl pretty v, (if r.isEmpty then [0x20] else [])) :: qPairsF fl pretty r
end

theorem renderElems_cons_false (fl : FloatText) (p : Bool) (v : TV) (r : List TV) :
    renderElems fl p false (v :: r) = 0x2C :: 0x20 :: (renderVal fl p v ++ renderElems fl p false r) :=
  RoundTrip17.renderElems_cons_false fl p v r

mutual
theorem renderF_qOf (fl : FloatText) (p : Bool) : ∀ v : TV, renderQ (qOfF fl p v) = renderVal fl p v
  | .str s | .int n | .float b | .bool b | .dt d => by simp [qOfF, renderQ, scalarOfF, renderVal]
  | .arr l => by
    rw [qOfF, renderVal]
    split
    · simp [renderQ, renderF_qElems fl p l, renderWcn]
    · rename_i hc
      have hne : l ≠ [] := by
        intro e; subst e; simp at hc
      have h1 := (renderF_qElemsMl fl p l).1 hne
      simp only [renderQ, if_true, renderWcn, Piece.render, nlBytes, Bool.false_eq_true, if_false, List.append_nil,
        List.cons_append, List.nil_append]
      rw [← h1]
      simp
  | .tbl items => by
    rw [qOfF, renderVal]
    simp [renderQ, renderF_qPairs fl p items]
theorem renderF_qElems (fl : FloatText) (p : Bool) : ∀ l : List TV,
    renderItemsQ (qElemsF fl p true l) = renderElems fl p true l ∧
    renderItemsSepQ (qElemsF fl p false l) = renderElems fl p false l
  | [] => by simp [qElemsF, renderItemsQ, renderItemsSepQ, renderElems]
  | v :: r => by
    have h1 := renderF_qOf fl p v
    have h2 := (renderF_qElems fl p r).2
    constructor
    · simp [qElemsF, renderItemsQ, renderElems, renderWcn, h1, h2]
    · simp [qElemsF, renderItemsSepQ, renderElems, renderWcn, Piece.render, h1, h2, comma, sp]
/-- The grammar writes the comma BEFORE each later element (`renderItemsSepQ`) and the trailing comma once at the
    end; the printer writes it AFTER every element. So the two sides are compared with one comma shifted through. -/
theorem renderF_qElemsMl (fl : FloatText) (p : Bool) : ∀ l : List TV,
    (l ≠ [] → renderItemsQ (qElemsMlF fl p l) ++ [0x2C] = renderElemsMl fl p l) ∧
    renderItemsSepQ (qElemsMlF fl p l) ++ [0x2C] = 0x2C :: renderElemsMl fl p l
  | [] => by simp [qElemsMlF, renderItemsSepQ, renderElemsMl]
  | v :: r => by
    have h1 := renderF_qOf fl p v
    have h2 := (renderF_qElemsMl fl p r).2
    constructor
    · intro _
      simp [qElemsMlF, renderItemsQ, renderElemsMl, renderWcn, Piece.render, nlBytes, h1, h2, prettyIndent, comma]
    · simp [qElemsMlF, renderItemsSepQ, renderElemsMl, renderWcn, Piece.render, nlBytes, h1, h2, prettyIndent, comma]
theorem renderF_qPairs (fl : FloatText) (p : Bool) : ∀ l : List (Bytes × TV),
    renderPairsQ (qPairsF fl p l) = renderInline fl p true l ∧
    renderPairsSepQ (qPairsF fl p l) = renderInline fl p false l
  | [] => by simp [qPairsF, renderPairsQ, renderPairsSepQ, renderInline]
  | (k, v) :: r => by
    have h1 := renderF_qOf fl p v
    have h2 := (renderF_qPairs fl p r).2
    constructor
    · simp [qPairsF, renderPairsQ, renderInline, spKey, QDKey.render, QKey.render, renderQKeySep, h1, h2, sp]
    · simp [qPairsF, renderPairsSepQ, renderInline, spKey, QDKey.render, QKey.render, renderQKeySep, h1, h2, sp, comma]
end

mutual
theorem semF_qOf (fl : FloatText) (p : Bool) : ∀ v : TV, OkF fl v → semQ (qOfF fl p v) = valOf v
  | .str s, _ | .int n, _ | .float b, _ | .bool b, _ | .dt d, _ => by simp [qOfF, semQ, scalarOfF, valOf]
  | .arr l, h => by
    rw [OkF] at h
    rw [qOfF, valOf]
    split
    · simp [semQ, (semF_qElems fl p l h).1]
    · simp [semQ, (semF_qElems fl p l h).2]
  | .tbl items, h => by
    rw [OkF] at h
    rw [qOfF, valOf]
    simp only [semQ, flatF_qPairs fl p items h.1]
    rw [tableFromPairs_plainOf items [] h.2.1 (by simp)]
    simp
theorem semF_qElems (fl : FloatText) (p : Bool) : ∀ l : List TV, OkFs fl l →
    (∀ first, semItemsQ (qElemsF fl p first l) = valOfList l) ∧ semItemsQ (qElemsMlF fl p l) = valOfList l
  | [], _ => by simp [qElemsF, qElemsMlF, semItemsQ, valOfList]
  | v :: r, h => by
    rw [OkFs] at h
    have h1 := semF_qOf fl p v h.1
    have h2 := semF_qElems fl p r h.2
    exact ⟨fun first => by simp [qElemsF, semItemsQ, valOfList, h1, h2.1], by simp [qElemsMlF, semItemsQ, valOfList, h1, h2.2]⟩
theorem flatF_qPairs (fl : FloatText) (p : Bool) : ∀ l : List (Bytes × TV), OkFPs fl l → flatPairsQ (qPairsF fl p l) = plainOf l
  | [], _ => by simp [qPairsF, flatPairsQ, plainOf]
  | (k, v) :: r, h => by
    rw [OkFPs] at h
    simp [qPairsF, flatPairsQ, plainOf, (spKey_path k).1, (spKey_path k).2, semF_qOf fl p v h.1, flatF_qPairs fl p r h.2]
end

mutual
theorem depthF_qOf (fl : FloatText) (p : Bool) : ∀ v : TV, depthQ (qOfF fl p v) = depthTV v
  | .str s | .int n | .float b | .bool b | .dt d => by simp [qOfF, depthQ, depthTV]
  | .arr l => by
    rw [qOfF, depthTV]
    split
    · simp [depthQ, (depthF_qElems fl p l).1]
    · simp [depthQ, (depthF_qElems fl p l).2]
  | .tbl items => by
    rw [qOfF, depthTV]
    simp [depthQ, depthF_qPairs fl p items]
theorem depthF_qElems (fl : FloatText) (p : Bool) : ∀ l : List TV,
    (∀ first, depthItemsQ (qElemsF fl p first l) = depthTVs l) ∧ depthItemsQ (qElemsMlF fl p l) = depthTVs l
  | [] => by simp [qElemsF, qElemsMlF, depthItemsQ, depthTVs]
  | v :: r => by
    have h1 := depthF_qOf fl p v
    have h2 := depthF_qElems fl p r
    exact ⟨fun first => by simp [qElemsF, depthItemsQ, depthTVs, h1, h2.1], by simp [qElemsMlF, depthItemsQ, depthTVs, h1, h2.2]⟩
theorem depthF_qPairs (fl : FloatText) (p : Bool) : ∀ l : List (Bytes × TV), depthPairsQ (qPairsF fl p l) = depthTVPs l
  | [] => by simp [qPairsF, depthPairsQ, depthTVPs]
  | (k, v) :: r => by
    simp [qPairsF, depthPairsQ, depthTVPs, depthF_qOf fl p v, depthF_qPairs fl p r, spKey]
end

mutual
theorem wfF_qOf (fl : FloatText) (p : Bool) : ∀ v : TV, OkF fl v → WFQ (qOfF fl p v)
  | .str s, _ => by rw [qOfF, WFQ]; exact Lemmas.Encode06.scalarOK_reprString s
  | .int n, h => by rw [qOfF, WFQ]; exact Lemmas.Encode06.scalarOK_writeInt n (by simpa [OkF] using h)
  | .float b, h => by rw [qOfF, WFQ]; exact h
  | .bool b, _ => by
    rw [qOfF, WFQ]
    cases b
    · simp only [scalarOfF, Lemmas.Encode06.strBytes_false, Bool.false_eq_true, if_false]; exact Lemmas.Value01.scalarOK_false
    · simp only [scalarOfF, Lemmas.Encode06.strBytes_true, if_true]; exact Lemmas.Value01.scalarOK_true
  | .dt d, h => by
    rw [qOfF, WFQ]
    rw [OkF] at h
    exact Lemmas.Scalars01.scalarOK_datetime d h.1 h.2
  | .arr l, h => by
    rw [OkF] at h
    rw [qOfF]
    split
    · rw [WFQ]; exact ⟨(wfF_qElems fl p l h).1 true, Lemmas.Sound01.wcnWF_nil, fun _ => rfl⟩
    · rename_i hc
      rw [WFQ]
      refine ⟨(wfF_qElems fl p l h).2, Lemmas.Sound01.wcnWF_cons _ _ trivial Lemmas.Sound01.wcnWF_nil, ?_⟩
      intro e
      cases l with
      | nil => simp at hc
      | cons v r => simp [qElemsMlF] at e
  | .tbl items, h => by
    rw [OkF] at h
    rw [qOfF, WFQ]
    refine ⟨wfF_qPairs fl p items h.1, AllWs.nil, ?_⟩
    rw [flatF_qPairs fl p items h.1, tableFromPairs_plainOf items [] h.2.1 (by simp)]
    rfl
theorem wfF_qElems (fl : FloatText) (p : Bool) : ∀ l : List TV, OkFs fl l →
    (∀ first, WFItemsQ (qElemsF fl p first l)) ∧ WFItemsQ (qElemsMlF fl p l)
  | [], _ => by simp [qElemsF, qElemsMlF, WFItemsQ]
  | v :: r, h => by
    rw [OkFs] at h
    have h1 := wfF_qOf fl p v h.1
    have h2 := wfF_qElems fl p r h.2
    refine ⟨fun first => ?_, ?_⟩
    · rw [qElemsF, WFItemsQ]
      have hsp : WcnWF [.ws [0x20]] := Lemmas.Sound01.wcnWF_cons (.ws [0x20]) [] AllWs.sp Lemmas.Sound01.wcnWF_nil
      exact ⟨by cases first <;> simp [Lemmas.Sound01.wcnWF_nil, hsp], h1, Lemmas.Sound01.wcnWF_nil, h2.1 false⟩
    · rw [qElemsMlF, WFItemsQ]
      exact ⟨wcn_indent, h1, Lemmas.Sound01.wcnWF_nil, h2.2⟩
theorem wfF_qPairs (fl : FloatText) (p : Bool) : ∀ l : List (Bytes × TV), OkFPs fl l → WFPairsQ (qPairsF fl p l)
  | [], _ => by simp [qPairsF, WFPairsQ]
  | (k, v) :: r, h => by
    rw [OkFPs] at h
    rw [qPairsF, WFPairsQ]
    exact ⟨spKey_wf k, AllWs.sp, wfF_qOf fl p v h.1, by cases r <;> simp [AllWs.nil, AllWs.sp], wfF_qPairs fl p r h.2⟩
end

theorem value_renderValF (fl : FloatText) (p : Bool) (v : TV) (h : OkF fl v) (d fuel : Nat) (rest : Bytes)
    (hd : d + depthTV v < LIMIT) (hr : ValFollowS rest) (hf : 2 * (renderVal fl p v).length ≤ fuel) :
    value fuel d (renderVal fl p v ++ rest) = .ok (valOf v) rest := by
  have hq := Props.C01Sound.T01_value_completeQ (qOfF fl p v) (wfF_qOf fl p v h) d fuel rest
    (by rw [depthF_qOf fl]; exact hd) hr (by rw [renderF_qOf fl p v]; exact hf)
  rw [renderF_qOf fl p v, semF_qOf fl p v h] at hq
  exact hq

end TomlVerif.Lemmas.Ser07TextF

namespace TomlVerif.Lemmas.RoundTrip17
open TomlVerif TomlVerif.Spec TomlVerif.Model TomlVerif.Model.TomlValue TomlVerif.Model.DeRoutes
open TomlVerif.Model.Value TomlVerif.Model.Strings
open TomlVerif.Spec.AstValue TomlVerif.Spec.AstValueQ
open TomlVerif.Lemmas.Ser07TextF

mutual
theorem okV_noFloat : ∀ v : TV, OkV v → hasFloat v = false
  | .str s, _ | .int n, _ => by simp [hasFloat]
  | .float b, h => by simp [OkV] at h
  | .bool b, _ | .dt d, _ => by simp [hasFloat]
  | .arr l, h => by rw [OkV] at h; rw [hasFloat]; exact okVs_noFloat l h
  | .tbl items, h => by rw [OkV] at h; rw [hasFloat]; exact okPs_noFloat items h.1
theorem okVs_noFloat : ∀ l : List TV, OkVs l → hasFloatList l = false
  | [], _ => by simp [hasFloatList]
  | v :: r, h => by rw [OkVs] at h; simp [hasFloatList, okV_noFloat v h.1, okVs_noFloat r h.2]
theorem okPs_noFloat : ∀ l : List (Bytes × TV), OkPs l → hasFloatPairs l = false
  | [], _ => by simp [hasFloatPairs]
  | (k, v) :: r, h => by rw [OkPs] at h; simp [hasFloatPairs, okV_noFloat v h.1, okPs_noFloat r h.2]
end

mutual
theorem qOf_eq (fl : FloatText) (p : Bool) : ∀ v : TV, hasFloat v = false → qOf p v = qOfF fl p v
  | .str _, _ | .int _, _ | .bool _, _ | .dt _, _ => by simp [qOf, qOfF, scalarOf, scalarOfF]
  | .float _, h => by simp [hasFloat] at h
  | .arr l, h => by
    rw [hasFloat] at h
    rw [qOf, qOfF, (qElems_eq fl p l h).1, (qElems_eq fl p l h).2]
  | .tbl items, h => by rw [hasFloat] at h; rw [qOf, qOfF, qPairs_eq fl p items h]
theorem qElems_eq (fl : FloatText) (p : Bool) : ∀ l : List TV, hasFloatList l = false →
    (∀ first, qElems p first l = qElemsF fl p first l) ∧ qElemsMl p l = qElemsMlF fl p l
  | [], _ => ⟨fun _ => rfl, rfl⟩
  | v :: r, h => by
    simp only [hasFloatList, Bool.or_eq_false_iff] at h
    have h1 := qOf_eq fl p v h.1
    have h2 := qElems_eq fl p r h.2
    exact ⟨fun first => by rw [qElems, qElemsF, h1, h2.1], by rw [qElemsMl, qElemsMlF, h1, h2.2]⟩
theorem qPairs_eq (fl : FloatText) (p : Bool) : ∀ l : List (Bytes × TV), hasFloatPairs l = false →
    qPairs p l = qPairsF fl p l
  | [], _ => rfl
  | (k, v) :: r, h => by
    simp only [hasFloatPairs, Bool.or_eq_false_iff] at h
    rw [qPairs, qPairsF, qOf_eq fl p v h.1, qPairs_eq fl p r h.2]
end

mutual
theorem okV_okF (fl : FloatText) : ∀ v : TV, OkV v → OkF fl v
  | .str _, _ | .bool _, _ => by simp [OkF]
  | .int _, h | .dt _, h => by simpa [OkV, OkF] using h
  | .float _, h => by simp [OkV] at h
  | .arr l, h => by rw [OkV] at h; rw [OkF]; exact okVs_okFs fl l h
  | .tbl items, h => by rw [OkV] at h; rw [OkF]; exact ⟨okPs_okFPs fl items h.1, h.2.1, trivial⟩
theorem okVs_okFs (fl : FloatText) : ∀ l : List TV, OkVs l → OkFs fl l
  | [], _ => by simp [OkFs]
  | v :: r, h => by rw [OkVs] at h; rw [OkFs]; exact ⟨okV_okF fl v h.1, okVs_okFs fl r h.2⟩
theorem okPs_okFPs (fl : FloatText) : ∀ l : List (Bytes × TV), OkPs l → OkFPs fl l
  | [], _ => by simp [OkFPs]
  | (k, v) :: r, h => by rw [OkPs] at h; rw [OkFPs]; exact ⟨okV_okF fl v h.1, okPs_okFPs fl r h.2⟩
end

theorem render_qElemsMl (fl : FloatText) (p : Bool) : ∀ l : List TV, hasFloatList l = false →
    (l ≠ [] → renderItemsQ (qElemsMl p l) ++ [0x2C] = renderElemsMl fl p l) ∧
    renderItemsSepQ (qElemsMl p l) ++ [0x2C] = 0x2C :: renderElemsMl fl p l :=
  fun l h => by rw [(qElems_eq fl p l h).2]; exact renderF_qElemsMl fl p l

theorem render_qPairs (fl : FloatText) (p : Bool) : ∀ l : List (Bytes × TV), hasFloatPairs l = false →
    renderPairsQ (qPairs p l) = renderInline fl p true l ∧
    renderPairsSepQ (qPairs p l) = renderInline fl p false l :=
  fun l h => by rw [qPairs_eq fl p l h]; exact renderF_qPairs fl p l

theorem sem_qElems (p : Bool) : ∀ l : List TV, OkVs l →
    (∀ first, semItemsQ (qElems p first l) = valOfList l) ∧ semItemsQ (qElemsMl p l) = valOfList l :=
  fun l h => by
    have e := qElems_eq (fun _ => []) p l (okVs_noFloat l h)
    simp only [e.1, e.2]
    exact semF_qElems _ p l (okVs_okFs _ l h)

theorem wf_qElems (p : Bool) : ∀ l : List TV, OkVs l →
    (∀ first, WFItemsQ (qElems p first l)) ∧ WFItemsQ (qElemsMl p l) :=
  fun l h => by
    have e := qElems_eq (fun _ => []) p l (okVs_noFloat l h)
    simp only [e.1, e.2]
    exact wfF_qElems _ p l (okVs_okFs _ l h)

theorem wf_qPairs (p : Bool) : ∀ l : List (Bytes × TV), OkPs l → WFPairsQ (qPairs p l) :=
  fun l h => by
    rw [qPairs_eq (fun _ => []) p l (okPs_noFloat l h)]
    exact wfF_qPairs _ p l (okPs_okFPs _ l h)

end TomlVerif.Lemmas.RoundTrip17
