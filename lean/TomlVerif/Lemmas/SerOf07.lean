import TomlVerif.Lemmas.Sim07
/-! What `serOf nm ty d = some v` says about `d` and `v`: the successful arms of `serOf` and `serOfShape` as relations
    (`serOf_step`, `serOfShape_step`, used as `cases serOf_step h`: the constructor of `d` and the call `v` come out
    together), and what the round trip needs of the calls: a `None` is recognisable on both sides, the keys of a
    struct's fields, the integer width, where the date-time struct can stand. -/
namespace TomlVerif.Lemmas.SerTyped07
open TomlVerif TomlVerif.Model TomlVerif.Model.TomlValue TomlVerif.Model.DeRoutes TomlVerif.Model.DeTyped
open TomlVerif.Model.SerTyped TomlVerif.Model.Ser TomlVerif.Spec TomlVerif.Spec.Serde
open TomlVerif.Lemmas.Ser07

theorem mapO_cons {α β} (f : α → Option β) (a : α) (r : List α) (l : List β) (h : mapO f (a :: r) = some l) :
    ∃ b l', l = b :: l' ∧ f a = some b ∧ mapO f r = some l' := by
  unfold mapO at h
  split at h
  · rename_i b l' hb hl
    injection h with h
    exact ⟨b, l', h.symm, hb, hl⟩
  · cases h

theorem mapO_strKeys {α β} (f : α → Option β) (k : α → Bytes) : ∀ (l : List α) (kvs : List (SVal × β)),
    mapO (fun a => (f a).map fun b => (SVal.str (k a), b)) l = some kvs →
    ∃ fields, mapO (fun a => (f a).map fun b => (k a, b)) l = some fields ∧
      kvs = fields.map (fun kv => (SVal.str kv.1, kv.2)) ∧ fields.map Prod.fst = l.map k
  | [], kvs, h => by
    simp only [mapO, Option.some.injEq] at h
    exact ⟨[], rfl, h.symm, rfl⟩
  | a :: r, kvs, h => by
    obtain ⟨kv, kvs', rfl, hkv, hr⟩ := mapO_cons _ a r kvs h
    obtain ⟨b, hb, rfl⟩ := Option.map_eq_some_iff.1 hkv
    obtain ⟨fields, hf, rfl, hk⟩ := mapO_strKeys f k r kvs' hr
    exact ⟨(k a, b) :: fields, by simp only [mapO, hb, hf, Option.map_some], rfl, by simp [hk]⟩

inductive SerOfStep (nm : Bytes) : Ty → Dec → SVal → Prop
  | bool b : SerOfStep nm .bool (.bool b) (.bool b)
  | int lo hi n : SerOfStep nm (.int lo hi) (.int n) (.int (widthOf lo hi) n)
  | f64 b : SerOfStep nm .f64 (.f64 b) (.f64 b)
  | f32 b : SerOfStep nm .f32 (.f32 b) (.f32 b)
  | string s : SerOfStep nm .string (.str s) (.str s)
  | char s cp : decodeChar s = some cp → SerOfStep nm .char (.char s) (.char cp)
  | unit : SerOfStep nm .unit .unit .unit
  | datetime d : SerOfStep nm .datetime (.dt d) (.struct dtName [(dtField, .str (Datetime.Std.display d))])
  | date d : SerOfStep nm .date (.dt d) (.struct dtName [(dtField, .str (Datetime.Std.display d))])
  | time d : SerOfStep nm .time (.dt d) (.struct dtName [(dtField, .str (Datetime.Std.display d))])
  | value w : SerOfStep nm .value (.value w) (svalOfSer (serCalls w))
  | none t : SerOfStep nm (.option t) .none .none
  | some t d v : serOf nm t d = some v → SerOfStep nm (.option t) (.some d) (.some v)
  | seq t l vs : mapO (serOf nm t) l = some vs → SerOfStep nm (.seq t) (.seq l) (.seq vs)
  | tuple ts l vs : serOfTys nm ts l = some vs → SerOfStep nm (.tuple ts) (.tuple l) (.tuple vs)
  | map t l kvs : mapO (fun kd : Bytes × Dec => (serOf nm t kd.2).map fun v => (SVal.str kd.1, v)) l = some kvs →
      SerOfStep nm (.map t) (.map l) (.map kvs)
  | newtype t d v : serOf nm t d = some v → SerOfStep nm (.newtype t) (.newtype d) (.newtype nm v)
  | struct fs l fields : serOfFields nm fs l = some fields → SerOfStep nm (.struct fs) (.struct l) (.struct nm fields)
  | enum vs d v : serOfVariants nm vs d = some v → SerOfStep nm (.enum vs) d v

theorem serOf_step {nm : Bytes} {t : Ty} {d : Dec} {v : SVal} (h : serOf nm t d = some v) : SerOfStep nm t d v := by
  revert h
  fun_cases serOf nm t d <;> intro h
  -- by hand: the catch-all (20th arm), the enum arm (19th: `h` is handed on), `char` (6th: the code point comes out)
  case case20 => cases h
  case case19 => exact .enum _ _ _ h
  case case6 => obtain ⟨cp, hcp, rfl⟩ := Option.map_eq_some_iff.1 h; exact .char _ _ hcp
  all_goals
    first
    | cases h; constructor
    | obtain ⟨_, h', rfl⟩ := Option.map_eq_some_iff.1 h; constructor; exact h'

inductive SerOfShapeStep (nm : Bytes) : Shape → Bytes → Dec → SVal → Prop
  | unit n m : SerOfShapeStep nm .unit n (.vUnit m) (.unitVariant nm n)
  | newtype t n m d v : serOf nm t d = some v → SerOfShapeStep nm (.newtype t) n (.vNewtype m d) (.newtypeVariant nm n v)
  | tuple ts n m l vs : serOfTys nm ts l = some vs → SerOfShapeStep nm (.tuple ts) n (.vTuple m l) (.tupleVariant nm n vs)
  | struct fs n m l fields : serOfFields nm fs l = some fields →
      SerOfShapeStep nm (.struct fs) n (.vStruct m l) (.structVariant nm n fields)

theorem serOfShape_step {nm : Bytes} {s : Shape} {n : Bytes} {d : Dec} {v : SVal} (h : serOfShape nm s n d = some v) :
    SerOfShapeStep nm s n d v := by
  revert h
  fun_cases serOfShape nm s n d <;> intro h
  -- by hand: the unit shape (1st arm, no payload) and the catch-all (5th)
  case case1 => cases h; constructor
  case case5 => cases h
  all_goals obtain ⟨_, h', rfl⟩ := Option.map_eq_some_iff.1 h; constructor; exact h'

theorem serOfTys_nil {nm : Bytes} {l : List Dec} {vs : List SVal} (h : serOfTys nm .nil l = some vs) : l = [] ∧ vs = [] := by
  cases l <;> simp [serOfTys] at h
  exact ⟨rfl, h⟩

theorem serOfTys_cons {nm : Bytes} {t : Ty} {r : Tys} {l : List Dec} {vs : List SVal}
    (h : serOfTys nm (.cons t r) l = some vs) :
    ∃ d l' v vs', l = d :: l' ∧ vs = v :: vs' ∧ serOf nm t d = some v ∧ serOfTys nm r l' = some vs' := by
  cases l with
  | nil => simp [serOfTys] at h
  | cons d l' =>
    rw [serOfTys] at h
    split at h
    · rename_i v vs' h1 h2
      exact ⟨d, l', v, vs', rfl, (Option.some.inj h).symm, h1, h2⟩
    · cases h

theorem serOfFields_nil {nm : Bytes} {l : List (Bytes × Dec)} {fields : List (Bytes × SVal)}
    (h : serOfFields nm .nil l = some fields) : l = [] ∧ fields = [] := by
  cases l <;> simp [serOfFields] at h
  exact ⟨rfl, h⟩

theorem serOfFields_cons {nm name : Bytes} {t : Ty} {dflt : Bool} {r : Fields} {l : List (Bytes × Dec)}
    {fields : List (Bytes × SVal)} (h : serOfFields nm (.cons name t dflt r) l = some fields) :
    ∃ k d l' v vs, l = (k, d) :: l' ∧ fields = (name, v) :: vs ∧ serOf nm t d = some v ∧
      serOfFields nm r l' = some vs := by
  cases l with
  | nil => simp [serOfFields] at h
  | cons kd l' =>
    rw [serOfFields] at h
    split at h
    · rename_i v vs h1 h2
      exact ⟨kd.1, kd.2, l', v, vs, rfl, (Option.some.inj h).symm, h1, h2⟩
    · cases h

theorem serOfVariants_cons {nm name : Bytes} {s : Shape} {r : Variants} {d : Dec} {v : SVal}
    (h : serOfVariants nm (.cons name s r) d = some v) :
    serOfShape nm s name d = some v ∨ serOfVariants nm r d = some v := by
  unfold serOfVariants at h
  split at h
  all_goals first
    | (split at h
       · exact .inl h
       · exact .inr h)
    | cases h

theorem svalOfSer_notNone (s : Ser) : isNoneS (svalOfSer s) = false := by
  cases s <;> simp [svalOfSer, isNoneS]

theorem serOfVariants_dnone (nm : Bytes) : ∀ vs, serOfVariants nm vs .none = none
  | .nil => by simp [serOfVariants]
  | .cons _ _ _ => by simp [serOfVariants]

theorem serOfShape_notNone (nm : Bytes) (s : Shape) (n : Bytes) (d : Dec) (v : SVal) (h : serOfShape nm s n d = some v) :
    isNoneS v = false := by
  cases serOfShape_step h <;> rfl

theorem serOfVariants_notNone (nm : Bytes) : ∀ (vs : Variants) (d : Dec) (v : SVal), serOfVariants nm vs d = some v →
    isNoneS v = false
  | .nil, d, v, h => by simp [serOfVariants] at h
  | .cons name s r, d, v, h => by
    rcases serOfVariants_cons h with h | h
    · exact serOfShape_notNone nm s name _ v h
    · exact serOfVariants_notNone nm r _ v h

theorem isNoneDec_eq (d : Dec) (h : isNoneDec d = true) : d = .none := by
  cases d <;> simp [isNoneDec] at h ⊢

theorem serOf_isNone (nm : Bytes) (t : Ty) (d : Dec) (v : SVal) (h : serOf nm t d = some v) :
    isNoneS v = isNoneDec d ∧ (isNoneDec d = true → ∃ t', t = .option t') := by
  cases serOf_step h with
  | none t => exact ⟨rfl, fun _ => ⟨t, rfl⟩⟩
  | value w => exact ⟨svalOfSer_notNone _, nofun⟩
  | enum vs d v h =>
    rw [serOfVariants_notNone nm _ d v h]
    cases hd : isNoneDec d with
    | false => exact ⟨rfl, nofun⟩
    | true => rw [isNoneDec_eq d hd, serOfVariants_dnone] at h; cases h
  | _ => exact ⟨rfl, nofun⟩

theorem serOfFields_keys (nm : Bytes) : ∀ (fs : Fields) (l : List (Bytes × Dec)) (fields : List (Bytes × SVal)),
    serOfFields nm fs l = some fields → fields.map Prod.fst = Fields.names fs
  | .nil, [], fields, h => by simp only [serOfFields, Option.some.injEq] at h; subst h; rfl
  | .nil, _ :: _, _, h => by simp [serOfFields] at h
  | .cons _ _ _ _, [], _, h => by simp [serOfFields] at h
  | .cons name t dflt r, (k, d) :: l, fields, h => by
    unfold serOfFields at h
    split at h
    · rename_i v vs hv hvs
      injection h with h
      subst h
      simp [Fields.names, serOfFields_keys nm r l vs hvs]
    · cases h

theorem widthOf_not128 (lo hi : Int) : is128 (widthOf lo hi) = false := by
  unfold widthOf
  simp only [apply_ite is128]
  simp only [is128, ite_self]

theorem widthOf_u64 (lo hi : Int) (h : widthOf lo hi = .u64) : hi = i64Max := by
  by_cases h1 : (lo == 0 && hi == i64Max) = true
  · exact eq_of_beq (Bool.and_eq_true_iff.1 h1).2
  · simp only [widthOf, if_neg h1, apply_ite (· = IntW.u64), reduceCtorEq, ite_self] at h

def variantName : Dec → Option Bytes
  | .vUnit n => some n
  | .vNewtype n _ => some n
  | .vTuple n _ => some n
  | .vStruct n _ => some n
  | _ => none

theorem dtShapeList_mapO {α} (f : α → Option SVal) (hf : ∀ a v, f a = some v → dtShape true v = true) :
    ∀ (l : List α) (vs : List SVal), mapO f l = some vs → dtShapeList true vs = true
  | [], vs, h => by simp only [mapO, Option.some.injEq] at h; subst h; rfl
  | a :: r, vs, h => by
    obtain ⟨b, l', rfl, hb, hl⟩ := mapO_cons f a r vs h
    simp [dtShapeList, hf a b hb, dtShapeList_mapO f hf r l' hl]

theorem dtShapeMap_mapO {α} (f : α → Option (SVal × SVal)) (hf : ∀ a kv, f a = some kv → dtShape true kv.2 = true) :
    ∀ (l : List α) (kvs : List (SVal × SVal)), mapO f l = some kvs → dtShapeMap true kvs = true
  | [], vs, h => by simp only [mapO, Option.some.injEq] at h; subst h; rfl
  | a :: r, vs, h => by
    obtain ⟨b, l', rfl, hb, hl⟩ := mapO_cons f a r vs h
    obtain ⟨k, v⟩ := b
    simp [dtShapeMap, hf a (k, v) hb, dtShapeMap_mapO f hf r l' hl]

theorem serOfShape_root (nm : Bytes) (s : Shape) (n : Bytes) (d : Dec) (v : SVal) (h : serOfShape nm s n d = some v) :
    datetimeRoot v = false := by
  cases serOfShape_step h <;> rfl

theorem serOfVariants_root (nm : Bytes) : ∀ (vs : Variants) (d : Dec) (v : SVal), serOfVariants nm vs d = some v →
    datetimeRoot v = false
  | .nil, d, v, h => by simp [serOfVariants] at h
  | .cons name s r, d, v, h => by
    rcases serOfVariants_cons h with h | h
    · exact serOfShape_root nm s name d v h
    · exact serOfVariants_root nm r d v h

theorem serOf_datetimeRoot (nm : Bytes) (hnm : (nm == dtName) = false) (t : Ty) (d : Dec) (v : SVal)
    (hv : hasValue t = false) (ht : isDtTy t = false) (h : serOf nm t d = some v) : datetimeRoot v = false := by
  cases serOf_step h with
  | datetime | date | time => cases ht
  | value => cases hv
  | struct => exact hnm
  | enum vs d v h => exact serOfVariants_root nm vs d v h
  | _ => rfl

end TomlVerif.Lemmas.SerTyped07
