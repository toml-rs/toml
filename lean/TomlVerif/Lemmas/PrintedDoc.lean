import TomlVerif.Props.C01Doc
/-! Documents a printer writes, as documents of the grammar. A printer's text is a list of lines ended by LF:
    `key = value` lines whose key is written by `writeKey .default` and stands flush left, `[path]` / `[[path]]` lines,
    blank lines. Each is a well-formed `QLine`, so by the completeness of the parser for the grammar parsing the text is
    running the definition state machine over the statements of the lines (`parseDocument_lines`): a proof that some
    printer's text is read back compares the printer with `renderLinesQ` and never looks at the statement loop. -/
namespace TomlVerif.Lemmas.PrintedDoc
open TomlVerif TomlVerif.Spec TomlVerif.Model
open TomlVerif.Model.Value (LIMIT)
open TomlVerif.Model.State TomlVerif.Model.Doc
open TomlVerif.Spec.AstValue TomlVerif.Spec.AstValueQ TomlVerif.Spec.AstDoc TomlVerif.Spec.AstDocQ
open TomlVerif.Lemmas.State09
open TomlVerif.Lemmas.Value01 (commentBytes)
open TomlVerif.Lemmas.SoundDoc01 (commentOK_none)

theorem parseDocument_lines (ls : List (QLine × Bool)) (h : ∀ p ∈ ls, p.1.WF) :
    parseDocument (renderLinesQ ls) = (run {} (stmtsLinesQ ls)).bind intoDocument := by
  have := SoundDoc01C.parseDocument_renderQ ⟨false, ls, none⟩ ⟨h, fun _ e => nomatch e⟩
  simpa [QDoc.render, QDoc.stmts, bomBytes, renderLastQ, stmtsLastQ] using this


theorem keyText_written (k : Bytes) : KeyText ((Write.writeKey .default k).getD []) k := by
  cases hw : Write.writeKey .default k with
  | none => have := Props.C10.T10_key_default_total k; rw [hw] at this; cases this
  | some tok =>
    exact ((keySegOK_iff ⟨[], tok, k, []⟩).1
      (Props.C01Doc.T01_keyseg_written .default [] k tok [] AllWs.nil AllWs.nil hw)).2.2

def qkey (k : Bytes) : QKey := ⟨[], (Write.writeKey .default k).getD [], k, []⟩

/-- not meant for the empty path -/
def pathKey : List Bytes → QDKey
  | [] => ⟨qkey [], []⟩
  | k0 :: ks => ⟨qkey k0, ks.map qkey⟩

theorem qkey_wf (k : Bytes) : (qkey k).WF := ⟨AllWs.nil, AllWs.nil, keyText_written k⟩

theorem pathKey_wf (path : List Bytes) (hne : path ≠ []) (hl : path.length < LIMIT) : (pathKey path).WF := by
  cases path with
  | nil => exact absurd rfl hne
  | cons k0 ks =>
    refine ⟨qkey_wf k0, ?_, by simpa [pathKey] using hl⟩
    intro x hx
    obtain ⟨k, _, rfl⟩ := List.mem_map.1 hx
    exact qkey_wf k

theorem pathKey_keys (path : List Bytes) (hne : path ≠ []) : (pathKey path).keys = path := by
  cases path with
  | nil => exact absurd rfl hne
  | cons k0 ks => simp [pathKey, QDKey.keys, qkey, Function.comp_def]

theorem pathKey_render (k0 : Bytes) (ks : List Bytes) :
    (pathKey (k0 :: ks)).render =
      (Write.writeKey .default k0).getD [] ++ (ks.map fun k => 0x2E :: (Write.writeKey .default k).getD []).flatten := by
  have : ∀ ks : List Bytes,
      renderQKeySep (ks.map qkey) = (ks.map fun k => 0x2E :: (Write.writeKey .default k).getD []).flatten := by
    intro ks
    induction ks with
    | nil => rfl
    | cons k r ih => simp [renderQKeySep, qkey, QKey.render, ih]
  simp [pathKey, QDKey.render, qkey, QKey.render, this]

def hdrLineQ (isArray : Bool) (path : List Bytes) : QLine :=
  if isArray then .aot [] (pathKey path) [] none else .std [] (pathKey path) [] none

theorem hdrLineQ_wf (isArray : Bool) (path : List Bytes) (hne : path ≠ []) (hl : path.length < LIMIT) :
    (hdrLineQ isArray path).WF := by
  cases isArray <;> exact ⟨AllWs.nil, pathKey_wf path hne hl, AllWs.nil, commentOK_none⟩

theorem hdrLineQ_stmt (isArray : Bool) (path : List Bytes) (hne : path ≠ []) :
    (hdrLineQ isArray path).stmt = some (if isArray then .arr path else .std path) := by
  cases isArray <;> simp [hdrLineQ, QLine.stmt, pathKey_keys path hne]

theorem hdrLineQ_render (isArray : Bool) (path : List Bytes) :
    (hdrLineQ isArray path).render =
      if isArray then 0x5B :: 0x5B :: ((pathKey path).render ++ [0x5D, 0x5D]) else 0x5B :: ((pathKey path).render ++ [0x5D]) := by
  cases isArray <;> simp [hdrLineQ, QLine.render, commentBytes]

def kvLineQ (k : Bytes) (q : QVal) : QLine :=
  .keyval ⟨⟨[], (Write.writeKey .default k).getD [], k, [0x20]⟩, []⟩ [0x20] q [] none

theorem kvLineQ_wf (k : Bytes) (q : QVal) (hq : WFQ q) (hd : depthQ q < LIMIT) : (kvLineQ k q).WF :=
  ⟨⟨⟨AllWs.nil, AllWs.sp, keyText_written k⟩, nofun, by simp [LIMIT]⟩, AllWs.sp, hq, by simpa using hd, AllWs.nil,
    commentOK_none⟩

theorem kvLineQ_stmt (k : Bytes) (q : QVal) : (kvLineQ k q).stmt = some (.kv [] k (semQ q)) := by
  simp [kvLineQ, QLine.stmt, QDKey.path, QDKey.last, splitKeys]

theorem kvLineQ_render (k : Bytes) (q : QVal) :
    (kvLineQ k q).render = (Write.writeKey .default k).getD [] ++ 0x20 :: 0x3D :: 0x20 :: renderQ q := by
  simp [kvLineQ, QLine.render, QDKey.render, QKey.render, renderQKeySep, commentBytes]

end TomlVerif.Lemmas.PrintedDoc
