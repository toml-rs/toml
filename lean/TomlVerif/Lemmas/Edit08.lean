import TomlVerif.Model.Edit
import TomlVerif.Lemmas.CstEraseKey
import TomlVerif.Lemmas.SortModel
/-! Lemmas about `Model/Edit.lean`, in the three layers a fact about edits goes through: path updates and
    lookups as rules (the induction principles the invariants of path updates are instances of); an applied
    op as a relation (`Applied`); histories (`run_rel`). After them: the arena only grows, and the entry-list
    operations (`cinsert`, the sort, `insertAt`, `removeAt`) read by key text and through erasure. -/
namespace TomlVerif.Lemmas.Edit08
open TomlVerif TomlVerif.Model TomlVerif.Model.Cst TomlVerif.Model.Edit

/-! `updVal u p v = some v'` relates `v` and `v'` by rules, one for each equation of `updVal` / `updElems` /
    `updKvs` that can return `some`; likewise `updTbl` and the lookups. A property of path updates is proved by
    showing that it is closed under the rules. -/

theorem updVal_rel (u : Upd) {PV : List Seg → CVal → CVal → Prop}
    {PK : Bytes → List Seg → List (CKey × CVal) → List (CKey × CVal) → Prop}
    {PE : Nat → List Seg → List CVal → List CVal → Prop}
    (here : ∀ v v', u.val v = some v' → PV [] v v')
    (arr : ∀ s r i items items' tr c d sp, s.idx = some i → PE i r items items' →
      PV (s :: r) (.arr items tr c d sp) (.arr items' tr c d sp))
    (inl : ∀ s r k items items' pre imp dot d sp, s.key = some k → PK k r items items' →
      PV (s :: r) (.inl items pre imp dot d sp) (.inl items' pre imp dot d sp))
    (zero : ∀ r v v' rest, PV r v v' → PE 0 r (v :: rest) (v' :: rest))
    (succ : ∀ i r v rest rest', PE i r rest rest' → PE (i + 1) r (v :: rest) (v :: rest'))
    (hit : ∀ k r k' v v' rest, (k'.key == k) = true → PV r v v' →
      PK k r ((k', v) :: rest) ((k', v') :: rest))
    (miss : ∀ k r k' v rest rest', (k'.key == k) = false → PK k r rest rest' →
      PK k r ((k', v) :: rest) ((k', v) :: rest')) :
    (∀ p v v', updVal u p v = some v' → PV p v v') ∧
    (∀ k r l l', updKvs u k r l = some l' → PK k r l l') ∧
    (∀ i r l l', updElems u i r l = some l' → PE i r l l') := by
  refine updVal.mutual_induct
    (motive_1 := fun p v => ∀ v', updVal u p v = some v' → PV p v v')
    (motive_2 := fun k r l => ∀ l', updKvs u k r l = some l' → PK k r l l')
    (motive_3 := fun i r l => ∀ l', updElems u i r l = some l' → PE i r l l')
    ?_ ?_ ?_ ?_ ?_ ?_ ?_ ?_ ?_ ?_ ?_ ?_
  · intro v v' h
    exact here v v' (by simpa only [updVal] using h)
  · intro _ _ _ _ _ _ h
    simp [updVal] at h
  · intro s r items tr c d sp i hi ih v' h
    simp only [updVal, hi] at h
    obtain ⟨items', hu, rfl⟩ := Option.map_eq_some_iff.mp h
    exact arr s r i items items' tr c d sp hi (ih _ hu)
  · intro s r items tr c d sp hi v' h
    simp [updVal, hi] at h
  · intro s r items pre imp dot d sp k hi ih v' h
    simp only [updVal, hi] at h
    obtain ⟨items', hu, rfl⟩ := Option.map_eq_some_iff.mp h
    exact inl s r k items items' pre imp dot d sp hi (ih _ hu)
  · intro s r items pre imp dot d sp hi v' h
    simp [updVal, hi] at h
  · intro _ _ _ h
    simp [updElems] at h
  · intro r v rest ih l' h
    simp only [updElems] at h
    obtain ⟨v', hu, rfl⟩ := Option.map_eq_some_iff.mp h
    exact zero r v v' rest (ih _ hu)
  · intro i r v rest ih l' h
    simp only [updElems] at h
    obtain ⟨rest', hu, rfl⟩ := Option.map_eq_some_iff.mp h
    exact succ i r v rest rest' (ih _ hu)
  · intro _ _ _ h
    simp [updKvs] at h
  · intro k r k' v rest hk ih l' h
    simp only [updKvs, hk, if_true] at h
    obtain ⟨v', hu, rfl⟩ := Option.map_eq_some_iff.mp h
    exact hit k r k' v v' rest hk (ih _ hu)
  · intro k r k' v rest hk ih l' h
    simp only [updKvs, hk] at h
    obtain ⟨rest', hu, rfl⟩ := Option.map_eq_some_iff.mp h
    exact miss k r k' v rest rest' (Bool.eq_false_iff.mpr hk) (ih _ hu)

theorem updTbl_rel (u : Upd) {PT : List Seg → CTbl → CTbl → Prop}
    {PIs : Bytes → List Seg → List (CKey × CItem) → List (CKey × CItem) → Prop}
    {PI : List Seg → CItem → CItem → Prop}
    {PN : Nat → List Seg → List CTbl → List CTbl → Prop}
    (here : ∀ t t', u.tbl t = some t' → PT [] t t')
    (mk : ∀ s r k items items' imp dot p dec sp, s.key = some k → PIs k r items items' →
      PT (s :: r) (.mk items imp dot p dec sp) (.mk items' imp dot p dec sp))
    (value : ∀ r v v', updVal u r v = some v' → PI r (.value v) (.value v'))
    (table : ∀ r t t', PT r t t' → PI r (.table t) (.table t'))
    (aotHere : ∀ ts ts' sp, u.aot ts = some ts' → PI [] (.aot ts sp) (.aot ts' sp))
    (aot : ∀ s r i ts ts' sp, s.idx = some i → PN i r ts ts' → PI (s :: r) (.aot ts sp) (.aot ts' sp))
    (zero : ∀ r t t' rest, PT r t t' → PN 0 r (t :: rest) (t' :: rest))
    (succ : ∀ i r t rest rest', PN i r rest rest' → PN (i + 1) r (t :: rest) (t :: rest'))
    (hit : ∀ k r k' it it' rest, (k'.key == k) = true → PI r it it' →
      PIs k r ((k', it) :: rest) ((k', it') :: rest))
    (miss : ∀ k r k' it rest rest', (k'.key == k) = false → PIs k r rest rest' →
      PIs k r ((k', it) :: rest) ((k', it) :: rest')) :
    (∀ p t t', updTbl u p t = some t' → PT p t t') ∧
    (∀ k r l l', updItems u k r l = some l' → PIs k r l l') ∧
    (∀ r it it', updItem u r it = some it' → PI r it it') ∧
    (∀ i r l l', updNth u i r l = some l' → PN i r l l') := by
  refine updTbl.mutual_induct
    (motive_1 := fun p t => ∀ t', updTbl u p t = some t' → PT p t t')
    (motive_2 := fun k r l => ∀ l', updItems u k r l = some l' → PIs k r l l')
    (motive_3 := fun r it => ∀ it', updItem u r it = some it' → PI r it it')
    (motive_4 := fun i r l => ∀ l', updNth u i r l = some l' → PN i r l l')
    ?_ ?_ ?_ ?_ ?_ ?_ ?_ ?_ ?_ ?_ ?_ ?_ ?_ ?_
  · intro r v it' h
    simp only [updItem] at h
    obtain ⟨v', hu, rfl⟩ := Option.map_eq_some_iff.mp h
    exact value r v v' hu
  · intro r t ih it' h
    simp only [updItem] at h
    obtain ⟨t', hu, rfl⟩ := Option.map_eq_some_iff.mp h
    exact table r t t' (ih _ hu)
  · intro ts sp it' h
    simp only [updItem] at h
    obtain ⟨ts', hu, rfl⟩ := Option.map_eq_some_iff.mp h
    exact aotHere ts ts' sp hu
  · intro s r ts sp i hi ih it' h
    simp only [updItem, hi] at h
    obtain ⟨ts', hu, rfl⟩ := Option.map_eq_some_iff.mp h
    exact aot s r i ts ts' sp hi (ih _ hu)
  · intro s r ts sp hi it' h
    simp [updItem, hi] at h
  · intro t t' h
    exact here t t' (by simpa only [updTbl] using h)
  · intro s r items imp dot p dec sp k hi ih t' h
    simp only [updTbl, hi] at h
    obtain ⟨items', hu, rfl⟩ := Option.map_eq_some_iff.mp h
    exact mk s r k items items' imp dot p dec sp hi (ih _ hu)
  · intro s r items imp dot p dec sp hi t' h
    simp [updTbl, hi] at h
  · intro _ _ _ h
    simp [updNth] at h
  · intro r t rest ih l' h
    simp only [updNth] at h
    obtain ⟨t', hu, rfl⟩ := Option.map_eq_some_iff.mp h
    exact zero r t t' rest (ih _ hu)
  · intro i r t rest ih l' h
    simp only [updNth] at h
    obtain ⟨rest', hu, rfl⟩ := Option.map_eq_some_iff.mp h
    exact succ i r t rest rest' (ih _ hu)
  · intro _ _ _ h
    simp [updItems] at h
  · intro k r k' it rest hk ih l' h
    simp only [updItems, hk, if_true] at h
    obtain ⟨it', hu, rfl⟩ := Option.map_eq_some_iff.mp h
    exact hit k r k' it it' rest hk (ih _ hu)
  · intro k r k' it rest hk ih l' h
    simp only [updItems, hk] at h
    obtain ⟨rest', hu, rfl⟩ := Option.map_eq_some_iff.mp h
    exact miss k r k' it rest rest' (Bool.eq_false_iff.mpr hk) (ih _ hu)

theorem lookupVal_rel {PV : List Seg → CVal → Node → Prop}
    {PK : Bytes → List Seg → List (CKey × CVal) → Node → Prop}
    {PE : Nat → List Seg → List CVal → Node → Prop}
    (here : ∀ v, PV [] v (.val v))
    (arr : ∀ s r i items tr c d sp n, s.idx = some i → PE i r items n → PV (s :: r) (.arr items tr c d sp) n)
    (inl : ∀ s r k items pre imp dot d sp n, s.key = some k → PK k r items n →
      PV (s :: r) (.inl items pre imp dot d sp) n)
    (zero : ∀ r v rest n, PV r v n → PE 0 r (v :: rest) n)
    (succ : ∀ i r v rest n, PE i r rest n → PE (i + 1) r (v :: rest) n)
    (hit : ∀ k r k' v rest n, (k'.key == k) = true → PV r v n → PK k r ((k', v) :: rest) n)
    (miss : ∀ k r k' v rest n, (k'.key == k) = false → PK k r rest n → PK k r ((k', v) :: rest) n) :
    (∀ p v n, lookupVal p v = some n → PV p v n) ∧
    (∀ k r l n, lookupKvs k r l = some n → PK k r l n) ∧
    (∀ i r l n, lookupElems i r l = some n → PE i r l n) := by
  refine lookupVal.mutual_induct
    (motive_1 := fun p v => ∀ n, lookupVal p v = some n → PV p v n)
    (motive_2 := fun k r l => ∀ n, lookupKvs k r l = some n → PK k r l n)
    (motive_3 := fun i r l => ∀ n, lookupElems i r l = some n → PE i r l n)
    ?_ ?_ ?_ ?_ ?_ ?_ ?_ ?_ ?_ ?_ ?_ ?_
  · intro v n h
    simp only [lookupVal, Option.some.injEq] at h
    exact h ▸ here v
  · intro _ _ _ _ _ _ h
    simp [lookupVal] at h
  · intro s r items tr c d sp i hi ih n h
    simp only [lookupVal, hi] at h
    exact arr s r i items tr c d sp n hi (ih n h)
  · intro s r items tr c d sp hi n h
    simp [lookupVal, hi] at h
  · intro s r items pre imp dot d sp k hi ih n h
    simp only [lookupVal, hi] at h
    exact inl s r k items pre imp dot d sp n hi (ih n h)
  · intro s r items pre imp dot d sp hi n h
    simp [lookupVal, hi] at h
  · intro _ _ _ h
    simp [lookupElems] at h
  · intro r v rest ih n h
    simp only [lookupElems] at h
    exact zero r v rest n (ih n h)
  · intro i r v rest ih n h
    simp only [lookupElems] at h
    exact succ i r v rest n (ih n h)
  · intro _ _ _ h
    simp [lookupKvs] at h
  · intro k r k' v rest hk ih n h
    simp only [lookupKvs, hk, if_true] at h
    exact hit k r k' v rest n hk (ih n h)
  · intro k r k' v rest hk ih n h
    simp only [lookupKvs, hk] at h
    exact miss k r k' v rest n (Bool.eq_false_iff.mpr hk) (ih n h)

theorem lookupTbl_rel {PT : List Seg → CTbl → Node → Prop}
    {PIs : Bytes → List Seg → List (CKey × CItem) → Node → Prop}
    {PI : List Seg → CItem → Node → Prop}
    {PN : Nat → List Seg → List CTbl → Node → Prop}
    (here : ∀ t, PT [] t (.tbl t))
    (mk : ∀ s r k items imp dot p dec sp n, s.key = some k → PIs k r items n →
      PT (s :: r) (.mk items imp dot p dec sp) n)
    (value : ∀ r v n, lookupVal r v = some n → PI r (.value v) n)
    (table : ∀ r t n, PT r t n → PI r (.table t) n)
    (aotHere : ∀ ts sp, PI [] (.aot ts sp) (.aot ts sp))
    (aot : ∀ s r i ts sp n, s.idx = some i → PN i r ts n → PI (s :: r) (.aot ts sp) n)
    (zero : ∀ r t rest n, PT r t n → PN 0 r (t :: rest) n)
    (succ : ∀ i r t rest n, PN i r rest n → PN (i + 1) r (t :: rest) n)
    (hit : ∀ k r k' it rest n, (k'.key == k) = true → PI r it n → PIs k r ((k', it) :: rest) n)
    (miss : ∀ k r k' it rest n, (k'.key == k) = false → PIs k r rest n → PIs k r ((k', it) :: rest) n) :
    (∀ p t n, lookupTbl p t = some n → PT p t n) ∧
    (∀ k r l n, lookupItems k r l = some n → PIs k r l n) ∧
    (∀ r it n, lookupItem r it = some n → PI r it n) ∧
    (∀ i r l n, lookupNth i r l = some n → PN i r l n) := by
  refine lookupTbl.mutual_induct
    (motive_1 := fun p t => ∀ n, lookupTbl p t = some n → PT p t n)
    (motive_2 := fun k r l => ∀ n, lookupItems k r l = some n → PIs k r l n)
    (motive_3 := fun r it => ∀ n, lookupItem r it = some n → PI r it n)
    (motive_4 := fun i r l => ∀ n, lookupNth i r l = some n → PN i r l n)
    ?_ ?_ ?_ ?_ ?_ ?_ ?_ ?_ ?_ ?_ ?_ ?_ ?_ ?_
  · intro r v n h
    simp only [lookupItem] at h
    exact value r v n h
  · intro r t ih n h
    simp only [lookupItem] at h
    exact table r t n (ih n h)
  · intro ts sp n h
    simp only [lookupItem, Option.some.injEq] at h
    exact h ▸ aotHere ts sp
  · intro s r ts sp i hi ih n h
    simp only [lookupItem, hi] at h
    exact aot s r i ts sp n hi (ih n h)
  · intro s r ts sp hi n h
    simp [lookupItem, hi] at h
  · intro t n h
    simp only [lookupTbl, Option.some.injEq] at h
    exact h ▸ here t
  · intro s r items imp dot p dec sp k hi ih n h
    simp only [lookupTbl, hi] at h
    exact mk s r k items imp dot p dec sp n hi (ih n h)
  · intro s r items imp dot p dec sp hi n h
    simp [lookupTbl, hi] at h
  · intro _ _ _ h
    simp [lookupNth] at h
  · intro r t rest ih n h
    simp only [lookupNth] at h
    exact zero r t rest n (ih n h)
  · intro i r t rest ih n h
    simp only [lookupNth] at h
    exact succ i r t rest n (ih n h)
  · intro _ _ _ h
    simp [lookupItems] at h
  · intro k r k' it rest hk ih n h
    simp only [lookupItems, hk, if_true] at h
    exact hit k r k' it rest n hk (ih n h)
  · intro k r k' it rest hk ih n h
    simp only [lookupItems, hk] at h
    exact miss k r k' it rest n (Bool.eq_false_iff.mpr hk) (ih n h)

/-- two segments that cannot select the same child: in a table-like (selection by key) and in an
    array-like (selection by index) -/
def SegDiffer (a b : Seg) : Prop :=
  (a.key = none ∨ a.key ≠ b.key) ∧ (a.idx = none ∨ a.idx ≠ b.idx)

/-- the paths share a (possibly empty) common prefix and then continue with differing segments:
    neither leads into the subtree of the other -/
inductive Diverge : List Seg → List Seg → Prop
  | here {a b : Seg} {p q : List Seg} : SegDiffer a b → Diverge (a :: p) (b :: q)
  | step {a : Seg} {p q : List Seg} : Diverge p q → Diverge (a :: p) (a :: q)

theorem Diverge.key {a b : Seg} {p q : List Seg} (h : Diverge (a :: p) (b :: q)) {k j : Bytes}
    (ha : a.key = some k) (hb : b.key = some j) : j ≠ k ∨ (j = k ∧ Diverge p q) := by
  cases h with
  | here hd =>
    refine .inl fun e => ?_
    rcases hd.1 with h0 | h0
    · rw [ha] at h0; cases h0
    · exact h0 (by rw [ha, hb, e])
  | step hd => exact .inr ⟨Option.some.inj (hb.symm.trans ha), hd⟩

theorem Diverge.idx {a b : Seg} {p q : List Seg} (h : Diverge (a :: p) (b :: q)) {i j : Nat}
    (ha : a.idx = some i) (hb : b.idx = some j) : j ≠ i ∨ (j = i ∧ Diverge p q) := by
  cases h with
  | here hd =>
    refine .inl fun e => ?_
    rcases hd.2 with h0 | h0
    · rw [ha] at h0; cases h0
    · exact h0 (by rw [ha, hb, e])
  | step hd => exact .inr ⟨Option.some.inj (hb.symm.trans ha), hd⟩

/-! `Applied st p op st'` lists what `applyOp st op p = some st'` consists of: the arena with the texts the op
    creates appended (`op.texts`; for `tpush` the key `n` and the length of the array of tables found at `p`),
    the lookup `tpush` and `mv` start with, and one path update (two for `mv`) whose node updates were handed
    the `RawString`s of those texts. A fact about one op is a case analysis over it; `run_rel` lifts facts about
    one op to histories. -/

inductive Applied (st : St) (p : List Seg) : Op → St → Prop
  | upd {op : Op} {rs : List Raw} {inp' : Bytes} {r : CTbl} : op ≠ .tpush → (∀ k p2, op ≠ .mv k p2) →
      allocAll st.inp op.texts = (inp', rs) → updTbl (op.upd rs) p st.doc.root = some r →
      Applied st p op ⟨inp', { st.doc with root := r }⟩
  | tpush {ts : List CTbl} {sp : Option Span} {rs : List Raw} {inp' : Bytes} {r : CTbl} :
      lookupTbl p st.doc.root = some (.aot ts sp) →
      allocAll st.inp [[0x6E], Numbers.writeInt ts.length] = (inp', rs) →
      updTbl ⟨noTbl, noVal, aotPush (rs.getD 0 .empty) (rs.getD 1 .empty)⟩ p st.doc.root = some r →
      Applied st p .tpush ⟨inp', { st.doc with root := r }⟩
  | mv {k : Bytes} {p2 : List Seg} {n : Node} {rs : List Raw} {inp' : Bytes} {r1 r : CTbl} :
      lookupTbl (p ++ [keySeg k]) st.doc.root = some n → allocAll st.inp (Op.mv k p2).texts = (inp', rs) →
      updTbl ⟨tblDel k, inlDel k, noAot⟩ p st.doc.root = some r1 →
      updTbl ⟨tblPut k (rs.getD 0 .empty) (nodeItem n),
        inlPut k (rs.getD 0 .empty) (rs.getD 1 .empty) (nodeItem n), noAot⟩ p2 r1 = some r →
      Applied st p (.mv k p2) ⟨inp', { st.doc with root := r }⟩

theorem applyOp_applied {st st' : St} {op : Op} {p : List Seg} (h : applyOp st op p = some st') :
    Applied st p op st' := by
  unfold applyOp at h
  cases op with
  | mv k p2 =>
    obtain ⟨r, hm, rfl⟩ := Option.map_eq_some_iff.mp h
    unfold mvTree at hm
    split at hm
    · cases hm
    · rename_i n hn
      split at hm
      · cases hm
      · rename_i r1 h1
        exact .mv hn rfl h1 hm
  | tpush =>
    obtain ⟨x, hm, rfl⟩ := Option.map_eq_some_iff.mp h
    unfold tpushUpd at hm
    split at hm
    · rename_i ts sp hl
      obtain ⟨r, hu, rfl⟩ := Option.map_eq_some_iff.mp hm
      exact .tpush hl rfl hu
    · cases hm
  | set k v | del k | newt k | viv k1 k2 v | sort | fmt | push v | ains i v | arepl i v | adel i
  | tdel i | inl k | tbl k | aot2arr k | arr2aot k =>
    obtain ⟨r, hm, rfl⟩ := Option.map_eq_some_iff.mp h
    exact .upd nofun (fun _ _ => nofun) rfl hm

theorem applyOp_rel (R : CTbl → CTbl → Prop) (trans : ∀ {a b c}, R a b → R b c → R a c)
    {st st' : St} {op : Op} {p : List Seg} (h : applyOp st op p = some st')
    (hp : ∀ u t t', updTbl u p t = some t' → R t t')
    (hp2 : ∀ k p2, op = .mv k p2 → ∀ u t t', updTbl u p2 t = some t' → R t t') :
    R st.doc.root st'.doc.root := by
  cases applyOp_applied h with
  | upd _ _ _ hu => exact hp _ _ _ hu
  | tpush _ _ hu => exact hp _ _ _ hu
  | mv _ _ h1 h2 => exact trans (hp _ _ _ h1) (hp2 _ _ rfl _ _ _ h2)

theorem run_rel (R : St → St → Prop) (refl : ∀ st, R st st) (trans : ∀ {a b c}, R a b → R b c → R a c)
    (C : Op × List Seg → Prop) (hstep : ∀ st e st', C e → applyOp st e.1 e.2 = some st' → R st st') :
    ∀ (es : List (Op × List Seg)) (st : St), (∀ e ∈ es, C e) → R st (run st es)
  | [], st, _ => refl st
  | e :: es, st, h => by
    have h1 : R st (step st e) := by
      unfold step
      cases ha : applyOp st e.1 e.2 with
      | none => exact refl st
      | some st' => exact hstep st e st' (h e List.mem_cons_self) ha
    exact trans h1 (run_rel R refl trans C hstep es (step st e) fun e' he' => h e' (List.mem_cons_of_mem _ he'))

theorem allocAll_prefix : ∀ (ts : List Bytes) {inp inp' : Bytes} {rs : List Raw}, allocAll inp ts = (inp', rs) →
    ∃ x, inp' = inp ++ x
  | [], inp, _, _, h => ⟨[], by cases h; simp⟩
  | t :: r, inp, _, _, h => by
    obtain ⟨x, hx⟩ := allocAll_prefix r (inp := inp ++ t) rfl
    cases h
    exact ⟨t ++ x, by simp only [mkRaw, hx, List.append_assoc]⟩

theorem applyOp_arena (st st' : St) (op : Op) (p : List Seg) (h : applyOp st op p = some st') :
    ∃ x, st'.inp = st.inp ++ x := by
  cases applyOp_applied h with
  | upd _ _ ha _ => exact allocAll_prefix _ ha
  | tpush _ ha _ => exact allocAll_prefix _ ha
  | mv _ ha _ _ => exact allocAll_prefix _ ha

theorem slice_append (inp x : Bytes) (a b : Nat) (hb : b ≤ inp.length) :
    Encode.slice (inp ++ x) a b = Encode.slice inp a b := by
  unfold Encode.slice
  by_cases hab : a ≤ b
  · rw [List.drop_append_of_le_length (by omega)]
    rw [List.take_append_of_le_length (by simp; omega)]
  · have : b - a = 0 := by omega
    simp [this]

/-! `mapKv f l` (`CstEraseKey.lean`) is the association list by key text of the entries `l`, with `f` applied to
    what is stored; `eraseItems`, `eraseKvs` and the plain entry lists of `Plain08.lean` are of this form. -/

-- `mapKv` and its lemmas stand in `CstEraseKey.lean` under the namespace of the C03 erasure; the C08 files use them
-- through `Edit08`
export TomlVerif.Lemmas.Tiling03More (mapKv mapKv_nil mapKv_cons mapKv_append alookup_mapKv mapKv_creplace
  mapKv_cerase mapKv_cset eraseKvs_eq eraseItems_eq)

section mapKv
variable {α β : Type} (f : α → β)

/-- `cinsert` re-keys an occupied entry; by key text it is `Model.aset` -/
theorem mapKv_cinsert (k : CKey) (v : α) (l : List (CKey × α)) :
    mapKv f (cinsert k v l) = aset k.key (f v) (mapKv f l) := by
  induction l with
  | nil => rfl
  | cons x r ih =>
    obtain ⟨k', v'⟩ := x
    by_cases hk : (k'.key == k.key) = true
    · have e : k'.key = k.key := by simpa using hk
      simp only [cinsert, mapKv_cons, aset, alookup, areplace, e, beq_self_eq_true, if_true]
    · have hk' : (k'.key == k.key) = false := by simpa using hk
      simp only [cinsert, hk', Bool.false_eq_true, if_false, mapKv_cons, ih, aset, alookup]
      cases alookup k.key (mapKv f r) <;> simp only [areplace, hk', Bool.false_eq_true, if_false, List.cons_append]

open TomlVerif.Spec.OrderedPlain in
/-- both sorts are the insertion sort of `Lemmas/Sort.lean`, and reading by key text respects the comparison -/
theorem mapKv_sortByCKey (l : List (CKey × α)) : mapKv f (sortByCKey l) = sortByKey (mapKv f l) :=
  Sort.sortByCKey_is.map Sort.sortByKey_is (fun p => (p.1.key, f p.2)) (fun _ _ => rfl) l

end mapKv

theorem erase_cinsert_items (k : CKey) (it : CItem) (l : List (CKey × CItem)) :
    eraseItems (cinsert k it l) = aset k.key (eraseItem it) (eraseItems l) := by
  simp only [eraseItems_eq, mapKv_cinsert]

theorem erase_cinsert_kvs (k : CKey) (v : CVal) (l : List (CKey × CVal)) :
    eraseKvs (cinsert k v l) = aset k.key (eraseVal v) (eraseKvs l) := by
  simp only [eraseKvs_eq, mapKv_cinsert]

theorem erase_cerase_items (k : Bytes) (l : List (CKey × CItem)) :
    eraseItems (cerase k l) = aerase k (eraseItems l) := by
  simp only [eraseItems_eq, mapKv_cerase]

theorem erase_cerase_kvs (k : Bytes) (l : List (CKey × CVal)) : eraseKvs (cerase k l) = aerase k (eraseKvs l) := by
  simp only [eraseKvs_eq, mapKv_cerase]

theorem erase_fmtItems : ∀ l : List (CKey × CItem), eraseItems (fmtItems l) = eraseItems l
  | [] => rfl
  | (k, .value v) :: r => by simp [fmtItems, eraseItems, eraseItem, clearKey, Tiling03More.eraseVal_setDecor, erase_fmtItems r]
  | (k, .table t) :: r => by simp [fmtItems, eraseItems, erase_fmtItems r]
  | (k, .aot ts sp) :: r => by simp [fmtItems, eraseItems, erase_fmtItems r]

theorem erase_fmtKvs : ∀ l : List (CKey × CVal), eraseKvs (fmtKvs l) = eraseKvs l
  | [] => rfl
  | (k, v) :: r => by simp [fmtKvs, eraseKvs, clearKey, Tiling03More.eraseVal_setDecor, erase_fmtKvs r]

theorem erase_fmtElems (sp : Raw) : ∀ (l : List CVal) (b : Bool), eraseVals (fmtElems sp l b) = eraseVals l
  | [], _ => rfl
  | v :: r, b => by simp [fmtElems, eraseVals, Tiling03More.eraseVal_setDecor, erase_fmtElems sp r false]

theorem map_insertAt {α β} (f : α → β) (x : α) : ∀ (i : Nat) (l : List α),
    (insertAt x i l).map f = insertAt (f x) i (l.map f)
  | 0, l => rfl
  | _ + 1, [] => rfl
  | i + 1, y :: r => by simp only [insertAt, List.map_cons, map_insertAt f x i r]

theorem map_removeAt {α β} (f : α → β) : ∀ (i : Nat) (l : List α), (removeAt i l).map f = removeAt i (l.map f)
  | _, [] => by simp only [removeAt, List.map_nil]
  | 0, _ :: r => rfl
  | i + 1, y :: r => by simp only [removeAt, List.map_cons, map_removeAt f i r]

theorem mem_insertAt {α} (x : α) : ∀ (i : Nat) (l : List α) (y : α), y ∈ insertAt x i l → y = x ∨ y ∈ l
  | 0, l, y, h => by simpa [insertAt] using h
  | _ + 1, [], y, h => by simp [insertAt] at h; exact Or.inl h
  | i + 1, z :: r, y, h => by
    simp only [insertAt, List.mem_cons] at h ⊢
    rcases h with h | h
    · exact Or.inr (Or.inl h)
    · rcases mem_insertAt x i r y h with h | h
      · exact Or.inl h
      · exact Or.inr (Or.inr h)

theorem mem_removeAt {α} : ∀ (i : Nat) (l : List α) (y : α), y ∈ removeAt i l → y ∈ l
  | _, [], y, h => by simp [removeAt] at h
  | 0, _ :: r, y, h => by simp only [removeAt] at h; exact List.mem_cons_of_mem _ h
  | i + 1, z :: r, y, h => by
    simp only [removeAt, List.mem_cons] at h ⊢
    rcases h with h | h
    · exact Or.inl h
    · exact Or.inr (mem_removeAt i r y h)

open TomlVerif.Spec.OrderedPlain in
theorem erase_sortByCKey_items (l : List (CKey × CItem)) : eraseItems (sortByCKey l) = sortByKey (eraseItems l) := by
  simp only [eraseItems_eq, mapKv_sortByCKey]

open TomlVerif.Spec.OrderedPlain in
theorem erase_sortByCKey_kvs (l : List (CKey × CVal)) : eraseKvs (sortByCKey l) = sortByKey (eraseKvs l) := by
  simp only [eraseKvs_eq, mapKv_sortByCKey]

end TomlVerif.Lemmas.Edit08
