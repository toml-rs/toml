import TomlVerif.Lemmas.PlainSort08
import TomlVerif.Lemmas.CstEraseState
import TomlVerif.Lemmas.TreeOK
/-! `sort` without the side condition on `dotted` (`SortFlat`, `PlainSort08.lean`): on the semantic tree of
    `Model/Tree.lean` (`eraseTbl`), which keeps the `dotted` flags, `Table::sort_values` /
    `InlineTable::sort_values` are functions, and path updates of the decorated tree commute with erasure to
    it. What remains is `NodeInlOK` at the node sorted, which holds in every document reached from a parsed
    one (`T08_clean_nodeInlOK`, Props/C08Parsed.lean). -/
namespace TomlVerif.Lemmas.Refine08bSem
open TomlVerif TomlVerif.Model TomlVerif.Model.Cst TomlVerif.Model.Edit TomlVerif.Lemmas.Edit08
open TomlVerif.Spec.OrderedPlain TomlVerif.Lemmas.Refine08bSort
open TomlVerif.Lemmas.Tiling03More (eraseTbl_dotted items_induct)
open TomlVerif.Lemmas.Cst03 (cval_induct)

structure SUpd where
  tbl : Tbl → Option Tbl
  val : Val → Option Val
  aot : List Tbl → Option (List Tbl)

mutual
def supdVal (u : SUpd) : List Seg → Val → Option Val
  | [], v => u.val v
  | s :: r, .arr items =>
    match s.idx with
    | some i => (supdElems u i r items).map .arr
    | none => none
  | s :: r, .inl items imp dot =>
    match s.key with
    | some k => (supdKvs u k r items).map fun items' => .inl items' imp dot
    | none => none
  | _ :: _, _ => none
def supdElems (u : SUpd) : Nat → List Seg → List Val → Option (List Val)
  | _, _, [] => none
  | 0, r, v :: rest => (supdVal u r v).map fun v' => v' :: rest
  | i + 1, r, v :: rest => (supdElems u i r rest).map fun rest' => v :: rest'
def supdKvs (u : SUpd) (k : Bytes) : List Seg → List (Bytes × Val) → Option (List (Bytes × Val))
  | _, [] => none
  | r, (k', v) :: rest =>
    if k' == k then (supdVal u r v).map fun v' => (k', v') :: rest
    else (supdKvs u k r rest).map fun rest' => (k', v) :: rest'
end

mutual
def supdTbl (u : SUpd) : List Seg → Tbl → Option Tbl
  | [], t => u.tbl t
  | s :: r, .mk items imp dot p =>
    match s.key with
    | some k => (supdItems u k r items).map fun items' => .mk items' imp dot p
    | none => none
def supdItems (u : SUpd) (k : Bytes) : List Seg → List (Bytes × Item) → Option (List (Bytes × Item))
  | _, [] => none
  | r, (k', it) :: rest =>
    if k' == k then (supdItem u r it).map fun it' => (k', it') :: rest
    else (supdItems u k r rest).map fun rest' => (k', it) :: rest'
def supdItem (u : SUpd) : List Seg → Item → Option Item
  | r, .value v => (supdVal u r v).map .value
  | r, .table t => (supdTbl u r t).map .table
  | [], .aot ts => (u.aot ts).map .aot
  | s :: r, .aot ts =>
    match s.idx with
    | some i => (supdNth u i r ts).map .aot
    | none => none
def supdNth (u : SUpd) : Nat → List Seg → List Tbl → Option (List Tbl)
  | _, _, [] => none
  | 0, r, t :: rest => (supdTbl u r t).map fun t' => t' :: rest
  | i + 1, r, t :: rest => (supdNth u i r rest).map fun rest' => t :: rest'
end

structure SRefines (u : Upd) (su : SUpd) : Prop where
  tbl : ∀ t t', u.tbl t = some t' → su.tbl (eraseTbl t) = some (eraseTbl t')
  val : ∀ v v', u.val v = some v' → su.val (eraseVal v) = some (eraseVal v')
  aot : ∀ ts ts', u.aot ts = some ts' → su.aot (eraseTbls ts) = some (eraseTbls ts')

variable {u : Upd} {su : SUpd}

theorem srefine_vals (hr : SRefines u su) :
    (∀ p v v', updVal u p v = some v' → supdVal su p (eraseVal v) = some (eraseVal v')) ∧
    (∀ k r l l', updKvs u k r l = some l' → supdKvs su k r (eraseKvs l) = some (eraseKvs l')) ∧
    (∀ i r l l', updElems u i r l = some l' → supdElems su i r (eraseVals l) = some (eraseVals l')) := by
  refine updVal_rel u ?here ?arr ?inl ?zero ?succ ?hit ?miss
  case here => intro v v' h; simpa [supdVal] using hr.val v v' h
  case arr => intro s r i items items' tr c d sp hi ih; simp [eraseVal, supdVal, hi, ih]
  case inl => intro s r k items items' pre imp dot d sp hi ih; simp [eraseVal, supdVal, hi, ih]
  case zero => intro r v v' rest ih; simp [eraseVals, supdElems, ih]
  case succ => intro i r v rest rest' ih; simp [eraseVals, supdElems, ih]
  case hit => intro k r k' v v' rest hk ih; simp [eraseKvs, supdKvs, hk, ih]
  case miss => intro k r k' v rest rest' hk ih; simp [eraseKvs, supdKvs, hk, ih]

theorem srefine_val (hr : SRefines u su) : ∀ (p : List Seg) (v v' : CVal), updVal u p v = some v' →
    supdVal su p (eraseVal v) = some (eraseVal v') :=
  (srefine_vals hr).1

theorem srefine_elems (hr : SRefines u su) : ∀ (i : Nat) (r : List Seg) (items items' : List CVal),
    updElems u i r items = some items' → supdElems su i r (eraseVals items) = some (eraseVals items') :=
  (srefine_vals hr).2.2

theorem srefine_kvs (hr : SRefines u su) (k : Bytes) : ∀ (r : List Seg) (items items' : List (CKey × CVal)),
    updKvs u k r items = some items' → supdKvs su k r (eraseKvs items) = some (eraseKvs items') :=
  (srefine_vals hr).2.1 k

theorem srefine_tbls (hr : SRefines u su) :
    (∀ p t t', updTbl u p t = some t' → supdTbl su p (eraseTbl t) = some (eraseTbl t')) ∧
    (∀ k r l l', updItems u k r l = some l' → supdItems su k r (eraseItems l) = some (eraseItems l')) ∧
    (∀ r it it', updItem u r it = some it' → supdItem su r (eraseItem it) = some (eraseItem it')) ∧
    (∀ i r l l', updNth u i r l = some l' → supdNth su i r (eraseTbls l) = some (eraseTbls l')) := by
  refine updTbl_rel u ?here ?mk ?value ?table ?aotHere ?aot ?zero ?succ ?hit ?miss
  case here => intro t t' h; simpa [supdTbl] using hr.tbl t t' h
  case mk => intro s r k items items' imp dot p dec sp hi ih; simp [eraseTbl, supdTbl, hi, ih]
  case value => intro r v v' h; simp [eraseItem, supdItem, srefine_val hr r v v' h]
  case table => intro r t t' ih; simp [eraseItem, supdItem, ih]
  case aotHere => intro ts ts' sp h; simp [eraseItem, supdItem, hr.aot ts ts' h]
  case aot => intro s r i ts ts' sp hi ih; simp [eraseItem, supdItem, hi, ih]
  case zero => intro r t t' rest ih; simp [eraseTbls, supdNth, ih]
  case succ => intro i r t rest rest' ih; simp [eraseTbls, supdNth, ih]
  case hit => intro k r k' it it' rest hk ih; simp [eraseItems, supdItems, hk, ih]
  case miss => intro k r k' it rest rest' hk ih; simp [eraseItems, supdItems, hk, ih]

theorem srefine_tbl (hr : SRefines u su) : ∀ (p : List Seg) (t t' : CTbl), updTbl u p t = some t' →
    supdTbl su p (eraseTbl t) = some (eraseTbl t') :=
  (srefine_tbls hr).1

theorem srefine_items (hr : SRefines u su) (k : Bytes) : ∀ (r : List Seg) (items items' : List (CKey × CItem)),
    updItems u k r items = some items' → supdItems su k r (eraseItems items) = some (eraseItems items') :=
  (srefine_tbls hr).2.1 k

theorem srefine_item (hr : SRefines u su) : ∀ (r : List Seg) (it it' : CItem), updItem u r it = some it' →
    supdItem su r (eraseItem it) = some (eraseItem it') :=
  (srefine_tbls hr).2.2.1

theorem srefine_nth (hr : SRefines u su) : ∀ (i : Nat) (r : List Seg) (ts ts' : List CTbl),
    updNth u i r ts = some ts' → supdNth su i r (eraseTbls ts) = some (eraseTbls ts') :=
  (srefine_tbls hr).2.2.2

mutual
/-- `Table::sort_values`: the dotted sub-tables recursively, then `sortByKey` of the entries -/
def sortTblS : Tbl → Tbl
  | .mk items imp dot p => .mk (sortByKey (sortSubS items)) imp dot p
def sortSubS : List (Bytes × Item) → List (Bytes × Item)
  | [] => []
  | (k, .table t) :: r => (k, .table (if t.dotted then sortTblS t else t)) :: sortSubS r
  | (k, .value v) :: r => (k, .value v) :: sortSubS r
  | (k, .aot ts) :: r => (k, .aot ts) :: sortSubS r
end

mutual
/-- `InlineTable::sort_values` -/
def sortInlS : Val → Val
  | .inl items imp dot => .inl (sortByKey (sortInlSubS items)) imp dot
  | v => v
def sortInlSubS : List (Bytes × Val) → List (Bytes × Val)
  | [] => []
  | (k, .inl items imp dot) :: r => (k, if dot then sortInlS (.inl items imp dot) else .inl items imp dot) :: sortInlSubS r
  | (k, v) :: r => (k, v) :: sortInlSubS r
end

def inlSortS : Val → Option Val
  | .inl items imp dot => some (sortInlS (.inl items imp dot))
  | _ => none

def sortSU : SUpd := ⟨fun t => some (sortTblS t), inlSortS, fun _ => none⟩

theorem erase_sortTbl_all :
    (∀ l : List (CKey × CItem), eraseItems (sortSub l) = sortSubS (eraseItems l)) ∧
    (∀ t : CTbl, eraseTbl (sortTbl t) = sortTblS (eraseTbl t)) ∧ (∀ _ : List CTbl, True) := by
  refine items_induct ?_ ?_ ?_ ?_ ?_ ?_ ?_
  · rfl
  · intro k v r hr; simp only [sortSub, eraseItems, eraseItem, sortSubS, hr]
  · intro k t r ht hr
    simp only [sortSub, eraseItems, eraseItem, sortSubS, eraseTbl_dotted, hr]
    split
    · simp only [ht]
    · rfl
  · intro k ts sp r _ hr; simp only [sortSub, eraseItems, eraseItem, sortSubS, hr]
  · intro items imp dot p d sp hi
    simp only [sortTbl, eraseTbl, sortTblS, erase_sortByCKey_items, hi]
  · trivial
  · intro _ _ _ _; trivial

theorem erase_sortTbl : ∀ t : CTbl, eraseTbl (sortTbl t) = sortTblS (eraseTbl t) := erase_sortTbl_all.2.1

theorem erase_sortSub : ∀ l : List (CKey × CItem), eraseItems (sortSub l) = sortSubS (eraseItems l) :=
  erase_sortTbl_all.1

/-! `sortInl` treats a `scalar` holding an inline table (`notInlVal`, `TreeOK.lean`) as the scalar it is, `sortInlS`
    cannot tell: the inline-table case asks that scalars below the sorted node do not hold inline tables. -/

mutual
def inlOK : CVal → Bool
  | .scalar v _ _ => notInlVal v
  | .arr _ _ _ _ _ => true
  | .inl items _ _ _ _ _ => inlKvsOK items
def inlKvsOK : List (CKey × CVal) → Bool
  | [] => true
  | (_, v) :: r => inlOK v && inlKvsOK r
end

theorem erase_sortInl_all :
    (∀ v : CVal, inlOK v = true → eraseVal (sortInl v) = sortInlS (eraseVal v)) ∧ (∀ _ : List CVal, True) ∧
    (∀ l : List (CKey × CVal), inlKvsOK l = true → eraseKvs (sortInlSub l) = sortInlSubS (eraseKvs l)) := by
  refine cval_induct ?_ ?_ ?_ ?_ ?_ ?_ ?_
  · intro a b c h
    simp only [inlOK] at h
    cases a <;> simp [notInlVal] at h <;> simp [sortInl, eraseVal, sortInlS]
  · intro a b c d e _ _; simp [sortInl, eraseVal, sortInlS]
  · intro items pre imp dot d sp ih h
    simp only [inlOK] at h
    simp only [sortInl, eraseVal, sortInlS, erase_sortByCKey_kvs, ih h]
  · trivial
  · intro _ _ _ _; trivial
  · exact fun _ => rfl
  · intro k v r hv _ hr h
    simp only [inlKvsOK, Bool.and_eq_true] at h
    cases v with
    | inl items pre imp dot d sp =>
      simp only [sortInlSub, eraseKvs, eraseVal, sortInlSubS, hr h.2]
      split
      · have := hv h.1
        simp only [eraseVal] at this
        simp only [this]
      · simp only [eraseVal]
    | scalar a b c =>
      simp only [inlOK] at h
      cases a <;> simp [notInlVal] at h <;> simp [sortInlSub, eraseKvs, eraseVal, sortInlSubS, hr h]
    | arr a b c d e => simp [sortInlSub, eraseKvs, eraseVal, sortInlSubS, hr h.2]

theorem erase_sortInl : ∀ v : CVal, inlOK v = true → eraseVal (sortInl v) = sortInlS (eraseVal v) :=
  erase_sortInl_all.1

theorem erase_sortInlSub : ∀ l : List (CKey × CVal), inlKvsOK l = true →
    eraseKvs (sortInlSub l) = sortInlSubS (eraseKvs l) :=
  erase_sortInl_all.2.2

/-- the well-formedness the inline case needs, at the node sorted -/
def NodeInlOK : Node → Prop
  | .val v => inlOK v = true
  | _ => True

/-- `sort` restricted to the values with `inlOK`, in the way of `sortUpdFlat` (`PlainSort08.lean`) -/
def sortUpdOK : Upd :=
  ⟨fun t => some (sortTbl t), fun v => if inlOK v = true then inlSort v else none, noAot⟩

theorem srefines_sort : SRefines sortUpdOK sortSU where
  tbl t t' h := by
    simp only [sortUpdOK, Option.some.injEq] at h; subst h
    simp [sortSU, erase_sortTbl]
  val v v' h := by
    simp only [sortUpdOK] at h
    split at h
    · rename_i hok
      cases v with
      | inl items pre imp dot d sp =>
        simp only [inlSort, Option.some.injEq] at h; subst h
        have := erase_sortInl (.inl items pre imp dot d sp) hok
        simp only [eraseVal] at this
        simp [sortSU, eraseVal, inlSortS, this]
      | scalar _ _ _ => simp [inlSort] at h
      | arr _ _ _ _ _ => simp [inlSort] at h
    · cases h
  aot ts ts' h := by simp [sortUpdOK, noAot] at h

theorem srefine_sort (rs : List Raw) (p : List Seg) (root r : CTbl)
    (hok : ∀ n, lookupTbl p root = some n → NodeInlOK n)
    (h : updTbl (Op.sort.upd rs) p root = some r) : supdTbl sortSU p (eraseTbl root) = some (eraseTbl r) := by
  obtain ⟨n, hn⟩ := upd_look_tbl _ p root r h
  have hf := hok n hn
  have ha : Agree (Op.sort.upd rs) sortUpdOK n := by
    cases n with
    | tbl t => simp [Agree, sortUpdOK, Op.upd]
    | val v =>
      simp only [NodeInlOK] at hf
      simp [Agree, sortUpdOK, Op.upd, hf]
    | aot ts sp => simp [Agree, sortUpdOK, Op.upd]
  rw [← congr_tbl p root n hn ha] at h
  exact srefine_tbl srefines_sort p root r h

end TomlVerif.Lemmas.Refine08bSem
