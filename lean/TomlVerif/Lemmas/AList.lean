import TomlVerif.Model.Tree
/-! Association lists with `IndexMap` behaviour (`alookup`, `areplace`, `aset`, `aerase` of
    `Model/Tree.lean`): what a lookup sees after each operation, the keys, and the same operations
    under a map of the values (`mapV`). -/
namespace TomlVerif.Lemmas.State09
open TomlVerif TomlVerif.Model

theorem alookup_cons {α} (k k' : Bytes) (v : α) (l : List (Bytes × α)) :
    alookup k ((k', v) :: l) = if k' = k then some v else alookup k l := by
  simp only [alookup, beq_iff_eq]

theorem areplace_cons {α} (k k' : Bytes) (v v' : α) (l : List (Bytes × α)) :
    areplace k v ((k', v') :: l) = if k' = k then (k', v) :: l else (k', v') :: areplace k v l := by
  simp only [areplace, beq_iff_eq]

theorem aerase_cons {α} (k k' : Bytes) (v' : α) (l : List (Bytes × α)) :
    aerase k ((k', v') :: l) = if k' = k then l else (k', v') :: aerase k l := by
  simp only [aerase, beq_iff_eq]

section AList
variable {α : Type}

theorem alookup_nil (k : Bytes) : alookup k ([] : List (Bytes × α)) = none := rfl

theorem alookup_cons_self (k : Bytes) (v : α) (l : List (Bytes × α)) : alookup k ((k, v) :: l) = some v := by
  rw [alookup_cons, if_pos rfl]

theorem alookup_cons_ne (k k' : Bytes) (v : α) (l : List (Bytes × α)) (h : k' ≠ k) :
    alookup k ((k', v) :: l) = alookup k l := by
  rw [alookup_cons, if_neg h]

theorem alookup_areplace_same (k : Bytes) (v : α) (l : List (Bytes × α)) (h : (alookup k l).isSome) :
    alookup k (areplace k v l) = some v := by
  induction l with
  | nil => cases h
  | cons p r ih =>
    obtain ⟨k', v'⟩ := p
    rw [areplace_cons]
    by_cases hk : k' = k
    · rw [if_pos hk, alookup_cons, if_pos hk]
    · rw [alookup_cons, if_neg hk] at h
      rw [if_neg hk, alookup_cons, if_neg hk, ih h]

theorem alookup_areplace_other (k k0 : Bytes) (v : α) (l : List (Bytes × α)) (h : k0 ≠ k) :
    alookup k0 (areplace k v l) = alookup k0 l := by
  induction l with
  | nil => rfl
  | cons p r ih =>
    obtain ⟨k', v'⟩ := p
    rw [areplace_cons]
    by_cases hk : k' = k
    · rw [if_pos hk, alookup_cons, alookup_cons, if_neg (hk ▸ Ne.symm h), if_neg (hk ▸ Ne.symm h)]
    · rw [if_neg hk, alookup_cons, alookup_cons, ih]

theorem alookup_areplace_none (k : Bytes) (v : α) (l : List (Bytes × α)) (h : alookup k l = none) :
    areplace k v l = l := by
  induction l with
  | nil => rfl
  | cons p r ih =>
    obtain ⟨k', v'⟩ := p
    rw [alookup_cons] at h
    by_cases hk : k' = k
    · rw [if_pos hk] at h; cases h
    · rw [if_neg hk] at h
      rw [areplace_cons, if_neg hk, ih h]

theorem alookup_append (k : Bytes) (l m : List (Bytes × α)) :
    alookup k (l ++ m) = match alookup k l with | some v => some v | none => alookup k m := by
  induction l with
  | nil => rfl
  | cons p r ih =>
    obtain ⟨k', v'⟩ := p
    rw [List.cons_append, alookup_cons, alookup_cons]
    by_cases hk : k' = k
    · rw [if_pos hk, if_pos hk]
    · rw [if_neg hk, if_neg hk, ih]

theorem alookup_append_new (k : Bytes) (v : α) (l : List (Bytes × α)) (h : alookup k l = none) :
    alookup k (l ++ [(k, v)]) = some v := by
  simp [alookup_append, h, alookup]

theorem alookup_append_old (k k0 : Bytes) (v x : α) (l : List (Bytes × α)) (h : alookup k0 l = some x) :
    alookup k0 (l ++ [(k, v)]) = some x := by
  simp [alookup_append, h]

theorem alookup_append_other (k k0 : Bytes) (v : α) (l : List (Bytes × α)) (h : k0 ≠ k) :
    alookup k0 (l ++ [(k, v)]) = alookup k0 l := by
  have : k ≠ k0 := fun e => h e.symm
  rw [alookup_append]; cases alookup k0 l <;> simp [alookup, this]

theorem alookup_aset_same (k : Bytes) (v : α) (l : List (Bytes × α)) : alookup k (aset k v l) = some v := by
  unfold aset
  cases h : alookup k l with
  | none => exact alookup_append_new k v l h
  | some x => exact alookup_areplace_same k v l (by simp [h])

theorem alookup_aset_other (k k0 : Bytes) (v : α) (l : List (Bytes × α)) (h : k0 ≠ k) :
    alookup k0 (aset k v l) = alookup k0 l := by
  unfold aset
  cases alookup k l with
  | none => exact alookup_append_other k k0 v l h
  | some x => exact alookup_areplace_other k k0 v l h

theorem alookup_aerase_other (k k0 : Bytes) (l : List (Bytes × α)) (h : k0 ≠ k) :
    alookup k0 (aerase k l) = alookup k0 l := by
  induction l with
  | nil => rfl
  | cons p r ih =>
    obtain ⟨k', v'⟩ := p
    rw [aerase_cons]
    by_cases hk : k' = k
    · rw [if_pos hk, alookup_cons, if_neg (hk ▸ Ne.symm h)]
    · rw [if_neg hk, alookup_cons, alookup_cons, ih]

theorem aerase_of_none (k : Bytes) (l : List (Bytes × α)) (h : alookup k l = none) : aerase k l = l := by
  induction l with
  | nil => rfl
  | cons p r ih =>
    obtain ⟨k', v'⟩ := p
    rw [alookup_cons] at h
    by_cases hk : k' = k
    · rw [if_pos hk] at h; cases h
    · rw [if_neg hk] at h
      rw [aerase_cons, if_neg hk, ih h]

theorem alookup_none_iff (k : Bytes) (l : List (Bytes × α)) : alookup k l = none ↔ k ∉ l.map Prod.fst := by
  induction l with
  | nil => exact ⟨(fun _ h => nomatch h), fun _ => rfl⟩
  | cons p r ih =>
    obtain ⟨k', v'⟩ := p
    rw [alookup_cons, List.map_cons, List.mem_cons, not_or]
    by_cases hk : k' = k
    · rw [if_pos hk]; exact ⟨(fun h => nomatch h), fun h => absurd hk.symm h.1⟩
    · rw [if_neg hk, ih]; exact ⟨fun h => ⟨fun e => hk e.symm, h⟩, fun h => h.2⟩

theorem areplace_keys (k : Bytes) (v : α) (l : List (Bytes × α)) :
    (areplace k v l).map Prod.fst = l.map Prod.fst := by
  induction l with
  | nil => rfl
  | cons p r ih =>
    obtain ⟨k', v'⟩ := p
    rw [areplace_cons]
    by_cases hk : k' = k
    · rw [if_pos hk]; rfl
    · rw [if_neg hk, List.map_cons, List.map_cons, ih]

theorem aset_keys (k : Bytes) (v : α) (l : List (Bytes × α)) :
    (aset k v l).map Prod.fst = if (alookup k l).isSome then l.map Prod.fst else l.map Prod.fst ++ [k] := by
  unfold aset
  cases h : alookup k l with
  | none => simp
  | some x => simp [areplace_keys]

theorem aerase_keys (k : Bytes) (l : List (Bytes × α)) :
    (aerase k l).map Prod.fst = (l.map Prod.fst).erase k := by
  induction l with
  | nil => rfl
  | cons p r ih =>
    obtain ⟨k', v'⟩ := p
    rw [aerase_cons, List.map_cons, List.erase_cons]
    by_cases hk : k' = k
    · rw [if_pos hk, if_pos (beq_iff_eq.2 hk)]
    · rw [if_neg hk, if_neg (fun h => hk (beq_iff_eq.1 h)), List.map_cons, ih]

theorem alookup_aerase_same (k : Bytes) (l : List (Bytes × α)) (h : (l.map Prod.fst).Nodup) :
    alookup k (aerase k l) = none := by
  rw [alookup_none_iff, aerase_keys]
  exact fun hm => (List.Nodup.mem_erase_iff h).1 hm |>.1 rfl

theorem aset_nodup (k : Bytes) (v : α) (l : List (Bytes × α)) (h : (l.map Prod.fst).Nodup) :
    ((aset k v l).map Prod.fst).Nodup := by
  rw [aset_keys]
  cases hk : alookup k l with
  | some x => simpa using h
  | none =>
    have := (alookup_none_iff k l).1 hk
    simp only [Option.isSome_none, Bool.false_eq_true, if_false]
    rw [List.nodup_append]
    refine ⟨h, by simp, ?_⟩
    intro a ha b hb
    simp at hb; subst hb
    exact fun e => this (e ▸ ha)

theorem alookup_of_mem (l : List (Bytes × α)) (k : Bytes) (y : α) (hn : (l.map Prod.fst).Nodup) (hm : (k, y) ∈ l) :
    alookup k l = some y := by
  induction l with
  | nil => simp at hm
  | cons p r ih =>
    obtain ⟨k', y'⟩ := p
    simp only [List.map_cons, List.nodup_cons] at hn
    rcases List.mem_cons.1 hm with hm | hm
    · injection hm with h1 h2; subst h1 h2; simp [alookup]
    · have hne : k' ≠ k := fun e => hn.1 (e ▸ List.mem_map.2 ⟨(k, y), hm, rfl⟩)
      rw [alookup_cons_ne k k' y' r hne]
      exact ih hn.2 hm

theorem alookup_split (k : Bytes) (v0 : α) (l : List (Bytes × α)) (h : alookup k l = some v0) :
    ∃ before after, l = before ++ (k, v0) :: after ∧ ∀ v', areplace k v' l = before ++ (k, v') :: after := by
  induction l with
  | nil => cases h
  | cons p r ih =>
    obtain ⟨k', v⟩ := p
    rw [alookup_cons] at h
    by_cases hk : k' = k
    · rw [if_pos hk] at h; injection h with h
      subst hk; subst h
      exact ⟨[], r, rfl, fun v' => by rw [areplace_cons, if_pos rfl]; rfl⟩
    · rw [if_neg hk] at h
      obtain ⟨before, after, e, hr⟩ := ih h
      exact ⟨(k', v) :: before, after, by rw [e]; rfl, fun v' => by rw [areplace_cons, if_neg hk, hr v']; rfl⟩

theorem mem_of_alookup (k : Bytes) (v : α) (l : List (Bytes × α)) (h : alookup k l = some v) : (k, v) ∈ l := by
  obtain ⟨before, after, e, _⟩ := alookup_split k v l h
  rw [e]; simp

theorem areplace_self (k : Bytes) (v : α) (l : List (Bytes × α)) (h : alookup k l = some v) : areplace k v l = l := by
  obtain ⟨before, after, e, hr⟩ := alookup_split k v l h
  rw [hr v, ← e]

theorem areplace_areplace (k : Bytes) (a b : α) (l : List (Bytes × α)) :
    areplace k b (areplace k a l) = areplace k b l := by
  induction l with
  | nil => rfl
  | cons p r ih =>
    obtain ⟨k', v'⟩ := p
    rw [areplace_cons, areplace_cons]
    by_cases hk : k' = k
    · rw [if_pos hk, if_pos hk, areplace_cons, if_pos hk]
    · rw [if_neg hk, if_neg hk, areplace_cons, if_neg hk, ih]

theorem areplace_append_new (k : Bytes) (a b : α) (l : List (Bytes × α)) (h : alookup k l = none) :
    areplace k b (l ++ [(k, a)]) = l ++ [(k, b)] := by
  induction l with
  | nil => rw [List.nil_append, areplace_cons, if_pos rfl]; rfl
  | cons p r ih =>
    obtain ⟨k', v'⟩ := p
    rw [alookup_cons] at h
    by_cases hk : k' = k
    · rw [if_pos hk] at h; cases h
    · rw [if_neg hk] at h
      rw [List.cons_append, areplace_cons, if_neg hk, ih h]; rfl

theorem aset_of_some {α : Type} (k : Bytes) (v x : α) (l : List (Bytes × α)) (h : alookup k l = some x) :
    aset k v l = areplace k v l := by
  unfold aset; simp only [h]

theorem aset_of_none {α : Type} (k : Bytes) (v : α) (l : List (Bytes × α)) (h : alookup k l = none) :
    aset k v l = l ++ [(k, v)] := by
  unfold aset; simp only [h]

theorem aset_self {α : Type} (k : Bytes) (v : α) (l : List (Bytes × α)) (h : alookup k l = some v) : aset k v l = l := by
  rw [aset_of_some k v v l h, areplace_self k v l h]

theorem aset_aset {α : Type} (k : Bytes) (a b : α) (l : List (Bytes × α)) : aset k b (aset k a l) = aset k b l := by
  rw [aset_of_some k b a _ (alookup_aset_same k a l)]
  cases h : alookup k l with
  | none => rw [aset_of_none k a l h, aset_of_none k b l h]; exact areplace_append_new k a b l h
  | some x => rw [aset_of_some k a x l h, aset_of_some k b x l h]; exact areplace_areplace k a b l

theorem mem_areplace (k : Bytes) (v : α) (l : List (Bytes × α)) (x : Bytes × α) (h : x ∈ areplace k v l) :
    x.2 = v ∨ x ∈ l := by
  induction l with
  | nil => cases h
  | cons p r ih =>
    obtain ⟨k', v'⟩ := p
    rw [areplace_cons] at h
    by_cases hk : k' = k
    · rw [if_pos hk] at h
      rcases List.mem_cons.1 h with h | h
      · exact Or.inl (by rw [h])
      · exact Or.inr (List.mem_cons_of_mem _ h)
    · rw [if_neg hk] at h
      rcases List.mem_cons.1 h with h | h
      · exact Or.inr (by rw [h]; exact List.mem_cons_self)
      · exact (ih h).imp id (List.mem_cons_of_mem _)

theorem mem_aset (k : Bytes) (v : α) (l : List (Bytes × α)) (x : Bytes × α) (h : x ∈ aset k v l) :
    x.2 = v ∨ x ∈ l := by
  unfold aset at h
  split at h
  · exact mem_areplace k v l x h
  · rcases List.mem_append.1 h with h | h
    · exact Or.inr h
    · exact Or.inl (by rw [List.mem_singleton.1 h])

theorem mem_aerase (k : Bytes) (l : List (Bytes × α)) (p : Bytes × α) (h : p ∈ aerase k l) : p ∈ l := by
  induction l with
  | nil => cases h
  | cons q r ih =>
    obtain ⟨k', v'⟩ := q
    rw [aerase_cons] at h
    by_cases hk : k' = k
    · rw [if_pos hk] at h; exact List.mem_cons_of_mem _ h
    · rw [if_neg hk] at h
      rcases List.mem_cons.1 h with h | h
      · rw [h]; exact List.mem_cons_self
      · exact List.mem_cons_of_mem _ (ih h)

theorem fold_aset (P : α → Prop) : ∀ (l acc : List (Bytes × α)), (∀ kv ∈ l, P kv.2) → (∀ kv ∈ acc, P kv.2) →
    (acc.map Prod.fst).Nodup →
    (∀ kv ∈ l.foldl (fun a kv => aset kv.1 kv.2 a) acc, P kv.2) ∧
    ((l.foldl (fun a kv => aset kv.1 kv.2 a) acc).map Prod.fst).Nodup := by
  intro l
  induction l with
  | nil => intro acc _ ha hn; exact ⟨ha, hn⟩
  | cons x r ih =>
    intro acc hl ha hn
    simp only [List.foldl_cons]
    apply ih _ (fun kv hkv => hl kv (by simp [hkv]))
    · intro kv hkv
      rcases mem_aset _ _ _ _ hkv with e | e
      · rw [e]; exact hl x (by simp)
      · exact ha kv e
    · exact aset_nodup _ _ _ hn

end AList

def mapV {α β} (f : α → β) (l : List (Bytes × α)) : List (Bytes × β) := l.map fun p => (p.1, f p.2)

theorem alookup_mapV {α β} (f : α → β) (k : Bytes) : ∀ l : List (Bytes × α), alookup k (mapV f l) = (alookup k l).map f
  | [] => rfl
  | (k', v) :: r => by
    show alookup k ((k', f v) :: mapV f r) = _
    rw [alookup_cons, alookup_cons, alookup_mapV f k r]
    by_cases hk : k' = k
    · rw [if_pos hk, if_pos hk]; rfl
    · rw [if_neg hk, if_neg hk]

theorem areplace_mapV {α β} (f : α → β) (k : Bytes) (v : α) : ∀ l : List (Bytes × α),
    mapV f (areplace k v l) = areplace k (f v) (mapV f l)
  | [] => rfl
  | (k', v') :: r => by
    show _ = areplace k (f v) ((k', f v') :: mapV f r)
    rw [areplace_cons, areplace_cons]
    by_cases hk : k' = k
    · rw [if_pos hk, if_pos hk]; rfl
    · rw [if_neg hk, if_neg hk, ← areplace_mapV f k v r]; rfl

theorem aerase_mapV {α β} (f : α → β) (k : Bytes) : ∀ l : List (Bytes × α), mapV f (aerase k l) = aerase k (mapV f l)
  | [] => rfl
  | (k', v') :: r => by
    show _ = aerase k ((k', f v') :: mapV f r)
    rw [aerase_cons, aerase_cons]
    by_cases hk : k' = k
    · rw [if_pos hk, if_pos hk]
    · rw [if_neg hk, if_neg hk, ← aerase_mapV f k r]; rfl

theorem aset_mapV {α β} (f : α → β) (k : Bytes) (v : α) (l : List (Bytes × α)) :
    mapV f (aset k v l) = aset k (f v) (mapV f l) := by
  unfold aset
  rw [alookup_mapV]
  cases alookup k l with
  | none => simp [mapV]
  | some x => exact areplace_mapV f k v l

theorem areplace_nodup {α : Type} (k : Bytes) (x : α) (l : List (Bytes × α)) (h : (l.map Prod.fst).Nodup) :
    ((areplace k x l).map Prod.fst).Nodup := by rw [areplace_keys]; exact h

theorem append_nodup {α : Type} (k : Bytes) (x : α) (l : List (Bytes × α)) (h : (l.map Prod.fst).Nodup)
    (hn : alookup k l = none) : ((l ++ [(k, x)]).map Prod.fst).Nodup := by
  rw [← aset_of_none k x l hn]; exact aset_nodup k x l h

theorem aerase_nodup {α : Type} (k : Bytes) (l : List (Bytes × α)) (h : (l.map Prod.fst).Nodup) :
    ((aerase k l).map Prod.fst).Nodup := by rw [aerase_keys]; exact h.erase k

end TomlVerif.Lemmas.State09
