import TomlVerif.Lemmas.StateInv
/-! Key/value statements executed in another order than they were written (the printer regroups
    dotted keys): statements under a common first key segment `k` build the sub-table of `k`; a
    run of key/value statements of `State09.run` is a `replay` into the current table. -/
namespace TomlVerif.Lemmas.Tiling03More.Nad
open TomlVerif TomlVerif.Model TomlVerif.Model.State TomlVerif.Lemmas.State09

/-- a key/value statement: table path, key, value -/
abbrev KV := List Bytes × Bytes × Val

/-- the callback of `on_keyval` at the table reached; `top` = "the key is not dotted" -/
def kvLeaf (top : Bool) (key : Bytes) (v : Val) : Tbl → Option Tbl := fun table =>
  if table.dotted == top then none
  else match alookup key table.items with
    | some _ => none
    | none => some (table.setItems (table.items ++ [(key, .value v)]))

/-- one key/value statement on a table; `top`: the table is the current table of the state -/
def ins (top : Bool) (t : Tbl) (e : KV) : Option Tbl :=
  descend t e.1 true (kvLeaf (top && e.1.isEmpty) e.2.1 e.2.2)

def replay (top : Bool) : Tbl → List KV → Option Tbl
  | t, [] => some t
  | t, e :: r => match ins top t e with
    | some t' => replay top t' r
    | none => none

def push (k : Bytes) (e : KV) : KV := (k :: e.1, e.2.1, e.2.2)

def kvStmt (e : KV) : Stmt := .kv e.1 e.2.1 e.2.2

theorem replay_append (top : Bool) (t : Tbl) (a b : List KV) :
    replay top t (a ++ b) = (replay top t a).bind (fun t1 => replay top t1 b) := by
  induction a generalizing t with
  | nil => rfl
  | cons e r ih =>
    simp only [List.cons_append, replay]
    cases ins top t e with
    | none => rfl
    | some t1 => exact ih t1

theorem kvLeaf_flags (top : Bool) (key : Bytes) (v : Val) (u u' : Tbl) (h : kvLeaf top key v u = some u') :
    u'.implicit = u.implicit ∧ u'.dotted = u.dotted ∧ u'.pos = u.pos := by
  unfold kvLeaf at h
  split at h
  · cases h
  · split at h
    · cases h
    · injection h with h; subst h; exact ⟨rfl, rfl, rfl⟩

theorem ins_flags (top : Bool) (t t' : Tbl) (e : KV) (h : ins top t e = some t') :
    t'.implicit = t.implicit ∧ t'.dotted = t.dotted ∧ t'.pos = t.pos := by
  have := StateInv.descend_keeps (fun t => (t.implicit, t.dotted, t.pos)) (fun _ _ => rfl) h
    (fun u u' hu => by obtain ⟨a, b, c⟩ := kvLeaf_flags _ _ _ u u' hu; rw [a, b, c])
  exact ⟨congrArg (·.1) this, congrArg (·.2.1) this, congrArg (·.2.2) this⟩

theorem ins_push (top : Bool) (t s0 : Tbl) (k : Bytes) (e : KV)
    (he : (alookup k t.items).getD (.table (newImplicit true)) = .table s0) (hi : s0.implicit = true) :
    ins top t (push k e) = (ins false s0 e).map (fun s' => t.setItems (aset k (.table s') t.items)) := by
  unfold ins push
  simp only [List.isEmpty_cons, Bool.and_false, Bool.false_and]
  exact descend_cons_table t s0 k e.1 true _ he (by simp [hi])

theorem replay_push_some (top : Bool) (k : Bytes) : ∀ (es : List KV) (t s0 : Tbl),
    alookup k t.items = some (.table s0) → s0.implicit = true →
    replay top t (es.map (push k)) =
      (replay false s0 es).map (fun s' => t.setItems (aset k (.table s') t.items))
  | [], t, s0, hl, _ => by
    simp only [List.map_nil, replay, Option.map_some]
    rw [aset_self k _ _ hl, setItems_self]
  | e :: es, t, s0, hl, hi => by
    simp only [List.map_cons, replay]
    rw [ins_push top t s0 k e (by rw [hl]; rfl) hi]
    cases hs : ins false s0 e with
    | none => rfl
    | some s1 =>
      simp only [Option.map_some]
      have hi1 : s1.implicit = true := by rw [(ins_flags false s0 s1 e hs).1]; exact hi
      rw [replay_push_some top k es (t.setItems (aset k (.table s1) t.items)) s1
        (by simp [alookup_aset_same]) hi1]
      simp only [items_setItems, aset_aset, setItems_setItems]

theorem replay_push_new (top : Bool) (k : Bytes) (e : KV) (es : List KV) (t : Tbl)
    (hl : alookup k t.items = none) :
    replay top t ((e :: es).map (push k)) =
      (replay false (newImplicit true) (e :: es)).map (fun s' => t.setItems (t.items ++ [(k, .table s')])) := by
  simp only [List.map_cons, replay]
  rw [ins_push top t (newImplicit true) k e (by rw [hl]; rfl) rfl]
  cases hs : ins false (newImplicit true) e with
  | none => rfl
  | some s1 =>
    simp only [Option.map_some]
    have hi1 : s1.implicit = true := by rw [(ins_flags false _ s1 e hs).1]; rfl
    rw [replay_push_some top k es (t.setItems (aset k (.table s1) t.items)) s1
      (by simp [alookup_aset_same]) hi1]
    simp only [items_setItems, aset_aset, setItems_setItems]
    cases replay false s1 es with
    | none => rfl
    | some s2 => simp only [Option.map_some]; rw [aset_of_none k _ _ hl]

theorem run_kvs : ∀ (es : List KV) (st : ParseState),
    run st (es.map kvStmt) = (replay true st.current es).map (fun c => { st with current := c })
  | [], st => rfl
  | e :: es, st => by
    simp only [List.map_cons, run, replay]
    have : step st (kvStmt e) = (ins true st.current e).map (fun c => { st with current := c }) := by
      show onKeyval st e.1 e.2.1 e.2.2 = _
      rw [onKeyval_eq, show kvF e.1 e.2.1 e.2.2 = kvLeaf e.1.isEmpty e.2.1 e.2.2 from rfl]
      simp [ins]
    rw [this]
    cases ins true st.current e with
    | none => rfl
    | some c =>
      simp only [Option.map_some]
      rw [run_kvs es]

end TomlVerif.Lemmas.Tiling03More.Nad
