import TomlVerif.Spec.Preorder
import TomlVerif.Lemmas.TreeInduct
/-! A tree is determined by its skeleton and its integers (so "the integers are mapped and the
    skeleton is kept" pins the rewritten document down completely). -/
namespace TomlVerif.Lemmas.Skeleton20
open TomlVerif TomlVerif.Model TomlVerif.Spec.Preorder TomlVerif.Lemmas.TreeInduct

/-- Lists whose members have pairwise the same shape `sk` and, concatenated, the same content `f` are equal, when
    shape and content determine a member and the shape determines how much content there is. -/
theorem flatMap_inj {α β γ} (sk : α → γ) (f : α → List β)
    (hlen : ∀ a b, sk a = sk b → (f a).length = (f b).length) :
    ∀ l l' : List α, (∀ a ∈ l, ∀ b, sk a = sk b → f a = f b → a = b) →
      l.map sk = l'.map sk → l.flatMap f = l'.flatMap f → l = l'
  | [], l', _, hs, _ => by cases l' <;> simp at hs; rfl
  | a :: r, l', h, hs, hf => by
    cases l' with
    | nil => simp at hs
    | cons b r' =>
      simp only [List.map_cons, List.cons.injEq] at hs
      simp only [List.flatMap_cons] at hf
      have := List.append_inj hf (hlen a b hs.1)
      rw [h a (by simp) b hs.1 this.1, flatMap_inj sk f hlen r r' (fun x hx => h x (by simp [hx])) hs.2 this.2]

theorem lenVal (a : Val) : (intsVal a).length = (intsVal (skelVal a)).length := by
  induction a using val_induct with
  | arr vs ih => simp only [skelVal, intsVal, List.flatMap_map]; exact length_flatMap_congr ih
  | inl kvs i d ih => simp only [skelVal, intsVal, List.flatMap_map]; exact length_flatMap_congr ih
  | _ => simp only [skelVal, intsVal, List.length_cons]

theorem lenVals : ∀ vs : List Val, (vs.flatMap intsVal).length = ((vs.map skelVal).flatMap intsVal).length
  | vs => by rw [List.flatMap_map]; exact length_flatMap_congr fun v _ => lenVal v

theorem lenKVs : ∀ kvs : List (Bytes × Val),
    (kvs.flatMap fun kv => intsVal kv.2).length =
      ((kvs.map fun kv => (kv.1, skelVal kv.2)).flatMap fun kv => intsVal kv.2).length
  | kvs => by rw [List.flatMap_map]; exact length_flatMap_congr fun kv _ => lenVal kv.2

theorem lenVal_of_skel {a b : Val} (h : skelVal a = skelVal b) : (intsVal a).length = (intsVal b).length := by
  rw [lenVal a, lenVal b, h]

theorem kv_inj {α} {sk : α → α} {f : α → List Int} (a b : Bytes × α)
    (inj : ∀ y, sk a.2 = sk y → f a.2 = f y → a.2 = y)
    (hs : (a.1, sk a.2) = (b.1, sk b.2)) (hf : f a.2 = f b.2) : a = b :=
  Prod.ext (Prod.mk.inj hs).1 (inj b.2 (Prod.mk.inj hs).2 hf)

theorem injVal (a : Val) : ∀ b : Val, skelVal a = skelVal b → intsVal a = intsVal b → a = b := by
  induction a using val_induct with
  | arr vs ih =>
    intro b hs hi
    cases b <;> simp only [skelVal, reduceCtorEq, Val.arr.injEq] at hs
    simp only [intsVal] at hi
    rw [flatMap_inj skelVal intsVal (fun _ _ => lenVal_of_skel) vs _ ih hs hi]
  | inl kvs i d ih =>
    intro b hs hi
    cases b <;> simp only [skelVal, reduceCtorEq, Val.inl.injEq] at hs
    simp only [intsVal] at hi
    rw [flatMap_inj (fun kv : Bytes × Val => (kv.1, skelVal kv.2)) (fun kv => intsVal kv.2)
      (fun _ _ h => lenVal_of_skel (Prod.mk.inj h).2) kvs _
      (fun a ha b => kv_inj a b (ih a ha)) hs.1 hi, hs.2.1, hs.2.2]
  | int n =>
    intro b hs hi
    cases b <;> simp only [skelVal, reduceCtorEq] at hs
    simp only [intsVal, List.cons.injEq, and_true] at hi
    rw [hi]
  | _ => intro b hs _; cases b <;> simp only [skelVal, reduceCtorEq] at hs; rw [hs]

theorem injVals : ∀ (vs ws : List Val), vs.map skelVal = ws.map skelVal →
    vs.flatMap intsVal = ws.flatMap intsVal → vs = ws
  | vs, ws => flatMap_inj skelVal intsVal (fun _ _ => lenVal_of_skel) vs ws fun a _ => injVal a

theorem injKVs : ∀ (kvs kws : List (Bytes × Val)),
    (kvs.map fun kv => (kv.1, skelVal kv.2)) = (kws.map fun kv => (kv.1, skelVal kv.2)) →
    (kvs.flatMap fun kv => intsVal kv.2) = (kws.flatMap fun kv => intsVal kv.2) → kvs = kws
  | kvs, kws => flatMap_inj (fun kv : Bytes × Val => (kv.1, skelVal kv.2)) (fun kv => intsVal kv.2)
      (fun _ _ h => lenVal_of_skel (Prod.mk.inj h).2) kvs kws fun a _ b => kv_inj a b (injVal a.2)

theorem len_skel : (∀ a : Item, (intsItem a).length = (intsItem (skelItem a)).length) ∧
    (∀ t : Tbl, (intsTbl t).length = (intsTbl (skelTbl t)).length) := by
  refine item_induct (fun v => ?_) (fun t ih => ?_) (fun ts ih => ?_) (fun items i d p ih => ?_)
  · simp only [skelItem, intsItem]; exact lenVal v
  · simp only [skelItem, intsItem]; exact ih
  · simp only [skelItem, intsItem, List.flatMap_map]; exact length_flatMap_congr ih
  · simp only [skelTbl, intsTbl, List.flatMap_map]; exact length_flatMap_congr ih

theorem lenItem : ∀ a : Item, (intsItem a).length = (intsItem (skelItem a)).length := len_skel.1
theorem lenTbl : ∀ t : Tbl, (intsTbl t).length = (intsTbl (skelTbl t)).length := len_skel.2

theorem lenItems : ∀ items : List (Bytes × Item),
    (items.flatMap fun kv => intsItem kv.2).length =
      ((items.map fun kv => (kv.1, skelItem kv.2)).flatMap fun kv => intsItem kv.2).length
  | items => by rw [List.flatMap_map]; exact length_flatMap_congr fun kv _ => lenItem kv.2

theorem lenTbls : ∀ ts : List Tbl, (ts.flatMap intsTbl).length = ((ts.map skelTbl).flatMap intsTbl).length
  | ts => by rw [List.flatMap_map]; exact length_flatMap_congr fun t _ => lenTbl t

theorem lenItem_of_skel {a b : Item} (h : skelItem a = skelItem b) : (intsItem a).length = (intsItem b).length := by
  rw [lenItem a, lenItem b, h]
theorem lenTbl_of_skel {a b : Tbl} (h : skelTbl a = skelTbl b) : (intsTbl a).length = (intsTbl b).length := by
  rw [lenTbl a, lenTbl b, h]

theorem inj_tree : (∀ a b : Item, skelItem a = skelItem b → intsItem a = intsItem b → a = b) ∧
    (∀ a b : Tbl, skelTbl a = skelTbl b → intsTbl a = intsTbl b → a = b) := by
  refine item_induct (fun v b hs hi => ?_) (fun t ih b hs hi => ?_) (fun ts ih b hs hi => ?_)
    (fun items i d p ih b hs hi => ?_)
  · cases b <;> simp [skelItem] at hs
    rw [injVal v _ hs (by simpa only [intsItem] using hi)]
  · cases b <;> simp [skelItem] at hs
    rw [ih _ hs (by simpa only [intsItem] using hi)]
  · cases b <;> simp [skelItem] at hs
    simp only [intsItem] at hi
    rw [flatMap_inj skelTbl intsTbl (fun _ _ => lenTbl_of_skel) ts _ ih hs hi]
  · obtain ⟨items', i', d', p'⟩ := b
    simp [skelTbl] at hs
    simp only [intsTbl] at hi
    rw [flatMap_inj (fun kv : Bytes × Item => (kv.1, skelItem kv.2)) (fun kv => intsItem kv.2)
      (fun _ _ h => lenItem_of_skel (Prod.mk.inj h).2) items items'
      (fun a ha b => kv_inj a b (ih a ha)) hs.1 hi, hs.2.1, hs.2.2.1, hs.2.2.2]

theorem injItem : ∀ (a b : Item), skelItem a = skelItem b → intsItem a = intsItem b → a = b := inj_tree.1
theorem injTbl : ∀ (a b : Tbl), skelTbl a = skelTbl b → intsTbl a = intsTbl b → a = b := inj_tree.2

theorem injItems : ∀ (kvs kws : List (Bytes × Item)),
    (kvs.map fun kv => (kv.1, skelItem kv.2)) = (kws.map fun kv => (kv.1, skelItem kv.2)) →
    (kvs.flatMap fun kv => intsItem kv.2) = (kws.flatMap fun kv => intsItem kv.2) → kvs = kws
  | kvs, kws => flatMap_inj (fun kv : Bytes × Item => (kv.1, skelItem kv.2)) (fun kv => intsItem kv.2)
      (fun _ _ h => lenItem_of_skel (Prod.mk.inj h).2) kvs kws fun a _ b => kv_inj a b (injItem a.2)

theorem injTbls : ∀ (ts ws : List Tbl), ts.map skelTbl = ws.map skelTbl →
    ts.flatMap intsTbl = ws.flatMap intsTbl → ts = ws
  | ts, ws => flatMap_inj skelTbl intsTbl (fun _ _ => lenTbl_of_skel) ts ws fun a _ => injTbl a

end TomlVerif.Lemmas.Skeleton20
