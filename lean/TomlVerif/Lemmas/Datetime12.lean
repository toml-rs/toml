import TomlVerif.Lemmas.TokenDatetime
/-! C12: the standalone parser (`Std`) reads what the document parser (`Doc`) reads, reader by reader (`parseDate_doc`,
    `parseTime_doc`, `parseOffset_doc`). -/
namespace TomlVerif.Lemmas.Datetime12
open TomlVerif TomlVerif.Spec TomlVerif.Model.Datetime

theorem fracLoop_eq : ∀ (w : Bytes) (i acc : Nat),
    Std.fracLoop w i acc = (acc + fracVal (takeDigits w).1 i, i + (takeDigits w).1.length) := by
  intro w
  induction w with
  | nil => intro i acc; simp [Std.fracLoop, takeDigits, fracVal]
  | cons a r ih =>
    intro i acc
    rw [takeDigits_cons]
    by_cases h : isDigit a = true
    · simp only [Std.fracLoop, h, if_true, ih, fracVal, List.length_cons]
      by_cases hi : i < 9
      · simp [hi]; omega
      · simp [hi]; omega
    · simp [Std.fracLoop, h, fracVal]

/-- the fraction reader of `FromStr`, as a function -/
def stdFrac (r : Bytes) : Option (Nat × Bytes) :=
  match r with
  | 0x2E :: w =>
    let (ns, e) := Std.fracLoop w 0 0
    if e == 0 then none else some (ns, w.drop e)
  | _ => some (0, r)

theorem stdFrac_doc (r : Bytes) :
    (stdFrac r = some (Doc.secfracOpt r) ∧ (Doc.secfracOpt r).1 ≤ 999999999) ∨
    (stdFrac r = none ∧ Doc.secfracOpt r = (0, r) ∧ ∃ w, r = 0x2E :: w) := by
  unfold stdFrac
  split
  · rename_i w
    rw [fracLoop_eq, secfracOpt_dot]
    have ha := takeDigits_all w
    by_cases h : (takeDigits w).1 = []
    · right; simp [h]
    · left
      have hb := fracVal_bound _ 0 ha (by omega)
      simp [h]
      omega
  · left
    rename_i h
    have : Doc.secfracOpt r = (0, r) := by
      unfold Doc.secfracOpt
      split
      · rename_i w; exact absurd rfl (h w)
      · rfl
    simp [this]

/-- `Std.parseTime` with its fraction reader named (`stdFrac`): the fraction is compared with
    `Doc.secfracOpt` on its own (`stdFrac_doc`) -/
theorem parseTime_unfold (s : Bytes) : Std.parseTime s =
    match digits2 s with
    | none => none
    | some (h, r) =>
      match r with
      | 0x3A :: r =>
        match digits2 r with
        | none => none
        | some (m, r) =>
          match r with
          | 0x3A :: r =>
            match digits2 r with
            | none => none
            | some (sec, r) =>
              match stdFrac r with
              | none => none
              | some (ns, r) =>
                if h > 23 then none
                else if m > 59 then none
                else if sec > 60 then none
                else if ns > 999999999 then none
                else some (⟨h, m, sec, ns⟩, r)
          | _ => none
      | _ => none := by
  rfl

theorem parseTime_some_iff (s rest : Bytes) (t : Time) :
    Std.parseTime s = some (t, rest) ↔
      ∃ r1 r2 r3, digits2 s = some (t.hour, 0x3A :: r1) ∧ digits2 r1 = some (t.minute, 0x3A :: r2) ∧
        digits2 r2 = some (t.second, r3) ∧ stdFrac r3 = some (t.nanosecond, rest) ∧
        t.hour ≤ 23 ∧ t.minute ≤ 59 ∧ t.second ≤ 60 ∧ t.nanosecond ≤ 999999999 := by
  rw [parseTime_unfold]
  constructor
  · intro h
    cases hh : digits2 s with
    | none => simp [hh] at h
    | some p =>
      obtain ⟨hr, r⟩ := p
      simp only [hh] at h
      rcases r with _ | ⟨c, r1⟩
      · cases h
      by_cases hc : c = 0x3A
      case neg => simp [hc] at h
      subst hc
      simp only at h
      cases hm : digits2 r1 with
      | none => simp [hm] at h
      | some p =>
        obtain ⟨m, r⟩ := p
        simp only [hm] at h
        rcases r with _ | ⟨c, r2⟩
        · cases h
        by_cases hc : c = 0x3A
        case neg => simp [hc] at h
        subst hc
        simp only at h
        cases hs : digits2 r2 with
        | none => simp [hs] at h
        | some p =>
          obtain ⟨sec, r3⟩ := p
          simp only [hs] at h
          cases hf : stdFrac r3 with
          | none => simp [hf] at h
          | some p =>
            obtain ⟨ns, r⟩ := p
            simp only [hf] at h
            by_cases c1 : hr > 23
            · rw [if_pos c1] at h; cases h
            rw [if_neg c1] at h
            by_cases c2 : m > 59
            · rw [if_pos c2] at h; cases h
            rw [if_neg c2] at h
            by_cases c3 : sec > 60
            · rw [if_pos c3] at h; cases h
            rw [if_neg c3] at h
            by_cases c4 : ns > 999999999
            · rw [if_pos c4] at h; cases h
            rw [if_neg c4] at h
            injection h with h
            injection h with h1 h2
            subst h1 h2
            exact ⟨r1, r2, r3, rfl, hm, hs, hf, by show hr ≤ 23; omega, by show m ≤ 59; omega, by show sec ≤ 60; omega,
              by show ns ≤ 999999999; omega⟩
  · rintro ⟨r1, r2, r3, hh, hm, hs, hf, c1, c2, c3, c4⟩
    have e1 : ¬ t.hour > 23 := by omega
    have e2 : ¬ t.minute > 59 := by omega
    have e3 : ¬ t.second > 60 := by omega
    have e4 : ¬ t.nanosecond > 999999999 := by omega
    simp [hh, hm, hs, hf, e1, e2, e3, e4]

/-- The second alternative of the `.ok` case is `HH:MM:SS.` with no digit after the dot: `Doc.partialTime` succeeds
    and leaves the dot, `Std.parseTime` fails. -/
theorem parseTime_doc (s : Bytes) :
    match Doc.partialTime s with
    | .ok t r => Std.parseTime s = some (t, r) ∨ (Std.parseTime s = none ∧ ∃ w, r = 0x2E :: w)
    | _ => Std.parseTime s = none := by
  have hA : ∀ t r, Std.parseTime s = some (t, r) → Doc.partialTime s = .ok t r := by
    intro t r hp
    obtain ⟨r1, r2, r3, hh, hm, hs, hf, c1, c2, c3, _⟩ := (parseTime_some_iff s r t).1 hp
    refine (partialTime_ok_iff s r t).2 ⟨r1, r2, r3, hh, hm, hs, ?_, c1, c2, c3⟩
    rcases stdFrac_doc r3 with ⟨h1, _⟩ | ⟨h1, _⟩
    · rw [hf] at h1; exact (Option.some.inj h1).symm
    · rw [hf] at h1; cases h1
  have hnone : (∀ t r, Doc.partialTime s ≠ .ok t r) → Std.parseTime s = none := by
    intro hne
    cases hp : Std.parseTime s with
    | none => rfl
    | some p => exact absurd (hA p.1 p.2 hp) (hne _ _)
  cases hD : Doc.partialTime s with
  | ok t r =>
    obtain ⟨r1, r2, r3, hh, hm, hs, hf, c1, c2, c3⟩ := (partialTime_ok_iff s r t).1 hD
    rcases stdFrac_doc r3 with ⟨h1, h2⟩ | ⟨h1, h2, w, h3⟩
    · rw [hf] at h1 h2
      exact Or.inl ((parseTime_some_iff s r t).2 ⟨r1, r2, r3, hh, hm, hs, h1, c1, c2, c3, h2⟩)
    · refine Or.inr ⟨?_, w, ?_⟩
      · cases hp : Std.parseTime s with
        | none => rfl
        | some p =>
          obtain ⟨_, _, r3', hh', hm', hs', hf', _⟩ := (parseTime_some_iff s p.2 p.1).1 hp
          rw [hh] at hh'; injection hh' with hh'; injection hh' with _ hh'; injection hh' with _ hh'; subst hh'
          rw [hm] at hm'; injection hm' with hm'; injection hm' with _ hm'; injection hm' with _ hm'; subst hm'
          rw [hs] at hs'; injection hs' with hs'; injection hs' with _ hs'; subst hs'
          rw [h1] at hf'; cases hf'
      · rw [h2] at hf; injection hf with _ hf; rw [← hf]; exact h3
  | bt => exact hnone (fun t r h => by rw [hD] at h; cases h)
  | cut => exact hnone (fun t r h => by rw [hD] at h; cases h)

theorem parseDate_doc (s : Bytes) :
    Std.parseDate s = match Doc.fullDate s with
      | .ok d r => some (d, r)
      | _ => none := by
  unfold Std.parseDate Doc.fullDate
  cases digits4 s with
  | none => rfl
  | some p =>
    obtain ⟨y, r⟩ := p
    rcases r with _ | ⟨c, r⟩
    · rfl
    by_cases hc : c = 0x2D
    case neg => simp [hc]
    subst hc
    simp only
    cases digits2 r with
    | none => rfl
    | some p =>
      obtain ⟨m, r⟩ := p
      simp only
      rcases r with _ | ⟨c, r⟩
      · simp
      by_cases hc : c = 0x2D
      case neg => simp [hc]
      subst hc
      simp only
      cases digits2 r with
      | none => simp
      | some p =>
        obtain ⟨d, r⟩ := p
        -- the same reads on both sides; the document parser also wants `d ≤ 31`, which `d ≤ maxDays y m` implies
        have := maxDays_le y m
        simp
        by_cases hm : m = 0 ∨ 12 < m
        · simp [hm]
        by_cases h31 : d = 0 ∨ 31 < d
        · have : d = 0 ∨ maxDays y m < d := by omega
          simp [hm, h31, this]
        by_cases hx : maxDays y m < d
        · simp [hm, h31, hx]
        · simp [hm, h31, hx]; omega

theorem parseOffset_doc (s : Bytes) :
    Std.parseOffset s = match Doc.timeOffset s with
      | .ok o r => some (some o, r)
      | .bt => if s = [] then some (none, []) else none
      | .cut => none := by
  unfold Std.parseOffset Doc.timeOffset
  rcases s with _ | ⟨c, s⟩
  · simp
  simp only
  by_cases hz : (c == 0x5A || c == 0x7A) = true
  · simp only [hz, if_true]
  simp only [hz]
  by_cases hs : (c == 0x2B || c == 0x2D) = true
  case neg => simp [hs]
  simp only [hs, if_true]
  cases digits2 s with
  | none => simp
  | some p =>
    obtain ⟨h, r⟩ := p
    simp only [Bool.false_eq_true, if_false]
    by_cases hh : h ≤ 23
    case neg =>
      have e : decide (h > 23) = true := by simp; omega
      simp only [hh, e, Bool.true_or, if_true]
      simp
      -- the standalone reader tests the hour only after it has read `:MM`: each way of reading on ends in `none`
      split
      · split <;> rfl
      · rfl
    have e : decide (h > 23) = false := by simp; omega
    simp only [hh, e, Bool.false_or]
    rcases r with _ | ⟨d, r⟩
    · simp
    by_cases hd : d = 0x3A
    case neg => simp [hd]
    subst hd
    simp only
    cases digits2 r with
    | none => simp
    | some p =>
      obtain ⟨m, r⟩ := p
      by_cases hm : m ≤ 59
      case neg => simp [hm]
      have e2 : decide (m > 59) = false := by simp; omega
      simp only [hm, e2]
      generalize ((if (c == 43) = true then 1 else -1) * ((h : Int) * 60 + (m : Int))) = tot
      by_cases ht : -1440 ≤ tot ∧ tot ≤ 1440
      · simp [ht]
      · simp [ht]

theorem parseAll_short (s : Bytes) (h : s.length < 3) : Doc.parseAll s = none := by
  have hf : Doc.fullDate s = .bt := (fullDate_bt_iff s).2 fun y X e => by
    rcases s with _ | ⟨a, _ | ⟨b, _ | ⟨c, s⟩⟩⟩ <;> simp [digits4] at e h
    omega
  have hp : Doc.partialTime s = .bt := (partialTime_bt_iff s).2 fun hh X e => by
    rcases s with _ | ⟨a, _ | ⟨b, _ | ⟨c, s⟩⟩⟩ <;> simp [digits2] at e h
    omega
  simp [Doc.parseAll, Doc.dateTime, hf, hp]

end TomlVerif.Lemmas.Datetime12
