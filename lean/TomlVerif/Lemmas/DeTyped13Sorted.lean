import TomlVerif.Lemmas.DeTyped13Place
/-! For Props/C13Typed: `sorted_ty` — for every target type, `impl Deserializer for toml::Value` (without
    the trailing-element check) on a well-formed tree and on the same tree with every table in key order returns the
    same value whenever it succeeds on both. -/
namespace TomlVerif.Lemmas.DeTyped13
open TomlVerif TomlVerif.Model TomlVerif.Model.TomlValue TomlVerif.Model.DeRoutes
open TomlVerif.Model.DeTyped TomlVerif.Lemmas.DeRoutes13 TomlVerif.Lemmas.RoundTrip17

theorem ite_ok_result {α} {b : Bool} {c : α} : ∀ d, (if b then (.ok c : R α) else fail) = .ok d → d = c := by
  intro d h
  cases b
  · exact (fail_ne_ok (by simpa using h)).elim
  · simp at h; exact h.symm

theorem wfPs_values (es : List (Bytes × TV)) (h : WfPs es) : WfVs (es.map Prod.snd) := by
  rw [wfVs_forall]
  intro v hv
  obtain ⟨e, he, rfl⟩ := List.mem_map.1 hv
  exact (wfPs_forall es).1 h e he

theorem map_snd_place (es : List (Bytes × TV)) :
    (es.map fun e => (e.1, P e.2)).map Prod.snd = (es.map Prod.snd).map P := by
  simp

theorem sorted_dtTarget (ty : Ty) (hty : ty = .datetime ∨ ty = .date ∨ ty = .time) (v : TV) (h : WfTV v) :
    Agree (decodeValue valueLenient .sorted ty v) (decodeValue valueLenient .sorted ty (P v)) := by
  rcases hty with rfl | rfl | rfl
  all_goals
    unfold decodeValue
    cases v with
    | tbl es =>
      have := fun ty => dt_place ty (.tbl es) h
      rw [place_tbl] at this ⊢
      simpa only [lenient_check, Bool.false_and, Bool.false_eq_true, if_false] using this _
    | arr l =>
      have := fun ty => dt_place ty (.arr l) h
      rw [place_arr] at this ⊢
      exact this _
    | _ => exact agree_refl _

theorem sorted_all :
    (∀ ty v, WfTV v → Agree (decodeValue valueLenient .sorted ty v) (decodeValue valueLenient .sorted ty (P v))) ∧
    (∀ ts l, WfVs l →
      Agree (decodeValueTys valueLenient .sorted ts l) (decodeValueTys valueLenient .sorted ts (l.map P))) ∧
    (∀ fs, (∀ es, WfPs es → (es.map Prod.fst).Nodup →
        Agree (decodeValueFields valueLenient .sorted fs es) (decodeValueFields valueLenient .sorted fs (S es))) ∧
      ∀ l, WfVs l →
        Agree (decodeValueFieldsSeq valueLenient .sorted fs l) (decodeValueFieldsSeq valueLenient .sorted fs (l.map P))) ∧
    (∀ s n p, WfTV p →
      Agree (decodeValueShape valueLenient .sorted s n p) (decodeValueShape valueLenient .sorted s n (P p))) ∧
    (∀ vs k p, WfTV p →
      Agree (decodeValueVariants valueLenient .sorted vs k p) (decodeValueVariants valueLenient .sorted vs k (P p))) := by
  have struct : ∀ fs, ((∀ es, WfPs es → (es.map Prod.fst).Nodup →
        Agree (decodeValueFields valueLenient .sorted fs es) (decodeValueFields valueLenient .sorted fs (S es))) ∧
      ∀ l, WfVs l →
        Agree (decodeValueFieldsSeq valueLenient .sorted fs l) (decodeValueFieldsSeq valueLenient .sorted fs (l.map P))) →
      ∀ v, WfTV v →
        Agree (decodeValue valueLenient .sorted (.struct fs) v) (decodeValue valueLenient .sorted (.struct fs) (P v)) := by
    intro fs ih v h
    unfold decodeValue
    cases v with
    | tbl es =>
      rw [WfTV] at h
      rw [place_tbl]
      simp only [valueMapEntries]
      exact agree_ite_fail (agree_rmap _ (ih.1 es h.1 h.2.1))
    | arr l =>
      rw [WfTV] at h
      rw [place_arr]
      simp only [valueMapEntries, lenient_check, Bool.false_and, Bool.false_eq_true, if_false]
      exact agree_rmap _ (ih.2 l h)
    | dt d => exact agree_refl _
    | _ => exact agree_fail_left _
  apply ty_induct
  case bool | int | f64 | f32 | string | char | unit => intros; unfold decodeValue; exact scalar_place _ _
  case datetime => exact sorted_dtTarget _ (.inl rfl)
  case date => exact sorted_dtTarget _ (.inr (.inl rfl))
  case time => exact sorted_dtTarget _ (.inr (.inr rfl))
  case value =>
    intro v h
    unfold decodeValue
    rw [visit_place _ v h]
    exact agree_refl _
  case ignored => intro v _; unfold decodeValue; exact agree_refl _
  case option | newtype => intro t ih v h; unfold decodeValue; exact agree_rmap _ (ih v h)
  case seq =>
    intro t ih v h
    unfold decodeValue
    cases v with
    | arr l =>
      rw [WfTV] at h
      rw [place_arr]
      exact agree_rmap _ (agree_mapE2 _ _ P l fun a ha => ih a ((wfVs_forall l).1 h a ha))
    | tbl es => rw [place_tbl]; exact agree_fail_left _
    | _ => exact agree_fail_left _
  case tuple =>
    intro ts ih v h
    unfold decodeValue
    cases v with
    | arr l =>
      rw [WfTV] at h
      rw [place_arr]
      simp only [lenient_check, Bool.false_and, Bool.false_eq_true, if_false]
      exact agree_rmap _ (ih l h)
    | tbl es => rw [place_tbl]; exact agree_fail_left _
    | _ => exact agree_fail_left _
  case map =>
    intro t ih v h
    unfold decodeValue
    cases v with
    | tbl es =>
      rw [WfTV] at h
      rw [place_tbl]
      simp only [valueMapEntries]
      exact agree_map_target (decodeValue valueLenient .sorted t) es h.2.1
        (fun e he => ih e.2 ((wfPs_forall es).1 h.1 e he))
    | arr l => rw [place_arr]; exact agree_fail_left _
    | dt d => exact agree_refl _
    | _ => exact agree_fail_left _
  case struct => exact struct
  case enum =>
    intro vs ih v h
    unfold decodeValue
    cases v with
    | tbl es =>
      rw [WfTV] at h
      rw [place_tbl]
      match es, h with
      | [], _ => rw [S_nil]; exact agree_refl _
      | [(k, p)], h =>
        rw [S_single]
        rw [WfPs] at h
        exact ih k p h.1.1
      | _ :: _ :: _, _ => exact agree_fail_left _
    | arr l => rw [place_arr]; exact agree_refl _
    | _ => exact agree_refl _
  case tnil => intro l _; unfold decodeValueTys; exact agree_refl _
  case tcons =>
    intro t r ih ihr l h
    cases l with
    | nil => rw [List.map_nil]; exact agree_refl _
    | cons i l =>
      rw [WfVs] at h
      rw [List.map_cons]
      unfold decodeValueTys
      exact agree_rcons (ih i h.1) (ihr l h.2)
  case fnil =>
    exact ⟨fun es _ _ => by unfold decodeValueFields; exact agree_refl _,
      fun l _ => by unfold decodeValueFieldsSeq; exact agree_refl _⟩
  case fcons =>
    intro name t dflt r ih ihr
    refine ⟨fun es hp hn => ?_, fun l h => ?_⟩
    · unfold decodeValueFields
      refine agree_rcons (agree_rmap _ ?_) (ihr.1 es hp hn)
      rw [alookup_S name es hn]
      cases hl : alookup name es with
      | none => exact agree_refl _
      | some i =>
        have hm := State09.mem_of_alookup name i es hl
        exact ih i ((wfPs_forall es).1 hp _ hm)
    · cases l with
      | nil => rw [List.map_nil]; exact agree_refl _
      | cons i l =>
        rw [WfVs] at h
        rw [List.map_cons]
        unfold decodeValueFieldsSeq
        exact agree_rcons (agree_rmap _ (ih i h.1)) (ihr.2 l h.2)
  case sunit =>
    intro n p _
    unfold decodeValueShape
    cases p with
    | arr l => rw [place_arr]; exact agree_const (.vUnit n) ite_ok_result ite_ok_result
    | tbl es => rw [place_tbl]; exact agree_const (.vUnit n) ite_ok_result ite_ok_result
    | _ => exact agree_refl _
  case snewtype => intro t ih n p h; unfold decodeValueShape; exact agree_rmap _ (ih p h)
  case stuple =>
    intro ts ih n p h
    unfold decodeValueShape
    cases p with
    | arr l =>
      rw [WfTV] at h
      rw [place_arr]
      exact agree_ite_else_fail (agree_rmap _ (ih l h))
    | tbl es =>
      rw [WfTV] at h
      rw [place_tbl]
      simp only []
      by_cases hc1 : (indexKeys 0 es && es.length == ts.length) = true
      · by_cases hc2 : (indexKeys 0 (S es) && (S es).length == ts.length) = true
        · rw [if_pos hc1, if_pos hc2]
          simp only [Bool.and_eq_true] at hc1 hc2
          rw [index_same_order es h.2.1 hc1.1 hc2.1, map_snd_place]
          exact agree_rmap _ (ih _ (wfPs_values es h.1))
        · rw [if_neg hc2]; exact agree_fail_right _
      · rw [if_neg hc1]; exact agree_fail_left _
    | _ => exact agree_refl _
  case sstruct =>
    intro fs ih n p h
    rw [decodeValueShape_struct, decodeValueShape_struct]
    exact agree_rmap _ (struct fs ih p h)
  case vnil => intro k p _; unfold decodeValueVariants; exact agree_refl _
  case vcons =>
    intro name s r ih ihr k p h
    unfold decodeValueVariants
    exact agree_ite (ih name p h) (ihr k p h)

theorem sorted_ty : ∀ (ty : Ty) (v : TV), WfTV v →
    Agree (decodeValue valueLenient .sorted ty v) (decodeValue valueLenient .sorted ty (P v)) :=
  sorted_all.1
theorem sorted_tys : ∀ (ts : Tys) (l : List TV), WfVs l →
    Agree (decodeValueTys valueLenient .sorted ts l) (decodeValueTys valueLenient .sorted ts (l.map P)) :=
  sorted_all.2.1
theorem sorted_fields : ∀ (fs : Fields) (es : List (Bytes × TV)), WfPs es → (es.map Prod.fst).Nodup →
    Agree (decodeValueFields valueLenient .sorted fs es) (decodeValueFields valueLenient .sorted fs (S es)) := fun fs =>
  (sorted_all.2.2.1 fs).1
theorem sorted_fields_seq : ∀ (fs : Fields) (l : List TV), WfVs l →
    Agree (decodeValueFieldsSeq valueLenient .sorted fs l) (decodeValueFieldsSeq valueLenient .sorted fs (l.map P)) :=
  fun fs => (sorted_all.2.2.1 fs).2
theorem sorted_variants : ∀ (vs : Variants) (k : Bytes) (p : TV), WfTV p →
    Agree (decodeValueVariants valueLenient .sorted vs k p) (decodeValueVariants valueLenient .sorted vs k (P p)) :=
  sorted_all.2.2.2.2
theorem sorted_shape : ∀ (s : Shape) (n : Bytes) (p : TV), WfTV p →
    Agree (decodeValueShape valueLenient .sorted s n p) (decodeValueShape valueLenient .sorted s n (P p)) :=
  sorted_all.2.2.2.1

end TomlVerif.Lemmas.DeTyped13
