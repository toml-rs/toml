import TomlVerif.Lemmas.TreeOK08
/-! Every op of `Model/Edit.lean` keeps the tree-wide invariant of `TreeOK.lean`, for a family of predicates
    indexed by the arena (`Fam`). -/
namespace TomlVerif.Lemmas.Spans14
open TomlVerif TomlVerif.Model TomlVerif.Model.Cst TomlVerif.Model.Edit
section AllKV
variable {α : Type} {PK : CKey → Prop} {PV : α → Prop}

theorem AllKV.cinsert {l : List (CKey × α)} {k : CKey} {v : α} (h : AllKV PK PV l) (hk : PK k) (hv : PV v) :
    AllKV PK PV (cinsert k v l) := by
  induction l with
  | nil => exact AllKV.single hk hv
  | cons kv r ih =>
    obtain ⟨k', v'⟩ := kv
    rw [AllKV.cons] at h
    unfold Edit.cinsert
    split
    · rw [AllKV.cons]; exact ⟨⟨hk, hv⟩, h.2⟩
    · rw [AllKV.cons]; exact ⟨h.1, ih h.2⟩

theorem AllKV.sortByCKey {l : List (CKey × α)} (h : AllKV PK PV l) : AllKV PK PV (sortByCKey l) :=
  fun kv hm => h kv ((Sort.sortByCKey_is.mem kv l).1 hm)

end AllKV
end TomlVerif.Lemmas.Spans14
namespace TomlVerif.Lemmas.Refine08c
open TomlVerif TomlVerif.Model TomlVerif.Model.Cst TomlVerif.Model.Edit
open TomlVerif.Lemmas.Edit08 TomlVerif.Lemmas.Cst03 TomlVerif.Lemmas.Spans14
open TomlVerif.Lemmas.Tiling03More (items_induct)

variable {P : Pr}

theorem fmtItems_ok : ∀ l : List (CKey × CItem), IsOK P l → IsOK P (fmtItems l)
  | [], _ => trivial
  | (k, .value v) :: r, h => by
    rw [IsOK_cons] at h
    simp only [fmtItems]
    rw [IsOK_cons]
    exact ⟨⟨KeyOK_clearKey h.1.1, VOK_setDecor h.1.2 DecOK_default⟩, fmtItems_ok r h.2⟩
  | (k, .table t) :: r, h => by
    rw [IsOK_cons] at h
    simp only [fmtItems]
    rw [IsOK_cons]
    exact ⟨h.1, fmtItems_ok r h.2⟩
  | (k, .aot ts sp) :: r, h => by
    rw [IsOK_cons] at h
    simp only [fmtItems]
    rw [IsOK_cons]
    exact ⟨h.1, fmtItems_ok r h.2⟩

theorem fmtKvs_ok : ∀ l : List (CKey × CVal), KvsOK P l → KvsOK P (fmtKvs l)
  | [], _ => trivial
  | (k, v) :: r, h => by
    simp only [KvsOK] at h
    simp only [fmtKvs, KvsOK]
    exact ⟨⟨KeyOK_clearKey h.1.1, VOK_setDecor h.1.2 DecOK_default⟩, fmtKvs_ok r h.2⟩

theorem opDecor_ok (hP : P.Adm) {sp : Raw} (hsp : P.raw sp) (b : Bool) : DecOK P (opDecor sp b) := by
  unfold opDecor
  split
  · exact DecOK_new hP.raw hP.raw
  · exact DecOK_new hsp hP.raw

theorem fmtElems_ok (hP : P.Adm) {sp : Raw} (hsp : P.raw sp) : ∀ (l : List CVal) (b : Bool), VsOK P l →
    VsOK P (fmtElems sp l b)
  | [], _, _ => trivial
  | v :: r, b, h => by
    simp only [VsOK] at h
    simp only [fmtElems, VsOK]
    -- the decor `fmtElems` gives an element is the body of `opDecor` written out
    exact ⟨VOK_setDecor h.1 (opDecor_ok hP hsp b), fmtElems_ok hP hsp r false h.2⟩

theorem sortTbl_ok_all :
    (∀ l : List (CKey × CItem), IsOK P l → IsOK P (sortSub l)) ∧ (∀ t : CTbl, TOK P t → TOK P (sortTbl t)) ∧
    (∀ _ : List CTbl, True) := by
  refine items_induct ?_ ?_ ?_ ?_ ?_ ?_ ?_
  · exact fun _ => trivial
  · intro k v r hr h; simp only [IsOK] at h; simp only [sortSub, IsOK]; exact ⟨h.1, hr h.2⟩
  · intro k t r ht hr h
    simp only [IsOK] at h
    simp only [sortSub, IsOK]
    refine ⟨⟨h.1.1, ?_⟩, hr h.2⟩
    split
    · exact ht h.1.2
    · exact h.1.2
  · intro k ts sp r _ hr h; simp only [IsOK] at h; simp only [sortSub, IsOK]; exact ⟨h.1, hr h.2⟩
  · intro items imp dot p d sp hi h
    simp only [TOK] at h
    simp only [sortTbl, TOK]
    refine ⟨?_, h.2⟩
    rw [IsOK_iff]
    exact AllKV.sortByCKey ((IsOK_iff _).1 (hi h.1))
  · trivial
  · intro _ _ _ _; trivial

theorem sortTbl_ok : ∀ t : CTbl, TOK P t → TOK P (sortTbl t) := sortTbl_ok_all.2.1

theorem sortSub_ok : ∀ l : List (CKey × CItem), IsOK P l → IsOK P (sortSub l) := sortTbl_ok_all.1

theorem sortInl_ok_all :
    (∀ v : CVal, VOK P v → VOK P (sortInl v)) ∧ (∀ _ : List CVal, True) ∧
    (∀ l : List (CKey × CVal), KvsOK P l → KvsOK P (sortInlSub l)) := by
  refine cval_induct ?_ ?_ ?_ ?_ ?_ ?_ ?_
  · intro a b c h; simpa only [sortInl] using h
  · intro a b c d e _ h; simpa only [sortInl] using h
  · intro items pre imp dot d sp ih h
    simp only [VOK] at h
    simp only [sortInl, VOK]
    refine ⟨?_, h.2⟩
    rw [KvsOK_iff]
    exact AllKV.sortByCKey ((KvsOK_iff _).1 (ih h.1))
  · trivial
  · intro _ _ _ _; trivial
  · exact fun _ => trivial
  · intro k v r hv _ hr h
    simp only [KvsOK] at h
    cases v with
    | inl items pre imp dot d sp =>
      simp only [sortInlSub, KvsOK]
      refine ⟨⟨h.1.1, ?_⟩, hr h.2⟩
      split
      · exact hv h.1.2
      · exact h.1.2
    | scalar a b c => simp only [sortInlSub, KvsOK]; exact ⟨h.1, hr h.2⟩
    | arr a b c d e => simp only [sortInlSub, KvsOK]; exact ⟨h.1, hr h.2⟩

theorem sortInl_ok : ∀ v : CVal, VOK P v → VOK P (sortInl v) := sortInl_ok_all.1

theorem sortInlSub_ok : ∀ l : List (CKey × CVal), KvsOK P l → KvsOK P (sortInlSub l) := sortInl_ok_all.2.2

theorem itemsToKvs_ok_all (hP : P.Adm) {sp : Raw} (hsp : P.raw sp) :
    (∀ l : List (CKey × CItem), IsOK P l → KvsOK P (itemsToKvs sp l)) ∧
    (∀ t : CTbl, TOK P t → VOK P (tblToInl sp t)) ∧
    (∀ l : List CTbl, TsOK P l → VsOK P (tblsToVals sp l)) := by
  refine items_induct ?_ ?_ ?_ ?_ ?_ ?_ ?_
  · exact fun _ => trivial
  · intro k v r hr h; simp only [IsOK] at h; simp only [itemsToKvs, itemToVal, KvsOK]; exact ⟨h.1, hr h.2⟩
  · intro k t r ht hr h
    simp only [IsOK] at h
    simp only [itemsToKvs, itemToVal, KvsOK]
    exact ⟨⟨h.1.1, ht h.1.2⟩, hr h.2⟩
  · intro k ts s r hts hr h
    simp only [IsOK] at h
    simp only [itemsToKvs, itemToVal, KvsOK, VOK]
    exact ⟨⟨h.1.1, fmtElems_ok hP hsp _ true (hts h.1.2.1), hP.raw, DecOK_default, hP.sp⟩, hr h.2⟩
  · intro items _ _ _ _ _ hi h
    simp only [TOK] at h
    simp only [tblToInl]
    exact VOK_freshInl hP (fmtKvs_ok _ (hi h.1))
  · exact fun _ => trivial
  · intro t r ht hr h; simp only [TsOK] at h; simp only [tblsToVals, VsOK]; exact ⟨ht h.1, hr h.2⟩

theorem tblToInl_ok (hP : P.Adm) {sp : Raw} (hsp : P.raw sp) : ∀ t : CTbl, TOK P t → VOK P (tblToInl sp t) :=
  (itemsToKvs_ok_all hP hsp).2.1

theorem itemsToKvs_ok (hP : P.Adm) {sp : Raw} (hsp : P.raw sp) : ∀ l : List (CKey × CItem), IsOK P l →
    KvsOK P (itemsToKvs sp l) :=
  (itemsToKvs_ok_all hP hsp).1

theorem tblsToVals_ok (hP : P.Adm) {sp : Raw} (hsp : P.raw sp) : ∀ l : List CTbl, TsOK P l →
    VsOK P (tblsToVals sp l) :=
  (itemsToKvs_ok_all hP hsp).2.2

theorem itemToVal_ok (hP : P.Adm) {sp : Raw} (hsp : P.raw sp) : ∀ it : CItem, ItemOK P it → VOK P (itemToVal sp it)
  | .value v, h => by simp only [itemToVal]; exact h
  | .table t, h => by simp only [itemToVal]; exact tblToInl_ok hP hsp t h
  | .aot ts s, h => by
    simp only [itemToVal, VOK]
    exact ⟨fmtElems_ok hP hsp _ true (tblsToVals_ok hP hsp ts h.1), hP.raw, DecOK_default, hP.sp⟩

theorem kvsToItems_ok : ∀ l : List (CKey × CVal), KvsOK P l → IsOK P (kvsToItems l)
  | [], _ => trivial
  | (k, v) :: r, h => by
    simp only [KvsOK] at h
    simp only [kvsToItems, IsOK]
    exact ⟨h.1, kvsToItems_ok r h.2⟩

theorem inlToTbl_ok (hP : P.Adm) {items : List (CKey × CVal)} (h : KvsOK P items) : TOK P (inlToTbl items) := by
  simp only [inlToTbl, TOK]
  exact ⟨fmtItems_ok _ (kvsToItems_ok items h), DecOK_default, hP.sp⟩

theorem allInl_ok (hP : P.Adm) : ∀ (l : List CVal) (ls : List (List (CKey × CVal))), allInl l = some ls →
    VsOK P l → TsOK P (ls.map inlToTbl)
  | [], ls, h, _ => by simp only [allInl, Option.some.injEq] at h; subst h; trivial
  | .inl items _ _ _ _ _ :: r, ls, h, hv => by
    simp only [allInl] at h
    simp only [VsOK, VOK] at hv
    obtain ⟨l', hl, rfl⟩ := Option.map_eq_some_iff.mp h
    simp only [List.map_cons, TsOK]
    exact ⟨inlToTbl_ok hP hv.1.1, allInl_ok hP r l' hl hv.2⟩
  | .scalar _ _ _ :: _, _, h, _ => by simp [allInl] at h
  | .arr _ _ _ _ _ :: _, _, h, _ => by simp [allInl] at h

theorem convAt_ok {k : Bytes} {f : CItem → Option CItem} (hf : ∀ it it', ItemOK P it → f it = some it' → ItemOK P it')
    (t t' : CTbl) (ht : TOK P t) (h : convAt k f t = some t') : TOK P t' := by
  unfold convAt at h
  split at h
  · rename_i it hl
    obtain ⟨it', hit, rfl⟩ := Option.map_eq_some_iff.mp h
    have hi := (TOK_iff t).1 ht
    exact TOK_setItems' ht (hi.1.creplace (hf it it' (hi.1.lookup hl) hit))
  · cases h

theorem inlSet_ok (hP : P.Adm) {k : Bytes} {kr vr : Raw} {v : Sc} (hk : P.raw kr) (hv : P.raw vr)
    (x x' : CVal) (hx : VOK P x) (h : inlSet k kr vr v x = some x') : VOK P x' := by
  cases x with
  | inl items pre imp dot d sp =>
    simp only [inlSet, Option.some.injEq] at h; subst h
    exact hx.inl_map fun hi => hi.cinsert (KeyOK_newKey hk) (VOK_newScalar hP hv)
  | scalar _ _ _ => simp [inlSet] at h
  | arr _ _ _ _ _ => simp [inlSet] at h

theorem tblDel_ok {k : Bytes} (t t' : CTbl) (ht : TOK P t) (h : tblDel k t = some t') : TOK P t' := by
  unfold tblDel at h
  split at h
  · simp only [Option.some.injEq] at h; subst h
    exact TOK_setItems' ht ((TOK_iff t).1 ht).1.cerase
  · cases h

theorem inlDel_ok {k : Bytes} (x x' : CVal) (hx : VOK P x) (h : inlDel k x = some x') : VOK P x' := by
  cases x with
  | inl items pre imp dot d sp =>
    simp only [inlDel] at h
    split at h
    · simp only [Option.some.injEq] at h; subst h
      exact hx.inl_map AllKV.cerase
    · cases h
  | scalar _ _ _ => simp [inlDel] at h
  | arr _ _ _ _ _ => simp [inlDel] at h

theorem tblPut_ok {k : Bytes} {kr : Raw} {it : CItem} (hk : P.raw kr) (hit : ItemOK P it)
    (t t' : CTbl) (ht : TOK P t) (h : tblPut k kr it t = some t') : TOK P t' := by
  simp only [tblPut, Option.some.injEq] at h; subst h
  exact TOK_setItems' ht (((TOK_iff t).1 ht).1.cinsert (KeyOK_newKey hk) hit)

theorem inlPut_ok (hP : P.Adm) {k : Bytes} {kr sp : Raw} {it : CItem} (hk : P.raw kr) (hsp : P.raw sp)
    (hit : ItemOK P it) (x x' : CVal) (hx : VOK P x) (h : inlPut k kr sp it x = some x') : VOK P x' := by
  cases x with
  | inl items pre imp dot d s =>
    simp only [inlPut, Option.some.injEq] at h; subst h
    exact hx.inl_map fun hi => hi.cinsert (KeyOK_newKey hk) (itemToVal_ok hP hsp it hit)
  | scalar _ _ _ => simp [inlPut] at h
  | arr _ _ _ _ _ => simp [inlPut] at h

theorem tblViv_ok (hP : P.Adm) {k1 k2 : Bytes} {kr1 kr2 vr : Raw} {v : Sc} (h1 : P.raw kr1) (h2 : P.raw kr2)
    (hv : P.raw vr) (t t' : CTbl) (ht : TOK P t) (h : tblViv k1 k2 kr1 kr2 vr v t = some t') : TOK P t' := by
  have hi := (TOK_iff t).1 ht
  have hnew : VOK P (newScalar v vr) := VOK_newScalar hP hv
  unfold tblViv at h
  split at h
  · simp only [Option.some.injEq] at h; subst h
    refine TOK_setItems' ht (hi.1.append (AllKV.single (KeyOK_newKey h1) ?_))
    show VOK P _
    apply VOK_freshInl hP
    simp only [KvsOK]
    exact ⟨⟨KeyOK_newKey h2, hnew⟩, trivial⟩
  · rename_i sub hl
    simp only [Option.some.injEq] at h; subst h
    have hsub : TOK P sub := hi.1.lookup hl
    refine TOK_setItems' ht (hi.1.creplace ?_)
    show TOK P _
    exact TOK_setItems' hsub (((TOK_iff sub).1 hsub).1.cset (KeyOK_newKey h2) hnew)
  · rename_i items pre imp dot d sp hl
    simp only [Option.some.injEq] at h; subst h
    have hsub : VOK P (.inl items pre imp dot d sp) := hi.1.lookup hl
    refine TOK_setItems' ht (hi.1.creplace ?_)
    exact hsub.inl_map fun hs => hs.cset (KeyOK_newKey h2) hnew
  · cases h

theorem valFmt_ok (hP : P.Adm) {sp : Raw} (hsp : P.raw sp) (x x' : CVal) (hx : VOK P x)
    (h : valFmt sp x = some x') : VOK P x' := by
  cases x with
  | inl items pre imp dot d s =>
    simp only [valFmt, Option.some.injEq] at h; subst h
    simp only [VOK] at hx ⊢
    exact ⟨fmtKvs_ok _ hx.1, hx.2⟩
  | arr items tr c d s =>
    simp only [valFmt, Option.some.injEq] at h; subst h
    simp only [VOK] at hx ⊢
    exact ⟨fmtElems_ok hP hsp _ true hx.1, hP.raw, hx.2.2⟩
  | scalar _ _ _ => simp [valFmt] at h

theorem arrPush_ok (hP : P.Adm) {vr sp : Raw} {v : Sc} (hv : P.raw vr) (hsp : P.raw sp) (x x' : CVal)
    (hx : VOK P x) (h : arrPush vr sp v x = some x') : VOK P x' := by
  cases x with
  | arr items tr c d s =>
    simp only [arrPush, Option.some.injEq] at h; subst h
    refine hx.arr_map fun hall y hy => ?_
    rcases List.mem_append.1 hy with hy | hy
    · exact hall y hy
    · simp only [List.mem_singleton] at hy; subst hy
      exact VOK_setDecor (VOK_newScalar hP hv) (opDecor_ok hP hsp _)
  | scalar _ _ _ => simp [arrPush] at h
  | inl _ _ _ _ _ _ => simp [arrPush] at h

theorem arrInsert_ok (hP : P.Adm) {i : Nat} {vr sp : Raw} {v : Sc} (hv : P.raw vr) (hsp : P.raw sp) (x x' : CVal)
    (hx : VOK P x) (h : arrInsert i vr sp v x = some x') : VOK P x' := by
  cases x with
  | arr items tr c d s =>
    simp only [arrInsert] at h
    split at h
    · simp only [Option.some.injEq] at h; subst h
      refine hx.arr_map fun hall y hy => ?_
      rcases mem_insertAt _ _ _ _ hy with hy | hy
      · subst hy
        exact VOK_setDecor (VOK_newScalar hP hv) (opDecor_ok hP hsp _)
      · exact hall y hy
    · cases h
  | scalar _ _ _ => simp [arrInsert] at h
  | inl _ _ _ _ _ _ => simp [arrInsert] at h

theorem arrReplace_ok (hP : P.Adm) {i : Nat} {vr : Raw} {v : Sc} (hv : P.raw vr) (x x' : CVal)
    (hx : VOK P x) (h : arrReplace i vr v x = some x') : VOK P x' := by
  cases x with
  | arr items tr c d s =>
    simp only [arrReplace] at h
    split at h
    · rename_i old hold
      simp only [Option.some.injEq] at h; subst h
      refine hx.arr_map fun hall y hy => ?_
      rcases List.mem_or_eq_of_mem_set hy with hy | hy
      · exact hall y hy
      · subst hy
        exact VOK_setDecor (VOK_newScalar hP hv) (VOK_decor (hall old (List.mem_of_getElem? hold)))
    · cases h
  | scalar _ _ _ => simp [arrReplace] at h
  | inl _ _ _ _ _ _ => simp [arrReplace] at h

theorem arrRemove_ok {i : Nat} (x x' : CVal) (hx : VOK P x) (h : arrRemove i x = some x') : VOK P x' := by
  cases x with
  | arr items tr c d s =>
    simp only [arrRemove] at h
    split at h
    · simp only [Option.some.injEq] at h; subst h
      exact hx.arr_map fun hall y hy => hall y (mem_removeAt _ _ _ hy)
    · cases h
  | scalar _ _ _ => simp [arrRemove] at h
  | inl _ _ _ _ _ _ => simp [arrRemove] at h

theorem aotPush_ok (hP : P.Adm) {kr vr : Raw} (hk : P.raw kr) (hv : P.raw vr) (ts ts' : List CTbl)
    (hts : TsOK P ts) (h : aotPush kr vr ts = some ts') : TsOK P ts' := by
  simp only [aotPush, Option.some.injEq] at h; subst h
  rw [TsOK_iff]
  intro y hy
  rcases List.mem_append.1 hy with hy | hy
  · exact (TsOK_iff _).1 hts y hy
  · simp only [List.mem_singleton] at hy; subst hy
    simp only [TOK, IsOK]
    exact ⟨⟨⟨KeyOK_newKey hk, VOK_newScalar hP hv⟩, trivial⟩, DecOK_default, hP.sp⟩

theorem aotRemove_ok {i : Nat} (ts ts' : List CTbl) (hts : TsOK P ts) (h : aotRemove i ts = some ts') :
    TsOK P ts' := by
  unfold aotRemove at h
  split at h
  · simp only [Option.some.injEq] at h; subst h
    rw [TsOK_iff]
    intro y hy
    exact (TsOK_iff _).1 hts y (mem_removeAt _ _ _ hy)
  · cases h

theorem convInl_ok (hP : P.Adm) {sp : Raw} (hsp : P.raw sp) (it it' : CItem) (hit : ItemOK P it)
    (h : convInl sp it = some it') : ItemOK P it' := by
  cases it with
  | table t =>
    simp only [convInl, Option.some.injEq] at h; subst h
    exact tblToInl_ok hP hsp t hit
  | value _ => simp [convInl] at h
  | aot _ _ => simp [convInl] at h

theorem convAotArr_ok (hP : P.Adm) {sp : Raw} (hsp : P.raw sp) (it it' : CItem) (hit : ItemOK P it)
    (h : convAotArr sp it = some it') : ItemOK P it' := by
  cases it with
  | aot ts s =>
    simp only [convAotArr, Option.some.injEq] at h; subst h
    exact itemToVal_ok hP hsp _ hit
  | value _ => simp [convAotArr] at h
  | table _ => simp [convAotArr] at h

theorem convTbl_ok (hP : P.Adm) (it it' : CItem) (hit : ItemOK P it) (h : convTbl it = some it') : ItemOK P it' := by
  unfold convTbl at h
  split at h
  · simp only [Option.some.injEq] at h; subst h
    have hit' : VOK P _ := hit
    simp only [VOK] at hit'
    exact inlToTbl_ok hP hit'.1
  · cases h

theorem convArrAot_ok (hP : P.Adm) (it it' : CItem) (hit : ItemOK P it) (h : convArrAot it = some it') :
    ItemOK P it' := by
  unfold convArrAot at h
  split at h
  · split at h
    · cases h
    · split at h
      · rename_i ls hl
        simp only [Option.some.injEq] at h; subst h
        have hit' : VOK P _ := hit
        simp only [VOK] at hit'
        exact ⟨allInl_ok hP _ ls hl hit'.1, hP.sp⟩
      · cases h
  · cases h

theorem inlSort_ok (x x' : CVal) (hx : VOK P x) (h : inlSort x = some x') : VOK P x' := by
  cases x with
  | inl items pre imp dot d s =>
    simp only [inlSort, Option.some.injEq] at h; subst h
    exact sortInl_ok _ hx
  | scalar _ _ _ => simp [inlSort] at h
  | arr _ _ _ _ _ => simp [inlSort] at h

theorem noTbl_ok (t t' : CTbl) (_ : TOK P t) (h : noTbl t = some t') : TOK P t' := by simp [noTbl] at h
theorem noVal_ok (t t' : CVal) (_ : VOK P t) (h : noVal t = some t') : VOK P t' := by simp [noVal] at h
theorem noAot_ok (t t' : List CTbl) (_ : TsOK P t) (h : noAot t = some t') : TsOK P t' := by simp [noAot] at h

/-- for `tpush` and `mv` the rows of `Op.upd` are empty; `applyOp_ok` takes their updates from `Applied` -/
theorem opUpd_ok (hP : P.Adm) (op : Op) (rs : List Raw) (hr : ∀ i, P.raw (rs.getD i .empty)) :
    UpdOK P (op.upd rs) := by
  cases op with
  -- `tblSet` and `tblNewTable` unfold to `tblPut … (.value (newScalar …))` and `tblPut … (.table CTbl.empty)`
  | set k v => exact ⟨tblPut_ok (hr 0) (VOK_newScalar hP (hr 1)), inlSet_ok hP (hr 0) (hr 1), noAot_ok⟩
  | del k => exact ⟨tblDel_ok, inlDel_ok, noAot_ok⟩
  | newt k => exact ⟨tblPut_ok (it := .table _) (hr 0) (TOK_empty hP), noVal_ok, noAot_ok⟩
  | viv k1 k2 v => exact ⟨tblViv_ok hP (hr 0) (hr 1) (hr 2), noVal_ok, noAot_ok⟩
  | sort =>
    refine ⟨?_, inlSort_ok, noAot_ok⟩
    intro t t' ht h
    simp only [Op.upd, Option.some.injEq] at h; subst h
    exact sortTbl_ok t ht
  | fmt =>
    refine ⟨?_, valFmt_ok hP (hr 0), noAot_ok⟩
    intro t t' ht h
    simp only [Op.upd, tblFmt, Option.some.injEq] at h; subst h
    refine TOK_setItems' ht ?_
    rw [← IsOK_iff]
    exact fmtItems_ok _ ((IsOK_iff _).2 ((TOK_iff t).1 ht).1)
  | push v => exact ⟨noTbl_ok, arrPush_ok hP (hr 0) (hr 1), noAot_ok⟩
  | ains i v => exact ⟨noTbl_ok, arrInsert_ok hP (hr 0) (hr 1), noAot_ok⟩
  | arepl i v => exact ⟨noTbl_ok, arrReplace_ok hP (hr 0), noAot_ok⟩
  | adel i => exact ⟨noTbl_ok, arrRemove_ok, noAot_ok⟩
  | tpush => exact ⟨noTbl_ok, noVal_ok, noAot_ok⟩
  | tdel i => exact ⟨noTbl_ok, noVal_ok, aotRemove_ok⟩
  | inl k => exact ⟨convAt_ok (convInl_ok hP (hr 0)), noVal_ok, noAot_ok⟩
  | tbl k => exact ⟨convAt_ok (convTbl_ok hP), noVal_ok, noAot_ok⟩
  | aot2arr k => exact ⟨convAt_ok (convAotArr_ok hP (hr 0)), noVal_ok, noAot_ok⟩
  | arr2aot k => exact ⟨convAt_ok (convArrAot_ok hP), noVal_ok, noAot_ok⟩
  | mv k p2 => exact ⟨noTbl_ok, noVal_ok, noAot_ok⟩

/-- a family of predicates indexed by the arena that the ops keep: it accepts what the ops create, grows with the
    arena, and accepts the `RawString` of a text appended to the arena -/
structure Fam (F : Bytes → Pr) : Prop where
  adm : ∀ inp, (F inp).Adm
  le : ∀ inp x, (F inp).Le (F (inp ++ x))
  mkRaw : ∀ inp t, (F (inp ++ t)).raw (mkRaw inp t).2

variable {F : Bytes → Pr}

theorem allocAll_ok (hF : Fam F) : ∀ (ts : List Bytes) {inp inp' : Bytes} {rs : List Raw},
    allocAll inp ts = (inp', rs) → ∀ r ∈ rs, (F inp').raw r
  | [], _, _, _, h => by cases h; simp
  | t :: r, inp, _, _, h => by
    have ih := allocAll_ok hF r (inp := inp ++ t) rfl
    obtain ⟨x, hx⟩ := allocAll_prefix r (inp := inp ++ t) rfl
    cases h
    intro y hy
    rcases List.mem_cons.1 hy with rfl | hy
    · show (F (allocAll (inp ++ t) r).1).raw _
      rw [hx]
      exact (hF.le _ x).raw _ (hF.mkRaw inp t)
    · exact ih y hy

theorem getD_ok {Q : Pr} (hQ : Q.Adm) {rs : List Raw} (h : ∀ r ∈ rs, Q.raw r) (i : Nat) : Q.raw (rs.getD i .empty) := by
  rw [List.getD_eq_getElem?_getD]
  cases hi : rs[i]? with
  | none => exact hQ.raw
  | some r => exact h r (List.mem_of_getElem? hi)

theorem alloc_ok (hF : Fam F) {inp inp' : Bytes} {ts : List Bytes} {rs : List Raw} (ha : allocAll inp ts = (inp', rs))
    {t : CTbl} (hs : TOK (F inp) t) : (∀ i, (F inp').raw (rs.getD i .empty)) ∧ TOK (F inp') t := by
  obtain ⟨x, rfl⟩ := allocAll_prefix ts ha
  exact ⟨getD_ok (hF.adm _) (allocAll_ok hF ts ha), TOK.le (hF.le _ x) _ hs⟩

theorem applyOp_ok (hF : Fam F) (st st' : St) (op : Op) (p : List Seg) (h : applyOp st op p = some st')
    (hs : TOK (F st.inp) st.doc.root) : TOK (F st'.inp) st'.doc.root := by
  cases applyOp_applied h with
  | upd _ _ ha hu =>
    obtain ⟨hr, hs'⟩ := alloc_ok hF ha hs
    exact upd_ok_tbl (opUpd_ok (hF.adm _) _ _ hr) p _ _ hu hs'
  | tpush _ ha hu =>
    obtain ⟨hr, hs'⟩ := alloc_ok hF ha hs
    exact upd_ok_tbl ⟨noTbl_ok, noVal_ok, aotPush_ok (hF.adm _) (hr 0) (hr 1)⟩ p _ _ hu hs'
  | mv hn ha h1 h2 =>
    obtain ⟨hr, hs'⟩ := alloc_ok hF ha hs
    have hn' := ItemOK_nodeItem (look_ok_tbl _ _ _ hn hs')
    exact upd_ok_tbl ⟨tblPut_ok (hr 0) hn', inlPut_ok (hF.adm _) (hr 0) (hr 1) hn', noAot_ok⟩ _ _ _ h2
      (upd_ok_tbl ⟨tblDel_ok, inlDel_ok, noAot_ok⟩ p _ _ h1 hs')

theorem run_ok (hF : Fam F) (es : List (Op × List Seg)) (st : St) (h : TOK (F st.inp) st.doc.root) :
    TOK (F (run st es).inp) (run st es).doc.root :=
  run_rel (fun a b => TOK (F a.inp) a.doc.root → TOK (F b.inp) b.doc.root) (fun _ => id) (fun h1 h2 => h2 ∘ h1)
    (fun _ => True) (fun st e st' _ ha => applyOp_ok hF st st' e.1 e.2 ha) es st (fun _ _ => trivial) h

end TomlVerif.Lemmas.Refine08c
