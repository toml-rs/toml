import TomlVerif.Lemmas.Tiling03MoreNadDefs
import TomlVerif.Lemmas.Tiling03MoreTkoDefs
/-! C03, same data — the join of the take-over class and the non-adjacent class: `genRun` = the
    header check of `tkoRun` (`hdrLineOkT`) + the key/value check of `nadRun` (`kvLineOkN`).
    Inclusions `nadRun ⊆ genRun`, `tkoRun ⊆ genRun`. -/
namespace TomlVerif.Lemmas.Tiling03More.Gen
open TomlVerif TomlVerif.Spec TomlVerif.Model TomlVerif.Model.Strings TomlVerif.Model.Value
open TomlVerif.Model.Cst TomlVerif.Model.Encode TomlVerif.Lemmas.Suffix03 TomlVerif.Lemmas.Cst03
open TomlVerif.Lemmas.LastByte03 TomlVerif.Lemmas.Tiling03 TomlVerif.Lemmas.Tiling03Hdr
open TomlVerif.Lemmas.Tiling03Nest TomlVerif.Lemmas.Tiling03More TomlVerif.Lemmas.Tiling03More.Tko

def runOkG (inp : Bytes) : Nat → CState → Bytes → Bool
  | 0, _, _ => true
  | fuel + 1, st, s =>
    let n := inp.length
    match s with
    | [] => true
    | b :: r =>
      if b == 0x23 then
        let r1 := dropComment r
        match r1 with
        | [] => true
        | _ => match newline? r1 with
          | some r2 =>
            let (st', r3) := parseWs n (onWs st (pos n s) (pos n r2)) r2
            runOkG inp fuel st' r3
          | none => true
      else if b == 0x5B then
        hdrLineOkT inp st s &&
        (match ctableLine n st s with
         | some (st', r1) =>
           let (st'', r2) := parseWs n st' r1
           runOkG inp fuel st'' r2
         | none => true)
      else if b == 0x0A || b == 0x0D then
        match newline? s with
        | some r1 =>
          let (st', r2) := parseWs n (onWs st (pos n s) (pos n r1)) r1
          runOkG inp fuel st' r2
        | none => true
      else
        kvLineOkN inp st s &&
        (match ckeyvalLine n st s with
         | some (st', r1) =>
           let (st'', r2) := parseWs n st' r1
           runOkG inp fuel st'' r2
         | none => true)

theorem runOkG_with (inp : Bytes) : ∀ (fuel : Nat) (st : CState) (s : Bytes),
    runOkG inp fuel st s = runOkWith (hdrLineOkT inp) (kvLineOkN inp) inp.length fuel st s
  | 0, _, _ => rfl
  | fuel + 1, st, s => by
    unfold runOkG runOkWith
    simp only [runOkG_with inp fuel]
    rfl

/-- the class: take-over headers, dotted keys in any order -/
def genRun (s : Bytes) : Bool :=
  let n := s.length
  let s0 := Doc.stripBom s
  let (st0, s1) := parseWs n {} s0
  runOkG s (s1.length + 1) st0 s1

theorem nadRun_G (s : Bytes) (h : nadRun s = true) : genRun s = true := by
  unfold nadRun at h
  unfold genRun
  simp only [] at h ⊢
  rw [runOkN_with] at h
  rw [runOkG_with]
  exact runOkWith_mono _ (hdrLineOkA_T s) (fun _ _ h => h) _ _ _ h

theorem tkoRun_G (s : Bytes) (h : tkoRun s = true) : genRun s = true := by
  unfold tkoRun at h
  unfold genRun
  simp only [] at h ⊢
  rw [runOkT_with] at h
  rw [runOkG_with]
  exact runOkWith_mono _ (fun _ _ h => h) (kvLineOkA_N s) _ _ _ h

end TomlVerif.Lemmas.Tiling03More.Gen
