import TomlVerif.Lemmas.Tiling03Positions
/-! C03, nested documents — the position summary along the spine of the root: `start_table` /
    `start_array_table` append implicit empty tables only, `finalize_table` appends the finished
    table. -/
namespace TomlVerif.Lemmas.Tiling03More
open TomlVerif TomlVerif.Spec TomlVerif.Model TomlVerif.Model.Strings TomlVerif.Model.Value
open TomlVerif.Model.Cst TomlVerif.Model.Encode TomlVerif.Lemmas.Suffix03 TomlVerif.Lemmas.Cst03
open TomlVerif.Lemmas.LastByte03 TomlVerif.Lemmas.Tiling03 TomlVerif.Lemmas.Tiling03Hdr
open TomlVerif.Lemmas.Tiling03Nest

theorem hdSum_newImplicit : hdSum (newImplicit false) false false = [(none, true)] := by
  simp [hdSum, okFlag, newImplicit, CTbl.dotted, CTbl.pos, CTbl.implicit, CTbl.items, valuesTbl]

theorem replicate_cons_nones (n : Nat) :
    (none, true) :: List.replicate n ((none : Option Nat), true) = List.replicate (n + 1) (none, true) := by
  rw [List.replicate_succ]

theorem start_spine_sum (inp : Bytes) (a : Bool) (key : CKey) :
    ∀ (pp : List CKey) (t t' : CTbl), pathOk inp a key t pp = true →
      descend t pp false (if a then arrFn key else eraseFn key) = some t' →
      ∃ n, sumItems t'.items = sumItems t.items ++ List.replicate n (none, true) := by
  intro pp t t' hok hd
  revert hok
  -- below a segment: what the run from there appended, and that it kept everything but the items
  have below : ∀ (ks : List CKey) (sub sub' : CTbl), pathOk inp a key sub ks = true →
      descend sub ks false (if a then arrFn key else eraseFn key) = some sub' →
      ∀ r a0, sumTbl sub' r a0 = hdSum sub r a0 ++ sumItems sub'.items := fun ks sub sub' hpo hd' r a0 =>
    sumTbl_setItems _ _ r a0 (descend_setItems _ (startFn_setItems a key) ks _ _ _ hd')
      (start_spine inp a key ks _ _ hpo hd').2.2.2.1
  refine descend_induction (P := fun t pp t' => pathOk inp a key t pp = true →
    ∃ n, sumItems t'.items = sumItems t.items ++ List.replicate n (none, true)) ?_ ?_ ?_ ?_ pp t t' hd
  · intro t t' hd hok
    simp only [pathOk, Bool.and_eq_true, Bool.not_eq_true'] at hok
    obtain ⟨_, hok⟩ := hok
    cases a with
    | false =>
      simp only [Bool.false_eq_true, if_false] at hd
      cases hl : clookup key.key t.items with
      | none =>
        unfold eraseFn at hd
        injection hd with hd
        rw [cerase_of_none _ _ hl, setItems_self] at hd
        subst hd
        exact ⟨0, by simp⟩
      | some y => rw [hl] at hok; simp at hok
    | true =>
      simp only [if_true] at hd
      unfold arrFn at hd
      split at hd
      · injection hd with hd; subst hd; exact ⟨0, by simp⟩
      · cases hd
      · injection hd with hd; subst hd
        refine ⟨0, ?_⟩
        rw [setItems_items, sumItems_append]
        simp [sumItems, sumAot]
  · intro t k ks sub' hl hd' ih _
    have hpo := pathOk_empty inp a key (newImplicit false) rfl rfl ks
    obtain ⟨n, hn⟩ := ih hpo
    refine ⟨n + 1, ?_⟩
    rw [setItems_items, sumItems_append]
    simp only [sumItems, List.append_nil]
    rw [below ks _ _ hpo hd', hdSum_newImplicit, hn]
    simp [newImplicit, CTbl.items, sumItems, List.replicate_succ]
  · intro t k ks sub sub' hl hd' ih hok
    simp only [pathOk, Bool.and_eq_true, Bool.not_eq_true', hl] at hok
    obtain ⟨_, hok⟩ := hok
    split at hok
    · rename_i init k' sub0 hle
      obtain ⟨e1, e2, e3, e4⟩ := lastEntry_some _ _ _ _ _ hle
      rw [hl] at e4
      cases e4
      simp only [Bool.and_eq_true] at hok
      obtain ⟨n, hn⟩ := ih hok.2
      refine ⟨n, ?_⟩
      rw [(last_lookup e1 e2 e3).2, setItems_items, e1, sumItems_append, sumItems_append]
      simp only [sumItems, List.append_nil]
      rw [below ks _ _ hok.2 hd', hn, sumTbl_eq sub]
      simp only [List.append_assoc]
    · rename_i init k' ts asp hle
      obtain ⟨_, _, _, e4⟩ := lastEntry_some _ _ _ _ _ hle
      rw [hl] at e4
      cases e4
    · cases hok
  · intro t k ks tsI l l' sp hl hd' ih hok
    simp only [pathOk, Bool.and_eq_true, Bool.not_eq_true', hl] at hok
    obtain ⟨_, hok⟩ := hok
    split at hok
    · rename_i init k' sub0 hle
      obtain ⟨_, _, _, e4⟩ := lastEntry_some _ _ _ _ _ hle
      rw [hl] at e4
      cases e4
    · rename_i init k' ts asp hle
      obtain ⟨e1, e2, e3, e4⟩ := lastEntry_some _ _ _ _ _ hle
      rw [hl] at e4
      cases e4
      simp only [Bool.and_eq_true] at hok
      obtain ⟨_, hok2⟩ := hok
      rw [show (tsI ++ [l]).reverse = l :: tsI.reverse by simp] at hok2
      simp only [] at hok2
      obtain ⟨n, hn⟩ := ih hok2
      refine ⟨n, ?_⟩
      rw [(last_lookup e1 e2 e3).2, setItems_items, e1, sumItems_append, sumItems_append]
      simp only [sumItems, List.append_nil]
      rw [sumAot_append, sumAot_append]
      simp only [sumAot, List.append_nil]
      rw [below ks _ _ hok2 hd', hn, sumTbl_eq l]
      simp only [List.append_assoc]
    · cases hok

theorem start_sum (inp : Bytes) (a : Bool) (key : CKey) (pp : List CKey) (t t' : CTbl)
    (hok : pathOk inp a key t pp = true)
    (hd : descend t pp false (if a then arrFn key else eraseFn key) = some t') (r a0 : Bool) :
    (∃ n, sumTbl t' r a0 = sumTbl t r a0 ++ List.replicate n (none, true)) ∧ t'.decor = t.decor := by
  obtain ⟨n, hn⟩ := start_spine_sum inp a key pp t t' hok hd
  obtain ⟨_, _, i3, i4, _⟩ := start_spine inp a key pp t t' hok hd
  have hs := descend_setItems _ (startFn_setItems a key) pp _ _ _ hd
  refine ⟨⟨n, ?_⟩, i3⟩
  rw [sumTbl_setItems _ _ _ _ hs i4, hn, sumTbl_eq t, List.append_assoc]

theorem fin_spine_sum (inp : Bytes) (a : Bool) (key : CKey) (cur : CTbl) (hcd : cur.dotted = false) :
    ∀ (pp : List CKey) (t t' : CTbl), SpineP inp a key t pp →
      descend t pp false (if a then finArr key cur else finStd key cur) = some t' →
      sumItems t'.items = sumItems t.items ++ sumTbl cur false a ∧
      valuesTbl t'.items [] = valuesTbl t.items [] := by
  intro pp t t' hsp hd
  revert hsp
  refine descend_induction (P := fun t pp t' => SpineP inp a key t pp →
    sumItems t'.items = sumItems t.items ++ sumTbl cur false a ∧
      valuesTbl t'.items [] = valuesTbl t.items []) ?_ ?_ ?_ ?_ pp t t' hd
  · intro t t' hd hsp
    obtain ⟨hdot, hsp⟩ := hsp
    cases a with
    | false =>
      simp only [Bool.false_eq_true, if_false] at hd hsp
      unfold finStd at hd
      rw [hsp] at hd
      injection hd with hd
      subst hd
      exact ⟨by rw [setItems_items, sumItems_append]; simp [sumItems],
        by rw [setItems_items]; exact valuesTbl_snoc_table _ _ _ hcd _⟩
    | true =>
      simp only [if_true] at hd hsp
      obtain ⟨init, k', ts, asp, e1, e2, e3, e4⟩ := hsp
      obtain ⟨hl, hcs⟩ := last_lookup e1 e2 e3
      unfold finArr at hd
      rw [hl] at hd
      simp only [Option.getD_some] at hd
      injection hd with hd
      rw [hcs] at hd
      subst hd
      refine ⟨?_, ?_⟩
      · rw [setItems_items, e1, sumItems_append, sumItems_append]
        simp only [sumItems, List.append_nil]
        rw [sumAot_append]
        simp [sumAot, List.append_assoc]
      · rw [setItems_items, e1, valuesTbl_snoc_aot, valuesTbl_snoc_aot]
  · intro t k ks sub' hl _ _ hsp
    obtain ⟨_, init, k', e3, e2, _, ⟨sub, e1, _⟩ | ⟨tsI, l, asp, e1, _⟩⟩ := hsp <;>
      rw [(last_lookup e1 e2 e3).1] at hl <;> cases hl
  · intro t k ks sub sub' hl hd' ih hsp
    have hs := descend_setItems _ (finFn_setItems a key cur) ks sub sub' false hd'
    obtain ⟨_, init, k', e3, e2, _, ⟨sub0, e1, hsub⟩ | ⟨tsI, l, asp, e1, _⟩⟩ := hsp
    · obtain ⟨hl', hcs⟩ := last_lookup e1 e2 e3
      rw [hl'] at hl; cases hl
      obtain ⟨i1, i2⟩ := ih hsub
      have hsd : sub.dotted = false := spineP_dotted hsub
      have hsd' : sub'.dotted = false := by rw [hs]; simpa using hsd
      rw [hcs, setItems_items, e1]
      refine ⟨?_, by rw [valuesTbl_snoc_table _ _ _ hsd', valuesTbl_snoc_table _ _ _ hsd]⟩
      rw [sumItems_append, sumItems_append]
      simp only [sumItems, List.append_nil]
      rw [sumTbl_setItems _ _ _ _ hs i2, i1, sumTbl_eq sub]
      simp only [List.append_assoc]
    · rw [(last_lookup e1 e2 e3).1] at hl; cases hl
  · intro t k ks tsI l l' sp hl hd' ih hsp
    have hs := descend_setItems _ (finFn_setItems a key cur) ks l l' false hd'
    obtain ⟨_, init, k', e3, e2, _, ⟨sub0, e1, _⟩ | ⟨tsI0, l0, asp, e1, hsub⟩⟩ := hsp
    · rw [(last_lookup e1 e2 e3).1] at hl; cases hl
    · obtain ⟨hl', hcs⟩ := last_lookup e1 e2 e3
      rw [hl'] at hl
      injection hl with hl; injection hl with h5 h6
      obtain ⟨rfl, rfl⟩ := List.append_singleton_inj.mp h5
      subst h6
      obtain ⟨i1, i2⟩ := ih hsub
      rw [hcs, setItems_items, e1]
      refine ⟨?_, by rw [valuesTbl_snoc_aot, valuesTbl_snoc_aot]⟩
      rw [sumItems_append, sumItems_append]
      simp only [sumItems, List.append_nil]
      rw [sumAot_append, sumAot_append]
      simp only [sumAot, List.append_nil]
      rw [sumTbl_setItems _ _ _ _ hs i2, i1, sumTbl_eq l0]
      simp only [List.append_assoc]

theorem fin_sum (inp : Bytes) (a : Bool) (key : CKey) (cur : CTbl) (hcd : cur.dotted = false)
    (pp : List CKey) (t t' : CTbl) (hsp : SpineP inp a key t pp)
    (hd : descend t pp false (if a then finArr key cur else finStd key cur) = some t') (r a0 : Bool) :
    sumTbl t' r a0 = sumTbl t r a0 ++ sumTbl cur false a ∧ t'.decor = t.decor := by
  obtain ⟨i1, i2⟩ := fin_spine_sum inp a key cur hcd pp t t' hsp hd
  have hs := descend_setItems _ (finFn_setItems a key cur) pp _ _ _ hd
  refine ⟨?_, by rw [hs]; simp⟩
  rw [sumTbl_setItems _ _ _ _ hs i2, i1, sumTbl_eq t, List.append_assoc]

end TomlVerif.Lemmas.Tiling03More
