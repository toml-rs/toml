import TomlVerif.Lemmas.DeLocated15
/-! For Props/C15Located.lean: a derived struct's `visit_map` walked in ENTRY order (`walkEntries` +
    `fillFields`, Model/DeLocated.lean) gives the verdict and the value of the FIELD-order description
    `decodeEditFields` after `dupField` (Model/DeTyped.lean), when the field names are distinct. -/
namespace TomlVerif.Lemmas.DeLocated15
open TomlVerif TomlVerif.Model TomlVerif.Model.TomlValue TomlVerif.Model.DeRoutes TomlVerif.Model.DeText
open TomlVerif.Model.DeTyped TomlVerif.Model.Cst TomlVerif.Model.DeLocated

/-- what `next_value_seed` of a field of type `t` gives on an entry (the code as it stands) -/
def srcDec (fl : Flavour) (t : Ty) : ESrc → R Dec
  | .item i => decodeEdit editAsIs fl t i
  | .str s => decodeStrDe t s

/-- `decodeLocEntry` without locations -/
def entryR (fl : Flavour) : Fields → Bytes → ESrc → R (Option Dec)
  | .nil, _, _ => .ok none
  | .cons name t _ r, k, src => if name == k then rmap some (srcDec fl t src) else entryR fl r k src

def distinctNames : Fields → Bool
  | .nil => true
  | .cons n _ _ r => !r.hasName n && distinctNames r

/-- `decodeEditFields` with some fields already decoded (`pre`) -/
def fieldsWith (fl : Flavour) : Fields → List (Bytes × Dec) → List (Bytes × ESrc) → R (List (Bytes × Dec))
  | .nil, _, _ => .ok []
  | .cons name t dflt r, pre, es =>
    rcons (match alookup name pre with
           | some d => .ok (name, d)
           | none => rmap (fun d => (name, d))
               (match alookup name es with
                | some src => srcDec fl t src
                | none => if dflt then .ok .dflt else missingField t))
      (fieldsWith fl r pre es)

theorem fieldsWith_nil (fl : Flavour) : ∀ (fs : Fields) (es : List (Bytes × ESrc)),
    fieldsWith fl fs [] es = decodeEditFields editAsIs fl fs es
  | .nil, es => by simp [fieldsWith, decodeEditFields]
  | .cons name t dflt r, es => by
    unfold fieldsWith decodeEditFields
    rw [fieldsWith_nil fl r es]
    simp only [alookup]
    congr 2
    cases alookup name es with
    | none => rfl
    | some src => cases src <;> simp [srcDec, editAsIs]

theorem rcons_fail_left {α} (x : R (List α)) : rcons (fail : R α) x = fail := by
  cases x <;> rfl

theorem rcons_fail_right {α} (a : R α) : rcons a (fail : R (List α)) = fail := by
  cases a <;> rfl

theorem fieldsWith_done (fl : Flavour) : ∀ (fs : Fields) (pre : List (Bytes × Dec)),
    fieldsWith fl fs pre [] = fillFields Err.fail fs pre
  | .nil, pre => by simp [fieldsWith, fillFields]
  | .cons name t dflt r, pre => by
    rw [fillFields_cons, ← fieldsWith_done fl r pre]
    conv => lhs; unfold fieldsWith
    generalize fieldsWith fl r pre [] = rest
    have hrest : ∀ x : Bytes × Dec, rcons (.ok x) rest = rest.map fun l => x :: l := by
      intro x; cases rest with
      | ok l => rfl
      | error e => cases e; rfl
    unfold filled
    simp only [alookup]
    cases alookup name pre with
    | some d => exact hrest _
    | none =>
      cases dflt with
      | true => exact hrest _
      | false =>
        cases missingField t with
        | ok d => exact hrest _
        | error e => exact rcons_fail_left rest

theorem fieldsWith_entry_fails (fl : Flavour) (k : Bytes) (src : ESrc) (pre : List (Bytes × Dec)) (r : List (Bytes × ESrc))
    (hpre : alookup k pre = none) : ∀ fs : Fields, entryR fl fs k src = fail →
    fieldsWith fl fs pre ((k, src) :: r) = fail
  | .nil, h => by simp [entryR, fail] at h
  | .cons name t dflt rest, h => by
    unfold entryR at h
    unfold fieldsWith
    by_cases hn : (name == k) = true
    · have hk : name = k := by simpa using hn
      subst hk
      simp only [beq_self_eq_true, if_true] at h
      have hs : srcDec fl t src = fail := by
        cases hsd : srcDec fl t src with
        | ok d => rw [hsd] at h; simp [rmap, fail] at h
        | error e => cases e; rfl
      simp only [hpre, alookup, beq_self_eq_true, if_true, hs]
      simp [rmap, fail, rcons]
    · simp only [hn] at h
      rw [fieldsWith_entry_fails fl k src pre r hpre rest (by simpa using h)]
      exact rcons_fail_right _

/-- every field named `k` decodes `src` to `d`. `entryR` reads the FIRST field named `k`, `fieldsWith` looks every field
    up: they agree only when the names are distinct (`allNamed_of_entryR`), hence all fields here. -/
def AllNamed (fl : Flavour) (k : Bytes) (src : ESrc) (d : Dec) : Fields → Prop
  | .nil => True
  | .cons n t _ r => (n = k → srcDec fl t src = .ok d) ∧ AllNamed fl k src d r

theorem allNamed_of_not_hasName (fl : Flavour) (k : Bytes) (src : ESrc) (d : Dec) : ∀ fs : Fields,
    fs.hasName k = false → AllNamed fl k src d fs
  | .nil, _ => trivial
  | .cons n t dflt r, h => by
    simp only [Fields.hasName, Bool.or_eq_false_iff] at h
    refine ⟨fun hn => ?_, allNamed_of_not_hasName fl k src d r h.2⟩
    subst hn; simp at h

theorem allNamed_of_entryR (fl : Flavour) (k : Bytes) (src : ESrc) (d : Dec) : ∀ fs : Fields,
    distinctNames fs = true → entryR fl fs k src = .ok (some d) → AllNamed fl k src d fs
  | .nil, _, _ => trivial
  | .cons n t dflt r, hd, h => by
    simp only [distinctNames, Bool.and_eq_true, Bool.not_eq_true'] at hd
    unfold entryR at h
    by_cases hn : (n == k) = true
    · have hk : n = k := by simpa using hn
      subst hk
      simp only [beq_self_eq_true, if_true] at h
      refine ⟨fun _ => ?_, allNamed_of_not_hasName fl n src d r hd.1⟩
      cases hsd : srcDec fl t src with
      | ok d' => rw [hsd] at h; simp [rmap] at h; rw [h]
      | error e => rw [hsd] at h; simp [rmap] at h
    · simp only [hn] at h
      refine ⟨fun hk => ?_, allNamed_of_entryR fl k src d r hd.2 (by simpa using h)⟩
      subst hk; simp at hn

theorem alookup_append_single {α : Type} (k n : Bytes) (d : α) (pre : List (Bytes × α)) :
    alookup n (pre ++ [(k, d)]) = match alookup n pre with
      | some x => some x
      | none => if k == n then some d else none := by
  rw [State09.alookup_append]; rfl

/-- the entry `(k, src)` decoded to `d` can move from the entries to the decoded ones -/
theorem fieldsWith_step (fl : Flavour) (k : Bytes) (src : ESrc) (d : Dec) (pre : List (Bytes × Dec)) (r : List (Bytes × ESrc))
    (hpre : alookup k pre = none) : ∀ fs : Fields, AllNamed fl k src d fs →
    fieldsWith fl fs pre ((k, src) :: r) = fieldsWith fl fs (pre ++ [(k, d)]) r
  | .nil, _ => by simp [fieldsWith]
  | .cons name t dflt rest, h => by
    unfold fieldsWith
    rw [fieldsWith_step fl k src d pre r hpre rest h.2]
    congr 1
    rw [alookup_append_single]
    by_cases hn : (k == name) = true
    · have hk : k = name := by simpa using hn
      subst hk
      simp only [hpre, alookup, beq_self_eq_true, if_true, h.1 rfl]
      rfl
    · have hn' : (name == k) = false := by
        cases hx : (name == k) with
        | false => rfl
        | true => have : name = k := by simpa using hx
                  subst this; simp at hn
      simp only [alookup, hn]
      cases alookup name pre <;> simp

theorem fieldsWith_skip (fl : Flavour) (k : Bytes) (src : ESrc) (pre : List (Bytes × Dec)) (r : List (Bytes × ESrc)) :
    ∀ fs : Fields, fs.hasName k = false → fieldsWith fl fs pre ((k, src) :: r) = fieldsWith fl fs pre r
  | .nil, _ => by simp [fieldsWith]
  | .cons name t dflt rest, h => by
    simp only [Fields.hasName, Bool.or_eq_false_iff] at h
    unfold fieldsWith
    rw [fieldsWith_skip fl k src pre r rest h.2]
    have hn' : (k == name) = false := by
      cases hx : (k == name) with
      | false => rfl
      | true => have : k = name := by simpa using hx
                subst this; simp at h
    simp [alookup, hn']

theorem entryR_none_of_not_hasName (fl : Flavour) (k : Bytes) (src : ESrc) : ∀ fs : Fields,
    fs.hasName k = false → entryR fl fs k src = .ok none
  | .nil, _ => rfl
  | .cons n t dflt r, h => by
    simp only [Fields.hasName, Bool.or_eq_false_iff] at h
    unfold entryR
    simp only [h.1, Bool.false_eq_true, if_false]
    exact entryR_none_of_not_hasName fl k src r h.2

theorem entryR_some_of_hasName (fl : Flavour) (k : Bytes) (src : ESrc) : ∀ fs : Fields,
    fs.hasName k = true → entryR fl fs k src = fail ∨ ∃ d, entryR fl fs k src = .ok (some d)
  | .nil, h => by simp [Fields.hasName] at h
  | .cons n t dflt r, h => by
    unfold entryR
    by_cases hn : (n == k) = true
    · simp only [hn, if_true]
      cases hs : srcDec fl t src with
      | ok d => exact Or.inr ⟨d, rfl⟩
      | error e => cases e; exact Or.inl rfl
    · simp only [Fields.hasName, hn, Bool.false_or] at h
      simp only [hn]
      exact entryR_some_of_hasName fl k src r h

/-- keys of the remaining entries that name a field and were seen -/
def anySeen (fs : Fields) (seen : List Bytes) (keys : List Bytes) : Bool :=
  keys.any fun x => fs.hasName x && seen.contains x

theorem anySeen_cons_seen (fs : Fields) (k : Bytes) (hk : fs.hasName k = true) (seen : List Bytes) : ∀ keys : List Bytes,
    anySeen fs (k :: seen) keys = (anySeen fs seen keys || keys.contains k)
  | [] => by simp [anySeen]
  | x :: r => by
    have ih := anySeen_cons_seen fs k hk seen r
    simp only [anySeen, List.any_cons, List.contains_cons] at ih ⊢
    rw [ih]
    by_cases hx : x = k
    · subst hx; simp [hk]
    · have h1 : (x == k) = false := by simpa using hx
      have h2 : (k == x) = false := by simpa using fun h : k = x => hx h.symm
      simp only [h1, h2, Bool.false_or]
      rw [Bool.or_assoc]

/-- walking the entries with `seen` keys and `pre` decoded fields: `seen` is the set of keys of `pre` (`hs`), so a key
    met again is a duplicate of an entry already passed (`anySeen`) where `dupField` only sees the entries still to come -/
theorem walk_fill (fl : Flavour) (fs : Fields) (hd : distinctNames fs = true) :
    ∀ (es : List (Bytes × ESrc)) (seen : List Bytes) (pre : List (Bytes × Dec)),
    (∀ n, seen.contains n = (alookup n pre).isSome) →
    (match walkEntries Err.fail fs.hasName (entryR fl fs) seen es with
     | .error _ => fail
     | .ok ds => fillFields Err.fail fs (pre ++ ds)) =
    if anySeen fs seen (es.map Prod.fst) || dupField fs (es.map Prod.fst) then fail else fieldsWith fl fs pre es
  | [], seen, pre, _ => by
    simp [walkEntries, anySeen, dupField, fieldsWith_done]
  | (k, src) :: r, seen, pre, hs => by
    unfold walkEntries
    simp only [List.map_cons, dupField, anySeen, List.any_cons]
    by_cases hk : fs.hasName k = true
    · by_cases hsn : seen.contains k = true
      · have hc : (fs.hasName k && seen.contains k) = true := by rw [hk, hsn]; rfl
        simp only [hc, if_true, Bool.true_or]
      · have hsn' : seen.contains k = false := by simpa using hsn
        have hpre : alookup k pre = none := by
          have := hs k; rw [hsn'] at this
          cases h : alookup k pre with
          | none => rfl
          | some _ => rw [h] at this; simp at this
        simp only [hk, hsn', Bool.and_false, Bool.false_eq_true, if_false, Bool.true_and, Bool.false_or]
        rcases entryR_some_of_hasName fl k src fs hk with hf | ⟨d, hok⟩
        · rw [hf]
          simp only [fail]
          rw [fieldsWith_entry_fails fl k src pre r hpre fs hf]
          simp [fail]
        · rw [hok]
          simp only []
          have ih := walk_fill fl fs hd r (k :: seen) (pre ++ [(k, d)]) (by
            intro n
            rw [alookup_append_single, List.contains_cons, hs n]
            by_cases hkn : k = n
            · subst hkn; simp [hpre]
            · have h1 : (n == k) = false := by simpa using fun h : n = k => hkn h.symm
              have h2 : (k == n) = false := by simpa using hkn
              simp only [h1, Bool.false_or, h2]
              cases alookup n pre <;> simp)
          rw [anySeen_cons_seen fs k hk seen] at ih
          rw [fieldsWith_step fl k src d pre r hpre fs (allNamed_of_entryR fl k src d fs hd hok)]
          simp only [anySeen, Bool.or_assoc] at ih
          rw [← ih]
          cases walkEntries Err.fail fs.hasName (entryR fl fs) (k :: seen) r with
          | error e => rfl
          | ok ds => simp [List.append_assoc]
    · have hk' : fs.hasName k = false := by simpa using hk
      simp only [hk', Bool.false_and, Bool.false_eq_true, if_false, Bool.false_or]
      rw [entryR_none_of_not_hasName fl k src fs hk']
      simp only []
      rw [fieldsWith_skip fl k src pre r fs hk']
      exact walk_fill fl fs hd r seen pre hs

theorem walk_fill_top (fl : Flavour) (fs : Fields) (hd : distinctNames fs = true) (es : List (Bytes × ESrc)) :
    (match walkEntries Err.fail fs.hasName (entryR fl fs) [] es with
     | .error _ => fail
     | .ok ds => fillFields Err.fail fs ds) =
    if dupField fs (es.map Prod.fst) then fail else decodeEditFields editAsIs fl fs es := by
  have := walk_fill fl fs hd es [] [] (by intro n; simp [alookup])
  simp only [List.nil_append] at this
  rw [this, fieldsWith_nil]
  have : anySeen fs [] (es.map Prod.fst) = false := by simp [anySeen]
  rw [this, Bool.false_or]

end TomlVerif.Lemmas.DeLocated15
