import TomlVerif.Lemmas.Spans14Table
import TomlVerif.Lemmas.CstRun
/-! C14 (document level): the parse-state invariant "every recorded span is well-formed and ends at or
    before the current offset" and its preservation by every step of the document driver. -/
namespace TomlVerif.Lemmas.Spans14
open TomlVerif TomlVerif.Spec TomlVerif.Model TomlVerif.Model.Strings TomlVerif.Model.Value
open TomlVerif.Model.Cst TomlVerif.Lemmas.Cst03
open TomlVerif.Lemmas.Tiling03 (mergeSpan kvKey kvCur kvFn onKeyval_eq)
open TomlVerif.Lemmas.CstState

/-- the invariant of the parse state at offset `p`: everything recorded so far (root, current table,
    pending trivia, the current header's keys) lies in `[0, p]`, and the root holds nothing that ends
    after the end of the current table's span (what makes array-of-tables spans well-formed). The bound
    moves with the offset and `low` ties the root to the current table, so this is not a `TreeInv`
    (`CstInv.lean`), whose predicates do not know where the parse stands; the two walks share the inversions
    of the state steps (`CstState`). -/
structure Inv (st : CState) (p : Nat) : Prop where
  root : TblOK 0 p st.root
  cur : TblOK 0 p st.current
  trail : ∀ t, st.trailing = some t → Within 0 p t
  path : AllW 0 p (keysSpans st.currentPath)
  low : ∀ b, st.current.span = some b → TblOK 0 b.2 st.root

theorem Inv.mono {st : CState} {p p' : Nat} (h : Inv st p) (hp : p ≤ p') : Inv st p' where
  root := TblOK.mono (Nat.le_refl 0) hp _ h.root
  cur := TblOK.mono (Nat.le_refl 0) hp _ h.cur
  trail := fun t ht => (h.trail t ht).mono (Nat.le_refl 0) hp
  path := h.path.mono (Nat.le_refl 0) hp
  low := h.low

theorem Inv.init : Inv {} 0 where
  root := TblOK_empty 0 0
  cur := by
    rw [TblOK_mk]
    refine ⟨AllKV.nil, by rw [decorSp_default]; exact AllW.nil _ _, AllW.single ?_⟩
    exact ⟨Nat.le_refl _, Nat.le_refl _, Nat.le_refl _⟩
  trail := by intro t ht; cases ht
  path := AllW.nil _ _
  low := fun _ _ => TblOK_empty 0 _

theorem onWs_keeps {st : CState} {p a b : Nat} (h : Inv st p) (h1 : p ≤ a) (h2 : a ≤ b) : Inv (onWs st a b) b := by
  have hm := h.mono (Nat.le_trans h1 h2)
  unfold onWs
  split
  · rename_i a0 x heq
    have := h.trail _ heq
    refine ⟨hm.root, hm.cur, ?_, hm.path, hm.low⟩
    intro t ht
    injection ht with ht; subst ht
    unfold Within at *
    simp only [] at *
    omega
  · refine ⟨hm.root, hm.cur, ?_, hm.path, hm.low⟩
    intro t ht
    injection ht with ht; subst ht
    unfold Within
    simp only []
    omega

theorem takeTrailing_allW {lo hi : Nat} {o : Option Span} (h : ∀ t, o = some t → Within lo hi t) :
    AllW lo hi (rawSp (takeTrailing o)) := by
  unfold takeTrailing
  split
  · exact withSpan_allW (h _ rfl)
  · exact AllW.nil _ _

/-- the span of the key's own prefix, as `kvKey` reads it: the anonymous `match` inside `kvKey`, under a name (after
    `unfold kvKey` the two are the same term) -/
def kpre (key : CKey) : Option Span :=
  match key.leaf.pre with
  | some r => r.span
  | none => none

theorem kpre_mem {key : CKey} {k : Span} (h : kpre key = some k) : k ∈ keySpans key := by
  unfold kpre at h
  split at h
  · rename_i r hr
    cases r with
    | empty => simp [Raw.span] at h
    | spanned a b =>
      simp [Raw.span] at h; subst h
      simp [keySpans, decorSp, hr, optRawSp, rawSp]
  · cases h

theorem mergeSpan_within {p p' : Nat} {tr kp : Option Span} (htr : ∀ t, tr = some t → Within 0 p t)
    (hkp : ∀ k, kp = some k → Within p p' k) (hpp : p ≤ p') : ∀ t, mergeSpan tr kp = some t → Within 0 p' t := by
  intro t ht
  unfold mergeSpan at ht
  split at ht
  · injection ht with ht; subst ht
    exact (htr _ rfl).join (hkp _ rfl)
  · injection ht with ht; subst ht
    exact (htr _ rfl).mono (Nat.le_refl 0) hpp
  · injection ht with ht; subst ht
    exact (hkp _ rfl).mono (Nat.zero_le _) (Nat.le_refl _)
  · cases ht

theorem kvKey_spans {st : CState} {key : CKey} {p p' : Nat} (htr : ∀ t, st.trailing = some t → Within 0 p t)
    (hkey : AllW p p' (keySpans key)) (hpp : p ≤ p') : AllW 0 p' (keySpans (kvKey st key)) := by
  have hkey0 : AllW 0 p' (keySpans key) := hkey.mono (Nat.zero_le _) (Nat.le_refl _)
  have hj := mergeSpan_within (kp := kpre key) htr (fun k hk => hkey k (kpre_mem hk)) hpp
  unfold kvKey
  simp only [keySpans, decorSp, optRawSp] at hkey0 ⊢
  refine AllW.append (AllW.append hkey0.left.left (AllW.append (takeTrailing_allW hj) hkey0.left.right.right)) hkey0.right

theorem tbl_span_within {lo hi : Nat} {t : CTbl} (h : TblOK lo hi t) {e : Span} (he : t.span = some e) :
    Within lo hi e :=
  optSp_allW.1 ((TblOK_iff _ _ _).1 h).2.2 e he

theorem kvCur_ok {st : CState} {v : CVal} {p p' : Nat} (hinv : Inv st p) (hv : AllW p p' (valSpans v)) (hpp : p ≤ p') :
    TblOK 0 p' (kvCur st v) ∧ ∀ b, (kvCur st v).span = some b → TblOK 0 b.2 st.root := by
  have hcur := TblOK.mono (Nat.le_refl 0) hpp _ hinv.cur
  unfold kvCur
  split
  · rename_i e vs he hvs
    have h1 : Within 0 p e := tbl_span_within hinv.cur he
    have h2 : Within p p' vs := hv vs (span_mem_valSpans v vs hvs)
    have hc := (TblOK_iff _ _ _).1 hcur
    constructor
    · rw [TblOK_setSpan]
      exact ⟨hc.1, hc.2.1, AllW.single (h1.join h2)⟩
    · intro b hb
      have : b = (e.1, vs.2) := by
        cases hc' : st.current
        rw [hc'] at hb
        simp [CTbl.setSpan, CTbl.span] at hb
        exact hb.symm
      subst this
      refine TblOK.mono (Nat.le_refl 0) ?_ _ (hinv.low e he)
      unfold Within at *
      simp only []
      omega
  · exact ⟨hcur, hinv.low⟩

theorem onKeyval_keeps {st : CState} {p p' : Nat} {path : List CKey} {key : CKey} {v : CVal}
    (hinv : Inv st p) (hpp : p ≤ p') (hpath : AllW p p' (keysSpans path)) (hkey : AllW p p' (keySpans key))
    (hv : AllW p p' (valSpans v)) (hn : NestV v) {c : CTbl}
    (hc : descend (kvCur st v) path true (kvFn path (kvKey st key) v) = some c) :
    Inv { st with current := c, trailing := none } p' := by
  have hk' := kvKey_spans hinv.trail hkey hpp
  obtain ⟨hcur, hlow⟩ := kvCur_ok hinv hv hpp
  have hf : ∀ u u', TblOK 0 p' u → kvFn path (kvKey st key) v u = some u' → TblOK 0 p' u' := by
    intro u u' hu hfu
    obtain ⟨rfl, _⟩ := Tiling03Hdr.kvFn_facts _ _ _ _ _ hfu
    have hu' := (TblOK_iff _ _ _).1 hu
    rw [TblOK_setItems]
    exact ⟨hu'.1.append (AllKV.single hk' ⟨hv.mono (Nat.zero_le _) (Nat.le_refl _), hn⟩), hu'.2⟩
  have hc' := descend_ok (Nat.le_refl p') _ hf path _ true c (hpath.mono (Nat.zero_le _) (Nat.le_refl _)) hcur hc
  have hsp : c.span = (kvCur st v).span := by
    refine descend_span _ ?_ path _ true c hc
    intro u u' hfu
    obtain ⟨rfl, _⟩ := Tiling03Hdr.kvFn_facts _ _ _ _ _ hfu
    exact span_setItems _ _
  exact ⟨TblOK.mono (Nat.le_refl 0) hpp _ hinv.root, hc', (by intro t ht; cases ht),
    hinv.path.mono (Nat.le_refl 0) hpp, fun b hb => hlow b (hsp ▸ hb)⟩

theorem aotSpan_ok {p hi1 : Nat} (ts : List CTbl) (table : CTbl) (hts : ∀ t ∈ ts, TblOK 0 hi1 t)
    (htab : TblOK 0 p table) (hb : ∀ b, table.span = some b → hi1 = b.2) :
    AllW 0 p (optSp (aotSpan (ts ++ [table]))) := by
  rw [optSp_allW]
  intro e he
  unfold aotSpan at he
  rw [List.getLast?_concat] at he
  cases ts with
  | nil =>
    simp only [List.nil_append, List.head?_cons] at he
    cases hsp : table.span with
    | none => simp [hsp] at he
    | some b =>
      simp [hsp] at he
      subst he
      exact tbl_span_within htab hsp
  | cons t0 rest =>
    simp only [List.cons_append, List.head?_cons] at he
    cases hsp : table.span with
    | none => cases h0 : t0.span <;> simp [hsp, h0] at he
    | some b =>
      cases h0 : t0.span with
      | none => simp [hsp, h0] at he
      | some a =>
        simp [hsp, h0] at he
        subst he
        have h1 := tbl_span_within htab hsp
        have h2 := tbl_span_within (hts t0 (by simp)) h0
        have := hb b hsp
        unfold Within at *
        simp only []
        omega

theorem finArr_ok {p hi1 : Nat} {key : CKey} {table : CTbl} (h1p : hi1 ≤ p) (hkey : AllW 0 p (keySpans key))
    (hcur : TblOK 0 p table) (hb : ∀ b, table.span = some b → hi1 = b.2) (u u' : CTbl) (hu : TblOK 0 hi1 u)
    (h : finArr key table u = some u') : TblOK 0 p u' := by
  have hu1 := (TblOK_iff _ _ _).1 hu
  have hu2 := (TblOK_iff _ _ _).1 (TblOK.mono (Nat.le_refl 0) h1p _ hu)
  have hent : EntryOK 0 hi1 ((clookup key.key u.items).getD (.aot [] none)) := by
    cases hl : clookup key.key u.items with
    | none => exact ⟨trivial, AllW.nil _ _⟩
    | some e => exact AllKV.lookup hu1.1 hl
  obtain ⟨ts, sp, he, rfl⟩ := finArr_some h
  rw [he] at hent
  have hts := (TblsOK_iff _ _ _).1 hent.1
  rw [TblOK_setItems]
  refine ⟨AllKV.cset hu2.1 hkey ⟨?_, aotSpan_ok ts table hts hcur hb⟩, hu2.2⟩
  rw [TblsOK_iff]
  intro x hx
  rcases List.mem_append.1 hx with hx | hx
  · exact TblOK.mono (Nat.le_refl 0) h1p x (hts x hx)
  · simp at hx; subst hx; exact hcur

theorem finStd_ok {p : Nat} {key : CKey} {table : CTbl} (hkey : AllW 0 p (keySpans key)) (hcur : TblOK 0 p table)
    (u u' : CTbl) (hu : TblOK 0 p u) (h : finStd key table u = some u') : TblOK 0 p u' := by
  have hu1 := (TblOK_iff _ _ _).1 hu
  have hc : EntryOK 0 p (.table table) := hcur
  rcases finStd_some h with ⟨_, _, _, rfl⟩ | ⟨_, rfl⟩
  · rw [TblOK_setItems]; exact ⟨AllKV.creplace hu1.1 hc, hu1.2⟩
  · rw [TblOK_setItems]; exact ⟨hu1.1.append (AllKV.single hkey hc), hu1.2⟩

theorem finalizeTable_ok {st st' : CState} {p : Nat} (hinv : Inv st p) (h : finalizeTable st = some st') :
    TblOK 0 p st'.root ∧ st'.current = CTbl.empty ∧ st'.trailing = st.trailing := by
  rcases finalizeTable_inv h with ⟨_, _, rfl⟩ | ⟨pp, key, root', hsl, hd, rfl⟩
  · exact ⟨hinv.cur, rfl, rfl⟩
  · refine ⟨?_, rfl, rfl⟩
    have hpath := hinv.path
    rw [Tiling03More.vsplitLast_some _ _ _ hsl, keysSpans_append, keysSpans_single] at hpath
    by_cases hc : st.currentIsArray = true
    · rw [if_pos hc] at hd
      -- the bound the root satisfies: the end of the current table's span when there is one
      obtain ⟨hi1, h1p, hroot1, hb⟩ : ∃ hi1, hi1 ≤ p ∧ TblOK 0 hi1 st.root ∧ ∀ b, st.current.span = some b → hi1 = b.2 := by
        cases hsp : st.current.span with
        | none => exact ⟨p, Nat.le_refl _, hinv.root, by intro b hb; cases hb⟩
        | some b =>
          refine ⟨b.2, (tbl_span_within hinv.cur hsp).2.2, hinv.low b hsp, ?_⟩
          intro b' hb'; injection hb' with hb'; subst hb'; rfl
      exact descend_ok h1p _ (finArr_ok h1p hpath.right hinv.cur hb) pp _ false root' hpath.left hroot1 hd
    · rw [if_neg hc] at hd
      exact descend_ok (Nat.le_refl p) _ (finStd_ok hpath.right hinv.cur) pp _ false root' hpath.left hinv.root hd

theorem header_keeps {st : CState} {root' : CTbl} {items : List (CKey × CItem)} {isArr : Bool} {path : List CKey}
    {decor : Decor} {span : Span} {tr : Option Span} {p p' : Nat} (hroot' : TblOK 0 span.2 root')
    (hitems : EntriesOK 0 p items) (htr : ∀ t, tr = some t → Within 0 p' t) (hp : p ≤ span.2)
    (hspan : Within 0 p' span) (hpath : AllW 0 span.2 (keysSpans path)) (hdec : AllW 0 p' (decorSp decor)) :
    Inv { st with root := root', trailing := tr, position := st.position + 1,
                  current := .mk items false false (some (st.position + 1)) decor (some span),
                  currentIsArray := isArr, currentPath := path } p' := by
  have hp' : span.2 ≤ p' := hspan.2.2
  refine ⟨TblOK.mono (Nat.le_refl 0) hp' _ hroot', ?_, htr, hpath.mono (Nat.le_refl 0) hp', ?_⟩
  · rw [TblOK_mk]
    exact ⟨(ItemsOK_iff _ _ _).1 (ItemsOK.mono (Nat.le_refl 0) (Nat.le_trans hp hp') _ ((ItemsOK_iff _ _ _).2 hitems)), hdec, AllW.single hspan⟩
  · intro b hb
    have : b = span := by simpa [CTbl.span] using hb.symm
    subst this
    exact hroot'

/-- what both header steps hand to `start_table` / `start_array_table` after `finalize_table` -/
theorem header_pre {st st1 : CState} {trailing : Raw} {p p' : Nat} (hinv : Inv st p) (hpp : p ≤ p')
    (htrail : AllW 0 p' (rawSp trailing)) (hfin : finalizeTable st = some st1) :
    TblOK 0 p st1.root ∧ TblOK 0 p st1.current ∧
      AllW 0 p' (decorSp (Decor.new (takeTrailing st1.trailing) trailing)) := by
  obtain ⟨hroot, hcur, htr⟩ := finalizeTable_ok hinv hfin
  refine ⟨hroot, by rw [hcur]; exact TblOK_empty _ _, ?_⟩
  rw [decorSp_new]
  refine AllW.append ((takeTrailing_allW ?_).mono (Nat.le_refl 0) hpp) htrail
  rw [htr]; exact hinv.trail

theorem onHeader_keeps {st st' : CState} {a : Bool} {path : List CKey} {trailing : Raw} {span : Span} {p p' : Nat}
    (hinv : Inv st p) (hp : p ≤ span.2) (hspan : Within 0 p' span)
    (hpath : AllW 0 span.2 (keysSpans path)) (htrail : AllW 0 p' (rawSp trailing))
    (ho : (if a then onArrayHeader st path trailing span else onStdHeader st path trailing span) = some st') :
    Inv st' p' := by
  obtain ⟨st1, pp, key, root', hfin, hsl, _, hd, rfl⟩ := onHeader_inv ho
  obtain ⟨hroot, hcur, hdec⟩ := header_pre hinv (Nat.le_trans hp hspan.2.2) htrail hfin
  have hpath' := hpath
  rw [Tiling03More.vsplitLast_some _ _ _ hsl, keysSpans_append, keysSpans_single] at hpath'
  have hroot' : TblOK 0 span.2 root' := by
    refine descend_ok hp _ ?_ pp _ false root' hpath'.left hroot hd
    intro u u' hu hfu
    have hu2 := (TblOK_iff _ _ _).1 (TblOK.mono (Nat.le_refl 0) hp _ hu)
    cases a with
    | true =>
      rcases arrFn_some hfu with ⟨_, _, _, rfl⟩ | ⟨_, rfl⟩
      · exact TblOK.mono (Nat.le_refl 0) hp _ hu
      · rw [TblOK_setItems]
        exact ⟨hu2.1.append (AllKV.single hpath'.right ⟨trivial, AllW.nil _ _⟩), hu2.2⟩
    | false =>
      cases hfu
      rw [TblOK_setItems]
      exact ⟨AllKV.cerase hu2.1, hu2.2⟩
  have hbase : TblOK 0 p (if a then st1.current else (findTable key.key st1.root pp).getD st1.current) := by
    cases a with
    | true => exact hcur
    | false =>
      cases hf : findTable key.key st1.root pp with
      | none => exact hcur
      | some x => exact findTable_ok _ _ _ _ hroot hf
  exact header_keeps hroot' ((TblOK_iff _ _ _).1 hbase).1 (fun t ht => by cases ht) hp hspan hpath hdec

theorem ctableLine_keeps {n : Nat} {st st' : CState} {s r : Bytes} (hinv : Inv st (pos n s))
    (h : ctableLine n st s = some (st', r)) : Inv st' (pos n r) := by
  obtain ⟨isArr, r0, ks, r2, hs, hk, hlt, ho⟩ := Tiling03Hdr.table_frame n st st' s r h
  obtain ⟨l1, hks⟩ := ckeyPath_spans _ _ _ _ hk
  have l3 := (lineTrailing_suffix _ _ hlt).length_le
  have l4 := trailEnd_len r2
  have htr := rawBetween_allW n 0 (pos n r) r2 (trailEnd r2) (Nat.zero_le _) (pos_mono l4) (pos_mono l3)
  cases isArr with
  | true =>
    simp only [if_true, List.cons_append, List.nil_append] at hs l1 hks
    subst hs
    have l5 : (0x5D :: 0x5D :: r2 : Bytes).length = r2.length + 2 := by simp
    have l6 : (0x5B :: 0x5B :: r0 : Bytes).length = r0.length + 2 := by simp
    exact onHeader_keeps hinv (pos_mono (by omega)) ⟨Nat.zero_le _, pos_mono (by omega), pos_mono (by omega)⟩
      (hks.mono (Nat.zero_le _) (pos_mono (by omega))) htr ho
  | false =>
    simp only [Bool.false_eq_true, if_false, List.cons_append, List.nil_append] at hs l1 hks
    subst hs
    have l5 : (0x5D :: r2 : Bytes).length = r2.length + 1 := by simp
    have l6 : (0x5B :: r0 : Bytes).length = r0.length + 1 := by simp
    exact onHeader_keeps hinv (pos_mono (by omega)) ⟨Nat.zero_le _, pos_mono (by omega), pos_mono (by omega)⟩
      (hks.mono (Nat.zero_le _) (pos_mono (by omega))) htr ho

theorem ckeyvalLine_keeps {n : Nat} {st st' : CState} {s r : Bytes} (hinv : Inv st (pos n s))
    (h : ckeyvalLine n st s = some (st', r)) : Inv st' (pos n r) := by
  obtain ⟨ks, r1, v, r2, path, key, c, hk, hv, hlt, hsl, hd, rfl⟩ := Tiling03Hdr.keyval_frame n st st' s r h
  obtain ⟨l0, hks⟩ := ckeyPath_spans _ _ _ _ hk
  obtain ⟨l2, hdec, hvs, hvn⟩ := cvalue_spans _ _ _ _ _ _ hv
  have l1 : (0x3D :: r1 : Bytes).length = r1.length + 1 := by simp
  have l1' := (Suffix03.dropWs_suffix r1).length_le
  have l3 := (lineTrailing_suffix _ _ hlt).length_le
  have l4 := trailEnd_len r2
  rw [Tiling03More.vsplitLast_some _ _ _ hsl, keysSpans_append, keysSpans_single] at hks
  have hks' := hks.mono_pos (b := r) (Nat.le_refl _) (by omega)
  refine onKeyval_keeps hinv (pos_mono (by omega)) hks'.left hks'.right ?_ ?_ hd
  · refine valSpans_setDecor_allW v _ hdec (hvs.mono_pos (by omega) (by omega)) ?_
    rw [decorSp_new]
    exact AllW.append (rb_allW _ _ _ _ _ (by omega) l1' (by omega)) (rb_allW _ _ _ _ _ (by omega) l4 l3)
  · exact (NestV_setDecor _ _).2 hvn

theorem clines_keeps (n : Nat) (fuel : Nat) (st : CState) (s : Bytes) (st' : CState)
    (hinv : Inv st (pos n s)) (h : clines n fuel st s = some st') : Inv st' n := by
  have := clines_preserves (I := fun st s => Inv st (pos n s))
    (fun _ _ _ hr h => onWs_keeps h (Nat.le_refl _) (pos_mono hr.length_le))
    (fun _ _ _ _ hl h => ctableLine_keeps h hl) (fun _ _ _ _ hl h => ckeyvalLine_keeps h hl)
    fuel st s st' h hinv
  simpa [pos] using this

/-- the document-level result: offsets are relative to the whole input (a BOM, when present, is counted) -/
theorem parseCst_spans (s : Bytes) (d : CDoc) (h : parseCst s = some d) :
    TblOK 0 s.length d.root ∧ AllW 0 s.length (rawSp d.trailing) := by
  obtain ⟨st, st1, hcl, hfin, rfl⟩ := parseCst_ok h
  have h0 : Inv {} (pos s.length (Doc.stripBom s)) := Inv.init.mono (Nat.zero_le _)
  have hinv := clines_keeps _ _ _ _ _ (onWs_keeps h0 (Nat.le_refl _) (pos_mono (Suffix03.dropWs_suffix _).length_le)) hcl
  obtain ⟨hroot, _, htr⟩ := finalizeTable_ok hinv hfin
  exact ⟨hroot, takeTrailing_allW (by rw [htr]; exact hinv.trail)⟩

end TomlVerif.Lemmas.Spans14
