import TomlVerif.Lemmas.Macro19Tree
/-! C19: whole documents through `@toplevel`. A document is a list of statements `key = value`, `[key]`,
    `[[key]]` (`DStmt`); `spellDoc` is its token list, `docSem` its meaning for the macro: the three run-time
    helpers of macros.rs folded over the statements. `toplevel_doc`: the muncher computes exactly `docSem`. -/
namespace TomlVerif.Lemmas.Macro19b
open TomlVerif TomlVerif.Model TomlVerif.Model.Macro TomlVerif.Lemmas.Macro19

inductive DStmt where
  | kv (k : MKey) (v : MTree)
  | std (k : MKey)
  | arr (k : MKey)

def DStmt.toks : DStmt → List TT
  | .kv k v => k.toks ++ eqT :: v.toks
  | .std k => [.group .bracket k.toks]
  | .arr k => [.group .bracket [.group .bracket k.toks]]

/-- statements are separated by blanks or line ends only, which rustc drops -/
def spellDoc : List DStmt → List TT
  | [] => []
  | s :: r => s.toks ++ spellDoc r

/-- the meaning of a document for the macro: `root` is the value built so far, `path` the last header -/
def docSem (keep : Bool) : List DStmt → MVal → List Bytes → R MVal
  | [], root, _ => .ok root
  | .kv k v :: r, root, path =>
    match k.path with
    | none => .unsupported
    | some ks => R.bind v.sem fun x =>
      match insertToml root (path ++ ks) x with
      | some root' => docSem keep r root' path
      | none => .panic
  | .std k :: r, root, _ =>
    match k.path with
    | none => .unsupported
    | some p =>
      match headerTable keep root p with
      | some root' => docSem keep r root' p
      | none => .panic
  | .arr k :: r, root, _ =>
    match k.path with
    | none => .unsupported
    | some p =>
      match pushToml root p with
      | some root' => docSem keep r root' p
      | none => .panic

def docCost : List DStmt → Nat
  | [] => 1
  | .kv _ v :: r => v.cost + 2 + docCost r
  | _ :: r => 1 + docCost r

/-- Clause 1 (the first token is no punctuation) is what every arm and `keyPath_group` need; clause 2 (the second is
    no `:`) is there because the `…Sp` arms read two tokens past a `date`. -/
def DocRest (rest : List TT) : Prop :=
  (∀ t r, rest = t :: r → ∀ c, isP c t = false) ∧ (∀ t u r, rest = t :: u :: r → isP 0x3A u = false)

theorem docRest_nil : DocRest [] := by
  constructor
  · intro t r h; cases h
  · intro t u r h; cases h

theorem docRest_top {rest : List TT} (h : DocRest rest) : RestTopOk rest :=
  ⟨fun t r e => ⟨h.1 t r e _, h.1 t r e _, h.1 t r e _⟩, h.2⟩

theorem key_second (k : MKey) (x : List TT) :
    ∃ c r, k.toks ++ eqT :: x = k.head.head.tt :: pc c :: r ∧ isP 0x3A (pc c) = false := by
  obtain ⟨⟨a, tl⟩, segs⟩ := k
  cases tl with
  | cons b r => exact ⟨0x2D, _, rfl, rfl⟩
  | nil =>
    cases segs with
    | cons s r => exact ⟨0x2E, _, rfl, rfl⟩
    | nil => exact ⟨0x3D, _, rfl, rfl⟩

theorem docRest_spellDoc (l : List DStmt) : DocRest (spellDoc l) := by
  cases l with
  | nil => exact docRest_nil
  | cons s r =>
    cases s with
    | kv k v =>
      constructor
      · intro t r' h c
        simp [spellDoc, DStmt.toks, MKey.toks, Seg.toks] at h
        rw [← h.1]; simp
      · intro t u r' h
        obtain ⟨c, r2, hc, hcc⟩ := key_second k (v.toks ++ spellDoc r)
        have h' : k.toks ++ eqT :: (v.toks ++ spellDoc r) = t :: u :: r' := by
          simpa [spellDoc, DStmt.toks] using h
        rw [hc] at h'
        injection h' with h1 h2
        injection h2 with h2 h3
        rw [← h2]; exact hcc
    | _ =>
      -- a header is one bracket group; the next statement follows it
      constructor
      · intro t r' h c
        simp [spellDoc, DStmt.toks] at h
        rw [← h.1]; simp
      · intro t u r' h
        simp only [spellDoc, DStmt.toks, List.cons_append, List.nil_append] at h
        injection h with h1 h2
        exact (docRest_spellDoc r).1 u r' h2 _

/-- the value arms of `@toplevel`: sign rewriting, the eleven date-time arms, `$v:tt` -/
def readTop (fuel : Nat) (after0 : List TT) : R (MVal × List TT) :=
  let after := rewriteSignTop after0
  match firstDt [] after dtArms with
  | some (dts, rest) => R.bind (dtValue dts) fun v => .ok (v, rest)
  | none =>
    match after with
    | v :: rest => R.bind (value fuel v) fun x => .ok (x, rest)
    | [] => .unsupported

theorem rewriteSignTop_ne (l : List TT) (h : l ≠ []) : rewriteSignTop l ≠ [] := by
  unfold rewriteSignTop
  split
  · split
    · simp
    · split
      · simp
      · exact h
  · exact h

theorem toplevel_kv_eq (keep : Bool) (fuel : Nat) (root : MVal) (path : List Bytes) (ts : List TT)
    (segs : List (List TT)) (after0 : List TT) (hk : keyPath ts [] [] = some (segs, after0)) (hne : after0 ≠ []) :
    toplevel keep (fuel + 1) root path ts =
      match segsStr segs with
      | none => .unsupported
      | some ks => R.bind (readTop fuel after0) fun p =>
        match insertToml root (path ++ ks) p.1 with
        | some root' => toplevel keep fuel root' path p.2
        | none => .panic := by
  rw [toplevel.eq_def]
  cases ts with
  | nil => simp [keyPath] at hk
  | cons t0 r0 =>
    simp only [hk]
    unfold readTop
    simp only []
    cases hfd : firstDt [] (rewriteSignTop after0) dtArms with
    | some p =>
      obtain ⟨dts, rest⟩ := p
      simp only []
      cases segsStr segs with
      | none => rfl
      | some ks =>
        simp only []
        cases dtValue dts with
        | ok v => simp only [R.bind]; cases insertToml root (path ++ ks) v <;> rfl
        | unsupported => rfl
        | panic => rfl
    | none =>
      simp only []
      cases hr : rewriteSignTop after0 with
      | nil => exact absurd hr (rewriteSignTop_ne _ hne)
      | cons v rest =>
        simp only []
        cases segsStr segs with
        | none => rfl
        | some ks =>
          simp only []
          cases value fuel v with
          | ok x => simp only [R.bind]; cases insertToml root (path ++ ks) x <;> rfl
          | unsupported => rfl
          | panic => rfl

theorem firstDt_none_top (m : TT) (rest : List TT) (h : DocRest rest) : firstDt [] (m :: rest) dtArms = none := by
  cases rest with
  | nil => simp [firstDt, dtArms, matchPat]
  | cons t r =>
    have h1 := h.1 t r rfl
    simp [firstDt, dtArms, matchPat, h1]

theorem rewriteSignTop_sign (s : Sign) (m : TT) (rest : List TT) (hm : ∀ c, isP c m = false) :
    rewriteSignTop (s.toks ++ m :: rest) = s.wrap m :: rest := by
  cases s with
  | none =>
    unfold rewriteSignTop
    split <;> simp_all [Sign.toks, Sign.wrap]
  | plus => simp [Sign.toks, Sign.wrap, rewriteSignTop]
  | minus => simp [Sign.toks, Sign.wrap, rewriteSignTop]

theorem readTop_reads {f : Nat} {ts : List TT} {r : R MVal} (h : Reads f ts r) (rest : List TT) (hr : DocRest rest) :
    readTop (f + 1) (ts ++ rest) = R.bind r fun v => .ok (v, rest) := by
  unfold readTop
  cases h with
  | dt d =>
    obtain ⟨n, r, hn⟩ := dt_toks_head d
    have hs : rewriteSignTop (d.toks ++ rest) = d.toks ++ rest := by
      rw [hn]; exact rewriteSignTop_sign .none _ _ fun _ => rfl
    simp only [hs, firstDt_form_top d rest (docRest_top hr)]
  | tt s m hm =>
    simp only [List.append_assoc, List.singleton_append, rewriteSignTop_sign s m rest hm, firstDt_none_top _ rest hr]

theorem toplevel_kv (keep : Bool) (f : Nat) (root : MVal) (path : List Bytes) (k : MKey) (a : MTree) (rest : List TT)
    (hf : a.cost ≤ f) (hr : DocRest rest) :
    toplevel keep (f + 2) root path (k.toks ++ eqT :: a.toks ++ rest) =
      match k.path with
      | none => .unsupported
      | some ks => R.bind a.sem fun x =>
        match insertToml root (path ++ ks) x with
        | some root' => toplevel keep (f + 1) root' path rest
        | none => .panic := by
  obtain ⟨t, r, ht⟩ := tree_toks_ne a
  have hk : keyPath (k.toks ++ eqT :: a.toks ++ rest) [] [] = some (k.segs, a.toks ++ rest) := by
    have := keyPath_key k (a.toks ++ rest)
    simpa using this
  rw [toplevel_kv_eq keep (f + 1) root path _ k.segs (a.toks ++ rest) hk (by simp [ht])]
  change (match k.path with | none => _ | some ks => _) = _
  cases k.path with
  | none => rfl
  | some ks =>
    simp only []
    rw [readTop_reads (a.reads f hf) rest hr]
    cases a.sem with
    | ok v => rfl
    | unsupported => rfl
    | panic => rfl

theorem keyPath_group (d : Delim) (inner rest : List TT) (hr : DocRest rest) :
    keyPath (.group d inner :: rest) [] [] = none := by
  cases rest with
  | nil => simp [keyPath]
  | cons t r =>
    have h1 := hr.1 t r rfl
    simp [keyPath, h1]

theorem toplevel_std (keep : Bool) (fuel : Nat) (root : MVal) (path : List Bytes) (k : MKey) (rest : List TT)
    (hr : DocRest rest) :
    toplevel keep (fuel + 1) root path (.group .bracket k.toks :: rest) =
      match k.path with
      | none => .unsupported
      | some p =>
        match headerTable keep root p with
        | some root' => toplevel keep fuel root' p rest
        | none => .panic := by
  have hside : ∀ inner2 : List TT, k.toks = [TT.group Delim.bracket inner2] → False := by
    intro inner2 h
    obtain ⟨r, hkr⟩ := key_toks_cons k
    rw [hkr] at h
    simp [KAtom.tt] at h
  -- the equation compiler splits `toplevel` on the patterns of the header arms: `eq_3` is the equation for a list
  -- that starts with `[[…]]`, `eq_4` the one for a list that starts with any other `[…]` (`hside`: a key is no
  -- bracket group), `eq_5` the one for the remaining non-empty lists
  rw [toplevel.eq_4 _ _ _ _ _ _ hside]
  simp only [keyPath_group _ _ _ hr, headerPath_key k]
  rfl

theorem toplevel_arr (keep : Bool) (fuel : Nat) (root : MVal) (path : List Bytes) (k : MKey) (rest : List TT)
    (hr : DocRest rest) :
    toplevel keep (fuel + 1) root path (.group .bracket [.group .bracket k.toks] :: rest) =
      match k.path with
      | none => .unsupported
      | some p =>
        match pushToml root p with
        | some root' => toplevel keep fuel root' p rest
        | none => .panic := by
  rw [toplevel.eq_3]
  simp only [keyPath_group _ _ _ hr, headerPath_key k]
  rfl

theorem toplevel_doc (keep : Bool) (l : List DStmt) : ∀ (fuel : Nat) (root : MVal) (path : List Bytes),
    docCost l ≤ fuel → toplevel keep fuel root path (spellDoc l) = docSem keep l root path := by
  induction l with
  | nil =>
    intro fuel root path hf
    obtain ⟨f, rfl⟩ : ∃ f, fuel = f + 1 := ⟨fuel - 1, by simp [docCost] at hf; omega⟩
    simp [spellDoc, docSem, toplevel]
  | cons s r ih =>
    intro fuel root path hf
    have hr := docRest_spellDoc r
    cases s with
    | kv k a =>
      have hf' : a.cost + 2 + docCost r ≤ fuel := by simpa [docCost] using hf
      obtain ⟨f, rfl⟩ : ∃ f, fuel = f + 2 := ⟨fuel - 2, by omega⟩
      have hs : spellDoc (.kv k a :: r) = k.toks ++ eqT :: a.toks ++ spellDoc r := by
        simp [spellDoc, DStmt.toks]
      rw [hs, toplevel_kv keep f root path k a _ (by omega) hr, docSem]
      cases k.path with
      | none => rfl
      | some ks =>
        simp only []
        cases a.sem with
        | ok v =>
          simp only [R.bind]
          cases insertToml root (path ++ ks) v with
          | none => rfl
          | some root' => simp only []; exact ih (f + 1) root' path (by omega)
        | unsupported => rfl
        | panic => rfl
    | std k =>
      have hf' : 1 + docCost r ≤ fuel := by simpa [docCost] using hf
      obtain ⟨f, rfl⟩ : ∃ f, fuel = f + 1 := ⟨fuel - 1, by omega⟩
      have hs : spellDoc (.std k :: r) = .group .bracket k.toks :: spellDoc r := by
        simp [spellDoc, DStmt.toks]
      rw [hs, toplevel_std keep f root path k _ hr, docSem]
      cases k.path with
      | none => rfl
      | some p =>
        simp only []
        cases headerTable keep root p with
        | none => rfl
        | some root' => simp only []; exact ih f root' p (by omega)
    | arr k =>
      have hf' : 1 + docCost r ≤ fuel := by simpa [docCost] using hf
      obtain ⟨f, rfl⟩ : ∃ f, fuel = f + 1 := ⟨fuel - 1, by omega⟩
      have hs : spellDoc (.arr k :: r) = .group .bracket [.group .bracket k.toks] :: spellDoc r := by
        simp [spellDoc, DStmt.toks]
      rw [hs, toplevel_arr keep f root path k _ hr, docSem]
      cases k.path with
      | none => rfl
      | some p =>
        simp only []
        cases pushToml root p with
        | none => rfl
        | some root' => simp only []; exact ih f root' p (by omega)

theorem key_size (k : MKey) : 1 ≤ sizeTTs k.toks := by
  simp [MKey.toks, Seg.toks, sizeTTs, sizeTT, KAtom.tt]

theorem docCost_le (l : List DStmt) : docCost l ≤ 1 + 2 * sizeTTs (spellDoc l) := by
  induction l with
  | nil => simp [docCost, spellDoc, sizeTTs]
  | cons s r ih =>
    cases s with
    | kv k a =>
      have := tree_cost_le a
      simp [docCost, spellDoc, DStmt.toks, sizeTTs_append, sizeTTs]; omega
    | _ => simp [docCost, spellDoc, DStmt.toks, sizeTTs, sizeTT]; omega

theorem spellDoc_ne (s : DStmt) (r : List DStmt) : spellDoc (s :: r) ≠ [] := by
  cases s <;> simp [spellDoc, DStmt.toks, MKey.toks, Seg.toks]

end TomlVerif.Lemmas.Macro19b
