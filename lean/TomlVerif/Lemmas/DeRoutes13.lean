import TomlVerif.Model.DeRoutes
/-! What the two deserializer families present (`presValue`, `presEdit`) and what `Value::try_from` builds
    (`valueSerializer`), on trees without a date-time leaf and in general. -/
namespace TomlVerif.Lemmas.DeRoutes13
open TomlVerif TomlVerif.Model TomlVerif.Model.TomlValue TomlVerif.Model.DeRoutes

mutual
def noDt : TV → Bool
  | .dt _ => false
  | .arr l => noDtList l
  | .tbl items => noDtPairs items
  | _ => true
def noDtList : List TV → Bool
  | [] => true
  | v :: r => noDt v && noDtList r
def noDtPairs : List (Bytes × TV) → Bool
  | [] => true
  | (_, v) :: r => noDt v && noDtPairs r
end

mutual
theorem presValue_eq_presEdit (b : Bool) : ∀ v : TV, noDt v = true → presValue b v = presEdit v
  | .str _, _ | .int _, _ | .float _, _ | .bool _, _ => by simp [presValue, presEdit]
  | .dt _, h => by simp [noDt] at h
  | .arr l, h => by
    simp only [noDt] at h
    simp [presValue, presEdit, presValueList_eq b l h]
  | .tbl items, h => by
    simp only [noDt] at h
    simp [presValue, presEdit, presValuePairs_eq b items h]
theorem presValueList_eq (b : Bool) : ∀ l : List TV, noDtList l = true → presValueList b l = presEditList l
  | [], _ => by simp [presValueList, presEditList]
  | v :: r, h => by
    simp only [noDtList, Bool.and_eq_true] at h
    simp [presValueList, presEditList, presValue_eq_presEdit b v h.1, presValueList_eq b r h.2]
theorem presValuePairs_eq (b : Bool) : ∀ l : List (Bytes × TV), noDtPairs l = true → presValuePairs b l = presEditPairs l
  | [], _ => by simp [presValuePairs, presEditPairs]
  | (k, v) :: r, h => by
    simp only [noDtPairs, Bool.and_eq_true] at h
    simp [presValuePairs, presEditPairs, presValue_eq_presEdit b v h.1, presValuePairs_eq b r h.2]
end

mutual
theorem presValue_true_eq : ∀ v : TV, presValue true v = presEdit v
  | .str _ | .int _ | .float _ | .bool _ | .dt _ => by simp [presValue, presEdit]
  | .arr l => by simp [presValue, presEdit, presValueList_true_eq l]
  | .tbl items => by simp [presValue, presEdit, presValuePairs_true_eq items]
theorem presValueList_true_eq : ∀ l : List TV, presValueList true l = presEditList l
  | [] => by simp [presValueList, presEditList]
  | v :: r => by simp [presValueList, presEditList, presValue_true_eq v, presValueList_true_eq r]
theorem presValuePairs_true_eq : ∀ l : List (Bytes × TV), presValuePairs true l = presEditPairs l
  | [] => by simp [presValuePairs, presEditPairs]
  | (k, v) :: r => by simp [presValuePairs, presEditPairs, presValue_true_eq v, presValuePairs_true_eq r]
end

mutual
def noNamed : Ser → Bool
  | .struct name fields => name != NAME && noNamedPairs fields
  | .seq l => noNamedList l
  | .map entries => noNamedPairs entries
  | _ => true
def noNamedList : List Ser → Bool
  | [] => true
  | s :: r => noNamed s && noNamedList r
def noNamedPairs : List (Bytes × Ser) → Bool
  | [] => true
  | (_, s) :: r => noNamed s && noNamedPairs r
end

mutual
theorem valueSerializer_honour_irrelevant (fl : Flavour) :
    ∀ s : Ser, noNamed s = true → valueSerializer fl true s = valueSerializer fl false s
  | .bool _, _ | .i64 _, _ | .f64 _, _ | .str _, _ => by simp [valueSerializer]
  | .seq l, h => by
    simp only [noNamed] at h
    simp [valueSerializer, valueSerializerList_honour_irrelevant fl l h]
  | .map entries, h => by
    simp only [noNamed] at h
    simp [valueSerializer, valueSerializerPairs_honour_irrelevant fl entries h]
  | .struct name fields, h => by
    simp only [noNamed, Bool.and_eq_true, bne_iff_ne, ne_eq] at h
    have hn : (name == NAME) = false := by simpa using h.1
    simp [valueSerializer, valueSerializerPairs_honour_irrelevant fl fields h.2, hn]
theorem valueSerializerList_honour_irrelevant (fl : Flavour) :
    ∀ l : List Ser, noNamedList l = true → valueSerializerList fl true l = valueSerializerList fl false l
  | [], _ => by simp [valueSerializerList]
  | s :: r, h => by
    simp only [noNamedList, Bool.and_eq_true] at h
    simp [valueSerializerList, valueSerializer_honour_irrelevant fl s h.1, valueSerializerList_honour_irrelevant fl r h.2]
theorem valueSerializerPairs_honour_irrelevant (fl : Flavour) :
    ∀ l : List (Bytes × Ser), noNamedPairs l = true → valueSerializerPairs fl true l = valueSerializerPairs fl false l
  | [], _ => by simp [valueSerializerPairs]
  | (k, s) :: r, h => by
    simp only [noNamedPairs, Bool.and_eq_true] at h
    simp [valueSerializerPairs, valueSerializer_honour_irrelevant fl s h.1, valueSerializerPairs_honour_irrelevant fl r h.2]
end

def noNamedTagged : List (Bytes × (Nat × Ser)) → Bool
  | [] => true
  | (_, (_, s)) :: r => noNamed s && noNamedTagged r

theorem noNamedTagged_filter (p : Bytes × (Nat × Ser) → Bool) :
    ∀ l, noNamedTagged l = true → noNamedTagged (l.filter p) = true
  | [], _ => by simp [noNamedTagged]
  | (k, (n, s)) :: r, h => by
    simp only [noNamedTagged, Bool.and_eq_true] at h
    simp only [List.filter_cons]
    split
    · simp [noNamedTagged, h.1, noNamedTagged_filter p r h.2]
    · exact noNamedTagged_filter p r h.2

theorem noNamedTagged_append : ∀ a b, noNamedTagged a = true → noNamedTagged b = true → noNamedTagged (a ++ b) = true
  | [], b, _, hb => by simpa using hb
  | (k, (n, s)) :: r, b, ha, hb => by
    simp only [noNamedTagged, Bool.and_eq_true] at ha
    simp [noNamedTagged, ha.1, noNamedTagged_append r b ha.2 hb]

theorem noNamedPairs_map : ∀ l : List (Bytes × (Nat × Ser)), noNamedTagged l = true →
    noNamedPairs (l.map fun e => (e.1, e.2.2)) = true
  | [], _ => by simp [noNamedPairs]
  | (k, (n, s)) :: r, h => by
    simp only [noNamedTagged, Bool.and_eq_true] at h
    simp [noNamedPairs, h.1, noNamedPairs_map r h.2]

theorem noNamedPairs_serOrderSer (l : List (Bytes × (Nat × Ser))) (h : noNamedTagged l = true) :
    noNamedPairs (serOrderSer l) = true := by
  unfold serOrderSer
  apply noNamedPairs_map
  exact noNamedTagged_append _ _ (noNamedTagged_append _ _ (noNamedTagged_filter _ l h) (noNamedTagged_filter _ l h))
    (noNamedTagged_filter _ l h)

mutual
theorem serCalls_noNamed : ∀ v : TV, noDt v = true → noNamed (serCalls v) = true
  | .str _, _ | .int _, _ | .float _, _ | .bool _, _ => by simp [serCalls, noNamed]
  | .dt _, h => by simp [noDt] at h
  | .arr l, h => by
    simp only [noDt] at h
    simp [serCalls, noNamed, serCallsList_noNamed l h]
  | .tbl items, h => by
    simp only [noDt] at h
    simp only [serCalls, noNamed]
    exact noNamedPairs_serOrderSer _ (serCallsPairs_noNamed items h)
theorem serCallsList_noNamed : ∀ l : List TV, noDtList l = true → noNamedList (serCallsList l) = true
  | [], _ => by simp [serCallsList, noNamedList]
  | v :: r, h => by
    simp only [noDtList, Bool.and_eq_true] at h
    simp [serCallsList, noNamedList, serCalls_noNamed v h.1, serCallsList_noNamed r h.2]
theorem serCallsPairs_noNamed : ∀ l : List (Bytes × TV), noDtPairs l = true → noNamedTagged (serCallsPairs l) = true
  | [], _ => by simp [serCallsPairs, noNamedTagged]
  | (k, v) :: r, h => by
    simp only [noDtPairs, Bool.and_eq_true] at h
    simp [serCallsPairs, noNamedTagged, serCalls_noNamed v h.1, serCallsPairs_noNamed r h.2]
end

end TomlVerif.Lemmas.DeRoutes13
