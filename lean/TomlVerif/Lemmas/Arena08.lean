import TomlVerif.Lemmas.CstInduct
import TomlVerif.Lemmas.Frame08
import TomlVerif.Lemmas.Spans14Keys
/-! Text inside the arena. Printing is stable under growth of the arena: the text `encodeValue` /
    `encodeKeyPath` produce for a subtree whose spans all end inside `inp` (`EndsIn`) is the same over
    `inp ++ x`; and a bound on the ends of the spans of a tree bounds those of the entry a path leads to
    (`spansK_*`). At the end a `Bool` test for `Edit08.Diverge` (`divergeB`), for the examples. -/
namespace TomlVerif.Lemmas.Refine08bPrint
open TomlVerif TomlVerif.Model TomlVerif.Model.Cst TomlVerif.Model.Edit TomlVerif.Model.Encode
open TomlVerif.Lemmas.Edit08 TomlVerif.Lemmas.Cst03
open TomlVerif.Lemmas.Spans14 (keysSpans_append)

def EndsIn (n : Nat) (l : List Span) : Prop := ∀ sp ∈ l, sp.2 ≤ n

@[simp] theorem endsIn_nil (n : Nat) : EndsIn n [] := by simp [EndsIn]

@[simp] theorem endsIn_append (n : Nat) (a b : List Span) : EndsIn n (a ++ b) ↔ EndsIn n a ∧ EndsIn n b := by
  simp [EndsIn, List.mem_append, or_imp, forall_and]

theorem endsIn_mono {n m : Nat} {l : List Span} (h : EndsIn n l) (hm : n ≤ m) : EndsIn m l :=
  fun sp hs => Nat.le_trans (h sp hs) hm

/- `f` is the transformation the printer applies to decor text (`stripCr`, or `id` for the verbatim print) -/
variable (f : Bytes → Bytes) (inp x : Bytes)

theorem rawText_app (r : Raw) (h : EndsIn inp.length (rawSp r)) : rawText (inp ++ x) r = rawText inp r := by
  cases r with
  | empty => rfl
  | spanned a b =>
    simp only [rawText]
    exact slice_append inp x a b (h (a, b) (by simp [rawSp]))

theorem encRaw_app (r : Raw) (h : EndsIn inp.length (rawSp r)) : encRaw f (inp ++ x) r = encRaw f inp r := by
  simp only [encRaw, rawText_app inp x r h]

theorem prefixEncode_app (d : Decor) (dflt : Bytes) (h : EndsIn inp.length (decorSp d)) :
    prefixEncode f (inp ++ x) d dflt = prefixEncode f inp d dflt := by
  simp only [decorSp, endsIn_append] at h
  unfold prefixEncode
  cases hp : d.pre with
  | none => rfl
  | some r =>
    simp only [hp, optRawSp] at h
    simp only [encRaw_app f inp x r h.1]

theorem suffixEncode_app (d : Decor) (dflt : Bytes) (h : EndsIn inp.length (decorSp d)) :
    suffixEncode f (inp ++ x) d dflt = suffixEncode f inp d dflt := by
  simp only [decorSp, endsIn_append] at h
  unfold suffixEncode
  cases hp : d.suf with
  | none => rfl
  | some r =>
    simp only [hp, optRawSp] at h
    simp only [encRaw_app f inp x r h.2]

theorem encodeKey_app (k : CKey) (h : EndsIn inp.length (keySpans k)) :
    encodeKey (inp ++ x) k = encodeKey inp k := by
  simp only [keySpans, endsIn_append] at h
  simp only [encodeKey, rawText_app inp x k.repr h.1.1]

theorem endsIn_keys_mem {n : Nat} {ks : List CKey} (h : EndsIn n (keysSpans ks)) : ∀ k ∈ ks, EndsIn n (keySpans k) :=
  fun k hk sp hs => h sp (Spans14.mem_keysSpans.2 ⟨k, hk, hs⟩)

theorem encodeKeyPathAux_app (leaf : Decor) (dp ds : Bytes) (hl : EndsIn inp.length (decorSp leaf)) :
    ∀ (first : Bool) (ks : List CKey), EndsIn inp.length (keysSpans ks) →
    encodeKeyPathAux f (inp ++ x) leaf dp ds first ks = encodeKeyPathAux f inp leaf dp ds first ks
  | _, [], _ => rfl
  | first, k :: rest, h => by
    simp only [keysSpans, endsIn_append] at h
    have hk := h.1
    simp only [keySpans, endsIn_append] at hk
    simp only [encodeKeyPathAux, prefixEncode_app f inp x leaf dp hl, suffixEncode_app f inp x leaf ds hl,
      prefixEncode_app f inp x k.dotted [] hk.2, suffixEncode_app f inp x k.dotted [] hk.2,
      encodeKey_app inp x k h.1, encodeKeyPathAux_app leaf dp ds hl false rest h.2]

theorem encodeKeyPath_app (ks : List CKey) (dp ds : Bytes) (h : EndsIn inp.length (keysSpans ks)) :
    encodeKeyPath f (inp ++ x) ks dp ds = encodeKeyPath f inp ks dp ds := by
  unfold encodeKeyPath
  cases hl : ks.getLast? with
  | none => rfl
  | some l =>
    have hm : l ∈ ks := List.mem_of_getLast? hl
    have hk := endsIn_keys_mem h l hm
    simp only [keySpans, endsIn_append] at hk
    exact encodeKeyPathAux_app f inp x l.leaf dp ds hk.1.2 true ks h

theorem encode_app :
    (∀ (v : CVal) (dp ds : Bytes), EndsIn inp.length (valSpans v) →
      encodeValue f (inp ++ x) v dp ds = encodeValue f inp v dp ds) ∧
    (∀ (l : List CVal) (first : Bool), EndsIn inp.length (elemsSpans l) →
      encodeElems f (inp ++ x) l first = encodeElems f inp l first) ∧
    (∀ (l : List (CKey × CVal)) (parent : List CKey) (i len : Nat),
      EndsIn inp.length (kvsSpans l) → EndsIn inp.length (keysSpans parent) →
      encodeInl f (inp ++ x) l parent i len = encodeInl f inp l parent i len) := by
  refine cval_induct ?_ ?_ ?_ ?_ ?_ ?_ ?_
  · intro _ repr decor dp ds h
    simp only [valSpans, endsIn_append] at h
    simp only [encodeValue, prefixEncode_app f inp x decor dp h.2, suffixEncode_app f inp x decor ds h.2,
      rawText_app inp x repr h.1]
  · intro items trailing comma decor sp ih dp ds h
    simp only [valSpans, endsIn_append] at h
    simp only [encodeValue, prefixEncode_app f inp x decor dp h.1.2, suffixEncode_app f inp x decor ds h.1.2,
      encRaw_app f inp x trailing h.1.1.2, ih true h.1.1.1]
  · intro items pre imp dot decor sp ih dp ds h
    simp only [valSpans, endsIn_append] at h
    simp only [encodeValue, prefixEncode_app f inp x decor dp h.1.2, suffixEncode_app f inp x decor ds h.1.2,
      encRaw_app f inp x pre h.1.1.2, ih [] 0 (countInl items) h.1.1.1 (by simp [keysSpans])]
  · intro _ _; rfl
  · intro v r hv hr first h
    simp only [elemsSpans, endsIn_append] at h
    simp only [encodeElems, hv _ _ h.1, hr false h.2]
  · intro _ _ _ _ _; rfl
  · intro k v r hv hsub hr parent i len h hp
    simp only [kvsSpans, endsIn_append] at h
    have hpk : EndsIn inp.length (keysSpans (parent ++ [k])) := by
      simp [keysSpans_append, keysSpans, hp, h.1.1]
    cases v with
    | inl sub pre imp dot dec sp =>
      have hv' := h.1.2
      -- `hsub`: the second hypothesis of the last premise of `cval_induct`, the pairs of `v` when `v` is an inline table
      simp only [valSpans, endsIn_append] at hv'
      simp only [encodeInl, encodeKeyPath_app f inp x (parent ++ [k]) _ _ hpk, hv _ _ h.1.2,
        hsub sub pre imp dot dec sp rfl (parent ++ [k]) i len hv'.1.1.1 hpk]
      split
      · simp only [hr parent _ len h.2 hp]
      · simp only [hr parent _ len h.2 hp]
    | scalar a b c =>
      simp only [encodeInl, encodeKeyPath_app f inp x (parent ++ [k]) _ _ hpk, hv _ _ h.1.2, hr parent _ len h.2 hp]
    | arr a b c d e =>
      simp only [encodeInl, encodeKeyPath_app f inp x (parent ++ [k]) _ _ hpk, hv _ _ h.1.2, hr parent _ len h.2 hp]

theorem encodeValue_app : ∀ (v : CVal) (dp ds : Bytes), EndsIn inp.length (valSpans v) →
    encodeValue f (inp ++ x) v dp ds = encodeValue f inp v dp ds :=
  (encode_app f inp x).1

theorem encodeElems_app : ∀ (l : List CVal) (first : Bool), EndsIn inp.length (elemsSpans l) →
    encodeElems f (inp ++ x) l first = encodeElems f inp l first :=
  (encode_app f inp x).2.1

theorem encodeInl_app : ∀ (l : List (CKey × CVal)) (parent : List CKey) (i len : Nat),
    EndsIn inp.length (kvsSpans l) → EndsIn inp.length (keysSpans parent) →
    encodeInl f (inp ++ x) l parent i len = encodeInl f inp l parent i len :=
  (encode_app f inp x).2.2

end TomlVerif.Lemmas.Refine08bPrint

/-! The bound on the document gives the bound `T08_print_untouched` asks of the entry, stored key included. -/
namespace TomlVerif.Lemmas.Refine08bSpans
open TomlVerif TomlVerif.Model TomlVerif.Model.Cst TomlVerif.Model.Edit TomlVerif.Model.Encode
open TomlVerif.Lemmas.Edit08 TomlVerif.Lemmas.Cst03 TomlVerif.Lemmas.Refine08bFrame TomlVerif.Lemmas.Refine08bPrint

def okeySpans : Option CKey → List Span
  | none => []
  | some k => keySpans k

def nodeSpans : Node → List Span
  | .tbl t => tblSpans t
  | .val v => valSpans v
  | .aot ts sp => tblsSpans ts ++ optSp sp

def knodeSpans (r : KNode) : List Span := okeySpans r.1 ++ nodeSpans r.2

/-- the spans of an item (the `match` in `itemsSpans`) -/
def itemSpans : CItem → List Span
  | .value v => valSpans v
  | .table t => tblSpans t
  | .aot ts sp => tblsSpans ts ++ optSp sp

theorem itemsSpans_cons (k : CKey) (it : CItem) (r : List (CKey × CItem)) :
    itemsSpans ((k, it) :: r) = keySpans k ++ itemSpans it ++ itemsSpans r := by
  cases it <;> rw [itemsSpans] <;> rfl

variable {n : Nat}

mutual
theorem spansK_val : ∀ (ck : Option CKey) (p : List Seg) (v : CVal) (r : KNode),
    lookupKVal ck p v = some r → EndsIn n (okeySpans ck) → EndsIn n (valSpans v) → EndsIn n (knodeSpans r)
  | ck, [], v, r, h, hk, hv => by
    simp only [lookupKVal, Option.some.injEq] at h; subst h
    simp [knodeSpans, nodeSpans, hk, hv]
  | _, _ :: _, .scalar _ _ _, _, h, _, _ => by simp [lookupKVal] at h
  | _, s :: q, .arr items _ _ _ _, r, h, _, hv => by
    simp only [lookupKVal] at h
    simp only [valSpans, endsIn_append] at hv
    cases hi : s.idx with
    | none => simp [hi] at h
    | some i =>
      simp only [hi] at h
      exact spansK_elems i q items r h hv.1.1.1
  | _, s :: q, .inl items _ _ _ _ _, r, h, _, hv => by
    simp only [lookupKVal] at h
    simp only [valSpans, endsIn_append] at hv
    cases hi : s.key with
    | none => simp [hi] at h
    | some k =>
      simp only [hi] at h
      exact spansK_kvs k q items r h hv.1.1.1
theorem spansK_elems : ∀ (i : Nat) (q : List Seg) (items : List CVal) (r : KNode),
    lookupKElems i q items = some r → EndsIn n (elemsSpans items) → EndsIn n (knodeSpans r)
  | _, _, [], _, h, _ => by simp [lookupKElems] at h
  | 0, q, v :: _, r, h, hv => by
    simp only [lookupKElems] at h
    simp only [elemsSpans, endsIn_append] at hv
    exact spansK_val none q v r h (by simp [okeySpans]) hv.1
  | i + 1, q, _ :: rest, r, h, hv => by
    simp only [lookupKElems] at h
    simp only [elemsSpans, endsIn_append] at hv
    exact spansK_elems i q rest r h hv.2
theorem spansK_kvs (k : Bytes) : ∀ (q : List Seg) (items : List (CKey × CVal)) (r : KNode),
    lookupKKvs k q items = some r → EndsIn n (kvsSpans items) → EndsIn n (knodeSpans r)
  | _, [], _, h, _ => by simp [lookupKKvs] at h
  | q, (k', v) :: rest, r, h, hv => by
    simp only [lookupKKvs] at h
    simp only [kvsSpans, endsIn_append] at hv
    split at h
    · exact spansK_val (some k') q v r h (by simpa [okeySpans] using hv.1.1) hv.1.2
    · exact spansK_kvs k q rest r h hv.2
end

mutual
theorem spansK_tbl : ∀ (ck : Option CKey) (p : List Seg) (t : CTbl) (r : KNode),
    lookupKTbl ck p t = some r → EndsIn n (okeySpans ck) → EndsIn n (tblSpans t) → EndsIn n (knodeSpans r)
  | ck, [], t, r, h, hk, hv => by
    simp only [lookupKTbl, Option.some.injEq] at h; subst h
    simp [knodeSpans, nodeSpans, hk, hv]
  | _, s :: q, .mk items _ _ _ _ _, r, h, _, hv => by
    simp only [lookupKTbl] at h
    simp only [tblSpans, endsIn_append] at hv
    cases hi : s.key with
    | none => simp [hi] at h
    | some k =>
      simp only [hi] at h
      exact spansK_items k q items r h hv.1.1
theorem spansK_items (k : Bytes) : ∀ (q : List Seg) (items : List (CKey × CItem)) (r : KNode),
    lookupKItems k q items = some r → EndsIn n (itemsSpans items) → EndsIn n (knodeSpans r)
  | _, [], _, h, _ => by simp [lookupKItems] at h
  | q, (k', it) :: rest, r, h, hv => by
    simp only [lookupKItems] at h
    rw [itemsSpans_cons] at hv
    simp only [endsIn_append] at hv
    split at h
    · exact spansK_item (some k') q it r h (by simpa [okeySpans] using hv.1.1) hv.1.2
    · exact spansK_items k q rest r h hv.2
theorem spansK_item : ∀ (ck : Option CKey) (q : List Seg) (it : CItem) (r : KNode),
    lookupKItem ck q it = some r → EndsIn n (okeySpans ck) →
    EndsIn n (itemSpans it) → EndsIn n (knodeSpans r)
  | ck, q, .value v, r, h, hk, hv => by
    simp only [lookupKItem] at h
    exact spansK_val ck q v r h hk hv
  | ck, q, .table t, r, h, hk, hv => by
    simp only [lookupKItem] at h
    exact spansK_tbl ck q t r h hk hv
  | ck, [], .aot ts sp, r, h, hk, hv => by
    simp only [lookupKItem, Option.some.injEq] at h; subst h
    simp only [itemSpans, endsIn_append] at hv
    simp [knodeSpans, nodeSpans, hk, hv.1, hv.2]
  | _, s :: q, .aot ts _, r, h, _, hv => by
    simp only [lookupKItem] at h
    simp only [itemSpans, endsIn_append] at hv
    cases hi : s.idx with
    | none => simp [hi] at h
    | some i =>
      simp only [hi] at h
      exact spansK_nth i q ts r h hv.1
theorem spansK_nth : ∀ (i : Nat) (q : List Seg) (ts : List CTbl) (r : KNode),
    lookupKNth i q ts = some r → EndsIn n (tblsSpans ts) → EndsIn n (knodeSpans r)
  | _, _, [], _, h, _ => by simp [lookupKNth] at h
  | 0, q, t :: _, r, h, hv => by
    simp only [lookupKNth] at h
    simp only [tblsSpans, endsIn_append] at hv
    exact spansK_tbl none q t r h (by simp [okeySpans]) hv.1
  | i + 1, q, _ :: rest, r, h, hv => by
    simp only [lookupKNth] at h
    simp only [tblsSpans, endsIn_append] at hv
    exact spansK_nth i q rest r h hv.2
end

def segDifferB (a b : Seg) : Bool :=
  (a.key.isNone || a.key != b.key) && (a.idx.isNone || a.idx != b.idx)

def divergeB : List Seg → List Seg → Bool
  | a :: p, b :: q => segDifferB a b || (a == b && divergeB p q)
  | _, _ => false

theorem segDifferB_sound (a b : Seg) (h : segDifferB a b = true) : SegDiffer a b := by
  simp only [segDifferB, Bool.and_eq_true, Bool.or_eq_true, Option.isNone_iff_eq_none, bne_iff_ne, ne_eq] at h
  exact h

theorem divergeB_sound : ∀ (p q : List Seg), divergeB p q = true → Diverge p q
  | [], _, h => by simp [divergeB] at h
  | _ :: _, [], h => by simp [divergeB] at h
  | a :: p, b :: q, h => by
    simp only [divergeB, Bool.or_eq_true, Bool.and_eq_true, beq_iff_eq] at h
    rcases h with h | ⟨rfl, h⟩
    · exact .here (segDifferB_sound a b h)
    · exact .step (divergeB_sound p q h)

end TomlVerif.Lemmas.Refine08bSpans
