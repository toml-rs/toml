import TomlVerif.Lemmas.RoundTrip17Tree
import TomlVerif.Lemmas.DeTyped13
/-! For Props/C13TypedParsed and Props/C18Parsed: the part of `WfTV` the document parser guarantees (`WfTV'`: distinct
    keys in every table at every depth, date-times that print and re-read), the part it does not (`NoPrivTV`: no table
    has the private date-time key, which the parser accepts like any other), the same predicate on the parsed tree
    (`GV`, `GI`, `GT`). -/
namespace TomlVerif.Lemmas.TypedGapsParsed
open TomlVerif TomlVerif.Model TomlVerif.Model.TomlValue TomlVerif.Model.DeRoutes
open TomlVerif.Lemmas.DeTyped13 TomlVerif.Lemmas.State09

mutual
/-- `WfTV` without the clause about the private date-time key -/
def WfTV' : TV → Prop
  | .dt d => Datetime.Std.fromStr (Datetime.Std.display d) = some d
  | .arr l => WfVs' l
  | .tbl items => WfPs' items ∧ (items.map Prod.fst).Nodup
  | _ => True
def WfVs' : List TV → Prop
  | [] => True
  | v :: r => WfTV' v ∧ WfVs' r
def WfPs' : List (Bytes × TV) → Prop
  | [] => True
  | (_, v) :: r => WfTV' v ∧ WfPs' r
end

mutual
/-- no table at any depth has the private date-time key -/
def NoPrivTV : TV → Prop
  | .arr l => NoPrivVs l
  | .tbl items => NoPrivPs items ∧ FIELD ∉ items.map Prod.fst
  | _ => True
def NoPrivVs : List TV → Prop
  | [] => True
  | v :: r => NoPrivTV v ∧ NoPrivVs r
def NoPrivPs : List (Bytes × TV) → Prop
  | [] => True
  | (_, v) :: r => NoPrivTV v ∧ NoPrivPs r
end

mutual
theorem wfTV_iff : ∀ v : TV, WfTV v ↔ WfTV' v ∧ NoPrivTV v
  | .str _ | .int _ | .float _ | .bool _ | .dt _ => by simp [WfTV, WfTV', NoPrivTV]
  | .arr l => by rw [WfTV, WfTV', NoPrivTV]; exact wfVs_iff l
  | .tbl items => by
    rw [WfTV, WfTV', NoPrivTV, wfPs_iff items]
    constructor
    · rintro ⟨⟨a, b⟩, c, d⟩; exact ⟨⟨a, c⟩, b, d⟩
    · rintro ⟨⟨a, c⟩, b, d⟩; exact ⟨⟨a, b⟩, c, d⟩
theorem wfVs_iff : ∀ l : List TV, WfVs l ↔ WfVs' l ∧ NoPrivVs l
  | [] => by simp [WfVs, WfVs', NoPrivVs]
  | v :: r => by
    rw [WfVs, WfVs', NoPrivVs, wfTV_iff v, wfVs_iff r]
    constructor
    · rintro ⟨⟨a, b⟩, c, d⟩; exact ⟨⟨a, c⟩, b, d⟩
    · rintro ⟨⟨a, c⟩, b, d⟩; exact ⟨⟨a, b⟩, c, d⟩
theorem wfPs_iff : ∀ l : List (Bytes × TV), WfPs l ↔ WfPs' l ∧ NoPrivPs l
  | [] => by simp [WfPs, WfPs', NoPrivPs]
  | (_, v) :: r => by
    rw [WfPs, WfPs', NoPrivPs, wfTV_iff v, wfPs_iff r]
    constructor
    · rintro ⟨⟨a, b⟩, c, d⟩; exact ⟨⟨a, c⟩, b, d⟩
    · rintro ⟨⟨a, c⟩, b, d⟩; exact ⟨⟨a, b⟩, c, d⟩
end

theorem wfVs'_iff (l : List TV) : WfVs' l ↔ ∀ v ∈ l, WfTV' v := by
  induction l with
  | nil => simp [WfVs']
  | cons v r ih => simp [WfVs', ih]

theorem wfPs'_iff (l : List (Bytes × TV)) : WfPs' l ↔ ∀ p ∈ l, WfTV' p.2 := by
  induction l with
  | nil => simp [WfPs']
  | cons x r ih => obtain ⟨k, v⟩ := x; simp [WfPs', ih]

mutual
def noPrivB : TV → Bool
  | .arr l => noPrivVsB l
  | .tbl items => noPrivPsB items && !(items.map Prod.fst).contains FIELD
  | _ => true
def noPrivVsB : List TV → Bool
  | [] => true
  | v :: r => noPrivB v && noPrivVsB r
def noPrivPsB : List (Bytes × TV) → Bool
  | [] => true
  | (_, v) :: r => noPrivB v && noPrivPsB r
end

mutual
theorem noPrivB_iff : ∀ v : TV, noPrivB v = true ↔ NoPrivTV v
  | .str _ | .int _ | .float _ | .bool _ | .dt _ => by simp [noPrivB, NoPrivTV]
  | .arr l => by rw [noPrivB, NoPrivTV]; exact noPrivVsB_iff l
  | .tbl items => by
    rw [noPrivB, NoPrivTV, Bool.and_eq_true, noPrivPsB_iff items]
    simp
theorem noPrivVsB_iff : ∀ l : List TV, noPrivVsB l = true ↔ NoPrivVs l
  | [] => by simp [noPrivVsB, NoPrivVs]
  | v :: r => by rw [noPrivVsB, NoPrivVs, Bool.and_eq_true, noPrivB_iff v, noPrivVsB_iff r]
theorem noPrivPsB_iff : ∀ l : List (Bytes × TV), noPrivPsB l = true ↔ NoPrivPs l
  | [] => by simp [noPrivPsB, NoPrivPs]
  | (_, v) :: r => by rw [noPrivPsB, NoPrivPs, Bool.and_eq_true, noPrivB_iff v, noPrivPsB_iff r]
end

def GV (v : Val) : Prop := WfTV' (plainVal v)
def GI (it : Item) : Prop := WfTV' (plainItem it)
def GT (t : Tbl) : Prop := WfTV' (plainTbl t)

theorem gv_arr (l : List Val) : GV (.arr l) ↔ ∀ v ∈ l, GV v := by
  unfold GV
  rw [plainVal, WfTV', wfVs'_iff, plainVals_map]
  simp

theorem gv_inl (items : List (Bytes × Val)) (a b : Bool) :
    GV (.inl items a b) ↔ (items.map Prod.fst).Nodup ∧ ∀ p ∈ items, GV p.2 := by
  unfold GV
  rw [plainVal, WfTV', wfPs'_iff, plainValPairs_map]
  simp only [List.map_map, List.mem_map]
  constructor
  · rintro ⟨h1, h2⟩
    refine ⟨by simpa [Function.comp_def] using h2, ?_⟩
    intro p hp
    exact h1 _ ⟨p, hp, rfl⟩
  · rintro ⟨h1, h2⟩
    refine ⟨?_, by simpa [Function.comp_def] using h1⟩
    rintro _ ⟨p, hp, rfl⟩
    exact h2 p hp

theorem gi_value (v : Val) : GI (.value v) ↔ GV v := by unfold GI GV; rw [plainItem]
theorem gi_table (t : Tbl) : GI (.table t) ↔ GT t := by unfold GI GT; rw [plainItem]

theorem gi_aot (ts : List Tbl) : GI (.aot ts) ↔ ∀ t ∈ ts, GT t := by
  unfold GI GT
  rw [plainItem, WfTV', wfVs'_iff, plainTbls_map]
  simp

theorem gt_iff (t : Tbl) : GT t ↔ (t.items.map Prod.fst).Nodup ∧ ∀ p ∈ t.items, GI p.2 := by
  obtain ⟨items, a, b, c⟩ := t
  unfold GT GI
  rw [plainTbl, WfTV', wfPs'_iff, plainItems_eq]
  simp only [List.map_map, List.mem_map, Tbl.items]
  constructor
  · rintro ⟨h1, h2⟩
    refine ⟨by simpa [Function.comp_def] using h2, ?_⟩
    intro p hp
    exact h1 _ ⟨p, hp, rfl⟩
  · rintro ⟨h1, h2⟩
    refine ⟨?_, by simpa [Function.comp_def] using h1⟩
    rintro _ ⟨p, hp, rfl⟩
    exact h2 p hp

theorem gt_mk (items : List (Bytes × Item)) (a b : Bool) (c : Option Nat) :
    GT (.mk items a b c) ↔ (items.map Prod.fst).Nodup ∧ ∀ p ∈ items, GI p.2 := gt_iff _

theorem gt_setItems (t : Tbl) (l : List (Bytes × Item)) :
    GT (t.setItems l) ↔ (l.map Prod.fst).Nodup ∧ ∀ p ∈ l, GI p.2 := gt_iff _

theorem gt_of_nil (t : Tbl) (h : t.items = []) : GT t := by
  rw [gt_iff, h]; simp

end TomlVerif.Lemmas.TypedGapsParsed
