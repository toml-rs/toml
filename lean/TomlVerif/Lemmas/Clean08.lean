import TomlVerif.Lemmas.TreeOK
import TomlVerif.Lemmas.CstInv
/-! No `CVal.scalar` of a parsed document holds an inline-table payload (`T08_parsed_clean`, Props/C08Parsed.lean):
    the predicates `cleanPr` for the invariant of `TreeOK.lean`, what the value parser returns (`cvalue_clean`),
    and the instance of `TreeInv` (`cleanTree`) that carries it through the parse state and the line driver. -/
namespace TomlVerif.Lemmas.Refine08c
open TomlVerif TomlVerif.Spec TomlVerif.Model TomlVerif.Model.Strings TomlVerif.Model.Value
open TomlVerif.Model.Cst TomlVerif.Lemmas.Cst03 TomlVerif.Lemmas.Refine08bSem TomlVerif.Lemmas.Spans14

/-- scalars do not hold inline tables (spans and `RawString`s unconstrained) -/
def cleanPr : Pr := ⟨fun _ => True, fun _ => True, fun v => notInlVal v = true⟩

theorem DecOK_clean (d : Decor) : DecOK cleanPr d := ⟨fun _ _ => trivial, fun _ _ => trivial⟩

theorem KeyOK_clean (k : CKey) : KeyOK cleanPr k := ⟨trivial, DecOK_clean _, DecOK_clean _⟩

theorem TOK_clean_iff (t : CTbl) : TOK cleanPr t ↔ AllKV (KeyOK cleanPr) (ItemOK cleanPr) t.items := by
  rw [TOK_iff]
  exact ⟨fun h => h.1, fun h => ⟨h, DecOK_clean _, trivial⟩⟩

/-- the token parsers (`value` with one unit of fuel) return strings, numbers, booleans, date-times -/
theorem scalar_notInl (d : Nat) (s r : Bytes) (v : Val) (h : Value.value 1 d s = .ok v r) : notInlVal v = true := by
  cases ValueParse.value_one_ok h <;> rfl

theorem newDottedInl_clean {sub : List (CKey × CVal)} (h : KvsOK cleanPr sub) : VOK cleanPr (newDottedInl sub) := by
  simp only [newDottedInl, VOK]
  exact ⟨h, trivial, DecOK_clean _, trivial⟩

theorem cinlInsert_clean : ∀ (path : List CKey) (items : List (CKey × CVal)) (tblDotted pathEmpty : Bool)
    (key : CKey) (v : CVal) (items' : List (CKey × CVal)),
    cinlInsert items tblDotted path pathEmpty key v = some items' →
    AllKV (KeyOK cleanPr) (VOK cleanPr) items → VOK cleanPr v → AllKV (KeyOK cleanPr) (VOK cleanPr) items' := by
  intro path items tblDotted pathEmpty key v items' h hit hv
  refine Tiling03More.cinlInsert_induction
    (P := fun items _ items' => AllKV (KeyOK cleanPr) (VOK cleanPr) items → AllKV (KeyOK cleanPr) (VOK cleanPr) items')
    ?_ ?_ ?_ path items tblDotted items' h hit
  · intro items _ hit
    exact hit.append (AllKV.single (KeyOK_clean _) hv)
  · intro items k ks sub _ ih hit
    exact hit.append (AllKV.single (KeyOK_clean _) (newDottedInl_clean ((KvsOK_iff _).2 (ih AllKV.nil))))
  · intro items k ks sub pre dot dec sp sub' hl ih hit
    have hx : VOK cleanPr (.inl sub pre true dot dec sp) := hit.lookup hl
    exact hit.creplace (hx.inl_map ih)

def PairsOK (l : List (List CKey × CKey × CVal)) : Prop := ∀ x ∈ l, VOK cleanPr x.2.2

theorem ctableFromPairs_clean : ∀ (kvs : List (List CKey × CKey × CVal)) (acc items : List (CKey × CVal)),
    ctableFromPairs kvs acc = some items → PairsOK kvs →
    AllKV (KeyOK cleanPr) (VOK cleanPr) acc → AllKV (KeyOK cleanPr) (VOK cleanPr) items := by
  intro kvs
  induction kvs with
  | nil =>
    intro acc items h _ hacc
    simp [ctableFromPairs] at h
    subst h
    exact hacc
  | cons x rest ih =>
    intro acc items h hn hacc
    obtain ⟨path, key, v⟩ := x
    unfold ctableFromPairs at h
    split at h
    · rename_i acc' hins
      exact ih _ _ h (fun y hy => hn y (List.mem_cons_of_mem _ hy))
        (cinlInsert_clean _ _ _ _ _ _ _ hins hacc (hn (path, key, v) (by simp)))
    · cases h

theorem cvalue_clean (n fuel d : Nat) (s r : Bytes) (v : CVal) (h : cvalue n fuel d s = .ok v r) : VOK cleanPr v := by
  refine Tiling03More.cvalue_induct (P := VOK cleanPr) ?_ ?_ ?_ h
  · intro d s v0 r hv
    exact ⟨scalar_notInl _ _ _ _ hv, trivial, DecOK_clean _⟩
  · intro vs _ _ _ hvs
    refine ⟨(VsOK_iff vs).2 fun v hv => ?_, trivial, DecOK_clean _, trivial⟩
    obtain ⟨v0, dec, h0, rfl⟩ := hvs v hv; exact VOK_setDecor h0 (DecOK_clean _)
  · intro kvs items _ _ hkvs hitems
    refine ⟨(KvsOK_iff _).2 (ctableFromPairs_clean _ _ _ hitems (fun t ht => ?_) AllKV.nil), trivial,
      DecOK_clean _, trivial⟩
    obtain ⟨_, _, _, _, _, v0, dec, _, h0, e⟩ := hkvs t ht
    rw [e]; exact VOK_setDecor h0 (DecOK_clean _)

theorem cinlineKeyvals_clean {n fuel d : Nat} {s r : Bytes} {kvs : List (List CKey × CKey × CVal)}
    (h : cinlineKeyvals n fuel d s [] = .ok kvs r) : PairsOK kvs := by
  intro t ht
  obtain ⟨_, fuel', d', s', r', v, dec, hv, _, e⟩ := Tiling03More.cinlineKeyvals_parsed h t ht
  rw [e]; exact VOK_setDecor (cvalue_clean _ _ _ _ _ _ hv) (DecOK_clean _)

theorem ItemOK_clean_iff (it : CItem) : ItemOK cleanPr it ↔ ItemInv (VOK cleanPr) noFr (TOK cleanPr) it := by
  cases it with
  | value v => exact Iff.rfl
  | table t => exact Iff.rfl
  | aot ts sp =>
    exact ⟨fun h t ht => ⟨trivial, (TsOK_iff ts).1 h.1 t ht⟩, fun h => ⟨(TsOK_iff ts).2 fun t ht => (h t ht).2, trivial⟩⟩

/-- `TOK cleanPr` looks at scalar payloads only, not at keys, decor or flags: the three predicates on flags of
    `TreeInv` are `noFr` -/
theorem cleanTree : TreeInv (VOK cleanPr) noFr noFr (TOK cleanPr) :=
  .ofItems
    (fun t => (TOK_clean_iff t).trans
      ⟨fun h => h.imp (fun _ _ => trivial) fun it => (ItemOK_clean_iff it).1,
       fun h => h.imp (fun k _ => KeyOK_clean k) fun it => (ItemOK_clean_iff it).2⟩)
    fun _ d h => VOK_setDecor h (DecOK_clean d)

end TomlVerif.Lemmas.Refine08c
