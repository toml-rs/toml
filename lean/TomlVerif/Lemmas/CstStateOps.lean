import TomlVerif.Lemmas.CstSpans
import TomlVerif.Lemmas.CstLookup
/-! The line functions and the state machine of the format-preserving parser read backwards.  What a
    successful `ckeyvalLine` / `ctableLine` parsed and which state operation it ended with; `on_keyval`
    split into the key it stores (`kvKey`), the table it descends from (`kvCur`) and the insertion at
    the end of the path (`kvFn`); the other state steps as a `descend` with a named end function
    (`CstState`); `descend` itself (`descend_cons_shape`, `descend_induction`). -/
namespace TomlVerif.Lemmas.Tiling03
open TomlVerif.Model TomlVerif.Model.Cst

/-- how `on_keyval` joins the pending trailing span and the key's own prefix -/
def mergeSpan (a b : Option Span) : Option Span :=
  match a, b with
  | some p, some k => some (p.1, k.2)
  | some p, none => some p
  | none, some p => some p
  | none, none => none

def kvKey (st : CState) (key : CKey) : CKey :=
  { key with leaf := { key.leaf with pre := some (takeTrailing (mergeSpan st.trailing
      (match key.leaf.pre with | some r => r.span | none => none))) } }

def kvCur (st : CState) (v : CVal) : CTbl :=
  match st.current.span, v.span with
  | some e, some vs => st.current.setSpan (some (e.1, vs.2))
  | _, _ => st.current

def kvFn (path : List CKey) (key' : CKey) (v : CVal) : CTbl → Option CTbl := fun table =>
  if table.dotted == path.isEmpty then none
  else match clookup key'.key table.items with
    | some _ => none
    | none => some (table.setItems (table.items ++ [(key', .value v)]))

theorem onKeyval_eq (st : CState) (path : List CKey) (key : CKey) (v : CVal) :
    onKeyval st path key v = (descend (kvCur st v) path true (kvFn path (kvKey st key) v)).map
      fun c => { st with current := c, trailing := none } := rfl

end TomlVerif.Lemmas.Tiling03

namespace TomlVerif.Lemmas.Tiling03Hdr
open TomlVerif.Model TomlVerif.Model.Strings TomlVerif.Model.Value TomlVerif.Model.Cst
open TomlVerif.Lemmas.Tiling03

/-- the value of a key/value line as it is stored: with the blanks before it and the rest of
    the line up to its terminator as decor -/
def kvVal (n : Nat) (v : CVal) (r1 r2 : Bytes) : CVal :=
  v.setDecor (Decor.new (rawBetween n r1 (dropWs r1)) (rawBetween n r2 (trailEnd r2)))

theorem keyval_frame (n : Nat) (st st' : CState) (s r3 : Bytes) (h : ckeyvalLine n st s = some (st', r3)) :
    ∃ ks r1 v r2 path key c, ckeyPath n s = .ok ks (0x3D :: r1) ∧
      cvalue n (3 * r1.length + 4) (ks.length - 1) (dropWs r1) = .ok v r2 ∧ lineTrailing r2 = .ok () r3 ∧
      splitLast ks = some (path, key) ∧
      descend (kvCur st (kvVal n v r1 r2)) path true (kvFn path (kvKey st key) (kvVal n v r1 r2)) = some c ∧
      st' = { st with current := c, trailing := none } := by
  unfold ckeyvalLine at h
  split at h
  · rename_i ks r hk
    split at h
    · cases h
    · split at h
      · rename_i r1
        simp only [] at h
        split at h
        · rename_i v r2 hv
          split at h
          · rename_i r3' hlt
            split at h
            · rename_i path key hsl
              obtain ⟨x, ho, e⟩ := Option.map_eq_some_iff.mp h
              cases e
              rw [onKeyval_eq] at ho
              obtain ⟨c, hd, rfl⟩ := Option.map_eq_some_iff.mp ho
              exact ⟨ks, r1, v, r2, path, key, c, hk, hv, hlt, hsl, hd, rfl⟩
            · cases h
          · cases h
        · cases h
      · cases h
  · cases h

theorem table_frame (n : Nat) (st st' : CState) (s r3 : Bytes) (h : ctableLine n st s = some (st', r3)) :
    ∃ (isArr : Bool) (r : Bytes) (ks : List CKey) (r2 : Bytes),
      s = (if isArr then [0x5B, 0x5B] else [0x5B]) ++ r ∧
      ckeyPath n r = .ok ks ((if isArr then [0x5D, 0x5D] else [0x5D]) ++ r2) ∧
      lineTrailing r2 = .ok () r3 ∧
      (if isArr then onArrayHeader st ks (rawBetween n r2 (trailEnd r2)) (pos n s, pos n r2)
        else onStdHeader st ks (rawBetween n r2 (trailEnd r2)) (pos n s, pos n r2)) = some st' := by
  unfold ctableLine at h
  split at h
  · rename_i r
    split at h
    · rename_i ks r1 hk
      split at h
      · rename_i r2
        split at h
        · rename_i r3' hlt
          obtain ⟨x, ho, e⟩ := Option.map_eq_some_iff.mp h
          cases e
          exact ⟨true, r, ks, r2, rfl, hk, hlt, ho⟩
        · cases h
      · cases h
    · cases h
  · rename_i r hne
    split at h
    · cases h
    · split at h
      · rename_i ks r1 hk
        split at h
        · rename_i r2
          split at h
          · rename_i r3' hlt
            obtain ⟨x, ho, e⟩ := Option.map_eq_some_iff.mp h
            cases e
            exact ⟨false, r, ks, r2, rfl, hk, hlt, ho⟩
          · cases h
        · cases h
      · cases h
  · cases h

end TomlVerif.Lemmas.Tiling03Hdr

namespace TomlVerif.Lemmas.CstState
open TomlVerif.Model TomlVerif.Model.Cst

/-- `finalize_table` of a `[[header]]` table: appended to the array of tables under `key` -/
def finArr (key : CKey) (table : CTbl) : CTbl → Option CTbl := fun parent =>
  match (clookup key.key parent.items).getD (.aot [] none) with
  | .aot ts _ => some (parent.setItems (cset key (.aot (ts ++ [table]) (aotSpan (ts ++ [table]))) parent.items))
  | _ => none

/-- `finalize_table` of a `[header]` table: it replaces an implicit table, or is appended -/
def finStd (key : CKey) (table : CTbl) : CTbl → Option CTbl := fun parent =>
  match clookup key.key parent.items with
  | some (.table t) => if t.implicit then some (parent.setItems (creplace key.key (.table table) parent.items)) else none
  | some _ => none
  | none => some (parent.setItems (parent.items ++ [(key, .table table)]))

theorem finArr_some {key : CKey} {table p p' : CTbl} (h : finArr key table p = some p') :
    ∃ ts sp, (clookup key.key p.items).getD (.aot [] none) = .aot ts sp ∧
      p' = p.setItems (cset key (.aot (ts ++ [table]) (aotSpan (ts ++ [table]))) p.items) := by
  unfold finArr at h
  split at h
  · rename_i ts sp hl; exact ⟨ts, sp, hl, (Option.some.inj h).symm⟩
  · cases h

theorem finStd_some {key : CKey} {table p p' : CTbl} (h : finStd key table p = some p') :
    (∃ t, clookup key.key p.items = some (.table t) ∧ t.implicit = true ∧
      p' = p.setItems (creplace key.key (.table table) p.items)) ∨
    (clookup key.key p.items = none ∧ p' = p.setItems (p.items ++ [(key, .table table)])) := by
  unfold finStd at h
  split at h
  · rename_i t hl
    split at h
    · rename_i hi; exact .inl ⟨t, hl, hi, (Option.some.inj h).symm⟩
    · cases h
  · cases h
  · rename_i hl; exact .inr ⟨hl, (Option.some.inj h).symm⟩

theorem finalizeTable_inv {st st1 : CState} (h : finalizeTable st = some st1) :
    (Value.splitLast st.currentPath = none ∧ st.root.items.isEmpty = true ∧
      st1 = { st with root := st.current, current := CTbl.empty, currentPath := [] }) ∨
    ∃ pp key root', Value.splitLast st.currentPath = some (pp, key) ∧
      descend st.root pp false (if st.currentIsArray then finArr key st.current else finStd key st.current)
        = some root' ∧
      st1 = { st with root := root', current := CTbl.empty, currentPath := [] } := by
  unfold finalizeTable at h
  simp only [] at h
  split at h
  · split at h
    · exact .inl ⟨‹_›, ‹_›, (Option.some.inj h).symm⟩
    · cases h
  · rename_i pp key hsl
    refine .inr ⟨pp, key, ?_⟩
    split at h
    · rename_i hc
      obtain ⟨root', hd, rfl⟩ := Option.map_eq_some_iff.mp h
      exact ⟨root', hsl, by rw [if_pos hc]; exact hd, rfl⟩
    · rename_i hc
      obtain ⟨root', hd, rfl⟩ := Option.map_eq_some_iff.mp h
      exact ⟨root', hsl, by rw [if_neg hc]; exact hd, rfl⟩

/-- `start_table`: what may stand under the header key (nothing, or an implicit table that is not dotted) -/
def probeFn (key : CKey) : CTbl → Option CTbl := fun parent =>
  match clookup key.key parent.items with
  | some (.table t) => if t.implicit && !t.dotted then some parent else none
  | some _ => none
  | none => some parent

/-- `start_table`: the header key is removed from its parent (`finalize_table` puts the table back) -/
def eraseFn (key : CKey) : CTbl → Option CTbl := fun parent =>
  some (parent.setItems (cerase key.key parent.items))

/-- `start_array_table`: an array of tables under the header key, created empty if the key is new -/
def arrFn (key : CKey) : CTbl → Option CTbl := fun parent =>
  match clookup key.key parent.items with
  | some (.aot _ _) => some parent
  | some _ => none
  | none => some (parent.setItems (parent.items ++ [(key, .aot [] none)]))

theorem probeFn_some {key : CKey} {p x : CTbl} (h : probeFn key p = some x) :
    x = p ∧ (clookup key.key p.items = none ∨
      ∃ t, clookup key.key p.items = some (.table t) ∧ t.implicit = true ∧ t.dotted = false) := by
  unfold probeFn at h
  split at h
  · rename_i t hl
    split at h
    · rename_i hc
      simp only [Bool.and_eq_true, Bool.not_eq_true'] at hc
      exact ⟨(Option.some.inj h).symm, .inr ⟨t, hl, hc.1, hc.2⟩⟩
    · cases h
  · cases h
  · rename_i hl; exact ⟨(Option.some.inj h).symm, .inl hl⟩

theorem eraseFn_some {key : CKey} {p p' : CTbl} (h : eraseFn key p = some p') :
    p' = p.setItems (cerase key.key p.items) := (Option.some.inj h).symm

theorem arrFn_some {key : CKey} {p p' : CTbl} (h : arrFn key p = some p') :
    (∃ ts sp, clookup key.key p.items = some (.aot ts sp) ∧ p' = p) ∨
    (clookup key.key p.items = none ∧ p' = p.setItems (p.items ++ [(key, .aot [] none)])) := by
  unfold arrFn at h
  split at h
  · rename_i ts sp hl; exact .inl ⟨ts, sp, hl, (Option.some.inj h).symm⟩
  · cases h
  · rename_i hl; exact .inr ⟨hl, (Option.some.inj h).symm⟩

theorem startTable_inv {st st2 : CState} {path : List CKey} {dec : Decor} {span : Span}
    (h : startTable st path dec span = some st2) :
    ∃ pp key root', Value.splitLast path = some (pp, key) ∧
      (∃ x, descend st.root pp false (probeFn key) = some x) ∧
      descend st.root pp false (eraseFn key) = some root' ∧
      st2 = { st with root := root', position := st.position + 1,
                      current := .mk ((findTable key.key st.root pp).getD st.current).items false false
                        (some (st.position + 1)) dec (some span),
                      currentIsArray := false, currentPath := path } := by
  unfold startTable at h
  split at h
  · cases h
  · rename_i pp key hsl
    simp only [] at h
    split at h
    · cases h
    · rename_i x hprobe
      split at h
      · cases h
      · rename_i root' hd
        exact ⟨pp, key, root', hsl, ⟨x, hprobe⟩, hd, (Option.some.inj h).symm⟩

theorem startArrayTable_inv {st st2 : CState} {path : List CKey} {dec : Decor} {span : Span}
    (h : startArrayTable st path dec span = some st2) :
    ∃ pp key root', Value.splitLast path = some (pp, key) ∧ descend st.root pp false (arrFn key) = some root' ∧
      st2 = { st with root := root', position := st.position + 1,
                      current := .mk st.current.items false false (some (st.position + 1)) dec (some span),
                      currentIsArray := true, currentPath := path } := by
  unfold startArrayTable at h
  split at h
  · cases h
  · rename_i pp key hsl
    simp only [] at h
    split at h
    · cases h
    · rename_i root' hd
      exact ⟨pp, key, root', hsl, hd, (Option.some.inj h).symm⟩

/-- `[…]` (`a = false`) hands the items of a table found under the last key to the new current table -/
theorem onHeader_inv {st st' : CState} {a : Bool} {ks : List CKey} {trail : Raw} {span : Span}
    (ho : (if a then onArrayHeader st ks trail span else onStdHeader st ks trail span) = some st') :
    ∃ (st1 : CState) (pp : List CKey) (key : CKey) (root' : CTbl),
      finalizeTable st = some st1 ∧ Value.splitLast ks = some (pp, key) ∧
      (a = false → ∃ x, descend st1.root pp false (probeFn key) = some x) ∧
      descend st1.root pp false (if a then arrFn key else eraseFn key) = some root' ∧
      st' = { st1 with
        root := root', trailing := none, position := st1.position + 1,
        current := .mk (if a then st1.current else (findTable key.key st1.root pp).getD st1.current).items
          false false (some (st1.position + 1)) (Decor.new (takeTrailing st1.trailing) trail) (some span),
        currentIsArray := a, currentPath := ks } := by
  cases a with
  | false =>
    simp only [Bool.false_eq_true, if_false] at ho
    unfold onStdHeader at ho
    split at ho
    · rename_i st1 hfin
      obtain ⟨pp, key, root', hsl, hprobe, hroot, hst'⟩ := startTable_inv ho
      exact ⟨st1, pp, key, root', hfin, hsl, fun _ => hprobe, hroot, hst'⟩
    · cases ho
  | true =>
    simp only [if_true] at ho
    unfold onArrayHeader at ho
    split at ho
    · rename_i st1 hfin
      obtain ⟨pp, key, root', hsl, hroot, hst'⟩ := startArrayTable_inv ho
      exact ⟨st1, pp, key, root', hfin, hsl, (fun h => by cases h), hroot, hst'⟩
    · cases ho

theorem header_cases {n : Nat} {st st' : CState} {s r3 : Bytes} (h : ctableLine n st s = some (st', r3)) :
    ∃ (a : Bool) (r : Bytes) (ks : List CKey) (r2 : Bytes) (st1 : CState) (pp : List CKey) (key : CKey) (root' : CTbl),
      s = (if a then [0x5B, 0x5B] else [0x5B]) ++ r ∧
      ckeyPath n r = .ok ks ((if a then [0x5D, 0x5D] else [0x5D]) ++ r2) ∧ Value.lineTrailing r2 = .ok () r3 ∧
      finalizeTable st = some st1 ∧ Value.splitLast ks = some (pp, key) ∧
      (a = false → ∃ x, descend st1.root pp false (probeFn key) = some x) ∧
      descend st1.root pp false (if a then arrFn key else eraseFn key) = some root' ∧
      st' = { st1 with
        root := root', trailing := none, position := st1.position + 1,
        current := .mk (if a then st1.current else (findTable key.key st1.root pp).getD st1.current).items
          false false (some (st1.position + 1))
          (Decor.new (takeTrailing st1.trailing) (rawBetween n r2 (trailEnd r2))) (some (pos n s, pos n r2)),
        currentIsArray := a, currentPath := ks } := by
  obtain ⟨a, r, ks, r2, hsr, hk, hlt, ho⟩ := Tiling03Hdr.table_frame _ _ _ _ _ h
  obtain ⟨st1, pp, key, root', hfin, hsl, hprobe, hroot, hst'⟩ := onHeader_inv ho
  exact ⟨a, r, ks, r2, st1, pp, key, root', hsr, hk, hlt, hfin, hsl, hprobe, hroot, hst'⟩

end TomlVerif.Lemmas.CstState

namespace TomlVerif.Lemmas.Tiling03Hdr
open TomlVerif TomlVerif.Model TomlVerif.Model.Value TomlVerif.Model.Cst TomlVerif.Lemmas.Tiling03More
open TomlVerif.Lemmas.Tiling03

export TomlVerif.Lemmas.CstState (finArr finStd probeFn eraseFn arrFn)

@[simp] theorem setItems_items (t : CTbl) (i : List (CKey × CItem)) : (t.setItems i).items = i := by
  simp [CTbl.setItems, CTbl.items]

@[simp] theorem setItems_dotted (t : CTbl) (i : Items) : (t.setItems i).dotted = t.dotted := by
  simp [CTbl.setItems, CTbl.dotted]

@[simp] theorem setItems_implicit (t : CTbl) (i : Items) : (t.setItems i).implicit = t.implicit := by
  simp [CTbl.setItems, CTbl.implicit]

@[simp] theorem setItems_decor (t : CTbl) (i : Items) : (t.setItems i).decor = t.decor := by
  simp [CTbl.setItems, CTbl.decor]

theorem setItems_self (t : CTbl) : t.setItems t.items = t := by
  cases t; rfl

theorem descend_nil (t : CTbl) (d : Bool) (f : CTbl → Option CTbl) : descend t [] d f = f t := by
  unfold descend; rfl

theorem descend_cons_shape (t t' : CTbl) (k : CKey) (ks : List CKey) (d : Bool) (f : CTbl → Option CTbl)
    (h : descend t (k :: ks) d f = some t') :
    ∃ x, t' = t.setItems (cset k x t.items) ∧
      ((∃ sub sub', (clookup k.key t.items).getD (.table (newImplicit d)) = .table sub ∧
          descend sub ks d f = some sub' ∧ x = .table sub') ∨
       (∃ init l l' sp, (clookup k.key t.items).getD (.table (newImplicit d)) = .aot (init ++ [l]) sp ∧
          descend l ks d f = some l' ∧ x = .aot (init ++ [l']) sp)) := by
  unfold descend at h
  simp only [] at h
  split at h
  · cases h
  · rename_i ts sp hent
    split at h
    · cases h
    · split at h
      · rename_i ts' hm
        injection h with h
        obtain ⟨init, l, l', e1, e2, e3⟩ := Spans14.modifyLast_some hm
        subst e1; subst e3
        exact ⟨_, h.symm, Or.inr ⟨init, l, l', sp, hent, e2, rfl⟩⟩
      · cases h
  · rename_i sub hent
    split at h
    · cases h
    · split at h
      · rename_i sub' hd
        injection h with h
        exact ⟨_, h.symm, Or.inl ⟨sub, sub', hent, hd, rfl⟩⟩
      · cases h

/-- Induction over successful runs of `descend_path`: the callback at the end of the path; on the
    way a missing table is created (`fresh`), an existing table or the last element of an array of
    tables is replaced by its updated copy. -/
theorem descend_induction {d : Bool} {g : CTbl → Option CTbl} {P : CTbl → List CKey → CTbl → Prop}
    (leaf : ∀ t t', g t = some t' → P t [] t')
    (fresh : ∀ t k ks sub', clookup k.key t.items = none → descend (newImplicit d) ks d g = some sub' →
      P (newImplicit d) ks sub' →
      P t (k :: ks) (t.setItems (t.items ++ [(k, .table sub')])))
    (table : ∀ t k ks sub sub', clookup k.key t.items = some (.table sub) → descend sub ks d g = some sub' →
      P sub ks sub' →
      P t (k :: ks) (t.setItems (cset k (.table sub') t.items)))
    (aot : ∀ t k ks tsI l l' sp, clookup k.key t.items = some (.aot (tsI ++ [l]) sp) → descend l ks d g = some l' →
      P l ks l' →
      P t (k :: ks) (t.setItems (cset k (.aot (tsI ++ [l']) sp) t.items))) :
    ∀ (pp : List CKey) (t t' : CTbl), descend t pp d g = some t' → P t pp t'
  | [], t, t', h => leaf t t' (by rwa [descend_nil] at h)
  | k :: ks, t, t', h => by
    obtain ⟨x, rfl, hx⟩ := descend_cons_shape _ _ _ _ _ _ h
    cases hl : clookup k.key t.items with
    | none =>
      rw [hl] at hx
      rcases hx with ⟨sub, sub', e1, hd', rfl⟩ | ⟨_, _, _, _, e1, _⟩
      · cases e1
        rw [cset_none _ _ _ hl]
        exact fresh t k ks sub' hl hd' (descend_induction leaf fresh table aot ks _ _ hd')
      · cases e1
    | some y =>
      rw [hl] at hx
      rcases hx with ⟨sub, sub', e1, hd', rfl⟩ | ⟨tsI, l, l', sp, e1, hd', rfl⟩
      · cases e1
        exact table t k ks sub sub' hl hd' (descend_induction leaf fresh table aot ks _ _ hd')
      · cases e1
        exact aot t k ks tsI l l' sp hl hd' (descend_induction leaf fresh table aot ks _ _ hd')

theorem finalize_cases (st st1 : CState) (h : finalizeTable st = some st1) :
    (st.currentPath = [] ∧ st.root.items = [] ∧
      st1 = { st with root := st.current, current := CTbl.empty, currentPath := [] }) ∨
    (∃ pp key root', st.currentPath = pp ++ [key] ∧
      descend st.root pp false (if st.currentIsArray then finArr key st.current else finStd key st.current) = some root' ∧
      st1 = { st with root := root', current := CTbl.empty, currentPath := [] }) := by
  rcases CstState.finalizeTable_inv h with ⟨hp, hemp, e⟩ | ⟨pp, key, root', hp, hd, e⟩
  · exact Or.inl ⟨vsplitLast_none _ hp, by simpa using hemp, e⟩
  · exact Or.inr ⟨pp, key, root', vsplitLast_some _ _ _ hp, hd, e⟩

theorem kvCur_fields (st : CState) (v : CVal) :
    (kvCur st v).items = st.current.items ∧ (kvCur st v).dotted = st.current.dotted ∧
    (kvCur st v).implicit = st.current.implicit ∧ (kvCur st v).pos = st.current.pos ∧
    (kvCur st v).decor = st.current.decor := by
  unfold kvCur
  split <;> simp [CTbl.setSpan, CTbl.items, CTbl.dotted, CTbl.implicit, CTbl.pos, CTbl.decor]

theorem kvCur_mk (st : CState) (v : CVal) (items : Items) (imp dot : Bool) (p : Option Nat) (dec : Decor)
    (sp : Option Span) (h : st.current = .mk items imp dot p dec sp) :
    kvCur st v = .mk items imp dot p dec (kvCur st v).span := by
  obtain ⟨a1, a2, a3, a4, a5⟩ := kvCur_fields st v
  rw [h] at a1 a2 a3 a4 a5
  generalize kvCur st v = cur at *
  cases cur
  simp [CTbl.items, CTbl.dotted, CTbl.implicit, CTbl.pos, CTbl.decor, CTbl.span] at *
  exact ⟨a1, a3, a2, a4, a5⟩

theorem kvFn_facts (path : List CKey) (key' : CKey) (v : CVal) (p p' : CTbl) (h : kvFn path key' v p = some p') :
    p' = p.setItems (p.items ++ [(key', .value v)]) ∧ clookup key'.key p.items = none := by
  unfold kvFn at h
  split at h
  · cases h
  · split at h
    · cases h
    · rename_i hn; injection h with h; exact ⟨h.symm, hn⟩

theorem descend_nodup (t t' : CTbl) (path : List CKey) (d : Bool) (f : CTbl → Option CTbl)
    (hf : ∀ p p', f p = some p' → nodupK p.items = true → nodupK p'.items = true)
    (hn : nodupK t.items = true) (h : descend t path d f = some t') : nodupK t'.items = true := by
  cases path with
  | nil => rw [descend_nil] at h; exact hf _ _ h hn
  | cons k ks =>
    obtain ⟨x, e, _⟩ := descend_cons_shape _ _ _ _ _ _ h
    subst e
    rw [setItems_items]; exact nodupK_cset _ _ _ hn

theorem kvFn_nodup (path : List CKey) (key' : CKey) (v : CVal) (p p' : CTbl)
    (h : kvFn path key' v p = some p') (hn : nodupK p.items = true) : nodupK p'.items = true := by
  obtain ⟨e, hl⟩ := kvFn_facts _ _ _ _ _ h
  subst e
  rw [setItems_items]; exact nodupK_snoc _ _ _ hn hl

theorem finArr_nodup (key : CKey) (t p p' : CTbl) (h : finArr key t p = some p') (hn : nodupK p.items = true) :
    nodupK p'.items = true := by
  obtain ⟨_, _, _, rfl⟩ := CstState.finArr_some h
  rw [setItems_items]; exact nodupK_cset _ _ _ hn

theorem finStd_nodup (key : CKey) (t p p' : CTbl) (h : finStd key t p = some p') (hn : nodupK p.items = true) :
    nodupK p'.items = true := by
  rcases CstState.finStd_some h with ⟨_, _, _, rfl⟩ | ⟨hl, rfl⟩ <;> rw [setItems_items]
  · exact nodupK_creplace _ _ _ hn
  · exact nodupK_snoc _ _ _ hn hl

theorem eraseFn_nodup (key : CKey) (p p' : CTbl) (h : eraseFn key p = some p') (hn : nodupK p.items = true) :
    nodupK p'.items = true := by
  rw [CstState.eraseFn_some h, setItems_items]; exact nodupK_cerase _ _ hn

theorem arrFn_nodup (key : CKey) (p p' : CTbl) (h : arrFn key p = some p') (hn : nodupK p.items = true) :
    nodupK p'.items = true := by
  rcases CstState.arrFn_some h with ⟨_, _, _, rfl⟩ | ⟨hl, rfl⟩
  · exact hn
  · rw [setItems_items]; exact nodupK_snoc _ _ _ hn hl

theorem fin_nodup (b : Bool) (key : CKey) (t p p' : CTbl)
    (h : (if b then finArr key t else finStd key t) p = some p') (hn : nodupK p.items = true) :
    nodupK p'.items = true := by
  cases b
  · exact finStd_nodup key t p p' h hn
  · exact finArr_nodup key t p p' h hn

end TomlVerif.Lemmas.Tiling03Hdr

namespace TomlVerif.Lemmas.Tiling03Nest
open TomlVerif.Model.Cst TomlVerif.Lemmas.Tiling03Hdr

@[simp] theorem setItems_setItems (t : CTbl) (i j : Items) : (t.setItems i).setItems j = t.setItems j := by
  cases t; rfl

end TomlVerif.Lemmas.Tiling03Nest
