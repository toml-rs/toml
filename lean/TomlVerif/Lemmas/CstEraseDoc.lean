import TomlVerif.Lemmas.CstEraseValue
import TomlVerif.Lemmas.CstEraseState
import TomlVerif.Lemmas.Bytes
/-! The erasure, documents: the two line functions and the line loop, and with them
    `cst_erases_to_doc`: the format-preserving parser (`Cst.parseCst`) decodes exactly the tree of
    the semantic parser (`Doc.parseDocument`) and rejects the same texts. -/
namespace TomlVerif.Lemmas.Tiling03More
open TomlVerif TomlVerif.Spec TomlVerif.Model TomlVerif.Model.Strings TomlVerif.Model.Value
open TomlVerif.Model.Cst

def eraseStep (p : CState × Bytes) : State.ParseState × Bytes := (eraseState p.1, p.2)

theorem ckeyvalLine_erase (n : Nat) (st : CState) (s : Bytes) :
    (ckeyvalLine n st s).map eraseStep = Doc.keyvalLine (eraseState st) s := by
  unfold ckeyvalLine Doc.keyvalLine
  rw [← ckeyPath_erase n s]
  cases ckeyPath n s with
  | bt => rfl
  | cut => rfl
  | ok ks r =>
    simp only [map_ok, keysOf_length]
    by_cases hl : LIMIT ≤ ks.length - 1
    · simp only [hl, if_true]; rfl
    · simp only [hl, if_false]
      split
      · rename_i r1
        simp only []
        rw [← cvalue_erase n]
        cases cvalue n (3 * r1.length + 4) (ks.length - 1) (dropWs r1) with
        | bt => rfl
        | cut => rfl
        | ok v r2 =>
          simp only [map_ok]
          cases lineTrailing r2 with
          | bt => rfl
          | cut => rfl
          | ok u r3 =>
            simp only []
            rw [vsplitLast_keysOf]
            cases Value.splitLast ks with
            | none => rfl
            | some p =>
              obtain ⟨path, key⟩ := p
              simp only [Option.map_some]
              rw [← eraseVal_setDecor v (Decor.new (rawBetween n r1 (dropWs r1)) (rawBetween n r2 (trailEnd r2))),
                ← onKeyval_erase]
              cases onKeyval st path key _ with
              | none => rfl
              | some st' => rfl
      · rename_i hne
        split
        · rename_i r1; exact absurd rfl (hne r1)
        · rfl

theorem aotLine_erase (n : Nat) (st : CState) (s r : Bytes) :
    (match ckeyPath n r with
      | .ok ks r1 =>
        match r1 with
        | 0x5D :: 0x5D :: r2 =>
          match lineTrailing r2 with
          | .ok () r3 => (onArrayHeader st ks (rawBetween n r2 (trailEnd r2)) (pos n s, pos n r2)).map fun st' => (st', r3)
          | _ => none
        | _ => none
      | _ => none : Option (CState × Bytes)).map eraseStep =
    (match keyPath r with
      | .ok ks r1 =>
        match r1 with
        | 0x5D :: 0x5D :: r2 =>
          match lineTrailing r2 with
          | .ok () r3 => (State.onArrayHeader (eraseState st) ks).map fun st' => (st', r3)
          | _ => none
        | _ => none
      | _ => none) := by
  rw [← ckeyPath_erase n r]
  cases ckeyPath n r with
  | bt => rfl
  | cut => rfl
  | ok ks r1 =>
    simp only [map_ok]
    split
    · rename_i r2
      cases lineTrailing r2 with
      | bt => rfl
      | cut => rfl
      | ok u r3 =>
        simp only []
        rw [← onArrayHeader_erase st ks (rawBetween n r2 (trailEnd r2)) (pos n s, pos n r2)]
        cases onArrayHeader st ks _ _ with
        | none => rfl
        | some st' => rfl
    · rfl

theorem stdLine_erase (n : Nat) (st : CState) (s r : Bytes) :
    (match ckeyPath n r with
      | .ok ks r1 =>
        match r1 with
        | 0x5D :: r2 =>
          match lineTrailing r2 with
          | .ok () r3 => (onStdHeader st ks (rawBetween n r2 (trailEnd r2)) (pos n s, pos n r2)).map fun st' => (st', r3)
          | _ => none
        | _ => none
      | _ => none : Option (CState × Bytes)).map eraseStep =
    (match keyPath r with
      | .ok ks r1 =>
        match r1 with
        | 0x5D :: r2 =>
          match lineTrailing r2 with
          | .ok () r3 => (State.onStdHeader (eraseState st) ks).map fun st' => (st', r3)
          | _ => none
        | _ => none
      | _ => none) := by
  rw [← ckeyPath_erase n r]
  cases ckeyPath n r with
  | bt => rfl
  | cut => rfl
  | ok ks r1 =>
    simp only [map_ok]
    split
    · rename_i r2
      cases lineTrailing r2 with
      | bt => rfl
      | cut => rfl
      | ok u r3 =>
        simp only []
        rw [← onStdHeader_erase st ks (rawBetween n r2 (trailEnd r2)) (pos n s, pos n r2)]
        cases onStdHeader st ks _ _ with
        | none => rfl
        | some st' => rfl
    · rfl

theorem ctableLine_erase (n : Nat) (st : CState) (s : Bytes) :
    (ctableLine n st s).map eraseStep = Doc.tableLine (eraseState st) s := by
  conv => rhs; unfold Doc.tableLine
  split
  · rename_i r
    unfold ctableLine
    exact aotLine_erase n st _ r
  · rename_i r hne
    unfold ctableLine
    split
    · rename_i r' heq
      injection heq with _ h2
      exact absurd h2 (hne r')
    · rename_i r' hne' heq
      injection heq with _ h2
      subst h2
      cases r with
      | nil => rfl
      | cons c t =>
        simp only [List.isEmpty_cons, Bool.false_eq_true, if_false]
        exact stdLine_erase n st _ (c :: t)
    · rename_i h1 h2
      exact absurd rfl (h2 r)
  · rename_i h1 h2
    unfold ctableLine
    split
    · rename_i r; exact absurd rfl (h1 r)
    · rename_i r _; exact absurd rfl (h2 r)
    · rfl

theorem parseWs_fst_erase (n : Nat) (st : CState) (s : Bytes) :
    eraseState (parseWs n st s).1 = eraseState st := by
  unfold parseWs
  exact onWs_erase _ _ _

theorem parseWs_snd (n : Nat) (st : CState) (s : Bytes) : (parseWs n st s).2 = dropWs s := rfl

theorem clines_erase (n : Nat) : ∀ (fuel : Nat) (st : CState) (s : Bytes),
    (clines n fuel st s).map eraseState = Doc.lines fuel (eraseState st) s := by
  intro fuel
  induction fuel with
  | zero => intro st s; rfl
  | succ fuel ih =>
    intro st s
    unfold clines Doc.lines
    cases s with
    | nil => rfl
    | cons b r =>
      simp only []
      by_cases h1 : (b == 0x23) = true
      · simp only [h1, if_true]
        generalize dropComment r = r1
        cases r1 with
        | nil =>
          simp only [Option.map_some, parseWs_fst_erase, onWs_erase]
        | cons c t =>
          simp only []
          cases newline? (c :: t) with
          | none => rfl
          | some r2 =>
            simp only []
            rw [ih, parseWs_fst_erase, onWs_erase, parseWs_snd]
      · simp only [h1, Bool.false_eq_true, if_false]
        by_cases h2 : (b == 0x5B) = true
        · simp only [h2, if_true]
          rw [← ctableLine_erase n]
          cases ctableLine n st (b :: r) with
          | none => rfl
          | some p =>
            obtain ⟨st', r1⟩ := p
            simp only [Option.map_some, eraseStep]
            rw [ih, parseWs_fst_erase, parseWs_snd]
        · simp only [h2, Bool.false_eq_true, if_false]
          by_cases h3 : (b == 0x0A || b == 0x0D) = true
          · simp only [h3, if_true]
            cases newline? (b :: r) with
            | none => rfl
            | some r1 =>
              simp only []
              rw [ih, parseWs_fst_erase, onWs_erase, parseWs_snd]
          · simp only [h3, Bool.false_eq_true, if_false]
            rw [← ckeyvalLine_erase n]
            cases ckeyvalLine n st (b :: r) with
            | none => rfl
            | some p =>
              obtain ⟨st', r1⟩ := p
              simp only [Option.map_some, eraseStep]
              rw [ih, parseWs_fst_erase, parseWs_snd]

theorem eraseState_init : eraseState {} = {} := by
  simp [eraseState, eraseTbl, eraseItems, Tbl.empty, CTbl.empty]

theorem cst_erases_to_doc (s : Bytes) :
    (Cst.parseCst s).map (fun d => Cst.eraseTbl d.root) = Doc.parseDocument s := by
  unfold Cst.parseCst Doc.parseDocument
  simp only []
  rw [parseWs_snd, ← eraseState_init, ← parseWs_fst_erase s.length {} (Doc.stripBom s), ← clines_erase]
  cases clines s.length ((dropWs (Doc.stripBom s)).length + 1) (parseWs s.length {} (Doc.stripBom s)).1
      (dropWs (Doc.stripBom s)) with
  | none => rfl
  | some st => exact intoDocument_erase st

theorem cstSlice_erases_to_doc (b : Bytes) :
    (Cst.parseCstSlice b).map (fun d => Cst.eraseTbl d.root) = Doc.parseSlice b := by
  unfold Cst.parseCstSlice Doc.parseSlice
  split
  · exact cst_erases_to_doc b
  · rfl

/-- non-vacuity: a document with a dotted key, a header, an inline table holding an array, and an
    array of tables is accepted by both parsers -/
example : (Doc.parseDocument (strBytes "a.b = 1\n[t]\nx = {y = [1, 2]}\n[[u]]\n")).isSome = true := by
  rw [strBytes_eq rfl]
  decide +kernel
example : (Cst.parseCst (strBytes "a.b = 1\n[t]\nx = {y = [1, 2]}\n[[u]]\n")).isSome = true := by
  rw [strBytes_eq rfl]
  decide +kernel

#print axioms cst_erases_to_doc

end TomlVerif.Lemmas.Tiling03More
