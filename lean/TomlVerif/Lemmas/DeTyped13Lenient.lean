import TomlVerif.Lemmas.DeTyped13
/-! For Props/C13Typed: with the three switches off, `decodeEdit` on a parsed tree and `decodeValue` on
    its data in document order are the same function (`lenient_all`).
    `decodeValue` is first stated through the accessors of a `toml::Value`, so that its branches are those of
    `decodeEdit`. -/
namespace TomlVerif.Lemmas.DeTyped13
open TomlVerif TomlVerif.Model TomlVerif.Model.TomlValue TomlVerif.Model.DeRoutes
open TomlVerif.Model.DeText (presOfItem presOfVal presOfTbl presOfVals presOfValPairs presOfTbls presOfItems)
open TomlVerif.Model.DeTyped TomlVerif.Lemmas.DeRoutes13

theorem edit_dt_eq (ty : Ty) (it : Item) :
    (match it with
     | .value (.dt d) => datetimeTarget ty (dtMap d)
     | _ => datetimeTarget ty (presOfItem it)) = datetimeTarget ty (presOfItem it) := by
  cases it with
  | value v => cases v <;> simp [presOfItem, presOfVal]
  | table t | aot ts => rfl

theorem value_dt_lenient {α} (v : TV) (x y : α) :
    (match v with
     | .tbl es => if (valueLenient.trailingCheck && decide (es.length > 1)) = true then y else x
     | _ => x) = x := by
  cases v <;> simp [valueLenient]

theorem plain_strItem (s : Bytes) : plainItem (strItem s) = .str s := rfl

theorem view_elems {it : Item} {l : List Item} (h : kindOf it = .elems l) :
    itemElems it = some l ∧ itemEntries it = none ∧ editMapEntries it = none ∧
      (∀ s, it ≠ .value (.str s)) ∧ (∀ d, it ≠ .value (.dt d)) ∧ plainItem it = .arr (l.map plainItem) := by
  have := item_view it; rw [h] at this; exact this
theorem view_entries {it : Item} {es : List (Bytes × Item)} (h : kindOf it = .entries es) :
    itemElems it = none ∧ itemEntries it = some es ∧
      editMapEntries it = some (es.map fun kv => (kv.1, ESrc.item kv.2)) ∧
      (∀ s, it ≠ .value (.str s)) ∧ (∀ d, it ≠ .value (.dt d)) ∧ plainItem it = .tbl (pairsTV es) := by
  have := item_view it; rw [h] at this; exact this

theorem pairsTV_keys (es : List (Bytes × Item)) : (pairsTV es).map Prod.fst = es.map Prod.fst := by
  simp [pairsTV]

theorem pairsTV_length (es : List (Bytes × Item)) : (pairsTV es).length = es.length := by
  simp [pairsTV]

theorem pairsTV_snd (es : List (Bytes × Item)) : (pairsTV es).map Prod.snd = (es.map Prod.snd).map plainItem := by
  simp [pairsTV]

theorem srcKeys (es : List (Bytes × Item)) :
    (es.map fun kv => (kv.1, ESrc.item kv.2)).map Prod.fst = es.map Prod.fst := by
  simp

theorem lenient_check : valueLenient.trailingCheck = false := rfl
theorem lenient_validate : editLenient.validateVariantKeys = false := rfl
theorem lenient_strde : editLenient.dtValueViaSerdeString = false := rfl

theorem decodeValue_seq (c : ValueCfg) (fl : Flavour) (t : Ty) (v : TV) :
    decodeValue c fl (.seq t) v =
      match tvElems v with
      | some l => rmap .seq (mapE (decodeValue c fl t) l)
      | none => fail := by
  unfold decodeValue; cases v <;> rfl

theorem decodeValue_tuple (c : ValueCfg) (fl : Flavour) (ts : Tys) (v : TV) :
    decodeValue c fl (.tuple ts) v =
      match tvElems v with
      | some l => if c.trailingCheck && l.length > ts.length then fail else rmap .tuple (decodeValueTys c fl ts l)
      | none => fail := by
  unfold decodeValue; cases v <;> rfl

theorem decodeValue_struct (c : ValueCfg) (fl : Flavour) (fs : Fields) (v : TV) :
    decodeValue c fl (.struct fs) v =
      match valueMapEntries v with
      | some es => if dupField fs (es.map Prod.fst) then fail else rmap .struct (decodeValueFields c fl fs es)
      | none =>
        match tvElems v with
        | some l => if c.trailingCheck && l.length > fs.length then fail else rmap .struct (decodeValueFieldsSeq c fl fs l)
        | none => fail := by
  unfold decodeValue; cases v <;> rfl

theorem decodeValueShape_unit (c : ValueCfg) (fl : Flavour) (n : Bytes) (p : TV) :
    decodeValueShape c fl .unit n p =
      match tvElems p with
      | some l => if l.isEmpty then .ok (.vUnit n) else fail
      | none =>
        match tvEntries p with
        | some es => if es.isEmpty then .ok (.vUnit n) else fail
        | none => fail := by
  unfold decodeValueShape; cases p <;> rfl

theorem decodeValueShape_tuple (c : ValueCfg) (fl : Flavour) (ts : Tys) (n : Bytes) (p : TV) :
    decodeValueShape c fl (.tuple ts) n p =
      match tvElems p with
      | some l => if l.length == ts.length then rmap (.vTuple n) (decodeValueTys c fl ts l) else fail
      | none =>
        match tvEntries p with
        | some es =>
          if indexKeys 0 es && es.length == ts.length then rmap (.vTuple n) (decodeValueTys c fl ts (es.map Prod.snd))
          else fail
        | none => fail := by
  unfold decodeValueShape; cases p <;> rfl

theorem scalar_eq (ty : Ty) (it : Item) :
    visitScalar ty (presOfItem it) = visitScalar ty (presValue currentDtAsMap (plainItem it)) := by
  rw [presOfItem_presValue]

/-- the three date-time targets: both routes hand the item's presentation to `datetimeTarget`; the check for
    trailing entries is off in the lenient configuration -/
theorem lenient_dtTarget (fl : Flavour) (ty : Ty) (hty : ty = .datetime ∨ ty = .date ∨ ty = .time) (it : Item) :
    decodeEdit editLenient fl ty it = decodeValue valueLenient fl ty (plainItem it) := by
  rcases hty with rfl | rfl | rfl
  all_goals
    unfold decodeEdit decodeValue
    rw [← presOfItem_presValue]
    cases it with
    | value v => cases v <;> rfl
    | table t => cases t; rfl
    | aot l => rfl

theorem lenient_all (fl : Flavour) :
    (∀ ty it, decodeEdit editLenient fl ty it = decodeValue valueLenient fl ty (plainItem it)) ∧
    (∀ ts l, decodeEditTys editLenient fl ts l = decodeValueTys valueLenient fl ts (l.map plainItem)) ∧
    (∀ fs, (∀ es : List (Bytes × ESrc), decodeEditFields editLenient fl fs es =
        decodeValueFields valueLenient fl fs (es.map fun kv => (kv.1, srcTV kv.2))) ∧
      ∀ l, decodeEditFieldsSeq editLenient fl fs l = decodeValueFieldsSeq valueLenient fl fs (l.map plainItem)) ∧
    (∀ s n p, decodeEditShape editLenient fl s n p = decodeValueShape valueLenient fl s n (plainItem p)) ∧
    (∀ vs k p, decodeEditVariants editLenient fl vs k p = decodeValueVariants valueLenient fl vs k (plainItem p)) := by
  -- the struct target, before the induction: the cases `struct` and `sstruct` (a struct variant) both rest on it
  have struct : ∀ fs, ((∀ es : List (Bytes × ESrc), decodeEditFields editLenient fl fs es =
        decodeValueFields valueLenient fl fs (es.map fun kv => (kv.1, srcTV kv.2))) ∧
      ∀ l, decodeEditFieldsSeq editLenient fl fs l = decodeValueFieldsSeq valueLenient fl fs (l.map plainItem)) →
      ∀ it, decodeEdit editLenient fl (.struct fs) it = decodeValue valueLenient fl (.struct fs) (plainItem it) := by
    intro fs ih it
    rw [decodeValue_struct, valueMapEntries_plain, tvElems_plain]; unfold decodeEdit
    cases editMapEntries it with
    | some es => simp only [Option.map_some, List.map_map, Function.comp_def, ih.1 es]
    | none =>
      cases itemElems it with
      | none => rfl
      | some l =>
        simp only [Option.map_some, Option.map_none, lenient_check, Bool.false_and, Bool.false_eq_true, if_false, ih.2 l]
  apply ty_induct
  case bool | int | f64 | f32 | string | char | unit => intros; unfold decodeEdit decodeValue; rw [scalar_eq]
  case datetime => exact lenient_dtTarget fl _ (.inl rfl)
  case date => exact lenient_dtTarget fl _ (.inr (.inl rfl))
  case time => exact lenient_dtTarget fl _ (.inr (.inr rfl))
  case value => intro it; unfold decodeEdit decodeValue; rw [presOfItem_presValue]; rfl
  case ignored => intro it; unfold decodeEdit decodeValue; rfl
  case option | newtype => intro t ih it; unfold decodeEdit decodeValue; rw [ih it]
  case seq =>
    intro t ih it
    rw [decodeValue_seq, tvElems_plain]; unfold decodeEdit
    cases itemElems it with
    | none => rfl
    | some l => simp only [Option.map_some, mapE_congr _ _ plainItem l fun a _ => ih a]
  case tuple =>
    intro ts ih it
    rw [decodeValue_tuple, tvElems_plain]; unfold decodeEdit
    cases itemElems it with
    | none => rfl
    | some l => simp only [Option.map_some, lenient_check, Bool.false_and, Bool.false_eq_true, if_false, ih l]
  case map =>
    intro t ih it
    unfold decodeEdit decodeValue
    rw [valueMapEntries_plain]
    cases editMapEntries it with
    | none => rfl
    | some es =>
      simp only [Option.map_some]
      refine congrArg _ (mapE_congr _ _ (fun kv : Bytes × ESrc => (kv.1, srcTV kv.2)) es fun kv _ => ?_)
      -- with the switch off a date-time's text is read as a string item, whose data is that string
      obtain ⟨k, s⟩ := kv
      cases s with
      | item i => simp only [srcTV, ih i]
      | str x => simp only [srcTV, lenient_strde, Bool.false_eq_true, if_false, ih (strItem x), plain_strItem]
  case struct => exact struct
  case enum =>
    intro vs ih it
    unfold decodeEdit decodeValue
    cases it with
    | value v =>
      cases v with
      | str s => simp [plainItem, plainVal]
      | int n | float b | bool b | dt d | arr l => simp [plainItem, plainVal, itemEntries]
      | inl items a b =>
        match items with
        | [] => simp [plainItem, plainVal, plainValPairs, itemEntries]
        | [(k, v)] =>
          simp only [plainItem, plainVal, plainValPairs, itemEntries, List.map_cons, List.map_nil]
          exact ih k (.value v)
        | _ :: _ :: _ => simp [plainItem, plainVal, plainValPairs, itemEntries]
    | table t =>
      obtain ⟨items, a, b, c⟩ := t
      match items with
      | [] => simp [plainItem, plainTbl, plainItems, itemEntries, Tbl.items]
      | [(k, i)] =>
        simp only [plainItem, plainTbl, plainItems, itemEntries, Tbl.items]
        exact ih k i
      | _ :: _ :: _ => simp [plainItem, plainTbl, plainItems, itemEntries, Tbl.items]
    | aot ts => simp [plainItem, itemEntries]
  case tnil => intro l; rw [decodeEditTys, decodeValueTys]
  case tcons =>
    intro t r ih ihr l
    cases l with
    | nil => rw [decodeEditTys, List.map_nil, decodeValueTys]
    | cons i l => rw [decodeEditTys, List.map_cons, decodeValueTys, ih i, ihr l]
  case fnil =>
    exact ⟨fun es => by rw [decodeEditFields, decodeValueFields], fun l => by rw [decodeEditFieldsSeq, decodeValueFieldsSeq]⟩
  case fcons =>
    intro name t dflt r ih ihr
    refine ⟨fun es => ?_, fun l => ?_⟩
    · rw [decodeEditFields, decodeValueFields, ihr.1 es, alookup_map srcTV]
      cases h : alookup name es with
      | none => rfl
      | some s =>
        cases s with
        | item i => simp only [Option.map_some, srcTV, ih i]
        | str x => simp only [Option.map_some, srcTV, lenient_strde, Bool.false_eq_true, if_false, ih (strItem x), plain_strItem]
    · cases l with
      | nil =>
        have := ihr.2 []
        rw [List.map_nil] at this
        rw [decodeEditFieldsSeq, List.map_nil, decodeValueFieldsSeq, this]
      | cons i l => rw [decodeEditFieldsSeq, List.map_cons, decodeValueFieldsSeq, ih i, ihr.2 l]
  case sunit =>
    intro n p
    rw [decodeValueShape_unit, tvElems_plain, tvEntries_plain]; unfold decodeEditShape
    cases itemElems p with
    | some l => simp
    | none =>
      cases itemEntries p with
      | some es => simp [pairsTV]
      | none => rfl
  case snewtype => intro t ih n p; unfold decodeEditShape decodeValueShape; rw [ih p]
  case stuple =>
    intro ts ih n p
    rw [decodeValueShape_tuple, tvElems_plain, tvEntries_plain]; unfold decodeEditShape
    cases itemElems p with
    | some l => simp [ih l]
    | none =>
      cases itemEntries p with
      | some es =>
        simp only [Option.map_some, Option.map_none, pairsTV_length, pairsTV_snd, ih (es.map Prod.snd)]
        rw [pairsTV, indexKeys_map]
      | none => rfl
  case sstruct =>
    intro fs ih n p
    rw [decodeEditShape_struct, decodeValueShape_struct, struct fs ih p]
    simp only [lenient_validate, Bool.false_and, Bool.false_eq_true, if_false]
  case vnil => intro k p; rw [decodeEditVariants, decodeValueVariants]
  case vcons => intro name s r ih ihr k p; rw [decodeEditVariants, decodeValueVariants, ih name p, ihr k p]

theorem lenient_tys (fl : Flavour) : ∀ (ts : Tys) (l : List Item),
    decodeEditTys editLenient fl ts l = decodeValueTys valueLenient fl ts (l.map plainItem) :=
  (lenient_all fl).2.1
theorem lenient_fields (fl : Flavour) : ∀ (fs : Fields) (es : List (Bytes × Item)),
    decodeEditFields editLenient fl fs (es.map fun kv => (kv.1, ESrc.item kv.2)) =
      decodeValueFields valueLenient fl fs (pairsTV es) := fun fs es => by
  rw [((lenient_all fl).2.2.1 fs).1, List.map_map]; rfl
theorem lenient_fields_dt (fl : Flavour) : ∀ (fs : Fields) (s : Bytes),
    decodeEditFields editLenient fl fs [(FIELD, ESrc.str s)] =
      decodeValueFields valueLenient fl fs [(FIELD, TV.str s)] := fun fs s =>
  ((lenient_all fl).2.2.1 fs).1 [(FIELD, ESrc.str s)]
theorem lenient_fields_seq (fl : Flavour) : ∀ (fs : Fields) (l : List Item),
    decodeEditFieldsSeq editLenient fl fs l = decodeValueFieldsSeq valueLenient fl fs (l.map plainItem) := fun fs =>
  ((lenient_all fl).2.2.1 fs).2
theorem lenient_variants (fl : Flavour) : ∀ (vs : Variants) (k : Bytes) (p : Item),
    decodeEditVariants editLenient fl vs k p = decodeValueVariants valueLenient fl vs k (plainItem p) :=
  (lenient_all fl).2.2.2.2
theorem lenient_shape (fl : Flavour) : ∀ (s : Shape) (n : Bytes) (p : Item),
    decodeEditShape editLenient fl s n p = decodeValueShape valueLenient fl s n (plainItem p) :=
  (lenient_all fl).2.2.2.1

end TomlVerif.Lemmas.DeTyped13
