import TomlVerif.Lemmas.Same03Line
import TomlVerif.Lemmas.Tiling03MoreOrdEx
/-! C03, same data — the decidable hypotheses of the same-data lemmas (`Lemmas/Same03*.lean`) for
    the class `adjRun` of `Lemmas/Tiling03MoreSemDefs.lean` on a concrete input (non-vacuity). -/
namespace TomlVerif.Lemmas.Tiling03More
open TomlVerif TomlVerif.Spec TomlVerif.Model TomlVerif.Model.Strings TomlVerif.Model.Value
open TomlVerif.Model.Cst TomlVerif.Model.Encode TomlVerif.Lemmas.Tiling03Nest

/-- `[a]`, `[c]`, a respelled sub-table header of `a`, two dotted keys with a respelled prefix -/
def exA : Bytes := strBytes "[a]\n[c]\n[ a .b]\nk . x = 1\r\nk.y = {p.q = 1, r = 2, p.s = 3}\n"

/-- the state after the third header line and the first key/value line, and the rest -/
def after4 (s : Bytes) : Option (CState × Bytes) :=
  (after2 s).bind fun p => (ctableLine s.length p.1 p.2).bind fun q =>
    (ckeyvalLine s.length (parseWs s.length q.1 q.2).1 (parseWs s.length q.1 q.2).2).map fun u =>
      ((parseWs s.length u.1 u.2).1, (parseWs s.length u.1 u.2).2)

/-- `hdrLineOkWith_use`, `start_spineT2`, `fin_spineT2`, `header_step_T2`, `hdr_line_q`: the third header
    on the state it meets passes the structural check and fails the spelling check -/
example : ((after2 exA).map fun p => hdrLineOkA exA p.1 p.2) = some true ∧
    ((after2 exA).map fun p => hdrLineOkO exA p.1 p.2) = some false ∧
    ((after2 exA).map fun p => (ctableLine exA.length p.1 p.2).isSome) = some true := by decide +kernel

/-- `kvLineOkA_use`, `kv_descendN`, `kv_line_q`, `keyval_step_G2`: the second key/value line (its
    prefix `k` respelled, its value with non-adjacent dotted keys) passes the structural check and
    fails the checks of `ordRunV`; the line is accepted -/
example : ((after4 exA).map fun p => kvLineOkA exA p.1 p.2) = some true ∧
    ((after4 exA).map fun p => kvLineOkV exA p.1 p.2) = some false ∧
    ((after4 exA).map fun p => (ckeyvalLine exA.length p.1 p.2).isSome) = some true := by decide +kernel

/-- `clines_ginv2`, `same_data_adj`, `ordRunV_A`: the whole run -/
example : adjRun exA = true ∧ ordRunV exA = false ∧ (parseCst exA).isSome = true ∧
    ordRunV (strBytes "[a]\n[c]\n[a.b]\n") = true ∧ adjRun (strBytes "[a]\n[c]\n[a.b]\n") = true := by decide +kernel

end TomlVerif.Lemmas.Tiling03More
