import TomlVerif.Spec.AstDoc
/-! Dotted keys over abstract key segments (`KeySeg`, `Spec/AstDoc.lean`: any token `simple_key` reads back):
    `keyPath` reads a rendered dotted key back exactly.  The keys of the grammar (`QDKey`) are an instance
    (`toKeyPath`, `Lemmas/ValueComplete01.lean`); the bare keys of `Spec/AstValue.lean` (`DKey`) are `QDKey`s by `ofDKey`. -/
namespace TomlVerif.Lemmas.Doc01
open TomlVerif TomlVerif.Spec TomlVerif.Model TomlVerif.Model.Strings TomlVerif.Model.Value
open TomlVerif.Spec.AstValue TomlVerif.Spec.AstDoc TomlVerif.Lemmas.Value01

theorem simpleKey_head (s k r : Bytes) (h : Key.simpleKey s = .ok k r) :
    ∃ b t, s = b :: t ∧ (b = 0x22 ∨ b = 0x27 ∨ isUnquotedChar b = true) := by
  cases s with
  | nil => simp [Key.simpleKey] at h
  | cons b t =>
    refine ⟨b, t, rfl, ?_⟩
    by_cases h1 : b = 0x22
    · exact Or.inl h1
    by_cases h2 : b = 0x27
    · exact Or.inr (Or.inl h2)
    refine Or.inr (Or.inr ?_)
    cases hu : isUnquotedChar b with
    | true => rfl
    | false =>
      simp [Key.simpleKey, h1, h2, Key.unquotedKey, Key.takeUnquoted, hu] at h

theorem keyhead_facts (b : UInt8) (h : b = 0x22 ∨ b = 0x27 ∨ isUnquotedChar b = true) :
    isWschar b = false ∧ b ≠ 0x23 ∧ b ≠ 0x5B ∧ b ≠ 0x0A ∧ b ≠ 0x0D ∧ b ≠ 0xEF := by
  rcases h with rfl | rfl | h
  · decide
  · decide
  · exact ⟨unquoted_not_ws b h, ne_of_class h (by decide), ne_of_class h (by decide), ne_of_class h (by decide),
      ne_of_class h (by decide), ne_of_class h (by decide)⟩

theorem seg_tok_head (k : KeySeg) (hk : KeySegOK k) :
    ∃ b t, k.tok = b :: t ∧ (b = 0x22 ∨ b = 0x27 ∨ isUnquotedChar b = true) := by
  have h := hk.2.2 [] (by intro x r h; cases h)
  rw [List.append_nil] at h
  exact simpleKey_head _ _ _ h

theorem dropWs_seg (k : KeySeg) (hk : KeySegOK k) (Z : Bytes) :
    dropWs (k.render ++ Z) = k.tok ++ (k.post ++ Z) := by
  obtain ⟨b, t, ht, hb⟩ := seg_tok_head k hk
  simp only [KeySeg.render, List.append_assoc]
  rw [dropWs_allws _ _ hk.1, ht]
  exact dropWs_head _ _ (keyhead_facts b hb).1

theorem seg_component (k : KeySeg) (hk : KeySegOK k) (Z : Bytes)
    (hZ : ∀ x r, Z = x :: r → isUnquotedChar x = false ∧ isWschar x = false) :
    Key.simpleKey (dropWs (k.render ++ Z)) = .ok k.name (k.post ++ Z) ∧ dropWs (k.post ++ Z) = Z := by
  have hf : KeyFollow (k.post ++ Z) := by
    intro x r he
    cases hp : k.post with
    | nil => rw [hp] at he; exact (hZ x r he).1
    | cons y t =>
      rw [hp] at he
      simp at he
      rw [← he.1]
      exact ws_not_unquoted y (hk.2.1 y (by simp [hp]))
  refine ⟨by rw [dropWs_seg k hk]; exact hk.2.2 _ hf, ?_⟩
  rw [dropWs_allws _ _ hk.2.1]
  cases Z with
  | nil => rfl
  | cons x r => exact dropWs_head _ _ (hZ x r rfl).2

theorem keyPathAux_path : ∀ (more : List KeySeg) (k : KeySeg) (acc : List Bytes) (fuel : Nat) (Y : Bytes),
    KeySegOK k → (∀ x ∈ more, KeySegOK x) → more.length < fuel → PathFollow Y →
    keyPathAux fuel (k.render ++ (renderSep more ++ Y)) acc =
      .ok (acc ++ k.name :: more.map KeySeg.name) Y := by
  intro more
  induction more with
  | nil =>
    intro k acc fuel Y hk _ hf hY
    obtain ⟨f, rfl⟩ : ∃ f, fuel = f + 1 := ⟨fuel - 1, by omega⟩
    obtain ⟨e1, e2⟩ := seg_component k hk Y (fun x r h => ⟨(hY x r h).1, (hY x r h).2.1⟩)
    conv => lhs; unfold keyPathAux
    simp only [renderSep, List.nil_append, e1, e2]
    cases Y with
    | nil => simp
    | cons x r =>
      have := (hY x r rfl).2.2
      split
      · rename_i r2 heq
        injection heq with h1 _
        exact absurd h1 this
      · simp
  | cons k' ms ih =>
    intro k acc fuel Y hk hm hf hY
    obtain ⟨f, rfl⟩ : ∃ f, fuel = f + 1 := ⟨fuel - 1, by omega⟩
    simp only [List.length_cons] at hf
    obtain ⟨e1, e2⟩ := seg_component k hk (0x2E :: (k'.render ++ (renderSep ms ++ Y)))
      (by intro x r h; injection h with h _; subst h; decide)
    have h := ih k' (acc ++ [k.name]) f Y (hm k' (by simp)) (fun x hx => hm x (by simp [hx])) (by omega) hY
    conv => lhs; unfold keyPathAux
    simp only [renderSep, List.cons_append, List.append_assoc, e1, e2, h]
    simp

theorem renderSep_length (more : List KeySeg) : more.length ≤ (renderSep more).length := by
  induction more with
  | nil => simp [renderSep]
  | cons k ms ih => simp [renderSep]; omega

theorem keyPath_path (p : KeyPath) (Y : Bytes) (hp : p.OK) (hY : PathFollow Y) :
    keyPath (p.render ++ Y) = .ok p.names Y := by
  obtain ⟨h1, h2, h3⟩ := hp
  have hl := renderSep_length p.more
  have h := keyPathAux_path p.more p.first [] ((p.render ++ Y).length + 1) Y h1 h2
    (by simp [KeyPath.render]; omega) hY
  unfold keyPath
  simp only [KeyPath.render, List.append_assoc] at h ⊢
  rw [h]
  have : ¬ LIMIT ≤ (p.first.name :: p.more.map KeySeg.name).length := by simp; omega
  simp only [List.nil_append, this, if_false, KeyPath.names]

theorem pathFollow_eq (r : Bytes) : PathFollow (0x3D :: r) := by
  intro x t h; injection h with h _; subst h; decide

theorem pathFollow_close (r : Bytes) : PathFollow (0x5D :: r) := by
  intro x t h; injection h with h _; subst h; decide

theorem path_head (p : KeyPath) (hp : p.OK) (Z : Bytes) :
    ∃ b t, p.render ++ Z = b :: t ∧ (isWschar b = true ∨ b = 0x22 ∨ b = 0x27 ∨ isUnquotedChar b = true) := by
  obtain ⟨b, t, ht, hb⟩ := seg_tok_head p.first hp.1
  cases hpre : p.first.pre with
  | nil =>
    refine ⟨b, t ++ (p.first.post ++ (renderSep p.more ++ Z)), ?_, Or.inr hb⟩
    simp [KeyPath.render, KeySeg.render, hpre, ht]
  | cons x r =>
    refine ⟨x, r ++ (p.first.tok ++ (p.first.post ++ (renderSep p.more ++ Z))), ?_, Or.inl (hp.1.1 x (by simp [hpre]))⟩
    simp [KeyPath.render, KeySeg.render, hpre]

theorem pathhead_facts (b : UInt8) (h : isWschar b = true ∨ b = 0x22 ∨ b = 0x27 ∨ isUnquotedChar b = true) :
    b ≠ 0x5B ∧ b ≠ 0xEF := by
  rcases h with h | rfl | rfl | h
  · exact ⟨ne_of_class h (by decide), ne_of_class h (by decide)⟩
  · decide
  · decide
  · exact ⟨ne_of_class h (by decide), ne_of_class h (by decide)⟩

end TomlVerif.Lemmas.Doc01
