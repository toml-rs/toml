import TomlVerif.Lemmas.Consumed
/-! Nesting depth of decoded values and the recursion limit (C05): `value` started at depth `d < LIMIT` returns a value
    `v` with `d + nest v < LIMIT` (`depthInv`, an instance of `parse_induction`), and the two witness families
    that show the bound is sharp: `n + 1` nested arrays (`nestedArr`) and `n + 1` nested inline tables (`nestedInl`,
    `inlText`) are accepted below the limit and refused with a committed error from it on. -/
namespace TomlVerif.Lemmas.Depth05
open TomlVerif TomlVerif.Spec TomlVerif.Model TomlVerif.Model.Strings TomlVerif.Model.Value
open TomlVerif.Lemmas.ValueParse

mutual
/-- nesting depth of a value: 0 for scalars, one more than the deepest child for arrays and inline tables -/
def nest : Val → Nat
  | .arr items => 1 + nestList items
  | .inl items _ _ => 1 + nestPairs items
  | .str _ => 0
  | .int _ => 0
  | .float _ => 0
  | .bool _ => 0
  | .dt _ => 0
def nestList : List Val → Nat
  | [] => 0
  | v :: r => max (nest v) (nestList r)
def nestPairs : List (Bytes × Val) → Nat
  | [] => 0
  | (_, v) :: r => max (nest v) (nestPairs r)
end

example : nest (.arr [.arr [], .inl [([1], .arr [.int 3])] false false]) = 3 := by decide

theorem nestPairs_append (a b : List (Bytes × Val)) : nestPairs (a ++ b) = max (nestPairs a) (nestPairs b) := by
  induction a with
  | nil => simp [nestPairs]
  | cons x a ih => obtain ⟨k, v⟩ := x; simp [nestPairs, ih, Nat.max_assoc]

theorem nest_le_of_alookup (k : Bytes) (v : Val) : ∀ items : List (Bytes × Val),
    alookup k items = some v → nest v ≤ nestPairs items := by
  intro items
  induction items with
  | nil => intro h; simp [alookup] at h
  | cons x items ih =>
    obtain ⟨k', v'⟩ := x
    intro h
    unfold alookup at h
    split at h
    · simp at h; subst h; simp [nestPairs]; omega
    · have := ih h; simp [nestPairs]; omega

theorem nestPairs_areplace (k : Bytes) (v : Val) (B : Nat) : ∀ items : List (Bytes × Val),
    nestPairs items ≤ B → nest v ≤ B → nestPairs (areplace k v items) ≤ B := by
  intro items
  induction items with
  | nil => intro h _; simpa [areplace] using h
  | cons x items ih =>
    obtain ⟨k', v'⟩ := x
    intro h hv
    unfold areplace
    simp only [nestPairs] at h
    split
    · simp only [nestPairs]; omega
    · have := ih (by omega) hv
      simp only [nestPairs]; omega

theorem nestPairs_inlInsert (path : List Bytes) (items : List (Bytes × Val)) (td pe : Bool) (key : Bytes)
    (v : Val) (items' : List (Bytes × Val)) (h : inlInsert items td path pe key v = some items') :
    ∀ B, nestPairs items ≤ B → path.length + nest v ≤ B → nestPairs items' ≤ B := by
  refine inlInsert_induction
    (P := fun items path items' => ∀ B, nestPairs items ≤ B → path.length + nest v ≤ B → nestPairs items' ≤ B)
    ?leaf ?fresh ?descend path items td items' h
  case leaf =>
    intro items _ B hi hv
    simp [nestPairs_append, nestPairs] at hv ⊢
    omega
  case fresh =>
    intro items k ks sub _ ih B hi hv
    simp only [List.length_cons] at hv
    have := ih (B - 1) (by simp [nestPairs]) (by omega)
    simp [nestPairs_append, nestPairs, nest]
    omega
  case descend =>
    intro items k ks sub dot sub' hl ih B hi hv
    simp only [List.length_cons] at hv
    have h1 := nest_le_of_alookup _ _ _ hl
    simp only [nest] at h1
    have := ih (B - 1) (by omega) (by omega)
    apply nestPairs_areplace _ _ _ _ hi
    simp only [nest]; omega

theorem nestPairs_tableFromPairs (B : Nat) : ∀ (kvs : List (List Bytes × Bytes × Val)) (acc items : List (Bytes × Val)),
    tableFromPairs kvs acc = some items → nestPairs acc ≤ B →
    (∀ p ∈ kvs, p.1.length + nest p.2.2 ≤ B) → nestPairs items ≤ B := by
  intro kvs
  induction kvs with
  | nil => intro acc items h ha _; simp [tableFromPairs] at h; subst h; exact ha
  | cons p kvs ih =>
    obtain ⟨path, key, v⟩ := p
    intro acc items h ha hp
    unfold tableFromPairs at h
    split at h
    · rename_i acc' hi
      apply ih acc' items h
      · exact nestPairs_inlInsert _ _ _ _ _ _ _ hi B ha (hp (path, key, v) (by simp))
      · intro p hm; exact hp p (by simp [hm])
    · simp at h

theorem splitLast_length {α} : ∀ (l i : List α) (x : α), splitLast l = some (i, x) → l.length = i.length + 1 := by
  intro l
  induction l with
  | nil => intro i x h; simp [splitLast] at h
  | cons a l ih =>
    intro i x h
    cases l with
    | nil => simp [splitLast] at h; simp [← h.1]
    | cons b l =>
      unfold splitLast at h
      split at h
      · rename_i i' l' hs
        simp at h
        have := ih _ _ hs
        simp [← h.1] at this ⊢; omega
      · simp at h

theorem nest_scalar {s : Bytes} {v : Val} {r : Bytes} (h : ScalarParse s v r) : nest v = 0 := by
  cases h <;> rfl

/-- Every container is opened below `LIMIT` and charges one level (a dotted key one per extra
    segment), so `d + nest v` stays below `LIMIT`. -/
theorem depthInv : ∀ fuel,
    (∀ d s v rest, value fuel d s = .ok v rest → d < LIMIT → d + nest v < LIMIT) ∧
    (∀ d s vs r, arrayValues fuel d s = .ok vs r → d < LIMIT → d + nestList vs < LIMIT) ∧
    (∀ d s acc vs r, arrayElems fuel d s acc = .ok vs r →
      ∃ es, vs = acc ++ es ∧ (d < LIMIT → d + nestList es < LIMIT)) ∧
    (∀ d s acc kvs r, inlineKeyvals fuel d s acc = .ok kvs r →
      ∃ es, kvs = acc ++ es ∧ (d < LIMIT → ∀ p ∈ es, d + p.1.length + nest p.2.2 < LIMIT)) := by
  refine parse_induction
    (PV := fun d _ v _ => d < LIMIT → d + nest v < LIMIT)
    (PA := fun d _ vs _ => d < LIMIT → d + nestList vs < LIMIT)
    (PE := fun d _ es _ => d < LIMIT → d + nestList es < LIMIT)
    (PK := fun d _ es _ => d < LIMIT → ∀ p ∈ es, d + p.1.length + nest p.2.2 < LIMIT)
    ?scalar ?arr ?inl ?avEmpty ?avElems ?aeNil ?aeOne ?aeCons ?ikNil ?ikOne ?ikCons
  case scalar => intro d s v r hs hd; rw [nest_scalar hs]; exact hd
  case arr => intro d t vs r hd ih _; have := ih hd; simp only [nest]; omega
  case inl =>
    intro d t kvs r1 items r hd ih htp _ _
    have h1 := ih hd
    -- each pair has `(d + 1) + path.length + nest v < LIMIT`, i.e. at most `LIMIT - 2 - d`; the table adds one level
    have := nestPairs_tableFromPairs (LIMIT - 2 - d) kvs [] items htp (by simp [nestPairs])
      (by intro p hp; have := h1 p hp; omega)
    simp only [nest]; omega
  case avEmpty => intro d t hd; simpa [nestList] using hd
  case avElems => intro d s vs r0 r ih _ hd; exact ih hd
  case aeNil => intro d s hd; simpa [nestList] using hd
  case aeOne => intro d s s1 v s2 s3 _ ihv _ hd; have := ihv hd; simp only [nestList]; omega
  case aeCons =>
    intro d s s1 v s2 s4 w ws r _ ihv _ ihe hd
    have := ihv hd; have := ihe hd
    rw [nestList]; omega
  case ikNil => intro d s _ p hp; cases hp
  case ikOne =>
    intro d s ks r1 v r2 path key _ hl ihv hsl _ p hp
    have := ihv hl; have := splitLast_length _ _ _ hsl
    rw [List.mem_singleton.mp hp]; simp only []; omega
  case ikCons =>
    intro d s ks r1 v r2 path key r4 w ws r _ hl ihv hsl _ ihk hd p hp
    have := ihv hl; have := splitLast_length _ _ _ hsl
    rcases List.mem_cons.mp hp with hp | hp
    · rw [hp]; simp only []; omega
    · exact ihk hd p hp

/-- `n + 1` nested empty arrays -/
def nestedArr : Nat → Val
  | 0 => .arr []
  | n + 1 => .arr [nestedArr n]

theorem wcn_nontrivia (f : Nat) (b : UInt8) (r : Bytes) (h1 : isWschar b = false) (h2 : (b == 0x23) = false)
    (h3 : (b == 0x0A || b == 0x0D) = false) : wsCommentNewline (f + 1) (b :: r) = some (b :: r) := by
  simp [wsCommentNewline, dropWs, h1, h2, h3]

theorem wcn_open (f : Nat) (r : Bytes) : wsCommentNewline (f + 1) (0x5B :: r) = some (0x5B :: r) :=
  wcn_nontrivia f _ r (by decide) (by decide) (by decide)

theorem wcn_close (f : Nat) (r : Bytes) : wsCommentNewline (f + 1) (0x5D :: r) = some (0x5D :: r) :=
  wcn_nontrivia f _ r (by decide) (by decide) (by decide)

theorem arrays_accepted : ∀ (n d fuel : Nat) (rest : Bytes), d + n + 1 < LIMIT → 3 * n + 2 ≤ fuel →
    value fuel d (List.replicate (n + 1) 0x5B ++ (List.replicate (n + 1) 0x5D ++ rest)) = .ok (nestedArr n) rest := by
  intro n
  induction n with
  | zero =>
    intro d fuel rest hd hf
    obtain ⟨f, rfl⟩ : ∃ f, fuel = f + 2 := ⟨fuel - 2, by omega⟩
    exact value_arr_ok (f + 1) d _ rest [] (by omega) (arrayValues_close f (d + 1) rest)
  | succ n ih =>
    intro d fuel rest hd hf
    obtain ⟨f, rfl⟩ : ∃ f, fuel = f + 3 := ⟨fuel - 3, by omega⟩
    have e2 : List.replicate (n + 1 + 1) (0x5D : UInt8) ++ rest = List.replicate (n + 1) 0x5D ++ (0x5D :: rest) := by
      rw [List.replicate_succ']; simp
    rw [e2]
    -- the inner array is the one element of the outer one
    have h := ih (d + 1) f (0x5D :: rest) (by omega) (by omega)
    generalize List.replicate (n + 1) (0x5D : UInt8) ++ (0x5D :: rest) = tl at h ⊢
    refine value_arr_ok (f + 2) d _ rest [nestedArr n] (by omega) ?_
    exact arrayValues_nocomma (f + 1) (d + 1) _ (0x5D :: rest) _ [nestedArr n] (fun t => by simp [List.replicate_succ])
      (by simp) (arrayElems_last f (d + 1) _ _ _ _ _ [] (wcn_open _ _) h (wcn_close _ _) (fun t => by simp))
      (fun t => by simp) (wcn_close _ _)

theorem arrayValues_open_cut (f d : Nat) (r : Bytes) (h : ∀ g, value g d (0x5B :: r) = .cut) :
    arrayValues f d (0x5B :: r) = .cut := by
  cases f with
  | zero => simp [arrayValues]
  | succ f =>
    conv => lhs; unfold arrayValues
    cases f with
    | zero => simp [arrayElems]
    | succ g => simp [arrayElems_cut_value (wcn_open _ _) (h g)]

theorem arrays_rejected : ∀ (n d fuel : Nat) (rest : Bytes), 1 ≤ n → LIMIT ≤ d + n →
    value fuel d (List.replicate n 0x5B ++ rest) = .cut := by
  intro n
  induction n with
  | zero => intro d fuel rest h; omega
  | succ m ih =>
    intro d fuel rest _ hl
    cases fuel with
    | zero => simp [value]
    | succ f =>
      have e1 : List.replicate (m + 1) (0x5B : UInt8) ++ rest = 0x5B :: (List.replicate m 0x5B ++ rest) := rfl
      rw [e1]
      apply value_cut_arr
      by_cases hd : LIMIT ≤ d + 1
      · left; exact hd
      · right
        obtain ⟨k, rfl⟩ : ∃ k, m = k + 1 := ⟨m - 1, by omega⟩
        have e2 : List.replicate (k + 1) (0x5B : UInt8) ++ rest = 0x5B :: (List.replicate k 0x5B ++ rest) := rfl
        have := fun g => ih (d + 1) g rest (by omega) (by omega)
        rw [e2] at this ⊢
        exact arrayValues_open_cut f (d + 1) _ this

/-- `{a={a=…{}…}}` with `n + 1` tables -/
def inlText : Nat → Bytes
  | 0 => [0x7B, 0x7D]
  | n + 1 => [0x7B, 0x61, 0x3D] ++ inlText n ++ [0x7D]

def nestedInl : Nat → Val
  | 0 => .inl [] false false
  | n + 1 => .inl [([0x61], nestedInl n)] false false

theorem keyPath_a (Y : Bytes) : keyPath (0x61 :: 0x3D :: Y) = .ok [[0x61]] (0x3D :: Y) := by
  unfold keyPath
  simp only [List.length_cons]
  conv => lhs; unfold keyPathAux
  simp [dropWs, isWschar, Key.simpleKey, Key.unquotedKey, Key.takeUnquoted, isUnquotedChar, inR, LIMIT]

theorem keyPath_brace (Y : Bytes) : keyPath (0x7D :: Y) = .bt := by
  unfold keyPath
  simp only [List.length_cons]
  conv => lhs; unfold keyPathAux
  simp [dropWs, isWschar, Key.simpleKey, Key.unquotedKey, Key.takeUnquoted, isUnquotedChar, inR]

theorem inlText_head (n : Nat) : ∃ t, inlText n = 0x7B :: t := by
  cases n with
  | zero => exact ⟨_, rfl⟩
  | succ n => exact ⟨_, rfl⟩

theorem inls_accepted : ∀ (n d fuel : Nat) (rest : Bytes), d + n + 1 < LIMIT → 2 * n + 2 ≤ fuel →
    value fuel d (inlText n ++ rest) = .ok (nestedInl n) rest := by
  intro n
  induction n with
  | zero =>
    intro d fuel rest hd hf
    obtain ⟨f, rfl⟩ : ∃ f, fuel = f + 2 := ⟨fuel - 2, by omega⟩
    exact value_inl_ok (f + 1) d _ _ rest [] [] (by omega) (inl_stop f (d + 1) _ [] (keyPath_brace rest)) rfl rfl
  | succ n ih =>
    intro d fuel rest hd hf
    obtain ⟨f, rfl⟩ : ∃ f, fuel = f + 2 := ⟨fuel - 2, by omega⟩
    have h := ih (d + 1) f (0x7D :: rest) (by omega) (by omega)
    have e : inlText (n + 1) ++ rest = 0x7B :: 0x61 :: 0x3D :: (inlText n ++ 0x7D :: rest) := by
      simp [inlText]
    rw [e]
    obtain ⟨t, ht⟩ := inlText_head n
    -- the one entry `a={…}`: a key of one segment, so the value is read at the depth of the table
    refine value_inl_ok (f + 1) d _ (0x7D :: rest) rest [([], [0x61], nestedInl n)] _ (by omega) ?_ rfl rfl
    have hv : value f (d + 1 + (([[0x61]] : List Bytes).length - 1)) (dropWs (inlText n ++ 0x7D :: rest)) =
        .ok (nestedInl n) (0x7D :: rest) := by
      have e3 : dropWs (inlText n ++ 0x7D :: rest) = inlText n ++ 0x7D :: rest := by
        rw [ht, List.cons_append]; simp [dropWs, isWschar]
      rw [e3]; exact h
    exact inl_last f (d + 1) _ _ _ [0x61] [[0x61]] [] _ [] (keyPath_a _) rfl (by simp; omega) hv
      (fun t => by simp [dropWs, isWschar])

/-- `n` unclosed `{a=` -/
def inlOpen : Nat → Bytes
  | 0 => []
  | n + 1 => 0x7B :: 0x61 :: 0x3D :: inlOpen n

theorem inlText_eq (n : Nat) : inlText n = inlOpen n ++ 0x7B :: 0x7D :: List.replicate n 0x7D := by
  induction n with
  | zero => rfl
  | succ n ih => simp [inlText, inlOpen, ih, List.replicate_succ']

theorem inl_a_cut (f d : Nat) (Y : Bytes) (hv : ∀ g, value g d (0x7B :: Y) = .cut) :
    inlineKeyvals f d (0x61 :: 0x3D :: 0x7B :: Y) [] = .cut := by
  cases f with
  | zero => simp [inlineKeyvals]
  | succ g =>
    exact inlineKeyvals_cut_value (keyPath_a _) fun v r2 e => by simp [dropWs, isWschar, hv] at e

theorem inls_rejected : ∀ (n d fuel : Nat) (rest : Bytes), LIMIT ≤ d + n + 1 →
    value fuel d (inlOpen n ++ 0x7B :: rest) = .cut := by
  intro n
  induction n with
  | zero =>
    intro d fuel rest hl
    cases fuel with
    | zero => simp [value]
    | succ f => exact value_cut_inl (Or.inl (by omega))
  | succ m ih =>
    intro d fuel rest hl
    cases fuel with
    | zero => simp [value]
    | succ f =>
      have e : inlOpen (m + 1) ++ 0x7B :: rest = 0x7B :: 0x61 :: 0x3D :: (inlOpen m ++ 0x7B :: rest) := rfl
      rw [e]
      apply value_cut_inl
      by_cases hd : LIMIT ≤ d + 1
      · left; exact hd
      · right
        have hh : ∃ t, inlOpen m ++ 0x7B :: rest = 0x7B :: t := by
          cases m with
          | zero => exact ⟨_, rfl⟩
          | succ k => exact ⟨_, rfl⟩
        obtain ⟨t, ht⟩ := hh
        have := fun g => ih (d + 1) g rest (by omega)
        rw [ht] at this ⊢
        exact inl_a_cut f (d + 1) t this

end TomlVerif.Lemmas.Depth05
