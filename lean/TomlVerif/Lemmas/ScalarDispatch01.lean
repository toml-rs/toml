import TomlVerif.Lemmas.ValueBytes01
import TomlVerif.Lemmas.TokenNumbers
import TomlVerif.Lemmas.TokenDatetime
/-! What `value` does with a scalar token: the dispatch on its first byte, when `full_date`, `partial_time` and
    `float` backtrack on a number token, and what the bytes that may follow a value rule out. -/
namespace TomlVerif.Lemmas.Sound01
open TomlVerif TomlVerif.Spec TomlVerif.Model TomlVerif.Model.Datetime

theorem digits2_split (s r : Bytes) (v : Nat) (h : digits2 s = some (v, r)) :
    ∃ a b, s = a :: b :: r ∧ isDigit a = true ∧ isDigit b = true ∧ v = dval a * 10 + dval b ∧
      ∀ r', digits2 (a :: b :: r') = some (v, r') := by
  unfold digits2 at h
  split at h
  · rename_i a b r0
    split at h
    · rename_i hd
      injection h with h
      injection h with h1 h2
      subst h1 h2
      simp only [Bool.and_eq_true] at hd
      exact ⟨a, b, rfl, hd.1, hd.2, rfl, fun r' => by simp [digits2, hd.1, hd.2]⟩
    · cases h
  · cases h

theorem digits4_split (s r : Bytes) (v : Nat) (h : digits4 s = some (v, r)) :
    ∃ a b c d, s = a :: b :: c :: d :: r ∧ isDigit a = true ∧ isDigit b = true ∧ isDigit c = true ∧ isDigit d = true ∧
      ∀ r', digits4 (a :: b :: c :: d :: r') = some (v, r') := by
  unfold digits4 at h
  split at h
  · rename_i a b c d r0
    split at h
    · rename_i hd
      injection h with h
      injection h with h1 h2
      subst h1 h2
      simp only [Bool.and_eq_true] at hd
      exact ⟨a, b, c, d, rfl, hd.1.1.1, hd.1.1.2, hd.1.2, hd.2, fun r' => by
        simp [digits4, hd.1.1.1, hd.1.1.2, hd.1.2, hd.2]⟩
    · cases h
  · cases h

/-- what follows cannot continue a date or a time: not a digit, `-`, `:` -/
def DtStops (rest : Bytes) : Prop := ∀ b r, rest = b :: r → isDigit b = false ∧ b ≠ 0x2D ∧ b ≠ 0x3A

/-- digits, `-` and `:` at the head of `tok ++ rest` lie inside `tok` when `rest` starts with none of them -/
theorem prefix_in_tok : ∀ (p tok rest : Bytes), (∀ x ∈ p, isDigit x = true ∨ x = 0x2D ∨ x = 0x3A) →
    DtStops rest → p <+: tok ++ rest → p <+: tok := by
  intro p
  induction p with
  | nil => intro tok rest _ _ _; exact List.nil_prefix
  | cons x p ih =>
    intro tok rest hp hr h
    cases tok with
    | nil =>
      obtain ⟨t, e⟩ := h
      have := hr x (p ++ t) (by rw [List.nil_append] at e; rw [← e]; rfl)
      rcases hp x (by simp) with hx | hx | hx
      · rw [this.1] at hx; cases hx
      · exact absurd hx this.2.1
      · exact absurd hx this.2.2
    | cons t tok =>
      rw [List.cons_append, List.cons_prefix_cons] at h
      exact List.cons_prefix_cons.2 ⟨h.1, ih tok rest (fun y hy => hp y (by simp [hy])) hr h.2⟩

theorem fullDate_bt_of (tok rest : Bytes) (hr : DtStops rest)
    (h : ∀ a b c d X, tok = a :: b :: c :: d :: 0x2D :: X → isDigit a = true → isDigit b = true → isDigit c = true →
      isDigit d = true → False) : Doc.fullDate (tok ++ rest) = .bt := by
  rw [Datetime12.fullDate_bt_iff]
  intro y X e
  obtain ⟨a, b, c, d, es, ha, hb, hc, hd, _⟩ := digits4_split _ _ _ e
  have hp : ∀ x ∈ [a, b, c, d, 0x2D], isDigit x = true ∨ x = 0x2D ∨ x = 0x3A := by
    intro x hx
    simp only [List.mem_cons, List.not_mem_nil, or_false] at hx
    rcases hx with rfl | rfl | rfl | rfl | rfl
    · exact .inl ha
    · exact .inl hb
    · exact .inl hc
    · exact .inl hd
    · exact .inr (.inl rfl)
  obtain ⟨X', e'⟩ := prefix_in_tok [a, b, c, d, 0x2D] tok rest hp hr ⟨X, by rw [es]; rfl⟩
  exact h a b c d X' e'.symm ha hb hc hd

theorem partialTime_bt_of (tok rest : Bytes) (hr : DtStops rest)
    (h : ∀ a b X, tok = a :: b :: 0x3A :: X → isDigit a = true → isDigit b = true → dval a * 10 + dval b ≤ 23 → False) :
    Doc.partialTime (tok ++ rest) = .bt := by
  rw [Datetime12.partialTime_bt_iff]
  intro hh X e
  obtain ⟨a, b, es, ha, hb, ev, _⟩ := digits2_split _ _ _ e
  have hp : ∀ x ∈ [a, b, 0x3A], isDigit x = true ∨ x = 0x2D ∨ x = 0x3A := by
    intro x hx
    simp only [List.mem_cons, List.not_mem_nil, or_false] at hx
    rcases hx with rfl | rfl | rfl
    · exact .inl ha
    · exact .inl hb
    · exact .inr (.inr rfl)
  obtain ⟨X', e'⟩ := prefix_in_tok [a, b, 0x3A] tok rest hp hr ⟨X, by rw [es]; rfl⟩
  exact Nat.lt_of_not_le fun hle => h a b X' e'.symm ha hb (ev ▸ hle)

theorem dateTime_bt_iff (s : Bytes) : Doc.dateTime s = .bt ↔ Doc.fullDate s = .bt ∧ Doc.partialTime s = .bt := by
  constructor
  · intro h
    unfold Doc.dateTime at h
    cases hf : Doc.fullDate s with
    | ok d r =>
      rw [hf] at h
      simp only [] at h
      repeat' (first | cases h | split at h)
    | cut => rw [hf] at h; cases h
    | bt =>
      rw [hf] at h
      simp only [] at h
      refine ⟨rfl, ?_⟩
      cases hp : Doc.partialTime s with
      | ok t r => rw [hp] at h; cases h
      | cut => rw [hp] at h; cases h
      | bt => rfl
  · rintro ⟨h1, h2⟩
    unfold Doc.dateTime
    rw [h1]
    simp only [h2]

end TomlVerif.Lemmas.Sound01

namespace TomlVerif.Lemmas.Scalars01
open TomlVerif TomlVerif.Spec TomlVerif.Model TomlVerif.Model.Strings TomlVerif.Model.Value
open TomlVerif.Spec.AstValue TomlVerif.Lemmas.Value01
open TomlVerif.Model.Datetime TomlVerif.Model.Numbers TomlVerif.Lemmas.Numbers11
open TomlVerif.Lemmas.Datetime12

/-- a sign or a digit is none of `" ' [ {` (the earlier branches of `value`) -/
theorem numStart_dispatch (b : UInt8) (h : (b == 0x2B || b == 0x2D || isDigit b) = true) :
    (b == 0x22 || b == 0x27) = false ∧ (b == 0x5B) = false ∧ (b == 0x7B) = false := by
  have ne : ∀ c : UInt8, (c == 0x2B || c == 0x2D || isDigit c) = false → (b == c) = false :=
    fun c hc => beq_eq_false_iff_ne.2 (ne_of_class (p := fun x => x == 0x2B || x == 0x2D || isDigit x) h hc)
  refine ⟨?_, ne 0x5B (by decide), ne 0x7B (by decide)⟩
  rw [ne 0x22 (by decide), ne 0x27 (by decide)]; rfl

theorem numStart_ne (b : UInt8) (h : (b == 0x2B || b == 0x2D || isDigit b) = true) :
    isFollowByte b = false ∧ b ≠ 0x5B ∧ b ≠ 0x7B := by
  obtain ⟨_, h5, h7⟩ := numStart_dispatch b h
  refine ⟨Bool.eq_false_iff.2 fun hf => ?_, by simpa using h5, by simpa using h7⟩
  rcases follow_cases b hf with rfl | rfl | rfl | rfl | rfl | rfl | rfl | rfl <;> exact absurd h (by decide)

theorem value_dt (f d : Nat) (b : UInt8) (r r1 : Bytes) (dtv : Datetime.Datetime)
    (hb : (b == 0x2B || b == 0x2D || isDigit b) = true)
    (h : Datetime.Doc.dateTime (b :: r) = .ok dtv r1) : value (f + 1) d (b :: r) = .ok (.dt dtv) r1 := by
  obtain ⟨h1, h2, h3⟩ := numStart_dispatch b hb
  conv => lhs; unfold value
  simp only [h1, h2, h3, hb, h]
  simp

theorem value_float (f d : Nat) (b : UInt8) (r r1 : Bytes) (bits : Nat)
    (hb : (b == 0x2B || b == 0x2D || isDigit b) = true)
    (h : Datetime.Doc.dateTime (b :: r) = .bt) (h' : Numbers.float (b :: r) = .ok bits r1) :
    value (f + 1) d (b :: r) = .ok (.float bits) r1 := by
  obtain ⟨h1, h2, h3⟩ := numStart_dispatch b hb
  conv => lhs; unfold value
  simp only [h1, h2, h3, hb, h, h']
  simp

theorem value_int (f d : Nat) (b : UInt8) (r r1 : Bytes) (n : Int)
    (hb : (b == 0x2B || b == 0x2D || isDigit b) = true)
    (h : Datetime.Doc.dateTime (b :: r) = .bt) (h' : Numbers.float (b :: r) = .bt)
    (h'' : Numbers.integer (b :: r) = .ok n r1) :
    value (f + 1) d (b :: r) = .ok (.int n) r1 := by
  obtain ⟨h1, h2, h3⟩ := numStart_dispatch b hb
  conv => lhs; unfold value
  simp only [h1, h2, h3, hb, h, h', h'']
  simp [Res.map]

theorem value_str (f d : Nat) (b : UInt8) (r : Bytes) (hb : b = 0x22 ∨ b = 0x27) :
    value (f + 1) d (b :: r) = (Strings.string (b :: r)).map Val.str := by
  conv => lhs; unfold value
  rcases hb with rfl | rfl <;> simp

theorem follow_not_quote (b : UInt8) (h : isFollowByte b = true) : b ≠ 0x22 ∧ b ≠ 0x27 := by
  rcases follow_cases b h with rfl | rfl | rfl | rfl | rfl | rfl | rfl | rfl <;> decide

theorem quote_facts (b : UInt8) (h : (b == 0x22 || b == 0x27) = true) :
    (b = 0x22 ∨ b = 0x27) ∧ isFollowByte b = false ∧ b ≠ 0x5B ∧ b ≠ 0x7B := by
  have hq : b = 0x22 ∨ b = 0x27 := by simpa using h
  rcases hq with rfl | rfl <;> decide

/-- the bytes after the first are not `-` or `:` (digits, `_`, `.`), and what follows is no digit, `-` or `:` -/
def NumTail (body rest : Bytes) : Prop := (∀ b ∈ body, b ≠ 0x2D ∧ b ≠ 0x3A) ∧ Sound01.DtStops rest

theorem digits2_nodigit (a b : UInt8) (r : Bytes) (h : isDigit b = false) : digits2 (a :: b :: r) = none := by
  simp [digits2, h]

theorem dateTime_bt_of (h0 : UInt8) (body rest : Bytes) (h : NumTail body rest) :
    Doc.dateTime (h0 :: (body ++ rest)) = .bt := by
  have h1 := Sound01.fullDate_bt_of (h0 :: body) rest h.2 (by
    intro a b c d X e _ _ _ _
    injection e with _ e
    exact (h.1 0x2D (by rw [e]; simp)).1 rfl)
  have h2 := Sound01.partialTime_bt_of (h0 :: body) rest h.2 (by
    intro a b X e _ _ _
    injection e with _ e
    exact (h.1 0x3A (by rw [e]; simp)).2 rfl)
  exact (Sound01.dateTime_bt_iff _).2 ⟨h1, h2⟩

/-! A byte that may follow a value continues no number and no date-time: it is in no digit class, is none of
    `_ . e E`, none of the radix letters `x o b`, and neither `-` nor `:`. -/

theorem follow_no_digit (b : UInt8) (h : isFollowByte b = true) :
    isHexdig b = false ∧ isDigit0_7 b = false ∧ isDigit0_1 b = false := by
  rcases follow_cases b h with rfl | rfl | rfl | rfl | rfl | rfl | rfl | rfl <;> decide

theorem follow_ne_num (b : UInt8) (h : isFollowByte b = true) : b ≠ 0x5F ∧ b ≠ 0x2E ∧ b ≠ 0x65 ∧ b ≠ 0x45 := by
  rcases follow_cases b h with rfl | rfl | rfl | rfl | rfl | rfl | rfl | rfl <;> decide

theorem follow_ne_radix (b : UInt8) (h : isFollowByte b = true) : b ≠ 0x78 ∧ b ≠ 0x6F ∧ b ≠ 0x62 := by
  rcases follow_cases b h with rfl | rfl | rfl | rfl | rfl | rfl | rfl | rfl <;> decide

theorem follow_ne_dt (b : UInt8) (h : isFollowByte b = true) : b ≠ 0x2D ∧ b ≠ 0x3A := by
  rcases follow_cases b h with rfl | rfl | rfl | rfl | rfl | rfl | rfl | rfl <;> decide

theorem digit_tail_facts (b : UInt8) (h : isDigit b = true ∨ b = 0x5F ∨ b = 0x2E) : b ≠ 0x2D ∧ b ≠ 0x3A := by
  rcases h with h | rfl | rfl
  · exact ⟨ne_of_class h (by decide), ne_of_class h (by decide)⟩
  · decide
  · decide

theorem digit_start_facts (b : UInt8) (h : isDigit b = true) :
    (b == 0x2B || b == 0x2D || isDigit b) = true ∧ b ≠ 0x69 ∧ b ≠ 0x6E ∧ b ≠ 0x2B ∧ b ≠ 0x2D :=
  ⟨by rw [h, Bool.or_true], ne_of_class h (by decide), ne_of_class h (by decide), ne_of_class h (by decide),
    ne_of_class h (by decide)⟩

theorem floatStops_of_follow (rest : Bytes) (hr : ValFollow rest) : FloatStops rest := by
  cases rest with
  | nil => trivial
  | cons b r =>
    obtain ⟨h5F, _, h65, h45⟩ := follow_ne_num b hr
    exact ⟨follow_not_digit b hr, h5F, h65, h45⟩

theorem specialBody_bt (sgn : Nat) (c : UInt8) (r : Bytes) (h1 : c ≠ 0x69) (h2 : c ≠ 0x6E) :
    specialBody sgn (c :: r) = .bt := by
  simp [specialBody, startsWith, h1, h2]

theorem specialFloat_bt_num (sign : Option Bool) (d : UInt8) (t : Bytes) (hd : isDigit d = true) :
    specialFloat (signBytes sign ++ d :: t) = .bt := by
  have hf := digit_start_facts d hd
  match sign with
  | some true => simp only [signBytes, List.cons_append, List.nil_append, specialFloat_minus]; exact specialBody_bt _ _ _ hf.2.1 hf.2.2.1
  | some false => simp only [signBytes, List.cons_append, List.nil_append, specialFloat_plus]; exact specialBody_bt _ _ _ hf.2.1 hf.2.2.1
  | none =>
    simp only [signBytes, List.nil_append]
    rw [specialFloat_nosign d t hf.2.2.2.1 hf.2.2.2.2]
    exact specialBody_bt _ _ _ hf.2.1 hf.2.2.1

theorem float_bt_of_decInt (sign : Option Bool) (d : UInt8) (Y rest : Bytes) (x : Bool × Bool × Bytes)
    (hd : isDigit d = true) (hdec : decInt (signBytes sign ++ d :: Y) = .ok x rest) (hr : ValFollow rest) :
    float (signBytes sign ++ d :: Y) = .bt := by
  have hl : floatLit (signBytes sign ++ d :: Y) = .bt := by
    unfold floatLit
    rw [hdec]
    simp only
    cases rest with
    | nil => simp [expPart]
    | cons b r =>
      obtain ⟨_, h2E, _, _⟩ := follow_ne_num b hr
      have he := expPart_bt (b :: r) (floatStops_of_follow _ hr)
      split
      · rename_i heq; injection heq with heq _; exact absurd heq h2E
      · simp only [he]
  unfold float
  rw [hl]
  simp only
  exact specialFloat_bt_num sign d Y hd

theorem float_bt_dec (sign : Option Bool) (groups : List Bytes) (rest : Bytes) (hg : GoodGroups isDigit groups)
    (hz : NoLeadingZero groups) (hr : ValFollow rest) :
    float (signBytes sign ++ joinU groups ++ rest) = .bt := by
  have hdec := decInt_lit sign groups rest hg hz (floatStops_of_follow rest hr).stops
  obtain ⟨d, t, e, hd, _⟩ := (joinU_text hg).1
  rw [e, List.append_assoc, List.cons_append] at hdec ⊢
  exact float_bt_of_decInt sign d (t ++ rest) rest _ hd hdec hr

theorem follow_dt_facts (b : UInt8) (h : isFollowByte b = true) :
    b ≠ 0x2E ∧ (b == 0x5A || b == 0x7A) = false ∧ (b == 0x2B || b == 0x2D) = false ∧
    (Doc.isTimeDelim b = true → b = 0x20) := by
  rcases follow_cases b h with rfl | rfl | rfl | rfl | rfl | rfl | rfl | rfl <;> decide

theorem timeFollow_of_follow (rest : Bytes) (hr : ValFollow rest) : TimeFollow rest := by
  intro b r e
  subst e
  exact ⟨follow_not_digit b hr, (follow_dt_facts b hr).1⟩

theorem timeOffset_bt_follow (rest : Bytes) (hr : ValFollow rest) : Doc.timeOffset rest = .bt := by
  cases rest with
  | nil => rfl
  | cons b r =>
    have := follow_dt_facts b hr
    simp [Doc.timeOffset, this.2.1, this.2.2.1]

theorem partialTime_bt_nodigit (r' : Bytes) (h : ∀ b r, r' = b :: r → isDigit b = false) : Doc.partialTime r' = .bt := by
  rw [partialTime_bt_iff]
  intro hh X e
  obtain ⟨a, b, es, ha, _⟩ := Sound01.digits2_split _ _ _ e
  rw [h a _ es] at ha; cases ha

/-- the follow condition cannot be weakened to `ValFollow`: a local date followed by ` 07:32:00` reads on -/
theorem date_then_time :
    Doc.dateTime (Std.display ⟨some ⟨1979, 5, 27⟩, none, none⟩ ++ [0x20, 0x30, 0x37, 0x3A, 0x33, 0x32, 0x3A, 0x30, 0x30]) =
      .ok ⟨some ⟨1979, 5, 27⟩, some ⟨7, 32, 0, 0⟩, none⟩ [] ∧
    ValFollow [0x20, 0x30, 0x37, 0x3A, 0x33, 0x32, 0x3A, 0x30, 0x30] :=
  ⟨by decide +kernel, (by decide : isFollowByte 0x20 = true)⟩

end TomlVerif.Lemmas.Scalars01
