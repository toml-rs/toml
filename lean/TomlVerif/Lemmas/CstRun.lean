import TomlVerif.Lemmas.CstStateOps
/-! The line loop of the format-preserving parser (`clines`): one round of it read backwards
    (`LineStep`, `clines_ok`) and its induction principles.  The document classes of C03 are defined
    on the source: `clines` re-run with a check at every header line and every key/value line, on the
    state the line meets.  Here the checks are parameters (`hdrLineOkWith`, `runOkWith`); the checks
    and runs of the classes are written out where they are defined and equal these by unfolding. -/
namespace TomlVerif.Lemmas.Cst03
open TomlVerif TomlVerif.Model TomlVerif.Model.Strings TomlVerif.Model.Value TomlVerif.Model.Cst
open TomlVerif.Lemmas.Suffix03 TomlVerif.Lemmas.LastByte03

/-- the lines of `clines`: from state `st` at `s` to `st'` at `r`, before the blanks after the
    line.  Comment and blank lines are recorded by `onWs`; the conditions on the first byte are
    those of the dispatch. -/
inductive LineStep (n : Nat) (st : CState) : Bytes → CState → Bytes → Prop
  | comment (t r : Bytes) : dropComment t ≠ [] → newline? (dropComment t) = some r →
      LineStep n st (0x23 :: t) (onWs st (pos n (0x23 :: t)) (pos n r)) r
  | header (b : UInt8) (t : Bytes) (st' : CState) (r : Bytes) : (b == 0x23) = false → (b == 0x5B) = true →
      ctableLine n st (b :: t) = some (st', r) → LineStep n st (b :: t) st' r
  | blank (b : UInt8) (t r : Bytes) : (b == 0x23) = false → (b == 0x5B) = false →
      (b == 0x0A || b == 0x0D) = true → newline? (b :: t) = some r →
      LineStep n st (b :: t) (onWs st (pos n (b :: t)) (pos n r)) r
  | keyval (b : UInt8) (t : Bytes) (st' : CState) (r : Bytes) : (b == 0x23) = false → (b == 0x5B) = false →
      (b == 0x0A || b == 0x0D) = false → ckeyvalLine n st (b :: t) = some (st', r) → LineStep n st (b :: t) st' r

theorem clines_ok {n fuel : Nat} {st stf : CState} {s : Bytes} (h : clines n (fuel + 1) st s = some stf) :
    (s = [] ∧ stf = st) ∨
    (∃ t, s = 0x23 :: t ∧ dropComment t = [] ∧ stf = (parseWs n (onWs st (pos n s) n) []).1) ∨
    ∃ st' r, LineStep n st s st' r ∧ clines n fuel (parseWs n st' r).1 (parseWs n st' r).2 = some stf := by
  unfold clines at h
  cases s with
  | nil => injection h with h; exact .inl ⟨rfl, h.symm⟩
  | cons b t =>
    simp only [] at h
    by_cases hb1 : (b == 0x23) = true
    · rw [if_pos hb1] at h
      have eb : b = 0x23 := by simpa using hb1
      subst eb
      cases hdc : dropComment t with
      | nil =>
        simp only [hdc] at h
        injection h with h
        exact .inr (.inl ⟨t, rfl, hdc, h.symm⟩)
      | cons c t1 =>
        simp only [hdc] at h
        cases hnl : newline? (c :: t1) with
        | none => simp only [hnl] at h; cases h
        | some r =>
          simp only [hnl] at h
          exact .inr (.inr ⟨_, r, .comment t r (by rw [hdc]; exact List.cons_ne_nil _ _) (by rw [hdc]; exact hnl), h⟩)
    have hb1 : (b == 0x23) = false := by simpa using hb1
    simp only [hb1, Bool.false_eq_true, if_false] at h
    by_cases hb2 : (b == 0x5B) = true
    · rw [if_pos hb2] at h
      cases hl : ctableLine n st (b :: t) with
      | none => simp only [hl] at h; cases h
      | some p => simp only [hl] at h; exact .inr (.inr ⟨p.1, p.2, .header b t p.1 p.2 hb1 hb2 hl, h⟩)
    have hb2 : (b == 0x5B) = false := by simpa using hb2
    simp only [hb2, Bool.false_eq_true, if_false] at h
    by_cases hb3 : (b == 0x0A || b == 0x0D) = true
    · rw [if_pos hb3] at h
      cases hnl : newline? (b :: t) with
      | none => simp only [hnl] at h; cases h
      | some r => simp only [hnl] at h; exact .inr (.inr ⟨_, r, .blank b t r hb1 hb2 hb3 hnl, h⟩)
    have hb3 : (b == 0x0A || b == 0x0D) = false := by simpa using hb3
    simp only [hb3, Bool.false_eq_true, if_false] at h
    cases hl : ckeyvalLine n st (b :: t) with
    | none => simp only [hl] at h; cases h
    | some p => simp only [hl] at h; exact .inr (.inr ⟨p.1, p.2, .keyval b t p.1 p.2 hb1 hb2 hb3 hl, h⟩)

theorem clines_preserves {n : Nat} {I : CState → Bytes → Prop}
    (trivia : ∀ st s r, r <:+ s → I st s → I (onWs st (pos n s) (pos n r)) r)
    (header : ∀ st st' s r, ctableLine n st s = some (st', r) → I st s → I st' r)
    (keyval : ∀ st st' s r, ckeyvalLine n st s = some (st', r) → I st s → I st' r) :
    ∀ (fuel : Nat) (st : CState) (s : Bytes) (stf : CState), clines n fuel st s = some stf → I st s → I stf []
  | 0, st, s, stf, h, _ => by unfold clines at h; cases h
  | fuel + 1, st, s, stf, h, hI => by
    have blanks : ∀ st r, I st r → I (parseWs n st r).1 (parseWs n st r).2 :=
      fun st r h => trivia st r _ (dropWs_suffix r) h
    rcases clines_ok h with ⟨hs, he⟩ | ⟨t, hs, _, he⟩ | ⟨st', r, hl, hrest⟩
    · subst hs; subst he; exact hI
    · subst he
      have := trivia st s [] List.nil_suffix hI
      rw [pos_nil] at this
      exact blanks _ _ this
    · refine clines_preserves trivia header keyval fuel _ _ stf hrest (blanks st' r ?_)
      cases hl with
      | comment t r _ hnl =>
        exact trivia st _ r (((newline?_adv hnl).1.trans (dropComment_suffix t)).trans (List.suffix_cons _ t)) hI
      | header b t st' r _ _ hl => exact header st st' _ r hl hI
      | blank b t r _ _ _ hnl => exact trivia st _ r (newline?_adv hnl).1 hI
      | keyval b t st' r _ _ _ hl => exact keyval st st' _ r hl hI

theorem parseCst_ok {s : Bytes} {d : CDoc} (h : parseCst s = some d) :
    ∃ stf st', clines s.length ((parseWs s.length {} (Doc.stripBom s)).2.length + 1)
        (parseWs s.length {} (Doc.stripBom s)).1 (parseWs s.length {} (Doc.stripBom s)).2 = some stf ∧
      finalizeTable stf = some st' ∧ d = { root := st'.root, trailing := takeTrailing st'.trailing } := by
  unfold parseCst at h
  simp only [] at h
  split at h
  · rename_i stf hcl
    unfold intoDocument at h
    split at h
    · rename_i st' hfin
      injection h with h
      exact ⟨stf, st', hcl, hfin, h.symm⟩
    · cases h
  · cases h

end TomlVerif.Lemmas.Cst03

namespace TomlVerif.Lemmas.Tiling03More
open TomlVerif TomlVerif.Model TomlVerif.Model.Strings TomlVerif.Model.Value TomlVerif.Model.Cst
open TomlVerif.Lemmas.Cst03

/-- `hdrChk` with `pathOk` for the path predicate: `r` is the text after the opening bracket(s),
    `st1` the state after `finalize_table` -/
def hdrChkWith (pathOk : Bool → CKey → CTbl → List CKey → Bool) (n : Nat) (a : Bool) (st1 : CState)
    (r : Bytes) : Bool :=
  match ckeyPath n r with
  | .ok ks _ =>
    (match splitLast ks with
     | some (pp, key) => pathOk a key st1.root pp
     | none => true)
  | _ => true

/-- `hdrLineOk` with `pathOk` for the path predicate: both readings of the line are checked -/
def hdrLineOkWith (pathOk : Bool → CKey → CTbl → List CKey → Bool) (n : Nat) (st : CState) (s : Bytes) : Bool :=
  match finalizeTable st with
  | none => true
  | some st1 =>
    (match s with
     | 0x5B :: 0x5B :: r => hdrChkWith pathOk n true st1 r
     | _ => true) &&
    (match s with
     | 0x5B :: r => hdrChkWith pathOk n false st1 r
     | _ => true)

theorem hdrChkWith_mono {p p' : Bool → CKey → CTbl → List CKey → Bool}
    (hp : ∀ a key t pp, p a key t pp = true → p' a key t pp = true) (n : Nat) (a : Bool) (st1 : CState)
    (r : Bytes) (h : hdrChkWith p n a st1 r = true) : hdrChkWith p' n a st1 r = true := by
  unfold hdrChkWith at h ⊢
  split
  · rename_i ks rest hk
    rw [hk] at h
    simp only [] at h ⊢
    split
    · rename_i pp key hsl
      rw [hsl] at h
      exact hp a key _ pp h
    · rfl
  · rfl

theorem hdrLineOkWith_mono {p p' : Bool → CKey → CTbl → List CKey → Bool}
    (hp : ∀ a key t pp, p a key t pp = true → p' a key t pp = true) {n : Nat} (st : CState) (s : Bytes)
    (h : hdrLineOkWith p n st s = true) : hdrLineOkWith p' n st s = true := by
  unfold hdrLineOkWith at h ⊢
  split
  · rfl
  · rename_i st1 hfin
    rw [hfin] at h
    simp only [Bool.and_eq_true] at h ⊢
    refine ⟨?_, ?_⟩
    · have h1 := h.1
      split
      · rename_i r; exact hdrChkWith_mono hp n true st1 r h1
      · rfl
    · have h2 := h.2
      split
      · rename_i r; exact hdrChkWith_mono hp n false st1 r h2
      · rfl

theorem hdrLineOkWith_use {p : Bool → CKey → CTbl → List CKey → Bool} {n : Nat} (st st1 : CState) (a : Bool)
    (r rest : Bytes) (ks pp : List CKey) (key : CKey)
    (hok : hdrLineOkWith p n st ((if a then [0x5B, 0x5B] else [0x5B]) ++ r) = true)
    (hfin : finalizeTable st = some st1) (hk : ckeyPath n r = .ok ks rest)
    (hsl : splitLast ks = some (pp, key)) : p a key st1.root pp = true := by
  unfold hdrLineOkWith at hok
  rw [hfin] at hok
  simp only [Bool.and_eq_true] at hok
  cases a with
  | true =>
    have h1 := hok.1
    simp only [if_true, List.cons_append, List.nil_append, hdrChkWith, hk, hsl] at h1
    exact h1
  | false =>
    have h2 := hok.2
    simp only [Bool.false_eq_true, if_false, List.cons_append, List.nil_append, hdrChkWith, hk, hsl] at h2
    exact h2

/-- `clines` run with `hdr` checked at every header line and `kv` at every key/value line, on the
    state the line meets; where `clines` fails nothing more is asked -/
def runOkWith (hdr kv : CState → Bytes → Bool) (n : Nat) : Nat → CState → Bytes → Bool
  | 0, _, _ => true
  | fuel + 1, st, s =>
    match s with
    | [] => true
    | b :: r =>
      if b == 0x23 then
        let r1 := dropComment r
        match r1 with
        | [] => true
        | _ => match newline? r1 with
          | some r2 =>
            let (st', r3) := parseWs n (onWs st (pos n s) (pos n r2)) r2
            runOkWith hdr kv n fuel st' r3
          | none => true
      else if b == 0x5B then
        hdr st s &&
        (match ctableLine n st s with
         | some (st', r1) =>
           let (st'', r2) := parseWs n st' r1
           runOkWith hdr kv n fuel st'' r2
         | none => true)
      else if b == 0x0A || b == 0x0D then
        match newline? s with
        | some r1 =>
          let (st', r2) := parseWs n (onWs st (pos n s) (pos n r1)) r1
          runOkWith hdr kv n fuel st' r2
        | none => true
      else
        kv st s &&
        (match ckeyvalLine n st s with
         | some (st', r1) =>
           let (st'', r2) := parseWs n st' r1
           runOkWith hdr kv n fuel st'' r2
         | none => true)

theorem runOkWith_mono {hdr hdr' kv kv' : CState → Bytes → Bool} (n : Nat)
    (hh : ∀ st s, hdr st s = true → hdr' st s = true) (hk : ∀ st s, kv st s = true → kv' st s = true) :
    ∀ (fuel : Nat) (st : CState) (s : Bytes),
      runOkWith hdr kv n fuel st s = true → runOkWith hdr' kv' n fuel st s = true
  | 0, _, _, _ => rfl
  | fuel + 1, st, [], _ => rfl
  | fuel + 1, st, b :: r, h => by
    unfold runOkWith at h ⊢
    simp only [] at h ⊢
    by_cases hb1 : (b == 0x23) = true
    · rw [if_pos hb1] at h ⊢
      cases hdc : dropComment r with
      | nil => rfl
      | cons c1 r1 =>
        rw [hdc] at h
        simp only [] at h ⊢
        cases hnl : newline? (c1 :: r1) with
        | none => rfl
        | some r2 =>
          rw [hnl] at h
          exact runOkWith_mono n hh hk fuel _ _ h
    rw [if_neg hb1] at h ⊢
    by_cases hb2 : (b == 0x5B) = true
    · rw [if_pos hb2, Bool.and_eq_true] at h ⊢
      refine ⟨hh _ _ h.1, ?_⟩
      have h2 := h.2
      cases hl : ctableLine n st (b :: r) with
      | none => rfl
      | some pr =>
        rw [hl] at h2
        exact runOkWith_mono n hh hk fuel _ _ h2
    rw [if_neg hb2] at h ⊢
    by_cases hb3 : (b == 0x0A || b == 0x0D) = true
    · rw [if_pos hb3] at h ⊢
      cases hnl : newline? (b :: r) with
      | none => rfl
      | some r1 =>
        rw [hnl] at h
        exact runOkWith_mono n hh hk fuel _ _ h
    rw [if_neg hb3, Bool.and_eq_true] at h ⊢
    refine ⟨hk _ _ h.1, ?_⟩
    have h2 := h.2
    cases hl : ckeyvalLine n st (b :: r) with
    | none => rfl
    | some pr =>
      rw [hl] at h2
      exact runOkWith_mono n hh hk fuel _ _ h2

/-- an invariant through the checked line loop: `I` while lines are read, `E` at the end of input.
    A header line and a key/value line may use the check of the class on the state they meet. -/
theorem clines_runOkWith {hdr kv : CState → Bytes → Bool} {n : Nat} {I : CState → Bytes → Prop}
    {E : CState → Prop}
    (done : ∀ st, I st [] → E st)
    (eofComment : ∀ st t, dropComment t = [] → I st (0x23 :: t) →
      E (parseWs n (onWs st (pos n (0x23 :: t)) n) []).1)
    (blanks : ∀ st r, I st r → I (parseWs n st r).1 (parseWs n st r).2)
    (comment : ∀ st t r, dropComment t ≠ [] → newline? (dropComment t) = some r → I st (0x23 :: t) →
      I (onWs st (pos n (0x23 :: t)) (pos n r)) r)
    (blank : ∀ st s r, newline? s = some r → I st s → I (onWs st (pos n s) (pos n r)) r)
    (header : ∀ st st' s r, ctableLine n st s = some (st', r) → hdr st s = true → I st s → I st' r)
    (keyval : ∀ st st' s r, ckeyvalLine n st s = some (st', r) → kv st s = true → I st s → I st' r) :
    ∀ (fuel : Nat) (st : CState) (s : Bytes) (stf : CState), clines n fuel st s = some stf →
      runOkWith hdr kv n fuel st s = true → I st s → E stf
  | 0, st, s, stf, h, _, _ => by unfold clines at h; cases h
  | fuel + 1, st, s, stf, h, hr, hI => by
    have rest := clines_runOkWith done eofComment blanks comment blank header keyval fuel
    rcases Cst03.clines_ok h with ⟨hs, he⟩ | ⟨t, hs, hdc, he⟩ | ⟨st', r, hl, hrest⟩
    · subst hs; rw [he]; exact done st hI
    · subst hs; rw [he]; exact eofComment st t hdc hI
    · unfold runOkWith at hr
      cases hl with
      | comment t r hne hnl =>
        cases hdc : dropComment t with
        | nil => exact absurd hdc hne
        | cons c t1 =>
          rw [hdc] at hnl
          simp only [beq_self_eq_true, if_true, hdc, hnl] at hr
          exact rest _ _ stf hrest hr (blanks _ _ (comment st t r hne (by rw [hdc]; exact hnl) hI))
      | header b t st' r hb1 hb2 hl =>
        simp only [hb1, hb2, Bool.false_eq_true, if_false, if_true, hl, Bool.and_eq_true] at hr
        exact rest _ _ stf hrest hr.2 (blanks _ _ (header st st' _ r hl hr.1 hI))
      | blank b t r hb1 hb2 hb3 hnl =>
        simp only [hb1, hb2, hb3, Bool.false_eq_true, if_false, if_true, hnl] at hr
        exact rest _ _ stf hrest hr (blanks _ _ (blank st _ r hnl hI))
      | keyval b t st' r hb1 hb2 hb3 hl =>
        simp only [hb1, hb2, hb3, Bool.false_eq_true, if_false, hl, Bool.and_eq_true] at hr
        exact rest _ _ stf hrest hr.2 (blanks _ _ (keyval st st' _ r hl hr.1 hI))

/-- A checked run from the end: `J` is kept by the lines that pass their check, a line that does not
    leads to `B`, and no line leaves `B`.  A run that does not end in `B` passed every check. -/
theorem runOkWith_of_absorbing {hdr kv : CState → Bytes → Bool} {n : Nat} {J B : CState → Prop}
    (ws : ∀ st a b, J st → J (onWs st a b)) (wsB : ∀ st a b, B st → B (onWs st a b))
    (headerB : ∀ st st' s r, ctableLine n st s = some (st', r) → B st → B st')
    (keyvalB : ∀ st st' s r, ckeyvalLine n st s = some (st', r) → B st → B st')
    (header : ∀ st st' s r, ctableLine n st s = some (st', r) → J st → (hdr st s = true ∧ J st') ∨ B st')
    (keyval : ∀ st st' s r, ckeyvalLine n st s = some (st', r) → J st → (kv st s = true ∧ J st') ∨ B st') :
    ∀ (fuel : Nat) (st : CState) (s : Bytes) (stf : CState), clines n fuel st s = some stf → J st → ¬ B stf →
      runOkWith hdr kv n fuel st s = true
  | 0, _, _, _, _, _, _ => rfl
  | fuel + 1, st, s, stf, h, hJ, hB => by
    have rest := runOkWith_of_absorbing ws wsB headerB keyvalB header keyval fuel
    have absorb : ∀ st' r, clines n fuel st' r = some stf → ¬ B st' := fun st' r hc hb =>
      hB (clines_preserves (I := fun st _ => B st) (fun _ _ _ _ h => wsB _ _ _ h) headerB keyvalB fuel st' r stf hc hb)
    rcases clines_ok h with ⟨hs, _⟩ | ⟨t, hs, hdc, _⟩ | ⟨st', r, hl, hrest⟩
    · subst hs; rfl
    · subst hs; unfold runOkWith; simp only [beq_self_eq_true, if_true, hdc]
    · unfold runOkWith
      cases hl with
      | comment t r hne hnl =>
        cases hdc : dropComment t with
        | nil => exact absurd hdc hne
        | cons c t1 =>
          rw [hdc] at hnl
          simp only [beq_self_eq_true, if_true, hdc, hnl]
          exact rest _ _ stf hrest (ws _ _ _ (ws _ _ _ hJ)) hB
      | header b t st' r hb1 hb2 hl =>
        simp only [hb1, hb2, Bool.false_eq_true, if_false, if_true, hl, Bool.and_eq_true]
        rcases header st st' _ r hl hJ with ⟨hc, hJ'⟩ | hb
        · exact ⟨hc, rest _ _ stf hrest (ws _ _ _ hJ') hB⟩
        · exact absurd (wsB _ _ _ hb) (absorb _ _ hrest)
      | blank b t r hb1 hb2 hb3 hnl =>
        simp only [hb1, hb2, hb3, Bool.false_eq_true, if_false, if_true, hnl]
        exact rest _ _ stf hrest (ws _ _ _ (ws _ _ _ hJ)) hB
      | keyval b t st' r hb1 hb2 hb3 hl =>
        simp only [hb1, hb2, hb3, Bool.false_eq_true, if_false, hl, Bool.and_eq_true]
        rcases keyval st st' _ r hl hJ with ⟨hc, hJ'⟩ | hb
        · exact ⟨hc, rest _ _ stf hrest (ws _ _ _ hJ') hB⟩
        · exact absurd (wsB _ _ _ hb) (absorb _ _ hrest)

end TomlVerif.Lemmas.Tiling03More
