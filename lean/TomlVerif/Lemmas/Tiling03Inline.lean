import TomlVerif.Lemmas.CstInduct
import TomlVerif.Lemmas.Tiling03ValueClasses
import TomlVerif.Lemmas.Tiling03Seg
import TomlVerif.Lemmas.CstLookup
/-! C03, dotted keys inside inline tables `{…}` — the tree side.

    `table_from_pairs` keeps ONE stored `Key` per entry of an inline table, so the key path of a
    pair `a.c = 2` that extends an existing implicit dotted table `a` is printed with the spelling
    of the FIRST `a`.  The class is therefore defined on the source side (`insOk` / `pairsOk`,
    the analogue of `dottedOk` of `Tiling03NestDefs.lean`).

    Under the check the printed body of the table is the printed list of its pairs, each under the
    key path as the source spelled it (`inl_body_text`). -/
namespace TomlVerif.Lemmas.Tiling03More
open TomlVerif TomlVerif.Spec TomlVerif.Model TomlVerif.Model.Strings TomlVerif.Model.Value
open TomlVerif.Model.Cst TomlVerif.Model.Encode TomlVerif.Lemmas.Suffix03 TomlVerif.Lemmas.Cst03
open TomlVerif.Lemmas.Tiling03 TomlVerif.Lemmas.Tiling03Hdr TomlVerif.Lemmas.Tiling03Nest

abbrev VItems := List (CKey × CVal)
abbrev Triple := List CKey × CKey × CVal

/-- the entry for `k` when it is the last item of the list (and the only one for `k`) -/
def lastEnt (k : Bytes) (items : VItems) : Option (VItems × CKey × CVal) :=
  match splitLast items with
  | some (init, (k', it)) => if k'.key == k && (clookup k init).isNone then some (init, k', it) else none
  | none => none

theorem lastEnt_some (k : Bytes) (items init : VItems) (k' : CKey) (it : CVal)
    (h : lastEnt k items = some (init, k', it)) :
    items = init ++ [(k', it)] ∧ (k'.key == k) = true ∧ clookup k init = none ∧ clookup k items = some it := by
  unfold lastEnt at h
  split at h
  · rename_i init0 k0 it0 hsl
    split at h
    · rename_i hc
      injection h with h
      simp only [Prod.mk.injEq] at h
      obtain ⟨rfl, rfl, rfl⟩ := h
      exact last_entry_of hsl hc
    · cases h
  · cases h

/-- the check of one `cinlInsert` step with key path prefix `path`, on the entry list `items`
    built so far: every prefix segment that names an existing entry names the LAST entry
    (adjacent dotted keys), which is a dotted inline table, and is spelled like the stored key -/
def insOk (inp : Bytes) : VItems → List CKey → Bool
  | _, [] => true
  | items, k :: ks => match clookup k.key items with
      | none => true
      | some _ => match lastEnt k.key items with
          | some (_, k', .inl sub _ _ dot _ _) => sameSeg inp k k' && dot && insOk inp sub ks
          | _ => false

/-- `table_from_pairs` with the check at every step (the control flow is that of
    `ctableFromPairs`) -/
def pairsOk (inp : Bytes) : List Triple → VItems → Bool
  | [], _ => true
  | (path, key, v) :: rest, acc =>
    insOk inp acc path &&
    (match cinlInsert acc false path path.isEmpty key v with
     | some acc' => pairsOk inp rest acc'
     | none => true)

theorem insOk_nil (inp : Bytes) : ∀ path, insOk inp [] path = true
  | [] => rfl
  | k :: ks => by simp [insOk, clookup]

/-- the child loop of `encode_table` on the list `InlineTable::get_values` returns: `i` is the
    index of the next child, `len` the number of children -/
def encEntries (f : Bytes → Bytes) (inp : Bytes) : List (List CKey × CVal) → Nat → Nat → Bytes
  | [], _, _ => []
  | (kp, v) :: r, i, len =>
    (if i != 0 then [0x2C] else []) ++ encodeKeyPath f inp kp [0x20] [0x20] ++ [0x3D]
      ++ encodeValue f inp v [0x20] (if i + 1 == len then [0x20] else [])
      ++ encEntries f inp r (i + 1) len

theorem encEntries_append (f : Bytes → Bytes) (inp : Bytes) : ∀ (a b : List (List CKey × CVal)) (i len : Nat),
    encEntries f inp (a ++ b) i len = encEntries f inp a i len ++ encEntries f inp b (i + a.length) len
  | [], b, i, len => by simp [encEntries]
  | (kp, v) :: r, b, i, len => by
    simp only [List.cons_append, encEntries, encEntries_append f inp r b (i + 1) len, List.length_cons,
      List.append_assoc]
    have : i + 1 + r.length = i + (r.length + 1) := by omega
    rw [this]

theorem valuesInl_cons (k : CKey) (v : CVal) (r : VItems) (P : List CKey) :
    valuesInl ((k, v) :: r) P = valuesVal v (P ++ [k]) ++ valuesInl r P := by
  rw [valuesInl]

theorem valuesInl_nil (P : List CKey) : valuesInl [] P = [] := by
  rw [valuesInl]

theorem valuesInl_append : ∀ (a b : VItems) (P : List CKey),
    valuesInl (a ++ b) P = valuesInl a P ++ valuesInl b P
  | [], b, P => by simp [valuesInl_nil]
  | (k, v) :: r, b, P => by
    simp only [List.cons_append, valuesInl_cons, valuesInl_append r b P, List.append_assoc]

theorem valuesVal_undotted (v : CVal) (h : undotted v = true) (P : List CKey) : valuesVal v P = [(P, v)] := by
  cases v with
  | scalar a b c => simp [valuesVal]
  | arr a b c d e => simp [valuesVal]
  | inl sub pre imp dot dec sp =>
    have : dot = false := by simpa [undotted] using h
    subst this
    simp [valuesVal]

theorem valuesVal_dotted (sub : VItems) (pre : Raw) (imp : Bool) (dec : Decor) (sp : Option Span) (P : List CKey) :
    valuesVal (.inl sub pre imp true dec sp) P = valuesInl sub P := by
  simp [valuesVal]

/-- an entry that is a dotted inline table hands its own entries to the same loop (the third motive
    of `cval_induct`), any other entry is one entry -/
theorem encodeInl_values (f : Bytes → Bytes) (inp : Bytes) : ∀ (items : VItems) (parent : List CKey) (i len : Nat),
    encodeInl f inp items parent i len
      = (encEntries f inp (valuesInl items parent) i len, i + (valuesInl items parent).length) := by
  refine (cval_induct (P := fun _ => True) (Q := fun _ => True)
    (R := fun items => ∀ (parent : List CKey) (i len : Nat), encodeInl f inp items parent i len
      = (encEntries f inp (valuesInl items parent) i len, i + (valuesInl items parent).length))
    (fun _ _ _ => trivial) (fun _ _ _ _ _ _ => trivial) (fun _ _ _ _ _ _ _ => trivial) trivial
    (fun _ _ _ _ => trivial) ?_ ?_).2.2
  · intro parent i len
    simp [encodeInl, valuesInl_nil, encEntries]
  · intro k v r _ hsub hr parent i len
    rw [valuesInl_cons, encEntries_append, List.length_append, ← Nat.add_assoc]
    by_cases hu : undotted v = true
    · rw [encodeInl_cons_undotted f inp k _ hu, hr, valuesVal_undotted _ hu]; simp [encEntries]
    · cases v with
      | scalar a b c => exact absurd rfl hu
      | arr a b c d e => exact absurd rfl hu
      | inl sub pre imp dot dec sp =>
        have hdot : dot = true := by cases dot <;> simp [undotted] at hu ⊢
        subst hdot
        rw [encodeInl_cons_dotted, hsub sub pre imp true dec sp rfl, hr, valuesVal_dotted]

mutual
theorem countInl_values : ∀ (items : VItems) (P : List CKey), countInl items = (valuesInl items P).length
  | [], P => by simp [countInl, valuesInl_nil]
  | (k, v) :: r, P => by
    rw [countInl, valuesInl_cons, List.length_append, countInl_values r P, countVal_values v (P ++ [k])]
theorem countVal_values : ∀ (v : CVal) (P : List CKey), countVal v = (valuesVal v P).length
  | .scalar a b c, P => by simp [countVal, valuesVal]
  | .arr a b c d e, P => by simp [countVal, valuesVal]
  | .inl sub pre imp false dec sp, P => by simp [countVal, valuesVal]
  | .inl sub pre imp true dec sp, P => by
    simp only [countVal, valuesVal, if_true]
    exact countInl_values sub P
end

/-- under the check `cinlInsert` appends ONE entry to the flattened entry list; `Q` is the source
    spelling of the parent path `P` -/
theorem inl_insert (f : Bytes → Bytes) (inp : Bytes) {pe : Bool} (key : CKey) (v : CVal) (hv : undotted v = true) :
    ∀ (path : List CKey) (items : VItems) (td : Bool) (items' : VItems),
      cinlInsert items td path pe key v = some items' →
      ∀ (P Q : List CKey), insOk inp items path = true → SegsEq f inp P Q →
      ∃ X, valuesInl items' P = valuesInl items P ++ [(X, v)] ∧
        ∀ dp ds, encodeKeyPath f inp X dp ds = encodeKeyPath f inp (Q ++ path ++ [key]) dp ds := by
  have hlist : ∀ (Q : List CKey) (k0 : CKey) (ks : List CKey), Q ++ [k0] ++ ks ++ [key] = Q ++ k0 :: ks ++ [key] := by
    intro Q k0 ks; simp
  refine cinlInsert_induction ?_ ?_ ?_
  · intro items _ P Q _ hPQ
    refine ⟨P ++ [key], ?_, fun dp ds => ?_⟩
    · rw [valuesInl_append, valuesInl_cons, valuesInl_nil, valuesVal_undotted v hv, List.append_nil]
    · rw [List.append_nil]
      exact encodeKeyPath_congr f inp P Q key key dp ds hPQ (LeafEq.refl f inp key)
  · intro items k ks sub _ ih P Q _ hPQ
    obtain ⟨X, i3, i4⟩ := ih (P ++ [k]) (Q ++ [k]) (insOk_nil inp ks) (hPQ.snoc (SegEq.refl f inp k))
    refine ⟨X, ?_, fun dp ds => by rw [i4, hlist]⟩
    rw [valuesInl_append, valuesInl_cons, valuesInl_nil, newDottedInl, valuesVal_dotted, i3, valuesInl_nil]
    simp
  · intro items k ks sub pre dot dec sp sub' hl ih P Q hok hPQ
    simp only [insOk, hl] at hok
    split at hok
    · rename_i init k' sub2 pre2 imp2 dot2 dec2 sp2 hle
      obtain ⟨e1, e2, e3, e4⟩ := lastEnt_some _ _ _ _ _ hle
      rw [hl] at e4
      cases e4
      simp only [Bool.and_eq_true] at hok
      obtain ⟨⟨hseg, hdot⟩, hok2⟩ := hok
      subst hdot
      obtain ⟨X, i3, i4⟩ := ih (P ++ [k']) (Q ++ [k]) hok2 (hPQ.snoc (sameSeg_segEq f inp k k' hseg).symm)
      refine ⟨X, ?_, fun dp ds => by rw [i4, hlist]⟩
      rw [e1, creplace_snoc _ _ _ _ e2 init e3, valuesInl_append, valuesInl_append, valuesInl_cons,
        valuesInl_cons, valuesInl_nil, valuesVal_dotted, valuesVal_dotted, i3]
      simp [List.append_assoc]
    · cases hok

def tripleEntries (kvs : List Triple) : List (List CKey × CVal) := kvs.map fun p => (p.1 ++ [p.2.1], p.2.2)

def encTriples (f : Bytes → Bytes) (inp : Bytes) : List Triple → Bool → Bytes
  | [], _ => []
  | (path, key, v) :: r, first =>
    (if first then [] else [0x2C]) ++ encodeKeyPath f inp (path ++ [key]) [0x20] [0x20] ++ [0x3D]
      ++ encodeValue f inp v [] [] ++ encTriples f inp r false

theorem encTriples_false (f : Bytes → Bytes) (inp : Bytes) (l : List Triple) (hne : l ≠ []) :
    encTriples f inp l false = [0x2C] ++ encTriples f inp l true := by
  cases l with
  | nil => exact absurd rfl hne
  | cons p r => obtain ⟨path, key, v⟩ := p; simp [encTriples]

theorem encEntries_triples (f : Bytes → Bytes) (inp : Bytes) : ∀ (kvs : List Triple) (i len : Nat),
    (∀ p ∈ kvs, ∃ a b, p.2.2.decor = Decor.new a b) →
    encEntries f inp (tripleEntries kvs) i len = encTriples f inp kvs (i == 0)
  | [], i, len, _ => by simp [tripleEntries, encEntries, encTriples]
  | (path, key, v) :: r, i, len, h => by
    obtain ⟨a, b, hd⟩ := h (path, key, v) (by simp)
    have ih := encEntries_triples f inp r (i + 1) len (fun p hm => h p (List.mem_cons_of_mem _ hm))
    have hi : ((i + 1 == 0) = false) := by simp
    simp only [tripleEntries, List.map_cons] at ih ⊢
    simp only [encEntries, encTriples, ih, hi]
    rw [encodeValue_default_irrel f inp v a b hd [0x20] _ [] []]
    by_cases h0 : i = 0 <;> simp [h0]

theorem pairs_text (f : Bytes → Bytes) (inp : Bytes) : ∀ (kvs : List Triple) (acc items : VItems),
    pairsOk inp kvs acc = true → (∀ p ∈ kvs, undotted p.2.2 = true) → ctableFromPairs kvs acc = some items →
    (valuesInl items []).length = (valuesInl acc []).length + kvs.length ∧
    ∀ i len, encEntries f inp (valuesInl items []) i len
      = encEntries f inp (valuesInl acc [] ++ tripleEntries kvs) i len
  | [], acc, items, _, _, h => by
    unfold ctableFromPairs at h
    injection h with h; subst h
    simp [tripleEntries]
  | (path, key, v) :: rest, acc, items, hok, hu, h => by
    unfold ctableFromPairs at h
    unfold pairsOk at hok
    simp only [Bool.and_eq_true] at hok
    obtain ⟨hok1, hok2⟩ := hok
    split at h
    · rename_i acc' hins
      rw [hins] at hok2
      simp only [] at hok2
      obtain ⟨X, i3, i4⟩ := inl_insert f inp key v (hu (path, key, v) (by simp)) path acc false acc' hins
        [] [] hok1 .nil
      obtain ⟨j1, j2⟩ := pairs_text f inp rest acc' items hok2 (fun p hm => hu p (List.mem_cons_of_mem _ hm)) h
      refine ⟨?_, ?_⟩
      · rw [j1, i3]; simp; omega
      · intro i len
        rw [j2, i3]
        simp only [tripleEntries, List.map_cons, List.append_assoc, List.cons_append, List.nil_append]
        rw [encEntries_append, encEntries_append]
        simp only [encEntries]
        rw [i4]
        simp
    · cases h

theorem inl_body_text (f : Bytes → Bytes) (inp : Bytes) (kvs : List Triple) (items : VItems)
    (hok : pairsOk inp kvs [] = true) (hu : ∀ p ∈ kvs, undotted p.2.2 = true)
    (hd : ∀ p ∈ kvs, ∃ a b, p.2.2.decor = Decor.new a b) (h : ctableFromPairs kvs [] = some items) :
    (encodeInl f inp items [] 0 (countInl items)).1 = encTriples f inp kvs true := by
  obtain ⟨_, j2⟩ := pairs_text f inp kvs [] items hok hu h
  rw [encodeInl_values, j2, valuesInl_nil, List.nil_append, encEntries_triples f inp kvs 0 _ hd]
  rfl

def exSrc : Bytes := strBytes "{a . b = 1, a . c = [2], d = {}}"

/-- the pairs `cinlineKeyvals` reads from `exSrc` (after the opening brace) -/
def exPairs : List Triple :=
  match cinlineKeyvals exSrc.length 100 1 (exSrc.drop 1) [] with
  | .ok kvs _ => kvs
  | _ => []

/-- `lastEnt_some`, `inl_insert` at the second pair `a . c = [2]`: its prefix `a` names the last
    entry of the list built from the first pair (`lastEnt` is defined), the check holds, the value
    is undotted and `cinlInsert` succeeds -/
def exInsertHyps : Bool :=
  match exPairs with
  | [t1, t2, _] =>
    (match cinlInsert [] false t1.1 t1.1.isEmpty t1.2.1 t1.2.2 with
     | some items1 =>
       (match t2.1 with
        | k :: _ => (lastEnt k.key items1).isSome
        | [] => false) &&
       insOk exSrc items1 t2.1 && undotted t2.2.2 &&
       (cinlInsert items1 false t2.1 t2.1.isEmpty t2.2.1 t2.2.2).isSome
     | none => false)
  | _ => false

example : exInsertHyps = true := by decide +kernel

/-- `pairs_text`, `inl_body_text`, `encEntries_triples` on the three pairs of `exSrc` -/
example : exPairs.length = 3 ∧ pairsOk exSrc exPairs [] = true ∧
    (exPairs.all fun p => undotted p.2.2) = true ∧
    (exPairs.all fun p => p.2.2.decor.pre.isSome && p.2.2.decor.suf.isSome) = true ∧
    (ctableFromPairs exPairs []).isSome = true := by decide +kernel

end TomlVerif.Lemmas.Tiling03More
