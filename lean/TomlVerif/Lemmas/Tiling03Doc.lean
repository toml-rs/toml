import TomlVerif.Lemmas.CstInduct
import TomlVerif.Lemmas.Tiling03InlineRun
import TomlVerif.Lemmas.CstStateOps
/-! Tiling for C03: what the proofs for all classes of documents use.  Values of the classes that are
    decidable on the value (`simpleVal`, `flatVal`); table bodies made of `simpleVal` values and how
    the printer lists them; the pending trivia (`TrailIs`) and how `on_keyval` joins it to a key's own
    prefix. -/
namespace TomlVerif.Lemmas.Tiling03
open TomlVerif TomlVerif.Spec TomlVerif.Model TomlVerif.Model.Strings TomlVerif.Model.Value
open TomlVerif.Model.Cst TomlVerif.Model.Encode TomlVerif.Lemmas.Suffix03 TomlVerif.Lemmas.Cst03
open TomlVerif.Lemmas.LastByte03

/-- values whose inline tables use one-segment keys pass the checked run of the value parser
    (`okValue_of_simple`): for them `cvalue_tiling_dotted` needs no hypothesis on the source -/
theorem cvalue_tiling_simple (f : Bytes → Bytes) (inp : Bytes) (hf : FixOn f inp) (fuel d : Nat) (s r : Bytes)
    (v : CVal) (hs : s <:+ inp) (h : cvalue inp.length fuel d s = .ok v r) :
    ∃ t, s = t ++ r ∧ v.decor = emptyDecor ∧
      (simpleVal v = true → ∀ dp ds, encodeValue f inp v dp ds = t) :=
  let ⟨t, ht, htile⟩ := Tiling03More.cvalue_tiling_dotted f inp hf fuel d s r v hs h
  ⟨t, ht, (cvalue_undotted h).2,
    fun hsv => htile ((Tiling03More.okValue_of_simple inp fuel).1 d s v r h hsv)⟩

theorem parseCstValue_tiling (f : Bytes → Bytes) (s : Bytes) (hf : FixOn f s) (v : CVal)
    (h : parseCstValue s = some v) (hsimple : simpleVal v = true) : encodeValue f s v [] [] = s := by
  unfold parseCstValue at h
  split at h
  · rename_i v0 hv
    injection h with h; subst h
    obtain ⟨t, ht, _, htile⟩ := cvalue_tiling_simple f s hf _ 0 s [] v0 (List.suffix_refl s) hv
    rw [List.append_nil] at ht
    rw [htile hsimple [] [], ← ht]
  · cases h

theorem consumed_orEq (s t r : Bytes) (h : s = t ++ r) (hb : ∀ b ∈ t, b ≠ 0x0A) : OrEq r s := by
  rcases List.eq_nil_or_concat t with e | ⟨i, l, e⟩
  · subst e; left; simpa using h.symm
  · subst e
    right
    exact ⟨i, l, by rw [h]; simp, hb l (by simp)⟩

theorem trailEnd_orEq (s : Bytes) : OrEq (trailEnd s) s := by
  unfold trailEnd
  simp only []
  obtain ⟨w, hw⟩ := Suffix03.dropWs_suffix s
  have hwb := dropWs_consumed_ne_lf s w hw.symm
  split
  · rename_i r heq
    obtain ⟨c, hc⟩ := Suffix03.dropComment_suffix r
    have hcb := dropComment_consumed_ne_lf r c hc.symm
    refine consumed_orEq s (w ++ 0x23 :: c) _ (by
      have : s = w ++ (0x23 :: (c ++ dropComment r)) := by rw [hc, ← heq, hw]
      simpa [List.append_assoc] using this) ?_
    intro b hb
    rcases List.mem_append.1 hb with hb | hb
    · exact hwb b hb
    · rcases List.mem_cons.1 hb with hb | hb
      · subst hb; decide
      · exact hcb b hb
  · exact consumed_orEq s w _ hw.symm hwb

def simpleBody : List (CKey × CItem) → Bool
  | [] => true
  | (_, .value v) :: r => simpleVal v && simpleBody r
  | (_, .table _) :: _ => false
  | (_, .aot _ _) :: _ => false

theorem simpleBody_append : ∀ (a b : List (CKey × CItem)), simpleBody (a ++ b) = (simpleBody a && simpleBody b)
  | [], b => by simp [simpleBody]
  | (k, .value v) :: r, b => by simp [simpleBody, simpleBody_append r b, Bool.and_assoc]
  | (k, .table _) :: r, b => by simp [simpleBody]
  | (k, .aot _ _) :: r, b => by simp [simpleBody]

theorem valuesTbl_append : ∀ (a b : List (CKey × CItem)) (p : List CKey),
    valuesTbl (a ++ b) p = valuesTbl a p ++ valuesTbl b p
  | [], b, p => by simp [valuesTbl]
  | (k, it) :: r, b, p => by
    have ih := valuesTbl_append r b p
    cases it with
    | table t => simp [valuesTbl, ih]
    | aot ts sp => simp [valuesTbl, ih]
    | value v => cases v <;> simp [valuesTbl, ih]

theorem _root_.TomlVerif.Lemmas.Tiling03More.valuesTbl_mid_table (A B : List (CKey × CItem)) (k : CKey) (c : CTbl) (hc : c.dotted = false) (p : List CKey) :
    valuesTbl (A ++ (k, .table c) :: B) p = valuesTbl A p ++ valuesTbl B p := by
  rw [valuesTbl_append]
  obtain ⟨items, imp, dot, q, dec, sp⟩ := c
  simp only [CTbl.dotted] at hc
  subst hc
  simp [valuesTbl, valuesDotted]

theorem _root_.TomlVerif.Lemmas.Tiling03More.valuesTbl_mid_aot (A B : List (CKey × CItem)) (k : CKey) (ts : List CTbl) (asp : Option Span) (p : List CKey) :
    valuesTbl (A ++ (k, .aot ts asp) :: B) p = valuesTbl A p ++ valuesTbl B p := by
  rw [valuesTbl_append]
  simp [valuesTbl]

theorem encodeBody_append (f : Bytes → Bytes) (inp : Bytes) : ∀ (a b : List (List CKey × CVal)),
    encodeBody f inp (a ++ b) = encodeBody f inp a ++ encodeBody f inp b
  | [], b => by simp [encodeBody]
  | (kp, v) :: r, b => by
    simp only [List.cons_append, encodeBody, encodeBody_append f inp r b, List.append_assoc]

theorem visitItems_simple : ∀ (items : List (CKey × CItem)) (path : List CKey) (st : Nat × List Entry),
    simpleBody items = true → visitItems items path st = st
  | [], _, _, _ => by simp [visitItems]
  | (k, .value v) :: r, path, st, h => by
    simp only [simpleBody, Bool.and_eq_true] at h
    rw [visitItems]; exact visitItems_simple r path st h.2
  | (k, .table _) :: r, _, _, h => by simp [simpleBody] at h
  | (k, .aot _ _) :: r, _, _, h => by simp [simpleBody] at h

/-- the pending `trailing` span covers exactly the text `tr` before `s` -/
def TrailIs (n : Nat) (t : Option Span) (tr s : Bytes) : Prop :=
  (t = none ∧ tr = []) ∨ t = some (pos n (tr ++ s), pos n s)

theorem trailIs_text (inp : Bytes) (t : Option Span) (tr s : Bytes) (h : TrailIs inp.length t tr s)
    (hs : tr ++ s <:+ inp) : rawText inp (takeTrailing t) = tr := by
  rcases h with ⟨h1, h2⟩ | h
  · subst h1; subst h2; rfl
  · subst h
    exact rawText_between inp (tr ++ s) tr s hs rfl

theorem trailIs_onWs (n : Nat) (st : CState) (tr w s' : Bytes) (h : TrailIs n st.trailing tr (w ++ s')) :
    TrailIs n (onWs st (pos n (w ++ s')) (pos n s')).trailing (tr ++ w) s' := by
  unfold onWs
  rcases h with ⟨h1, h2⟩ | h
  · subst h2
    simp only [h1]
    right; simp
  · simp only [h]
    right; simp [List.append_assoc]

/-- the good states: no header seen, the root being built holds simple values, and what has been
    recorded prints as the consumed text (`body`: up to the end of the last key/value line, `tr`:
    the pending trivia) -/
def Good (f : Bytes → Bytes) (inp base : Bytes) (st : CState) (s : Bytes) : Prop :=
  st.root = CTbl.empty ∧ st.currentPath = [] ∧
  ∃ items imp p sp body tr eol, st.current = .mk items imp false p {} sp ∧ simpleBody items = true ∧
    TrailIs inp.length st.trailing tr s ∧ inp = base ++ body ++ tr ++ s ∧
    encodeBody f inp (valuesTbl items []) = body ++ eol ∧
    (eol = [] ∨ (eol = [0x0A] ∧ s = [] ∧ tr = [] ∧ body.getLast? ≠ some 0x0A))

theorem good_suffix {f : Bytes → Bytes} {inp base : Bytes} {st : CState} {s : Bytes}
    (h : Good f inp base st s) : s <:+ inp := by
  obtain ⟨_, _, items, imp, p, sp, body, tr, eol, _, _, _, h6, _⟩ := h
  exact ⟨base ++ body ++ tr, h6.symm⟩

/-- `on_keyval` merges the pending trivia with the blanks before the key into one span: its text is
    the trivia `tr` followed by those blanks `kw1` (the two are adjacent in the input) -/
theorem mergePre_text (inp : Bytes) (t : Option Span) (tr s kw1 s0 : Bytes) (h : TrailIs inp.length t tr s)
    (hs : tr ++ s <:+ inp) (hk : s = kw1 ++ s0) :
    rawText inp (takeTrailing (mergeSpan t (rawBetween inp.length s s0).span)) = tr ++ kw1 := by
  unfold mergeSpan
  have hs0 : s <:+ inp := (List.suffix_append tr s).trans hs
  have hkw : rawText inp (rawBetween inp.length s s0) = kw1 := rawText_between inp s kw1 s0 hs0 hk
  have e2 : pos inp.length s0 = pos inp.length s + kw1.length := by
    obtain ⟨p, hp⟩ := hs0
    rw [← hp, hk]; simp [pos]; omega
  cases hsp : (rawBetween inp.length s s0).span with
  | none =>
    have : kw1 = [] := by
      unfold rawBetween Raw.withSpan at hsp hkw
      split at hsp
      · rename_i he; simp only [he, if_true] at hkw; exact hkw.symm
      · simp [Raw.span] at hsp
    subst this
    rcases h with ⟨h1, h2⟩ | h
    · subst h1; subst h2; rfl
    · subst h
      simp only [List.append_nil]
      exact rawText_between inp (tr ++ s) tr s hs rfl
  | some k =>
    have hk2 : k = (pos inp.length s, pos inp.length s0) := by
      unfold rawBetween Raw.withSpan at hsp
      split at hsp
      · simp [Raw.span] at hsp
      · simp [Raw.span] at hsp; exact hsp.symm
    subst hk2
    rcases h with ⟨h1, h2⟩ | h
    · subst h1; subst h2
      simp only [List.nil_append]
      have : takeTrailing (some (pos inp.length s, pos inp.length s0)) = rawBetween inp.length s s0 := rfl
      rw [this]; exact hkw
    · subst h
      have : takeTrailing (some (pos inp.length (tr ++ s), pos inp.length s0)) = rawBetween inp.length (tr ++ s) s0 := rfl
      simp only []
      rw [this]
      exact rawText_between inp (tr ++ s) (tr ++ kw1) s0 hs (by rw [hk]; simp)

end TomlVerif.Lemmas.Tiling03

namespace TomlVerif.Lemmas.Cst03
open TomlVerif TomlVerif.Model TomlVerif.Model.Cst TomlVerif.Model.Encode TomlVerif.Lemmas.Tiling03

theorem flatVal_simpleVal :
    (∀ v, flatVal v = true → simpleVal v = true) ∧ (∀ l, flatVals l = true → simpleVals l = true) := by
  have h := cval_induct (P := fun v => flatVal v = true → simpleVal v = true)
    (Q := fun l => flatVals l = true → simpleVals l = true) (R := fun _ => True)
    (fun _ _ _ _ => rfl)
    (fun items _ _ _ _ ih hf => by simp only [flatVal] at hf; simp only [simpleVal]; exact ih hf)
    (fun _ _ _ _ _ _ _ hf => by simp only [flatVal] at hf; cases hf)
    (fun _ => rfl)
    (fun v r ihv ihr hf => by
      simp only [flatVals, Bool.and_eq_true] at hf
      simp only [simpleVals, Bool.and_eq_true]
      exact ⟨ihv hf.1, ihr hf.2⟩)
    trivial (fun _ _ _ _ _ _ => trivial)
  exact ⟨h.1, h.2.1⟩

end TomlVerif.Lemmas.Cst03
