import TomlVerif.Lemmas.ScalarDispatch01
import TomlVerif.Lemmas.Consumed
/-! Locality of the scalar readers: what `integer`, `float` and `date_time` return depends only on the bytes they
    consume, as long as what follows cannot continue the token; this is what makes the consumed text a scalar token
    (`ScalarOK`).  An accepted token is a text of its reader's characterisation (`integer_inv`, `floatLit_inv`,
    `dateTime_ok` …), and such a text is read the same way before any other continuation that ends it. -/
namespace TomlVerif.Lemmas.Sound01
open TomlVerif TomlVerif.Spec TomlVerif.Model TomlVerif.Model.Strings TomlVerif.Model.Value
open TomlVerif.Spec.AstValue TomlVerif.Lemmas.Value01 TomlVerif.Lemmas.Scalars01
open TomlVerif.Model.Numbers TomlVerif.Lemmas.Numbers11

theorem stops_of_follow (isD : Byte → Bool) (rest : Bytes) (hr : ValFollow rest)
    (hD : ∀ b, isFollowByte b = true → isD b = false) : Stops isD rest := by
  cases rest with
  | nil => trivial
  | cons b r => exact ⟨hD b hr, (follow_ne_num b hr).1⟩

theorem noRadix_of_follow (rest : Bytes) (hr : ValFollow rest) : NoRadix rest := by
  cases rest with
  | nil => trivial
  | cons b r => exact follow_ne_radix b hr

theorem radix_facts {c : Byte} {isD : Byte → Bool} {base : Nat} (h : Radix c isD base) :
    (c = 0x78 ∨ c = 0x6F ∨ c = 0x62) ∧ isD 0x5F = false ∧ (∀ b, isFollowByte b = true → isD b = false) ∧
      ∀ u, integer (0x30 :: c :: u) = prefixedInt isD base u := by
  rcases h with ⟨rfl, rfl, rfl⟩ | ⟨rfl, rfl, rfl⟩ | ⟨rfl, rfl, rfl⟩
  · exact ⟨.inl rfl, isHexdig_under, fun b hb => (follow_no_digit b hb).1, integer_hex⟩
  · exact ⟨.inr (.inl rfl), isDigit0_7_under, fun b hb => (follow_no_digit b hb).2.1, integer_oct⟩
  · exact ⟨.inr (.inr rfl), isDigit0_1_under, fun b hb => (follow_no_digit b hb).2.2, integer_bin⟩

theorem integer_local (s rest : Bytes) (n : Int) (h : integer s = .ok n rest) :
    ∃ tok, s = tok ++ rest ∧ (∃ sign d X, tok = signBytes sign ++ d :: X ∧ isDigit d = true) ∧
      ∀ rest', ValFollow rest' → integer (tok ++ rest') = .ok n rest' ∧ float (tok ++ rest') = .bt := by
  obtain ⟨hin, ⟨c, isD, base, groups, hR, hg, rfl, _, rfl⟩ | ⟨sign, groups, hg, hz, rfl, _, rfl⟩⟩ := integer_inv s rest n h
  · obtain ⟨hc, hU, hD, e2⟩ := radix_facts hR
    refine ⟨0x30 :: c :: joinU groups, rfl, ⟨none, 0x30, c :: joinU groups, rfl, by decide⟩, fun rest' hr => ?_⟩
    refine ⟨?_, float_radix c _ hc⟩
    rw [List.cons_append, List.cons_append, e2,
      prefixedInt_lit isD base hU groups rest' hg (stops_of_follow isD rest' hr hD), if_pos hin]
  · obtain ⟨d, m, e, hd, _⟩ := (joinU_text hg).1
    refine ⟨signBytes sign ++ joinU groups, rfl, ⟨sign, d, m, by rw [e], hd⟩, fun rest' hr => ?_⟩
    refine ⟨?_, float_bt_dec sign groups rest' hg hz hr⟩
    rw [integer_dec_lit sign groups rest' hg hz
      (stops_of_follow isDigit rest' hr follow_not_digit)
      (fun _ _ => noRadix_of_follow rest' hr), if_pos hin]

theorem floatLit_local (s rest : Bytes) (l : FloatLit) (h : floatLit s = .ok l rest) :
    ∃ tok, s = tok ++ rest ∧ (∃ sign d X, tok = signBytes sign ++ d :: X ∧ isDigit d = true) ∧
      ∀ rest', FloatStops rest' → floatLit (tok ++ rest') = .ok l rest' := by
  obtain ⟨sign, ig, hi, hz, hAB⟩ := floatLit_inv s rest l h
  obtain ⟨d, m, e, hd, _⟩ := (joinU_text hi).1
  rcases hAB with ⟨fg, hf, _, rfl, rfl⟩ | ⟨frac, c, esign, eg, hf, hc, hg, _, rfl, rfl⟩
  · refine ⟨signBytes sign ++ joinU ig ++ 0x2E :: joinU fg, by simp, ⟨sign, d, m ++ 0x2E :: joinU fg, by rw [e]; simp, hd⟩,
      fun rest' hs => ?_⟩
    have := floatLit_frac sign ig fg rest' hi hz hf hs
    rwa [show signBytes sign ++ joinU ig ++ 0x2E :: (joinU fg ++ rest') =
      signBytes sign ++ joinU ig ++ 0x2E :: joinU fg ++ rest' from by simp] at this
  · refine ⟨signBytes sign ++ joinU ig ++ (fracBytes frac ++ c :: (signBytes esign ++ joinU eg)), by simp,
      ⟨sign, d, m ++ (fracBytes frac ++ c :: (signBytes esign ++ joinU eg)), by rw [e]; simp, hd⟩, fun rest' hs => ?_⟩
    have := floatLit_exp sign ig frac c esign eg rest' hi hz hf hc hg hs.stops
    rwa [show signBytes sign ++ joinU ig ++ (fracBytes frac ++ c :: (signBytes esign ++ joinU eg ++ rest')) =
      signBytes sign ++ joinU ig ++ (fracBytes frac ++ c :: (signBytes esign ++ joinU eg)) ++ rest' from by simp] at this

theorem startsWith_self (p t : Bytes) : startsWith p (p ++ t) = some t := by
  simp [startsWith]

theorem specialBody_local (sgn : Nat) (r rest : Bytes) (b : Nat) (h : specialBody sgn r = .ok b rest) :
    ∃ c kw, r = c :: kw ++ rest ∧ (c = 0x69 ∨ c = 0x6E) ∧ ∀ rest', specialBody sgn (c :: kw ++ rest') = .ok b rest' := by
  unfold specialBody at h
  split at h
  · rename_i t ht
    injection h with h1 h2
    subst h1 h2
    refine ⟨0x69, [0x6E, 0x66], Suffix03.startsWith_eq _ _ _ ht, Or.inl rfl, ?_⟩
    intro rest'
    unfold specialBody
    have : startsWith [0x69, 0x6E, 0x66] (0x69 :: [0x6E, 0x66] ++ rest') = some rest' := startsWith_self [0x69, 0x6E, 0x66] rest'
    rw [this]
  · split at h
    · rename_i t ht
      injection h with h1 h2
      subst h1 h2
      refine ⟨0x6E, [0x61, 0x6E], Suffix03.startsWith_eq _ _ _ ht, Or.inr rfl, ?_⟩
      intro rest'
      unfold specialBody
      have h1 : startsWith [0x69, 0x6E, 0x66] (0x6E :: [0x61, 0x6E] ++ rest') = none := by simp [startsWith]
      have h2 : startsWith [0x6E, 0x61, 0x6E] (0x6E :: [0x61, 0x6E] ++ rest') = some rest' := startsWith_self [0x6E, 0x61, 0x6E] rest'
      rw [h1]
      simp only [h2]
    · cases h

theorem decBody_bt_letter (neg sg : Bool) (c : Byte) (X : Bytes) (hc : c = 0x69 ∨ c = 0x6E) :
    decBody neg sg (c :: X) = .bt := by
  rcases hc with rfl | rfl <;> rfl

theorem floatLit_bt_of_decInt (s : Bytes) (h : decInt s = .bt) : floatLit s = .bt := by
  unfold floatLit; rw [h]

theorem specialFloat_local (s rest : Bytes) (b : Nat) (h : specialFloat s = .ok b rest) :
    ∃ tok, s = tok ++ rest ∧ tok ≠ [] ∧
      ∀ rest', specialFloat (tok ++ rest') = .ok b rest' ∧ floatLit (tok ++ rest') = .bt := by
  cases s with
  | nil => rw [specialFloat_nil] at h; cases h
  | cons c r =>
    by_cases h1 : c = 0x2B
    · subst h1
      rw [specialFloat_plus] at h
      obtain ⟨c2, kw, e, hc2, hloc⟩ := specialBody_local _ _ _ _ h
      refine ⟨0x2B :: c2 :: kw, by rw [e]; simp, by simp, fun rest' => ⟨?_, ?_⟩⟩
      · rw [List.cons_append, specialFloat_plus]; exact hloc rest'
      · apply floatLit_bt_of_decInt
        rw [List.cons_append, decInt_plus]
        exact decBody_bt_letter _ _ _ _ hc2
    · by_cases h2 : c = 0x2D
      · subst h2
        rw [specialFloat_minus] at h
        obtain ⟨c2, kw, e, hc2, hloc⟩ := specialBody_local _ _ _ _ h
        refine ⟨0x2D :: c2 :: kw, by rw [e]; simp, by simp, fun rest' => ⟨?_, ?_⟩⟩
        · rw [List.cons_append, specialFloat_minus]; exact hloc rest'
        · apply floatLit_bt_of_decInt
          rw [List.cons_append, decInt_minus]
          exact decBody_bt_letter _ _ _ _ hc2
      · rw [specialFloat_nosign c r h1 h2] at h
        obtain ⟨c2, kw, e, hc2, hloc⟩ := specialBody_local _ _ _ _ h
        have hc2' : c2 ≠ 0x2B ∧ c2 ≠ 0x2D := by rcases hc2 with rfl | rfl <;> exact ⟨by decide, by decide⟩
        refine ⟨c2 :: kw, e, by simp, fun rest' => ⟨?_, ?_⟩⟩
        · rw [List.cons_append, specialFloat_nosign c2 _ hc2'.1 hc2'.2]; exact hloc rest'
        · apply floatLit_bt_of_decInt
          rw [List.cons_append, decInt_nosign c2 _ hc2'.1 hc2'.2]
          exact decBody_bt_letter _ _ _ _ hc2

theorem float_local (s rest : Bytes) (bits : Nat) (h : float s = .ok bits rest) :
    ∃ tok, s = tok ++ rest ∧ tok ≠ [] ∧ ∀ rest', ValFollow rest' → float (tok ++ rest') = .ok bits rest' := by
  cases hl : floatLit s with
  | cut => unfold float at h; rw [hl] at h; cases h
  | ok l r0 =>
    unfold float at h
    rw [hl] at h
    simp only [] at h
    split at h
    · cases h
    · rename_i hfin
      injection h with h1 h2
      subst h1 h2
      obtain ⟨tok, e, ⟨sign, d, X, et, _⟩, hloc⟩ := floatLit_local _ _ _ hl
      refine ⟨tok, e, by rw [et]; cases sign <;> simp [signBytes], ?_⟩
      intro rest' hr
      unfold float
      rw [hloc rest' (floatStops_of_follow rest' hr)]
      simp only [hfin]
      rfl
  | bt =>
    unfold float at h
    rw [hl] at h
    simp only [] at h
    obtain ⟨tok, e, hne, hloc⟩ := specialFloat_local _ _ _ h
    refine ⟨tok, e, hne, ?_⟩
    intro rest' _
    unfold float
    rw [(hloc rest').2]
    exact (hloc rest').1

open TomlVerif.Model.Datetime TomlVerif.Lemmas.Datetime12

theorem fullDate_ne_bt (a b c d : Byte) (X : Bytes) (ha : isDigit a = true) (hb : isDigit b = true)
    (hc : isDigit c = true) (hd : isDigit d = true) : Doc.fullDate (a :: b :: c :: d :: 0x2D :: X) ≠ .bt := by
  intro h
  refine (fullDate_bt_iff _).1 h (dval a * 1000 + dval b * 100 + dval c * 10 + dval d) X ?_
  rw [digits4, ha, hb, hc, hd]; rfl

theorem partialTime_ne_bt (a b : Byte) (X : Bytes) (ha : isDigit a = true) (hb : isDigit b = true)
    (hh : dval a * 10 + dval b ≤ 23) : Doc.partialTime (a :: b :: 0x3A :: X) ≠ .bt := by
  intro h
  refine Nat.not_lt.2 hh ((partialTime_bt_iff _).1 h _ X ?_)
  rw [digits2, ha, hb]; rfl

/-- whether `date_time` backtracks is decided inside the token -/
theorem dateTime_bt_transfer (tok rest rest' : Bytes) (h : Doc.dateTime (tok ++ rest) = .bt) (hr : DtStops rest') :
    Doc.dateTime (tok ++ rest') = .bt := by
  rw [dateTime_bt_iff] at h ⊢
  refine ⟨fullDate_bt_of tok rest' hr ?_, partialTime_bt_of tok rest' hr ?_⟩
  · rintro a b c d X rfl ha hb hc hd
    exact fullDate_ne_bt a b c d (X ++ rest) ha hb hc hd (by simpa using h.1)
  · rintro a b X rfl ha hb hh
    exact partialTime_ne_bt a b (X ++ rest) ha hb hh (by simpa using h.2)

theorem dtStops_of_follow (rest : Bytes) (hr : ValFollow rest) : DtStops rest := by
  intro b r e
  subst e
  exact ⟨follow_not_digit b hr, follow_ne_dt b hr⟩

theorem fullDate_local (s r : Bytes) (d : Date) (h : Doc.fullDate s = .ok d r) :
    ∃ tok, s = tok ++ r ∧ (∃ a X, tok = a :: X ∧ isDigit a = true) ∧ ∀ r', Doc.fullDate (tok ++ r') = .ok d r' := by
  obtain ⟨r1, r2, h4, hm, hd, c⟩ := (fullDate_ok_iff s r d).1 h
  obtain ⟨a, b, c', dd, e4, ha, _, _, _, loc4⟩ := digits4_split _ _ _ h4
  obtain ⟨m1, m2, e2, _, _, _, loc2⟩ := digits2_split _ _ _ hm
  obtain ⟨d1, d2, e3, _, _, _, loc3⟩ := digits2_split _ _ _ hd
  refine ⟨[a, b, c', dd, 0x2D, m1, m2, 0x2D, d1, d2], by rw [e4, e2, e3]; rfl, ⟨a, _, rfl, ha⟩, fun r' => ?_⟩
  exact (fullDate_ok_iff _ r' d).2 ⟨_, _, loc4 _, loc2 _, loc3 _, c⟩

theorem takeDigits_eq (w : Bytes) : w = (takeDigits w).1 ++ (takeDigits w).2 := by
  induction w with
  | nil => simp [takeDigits]
  | cons a r ih =>
    rw [takeDigits_cons]
    by_cases h : isDigit a = true
    · simp only [h, if_true, List.cons_append]; rw [← ih]
    · simp [h]

theorem secfrac_local (s r : Bytes) (ns : Nat) (h : Doc.secfracOpt s = (ns, r)) :
    ∃ tok, s = tok ++ r ∧ (∀ c X, tok = c :: X → isDigit c = false) ∧
      ∀ r', TimeFollow r' → Doc.secfracOpt (tok ++ r') = (ns, r') := by
  have hnil : ∀ r0, (0, r0) = (ns, r) → ∃ tok, r0 = tok ++ r ∧ (∀ c X, tok = c :: X → isDigit c = false) ∧
      ∀ r', TimeFollow r' → Doc.secfracOpt (tok ++ r') = (ns, r') := by
    intro r0 e
    injection e with e1 e2
    subst e1 e2
    exact ⟨[], rfl, (fun c X e => by cases e), fun r' hr => secfracOpt_none r' hr⟩
  cases s with
  | nil => exact hnil [] (by rw [← h]; rfl)
  | cons b w =>
    by_cases hb : b = 0x2E
    · subst hb
      rw [secfracOpt_dot] at h
      by_cases hds : (takeDigits w).1 = []
      · rw [if_pos hds] at h
        exact hnil _ h
      · rw [if_neg hds] at h
        injection h with h1 h2
        subst h1 h2
        have hw := takeDigits_eq w
        have hsnd := takeDigits_snd w
        refine ⟨0x2E :: (takeDigits w).1, ?_, ?_, ?_⟩
        · rw [← hsnd]; simp only [List.cons_append]; rw [← hw]
        · intro c X e; injection e with e1 _; rw [← e1]; decide
        · intro r' hr
          have htd := takeDigits_append (takeDigits w).1 r' (takeDigits_all w) (fun b r'' e => (hr b r'' e).1)
          rw [List.cons_append, secfracOpt_dot, htd]
          simp only [hds, if_false, List.drop_left]
    · have : Doc.secfracOpt (b :: w) = (0, b :: w) := by
        unfold Doc.secfracOpt
        split
        · rename_i heq; injection heq with heq _; exact absurd heq hb
        · rfl
      rw [this] at h
      exact hnil _ h

theorem partialTime_local (s r : Bytes) (t : Time) (h : Doc.partialTime s = .ok t r) :
    ∃ tok, s = tok ++ r ∧ (∃ a b X, tok = a :: b :: 0x3A :: X ∧ isDigit a = true) ∧
      ∀ r', TimeFollow r' → Doc.partialTime (tok ++ r') = .ok t r' := by
  obtain ⟨r1, r2, r3, hh, hm, hs, hf, c⟩ := (partialTime_ok_iff s r t).1 h
  obtain ⟨a, b, e1, ha, _, _, loc1⟩ := digits2_split _ _ _ hh
  obtain ⟨m1, m2, e2, _, _, _, loc2⟩ := digits2_split _ _ _ hm
  obtain ⟨s1, s2, e3, _, _, _, loc3⟩ := digits2_split _ _ _ hs
  obtain ⟨tokF, eF, _, locF⟩ := secfrac_local _ _ _ hf
  refine ⟨a :: b :: 0x3A :: m1 :: m2 :: 0x3A :: s1 :: s2 :: tokF, by rw [e1, e2, e3, eF]; rfl, ⟨a, b, _, rfl, ha⟩,
    fun r' hr => ?_⟩
  exact (partialTime_ok_iff _ r' t).2 ⟨_, _, _, loc1 _, loc2 _, loc3 _, locF r' hr, c⟩

theorem timeOffset_local (s r : Bytes) (o : Offset) (h : Doc.timeOffset s = .ok o r) :
    ∃ tok, s = tok ++ r ∧ (∃ c X, tok = c :: X ∧ isDigit c = false ∧ c ≠ 0x2E) ∧
      ∀ r', Doc.timeOffset (tok ++ r') = .ok o r' := by
  rcases (timeOffset_ok_text s r o).1 h with ⟨c, hc, rfl, rfl⟩ | ⟨c, hh, mm, hc, h1, h2, rfl, rfl⟩
  · exact ⟨[c], rfl, ⟨c, [], rfl, by rcases hc with rfl | rfl <;> decide⟩,
      fun r' => (timeOffset_ok_text _ r' _).2 (.inl ⟨c, hc, rfl, rfl⟩)⟩
  · exact ⟨c :: (Std.pad 2 hh ++ 0x3A :: Std.pad 2 mm), by simp, ⟨c, _, rfl, by rcases hc with rfl | rfl <;> decide⟩,
      fun r' => (timeOffset_ok_text _ r' _).2 (.inr ⟨c, hh, mm, hc, h1, h2, by simp, rfl⟩)⟩

theorem date_only_follow (rest' : Bytes) (hr : ValFollowS rest') :
    ∀ c r', rest' = c :: r' → Doc.isTimeDelim c = true → Doc.partialTime r' = .bt := by
  intro c r' e hc
  subst e
  have hc' := (follow_dt_facts c hr.1).2.2.2 hc
  subst hc'
  exact partialTime_bt_nodigit r' (fun b r e => hr.2 b r (by rw [e]))

theorem dateTime_local (s rest : Bytes) (dt : Datetime) (h : Doc.dateTime s = .ok dt rest) :
    ∃ tok, s = tok ++ rest ∧ (∃ a X, tok = a :: X ∧ isDigit a = true) ∧
      ∀ rest', ValFollowS rest' → Doc.dateTime (tok ++ rest') = .ok dt rest' := by
  cases dateTime_ok h with
  | date hf _ =>
    obtain ⟨tokD, eD, hhead, locD⟩ := fullDate_local _ _ _ hf
    exact ⟨tokD, eD, hhead, fun rest' hr => dateTime_of_ok (.date (locD rest') (date_only_follow rest' hr))⟩
  | @dateTime d c r' t r'' hf hc hp ho =>
    obtain ⟨tokD, eD, ⟨a, X, et, ha⟩, locD⟩ := fullDate_local _ _ _ hf
    obtain ⟨tokT, eT, _, locT⟩ := partialTime_local _ _ _ hp
    refine ⟨tokD ++ c :: tokT, by rw [eD, eT]; simp, ⟨a, X ++ c :: tokT, by rw [et]; rfl, ha⟩, fun rest' hr => ?_⟩
    rw [List.append_assoc, List.cons_append]
    exact dateTime_of_ok (.dateTime (locD _) hc (locT rest' (timeFollow_of_follow rest' hr.1))
      (timeOffset_bt_follow rest' hr.1))
  | @offset d c r' t r'' o r3 hf hc hp ho =>
    obtain ⟨tokD, eD, ⟨a, X, et, ha⟩, locD⟩ := fullDate_local _ _ _ hf
    obtain ⟨tokT, eT, _, locT⟩ := partialTime_local _ _ _ hp
    obtain ⟨tokO, eO, ⟨co, XO, eto, hco⟩, locO⟩ := timeOffset_local _ _ _ ho
    refine ⟨tokD ++ c :: (tokT ++ tokO), by rw [eD, eT, eO]; simp, ⟨a, X ++ c :: (tokT ++ tokO), by rw [et]; rfl, ha⟩,
      fun rest' _ => ?_⟩
    rw [List.append_assoc, List.cons_append, List.append_assoc]
    refine dateTime_of_ok (.offset (locD _) hc (locT _ ?_) (locO rest'))
    intro b r4 e
    rw [eto, List.cons_append] at e
    injection e with e1 _
    rw [← e1]; exact hco
  | time hf hp =>
    obtain ⟨tokT, eT, ⟨a, b, X, et, ha⟩, locT⟩ := partialTime_local _ _ _ hp
    refine ⟨tokT, eT, ⟨a, _, et, ha⟩, fun rest' hr => ?_⟩
    refine dateTime_of_ok (.time ?_ (locT rest' (timeFollow_of_follow rest' hr.1)))
    rw [et]; exact fullDate_colon a b _

theorem dateTime_head {s r : Bytes} {dt : Datetime} (h : Doc.dateTime s = .ok dt r) :
    ∃ b t, s = b :: t ∧ isDigit b = true := by
  obtain ⟨tok, e, ⟨a, X, et, ha⟩, _⟩ := dateTime_local s r dt h
  exact ⟨a, X ++ r, by rw [e, et]; rfl, ha⟩

end TomlVerif.Lemmas.Sound01
