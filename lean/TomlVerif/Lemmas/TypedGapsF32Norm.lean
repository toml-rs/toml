import TomlVerif.Lemmas.TypedGapsF32
import TomlVerif.Lemmas.SerTyped07Core
/-! C07, reading back: `normDec` writes what an `f32` comes back as as the composition
    `f64ToF32 (cf (clearNanSign (f32to64 b)))` (`f32F cf`).
    With `T07_f32_widen_narrow` (Lemmas/TypedGapsF32.lean) that composition is `normF32`: the identity on every `f32`
    that is not a NaN, the default quiet NaN `0x7FC00000` on a NaN — for a tree (`cf = id`) and for a text
    (`cf = canonFloat`) alike.  `normDecV` applies its `g32` argument only at the `f32` leaves of a well-typed value, below
    `2 ^ 32` (`normDecV_congr32`), so the identification carries over to whole values. -/
namespace TomlVerif.Lemmas.TypedGaps
open TomlVerif TomlVerif.Model TomlVerif.Model.TomlValue TomlVerif.Model.DeTyped
open TomlVerif.Model.SerTyped TomlVerif.Spec TomlVerif.Spec.Serde
open TomlVerif.Spec.Encode06 (canonFloat)
open TomlVerif.Lemmas.TypedGapsF32

def normF32 (b : Nat) : Nat := if isNaN32 b then 0x7FC00000 else b

theorem f32to64_nan (b : Nat) (hn : isNaN32 b = true) :
    ∃ s m, s < 2 ∧ 0 < m ∧ m < 2 ^ 23 ∧ f32to64 b = s * 2 ^ 63 + 2047 * 2 ^ 52 + m * 2 ^ 29 := by
  simp only [isNaN32, Bool.and_eq_true, beq_iff_eq, bne_iff_ne, ne_eq] at hn
  refine ⟨b / 2 ^ 31 % 2, b % 2 ^ 23, Nat.mod_lt _ (by decide), Nat.pos_of_ne_zero hn.2, Nat.mod_lt _ (by decide), ?_⟩
  rw [f32to64_eq_widen, hn.1]
  unfold widen
  simp

theorem narrow_nan (M : Nat) (h0 : 0 < M) (hM : M < 2 ^ 52) : f64ToF32 (2047 * 2 ^ 52 + M) = 0x7FC00000 := by
  have := f64ToF32_nan 0 M (by decide) h0 hM
  rwa [Nat.zero_mul, Nat.zero_add, Nat.zero_add] at this

theorem clearNanSign_nan (s m : Nat) (h0 : 0 < m) (hm : m < 2 ^ 23) :
    clearNanSign (s * 2 ^ 63 + 2047 * 2 ^ 52 + m * 2 ^ 29) = 2047 * 2 ^ 52 + m * 2 ^ 29 := by
  have h3 : (m * 2 ^ 29 != 0) = true := by simp; omega
  rw [clearNanSign_fields (by decide) (by omega), h3]; rfl

theorem f32F_id_nan (b : Nat) (hn : isNaN32 b = true) : f32F id b = 0x7FC00000 := by
  obtain ⟨s, m, hs, h0, hm, e⟩ := f32to64_nan b hn
  simp only [f32F, id, e, clearNanSign_nan s m h0 hm]
  exact narrow_nan (m * 2 ^ 29) (by omega) (by omega)

theorem f32F_canon_nan (b : Nat) (hn : isNaN32 b = true) : f32F canonFloat b = 0x7FC00000 := by
  obtain ⟨s, m, hs, h0, hm, e⟩ := f32to64_nan b hn
  have h3 : (m * 2 ^ 29 != 0) = true := by simp; omega
  -- the canonical NaN `nanBits` is `2047 · 2^52 + 2^51`
  have hc : canonFloat (2047 * 2 ^ 52 + m * 2 ^ 29) = 2047 * 2 ^ 52 + 2 ^ 51 := by
    have := canonFloat_fields (s := 0) (E := 2047) (M := m * 2 ^ 29) (by decide) (by omega)
    rw [Nat.zero_mul, Nat.zero_add, h3] at this
    rw [this]; rfl
  unfold f32F
  rw [e, clearNanSign_nan s m h0 hm, hc]
  exact narrow_nan _ (by decide) (by decide)

theorem f32F_id (b : Nat) (hb : b < 2 ^ 32) : f32F id b = normF32 b := by
  unfold normF32
  cases hn : isNaN32 b with
  | true => simp only [if_true]; exact f32F_id_nan b hn
  | false => simp only [Bool.false_eq_true, if_false]; exact f64ToF32_clear_widen b hb hn

theorem f32F_canon (b : Nat) (hb : b < 2 ^ 32) : f32F canonFloat b = normF32 b := by
  unfold normF32
  cases hn : isNaN32 b with
  | true => simp only [if_true]; exact f32F_canon_nan b hn
  | false => simp only [Bool.false_eq_true, if_false]; exact f64ToF32_canon_clear_widen b hb hn

theorem normDecV_congr32_all (g64 g32 g32' : Nat → Nat) (lf : TV → TV) (hg : ∀ b, b < 2 ^ 32 → g32 b = g32' b) :
    (∀ (ty : Ty) (d : Dec), WellTyped ty d = true → normDecV g64 g32 lf ty d = normDecV g64 g32' lf ty d) ∧
    (∀ (ts : Tys) (l : List Dec), WellTypedTys ts l = true → normTysV g64 g32 lf ts l = normTysV g64 g32' lf ts l) ∧
    (∀ (fs : Fields) (l : List (Bytes × Dec)), WellTypedFields fs l = true →
      normFieldsV g64 g32 lf fs l = normFieldsV g64 g32' lf fs l) ∧
    (∀ (s : Shape) (d : Dec), WellTypedShape s d = true → normShapeV g64 g32 lf s d = normShapeV g64 g32' lf s d) ∧
    (∀ (vs : Variants) (d : Dec), WellTypedVariants vs d = true →
      normVariantsV g64 g32 lf vs d = normVariantsV g64 g32' lf vs d) := by
  apply DeTyped13.ty_induct
  case f32 =>
    intro d h
    cases d <;> simp [WellTyped] at h
    simp [normDecV, hg _ h]
  case bool | int | string | char | unit | datetime | date | time | ignored => intros; simp only [normDecV]
  case f64 | value => intro d _; cases d <;> simp [normDecV]
  case option =>
    intro t ih d h
    cases d <;> simp only [WellTyped, Bool.false_eq_true] at h <;> simp only [normDecV]
    rw [ih _ h]
  case newtype | tuple | struct =>
    intro t ih d h
    cases d <;> simp only [WellTyped, Bool.false_eq_true] at h
    simp only [normDecV]
    rw [ih _ h]
  case seq =>
    intro t ih d h
    cases d <;> simp only [WellTyped, Bool.false_eq_true] at h
    rename_i l
    simp only [normDecV, Dec.seq.injEq]
    exact List.map_congr_left fun a ha => ih a (List.all_eq_true.1 h a ha)
  case map =>
    intro t ih d h
    cases d <;> simp only [WellTyped, Bool.false_eq_true, Bool.and_eq_true] at h
    rename_i l
    simp only [normDecV, Dec.map.injEq]
    apply List.map_congr_left
    intro a ha
    rw [ih a.2 (List.all_eq_true.1 h.2 a (List.mem_filter.1 ha).1)]
  case enum =>
    intro vs ih d h
    simp only [WellTyped] at h
    simp only [normDecV]
    exact ih d h
  case tnil => intro l _; simp [normTysV]
  case tcons =>
    intro t r iht ihr l h
    cases l with
    | nil => simp [normTysV]
    | cons d l =>
      simp only [WellTypedTys, Bool.and_eq_true] at h
      simp only [normTysV]
      rw [iht d h.1, ihr l h.2]
  case fnil => intro l _; simp [normFieldsV]
  case fcons =>
    intro name t dflt r iht ihr l h
    cases l with
    | nil => simp [normFieldsV]
    | cons kd l =>
      obtain ⟨k, d⟩ := kd
      simp only [WellTypedFields, Bool.and_eq_true] at h
      simp only [normFieldsV]
      rw [iht d h.1.2, ihr l h.2]
  case sunit => intro d _; simp only [normShapeV]
  case snewtype | stuple | sstruct =>
    intro t ih d h
    cases d <;> simp only [WellTypedShape, Bool.false_eq_true] at h
    simp only [normShapeV]
    rw [ih _ h]
  case vnil => intro d _; simp [normVariantsV]
  case vcons =>
    intro name s r ihs ihr d h
    have key : ∀ n : Bytes, (if name == n then WellTypedShape s d else WellTypedVariants r d) = true →
        (if name == n then normShapeV g64 g32 lf s d else normVariantsV g64 g32 lf r d) =
          (if name == n then normShapeV g64 g32' lf s d else normVariantsV g64 g32' lf r d) := by
      intro n h'
      by_cases hn : (name == n) = true
      · simp only [hn, if_true] at h' ⊢
        exact ihs d h'
      · simp only [hn, Bool.false_eq_true, if_false] at h' ⊢
        exact ihr d h'
    cases d <;> simp only [WellTypedVariants, Bool.false_eq_true] at h <;> simp only [normVariantsV] <;> exact key _ h

theorem normDecV_congr32 (g64 g32 g32' : Nat → Nat) (lf : TV → TV) (hg : ∀ b, b < 2 ^ 32 → g32 b = g32' b) :
    ∀ (ty : Ty) (d : Dec), WellTyped ty d = true → normDecV g64 g32 lf ty d = normDecV g64 g32' lf ty d :=
  (normDecV_congr32_all g64 g32 g32' lf hg).1

theorem normTysV_congr32 (g64 g32 g32' : Nat → Nat) (lf : TV → TV) (hg : ∀ b, b < 2 ^ 32 → g32 b = g32' b) :
    ∀ (ts : Tys) (l : List Dec), WellTypedTys ts l = true → normTysV g64 g32 lf ts l = normTysV g64 g32' lf ts l :=
  (normDecV_congr32_all g64 g32 g32' lf hg).2.1

theorem normFieldsV_congr32 (g64 g32 g32' : Nat → Nat) (lf : TV → TV) (hg : ∀ b, b < 2 ^ 32 → g32 b = g32' b) :
    ∀ (fs : Fields) (l : List (Bytes × Dec)), WellTypedFields fs l = true →
      normFieldsV g64 g32 lf fs l = normFieldsV g64 g32' lf fs l :=
  (normDecV_congr32_all g64 g32 g32' lf hg).2.2.1

theorem normShapeV_congr32 (g64 g32 g32' : Nat → Nat) (lf : TV → TV) (hg : ∀ b, b < 2 ^ 32 → g32 b = g32' b) :
    ∀ (s : Shape) (d : Dec), WellTypedShape s d = true → normShapeV g64 g32 lf s d = normShapeV g64 g32' lf s d :=
  (normDecV_congr32_all g64 g32 g32' lf hg).2.2.2.1

theorem normVariantsV_congr32 (g64 g32 g32' : Nat → Nat) (lf : TV → TV) (hg : ∀ b, b < 2 ^ 32 → g32 b = g32' b) :
    ∀ (vs : Variants) (d : Dec), WellTypedVariants vs d = true →
      normVariantsV g64 g32 lf vs d = normVariantsV g64 g32' lf vs d :=
  (normDecV_congr32_all g64 g32 g32' lf hg).2.2.2.2

end TomlVerif.Lemmas.TypedGaps
