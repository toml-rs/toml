import TomlVerif.Lemmas.Render03Pairs
import TomlVerif.Lemmas.TriviaKeysSound01
/-! Value-level "same data" (C03): every `Key` the key parser records spells its decoded key
    (`KeyText`), and its decor texts are blanks. -/
namespace TomlVerif.Lemmas.Tiling03More.VS
open TomlVerif TomlVerif.Spec TomlVerif.Model TomlVerif.Model.Strings TomlVerif.Model.Value
open TomlVerif.Model.Cst TomlVerif.Model.Encode TomlVerif.Lemmas.Suffix03 TomlVerif.Lemmas.Cst03
open TomlVerif.Lemmas.Tiling03 TomlVerif.Spec.AstValue TomlVerif.Spec.AstValueQ TomlVerif.Lemmas.Spans14

theorem dropWs_rawText (inp s : Bytes) (hs : s <:+ inp) :
    AllWs (rawText inp (rawBetween inp.length s (dropWs s))) := by
  obtain ⟨w, hw, e, _⟩ := Sound01.dropWs_split s
  rw [rawText_between inp s w (dropWs s) hs e]
  exact hw

theorem ckeyPathAux_GK (inp : Bytes) : ∀ (fuel : Nat) (s : Bytes) (acc ks : List CKey) (r : Bytes),
    s <:+ inp → ckeyPathAux inp.length fuel s acc = .ok ks r → (∀ k ∈ acc, GKey inp k) → ∀ k ∈ ks, GKey inp k := by
  refine ckeyPathAux_all (S := fun s => s <:+ inp) ?_
  intro s k r0 hinp hk
  have hs0 : dropWs s <:+ inp := (Suffix03.dropWs_suffix s).trans hinp
  obtain ⟨raw, eraw, hkt⟩ := Sound01.simpleKey_sound _ _ _ hk
  have hr0 : r0 <:+ inp := (eraw ▸ List.suffix_append raw r0).trans hs0
  refine ⟨⟨?_, DecWs_new inp _ _ (dropWs_rawText inp s hinp) (dropWs_rawText inp r0 hr0), DecWs_default inp⟩,
    fun r2 heq => ((List.suffix_cons _ r2).trans (heq ▸ Suffix03.dropWs_suffix r0)).trans hr0⟩
  simp only []
  rw [rawText_between inp (dropWs s) raw r0 hs0 eraw]
  exact hkt

theorem takePre_GK (inp : Bytes) (k : CKey) (hk : GKey inp k) :
    GKey inp (takePre k).2 ∧ AllWs (rawText inp (takePre k).1) := by
  unfold takePre
  cases hp : k.dotted.pre with
  | none => exact ⟨hk, AllWs.nil⟩
  | some p =>
    simp only []
    refine ⟨⟨hk.1, ⟨?_, ?_⟩, hk.2.2⟩, hk.2.1.1 p hp⟩
    · intro r hr; simp only [] at hr; injection hr with hr; subst hr; exact AllWs.nil
    · intro r hr; exact hk.2.1.2 r hr

theorem takeSuf_GK (inp : Bytes) (k : CKey) (hk : GKey inp k) :
    GKey inp (takeSuf k).2 ∧ AllWs (rawText inp (takeSuf k).1) := by
  unfold takeSuf
  cases hp : k.dotted.suf with
  | none => exact ⟨hk, AllWs.nil⟩
  | some p =>
    simp only []
    refine ⟨⟨hk.1, ⟨?_, ?_⟩, hk.2.2⟩, hk.2.1.2 p hp⟩
    · intro r hr; exact hk.2.1.1 r hr
    · intro r hr; simp only [] at hr; injection hr with hr; subst hr; exact AllWs.nil

theorem fixLeaf_GK (inp : Bytes) (ks : List CKey) (h : ∀ k ∈ ks, GKey inp k) : ∀ k ∈ fixLeaf ks, GKey inp k := by
  cases ks with
  | nil => intro k hk; simp [fixLeaf] at hk
  | cons first rest =>
    rw [fixLeaf_cons]
    have hf := takePre_GK inp first (h first (by simp))
    have hall : ∀ k ∈ (takePre first).2 :: rest, GKey inp k := by
      intro x hx
      rcases List.mem_cons.1 hx with hx | hx
      · subst hx; exact hf.1
      · exact h x (List.mem_cons_of_mem _ hx)
    split
    · exact hall
    · rename_i init last hsl
      have e := vsplitLast_some _ _ _ hsl
      have hl := takeSuf_GK inp last (hall last (by rw [e]; simp))
      intro x hx
      rcases List.mem_append.1 hx with hx | hx
      · exact hall x (by rw [e]; exact List.mem_append_left _ hx)
      · simp only [List.mem_singleton] at hx
        subst hx
        exact ⟨hl.1.1, hl.1.2.1, DecWs_new inp _ _ hf.2 hl.2⟩

theorem ckeyPath_GK (inp s r : Bytes) (ks : List CKey) (hs : s <:+ inp) (h : ckeyPath inp.length s = .ok ks r) :
    ∀ k ∈ ks, GKey inp k := by
  obtain ⟨ks0, hk, _, rfl⟩ := ckeyPath_ok h
  exact fixLeaf_GK inp ks0 (ckeyPathAux_GK inp _ _ _ _ _ hs hk (fun _ hx => by cases hx))

theorem ckeyPath_qkeys (inp s r : Bytes) (ks : List CKey) (hs : s <:+ inp) (h : ckeyPath inp.length s = .ok ks r) :
    ∀ k ∈ ks, (∃ qk : QKey, qk.WF ∧ qk.raw = rawText inp k.repr ∧ qk.key = k.key) ∧
      (∀ x, k.dotted.pre = some x → AllWs (rawText inp x)) ∧ (∀ x, k.dotted.suf = some x → AllWs (rawText inp x)) ∧
      (∀ x, k.leaf.pre = some x → AllWs (rawText inp x)) ∧ (∀ x, k.leaf.suf = some x → AllWs (rawText inp x)) := by
  intro k hk
  obtain ⟨h1, h2, h3⟩ := ckeyPath_GK inp s r ks hs h k hk
  exact ⟨⟨⟨[], rawText inp k.repr, k.key, []⟩, ⟨AllWs.nil, AllWs.nil, h1⟩, rfl, rfl⟩, h2.1, h2.2, h3.1, h3.2⟩

end TomlVerif.Lemmas.Tiling03More.VS
