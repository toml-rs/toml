import TomlVerif.Lemmas.Same03State
import TomlVerif.Lemmas.DocDriver01
/-! C03, same data — the line loop and `parse_document` for the largest class `genRun2`: the
    printed text of a source in the class is the rendering of a well-formed grammar document
    (`QDoc`) whose statements, run from the initial state, give the erased final state; hence it
    decodes to the same table.  The smaller classes as instances. -/
namespace TomlVerif.Lemmas.Tiling03More.Gen
open TomlVerif TomlVerif.Spec TomlVerif.Model TomlVerif.Model.Strings TomlVerif.Model.Value
open TomlVerif.Model.Cst TomlVerif.Model.Encode TomlVerif.Lemmas.Suffix03 TomlVerif.Lemmas.Cst03
open TomlVerif.Lemmas.LastByte03 TomlVerif.Lemmas.Tiling03 TomlVerif.Lemmas.Tiling03Hdr
open TomlVerif.Lemmas.Tiling03Nest TomlVerif.Lemmas.Tiling03More TomlVerif.Lemmas.Tiling03More.VS
open TomlVerif.Lemmas.Tiling03More.Tko TomlVerif.Lemmas.Tiling03More.Nad
open TomlVerif.Spec.AstValue TomlVerif.Spec.AstValueQ TomlVerif.Spec.AstDoc TomlVerif.Spec.AstDocQ
open TomlVerif.Lemmas.Value01 (commentBytes)
open TomlVerif.Lemmas.State09 (Stmt run step run_append)

theorem ainv2_initT (s base : Bytes) (hbase : s = base ++ Doc.stripBom s) :
    AInvT2 TrivOK s {} (Doc.stripBom s) := by
  refine ⟨[], [], [], (fun p hp => by cases hp), rfl, ?_, ?_, ?_, ?_, Or.inl ⟨rfl, rfl⟩,
    ⟨base, by simpa using hbase.symm⟩, triv_nil⟩
  · rw [eraseState_init]; rfl
  · exact Or.inl ⟨rfl, rfl, [], false, some (0, 0), rfl, mixOk_nil s, fun _ => rfl, gk2_nil s, rfl⟩
  · exact ⟨rfl, rfl, rfl, rfl, rfl, fun h => absurd rfl h⟩
  · exact gk2_nil s

theorem clines_ginv2 (inp : Bytes) (fuel : Nat) (st : CState) (s : Bytes) (stf : CState)
    (h : clines inp.length fuel st s = some stf) (hr : runOkG2 inp fuel st s = true)
    (hI : GInvG2 TrivOK inp st s) : GInvG2 TrivEnd inp stf [] := by
  rw [runOkG2_with] at hr
  refine clines_runOkWith (I := GInvG2 TrivOK inp) (E := fun st => GInvG2 TrivEnd inp st [])
    (fun st => ginv2_end inp st []) ?_ (ginv2_parseWs inp) ?_ ?_
    (fun st st' s r hl hok => header_step_G2 inp st st' s r hl hok)
    (fun st st' s r hl hok => keyval_step_G2 inp st st' s r hl hok) fuel st s stf h hr hI
  · intro st t hdc hI
    obtain ⟨body, hbody, ebody⟩ := Sound01.dropComment_split t
    rw [hdc, List.append_nil] at ebody
    have h1 := ginv2_consume TrivOK TrivEnd inp st (0x23 :: t) [] hI
      ⟨0x23 :: body, by rw [ebody]; simp, fun tr ht => triv_comment_eof tr body ht hbody⟩
    rw [pos_nil] at h1
    exact ginv2_parseWs_end inp _ h1
  · intro st t r _ hnl hI
    obtain ⟨body, hbody, ebody⟩ := Sound01.dropComment_split t
    obtain ⟨nl, enl, hnls⟩ := newline?_piece _ _ hnl
    exact ginv2_consume TrivOK TrivOK inp st (0x23 :: t) r hI
      ⟨0x23 :: body ++ nl, by rw [ebody, enl]; simp [List.append_assoc],
        fun tr ht => triv_comment tr body nl ht hbody hnls⟩
  · intro st s r hnl hI
    obtain ⟨nl, enl, hnls⟩ := newline?_piece _ _ hnl
    exact ginv2_consume TrivOK TrivOK inp st s r hI ⟨nl, enl, fun tr ht => triv_nl tr nl ht hnls⟩

theorem same_data_gen2 (s : Bytes) (d : CDoc) (h : parseCst s = some d) (hrun : genRun2 s = true) :
    Doc.parseDocument (printDoc s d) = some (eraseTbl d.root) := by
  obtain ⟨base, hbase⟩ := stripBom_split s
  obtain ⟨stf, st', hcl, hfin, rfl⟩ := parseCst_ok h
  unfold genRun2 at hrun
  simp only [] at hrun
  have h1 := ginv2_parseWs s _ _ (ainvT2_ginv2_subs TrivOK s {} _ (ainv2_initT s base hbase) rfl)
  obtain ⟨ls, T, tr, a1, a2, a3, hsh, hP, hg, a7, a8, a9⟩ :=
    ginv2_ainvT2 TrivEnd s _ _ (clines_ginv2 s _ _ _ _ hcl hrun h1)
  have hinto := intoDocument_erase stf
  rw [show intoDocument stf = some { root := st'.root, trailing := takeTrailing st'.trailing } by
    unfold intoDocument; rw [hfin]] at hinto
  obtain ⟨f1, f2, f3, _, _, f6, f7, f8, f9, _⟩ := finalize_F stripCr s stf st' T hfin ((phaseT2_eq s stf T).mp hsh) hP hg
  obtain ⟨tl, l, t1, t2, t3, t4⟩ := a9
  have htr : rawText s (takeTrailing stf.trailing) = tr := trailIs_text s _ tr [] a7 a8
  have hp : printDoc s { root := st'.root, trailing := takeTrailing st'.trailing }
      = renderLinesQ ls ++ (renderLinesQ tl ++ l.render) := by
    unfold printDoc
    rw [printDocG_ord stripCr s _ f7 f8 f6 f2 (fun x hx => (f9 x hx).1)]
    simp only [encRaw]
    rw [f1, f3, htr, t4, a2]
  let q : QDoc := ⟨false, ls ++ tl, some l⟩
  have hwf : q.WF := by
    refine ⟨?_, ?_⟩
    · exact List.forall_mem_append.2 ⟨a1, fun p hp' => (t1 p hp').1⟩
    · intro l' hl'
      injection hl' with hl'
      subst hl'; exact t2
  have hr : q.render = renderLinesQ ls ++ (renderLinesQ tl ++ l.render) := by
    simp [QDoc.render, q, bomBytes, renderLinesQ_append, renderLastQ, List.append_assoc]
  have hst : q.stmts = stmtsLinesQ ls := by
    simp [QDoc.stmts, q, stmtsLinesQ_append, trivLines_stmts tl t1, stmtsLastQ, t3]
  rw [hp, ← hr, SoundDoc01C.parseDocument_renderQ q hwf, hst, a3]
  simp only [Option.bind_some]
  rw [← hinto]; rfl

theorem same_data_gen (s : Bytes) (d : CDoc) (h : parseCst s = some d) (hrun : genRun s = true) :
    Doc.parseDocument (printDoc s d) = some (eraseTbl d.root) :=
  same_data_gen2 s d h (genRun_G2 s hrun)

end TomlVerif.Lemmas.Tiling03More.Gen

namespace TomlVerif.Lemmas.Tiling03More
open TomlVerif TomlVerif.Model TomlVerif.Model.Cst TomlVerif.Model.Encode

theorem Nad.same_data_nad (s : Bytes) (d : CDoc) (h : parseCst s = some d) (hrun : nadRun s = true) :
    Doc.parseDocument (printDoc s d) = some (eraseTbl d.root) :=
  Gen.same_data_gen s d h (Gen.nadRun_G s hrun)

theorem Tko.same_data_tko (s : Bytes) (d : CDoc) (h : parseCst s = some d) (hrun : Tko.tkoRun s = true) :
    Doc.parseDocument (printDoc s d) = some (eraseTbl d.root) :=
  Gen.same_data_gen s d h (Gen.tkoRun_G s hrun)

theorem same_data_adj (s : Bytes) (d : CDoc) (h : parseCst s = some d) (hrun : adjRun s = true) :
    Doc.parseDocument (printDoc s d) = some (eraseTbl d.root) :=
  Nad.same_data_nad s d h (adjRun_N s hrun)

end TomlVerif.Lemmas.Tiling03More
