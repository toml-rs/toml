import TomlVerif.Lemmas.Consumed
/-! Beyond the bound the callers pass, the result of a fuelled loop of the model does not depend on
    the fuel (`fuel_irrelevant`: every call is on a shorter input). Here: the loops of the strings;
    trivia, dotted keys and the statement loop are instances in `Props/C04Fuel.lean`, the value
    parser is in `Lemmas/FuelValue04.lean`. -/
namespace TomlVerif.Lemmas.Fuel04
open TomlVerif TomlVerif.Spec TomlVerif.Model TomlVerif.Model.Strings TomlVerif.Model.Value
open TomlVerif.Lemmas.Suffix03

theorem dropWs_len (s : Bytes) : (dropWs s).length ≤ s.length :=
  (dropWs_suffix s).length_le

theorem mlbEscapedNl_len (fuel : Nat) (s r : Bytes) (h : mlbEscapedNl fuel s = some r) : r.length < s.length := by
  unfold mlbEscapedNl at h
  split at h
  · rename_i r' hn
    injection h with h; subst h
    have h1 := (newline?_adv hn).length_lt
    have h2 := dropWs_len s
    have h3 := (dropWsNewline_suffix fuel r').length_le
    omega
  · cases h

theorem dropComment_len (s : Bytes) : (dropComment s).length ≤ s.length :=
  (dropComment_suffix s).length_le

theorem fuel_irrelevant {γ β} {F : Nat → Bytes → γ → β}
    (step : ∀ g g' s c, (∀ s' c', s'.length < s.length → F g s' c' = F g' s' c') →
      F (g + 1) s c = F (g' + 1) s c) :
    ∀ f₁ f₂ s c, s.length < f₁ → s.length < f₂ → F f₁ s c = F f₂ s c := by
  intro f₁
  induction f₁ with
  | zero => intro f₂ s c h; omega
  | succ g₁ ih =>
    intro f₂ s c h1 h2
    obtain ⟨g₂, rfl⟩ : ∃ g, f₂ = g + 1 := ⟨f₂ - 1, by omega⟩
    exact step g₁ g₂ s c fun s' c' hs => ih g₂ s' c' (by omega) (by omega)

theorem basicBody_fuel : ∀ (f₁ f₂ : Nat) (s acc : Bytes), s.length < f₁ → s.length < f₂ →
    basicBody f₁ s acc = basicBody f₂ s acc := by
  refine fuel_irrelevant fun g g' s acc ih => ?_
  cases s with
  | nil => simp [basicBody]
  | cons b r =>
    unfold basicBody
    simp only []
    split
    · exact ih r _ (by simp)
    · split
      · cases he : escapeSeqChar r with
        | ok c r' =>
          have := (escapeSeqChar_adv _ _ _ he).length_lt
          exact ih r' _ (by simp only [List.length_cons]; omega)
        | bt => rfl
        | cut => rfl
      · rfl

theorem mlBasicBody_fuel : ∀ (f₁ f₂ : Nat) (s acc : Bytes), s.length < f₁ → s.length < f₂ →
    mlBasicBody f₁ s acc = mlBasicBody f₂ s acc := by
  refine fuel_irrelevant fun g g' s acc ih => ?_
  cases s with
  | nil => simp [mlBasicBody]
  | cons b r =>
    unfold mlBasicBody
    simp only []
    split
    · exact ih r _ (by simp)
    · split
      · cases hm : mlbEscapedNl (r.length + 1) r with
        | some r' =>
          have := mlbEscapedNl_len _ _ _ hm
          exact ih r' _ (by simp only [List.length_cons]; omega)
        | none =>
          simp only []
          cases he : escapeSeqChar r with
          | ok c r' =>
            have := (escapeSeqChar_adv _ _ _ he).length_lt
            exact ih r' _ (by simp only [List.length_cons]; omega)
          | bt => rfl
          | cut => rfl
      · split
        · split
          · rfl
          · split
            · rfl
            · exact ih r _ (by simp)
        · cases hn : newline? (b :: r) with
          | some r' => exact ih r' _ (newline?_adv hn).length_lt
          | none => rfl

theorem mlLiteralBody_fuel : ∀ (f₁ f₂ : Nat) (s acc : Bytes), s.length < f₁ → s.length < f₂ →
    mlLiteralBody f₁ s acc = mlLiteralBody f₂ s acc := by
  refine fuel_irrelevant fun g g' s acc ih => ?_
  cases s with
  | nil => simp [mlLiteralBody]
  | cons b r =>
    unfold mlLiteralBody
    simp only []
    split
    · exact ih r _ (by simp)
    · split
      · split
        · rfl
        · split
          · rfl
          · exact ih r _ (by simp)
      · cases hn : newline? (b :: r) with
        | some r' => exact ih r' _ (newline?_adv hn).length_lt
        | none => rfl

theorem dropWsNewline_fuel : ∀ (f₁ f₂ : Nat) (s : Bytes), s.length < f₁ → s.length < f₂ →
    dropWsNewline f₁ s = dropWsNewline f₂ s := by
  intro f₁ f₂ s
  refine fuel_irrelevant (F := fun f s (_ : Unit) => dropWsNewline f s) (fun g g' s _ ih => ?_) f₁ f₂ s ()
  cases s with
  | nil => simp [dropWsNewline]
  | cons b r =>
    unfold dropWsNewline
    simp only []
    split
    · exact ih r () (by simp)
    · cases hn : newline? (b :: r) with
      | none => rfl
      | some r' => exact ih r' () (newline?_adv hn).length_lt

theorem mlbEscapedNl_fuel (f₁ f₂ : Nat) (s : Bytes) (h1 : s.length ≤ f₁) (h2 : s.length ≤ f₂) :
    mlbEscapedNl f₁ s = mlbEscapedNl f₂ s := by
  unfold mlbEscapedNl
  cases hn : newline? (dropWs s) with
  | none => rfl
  | some r =>
    have := (newline?_adv hn).length_lt
    have := dropWs_len s
    simp only []
    rw [dropWsNewline_fuel f₁ f₂ r (by omega) (by omega)]

end TomlVerif.Lemmas.Fuel04
