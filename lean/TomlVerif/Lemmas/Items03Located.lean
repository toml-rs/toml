import TomlVerif.Lemmas.Print03Sorted
/-! C03 — an entry found at ANY place of an item list, for the proofs that walk a header's or a
    dotted key's path through the tree: the flattened body of one table around such an entry;
    and a header line of either kind read backwards down to the state (`header_frame`). -/
namespace TomlVerif.Lemmas.Tiling03More
open TomlVerif TomlVerif.Spec TomlVerif.Model TomlVerif.Model.Strings TomlVerif.Model.Value
open TomlVerif.Model.Cst TomlVerif.Model.Encode TomlVerif.Lemmas.Suffix03 TomlVerif.Lemmas.Cst03
open TomlVerif.Lemmas.LastByte03 TomlVerif.Lemmas.Tiling03 TomlVerif.Lemmas.Tiling03Hdr
open TomlVerif.Lemmas.Tiling03Nest

theorem valuesTbl_cons_value (k : CKey) (v : CVal) (h : undotted v = true) (r : Items) (P : List CKey) :
    valuesTbl ((k, .value v) :: r) P = (P ++ [k], v) :: valuesTbl r P := by
  have : (k, CItem.value v) :: r = [(k, .value v)] ++ r := rfl
  rw [this, valuesTbl_append, valuesTbl_value_atU k v h]; rfl

theorem valuesTbl_cons_dotted (k : CKey) (c : CTbl) (hc : c.dotted = true) (r : Items) (P : List CKey) :
    valuesTbl ((k, .table c) :: r) P = valuesTbl c.items (P ++ [k]) ++ valuesTbl r P := by
  have : (k, CItem.table c) :: r = ([] ++ [(k, .table c)]) ++ r := rfl
  rw [this, valuesTbl_append, valuesTbl_snoc_dotted [] k c hc]
  simp [valuesTbl]

theorem valuesTbl_mid_dotted (A B : Items) (k : CKey) (c : CTbl) (hc : c.dotted = true) (P : List CKey) :
    valuesTbl (A ++ (k, .table c) :: B) P = valuesTbl A P ++ (valuesTbl c.items (P ++ [k]) ++ valuesTbl B P) := by
  rw [valuesTbl_append, valuesTbl_cons_dotted k c hc]

theorem valuesTbl_items_ne (items : Items) (P : List CKey) (h : valuesTbl items P ≠ []) : items ≠ [] := by
  intro e; subst e; exact h (by simp [valuesTbl])

theorem valuesTbl_mid_tbl_congr (A B : Items) (k : CKey) (c c' : CTbl) (hd : c'.dotted = c.dotted)
    (h : ∀ P, valuesTbl c'.items P = valuesTbl c.items P) (P : List CKey) :
    valuesTbl (A ++ (k, .table c') :: B) P = valuesTbl (A ++ (k, .table c) :: B) P := by
  cases hc : c.dotted with
  | false =>
    rw [valuesTbl_mid_table _ _ _ _ hc, valuesTbl_mid_table _ _ _ _ (hd.trans hc)]
  | true =>
    rw [valuesTbl_mid_dotted _ _ _ _ hc, valuesTbl_mid_dotted _ _ _ _ (hd.trans hc), h]

theorem header_frame (st st' : CState) (isArr : Bool) (ks : List CKey) (trail : Raw) (span : Span)
    (ho : (if isArr then onArrayHeader st ks trail span else onStdHeader st ks trail span) = some st') :
    ∃ st1 pp key root', finalizeTable st = some st1 ∧ ks = pp ++ [key] ∧
      descend st1.root pp false (if isArr then arrFn key else eraseFn key) = some root' ∧
      st' = { root := root', trailing := none, position := st1.position + 1,
              current := .mk (if isArr then st1.current.items
                  else ((findTable key.key st1.root pp).getD st1.current).items)
                false false (some (st1.position + 1)) (Decor.new (takeTrailing st1.trailing) trail) (some span),
              currentIsArray := isArr, currentPath := ks } := by
  obtain ⟨st1, pp, key, root', hfin, hsl, _, hroot, hst'⟩ := CstState.onHeader_inv ho
  exact ⟨st1, pp, key, root', hfin, vsplitLast_some _ _ _ hsl, hroot, by cases isArr <;> exact hst'⟩

end TomlVerif.Lemmas.Tiling03More
