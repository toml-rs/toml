import TomlVerif.Model.SerTyped
import TomlVerif.Lemmas.DeTyped13Lenient
/-! C07, reading back (decoder side): `Good` and its introduction rules for scalars, date-times, `Option`, newtype
    structs, sequences and tuples (maps, derived structs and enums: Lemmas/Good07Tables.lean). -/
namespace TomlVerif.Lemmas.SerTyped07
open TomlVerif TomlVerif.Model TomlVerif.Model.TomlValue TomlVerif.Model.DeRoutes TomlVerif.Model.DeTyped
open TomlVerif.Model.DeText (presOfItem presOfVal presOfTbl presOfVals presOfValPairs presOfTbls presOfItems)
open TomlVerif.Model.SerTyped TomlVerif.Lemmas.DeTyped13 TomlVerif.Lemmas.DeRoutes13

/-- `toml_edit`'s deserializer on every item holding the data `w` (tables of every syntax, arrays of tables), with
any setting of its two switches, and `toml::Value`'s deserializer on `w`, with any setting of its switch, return `nd` -/
def Good (fl : Flavour) (ty : Ty) (w : TV) (nd : Dec) : Prop :=
  (∀ (c : EditCfg) (it : Item), plainItem it = w → decodeEdit c fl ty it = .ok nd) ∧
  (∀ cv : ValueCfg, decodeValue cv fl ty w = .ok nd)

def GoodList (fl : Flavour) (t : Ty) : List TV → List Dec → Prop
  | [], [] => True
  | w :: ws, d :: ds => Good fl t w d ∧ GoodList fl t ws ds
  | _, _ => False

def GoodTys (fl : Flavour) : Tys → List TV → List Dec → Prop
  | .nil, [], [] => True
  | .cons t r, w :: ws, d :: ds => Good fl t w d ∧ GoodTys fl r ws ds
  | _, _, _ => False

def GoodPairs (fl : Flavour) (t : Ty) : List (Bytes × TV) → List (Bytes × Dec) → Prop
  | [], [] => True
  | (k, w) :: ws, (k', d) :: ds => k' = k ∧ Good fl t w d ∧ GoodPairs fl t ws ds
  | _, _ => False

def GoodFields (fl : Flavour) : Fields → List (Bytes × TV) → List (Bytes × Dec) → Prop
  | .nil, _, nds => nds = []
  | .cons name t dflt r, es, nds =>
    ∃ nd rest, nds = (name, nd) :: rest ∧
      (match alookup name es with
       | some w => Good fl t w nd
       | none => if dflt then nd = .dflt else missingField t = .ok nd) ∧
      GoodFields fl r es rest

theorem kind_of_tbl {it : Item} {es' : List (Bytes × TV)} (h : plainItem it = .tbl es') :
    ∃ es, kindOf it = .entries es ∧ pairsTV es = es' := by
  cases it with
  | value v =>
    cases v with
    | inl items a b =>
      simp only [plainItem, plainVal, TV.tbl.injEq] at h
      exact ⟨_, rfl, by rw [← h, plainValPairs_eq]; rfl⟩
    | str s | int s | float s | bool s | dt s | arr s => simp [plainItem, plainVal] at h
  | table t =>
    obtain ⟨items, a, b, c⟩ := t
    simp only [plainItem, plainTbl, TV.tbl.injEq] at h
    exact ⟨items, rfl, by rw [← h, plainItems_eq]; rfl⟩
  | aot ts => simp [plainItem] at h

theorem kind_of_arr {it : Item} {ws : List TV} (h : plainItem it = .arr ws) :
    ∃ l, kindOf it = .elems l ∧ l.map plainItem = ws := by
  cases it with
  | value v =>
    cases v with
    | arr l =>
      simp only [plainItem, plainVal, TV.arr.injEq] at h
      exact ⟨_, rfl, by rw [← h, plainVals_eq]⟩
    | str s | int s | float s | bool s | dt s | inl s a b => simp [plainItem, plainVal] at h
  | table t => obtain ⟨items, a, b, c⟩ := t; simp [plainItem, plainTbl] at h
  | aot ts =>
    simp only [plainItem, TV.arr.injEq] at h
    exact ⟨_, rfl, by rw [← h, plainTbls_eq]⟩

theorem item_of_str {it : Item} {s : Bytes} (h : plainItem it = .str s) : it = .value (.str s) := by
  cases it with
  | value v => cases v <;> simp_all [plainItem, plainVal]
  | table t => obtain ⟨items, a, b, c⟩ := t; simp [plainItem, plainTbl] at h
  | aot ts => simp [plainItem] at h

theorem item_of_dt {it : Item} {d : Datetime.Datetime} (h : plainItem it = .dt d) : it = .value (.dt d) := by
  cases it with
  | value v => cases v <;> simp_all [plainItem, plainVal]
  | table t => obtain ⟨items, a, b, c⟩ := t; simp [plainItem, plainTbl] at h
  | aot ts => simp [plainItem] at h

/-- the types whose `Deserialize` impl lands in `deserialize_any` with a primitive visitor -/
def isScalarTy : Ty → Bool
  | .bool | .int _ _ | .f64 | .f32 | .string | .char => true
  | _ => false

theorem good_scalar (fl : Flavour) (ty : Ty) (hs : isScalarTy ty = true) (w : TV) (nd : Dec)
    (h : visitScalar ty (presValue currentDtAsMap w) = .ok nd) : Good fl ty w nd := by
  constructor
  · intro c it hit
    subst hit
    rw [← presOfItem_presValue] at h
    cases ty <;> first | (simp [isScalarTy] at hs; done) | (unfold decodeEdit; exact h)
  · intro cv
    cases ty <;> first | (simp [isScalarTy] at hs; done) | (unfold decodeValue; exact h)

theorem decodeDatetime_dtMap (d : Datetime.Datetime) (h : dtOk d = true) : decodeDatetime (dtMap d) = some d := by
  simp only [dtOk, beq_iff_eq] at h
  simp [decodeDatetime, dtMap, h]

/-- date-time types: the only ones whose `Serialize` impl hands over the private struct at the root -/
def isDtTy : Ty → Bool
  | .datetime => true
  | .date => true
  | .time => true
  | _ => false

theorem good_dt (fl : Flavour) (ty : Ty) (hty : isDtTy ty = true) (d : Datetime.Datetime)
    (h : WellTyped ty (.dt d) = true) : Good fl ty (.dt d) (.dt d) := by
  cases ty <;> try (cases hty)
  all_goals
    simp only [WellTyped, Bool.and_eq_true] at h
    have hd : dtOk d = true := by first | exact h | exact h.1.1.1
    constructor
    · intro c it hit
      rw [item_of_dt hit]
      unfold decodeEdit
      simp [datetimeTarget, decodeDatetime_dtMap d hd, h]
    · intro cv
      unfold decodeValue
      simp [datetimeTarget, presValue, currentDtAsMap, decodeDatetime_dtMap d hd, h]

theorem good_option (fl : Flavour) (t : Ty) (w : TV) (nd : Dec) (h : Good fl t w nd) :
    Good fl (.option t) w (.some nd) := by
  constructor
  · intro c it hit
    unfold decodeEdit
    rw [h.1 c it hit]; rfl
  · intro cv
    unfold decodeValue
    rw [h.2 cv]; rfl

theorem good_newtype (fl : Flavour) (t : Ty) (w : TV) (nd : Dec) (h : Good fl t w nd) :
    Good fl (.newtype t) w (.newtype nd) := by
  constructor
  · intro c it hit
    unfold decodeEdit
    rw [h.1 c it hit]; rfl
  · intro cv
    unfold decodeValue
    rw [h.2 cv]; rfl

theorem goodList_edit (fl : Flavour) (t : Ty) (c : EditCfg) : ∀ (l : List Item) (nds : List Dec),
    GoodList fl t (l.map plainItem) nds → mapE (decodeEdit c fl t) l = .ok nds
  | [], [], _ => rfl
  | [], _ :: _, h => by simp [GoodList] at h
  | i :: l, [], h => by simp [GoodList] at h
  | i :: l, d :: ds, h => by
    simp only [List.map_cons, GoodList] at h
    simp only [mapE, h.1.1 c i rfl, goodList_edit fl t c l ds h.2, rcons]

theorem goodList_value (fl : Flavour) (t : Ty) (cv : ValueCfg) : ∀ (ws : List TV) (nds : List Dec),
    GoodList fl t ws nds → mapE (decodeValue cv fl t) ws = .ok nds
  | [], [], _ => rfl
  | [], _ :: _, h => by simp [GoodList] at h
  | i :: l, [], h => by simp [GoodList] at h
  | i :: l, d :: ds, h => by
    simp only [GoodList] at h
    simp only [mapE, h.1.2 cv, goodList_value fl t cv l ds h.2, rcons]

theorem good_seq (fl : Flavour) (t : Ty) (ws : List TV) (nds : List Dec) (h : GoodList fl t ws nds) :
    Good fl (.seq t) (.arr ws) (.seq nds) := by
  constructor
  · intro c it hit
    obtain ⟨l, hk, hl⟩ := kind_of_arr hit
    obtain ⟨h1, _⟩ := view_elems hk
    unfold decodeEdit
    subst hl
    rw [h1]
    simp only [goodList_edit fl t c l nds h]; rfl
  · intro cv
    unfold decodeValue
    simp only [goodList_value fl t cv ws nds h]; rfl

theorem goodTys_length (fl : Flavour) : ∀ (ts : Tys) (ws : List TV) (nds : List Dec),
    GoodTys fl ts ws nds → ws.length = ts.length
  | .nil, [], [], _ => rfl
  | .nil, [], _ :: _, h => by simp [GoodTys] at h
  | .nil, _ :: _, _, h => by simp [GoodTys] at h
  | .cons t r, [], _, h => by simp [GoodTys] at h
  | .cons t r, _ :: _, [], h => by simp [GoodTys] at h
  | .cons t r, w :: ws, d :: ds, h => by
    simp only [GoodTys] at h
    simp [Tys.length, goodTys_length fl r ws ds h.2]

theorem goodTys_edit (fl : Flavour) (c : EditCfg) : ∀ (ts : Tys) (l : List Item) (nds : List Dec),
    GoodTys fl ts (l.map plainItem) nds → decodeEditTys c fl ts l = .ok nds
  | .nil, [], [], _ => by rw [decodeEditTys]
  | .nil, [], _ :: _, h => by simp [GoodTys] at h
  | .nil, _ :: _, _, h => by simp [GoodTys] at h
  | .cons t r, [], _, h => by simp [GoodTys] at h
  | .cons t r, _ :: _, [], h => by simp [GoodTys] at h
  | .cons t r, i :: l, d :: ds, h => by
    simp only [List.map_cons, GoodTys] at h
    rw [decodeEditTys, h.1.1 c i rfl, goodTys_edit fl c r l ds h.2]; rfl

theorem goodTys_value (fl : Flavour) (cv : ValueCfg) : ∀ (ts : Tys) (ws : List TV) (nds : List Dec),
    GoodTys fl ts ws nds → decodeValueTys cv fl ts ws = .ok nds
  | .nil, [], [], _ => by rw [decodeValueTys]
  | .nil, [], _ :: _, h => by simp [GoodTys] at h
  | .nil, _ :: _, _, h => by simp [GoodTys] at h
  | .cons t r, [], _, h => by simp [GoodTys] at h
  | .cons t r, _ :: _, [], h => by simp [GoodTys] at h
  | .cons t r, w :: ws, d :: ds, h => by
    simp only [GoodTys] at h
    rw [decodeValueTys, h.1.2 cv, goodTys_value fl cv r ws ds h.2]; rfl

theorem good_tuple (fl : Flavour) (ts : Tys) (ws : List TV) (nds : List Dec) (h : GoodTys fl ts ws nds) :
    Good fl (.tuple ts) (.arr ws) (.tuple nds) := by
  constructor
  · intro c it hit
    obtain ⟨l, hk, hl⟩ := kind_of_arr hit
    obtain ⟨h1, _⟩ := view_elems hk
    unfold decodeEdit
    subst hl
    rw [h1]
    simp only [goodTys_edit fl c ts l nds h]; rfl
  · intro cv
    unfold decodeValue
    have hlen := goodTys_length fl ts ws nds h
    simp only [goodTys_value fl cv ts ws nds h, hlen, gt_iff_lt, Nat.lt_irrefl, decide_false, Bool.and_false,
      Bool.false_eq_true, if_false]; rfl

end TomlVerif.Lemmas.SerTyped07
