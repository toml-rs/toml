import TomlVerif.Lemmas.Tiling03FlatItems
/-! Parse states on the way to a flat document (C03): the shapes of the states from which a flat
    document can still result, the key uniqueness every state has (`GI`), the absorbing "bad" states,
    and what the end functions of `on_keyval` and `finalize_table` do to them. -/
namespace TomlVerif.Lemmas.Tiling03Hdr
open TomlVerif TomlVerif.Spec TomlVerif.Model TomlVerif.Model.Strings TomlVerif.Model.Value
open TomlVerif.Model.Cst TomlVerif.Model.Encode TomlVerif.Lemmas.Cst03 TomlVerif.Lemmas.Tiling03

/-- before the first header -/
def ShapeA (st : CState) : Prop :=
  st.root = CTbl.empty ∧ st.currentPath = [] ∧
  ∃ items imp sp, st.current = .mk items imp false none {} sp ∧ simpleBody items = true

/-- after a header `[key]` / `[[key]]`: the root holds a flat item list `r0` (followed by the empty
    array placeholder of a fresh `[[key]]`), `key` is new, the current table is the section being read -/
def ShapeB (st : CState) : Prop :=
  ∃ key r0 rimp rsp items q lead trail sp,
    st.currentPath = [key] ∧
    st.root = .mk (r0 ++ (if st.currentIsArray then [(key, .aot [] none)] else [])) rimp false none {} rsp ∧
    flatItems r0 = true ∧ clookup key.key r0 = none ∧
    st.current = .mk items false false (some q) (Decor.new lead trail) sp ∧ simpleBody items = true

/-- the states from which no flat document can result: a witness in the current or the root table,
    a header with more than one segment, or — last clause — a `[[key]]` header whose key already holds
    a non-empty array (`flatItems` admits arrays of one table only, and `finalize_table` will append) -/
def Bad (st : CState) : Prop :=
  (st.currentPath = [] ∧ anyW st.current.items = true) ∨
  (st.currentPath ≠ [] ∧ simpleBody st.current.items = false) ∨
  2 ≤ st.currentPath.length ∨ anyW st.root.items = true ∨
  (st.currentIsArray = true ∧ ∃ key ts sp, st.currentPath = [key] ∧
    clookup key.key st.root.items = some (.aot ts sp) ∧ ts ≠ [])

/-- the part of the invariant that holds in every reachable state: key uniqueness, and — third
    clause — after `[key]` the key is not in the root (`start_table` erased it), so that
    `finalize_table` appends the section where nothing stood -/
def GI (st : CState) : Prop :=
  nodupK st.root.items = true ∧ (st.currentPath = [] → nodupK st.current.items = true) ∧
  (st.currentIsArray = false → ∀ key, st.currentPath = [key] → clookup key.key st.root.items = none)

theorem good_current {st : CState} (h : ShapeA st ∨ ShapeB st) :
    ∃ items imp p dec sp, st.current = .mk items imp false p dec sp ∧ simpleBody items = true := by
  rcases h with ⟨_, _, items, imp, sp, h1, h2⟩ | ⟨key, r0, rimp, rsp, items, q, lead, trail, sp, _, _, _, _, h1, h2⟩
  · exact ⟨items, imp, none, {}, sp, h1, h2⟩
  · exact ⟨items, false, some q, _, sp, h1, h2⟩

theorem kvFn_notSimple (path : List CKey) (key' : CKey) (v : CVal) (p p' : CTbl)
    (h : kvFn path key' v p = some p') (hn : simpleBody p.items = false) : simpleBody p'.items = false := by
  obtain ⟨e, _⟩ := kvFn_facts _ _ _ _ _ h
  subst e
  rw [setItems_items, simpleBody_append, hn]; rfl

theorem kvFn_dotted (path : List CKey) (key' : CKey) (v : CVal) (p p' : CTbl)
    (h : kvFn path key' v p = some p') : p'.dotted = p.dotted := by
  obtain ⟨e, _⟩ := kvFn_facts _ _ _ _ _ h
  subst e; simp

theorem shape_setCurrent (st : CState) (items items' : Items) (imp : Bool) (p : Option Nat) (dec : Decor)
    (sp sp' : Option Span) (h : ShapeA st ∨ ShapeB st) (hc : st.current = .mk items imp false p dec sp)
    (hs : simpleBody items' = true) :
    ShapeA { st with current := .mk items' imp false p dec sp', trailing := none } ∨
    ShapeB { st with current := .mk items' imp false p dec sp', trailing := none } := by
  rcases h with ⟨a1, a2, itemsA, impA, spA, a3, a4⟩ | ⟨key, r0, rimp, rsp, itemsB, q, lead, trail, spB, b1, b2, b3, b4, b5, b6⟩
  · left
    rw [hc] at a3
    injection a3 with e1 e2 e3 e4 e5 e6
    subst e2; subst e4; subst e5
    exact ⟨a1, a2, items', imp, sp', rfl, hs⟩
  · right
    rw [hc] at b5
    injection b5 with e1 e2 e3 e4 e5 e6
    subst e2; subst e4; subst e5
    exact ⟨key, r0, rimp, rsp, items', q, lead, trail, sp', b1, b2, b3, b4, rfl, hs⟩

theorem finArr_notSimple (key : CKey) (t p p' : CTbl) (h : finArr key t p = some p') : simpleBody p'.items = false := by
  obtain ⟨_, _, _, rfl⟩ := CstState.finArr_some h
  rw [setItems_items]; exact simpleBody_cset _ _ rfl _

theorem finStd_notSimple (key : CKey) (t p p' : CTbl) (h : finStd key t p = some p') : simpleBody p'.items = false := by
  rcases CstState.finStd_some h with ⟨_, hl, _, rfl⟩ | ⟨_, rfl⟩ <;> rw [setItems_items]
  · exact simpleBody_creplace _ _ rfl _ _ hl
  · rw [simpleBody_append]; simp [simpleBody]

theorem fin_notSimple (b : Bool) (key : CKey) (t p p' : CTbl)
    (h : (if b then finArr key t else finStd key t) p = some p') : simpleBody p'.items = false := by
  cases b
  · exact finStd_notSimple key t p p' h
  · exact finArr_notSimple key t p p' h

theorem leafTbl_section (items : Items) (q : Nat) (lead trail : Raw) (sp : Option Span) (h : simpleBody items = true) :
    leafTbl (.mk items false false (some q) (Decor.new lead trail) sp) = true :=
  leafTbl_mk.2 ⟨rfl, rfl, rfl, rfl, rfl, h⟩

theorem finalize_good (st st1 : CState) (hfin : finalizeTable st = some st1) (hsh : ShapeA st ∨ ShapeB st) :
    ∃ r1 rimp rsp, st1.root = .mk r1 rimp false none {} rsp ∧ flatItems r1 = true := by
  rcases finalize_cases st st1 hfin with ⟨hp, _, e⟩ | ⟨pp, key, root', hp, hd, e⟩
  · subst e
    rcases hsh with ⟨_, _, items, imp, sp, a3, a4⟩ | ⟨key, _, _, _, _, _, _, _, _, b1, _⟩
    · exact ⟨items, imp, sp, a3, (simple_flat items a4).1⟩
    · rw [hp] at b1; cases b1
  · subst e
    rcases hsh with ⟨_, a2, _⟩ | ⟨key0, r0, rimp, rsp, items, q, lead, trail, sp, b1, b2, b3, b4, b5, b6⟩
    · rw [a2] at hp
      exact absurd hp.symm (by simp)
    · rw [b1] at hp
      obtain ⟨hpp, hkey⟩ := (List.append_singleton_inj (as := [])).mp hp
      subst hpp; cases hkey
      rw [descend_nil] at hd
      have hleaf := leafTbl_section items q lead trail sp b6
      cases hia : st.currentIsArray with
      | true =>
        simp only [hia, if_true] at hd b2
        have hl : clookup key.key (r0 ++ [(key, CItem.aot [] none)]) = some (.aot [] none) := by
          rw [clookup_append_none _ _ _ b4, clookup_single]; simp
        obtain ⟨ts, sp0, hget, hd⟩ := CstState.finArr_some hd
        rw [b2] at hget hd
        simp only [CTbl.items, hl, Option.getD_some] at hget hd
        cases hget
        rw [cset_last _ _ _ _ _ (by simp) b4] at hd
        refine ⟨r0 ++ [(key, CItem.aot [st.current] (aotSpan [st.current]))], rimp, rsp, by rw [hd]; simp [CTbl.setItems, CTbl.implicit, CTbl.dotted, CTbl.pos, CTbl.decor, CTbl.span], ?_⟩
        rw [flatItems_append, b3, b5]; simp [flatItems, hleaf]
      | false =>
        simp only [hia, Bool.false_eq_true, if_false, List.append_nil] at hd b2
        rcases CstState.finStd_some hd with ⟨_, hl, _⟩ | ⟨_, hd⟩
        · rw [b2] at hl; simp only [CTbl.items, b4] at hl; cases hl
        rw [b2] at hd
        refine ⟨r0 ++ [(key, CItem.table st.current)], rimp, rsp, by rw [hd]; simp [CTbl.setItems, CTbl.items, CTbl.implicit, CTbl.dotted, CTbl.pos, CTbl.decor, CTbl.span], ?_⟩
        rw [flatItems_append, b3, b5]; simp [flatItems, hleaf]

theorem finalize_frame (st st1 : CState) (hfin : finalizeTable st = some st1) (hg : GI st) :
    st1.trailing = st.trailing ∧ st1.position = st.position ∧ st1.current = CTbl.empty ∧
    st1.currentPath = [] ∧ nodupK st1.root.items = true := by
  obtain ⟨g1, g2, _⟩ := hg
  rcases finalize_cases st st1 hfin with ⟨hp, _, e⟩ | ⟨pp, key, root', hp, hd, e⟩
  · subst e; exact ⟨rfl, rfl, rfl, rfl, g2 hp⟩
  · subst e
    exact ⟨rfl, rfl, rfl, rfl, descend_nodup _ _ _ _ _ (fun p p' h hn => fin_nodup _ _ _ _ _ h hn) g1 hd⟩

/-- `finalize_table` carries every kind of bad state to a witness in the root: the current table
    itself becomes the witness, or it joins a witness already in the root, or the array under the
    header key gets its second element -/
theorem finalize_bad (st st1 : CState) (hfin : finalizeTable st = some st1) (hg : GI st) (hb : Bad st) :
    anyW st1.root.items = true := by
  obtain ⟨g1, g2, g3⟩ := hg
  rcases finalize_cases st st1 hfin with ⟨hp, hr, e⟩ | ⟨pp, key, root', hp, hd, e⟩
  · subst e
    simp only []
    rcases hb with ⟨_, b⟩ | ⟨b, _⟩ | b | b | ⟨_, key, _, _, b, _⟩
    · exact b
    · exact absurd hp b
    · rw [hp] at b; simp at b
    · rw [hr] at b; simp [anyW] at b
    · rw [hp] at b; cases b
  · subst e
    simp only []
    cases pp with
    | cons k ks =>
      exact descend_cons_insert_w _ _ _ _ _ _ (fun p p' h => fin_notSimple _ _ _ _ _ h) hd
    | nil =>
      rw [descend_nil] at hd
      simp only [List.nil_append] at hp
      cases hia : st.currentIsArray with
      | true =>
        simp only [hia, if_true] at hd
        obtain ⟨ts, sp0, hget, rfl⟩ := CstState.finArr_some hd
        · rw [setItems_items]
          rcases hb with ⟨b, _⟩ | ⟨_, b⟩ | b | b | ⟨_, key', ts', sp', b1, b2, b3⟩
          · rw [hp] at b; cases b
          · apply anyW_cset_new
            simp [wItem, b]
          · rw [hp] at b; simp at b
          · apply anyW_cset _ _ _ b
            intro y hy hwy
            rw [hy] at hget
            simp only [Option.getD_some] at hget
            subst hget
            simp only [wItem, Bool.or_eq_true, decide_eq_true_eq, List.any_append, List.length_append] at hwy ⊢
            rcases hwy with hwy | hwy
            · left; omega
            · right; left; exact hwy
          · rw [hp] at b1
            injection b1 with b1 _
            subst b1
            rw [b2] at hget
            simp only [Option.getD_some] at hget
            injection hget with e1 e2
            subst e1
            apply anyW_cset_new
            simp only [wItem, Bool.or_eq_true, decide_eq_true_eq, List.length_append]
            left
            cases ts' with
            | nil => exact absurd rfl b3
            | cons a b => simp
      | false =>
        simp only [hia, Bool.false_eq_true, if_false] at hd
        have hl := g3 hia key hp
        rcases CstState.finStd_some hd with ⟨_, hl', _⟩ | ⟨_, rfl⟩
        · rw [hl] at hl'; cases hl'
        rw [setItems_items, anyW_append]
        rcases hb with ⟨b, _⟩ | ⟨_, b⟩ | b | b | ⟨b, _⟩
        · rw [hp] at b; cases b
        · simp [anyW, wItem, b]
        · rw [hp] at b; simp at b
        · rw [b]; rfl
        · rw [hia] at b; cases b

end TomlVerif.Lemmas.Tiling03Hdr
