import TomlVerif.Lemmas.Edit08
/-! The frame property for entries *with their keys*: `lookupTbl` (Model/Edit.lean) returns the node
    a path leads to; `lookupKTbl` returns in addition the stored `Key` under which the node was found, when
    the last segment selected by key (its repr and decor are part of the printed line). The frame property
    is proved for `lookupKTbl`; `lookupTbl` is its node component and inherits it. -/
namespace TomlVerif.Lemmas.Refine08bFrame
open TomlVerif TomlVerif.Model TomlVerif.Model.Cst TomlVerif.Model.Edit TomlVerif.Lemmas.Edit08

abbrev KNode := Option CKey × Node

/- The `Option CKey` argument is an accumulator: the key of the entry entered last, reset to `none` by an index
   step; at the end of the path it is returned with the node (for the path `[]`: the caller's argument). -/
mutual
def lookupKVal : Option CKey → List Seg → CVal → Option KNode
  | ck, [], v => some (ck, .val v)
  | _, _ :: _, .scalar _ _ _ => none
  | _, s :: r, .arr items _ _ _ _ =>
    match s.idx with
    | some i => lookupKElems i r items
    | none => none
  | _, s :: r, .inl items _ _ _ _ _ =>
    match s.key with
    | some k => lookupKKvs k r items
    | none => none
def lookupKElems : Nat → List Seg → List CVal → Option KNode
  | _, _, [] => none
  | 0, r, v :: _ => lookupKVal none r v
  | i + 1, r, _ :: rest => lookupKElems i r rest
def lookupKKvs (k : Bytes) : List Seg → List (CKey × CVal) → Option KNode
  | _, [] => none
  | r, (k', v) :: rest => if k'.key == k then lookupKVal (some k') r v else lookupKKvs k r rest
end

mutual
def lookupKTbl : Option CKey → List Seg → CTbl → Option KNode
  | ck, [], t => some (ck, .tbl t)
  | _, s :: r, .mk items _ _ _ _ _ =>
    match s.key with
    | some k => lookupKItems k r items
    | none => none
def lookupKItems (k : Bytes) : List Seg → List (CKey × CItem) → Option KNode
  | _, [] => none
  | r, (k', it) :: rest => if k'.key == k then lookupKItem (some k') r it else lookupKItems k r rest
def lookupKItem : Option CKey → List Seg → CItem → Option KNode
  | ck, r, .value v => lookupKVal ck r v
  | ck, r, .table t => lookupKTbl ck r t
  | ck, [], .aot ts sp => some (ck, .aot ts sp)
  | _, s :: r, .aot ts _ =>
    match s.idx with
    | some i => lookupKNth i r ts
    | none => none
def lookupKNth : Nat → List Seg → List CTbl → Option KNode
  | _, _, [] => none
  | 0, r, t :: _ => lookupKTbl none r t
  | i + 1, r, _ :: rest => lookupKNth i r rest
end

mutual
theorem lookupKVal_snd : ∀ (ck : Option CKey) (p : List Seg) (v : CVal),
    (lookupKVal ck p v).map Prod.snd = lookupVal p v
  | _, [], _ => by simp [lookupKVal, lookupVal]
  | _, _ :: _, .scalar _ _ _ => by simp [lookupKVal, lookupVal]
  | _, s :: r, .arr items _ _ _ _ => by
    simp only [lookupKVal, lookupVal]
    cases s.idx with
    | none => rfl
    | some i => exact lookupKElems_snd i r items
  | _, s :: r, .inl items _ _ _ _ _ => by
    simp only [lookupKVal, lookupVal]
    cases s.key with
    | none => rfl
    | some k => exact lookupKKvs_snd k r items
theorem lookupKElems_snd : ∀ (i : Nat) (r : List Seg) (items : List CVal),
    (lookupKElems i r items).map Prod.snd = lookupElems i r items
  | _, _, [] => by simp [lookupKElems, lookupElems]
  | 0, r, v :: _ => by simp only [lookupKElems, lookupElems]; exact lookupKVal_snd none r v
  | i + 1, r, _ :: rest => by simp only [lookupKElems, lookupElems]; exact lookupKElems_snd i r rest
theorem lookupKKvs_snd (k : Bytes) : ∀ (r : List Seg) (items : List (CKey × CVal)),
    (lookupKKvs k r items).map Prod.snd = lookupKvs k r items
  | _, [] => by simp [lookupKKvs, lookupKvs]
  | r, (k', v) :: rest => by
    simp only [lookupKKvs, lookupKvs]
    split
    · exact lookupKVal_snd (some k') r v
    · exact lookupKKvs_snd k r rest
end

mutual
theorem lookupKTbl_snd : ∀ (ck : Option CKey) (p : List Seg) (t : CTbl),
    (lookupKTbl ck p t).map Prod.snd = lookupTbl p t
  | _, [], _ => by simp [lookupKTbl, lookupTbl]
  | _, s :: r, .mk items _ _ _ _ _ => by
    simp only [lookupKTbl, lookupTbl]
    cases s.key with
    | none => rfl
    | some k => exact lookupKItems_snd k r items
theorem lookupKItems_snd (k : Bytes) : ∀ (r : List Seg) (items : List (CKey × CItem)),
    (lookupKItems k r items).map Prod.snd = lookupItems k r items
  | _, [] => by simp [lookupKItems, lookupItems]
  | r, (k', it) :: rest => by
    simp only [lookupKItems, lookupItems]
    split
    · exact lookupKItem_snd (some k') r it
    · exact lookupKItems_snd k r rest
theorem lookupKItem_snd : ∀ (ck : Option CKey) (r : List Seg) (it : CItem),
    (lookupKItem ck r it).map Prod.snd = lookupItem r it
  | ck, r, .value v => by simp only [lookupKItem, lookupItem]; exact lookupKVal_snd ck r v
  | ck, r, .table t => by simp only [lookupKItem, lookupItem]; exact lookupKTbl_snd ck r t
  | _, [], .aot _ _ => by simp [lookupKItem, lookupItem]
  | _, s :: r, .aot ts _ => by
    simp only [lookupKItem, lookupItem]
    cases s.idx with
    | none => rfl
    | some i => exact lookupKNth_snd i r ts
theorem lookupKNth_snd : ∀ (i : Nat) (r : List Seg) (ts : List CTbl),
    (lookupKNth i r ts).map Prod.snd = lookupNth i r ts
  | _, _, [] => by simp [lookupKNth, lookupNth]
  | 0, r, t :: _ => by simp only [lookupKNth, lookupNth]; exact lookupKTbl_snd none r t
  | i + 1, r, _ :: rest => by simp only [lookupKNth, lookupNth]; exact lookupKNth_snd i r rest
end

/-! An update at `p` leaves what a diverging path `q` leads to as it was. One level down, for the
    entries of a table-like or the elements of an array: every other key or index is left alone, and so
    is the selected one along a diverging rest. -/

theorem kframe_vals (u : Upd) :
    (∀ p v v', updVal u p v = some v' → ∀ q, Diverge p q → ∀ ck, lookupKVal ck q v' = lookupKVal ck q v) ∧
    (∀ k r l l', updKvs u k r l = some l' →
      (∀ j q, j ≠ k → lookupKKvs j q l' = lookupKKvs j q l) ∧
      (∀ q, Diverge r q → lookupKKvs k q l' = lookupKKvs k q l)) ∧
    (∀ i r l l', updElems u i r l = some l' →
      (∀ j q, j ≠ i → lookupKElems j q l' = lookupKElems j q l) ∧
      (∀ q, Diverge r q → lookupKElems i q l' = lookupKElems i q l)) := by
  refine updVal_rel u ?here ?arr ?inl ?zero ?succ ?hit ?miss
  case here => intro v v' _ q hd; cases hd
  case arr =>
    intro s r i items items' tr c d sp hi ih q hd ck
    cases q with
    | nil => cases hd
    | cons b q =>
      simp only [lookupKVal]
      cases hb : b.idx with
      | none => rfl
      | some j =>
        rcases hd.idx hi hb with hj | ⟨rfl, hd'⟩
        · exact ih.1 j q hj
        · exact ih.2 q hd'
  case inl =>
    intro s r k items items' pre imp dot d sp hi ih q hd ck
    cases q with
    | nil => cases hd
    | cons b q =>
      simp only [lookupKVal]
      cases hb : b.key with
      | none => rfl
      | some j =>
        rcases hd.key hi hb with hj | ⟨rfl, hd'⟩
        · exact ih.1 j q hj
        · exact ih.2 q hd'
  case zero =>
    intro r v v' rest ih
    refine ⟨fun j q hj => ?_, fun q hd => ?_⟩
    · cases j with
      | zero => exact absurd rfl hj
      | succ j => simp only [lookupKElems]
    · simp only [lookupKElems]
      exact ih q hd none
  case succ =>
    intro i r v rest rest' ih
    refine ⟨fun j q hj => ?_, fun q hd => ?_⟩
    · cases j with
      | zero => simp only [lookupKElems]
      | succ j =>
        simp only [lookupKElems]
        exact ih.1 j q (by omega)
    · simp only [lookupKElems]
      exact ih.2 q hd
  case hit =>
    intro k r k' v v' rest hk ih
    refine ⟨fun j q hj => ?_, fun q hd => ?_⟩
    · have : (k'.key == j) = false := beq_eq_false_iff_ne.mpr fun e => hj (e.symm.trans (beq_iff_eq.mp hk))
      simp only [lookupKKvs, this, Bool.false_eq_true, if_false]
    · simp only [lookupKKvs, hk, if_true]
      exact ih q hd (some k')
  case miss =>
    intro k r k' v rest rest' hk ih
    refine ⟨fun j q hj => ?_, fun q hd => ?_⟩
    · simp only [lookupKKvs]
      split
      · rfl
      · exact ih.1 j q hj
    · simp only [lookupKKvs, hk]
      exact ih.2 q hd

theorem kframe_val (u : Upd) : ∀ (p : List Seg) (v v' : CVal), updVal u p v = some v' →
    ∀ q, Diverge p q → ∀ ck, lookupKVal ck q v' = lookupKVal ck q v :=
  (kframe_vals u).1

theorem kframe_elems (u : Upd) : ∀ (i : Nat) (r : List Seg) (items items' : List CVal),
    updElems u i r items = some items' →
    (∀ j q, j ≠ i → lookupKElems j q items' = lookupKElems j q items) ∧
    (∀ q, Diverge r q → lookupKElems i q items' = lookupKElems i q items) :=
  (kframe_vals u).2.2

theorem kframe_tbls (u : Upd) :
    (∀ p t t', updTbl u p t = some t' → ∀ q, Diverge p q → ∀ ck, lookupKTbl ck q t' = lookupKTbl ck q t) ∧
    (∀ k r l l', updItems u k r l = some l' →
      (∀ j q, j ≠ k → lookupKItems j q l' = lookupKItems j q l) ∧
      (∀ q, Diverge r q → lookupKItems k q l' = lookupKItems k q l)) ∧
    (∀ r it it', updItem u r it = some it' →
      ∀ q, Diverge r q → ∀ ck, lookupKItem ck q it' = lookupKItem ck q it) ∧
    (∀ i r l l', updNth u i r l = some l' →
      (∀ j q, j ≠ i → lookupKNth j q l' = lookupKNth j q l) ∧
      (∀ q, Diverge r q → lookupKNth i q l' = lookupKNth i q l)) := by
  refine updTbl_rel u ?here ?mk ?value ?table ?aotHere ?aot ?zero ?succ ?hit ?miss
  case here => intro t t' _ q hd; cases hd
  case mk =>
    intro s r k items items' imp dot p dec sp hi ih q hd ck
    cases q with
    | nil => cases hd
    | cons b q =>
      simp only [lookupKTbl]
      cases hb : b.key with
      | none => rfl
      | some j =>
        rcases hd.key hi hb with hj | ⟨rfl, hd'⟩
        · exact ih.1 j q hj
        · exact ih.2 q hd'
  case value =>
    intro r v v' h q hd ck
    simp only [lookupKItem]
    exact kframe_val u r v v' h q hd ck
  case table =>
    intro r t t' ih q hd ck
    simp only [lookupKItem]
    exact ih q hd ck
  case aotHere => intro ts ts' sp _ q hd; cases hd
  case aot =>
    intro s r i ts ts' sp hi ih q hd ck
    cases q with
    | nil => cases hd
    | cons b q =>
      simp only [lookupKItem]
      cases hb : b.idx with
      | none => rfl
      | some j =>
        rcases hd.idx hi hb with hj | ⟨rfl, hd'⟩
        · exact ih.1 j q hj
        · exact ih.2 q hd'
  case zero =>
    intro r t t' rest ih
    refine ⟨fun j q hj => ?_, fun q hd => ?_⟩
    · cases j with
      | zero => exact absurd rfl hj
      | succ j => simp only [lookupKNth]
    · simp only [lookupKNth]
      exact ih q hd none
  case succ =>
    intro i r t rest rest' ih
    refine ⟨fun j q hj => ?_, fun q hd => ?_⟩
    · cases j with
      | zero => simp only [lookupKNth]
      | succ j =>
        simp only [lookupKNth]
        exact ih.1 j q (by omega)
    · simp only [lookupKNth]
      exact ih.2 q hd
  case hit =>
    intro k r k' it it' rest hk ih
    refine ⟨fun j q hj => ?_, fun q hd => ?_⟩
    · have : (k'.key == j) = false := beq_eq_false_iff_ne.mpr fun e => hj (e.symm.trans (beq_iff_eq.mp hk))
      simp only [lookupKItems, this, Bool.false_eq_true, if_false]
    · simp only [lookupKItems, hk, if_true]
      exact ih q hd (some k')
  case miss =>
    intro k r k' it rest rest' hk ih
    refine ⟨fun j q hj => ?_, fun q hd => ?_⟩
    · simp only [lookupKItems]
      split
      · rfl
      · exact ih.1 j q hj
    · simp only [lookupKItems, hk]
      exact ih.2 q hd

theorem kframe_tbl (u : Upd) : ∀ (p : List Seg) (t t' : CTbl), updTbl u p t = some t' →
    ∀ q, Diverge p q → ∀ ck, lookupKTbl ck q t' = lookupKTbl ck q t :=
  (kframe_tbls u).1

theorem kframe_items (u : Upd) (k : Bytes) : ∀ (r : List Seg) (items items' : List (CKey × CItem)),
    updItems u k r items = some items' →
    (∀ j q, j ≠ k → lookupKItems j q items' = lookupKItems j q items) ∧
    (∀ q, Diverge r q → lookupKItems k q items' = lookupKItems k q items) :=
  (kframe_tbls u).2.1 k

theorem kframe_item (u : Upd) : ∀ (r : List Seg) (it it' : CItem), updItem u r it = some it' →
    ∀ q, Diverge r q → ∀ ck, lookupKItem ck q it' = lookupKItem ck q it :=
  (kframe_tbls u).2.2.1

theorem kframe_nth (u : Upd) : ∀ (i : Nat) (r : List Seg) (ts ts' : List CTbl),
    updNth u i r ts = some ts' →
    (∀ j q, j ≠ i → lookupKNth j q ts' = lookupKNth j q ts) ∧
    (∀ q, Diverge r q → lookupKNth i q ts' = lookupKNth i q ts) :=
  (kframe_tbls u).2.2.2

end TomlVerif.Lemmas.Refine08bFrame

namespace TomlVerif.Lemmas.Edit08
open TomlVerif TomlVerif.Model TomlVerif.Model.Cst TomlVerif.Model.Edit TomlVerif.Lemmas.Refine08bFrame

theorem frame_elems (u : Upd) : ∀ (i : Nat) (r : List Seg) (items items' : List CVal),
    updElems u i r items = some items' →
    (∀ j q, j ≠ i → lookupElems j q items' = lookupElems j q items) ∧
    (∀ q, Diverge r q → lookupElems i q items' = lookupElems i q items) := by
  intro i r items items' h
  refine ⟨fun j q hj => ?_, fun q hd => ?_⟩
  · rw [← lookupKElems_snd, ← lookupKElems_snd, (kframe_elems u i r items items' h).1 j q hj]
  · rw [← lookupKElems_snd, ← lookupKElems_snd, (kframe_elems u i r items items' h).2 q hd]

theorem frame_tbl (u : Upd) : ∀ (p : List Seg) (t t' : CTbl), updTbl u p t = some t' →
    ∀ q, Diverge p q → lookupTbl q t' = lookupTbl q t := by
  intro p t t' h q hd
  rw [← lookupKTbl_snd none, ← lookupKTbl_snd none, kframe_tbl u p t t' h q hd]

theorem frame_items (u : Upd) (k : Bytes) : ∀ (r : List Seg) (items items' : List (CKey × CItem)),
    updItems u k r items = some items' →
    (∀ j q, j ≠ k → lookupItems j q items' = lookupItems j q items) ∧
    (∀ q, Diverge r q → lookupItems k q items' = lookupItems k q items) := by
  intro r items items' h
  refine ⟨fun j q hj => ?_, fun q hd => ?_⟩
  · rw [← lookupKItems_snd, ← lookupKItems_snd, (kframe_items u k r items items' h).1 j q hj]
  · rw [← lookupKItems_snd, ← lookupKItems_snd, (kframe_items u k r items items' h).2 q hd]

theorem frame_item (u : Upd) : ∀ (r : List Seg) (it it' : CItem), updItem u r it = some it' →
    ∀ q, Diverge r q → lookupItem q it' = lookupItem q it := by
  intro r it it' h q hd
  rw [← lookupKItem_snd none, ← lookupKItem_snd none, kframe_item u r it it' h q hd]

theorem frame_nth (u : Upd) : ∀ (i : Nat) (r : List Seg) (ts ts' : List CTbl),
    updNth u i r ts = some ts' →
    (∀ j q, j ≠ i → lookupNth j q ts' = lookupNth j q ts) ∧
    (∀ q, Diverge r q → lookupNth i q ts' = lookupNth i q ts) := by
  intro i r ts ts' h
  refine ⟨fun j q hj => ?_, fun q hd => ?_⟩
  · rw [← lookupKNth_snd, ← lookupKNth_snd, (kframe_nth u i r ts ts' h).1 j q hj]
  · rw [← lookupKNth_snd, ← lookupKNth_snd, (kframe_nth u i r ts ts' h).2 q hd]

end TomlVerif.Lemmas.Edit08
