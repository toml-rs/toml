import TomlVerif.Lemmas.ContainersSound01
import TomlVerif.Lemmas.ScalarLocal01
import TomlVerif.Props.C10
import TomlVerif.Props.C11
import TomlVerif.Props.C12
/-! `ScalarSound`: every scalar branch of `value` consumes a scalar token (`ScalarOK`). Hence a text is a scalar
    token as soon as `value` reads it completely when nothing follows (`scalarOK_iff`), and that is how the
    concrete tokens are shown to be scalar tokens: strings the writer produces, decimal integer literals, the
    writer's float tokens, printed date-times. -/
namespace TomlVerif.Lemmas.Sound01
open TomlVerif TomlVerif.Spec TomlVerif.Model TomlVerif.Model.Strings TomlVerif.Model.Value
open TomlVerif.Spec.AstValue TomlVerif.Lemmas.Value01 TomlVerif.Lemmas.Scalars01
open TomlVerif.Model.Datetime TomlVerif.Lemmas.Datetime12 TomlVerif.Lemmas.Numbers11
open TomlVerif.Spec.AstString (StringAst MlFollow)
open TomlVerif.Lemmas.ValueParse (value_ok)

theorem head_of_prefix (b : Byte) (r tok rest : Bytes) (e : b :: r = tok ++ rest) (hne : tok ≠ []) :
    ∃ X, tok = b :: X := by
  cases tok with
  | nil => exact absurd rfl hne
  | cons c X =>
    simp only [List.cons_append] at e
    injection e with e1 _
    exact ⟨X, by rw [e1]⟩

theorem scalarOK_of_local (tok : Bytes) (v : Val) (b : Byte) (X : Bytes) (e : tok = b :: X)
    (hbf : isFollowByte b = false) (hb1 : b ≠ 0x5B) (hb2 : b ≠ 0x7B)
    (hloc : ∀ f d rest', ValFollowS rest' → value (f + 1) d (tok ++ rest') = .ok v rest') : ScalarOK ⟨tok, v⟩ := by
  refine ⟨⟨b, X, e, hbf, hb1, hb2⟩, ?_⟩
  intro fuel d rest hf hr
  obtain ⟨f, rfl⟩ := succ_of_lt hf
  exact hloc f d rest hr

theorem stringFollow_of_follow (a : StringAst) (rest : Bytes) (hr : ValFollow rest) : a.Follow rest := by
  have hq : ∀ q : Byte, (q = 0x22 ∨ q = 0x27) → rest.head? ≠ some q := by
    intro q hq
    cases rest with
    | nil => simp
    | cons c t =>
      have := follow_not_quote c hr
      simp only [List.head?_cons, ne_eq, Option.some.injEq]
      rcases hq with rfl | rfl
      · exact this.1
      · exact this.2
  cases a with
  | basic cs => exact Or.inr (hq _ (Or.inl rfl))
  | mlBasic a => exact Or.inr (hq _ (Or.inl rfl))
  | literal bs => exact Or.inr (hq _ (Or.inr rfl))
  | mlLiteral a => exact Or.inr (hq _ (Or.inr rfl))

theorem stringRender_head (a : StringAst) : ∃ q t, a.render = q :: t ∧ (q = 0x22 ∨ q = 0x27) := by
  cases a
  · exact ⟨0x22, _, rfl, .inl rfl⟩
  · exact ⟨0x22, _, rfl, .inl rfl⟩
  · exact ⟨0x27, _, rfl, .inr rfl⟩
  · exact ⟨0x27, _, rfl, .inr rfl⟩

theorem string_ok_head (s v r : Bytes) (h : Strings.string s = .ok v r) :
    ∃ b t, s = b :: t ∧ (b = 0x22 ∨ b = 0x27) := by
  obtain ⟨a, _, _, e, _⟩ := TomlVerif.Props.C02Strings.T02_string_sound _ _ _ h
  obtain ⟨q, t, eq, hq⟩ := stringRender_head a
  exact ⟨q, t ++ r, by rw [e, eq]; rfl, hq⟩

theorem scalar_string (b : Byte) (r sv rest : Bytes)
    (hq : (b == 0x22 || b == 0x27) = true) (hs : Strings.string (b :: r) = .ok sv rest) :
    ∃ t : ScalarTok, ScalarOK t ∧ b :: r = t.tok ++ rest ∧ t.v = .str sv := by
  obtain ⟨a, hw, _, e, hv⟩ := TomlVerif.Props.C02Strings.T02_string_sound _ _ _ hs
  obtain ⟨X, eX⟩ := head_of_prefix b r a.render rest e
    (by obtain ⟨q, t, eq, _⟩ := stringRender_head a; rw [eq]; nofun)
  obtain ⟨hbq, hbf, hb1, hb2⟩ := quote_facts b hq
  refine ⟨⟨a.render, .str sv⟩, ?_, e, rfl⟩
  apply scalarOK_of_local a.render (.str sv) b X eX hbf hb1 hb2
  intro f' d' rest' hr
  have hd := TomlVerif.Props.C02Strings.T02_string_dispatch a rest' hw (stringFollow_of_follow a rest' hr.1)
  rw [eX, List.cons_append] at hd ⊢
  rw [value_str f' d' b _ hbq, hd, hv]
  rfl

def infTok : ScalarTok := ⟨[0x69, 0x6E, 0x66], .float Ieee.infBits⟩
def nanTok : ScalarTok := ⟨[0x6E, 0x61, 0x6E], .float Ieee.nanBits⟩

theorem scalarOK_inf : ScalarOK infTok :=
  scalarOK_of_local _ _ 0x69 _ rfl (by decide) (by decide) (by decide) fun f d rest _ => by
    simp [value, Numbers.startsWith, isDigit, inR]

theorem scalarOK_nan : ScalarOK nanTok :=
  scalarOK_of_local _ _ 0x6E _ rfl (by decide) (by decide) (by decide) fun f d rest _ => by
    simp [value, Numbers.startsWith, isDigit, inR]

theorem scalar_dt (b : Byte) (r rest : Bytes) (dtv : Datetime) (hb : (b == 0x2B || b == 0x2D || isDigit b) = true)
    (hdt : Doc.dateTime (b :: r) = .ok dtv rest) :
    ∃ t : ScalarTok, ScalarOK t ∧ b :: r = t.tok ++ rest ∧ t.v = .dt dtv := by
  obtain ⟨hbf, hb1, hb2⟩ := numStart_ne b hb
  obtain ⟨tok, e, ⟨a, X0, et, _⟩, hloc⟩ := dateTime_local _ _ _ hdt
  obtain ⟨X, eX⟩ := head_of_prefix b r tok rest e (by rw [et]; simp)
  refine ⟨⟨tok, .dt dtv⟩, ?_, e, rfl⟩
  apply scalarOK_of_local tok _ b X eX hbf hb1 hb2
  intro f' d' rest' hr
  have := hloc rest' hr
  rw [eX, List.cons_append] at this ⊢
  exact value_dt f' d' b _ rest' dtv hb this

theorem scalar_float (b : Byte) (r rest : Bytes) (bits : Nat) (hb : (b == 0x2B || b == 0x2D || isDigit b) = true)
    (hdt : Doc.dateTime (b :: r) = .bt) (hfl : Numbers.float (b :: r) = .ok bits rest) :
    ∃ t : ScalarTok, ScalarOK t ∧ b :: r = t.tok ++ rest ∧ t.v = .float bits := by
  obtain ⟨hbf, hb1, hb2⟩ := numStart_ne b hb
  obtain ⟨tok, e, hne, hloc⟩ := float_local _ _ _ hfl
  obtain ⟨X, eX⟩ := head_of_prefix b r tok rest e hne
  refine ⟨⟨tok, .float bits⟩, ?_, e, rfl⟩
  apply scalarOK_of_local tok _ b X eX hbf hb1 hb2
  intro f' d' rest' hr
  have h1 := dateTime_bt_transfer tok rest rest' (by rw [← e]; exact hdt) (dtStops_of_follow rest' hr.1)
  have h2 := hloc rest' hr.1
  rw [eX, List.cons_append] at h1 h2 ⊢
  exact value_float f' d' b _ rest' bits hb h1 h2

theorem scalar_int (b : Byte) (r rest : Bytes) (n : Int) (hb : (b == 0x2B || b == 0x2D || isDigit b) = true)
    (hdt : Doc.dateTime (b :: r) = .bt) (hi : Numbers.integer (b :: r) = .ok n rest) :
    ∃ t : ScalarTok, ScalarOK t ∧ b :: r = t.tok ++ rest ∧ t.v = .int n := by
  obtain ⟨hbf, hb1, hb2⟩ := numStart_ne b hb
  obtain ⟨tok, e, ⟨sign, d0, X0, et, _⟩, hloc⟩ := integer_local _ _ _ hi
  obtain ⟨X, eX⟩ := head_of_prefix b r tok rest e (by rw [et]; exact List.append_ne_nil_of_right_ne_nil _ (List.cons_ne_nil _ _))
  refine ⟨⟨tok, .int n⟩, ?_, e, rfl⟩
  apply scalarOK_of_local tok _ b X eX hbf hb1 hb2
  intro f' d' rest' hr
  have h1 := dateTime_bt_transfer tok rest rest' (by rw [← e]; exact hdt) (dtStops_of_follow rest' hr.1)
  have h2 := (hloc rest' hr.1).2
  have h3 := (hloc rest' hr.1).1
  rw [eX, List.cons_append] at h1 h2 h3 ⊢
  exact value_int f' d' b _ rest' n hb h1 h2 h3

theorem scalarSound : ScalarSound := by
  intro fuel d s v rest h hnb
  cases fuel with
  | zero => simp [value] at h
  | succ f =>
    cases value_ok h with
    | arr => exact absurd rfl (hnb _ _ rfl).1
    | inl => exact absurd rfl (hnb _ _ rfl).2
    | scalar hs =>
      cases hs with
      | str hq hw => exact scalar_string _ _ _ _ hq hw
      | dt hb hd => exact scalar_dt _ _ _ _ hb hd
      | float hb hd hf => exact scalar_float _ _ _ _ hb hd hf
      | int hb hd _ hi => exact scalar_int _ _ _ _ hb hd hi
      | tt hk => exact ⟨trueTok, scalarOK_true, (Suffix03.keyword_eq _ _ _ hk).2, rfl⟩
      | ff hk => exact ⟨falseTok, scalarOK_false, (Suffix03.keyword_eq _ _ _ hk).2, rfl⟩
      | inf hsw => exact ⟨infTok, scalarOK_inf, Suffix03.startsWith_eq _ _ _ hsw, rfl⟩
      | nan hsw => exact ⟨nanTok, scalarOK_nan, Suffix03.startsWith_eq _ _ _ hsw, rfl⟩

/-- `ScalarOK` asks for every continuation, fuel and depth; reading the token alone is enough, the rest is
    `scalarSound` -/
theorem scalarOK_iff (tok : Bytes) (v : Val) : ScalarOK ⟨tok, v⟩ ↔ value 1 0 tok = .ok v [] := by
  constructor
  · intro h
    have := h.2 1 0 [] (Nat.le_refl 1) ⟨trivial, fun b r e => by cases e⟩
    rwa [List.append_nil] at this
  · intro h
    obtain ⟨⟨tok', v'⟩, ht, e, hv⟩ := scalarSound 1 0 tok v [] h (scalarParse_head (ValueParse.value_one_ok h))
    rw [List.append_nil] at e
    simp only at e hv
    subst e hv
    exact ht

end TomlVerif.Lemmas.Sound01

namespace TomlVerif.Lemmas.Scalars01
open TomlVerif TomlVerif.Spec TomlVerif.Model TomlVerif.Model.Strings TomlVerif.Model.Value
open TomlVerif.Spec.AstValue TomlVerif.Lemmas.Value01 TomlVerif.Lemmas.Sound01
open TomlVerif.Model.Datetime TomlVerif.Model.Numbers TomlVerif.Lemmas.Numbers11
open TomlVerif.Lemmas.Datetime12 TomlVerif.Props.C12

theorem scalarOK_string (st : Write.VStyle) (s tok : Bytes) (h : Write.writeValue st s = some tok) :
    ScalarOK ⟨tok, .str s⟩ := by
  have h0 := TomlVerif.Props.C10.T10_value st s tok [] h (by simp [TomlVerif.Props.C10.ValueFollow])
  rw [List.append_nil] at h0
  obtain ⟨b, t, e, hb⟩ := string_ok_head tok s [] h0
  rw [scalarOK_iff, e, value_str 0 0 b t hb, ← e, h0]
  rfl

theorem numTail_nil (t : Bytes) (ht : ∀ b ∈ t, isDigit b = true ∨ b = 0x5F ∨ b = 0x2E) : NumTail t [] :=
  ⟨fun b hb => digit_tail_facts b (ht b hb), fun b r e => by cases e⟩

theorem dec_tok_shape (sign : Option Bool) (groups : List Bytes) (hg : GoodGroups isDigit groups) :
    ∃ b t, signBytes sign ++ joinU groups = b :: t ∧ (b == 0x2B || b == 0x2D || isDigit b) = true ∧
      ∀ c ∈ t, isDigit c = true ∨ c = 0x5F ∨ c = 0x2E := by
  obtain ⟨d, t, e, hd, ht0⟩ := (joinU_text hg).1
  have ht : ∀ b ∈ t, isDigit b = true ∨ b = 0x5F ∨ b = 0x2E := fun b hb => (ht0 b hb).elim .inl fun h => .inr (.inl h)
  have hf := digit_start_facts d hd
  match sign with
  | none => exact ⟨d, t, by simp [signBytes, e], hf.1, ht⟩
  | some false =>
    exact ⟨0x2B, d :: t, by simp [signBytes, e], by decide, List.forall_mem_cons.2 ⟨.inl hd, ht⟩⟩
  | some true =>
    exact ⟨0x2D, d :: t, by simp [signBytes, e], by decide, List.forall_mem_cons.2 ⟨.inl hd, ht⟩⟩

theorem scalarOK_dec (sign : Option Bool) (groups : List Bytes) (hg : GoodGroups isDigit groups)
    (hz : NoLeadingZero groups) (hin : inI64 (decValue sign groups) = true) :
    ScalarOK ⟨signBytes sign ++ joinU groups, .int (decValue sign groups)⟩ := by
  obtain ⟨b, t, e, hb, ht⟩ := dec_tok_shape sign groups hg
  have h1 := dateTime_bt_of b t [] (numTail_nil t ht)
  have h2 := float_bt_dec sign groups [] hg hz trivial
  have h3 := TomlVerif.Props.C11.T11_dec_literal sign groups [] hg hz trivial
  rw [hin] at h3
  simp only [List.append_nil, e, if_true] at h1 h2 h3
  rw [scalarOK_iff, e]
  exact value_int 0 0 b t [] _ hb h1 h2 h3

/-- the float writer's token for a finite non-zero value whose `Display` text is `-? intDs (. frac)?` -/
def floatTok (neg negD : Bool) (intDs : Bytes) (frac : Option Bytes) : Bytes :=
  writeFloat neg false false (!(dispBytes negD intDs frac).contains 0x2E) (dispBytes negD intDs frac)

theorem floatTok_shape (neg negD : Bool) (intDs : Bytes) (frac : Option Bytes)
    (hne : intDs ≠ []) (hi : AllB isDigit intDs) (hf : ∀ f, frac = some f → f ≠ [] ∧ AllB isDigit f) :
    ∃ b t, floatTok neg negD intDs frac = b :: t ∧ (b == 0x2B || b == 0x2D || isDigit b) = true ∧
      ∀ c ∈ t, isDigit c = true ∨ c = 0x5F ∨ c = 0x2E := by
  cases intDs with
  | nil => exact absurd rfl hne
  | cons d ds =>
    have hd := AllB_cons.1 hi
    have hs := digit_start_facts d hd.1
    have hX : ∃ X, floatTok neg negD (d :: ds) frac = (if negD then [0x2D] else []) ++ d :: X ∧
        ∀ c ∈ X, isDigit c = true ∨ c = 0x5F ∨ c = 0x2E := by
      unfold floatTok
      rw [dispBytes_contains_dot negD (d :: ds) frac hi]
      cases frac with
      | none =>
        refine ⟨ds ++ [0x2E, 0x30], by cases negD <;> simp [writeFloat, dispBytes], ?_⟩
        intro c hc
        rcases List.mem_append.1 hc with hc | hc
        · exact Or.inl (hd.2 c hc)
        · simp at hc; rcases hc with rfl | rfl
          · exact Or.inr (Or.inr rfl)
          · exact Or.inl (by decide)
      | some f =>
        refine ⟨ds ++ 0x2E :: f, by cases negD <;> simp [writeFloat, dispBytes], ?_⟩
        intro c hc
        rcases List.mem_append.1 hc with hc | hc
        · exact Or.inl (hd.2 c hc)
        · rcases List.mem_cons.1 hc with rfl | hc
          · exact Or.inr (Or.inr rfl)
          · exact Or.inl ((hf f rfl).2 c hc)
    obtain ⟨X, e, hXb⟩ := hX
    cases negD with
    | false => exact ⟨d, X, by simpa using e, hs.1, hXb⟩
    | true =>
      exact ⟨0x2D, d :: X, by simpa using e, by decide, List.forall_mem_cons.2 ⟨.inl hd.1, hXb⟩⟩

theorem scalarOK_float (neg negD : Bool) (intDs : Bytes) (frac : Option Bytes)
    (hne : intDs ≠ []) (hi : AllB isDigit intDs) (hz : ∀ t, intDs = 0x30 :: t → t = [])
    (hf : ∀ f, frac = some f → f ≠ [] ∧ AllB isDigit f)
    (hfin : Ieee.isInfBits (FloatLit.bits ⟨negD, intDs, frac.getD [0x30], false, []⟩) = false) :
    ScalarOK ⟨floatTok neg negD intDs frac, .float (FloatLit.bits ⟨negD, intDs, frac.getD [0x30], false, []⟩)⟩ := by
  obtain ⟨b, t, e, hb, ht⟩ := floatTok_shape neg negD intDs frac hne hi hf
  have h1 := dateTime_bt_of b t [] (numTail_nil t ht)
  have h2 := Props.C11.T11_writeFloat_is_float neg negD intDs frac hne hi hz hf
  rw [List.append_nil] at h1
  have h3 : float (floatTok neg negD intDs frac) =
      .ok (FloatLit.bits ⟨negD, intDs, frac.getD [0x30], false, []⟩) [] := by
    unfold float floatTok
    rw [h2]
    simp only [hfin]
    simp
  rw [e] at h3
  rw [scalarOK_iff, e]
  exact value_float 0 0 b t [] _ hb h1 h3

theorem scalarOK_datetime (dt : Datetime) (h : FieldsInRange dt) (hy : ∀ d, dt.date = some d → d.year ≤ 9999) :
    ScalarOK ⟨Std.display dt, .dt dt⟩ := by
  have hp := dateTime_display dt h hy [] dtFollow_nil
  rw [List.append_nil] at hp
  obtain ⟨b, t, e, hd⟩ := dateTime_head hp
  rw [e] at hp
  rw [scalarOK_iff, e]
  exact value_dt 0 0 b t [] dt (digit_start_facts b hd).1 hp

end TomlVerif.Lemmas.Scalars01
