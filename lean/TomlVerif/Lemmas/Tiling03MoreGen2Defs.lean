import TomlVerif.Lemmas.Tiling03MoreGenDefs
/-! C03, same data — headers THROUGH dotted-key tables: the class `genRun2` = `genRun` with the
    condition `!t.dotted` on the tables of a header's path dropped (`pathOkT2`).  Inclusion
    `genRun ⊆ genRun2`.  The same-data theorem for `genRun2` is `same_data_gen2`
    (`Lemmas/Same03Main.lean`). -/
namespace TomlVerif.Lemmas.Tiling03More.Gen
open TomlVerif TomlVerif.Spec TomlVerif.Model TomlVerif.Model.Strings TomlVerif.Model.Value
open TomlVerif.Model.Cst TomlVerif.Model.Encode TomlVerif.Lemmas.Suffix03 TomlVerif.Lemmas.Cst03
open TomlVerif.Lemmas.LastByte03 TomlVerif.Lemmas.Tiling03 TomlVerif.Lemmas.Tiling03Hdr
open TomlVerif.Lemmas.Tiling03Nest TomlVerif.Lemmas.Tiling03More TomlVerif.Lemmas.Tiling03More.Tko

/-- `pathOkT` without `!t.dotted` for the tables on the path (the parser's own check is on the
    ENTRY named by the last key: implicit and not dotted, or absent) -/
def pathOkT2 (inp : Bytes) (a : Bool) (key : CKey) : CTbl → List CKey → Bool
  | t, [] => (match clookup key.key t.items with
      | none => true
      | some (.aot _ _) => a
      | some (.table t') => !a && t'.implicit && !t'.dotted && segChk inp false key t.items && onlySubs t'.items
      | some (.value _) => false)
  | t, k :: ks => (match clookup k.key t.items with
      | none => true
      | some (.table sub) => pathOkT2 inp a key sub ks
      | some (.aot ts _) =>
          (match ts.reverse with
           | l :: _ => pathOkT2 inp a key l ks
           | [] => false)
      | some (.value _) => false)

def hdrChkT2 (inp : Bytes) (a : Bool) (st1 : CState) (r : Bytes) : Bool :=
  match ckeyPath inp.length r with
  | .ok ks _ =>
    (match splitLast ks with
     | some (pp, key) => pathOkT2 inp a key st1.root pp
     | none => true)
  | _ => true

def hdrLineOkT2 (inp : Bytes) (st : CState) (s : Bytes) : Bool :=
  match finalizeTable st with
  | none => true
  | some st1 =>
    (match s with
     | 0x5B :: 0x5B :: r => hdrChkT2 inp true st1 r
     | _ => true) &&
    (match s with
     | 0x5B :: r => hdrChkT2 inp false st1 r
     | _ => true)

def runOkG2 (inp : Bytes) : Nat → CState → Bytes → Bool
  | 0, _, _ => true
  | fuel + 1, st, s =>
    let n := inp.length
    match s with
    | [] => true
    | b :: r =>
      if b == 0x23 then
        let r1 := dropComment r
        match r1 with
        | [] => true
        | _ => match newline? r1 with
          | some r2 =>
            let (st', r3) := parseWs n (onWs st (pos n s) (pos n r2)) r2
            runOkG2 inp fuel st' r3
          | none => true
      else if b == 0x5B then
        hdrLineOkT2 inp st s &&
        (match ctableLine n st s with
         | some (st', r1) =>
           let (st'', r2) := parseWs n st' r1
           runOkG2 inp fuel st'' r2
         | none => true)
      else if b == 0x0A || b == 0x0D then
        match newline? s with
        | some r1 =>
          let (st', r2) := parseWs n (onWs st (pos n s) (pos n r1)) r1
          runOkG2 inp fuel st' r2
        | none => true
      else
        kvLineOkN inp st s &&
        (match ckeyvalLine n st s with
         | some (st', r1) =>
           let (st'', r2) := parseWs n st' r1
           runOkG2 inp fuel st'' r2
         | none => true)

theorem runOkG2_with (inp : Bytes) : ∀ (fuel : Nat) (st : CState) (s : Bytes),
    runOkG2 inp fuel st s = runOkWith (hdrLineOkT2 inp) (kvLineOkN inp) inp.length fuel st s
  | 0, _, _ => rfl
  | fuel + 1, st, s => by
    unfold runOkG2 runOkWith
    simp only [runOkG2_with inp fuel]
    rfl

def genRun2 (s : Bytes) : Bool :=
  let n := s.length
  let s0 := Doc.stripBom s
  let (st0, s1) := parseWs n {} s0
  runOkG2 s (s1.length + 1) st0 s1

theorem pathOkT_T2 (inp : Bytes) (a : Bool) (key : CKey) : ∀ (pp : List CKey) (t : CTbl),
    pathOkT inp a key t pp = true → pathOkT2 inp a key t pp = true
  | [], t, h => by
    simp only [pathOkT, Bool.and_eq_true] at h
    simp only [pathOkT2]
    exact h.2
  | k :: ks, t, h => by
    simp only [pathOkT, Bool.and_eq_true] at h
    simp only [pathOkT2]
    have h2 := h.2
    cases hl : clookup k.key t.items with
    | none => rfl
    | some y =>
      rw [hl] at h2
      cases y with
      | value v => simp at h2
      | table sub => exact pathOkT_T2 inp a key ks sub h2
      | aot ts asp =>
        simp only [] at h2 ⊢
        split at h2
        · rename_i l rest hrev
          simp only [hrev]
          exact pathOkT_T2 inp a key ks l h2
        · cases h2

theorem hdrLineOkT_T2 (inp : Bytes) (st : CState) (s : Bytes) (h : hdrLineOkT inp st s = true) :
    hdrLineOkT2 inp st s = true :=
  -- both checks unfold to `hdrLineOkWith` of their path predicate
  hdrLineOkWith_mono (fun a key t pp => pathOkT_T2 inp a key pp t) st s h

theorem genRun_G2 (s : Bytes) (h : genRun s = true) : genRun2 s = true := by
  unfold genRun at h
  unfold genRun2
  simp only [] at h ⊢
  rw [runOkG_with] at h
  rw [runOkG2_with]
  exact runOkWith_mono _ (hdrLineOkT_T2 s) (fun _ _ h => h) _ _ _ h

end TomlVerif.Lemmas.Tiling03More.Gen
