import TomlVerif.Lemmas.Same03Body
import TomlVerif.Spec.Encode06
/-! C03, same data for NON-adjacent dotted keys — the decidable hypotheses of the same-data lemmas
    (`Lemmas/Same03*.lean`) for the class `nadRun` of `Lemmas/Tiling03MoreNadDefs.lean` on concrete inputs (non-vacuity). -/
namespace TomlVerif.Lemmas.Tiling03More.Nad
open TomlVerif TomlVerif.Spec TomlVerif.Model TomlVerif.Model.Strings TomlVerif.Model.Value
open TomlVerif.Model.Cst TomlVerif.Model.Encode TomlVerif.Lemmas.Tiling03Nest TomlVerif.Lemmas.Tiling03More

/-- two levels of dotted keys, none adjacent; an inline table with dotted keys as a value -/
def exN : Bytes := strBytes "a.x.p = 1 # c1\na.y = 2\nq = {u.v = 1}\na.x.q = 3\n"

/-- the state after the first three key/value lines, and the rest -/
def afterKv3 (s : Bytes) : Option (CState × Bytes) :=
  (ckeyvalLine s.length {} s).bind fun p =>
    (ckeyvalLine s.length (parseWs s.length p.1 p.2).1 (parseWs s.length p.1 p.2).2).bind fun q =>
      (ckeyvalLine s.length (parseWs s.length q.1 q.2).1 (parseWs s.length q.1 q.2).2).map fun u =>
        ((parseWs s.length u.1 u.2).1, (parseWs s.length u.1 u.2).2)

/-- `kvLineOkN_use`, `kv_descendN`, `keyval_step_G2`: the fourth line (`a.x.q`, after `a.y` and `q`)
    passes `dottedOkN`, fails the adjacency check, and is accepted; the body it meets is a
    `bodyOkN` body -/
example : ((afterKv3 exN).map fun p => kvLineOkN exN p.1 p.2) = some true ∧
    ((afterKv3 exN).map fun p => kvLineOkA exN p.1 p.2) = some false ∧
    ((afterKv3 exN).map fun p => (ckeyvalLine exN.length p.1 p.2).isSome) = some true ∧
    ((afterKv3 exN).map fun p => bodyOkN p.1.current.items && bodyOkU p.1.current.items) = some true := by
  decide +kernel

/-- `replay_body`, `flat_stmts`, `flatN_ne`, `run_bodyG`: the parsed body satisfies `bodyOkN`;
    replaying its statements into the emptied table rebuilds it (decidable form of the
    conclusion); one statement per flattened entry -/
example : ((parseCst exN).map fun d => bodyOkN d.root.items) = some true ∧
    ((parseCst exN).map fun d => Spec.Encode06.beqOptTbl
      (replay true ((eraseTbl d.root).setItems []) (flatN d.root.items)) (some (eraseTbl d.root))) = some true ∧
    ((parseCst exN).map fun d => (valuesTbl d.root.items []).length) = some 4 ∧
    ((parseCst exN).map fun d => (flatN d.root.items).length) = some 4 := by decide +kernel

/-- `replay_push_new`, `replay_push_some`: statements under a common first segment -/
example : Spec.Encode06.beqOptTbl
    (replay true Tbl.empty ([([[0x78]], [0x70], .int 1), ([], [0x79], .int 2)].map (push [0x61])))
    ((replay false (State.newImplicit true) [([[0x78]], [0x70], .int 1), ([], [0x79], .int 2)]).map
      (fun s' => Tbl.empty.setItems (Tbl.empty.items ++ [([0x61], .table s')]))) = true ∧
    (replay true Tbl.empty ([([[0x78]], [0x70], .int 1), ([], [0x79], .int 2)].map (push [0x61]))).isSome = true := by
  decide +kernel

/-- `clines_ginv2`, `same_data_nad`, `adjRun_N`: the whole run -/
example : nadRun exN = true ∧ adjRun exN = false ∧ (parseCst exN).isSome = true ∧
    adjRun (strBytes "a.b = 1\na.c = 2\n") = true ∧ nadRun (strBytes "a.b = 1\na.c = 2\n") = true := by decide +kernel

end TomlVerif.Lemmas.Tiling03More.Nad
