import TomlVerif.Lemmas.Values06
import TomlVerif.Lemmas.PrintedDoc
/-! The text `visitTables` prints is a list of lines of
    the grammar (`linesVs`: a header line per table with a non-empty path, after a blank line unless it
    comes first, and a `key = value` line per value, the value as the tree `qCore`), so the parser performs
    exactly the statements of the visited tables (`stmtsVs`), by `PrintedDoc.parseDocument_lines`. -/
namespace TomlVerif.Lemmas.Encode06c
open TomlVerif TomlVerif.Spec TomlVerif.Model TomlVerif.Model.Encode06 TomlVerif.Model.Value
open TomlVerif.Model.Strings TomlVerif.Model.State TomlVerif.Model.Doc
open TomlVerif.Lemmas.Encode06 TomlVerif.Lemmas.Encode06b TomlVerif.Props.C06 TomlVerif.Spec.Encode06
open TomlVerif.Spec.AstValue TomlVerif.Spec.AstDoc TomlVerif.Lemmas.Value01 TomlVerif.Lemmas.Doc01
open TomlVerif.Lemmas.State09
open TomlVerif.Spec.AstValueQ TomlVerif.Spec.AstDocQ
open TomlVerif.Lemmas.PrintedDoc

def BodyValOk (v : DVal) : Prop := GoodV v ∧ decorOf v = {} ∧ LeavesOkV v ∧ depthV v < LIMIT

/-- one `key = value` line of a table body, as `visit_table` prints it -/
def bodyLine (k : Bytes) (v : DVal) : Bytes :=
  encodeKeyPath [k] DEFAULT_KEY_DECOR ++ [0x3D] ++ encodeValue v DEFAULT_VALUE_DECOR ++ [0x0A]

theorem reprKey_head (k : Bytes) : ∃ b t, reprKey k = b :: t ∧ (b = 0x22 ∨ b = 0x27 ∨ isUnquotedChar b = true) :=
  seg_tok_head ⟨[], reprKey k, k, []⟩ (keyseg_repr _ _ _ AllWs.nil AllWs.nil)

def kvStmts : List (Bytes × DVal) → List Stmt
  | [] => []
  | (k, v) :: r => .kv [] k (canonValD v) :: kvStmts r

def BodyOk : List (Bytes × DVal) → Prop
  | [] => True
  | (_, v) :: r => BodyValOk v ∧ BodyOk r

theorem encodeBody_cons (k : Bytes) (v : DVal) (r : List (Bytes × DVal)) :
    encodeBody ((k, v) :: r) = bodyLine k v ++ encodeBody r := by
  simp [encodeBody, bodyLine]


def hdrLine (isArray : Bool) (path : List Bytes) : Bytes :=
  if isArray then [0x5B, 0x5B] ++ encodeKeyPath path DEFAULT_KEY_PATH_DECOR ++ [0x5D, 0x5D] ++ [0x0A]
  else [0x5B] ++ encodeKeyPath path DEFAULT_KEY_PATH_DECOR ++ [0x5D] ++ [0x0A]

def hdrStmt (isArray : Bool) (path : List Bytes) : Stmt := if isArray then .arr path else .std path

def stmtsV (v : Visit) : List Stmt :=
  (if v.path.isEmpty then [] else [hdrStmt v.isArray v.path]) ++ kvStmts (getValues v.tbl.items)

def stmtsVs : List Visit → List Stmt
  | [] => []
  | v :: r => stmtsV v ++ stmtsVs r

def VisitOk (v : Visit) : Prop :=
  v.path.length < LIMIT ∧ v.tbl.implicit = false ∧ BodyOk (getValues v.tbl.items)

theorem visitTable_text (v : Visit) (first : Bool) (h : VisitOk v) :
    (visitTable v first).1 =
      (if v.path.isEmpty then [] else (if first then [] else [0x0A]) ++ hdrLine v.isArray v.path) ++
        encodeBody (getValues v.tbl.items) := by
  obtain ⟨_, himp, _⟩ := h
  unfold visitTable
  simp only [himp, Bool.false_and, Bool.not_false, if_true]
  cases hp : v.path.isEmpty with
  | true => simp
  | false =>
    cases v.isArray <;> cases first <;>
      simp [hdrLine, DEFAULT_TABLE_DECOR]

theorem bodyLine_render (k : Bytes) (v : DVal) (hdec : decorOf v = {}) :
    bodyLine k v = (kvLineQ k (qCore v)).render ++ [0x0A] := by
  rw [kvLineQ_render, render_qCore]
  simp [bodyLine, encodeKeyPath, encodeKeyPathAux, DEFAULT_KEY_DECOR, encodeValue_eq, hdec, DEFAULT_VALUE_DECOR, reprKey]

theorem encodeKeyPath_hdr (k0 : Bytes) (ks : List Bytes) :
    encodeKeyPath (k0 :: ks) DEFAULT_KEY_PATH_DECOR = (pathKey (k0 :: ks)).render := by
  have aux : ∀ ks : List Bytes, encodeKeyPathAux DEFAULT_KEY_PATH_DECOR false ks =
      (ks.map fun k => 0x2E :: (Write.writeKey .default k).getD []).flatten := by
    intro ks
    induction ks with
    | nil => rfl
    | cons k r ih => rw [encodeKeyPathAux, ih]; cases r <;> simp [DEFAULT_KEY_PATH_DECOR, reprKey]
  rw [pathKey_render, encodeKeyPath, encodeKeyPathAux, aux]
  cases ks <;> simp [DEFAULT_KEY_PATH_DECOR, reprKey]

theorem hdrLine_render (isArray : Bool) (path : List Bytes) (hne : path ≠ []) :
    hdrLine isArray path = (hdrLineQ isArray path).render ++ [0x0A] := by
  obtain ⟨k0, ks, rfl⟩ : ∃ k0 ks, path = k0 :: ks := by
    cases path with
    | nil => exact absurd rfl hne
    | cons k0 ks => exact ⟨k0, ks, rfl⟩
  rw [hdrLineQ_render, hdrLine, encodeKeyPath_hdr]
  cases isArray <;> simp

def linesBody (kvs : List (Bytes × DVal)) : List (QLine × Bool) := kvs.map fun kv => (kvLineQ kv.1 (qCore kv.2), false)

theorem linesBody_spec : ∀ kvs : List (Bytes × DVal), BodyOk kvs →
    renderLinesQ (linesBody kvs) = encodeBody kvs ∧ stmtsLinesQ (linesBody kvs) = kvStmts kvs ∧
    ∀ p ∈ linesBody kvs, p.1.WF
  | [], _ => ⟨rfl, rfl, fun _ hp => nomatch hp⟩
  | (k, v) :: r, h => by
    rw [BodyOk] at h
    obtain ⟨⟨hg, hdec, hl, hd⟩, hr⟩ := h
    obtain ⟨i1, i2, i3⟩ := linesBody_spec r hr
    refine ⟨?_, ?_, ?_⟩
    · simp only [linesBody, List.map_cons, renderLinesQ] at i1 ⊢
      rw [i1, encodeBody_cons, bodyLine_render k v hdec]
      simp [Spec.AstValue.nlBytes]
    · simp only [linesBody, List.map_cons, stmtsLinesQ, kvLineQ_stmt, sem_qCore v hg, kvStmts] at i2 ⊢
      rw [i2]
    · intro p hp
      simp only [linesBody, List.map_cons, List.mem_cons] at hp
      rcases hp with rfl | hp
      · exact kvLineQ_wf k _ (wf_qCore v hg hl) (by rw [depth_qCore]; exact hd)
      · exact i3 p hp

def linesV (v : Visit) (first : Bool) : List (QLine × Bool) :=
  (if v.path.isEmpty then [] else
    (if first then [] else [(QLine.blank [], false)]) ++ [(hdrLineQ v.isArray v.path, false)]) ++
  linesBody (getValues v.tbl.items)

def linesVs : List Visit → Bool → List (QLine × Bool)
  | [], _ => []
  | v :: r, first => linesV v first ++ linesVs r (visitTable v first).2

theorem linesV_spec (v : Visit) (first : Bool) (h : VisitOk v) :
    renderLinesQ (linesV v first) = (visitTable v first).1 ∧ stmtsLinesQ (linesV v first) = stmtsV v ∧
    ∀ p ∈ linesV v first, p.1.WF := by
  obtain ⟨b1, b2, b3⟩ := linesBody_spec _ h.2.2
  rw [visitTable_text v first h]
  unfold linesV stmtsV
  cases hp : v.path.isEmpty with
  | true => simpa only [if_true, List.nil_append] using ⟨b1, b2, b3⟩
  | false =>
    have hne : v.path ≠ [] := by intro e; rw [e] at hp; cases hp
    have hw := hdrLineQ_wf v.isArray v.path hne h.1
    simp only [Bool.false_eq_true, if_false, renderLinesQ_append, stmtsLinesQ_append, b1, b2]
    refine ⟨?_, ?_, ?_⟩
    · rw [hdrLine_render _ _ hne]
      cases first <;> simp [renderLinesQ, QLine.render, Spec.AstValue.nlBytes]
    · have hb : (QLine.blank []).stmt = none := rfl
      cases first <;>
        simp only [Bool.false_eq_true, if_false, if_true, stmtsLinesQ, List.cons_append, List.nil_append,
          hdrLineQ_stmt _ _ hne, hb, hdrStmt]
    · intro p hp
      simp only [List.mem_append] at hp
      rcases hp with hp | hp
      · cases first <;> simp at hp
        · rcases hp with rfl | rfl
          · exact AllWs.nil
          · exact hw
        · subst hp; exact hw
      · exact b3 p hp

theorem visitTables_cons (v : Visit) (r : List Visit) (first : Bool) :
    visitTables (v :: r) first = (visitTable v first).1 ++ visitTables r (visitTable v first).2 := rfl

theorem linesVs_spec : ∀ (vs : List Visit) (first : Bool), (∀ v ∈ vs, VisitOk v) →
    renderLinesQ (linesVs vs first) = visitTables vs first ∧ stmtsLinesQ (linesVs vs first) = stmtsVs vs ∧
    ∀ p ∈ linesVs vs first, p.1.WF
  | [], _, _ => ⟨rfl, rfl, fun _ hp => nomatch hp⟩
  | v :: r, first, h => by
    obtain ⟨a1, a2, a3⟩ := linesV_spec v first (h v (by simp))
    obtain ⟨i1, i2, i3⟩ := linesVs_spec r (visitTable v first).2 (fun w hw => h w (by simp [hw]))
    refine ⟨by rw [linesVs, renderLinesQ_append, a1, i1, visitTables_cons],
      by rw [linesVs, stmtsLinesQ_append, a2, i2, stmtsVs], ?_⟩
    intro p hp
    rw [linesVs, List.mem_append] at hp
    exact hp.elim (a3 p) (i3 p)

theorem parseDocument_visits (vs : List Visit) (h : ∀ v ∈ vs, VisitOk v) :
    parseDocument (visitTables vs true) = (run {} (stmtsVs vs)).bind intoDocument := by
  obtain ⟨h1, h2, h3⟩ := linesVs_spec vs true h
  rw [← h1, parseDocument_lines _ h3, h2]

end TomlVerif.Lemmas.Encode06c
