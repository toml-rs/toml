import TomlVerif.Lemmas.Macro19Doc
import TomlVerif.Lemmas.Macro19bRef
import TomlVerif.Lemmas.ValueParse
/-! C19: the macro's meaning against the parser's. `refV` is the value tree as a parser value (`Val`): a LEAF is the
    macro's own evaluation of the literal, carried over by `mvalV` (that the TOML parser reads the leaf's text as this
    value is `leaf_scalarOK`, under `leafOk`); an inline table goes through `table_from_pairs` of the value parser
    (Model/Value.lean), which rejects duplicate keys, a dotted key through a value or into a written-out table.
    `value_agree`: where `refV` is defined the macro builds that value, keys in the same order; `docSem_ref`: the same
    for documents, against the fold of `refStep` over `stmtsOf`. -/
namespace TomlVerif.Lemmas.Macro19b
open TomlVerif TomlVerif.Model TomlVerif.Model.Macro TomlVerif.Lemmas.Macro19 TomlVerif.Model.Value
open TomlVerif.Lemmas.State09

mutual
def mvalV : MVal → Val
  | .str s => .str s
  | .int n => .int n
  | .float b => .float b
  | .bool b => .bool b
  | .dt d => .dt d
  | .arr items => .arr (mvalsV items)
  | .tbl items => .inl (mkvsV items) false false
def mvalsV : List MVal → List Val
  | [] => []
  | v :: r => mvalV v :: mvalsV r
def mkvsV : List (Bytes × MVal) → List (Bytes × Val)
  | [] => []
  | (k, v) :: r => (k, mvalV v) :: mkvsV r
end

mutual
theorem valM_mvalV : ∀ m : MVal, valM (mvalV m) = m
  | .str _ => rfl
  | .int _ => rfl
  | .float _ => rfl
  | .bool _ => rfl
  | .dt _ => rfl
  | .arr items => by simp [mvalV, valM, valsM_mvalsV items]
  | .tbl items => by simp [mvalV, valM, kvsM_mkvsV items]
theorem valsM_mvalsV : ∀ l : List MVal, valsM (mvalsV l) = l
  | [] => rfl
  | v :: r => by simp [mvalsV, valsM, valM_mvalV v, valsM_mvalsV r]
theorem kvsM_mkvsV : ∀ l : List (Bytes × MVal), kvsM (mkvsV l) = l
  | [] => rfl
  | (k, v) :: r => by simp [mkvsV, kvsM, valM_mvalV v, kvsM_mkvsV r]
end

theorem kvsM_eq : ∀ l : List (Bytes × Val), kvsM l = mapV valM l
  | [] => rfl
  | (k, v) :: r => by rw [kvsM, kvsM_eq r]; rfl

theorem alookup_kvsM (k : Bytes) (l : List (Bytes × Val)) : alookup k (kvsM l) = (alookup k l).map valM := by
  rw [kvsM_eq]; exact alookup_mapV valM k l

theorem kvsM_append (a b : List (Bytes × Val)) : kvsM (a ++ b) = kvsM a ++ kvsM b := by
  simp only [kvsM_eq, mapV, List.map_append]

theorem kvsM_areplace (k : Bytes) (v : Val) (l : List (Bytes × Val)) :
    kvsM (areplace k v l) = areplace k (valM v) (kvsM l) := by
  simp only [kvsM_eq, areplace_mapV]

/-- The three cases of `inlInsert_induction` (`leaf`, `fresh`, `descend`): the entry is appended where the path ends;
    a missing table is created for the next component; an existing one is entered. -/
theorem inlInsert_modifyAt (path : List Bytes) (items : List (Bytes × Val)) (td pe : Bool) (key : Bytes) (v : Val)
    (items' : List (Bytes × Val)) (h : inlInsert items td path pe key v = some items') :
    insertToml (.tbl (kvsM items)) (path ++ [key]) (valM v) = some (.tbl (kvsM items')) := by
  refine ValueParse.inlInsert_induction (pe := pe) (key := key) (v := v)
    (P := fun items path items' =>
      insertToml (.tbl (kvsM items)) (path ++ [key]) (valM v) = some (.tbl (kvsM items')))
    ?_ ?_ ?_ path items td items' h
  · intro items hl
    simp [insertToml, modifyAt, aset, alookup_kvsM, hl, kvsM_append, kvsM]
  · intro items k ks sub hl ih
    simp only [insertToml, kvsM] at ih
    simp only [insertToml, List.cons_append, modifyAt, alookup_kvsM, hl, Option.map_none, Option.getD_none,
      emptyTbl, ih]
    simp [aset, alookup_kvsM, hl, kvsM_append, kvsM, valM]
  · intro items k ks sub dot sub' hl ih
    simp only [insertToml] at ih
    simp only [insertToml, List.cons_append, modifyAt, alookup_kvsM, hl, Option.map_some, Option.getD_some,
      valM, ih]
    simp [aset, alookup_kvsM, hl, kvsM_areplace, valM]

def foldPairs : List (List Bytes × Bytes × Val) → MVal → Option MVal
  | [], root => some root
  | (p, key, v) :: r, root =>
    match insertToml root (p ++ [key]) (valM v) with
    | some root' => foldPairs r root'
    | none => none

theorem tableFromPairs_fold : ∀ (l : List (List Bytes × Bytes × Val)) (acc items : List (Bytes × Val)),
    tableFromPairs l acc = some items → foldPairs l (.tbl (kvsM acc)) = some (.tbl (kvsM items)) := by
  intro l
  induction l with
  | nil => intro acc items h; simp [tableFromPairs] at h; subst h; rfl
  | cons e r ih =>
    obtain ⟨p, key, v⟩ := e
    intro acc items h
    unfold tableFromPairs at h
    cases hi : inlInsert acc false p p.isEmpty key v with
    | none => simp [hi] at h
    | some acc' =>
      simp only [hi] at h
      simp only [foldPairs, inlInsert_modifyAt p acc false p.isEmpty key v acc' hi]
      exact ih acc' items h

mutual
/-- `refV`, `refVs`, `refEs` are on the PARSER's side (a `Val`); `refStep`, `refRun` (Lemmas/Macro19bRef.lean) are the
    macro's meaning of a statement list -/
def refV : MTree → Option Val
  | .leaf a =>
    match a.sem with
    | .ok m => some (mvalV m)
    | _ => none
  | .arr items _ => (refVs items).map Val.arr
  | .tbl es _ =>
    match refEs es with
    | some pairs => (tableFromPairs pairs []).map fun items => Val.inl items false false
    | none => none
def refVs : List MTree → Option (List Val)
  | [] => some []
  | a :: r =>
    match refV a, refVs r with
    | some v, some vs => some (v :: vs)
    | _, _ => none
def refEs : List (MKey × MTree) → Option (List (List Bytes × Bytes × Val))
  | [] => some []
  | (k, a) :: r =>
    match k.path.bind State.splitLast, refV a, refEs r with
    | some (p, key), some v, some ps => some ((p, key, v) :: ps)
    | _, _, _ => none
end

def MTree.WF (a : MTree) : Prop := (refV a).isSome = true

theorem refV_leaf {a : MacroVal} {x : Val} (h : refV (.leaf a) = some x) : ∃ m, a.sem = .ok m ∧ x = mvalV m := by
  simp only [refV] at h
  cases hs : a.sem <;> simp [hs] at h
  exact ⟨_, rfl, h.symm⟩

theorem refV_arr {items : List MTree} {tr : Bool} {x : Val} (h : refV (.arr items tr) = some x) :
    ∃ xs, refVs items = some xs ∧ x = .arr xs := by
  simp only [refV] at h
  cases hv : refVs items <;> simp [hv] at h
  exact ⟨_, rfl, h.symm⟩

theorem refV_tbl {es : List (MKey × MTree)} {tr : Bool} {x : Val} (h : refV (.tbl es tr) = some x) :
    ∃ pairs items, refEs es = some pairs ∧ tableFromPairs pairs [] = some items ∧ x = .inl items false false := by
  simp only [refV] at h
  cases he : refEs es <;> simp only [he] at h
  · cases h
  · rename_i pairs
    cases ht : tableFromPairs pairs [] <;> simp [ht] at h
    exact ⟨_, _, rfl, ht, h.symm⟩

theorem refVs_cons {a : MTree} {r : List MTree} {xs : List Val} (h : refVs (a :: r) = some xs) :
    ∃ v vs, refV a = some v ∧ refVs r = some vs ∧ xs = v :: vs := by
  simp only [refVs] at h
  cases ha : refV a <;> cases hr : refVs r <;> simp [ha, hr] at h
  exact ⟨_, _, rfl, rfl, h.symm⟩

theorem path_split {k : MKey} {p : List Bytes} {key : Bytes} (h : k.path.bind State.splitLast = some (p, key)) :
    k.path = some (p ++ [key]) := by
  cases hp : k.path with
  | none => simp [hp] at h
  | some ks => rw [hp] at h; rw [splitLast_some ks p key h]

theorem valsM_append (a b : List Val) : valsM (a ++ b) = valsM a ++ valsM b := by
  induction a with
  | nil => rfl
  | cons e r ih => simp [valsM, ih]

mutual
theorem value_agree (a : MTree) : ∀ v, refV a = some v → a.sem = .ok (valM v) := by
  intro v h
  match a with
  | .leaf a =>
    obtain ⟨m, hs, rfl⟩ := refV_leaf h
    simp [MTree.sem, hs, valM_mvalV]
  | .arr items tr =>
    obtain ⟨vs, hv, rfl⟩ := refV_arr h
    have := values_agree items vs hv []
    simp [MTree.sem, this, R.bind, valM]
  | .tbl es tr =>
    obtain ⟨pairs, items, he, ht, rfl⟩ := refV_tbl h
    have h1 := entries_agree es pairs he emptyTbl
    have h2 := tableFromPairs_fold pairs [] items ht
    simp only [kvsM] at h2
    simp only [emptyTbl] at h1
    simp only [MTree.sem, emptyTbl, valM]
    rw [h1, h2]
    rfl
theorem values_agree (l : List MTree) : ∀ vs, refVs l = some vs → ∀ acc, semT l acc = .ok (acc ++ valsM vs) := by
  intro vs h acc
  match l with
  | [] => simp [refVs] at h; subst h; simp [semT, valsM]
  | a :: r =>
    obtain ⟨v, vs', ha, hr, rfl⟩ := refVs_cons h
    rw [semT, value_agree a v ha]
    simp only [R.bind]
    rw [values_agree r vs' hr]
    simp [valsM]
theorem entries_agree (l : List (MKey × MTree)) : ∀ pairs, refEs l = some pairs → ∀ root,
    semE l root = liftO (foldPairs pairs root) := by
  intro pairs h root
  match l with
  | [] => simp [refEs] at h; subst h; rfl
  | (k, a) :: r =>
    simp only [refEs] at h
    cases hk : k.path.bind State.splitLast with
    | none => simp [hk] at h
    | some pk =>
      obtain ⟨p, key⟩ := pk
      cases ha : refV a with
      | none => simp [hk, ha] at h
      | some v =>
        cases hr : refEs r with
        | none => simp [hk, ha, hr] at h
        | some ps =>
          simp [hk, ha, hr] at h; subst h
          rw [semE]
          simp only [path_split hk, value_agree a v ha, R.bind, foldPairs]
          cases insertToml root (p ++ [key]) (valM v) with
          | none => rfl
          | some root' => exact entries_agree r ps hr root'
end

def stmtOf : DStmt → Option Stmt
  | .kv k a =>
    match k.path.bind State.splitLast, refV a with
    | some (p, key), some v => some (.kv p key v)
    | _, _ => none
  | .std k => k.path.map Stmt.std
  | .arr k => k.path.map Stmt.arr

/-- `none`: `refV` is undefined on a value, or `concat!` rejects a key token -/
def stmtsOf : List DStmt → Option (List Stmt)
  | [] => some []
  | s :: r =>
    match stmtOf s, stmtsOf r with
    | some x, some xs => some (x :: xs)
    | _, _ => none

theorem docSem_ref (keep : Bool) (l : List DStmt) : ∀ ss, stmtsOf l = some ss → ∀ root path,
    docSem keep l root path = liftO ((refRunFrom keep (root, path) ss).map (·.1)) := by
  induction l with
  | nil => intro ss h root path; simp [stmtsOf] at h; subst h; rfl
  | cons s r ih =>
    intro ss h root path
    simp only [stmtsOf] at h
    cases hs : stmtOf s with
    | none => simp [hs] at h
    | some x =>
      cases hr : stmtsOf r with
      | none => simp [hs, hr] at h
      | some xs =>
        simp [hs, hr] at h; subst h
        cases s with
        | kv k a =>
          simp only [stmtOf] at hs
          cases hk : k.path.bind State.splitLast with
          | none => simp [hk] at hs
          | some pk =>
            obtain ⟨p, key⟩ := pk
            cases ha : refV a with
            | none => simp [hk, ha] at hs
            | some v =>
              simp [hk, ha] at hs; subst hs
              simp only [docSem, path_split hk, value_agree a v ha, R.bind, refRunFrom, refStep]
              cases insertToml root (path ++ (p ++ [key])) (valM v) with
              | none => rfl
              | some root' => simpa using ih xs hr root' path
        | std k =>
          simp only [stmtOf] at hs
          cases hp : k.path with
          | none => simp [hp] at hs
          | some p =>
            simp [hp] at hs; subst hs
            simp only [docSem, hp, refRunFrom, refStep]
            cases headerTable keep root p with
            | none => rfl
            | some root' => simpa using ih xs hr root' p
        | arr k =>
          simp only [stmtOf] at hs
          cases hp : k.path with
          | none => simp [hp] at hs
          | some p =>
            simp [hp] at hs; subst hs
            simp only [docSem, hp, refRunFrom, refStep]
            cases pushToml root p with
            | none => rfl
            | some root' => simpa using ih xs hr root' p

end TomlVerif.Lemmas.Macro19b
