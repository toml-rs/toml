import TomlVerif.Lemmas.DeLocated15StructLoop
/-! For Props/C15Located.lean: with the locations forgotten `decodeLoc` is `decodeEdit` on the erased tree
    (`erase_ty`, for `T15_loc_erases`), for types whose structs have distinct field names (`wfTy`). -/
namespace TomlVerif.Lemmas.DeLocated15
open TomlVerif TomlVerif.Model TomlVerif.Model.TomlValue TomlVerif.Model.DeRoutes TomlVerif.Model.DeText
open TomlVerif.Model.DeTyped TomlVerif.Model.Cst TomlVerif.Model.DeLocated

mutual
/-- the field names of every struct and struct variant of the type are distinct (what Rust and serde_derive demand) -/
def wfTy : Ty → Bool
  | .option t => wfTy t
  | .seq t => wfTy t
  | .map t => wfTy t
  | .newtype t => wfTy t
  | .tuple ts => wfTys ts
  | .struct fs => distinctNames fs && wfFields fs
  | .enum vs => wfVariants vs
  | _ => true
def wfTys : Tys → Bool
  | .nil => true
  | .cons t r => wfTy t && wfTys r
def wfFields : Fields → Bool
  | .nil => true
  | .cons _ t _ r => wfTy t && wfFields r
def wfShape : Shape → Bool
  | .unit => true
  | .newtype t => wfTy t
  | .tuple ts => wfTys ts
  | .struct fs => distinctNames fs && wfFields fs
def wfVariants : Variants → Bool
  | .nil => true
  | .cons _ s r => wfShape s && wfVariants r
end

theorem presOfItems_eq_map : ∀ l : List (Bytes × Item), presOfItems l = l.map fun kv => (kv.1, presOfItem kv.2)
  | [] => rfl
  | (k, i) :: r => by rw [presOfItems, presOfItems_eq_map r]; rfl

theorem presOfValPairs_eq_map : ∀ l : List (Bytes × Val), presOfValPairs l = l.map fun kv => (kv.1, presOfVal kv.2)
  | [] => rfl
  | (k, v) :: r => by rw [presOfValPairs, presOfValPairs_eq_map r]; rfl

theorem pres_of_entries (i : Item) (es : List (Bytes × Item)) (h : itemEntries i = some es) :
    presOfItem i = .map (es.map fun kv => (kv.1, presOfItem kv.2)) := by
  cases i with
  | aot => cases h
  | table t =>
    cases t
    injection h with h; subst h
    rw [presOfItem, presOfTbl, presOfItems_eq_map]; rfl
  | value v =>
    cases v with
    | inl items a b =>
      injection h with h; subst h
      rw [presOfItem, presOfVal, presOfValPairs_eq_map, List.map_map]; rfl
    | _ => cases h

/-- `decodeDatetime` looks at the first entry of a map presentation only: a node without entries is no date-time map -/
theorem pres_no_entries (it : CItem) (h : citemEntries it = none) (hd : ∀ d, eraseItem it ≠ .value (.dt d)) :
    decodeDatetime (presOfItem (eraseItem it)) = none := by
  cases it with
  | value x =>
    cases x with
    | scalar x r d =>
      cases x with
      | dt d0 => exact absurd rfl (hd d0)
      | inl items a b => simp [citemEntries] at h
      | _ => simp [eraseItem, eraseVal, presOfItem, presOfVal, decodeDatetime]
    | arr => simp [eraseItem, eraseVal, presOfItem, presOfVal, decodeDatetime]
    | inl => simp [citemEntries] at h
  | table t => simp [citemEntries] at h
  | aot => simp [eraseItem, presOfItem, decodeDatetime]

/-- both read a date-time item itself, or the first entry of a table if its key is the private one -/
theorem dtCore_erase (it : CItem) : toR (dtCore it) = ofOpt (decodeDatetime (presOfItem (eraseItem it))) := by
  unfold dtCore
  split
  · rename_i d hd
    rw [hd]
    simp [presOfItem, presOfVal]
  · rename_i hnd
    have hd : ∀ d, eraseItem it ≠ .value (.dt d) := fun d h => hnd d h
    simp only [toR_atSpan]
    cases he : citemEntries it with
    | none => simp [pres_no_entries it he hd, ofOpt]
    | some es =>
      have hp := pres_of_entries (eraseItem it) _ (by rw [itemEntries_erase, he]; rfl)
      cases es with
      | nil => simp [hp, eraseEntries, decodeDatetime, ofOpt]
      | cons kv rest =>
        obtain ⟨k, v⟩ := kv
        rw [hp]
        simp only [eraseEntries, List.map_cons]
        by_cases hk : (k.key == FIELD) = true
        · simp only [hk, if_true, toR_inEntry, toR_atSpan]
          cases hpv : presOfItem (eraseItem v) <;> simp [decodeDatetime, hk, ofOpt]
        · simp only [hk]
          cases hpv : presOfItem (eraseItem v) <;> simp [decodeDatetime, hk, ofOpt]

theorem dtLoc_erase (ty : Ty) (it : CItem) :
    toR (dtLoc ty it) = datetimeTarget ty (presOfItem (eraseItem it)) := by
  unfold dtLoc datetimeTarget
  have h := dtCore_erase it
  cases hc : dtCore it with
  | error e =>
    rw [hc] at h
    cases hdd : decodeDatetime (presOfItem (eraseItem it)) with
    | none => rfl
    | some d => rw [hdd] at h; simp [ofOpt, fail] at h
  | ok d =>
    rw [hc] at h
    cases hdd : decodeDatetime (presOfItem (eraseItem it)) with
    | none => rw [hdd] at h; simp [ofOpt, fail] at h
    | some d' =>
      rw [hdd] at h
      simp only [toR_ok, ofOpt, Except.ok.injEq] at h
      subst h
      simp only [shapeCheck]
      cases ty <;> simp <;> split <;> simp [vfail]

theorem toR_walk (known : Bytes → Bool) (f : Bytes → LSrc → LR (Option Dec)) (g : Bytes → ESrc → R (Option Dec)) :
    ∀ (es : List (Bytes × LSrc)) (seen : List Bytes), (∀ kv ∈ es, toR (f kv.1 kv.2) = g kv.1 (eraseSrc kv.2)) →
    toR (walkEntries visitorErr known f seen es) = walkEntries Err.fail known g seen (eraseSrcs es)
  | [], _, _ => rfl
  | (k, s) :: r, seen, h => by
    have hh := h (k, s) (List.mem_cons_self ..)
    have ih := fun seen' => toR_walk known f g r seen' fun kv hkv => h kv (List.mem_cons_of_mem _ hkv)
    simp only [eraseSrcs, List.map_cons] at ih ⊢
    unfold walkEntries
    by_cases hc : (known k && seen.contains k) = true
    · rw [if_pos hc, if_pos hc]; rfl
    · rw [if_neg hc, if_neg hc]
      simp only [] at hh
      rw [← hh]
      cases hf : f k s with
      | error e => simp [fail]
      | ok o =>
        cases o with
        | none => simpa using ih seen
        | some d =>
          have := ih (k :: seen)
          simp only [toR_ok]
          cases hw : walkEntries visitorErr known f (k :: seen) r with
          | error e => rw [hw] at this; simp only [toR_error] at this; rw [← this]; rfl
          | ok ds => rw [hw] at this; simp only [toR_ok] at this; rw [← this]; rfl

theorem toR_fill : ∀ (fs : Fields) (ds : List (Bytes × Dec)),
    toR (fillFields visitorErr fs ds) = fillFields Err.fail fs ds
  | .nil, _ => rfl
  | .cons name t dflt r, ds => by
    rw [fillFields_cons, fillFields_cons]
    cases filled t dflt (alookup name ds) with
    | some d => rw [← toR_fill r ds]; cases fillFields visitorErr r ds <;> rfl
    | none => rfl

theorem struct_body_erase (fl : Flavour) (fs : Fields) (hd : distinctNames fs = true)
    (f : Bytes → LSrc → LR (Option Dec)) (es : List (Bytes × LSrc))
    (hf : ∀ kv ∈ es, toR (f kv.1 kv.2) = entryR fl fs kv.1 (eraseSrc kv.2)) :
    toR (match walkEntries visitorErr fs.hasName f [] es with
         | .error e => .error e
         | .ok ds => lmap Dec.struct (fillFields visitorErr fs ds)) =
      if dupField fs ((eraseSrcs es).map Prod.fst) then fail
      else rmap Dec.struct (decodeEditFields editAsIs fl fs (eraseSrcs es)) := by
  have hw := toR_walk fs.hasName f (entryR fl fs) es [] hf
  have ht := walk_fill_top fl fs hd (eraseSrcs es)
  cases hx : walkEntries visitorErr fs.hasName f [] es with
  | error e =>
    rw [hx] at hw
    simp only [toR_error] at hw
    rw [← hw] at ht
    simp only [fail] at ht
    by_cases hdup : dupField fs ((eraseSrcs es).map Prod.fst) = true
    · simp [hdup]
    · have ht' : decodeEditFields editAsIs fl fs (eraseSrcs es) = fail := by
        simp only [hdup] at ht
        simpa [fail] using ht.symm
      simp [hdup, ht', rmap, fail]
  | ok ds =>
    rw [hx] at hw
    simp only [toR_ok] at hw
    rw [← hw] at ht
    simp only [] at ht
    simp only [toR_lmap, toR_fill]
    rw [ht]
    by_cases hdup : dupField fs ((eraseSrcs es).map Prod.fst) = true
    · simp [hdup, rmap, fail]
    · simp [hdup]

theorem firstExtraKey_any (fs : Fields) : ∀ es : List (CKey × CItem),
    (firstExtraKey fs es).isSome = (eraseEntries es).any fun kv => !fs.hasName kv.1
  | [] => rfl
  | (k, v) :: r => by
    simp only [firstExtraKey, eraseEntries, List.map_cons, List.any_cons]
    have ih := firstExtraKey_any fs r
    simp only [eraseEntries] at ih
    cases h : fs.hasName k.key <;> simp [ih]

theorem firstBadIndex_indexKeys : ∀ (es : List (CKey × CItem)) (i : Nat),
    (firstBadIndex i es).isNone = indexKeys i (eraseEntries es)
  | [], _ => rfl
  | (k, v) :: r, i => by
    simp only [firstBadIndex, eraseEntries, List.map_cons, indexKeys]
    have ih := firstBadIndex_indexKeys r (i + 1)
    simp only [eraseEntries] at ih
    cases h : (parseUsize k.key == some i) <;> simp [ih]

theorem eraseEntries_length (es : List (CKey × CItem)) : (eraseEntries es).length = es.length := by
  simp [eraseEntries]

theorem eraseEntries_snd (es : List (CKey × CItem)) : (eraseEntries es).map Prod.snd = (es.map Prod.snd).map eraseItem := by
  simp [eraseEntries, Function.comp_def]

theorem decodeValueLoc_erase (fl : Flavour) (it : CItem) :
    toR (decodeValueLoc fl it) = rmap Dec.value (ofOpt (visitValue fl false (presOfItem (eraseItem it)))) := by
  unfold decodeValueLoc
  cases visitValue fl false (presOfItem (eraseItem it)) with
  | some v => rfl
  | none => simp only []; cases valueErrItem it <;> rfl

/-- a struct read from a table or from an array, given the two facts about its fields that the induction over the
    type grammar supplies -/
theorem struct_erase (fl : Flavour) (fs : Fields) (p : CItem) (hd : distinctNames fs = true)
    (hentry : ∀ k src, toR (decodeLocEntry fl fs k src) = entryR fl fs k (eraseSrc src))
    (hseq : ∀ l, toR (decodeLocFieldsSeq fl fs l) = decodeEditFieldsSeq editAsIs fl fs (l.map eraseItem)) :
    toR (decodeLoc fl (.struct fs) p) = decodeEdit editAsIs fl (.struct fs) (eraseItem p) := by
  unfold decodeLoc decodeEdit
  simp only [toR_atSpan, editMapEntries_erase, itemElems_erase]
  cases hl : locMapEntries p with
  | some es =>
    simp only [Option.map_some]
    exact struct_body_erase fl fs hd _ es fun kv _ => hentry kv.1 kv.2
  | none =>
    simp only [Option.map_none]
    cases citemElems p with
    | none => rfl
    | some l =>
      simp only [Option.map_some, toR_lmap]
      rw [hseq l]

mutual
theorem erase_ty (fl : Flavour) : ∀ (ty : Ty) (it : CItem), wfTy ty = true →
    toR (decodeLoc fl ty it) = decodeEdit editAsIs fl ty (eraseItem it)
  | .bool, it, _ => by unfold decodeLoc decodeEdit; simp
  | .int _ _, it, _ => by unfold decodeLoc decodeEdit; simp
  | .f64, it, _ => by unfold decodeLoc decodeEdit; simp
  | .f32, it, _ => by unfold decodeLoc decodeEdit; simp
  | .string, it, _ => by unfold decodeLoc decodeEdit; simp
  | .char, it, _ => by unfold decodeLoc decodeEdit; simp
  | .unit, it, _ => by unfold decodeLoc decodeEdit; simp
  | .datetime, it, _ => by
    unfold decodeLoc decodeEdit; rw [dtLoc_erase]
    split <;> simp [presOfItem, presOfVal, *]
  | .date, it, _ => by
    unfold decodeLoc decodeEdit; rw [dtLoc_erase]
    split <;> simp [presOfItem, presOfVal, *]
  | .time, it, _ => by
    unfold decodeLoc decodeEdit; rw [dtLoc_erase]
    split <;> simp [presOfItem, presOfVal, *]
  | .value, it, _ => by unfold decodeLoc decodeEdit; exact decodeValueLoc_erase fl it
  | .ignored, it, _ => by unfold decodeLoc decodeEdit; rfl
  | .option t, it, h => by
    unfold decodeLoc decodeEdit
    simp only [toR_atSpan, toR_lmap]
    rw [erase_ty fl t it (by simpa [wfTy] using h)]
  | .newtype t, it, h => by
    unfold decodeLoc decodeEdit
    simp only [toR_atSpan, toR_lmap]
    rw [erase_ty fl t it (by simpa [wfTy] using h)]
  | .seq t, it, h => by
    unfold decodeLoc decodeEdit
    simp only [toR_atSpan, itemElems_erase]
    cases citemElems it with
    | none => rfl
    | some l =>
      simp only [Option.map_some, toR_lmap]
      rw [toR_mapL (fun i => atSpan i.span (decodeLoc fl t i)) (decodeEdit editAsIs fl t) eraseItem l
        fun a _ => by simp only [toR_atSpan]; exact erase_ty fl t a (by simpa [wfTy] using h)]
  | .tuple ts, it, h => by
    unfold decodeLoc decodeEdit
    simp only [toR_atSpan, itemElems_erase]
    cases citemElems it with
    | none => rfl
    | some l =>
      simp only [Option.map_some, toR_lmap]
      rw [erase_tys fl ts l (by simpa [wfTy] using h)]
  | .map t, it, h => by
    unfold decodeLoc decodeEdit
    simp only [toR_atSpan, editMapEntries_erase]
    cases hl : locMapEntries it with
    | none => rfl
    | some es =>
      simp only [Option.map_some, toR_lmap]
      congr 1
      unfold eraseSrcs
      refine toR_mapL _ _ (fun kv : Bytes × LSrc => (kv.1, eraseSrc kv.2)) es fun kv _ => ?_
      obtain ⟨k, src⟩ := kv
      simp only [toR_lmap]
      congr 1
      cases src with
      | item key i =>
        simp only [toR_inEntry, eraseSrc]
        exact erase_ty fl t i (by simpa [wfTy] using h)
      | str s => simp [eraseSrc, editAsIs]
  | .struct fs, it, h => by
    have hw : distinctNames fs = true ∧ wfFields fs = true := by simpa [wfTy] using h
    exact struct_erase fl fs it hw.1 (fun k src => erase_entry fl fs k src hw.2) (fun l => erase_fseq fl fs l hw.2)
  | .enum vs, it, h => by
    unfold decodeLoc decodeEdit
    simp only [toR_atSpan]
    split
    · rename_i _ s heq
      rw [heq]
      simp
    · rename_i hns
      simp only [itemEntries_erase]
      cases hc : citemEntries it with
      | none => simp
      | some es =>
        match es with
        | [] => simp [eraseEntries]
        | [(k, p)] =>
          simp only [Option.map_some, eraseEntries, List.map_cons, List.map_nil]
          exact erase_variants fl vs k p (by simpa [wfTy] using h)
        | _ :: _ :: _ => simp [eraseEntries]
theorem erase_tys (fl : Flavour) : ∀ (ts : Tys) (l : List CItem), wfTys ts = true →
    toR (decodeLocTys fl ts l) = decodeEditTys editAsIs fl ts (l.map eraseItem)
  | .nil, l, _ => by unfold decodeLocTys decodeEditTys; rfl
  | .cons t r, [], _ => by unfold decodeLocTys decodeEditTys; rfl
  | .cons t r, i :: l, h => by
    have hw : wfTy t = true ∧ wfTys r = true := by simpa [wfTys] using h
    unfold decodeLocTys
    simp only [List.map_cons]
    unfold decodeEditTys
    simp only [toR_lcons, toR_atSpan]
    rw [erase_ty fl t i hw.1, erase_tys fl r l hw.2]
theorem erase_entry (fl : Flavour) : ∀ (fs : Fields) (k : Bytes) (src : LSrc), wfFields fs = true →
    toR (decodeLocEntry fl fs k src) = entryR fl fs k (eraseSrc src)
  | .nil, k, src, _ => by unfold decodeLocEntry entryR; rfl
  | .cons name t dflt r, k, src, h => by
    have hw : wfTy t = true ∧ wfFields r = true := by simpa [wfFields] using h
    unfold decodeLocEntry entryR
    by_cases hn : (name == k) = true
    · simp only [hn, if_true, toR_lmap]
      congr 1
      cases src with
      | item key i => simp only [toR_inEntry, eraseSrc, srcDec]; exact erase_ty fl t i hw.1
      | str s => simp [eraseSrc, srcDec]
    · simp only [hn]
      exact erase_entry fl r k src hw.2
theorem erase_fseq (fl : Flavour) : ∀ (fs : Fields) (l : List CItem), wfFields fs = true →
    toR (decodeLocFieldsSeq fl fs l) = decodeEditFieldsSeq editAsIs fl fs (l.map eraseItem)
  | .nil, l, _ => by unfold decodeLocFieldsSeq decodeEditFieldsSeq; rfl
  | .cons name t dflt r, [], h => by
    have hw : wfTy t = true ∧ wfFields r = true := by simpa [wfFields] using h
    unfold decodeLocFieldsSeq
    simp only [List.map_nil]
    unfold decodeEditFieldsSeq
    cases dflt with
    | true =>
      simp only [if_true, toR_lmap]
      have := erase_fseq fl r [] hw.2
      simp only [List.map_nil] at this
      rw [this]
    | false => rfl
  | .cons name t dflt r, i :: l, h => by
    have hw : wfTy t = true ∧ wfFields r = true := by simpa [wfFields] using h
    unfold decodeLocFieldsSeq
    simp only [List.map_cons]
    unfold decodeEditFieldsSeq
    simp only [toR_lcons, toR_lmap, toR_atSpan]
    rw [erase_ty fl t i hw.1, erase_fseq fl r l hw.2]
theorem erase_variants (fl : Flavour) : ∀ (vs : Variants) (k : CKey) (p : CItem), wfVariants vs = true →
    toR (decodeLocVariants fl vs k p) = decodeEditVariants editAsIs fl vs k.key (eraseItem p)
  | .nil, k, p, _ => by unfold decodeLocVariants decodeEditVariants; rfl
  | .cons name s r, k, p, h => by
    have hw : wfShape s = true ∧ wfVariants r = true := by simpa [wfVariants] using h
    unfold decodeLocVariants decodeEditVariants
    by_cases hn : (name == k.key) = true
    · simp only [hn, if_true]; exact erase_shape fl s name p hw.1
    · simp only [hn]; exact erase_variants fl r k p hw.2
theorem erase_shape (fl : Flavour) : ∀ (s : Shape) (n : Bytes) (p : CItem), wfShape s = true →
    toR (decodeLocShape fl s n p) = decodeEditShape editAsIs fl s n (eraseItem p)
  | .unit, n, p, _ => by
    unfold decodeLocShape decodeEditShape
    simp only [itemElems_erase, itemEntries_erase]
    cases citemElems p with
    | some l => simp only [Option.map_some]; cases l <;> simp
    | none =>
      simp only [Option.map_none]
      cases citemEntries p with
      | some es => simp only [Option.map_some]; cases es <;> simp [eraseEntries]
      | none => rfl
  | .newtype t, n, p, h => by
    unfold decodeLocShape decodeEditShape
    simp only [toR_lmap]
    rw [erase_ty fl t p (by simpa [wfShape] using h)]
  | .tuple ts, n, p, h => by
    have hw : wfTys ts = true := by simpa [wfShape] using h
    unfold decodeLocShape decodeEditShape
    simp only [itemElems_erase, itemEntries_erase]
    cases citemElems p with
    | some l =>
      simp only [Option.map_some, List.length_map]
      by_cases hlen : (l.length == ts.length) = true
      · simp only [hlen, if_true, toR_lmap]; rw [erase_tys fl ts l hw]
      · simp [hlen]
    | none =>
      simp only [Option.map_none]
      cases citemEntries p with
      | none => rfl
      | some es =>
        simp only [Option.map_some, eraseEntries_length, eraseEntries_snd]
        have hb := firstBadIndex_indexKeys es 0
        cases hf : firstBadIndex 0 es with
        | some k => rw [hf] at hb; simp only [Option.isNone_some] at hb; simp [← hb]
        | none =>
          rw [hf] at hb; simp only [Option.isNone_none] at hb
          simp only [← hb, Bool.true_and]
          by_cases hlen : (es.length == ts.length) = true
          · simp only [hlen, if_true, toR_lmap]; rw [erase_tys fl ts _ hw]
          · simp [hlen]
  | .struct fs, n, p, h => by
    have hw : distinctNames fs = true ∧ wfFields fs = true := by simpa [wfShape] using h
    have body := struct_erase fl fs p hw.1 (fun k src => erase_entry fl fs k src hw.2) (fun l => erase_fseq fl fs l hw.2)
    rw [decodeLocShape_struct, DeTyped13.decodeEditShape_struct, ← body, itemEntries_erase]
    cases hce : citemEntries p with
    | none => simp
    | some ces =>
      simp only [Option.map_some, Option.bind_some]
      have hany := firstExtraKey_any fs ces
      cases hf : firstExtraKey fs ces with
      | some k =>
        rw [hf] at hany
        simp only [Option.isSome_some] at hany
        simp [editAsIs, ← hany]
      | none =>
        rw [hf] at hany
        simp only [Option.isSome_none] at hany
        simp [← hany]
end

end TomlVerif.Lemmas.DeLocated15
