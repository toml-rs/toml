import TomlVerif.Lemmas.RoundTrip17Tree
import TomlVerif.Lemmas.Order18
/-! C17, map order. On association lists: `BTreeMap::insert` on the sorted list (`sortedInsert`,
    `insertAllReplace .sorted`) is insertion sort: on entries with pairwise distinct keys it returns THE strictly
    key-sorted permutation of them. On trees: trees that differ only by the order of the entries of their tables
    (`PermTV`), trees whose tables are key-sorted (`SortedTV`, the values of the `BTreeMap` build), and what collecting
    every table into a `BTreeMap` (`placeTV .sorted`) does to them: it sends `PermTV`-related trees to the same tree
    (`permTV_place`), keeps a key-sorted tree and returns one (`place_sorted_id`, `place_is_sorted`), and its result is
    a reordering of the tree (`perm_placeTV`). The three passes and the document order are reorderings too
    (`perm_normTV`, `perm_docTbl`), and well-formedness does not see the order (`permTV_ok`). Namespace `DeTyped13`:
    the insertion-ordered map keeps a tree with distinct keys as it is (`place_insertion_id`). -/
namespace TomlVerif.Lemmas.RoundTrip17
open TomlVerif TomlVerif.Model TomlVerif.Model.TomlValue TomlVerif.Model.DeRoutes

/-- the model's `bytesLt` is that of `Spec/OrderedPlain.lean`, whose order lemmas (`Lemmas/Order18.lean`) carry over -/
theorem bytesLt_eq : ∀ a b : Bytes, bytesLt a b = Spec.OrderedPlain.bytesLt a b
  | [], [] | [], _ :: _ | _ :: _, [] => rfl
  | x :: r, y :: s => by rw [bytesLt, Spec.OrderedPlain.bytesLt, bytesLt_eq r s]

theorem bytesLt_trans (a b c : Bytes) : bytesLt a b = true → bytesLt b c = true → bytesLt a c = true := by
  simp only [bytesLt_eq]; exact Order18.bytesLt_trans a b c

theorem bytesLt_total (a b : Bytes) (h : a ≠ b) : bytesLt a b = true ∨ bytesLt b a = true := by
  simp only [bytesLt_eq]
  rcases Order18.bytesLt_trichotomy a b with h1 | h1 | h1
  · exact .inl h1
  · exact absurd h1 h
  · exact .inr h1

theorem bytesLt_iff_lex (a b : Bytes) : bytesLt a b = true ↔ a < b := by
  induction a generalizing b with
  | nil => cases b <;> simp [bytesLt]
  | cons x r ih =>
    cases b with
    | nil => simp [bytesLt]
    | cons y s =>
      unfold bytesLt
      rw [List.cons_lt_cons_iff]
      by_cases hxy : x < y
      · simp [hxy]
      · by_cases hyx : y < x
        · simp only [hxy, hyx, if_false, if_true, false_or]
          constructor
          · intro h; cases h
          · rintro ⟨e, _⟩; subst e; exact absurd hyx (UInt8.lt_irrefl _)
        · have : x = y := UInt8.le_antisymm (UInt8.not_lt.1 hyx) (UInt8.not_lt.1 hxy)
          subst this
          simp [ih]

/-- keys strictly increasing in `bytesLt` — what a `BTreeMap<String, _>` yields -/
def KSorted {α : Type} (l : List (Bytes × α)) : Prop := l.Pairwise fun a b => bytesLt a.1 b.1 = true

/-- `KSorted` is `Spec.OrderedPlain.StrictSorted` (the two `bytesLt` are the same function) -/
theorem ksorted_iff {α : Type} (l : List (Bytes × α)) : KSorted l ↔ Spec.OrderedPlain.StrictSorted l := by
  simp only [KSorted, Spec.OrderedPlain.StrictSorted, bytesLt_eq]

theorem ksorted_nodup {α : Type} (l : List (Bytes × α)) (h : KSorted l) : (l.map Prod.fst).Nodup :=
  List.pairwise_map.2 (Order18.keysDistinct_of_strictSorted ((ksorted_iff l).1 h))

theorem ksorted_perm_eq {α : Type} (l₁ l₂ : List (Bytes × α)) (h₁ : KSorted l₁) (h₂ : KSorted l₂) (hp : l₁.Perm l₂) :
    l₁ = l₂ :=
  Order18.eq_of_perm_of_strictSorted hp ((ksorted_iff l₁).1 h₁) ((ksorted_iff l₂).1 h₂)

theorem sortedInsert_new {α : Type} (k : Bytes) (v : α) : ∀ l : List (Bytes × α), KSorted l → k ∉ l.map Prod.fst →
    KSorted (sortedInsert k v l) ∧ (sortedInsert k v l).Perm ((k, v) :: l)
  | [], _, _ => by simp [sortedInsert, KSorted]
  | (k', v') :: r, hs, hk => by
    simp only [List.map_cons, List.mem_cons, not_or] at hk
    have hne : (k' == k) = false := by
      simp only [beq_eq_false_iff_ne, ne_eq]; exact fun e => hk.1 e.symm
    unfold sortedInsert
    simp only [hne, Bool.false_eq_true, if_false]
    have hs' := hs
    rw [KSorted, List.pairwise_cons] at hs'
    by_cases hlt : bytesLt k k' = true
    · simp only [hlt, if_true]
      refine ⟨?_, List.Perm.refl _⟩
      rw [KSorted, List.pairwise_cons]
      refine ⟨?_, hs⟩
      intro e he
      rcases List.mem_cons.1 he with he | he
      · subst he; exact hlt
      · exact bytesLt_trans _ _ _ hlt (hs'.1 e he)
    · simp only [hlt, Bool.false_eq_true, if_false]
      have hgt : bytesLt k' k = true := by
        rcases bytesLt_total k k' hk.1 with h | h
        · exact absurd h hlt
        · exact h
      obtain ⟨ih1, ih2⟩ := sortedInsert_new k v r hs'.2 hk.2
      refine ⟨?_, ?_⟩
      · rw [KSorted, List.pairwise_cons]
        refine ⟨?_, ih1⟩
        intro e he
        rcases List.mem_cons.1 (ih2.subset he) with he | he
        · subst he; exact hgt
        · exact hs'.1 e he
      · exact (List.Perm.cons _ ih2).trans (List.Perm.swap _ _ _)

theorem foldl_sortedInsert {α : Type} : ∀ (l acc : List (Bytes × α)), (l.map Prod.fst).Nodup →
    (∀ k ∈ l.map Prod.fst, k ∉ acc.map Prod.fst) → KSorted acc →
    KSorted (l.foldl (fun a e => sortedInsert e.1 e.2 a) acc) ∧
      (l.foldl (fun a e => sortedInsert e.1 e.2 a) acc).Perm (acc ++ l)
  | [], acc, _, _, hs => by simp [hs]
  | (k, v) :: r, acc, hn, ha, hs => by
    simp only [List.map_cons, List.nodup_cons] at hn
    obtain ⟨h1, h2⟩ := sortedInsert_new k v acc hs (ha k (by simp))
    rw [List.foldl_cons]
    have := foldl_sortedInsert r (sortedInsert k v acc) hn.2
      (by intro k' hk' hm
          rw [sortedInsert_keys] at hm
          rcases hm with hm | hm
          · subst hm; exact hn.1 hk'
          · exact ha k' (by simp [hk']) hm) h1
    refine ⟨this.1, this.2.trans ?_⟩
    refine (List.Perm.append_right r h2).trans ?_
    simp only [List.cons_append]
    exact List.perm_middle.symm

theorem insertAllReplace_sorted : ∀ l acc : List (Bytes × TV),
    insertAllReplace .sorted acc l = l.foldl (fun a e => sortedInsert e.1 e.2 a) acc
  | [], _ => rfl
  | (k, v) :: r, acc => by rw [insertAllReplace, mapInsert, List.foldl_cons, insertAllReplace_sorted r]

theorem insertAll_sorted_nil (l : List (Bytes × TV)) (hn : (l.map Prod.fst).Nodup) :
    KSorted (insertAllReplace .sorted [] l) ∧ (insertAllReplace .sorted [] l).Perm l := by
  rw [insertAllReplace_sorted]
  simpa using foldl_sortedInsert l [] hn (by simp) (by simp [KSorted])

theorem insertAll_perm (l l' : List (Bytes × TV)) (hn : (l.map Prod.fst).Nodup) (hp : l'.Perm l) :
    insertAllReplace .sorted [] l' = insertAllReplace .sorted [] l := by
  have hn' : (l'.map Prod.fst).Nodup := ((hp.map Prod.fst).nodup_iff).2 hn
  obtain ⟨a1, a2⟩ := insertAll_sorted_nil l hn
  obtain ⟨b1, b2⟩ := insertAll_sorted_nil l' hn'
  exact ksorted_perm_eq _ _ b1 a1 (b2.trans (hp.trans a2.symm))

theorem insertAll_of_sorted (l l' : List (Bytes × TV)) (hs : KSorted l) (hp : l'.Perm l) :
    insertAllReplace .sorted [] l' = l := by
  have hn' : (l'.map Prod.fst).Nodup := ((hp.map Prod.fst).nodup_iff).2 (ksorted_nodup l hs)
  obtain ⟨b1, b2⟩ := insertAll_sorted_nil l' hn'
  exact ksorted_perm_eq _ _ b1 hs (b2.trans hp)

example : (insertAllReplace .sorted [] [([98], TV.int 1), ([97], .int 2), ([97, 0], .int 3)]).map Prod.fst =
    [[97], [97, 0], [98]] := by decide +kernel

mutual
/-- `PermTV v w`: `v` and `w` differ only by the order of the entries of tables, at any depth (in tables below
    tables, in arrays, in inline tables): the least equivalence relation that is a congruence for arrays and
    tables and relates two tables holding the same entries in different orders -/
inductive PermTV : TV → TV → Prop
  | refl (v : TV) : PermTV v v
  | symm {v w : TV} : PermTV v w → PermTV w v
  | trans {u v w : TV} : PermTV u v → PermTV v w → PermTV u w
  | arr {l l' : List TV} : PermTVs l l' → PermTV (.arr l) (.arr l')
  | perm {a b : List (Bytes × TV)} : a.Perm b → PermTV (.tbl a) (.tbl b)
  | tbl {a b : List (Bytes × TV)} : PermTVPs a b → PermTV (.tbl a) (.tbl b)
inductive PermTVs : List TV → List TV → Prop
  | nil : PermTVs [] []
  | cons {x y : TV} {r t : List TV} : PermTV x y → PermTVs r t → PermTVs (x :: r) (y :: t)
inductive PermTVPs : List (Bytes × TV) → List (Bytes × TV) → Prop
  | nil : PermTVPs [] []
  | cons {k : Bytes} {x y : TV} {r t : List (Bytes × TV)} :
      PermTV x y → PermTVPs r t → PermTVPs ((k, x) :: r) ((k, y) :: t)
end

mutual
/-- in every table of the tree the keys are pairwise distinct (what a map is) -/
def NodupTV : TV → Prop
  | .arr l => NodupVs l
  | .tbl items => (items.map Prod.fst).Nodup ∧ NodupPs items
  | _ => True
def NodupVs : List TV → Prop
  | [] => True
  | v :: r => NodupTV v ∧ NodupVs r
def NodupPs : List (Bytes × TV) → Prop
  | [] => True
  | (_, v) :: r => NodupTV v ∧ NodupPs r
end

mutual
/-- in every table of the tree the keys are strictly increasing in `bytesLt` (Rust's `str` order): the shape of
    every `toml::Value` of the default (`BTreeMap`) build -/
def SortedTV : TV → Prop
  | .arr l => SortedVs l
  | .tbl items => KSorted items ∧ SortedPs items
  | _ => True
def SortedVs : List TV → Prop
  | [] => True
  | v :: r => SortedTV v ∧ SortedVs r
def SortedPs : List (Bytes × TV) → Prop
  | [] => True
  | (_, v) :: r => SortedTV v ∧ SortedPs r
end

theorem nodupPs_iff (l : List (Bytes × TV)) : NodupPs l ↔ ∀ e ∈ l, NodupTV e.2 := by
  induction l with
  | nil => simp [NodupPs]
  | cons x r ih => obtain ⟨k, v⟩ := x; simp [NodupPs, ih]

theorem sortedPs_iff (l : List (Bytes × TV)) : SortedPs l ↔ ∀ e ∈ l, SortedTV e.2 := by
  induction l with
  | nil => simp [SortedPs]
  | cons x r ih => obtain ⟨k, v⟩ := x; simp [SortedPs, ih]

mutual
theorem okV_nodup : ∀ v : TV, OkV v → NodupTV v
  | .str _, _ | .int _, _ | .float _, _ | .bool _, _ | .dt _, _ => by simp [NodupTV]
  | .arr l, h => by rw [OkV] at h; rw [NodupTV]; exact okVs_nodup l h
  | .tbl items, h => by rw [OkV] at h; rw [NodupTV]; exact ⟨h.2.1, okPs_nodup items h.1⟩
theorem okVs_nodup : ∀ l : List TV, OkVs l → NodupVs l
  | [], _ => by simp [NodupVs]
  | v :: r, h => by rw [OkVs] at h; rw [NodupVs]; exact ⟨okV_nodup v h.1, okVs_nodup r h.2⟩
theorem okPs_nodup : ∀ l : List (Bytes × TV), OkPs l → NodupPs l
  | [], _ => by simp [NodupPs]
  | (_, v) :: r, h => by rw [OkPs] at h; rw [NodupPs]; exact ⟨okV_nodup v h.1, okPs_nodup r h.2⟩
end

mutual
theorem sorted_nodup : ∀ v : TV, SortedTV v → NodupTV v
  | .str _, _ | .int _, _ | .float _, _ | .bool _, _ | .dt _, _ => by simp [NodupTV]
  | .arr l, h => by rw [SortedTV] at h; rw [NodupTV]; exact sortedVs_nodup l h
  | .tbl items, h => by
    rw [SortedTV] at h; rw [NodupTV]; exact ⟨ksorted_nodup items h.1, sortedPs_nodup items h.2⟩
theorem sortedVs_nodup : ∀ l : List TV, SortedVs l → NodupVs l
  | [], _ => by simp [NodupVs]
  | v :: r, h => by rw [SortedVs] at h; rw [NodupVs]; exact ⟨sorted_nodup v h.1, sortedVs_nodup r h.2⟩
theorem sortedPs_nodup : ∀ l : List (Bytes × TV), SortedPs l → NodupPs l
  | [], _ => by simp [NodupPs]
  | (_, v) :: r, h => by rw [SortedPs] at h; rw [NodupPs]; exact ⟨sorted_nodup v h.1, sortedPs_nodup r h.2⟩
end

mutual
/-- `PermTV` has `symm` and `trans` among its constructors, so a hypothesis on one side has to be carried to the
    other side in both directions: hence the `↔` beside the equation -/
theorem permTV_place : ∀ {v w : TV}, PermTV v w →
    (NodupTV v ↔ NodupTV w) ∧ (NodupTV w → placeTV .sorted v = placeTV .sorted w)
  | _, _, .refl _ => ⟨Iff.rfl, fun _ => rfl⟩
  | _, _, .symm h => by
    obtain ⟨h1, h2⟩ := permTV_place h
    exact ⟨h1.symm, fun hn => (h2 (h1.1 hn)).symm⟩
  | _, _, .trans h1 h2 => by
    obtain ⟨a1, a2⟩ := permTV_place h1
    obtain ⟨b1, b2⟩ := permTV_place h2
    exact ⟨a1.trans b1, fun hn => (a2 (b1.2 hn)).trans (b2 hn)⟩
  | _, _, .arr h => by
    obtain ⟨a1, a2⟩ := permTVs_place h
    simp only [NodupTV, placeTV]
    exact ⟨a1, fun hn => by rw [a2 hn]⟩
  | _, _, .perm (a := a) (b := b) h => by
    have hk : (a.map Prod.fst).Nodup ↔ (b.map Prod.fst).Nodup := (h.map Prod.fst).nodup_iff
    have hp : NodupPs a ↔ NodupPs b := by
      rw [nodupPs_iff, nodupPs_iff]
      exact ⟨fun H e he => H e (h.symm.subset he), fun H e he => H e (h.subset he)⟩
    simp only [NodupTV, placeTV]
    refine ⟨by rw [hk, hp], fun hn => ?_⟩
    rw [insertAll_perm (placeTVPs .sorted b) (placeTVPs .sorted a) (by rw [placeTVPs_keys]; exact hn.1)
      (by rw [placeTVPs_eq_map, placeTVPs_eq_map]; exact h.map _)]
  | _, _, .tbl h => by
    obtain ⟨a0, a1, a2⟩ := permTVPs_place h
    simp only [NodupTV, placeTV]
    exact ⟨by rw [a0, a1], fun hn => by rw [a2 hn.2]⟩
theorem permTVs_place : ∀ {l l' : List TV}, PermTVs l l' →
    (NodupVs l ↔ NodupVs l') ∧ (NodupVs l' → placeTVs .sorted l = placeTVs .sorted l')
  | _, _, .nil => ⟨Iff.rfl, fun _ => rfl⟩
  | _, _, .cons h1 h2 => by
    obtain ⟨a1, a2⟩ := permTV_place h1
    obtain ⟨b1, b2⟩ := permTVs_place h2
    simp only [NodupVs, placeTVs]
    exact ⟨by rw [a1, b1], fun hn => by rw [a2 hn.1, b2 hn.2]⟩
theorem permTVPs_place : ∀ {l l' : List (Bytes × TV)}, PermTVPs l l' →
    l.map Prod.fst = l'.map Prod.fst ∧ (NodupPs l ↔ NodupPs l') ∧
      (NodupPs l' → placeTVPs .sorted l = placeTVPs .sorted l')
  | _, _, .nil => ⟨rfl, Iff.rfl, fun _ => rfl⟩
  | _, _, .cons h1 h2 => by
    obtain ⟨a1, a2⟩ := permTV_place h1
    obtain ⟨b0, b1, b2⟩ := permTVPs_place h2
    simp only [NodupPs, placeTVPs, List.map_cons]
    exact ⟨by rw [b0], by rw [a1, b1], fun hn => by rw [a2 hn.1, b2 hn.2]⟩
end

mutual
theorem place_sorted_id : ∀ v : TV, SortedTV v → placeTV .sorted v = v
  | .str _, _ | .int _, _ | .float _, _ | .bool _, _ | .dt _, _ => by simp [placeTV]
  | .arr l, h => by rw [SortedTV] at h; rw [placeTV, placeVs_sorted_id l h]
  | .tbl items, h => by
    rw [SortedTV] at h
    rw [placeTV, placePs_sorted_id items h.2, insertAll_of_sorted items items h.1 (List.Perm.refl _)]
theorem placeVs_sorted_id : ∀ l : List TV, SortedVs l → placeTVs .sorted l = l
  | [], _ => by simp [placeTVs]
  | v :: r, h => by rw [SortedVs] at h; rw [placeTVs, place_sorted_id v h.1, placeVs_sorted_id r h.2]
theorem placePs_sorted_id : ∀ l : List (Bytes × TV), SortedPs l → placeTVPs .sorted l = l
  | [], _ => by simp [placeTVPs]
  | (k, v) :: r, h => by rw [SortedPs] at h; rw [placeTVPs, place_sorted_id v h.1, placePs_sorted_id r h.2]
end

mutual
theorem place_is_sorted : ∀ v : TV, NodupTV v → SortedTV (placeTV .sorted v)
  | .str _, _ | .int _, _ | .float _, _ | .bool _, _ | .dt _, _ => by simp [placeTV, SortedTV]
  | .arr l, h => by rw [NodupTV] at h; rw [placeTV, SortedTV]; exact placeVs_is_sorted l h
  | .tbl items, h => by
    rw [NodupTV] at h
    obtain ⟨s1, s2⟩ := insertAll_sorted_nil (placeTVPs .sorted items) (by rw [placeTVPs_keys]; exact h.1)
    rw [placeTV, SortedTV]
    refine ⟨s1, ?_⟩
    rw [sortedPs_iff]
    intro e he
    exact (sortedPs_iff _).1 (placePs_is_sorted items h.2) e (s2.subset he)
theorem placeVs_is_sorted : ∀ l : List TV, NodupVs l → SortedVs (placeTVs .sorted l)
  | [], _ => by simp [placeTVs, SortedVs]
  | v :: r, h => by
    rw [NodupVs] at h; rw [placeTVs, SortedVs]; exact ⟨place_is_sorted v h.1, placeVs_is_sorted r h.2⟩
theorem placePs_is_sorted : ∀ l : List (Bytes × TV), NodupPs l → SortedPs (placeTVPs .sorted l)
  | [], _ => by simp [placeTVPs, SortedPs]
  | (k, v) :: r, h => by
    rw [NodupPs] at h; rw [placeTVPs, SortedPs]; exact ⟨place_is_sorted v h.1, placePs_is_sorted r h.2⟩
end

theorem permTVs_refl : ∀ l : List TV, PermTVs l l
  | [] => .nil
  | v :: r => .cons (.refl v) (permTVs_refl r)

theorem permTVPs_refl : ∀ l : List (Bytes × TV), PermTVPs l l
  | [] => .nil
  | (_, v) :: r => .cons (.refl v) (permTVPs_refl r)

theorem permTVPs_append {b b' : List (Bytes × TV)} (h2 : PermTVPs b b') :
    ∀ {a a' : List (Bytes × TV)}, PermTVPs a a' → PermTVPs (a ++ b) (a' ++ b')
  | _, _, .nil => h2
  | _, _, .cons hx hr => .cons hx (permTVPs_append h2 hr)

mutual
theorem perm_normTV : ∀ v : TV, PermTV (normTV v) v
  | .str _ | .int _ | .float _ | .bool _ | .dt _ => by rw [normTV]; exact .refl _
  | .arr l => by rw [normTV]; exact .arr (perm_normTVs l)
  | .tbl items => by
    rw [normTV]
    exact .trans (.perm (TomlValue17.serOrder_perm _)) (.tbl (perm_normTVPs items))
theorem perm_normTVs : ∀ l : List TV, PermTVs (normTVs l) l
  | [] => by rw [normTVs]; exact .nil
  | v :: r => by rw [normTVs]; exact .cons (perm_normTV v) (perm_normTVs r)
theorem perm_normTVPs : ∀ l : List (Bytes × TV), PermTVPs (normTVPs l) l
  | [] => by rw [normTVPs]; exact .nil
  | (k, v) :: r => by rw [normTVPs]; exact .cons (perm_normTV v) (perm_normTVPs r)
end

theorem own_subs_perm (items : List (Bytes × TV)) : (ownValues items ++ subsOf items).Perm items := by
  unfold ownValues subsOf
  exact List.filter_append_perm _ _

theorem perm_docTbl_of (items : List (Bytes × TV)) (h : PermTVPs (docSubs items) (subsOf items)) :
    PermTV (.tbl (ownValues items ++ docSubs items)) (.tbl items) :=
  .trans (.tbl (permTVPs_append h (permTVPs_refl _))) (.perm (own_subs_perm items))

mutual
theorem perm_docSubs : ∀ items : List (Bytes × TV), PermTVPs (docSubs items) (subsOf items)
  | [] => by rw [docSubs]; exact .nil
  | (k, v) :: r => by
    rw [docSubs]
    have h1 := perm_docItem k v
    have h2 := perm_docSubs r
    have : subsOf ((k, v) :: r) = (if kindOf v == .value then [] else [(k, v)]) ++ subsOf r := by
      cases hv : kindOf v == .value <;> simp [subsOf, hv]
    rw [this]
    exact permTVPs_append h2 h1
theorem perm_docItem : ∀ (k : Bytes) (v : TV), PermTVPs (docItem k v) (if kindOf v == .value then [] else [(k, v)])
  | k, .tbl items => by
    rw [docItem]
    have : (kindOf (.tbl items) == Kind.value) = false := by simp [kindOf]
    rw [this]
    exact .cons (perm_docTbl_of items (perm_docSubs items)) .nil
  | k, .arr l => by
    rw [docItem]
    cases ha : isAotList l with
    | true =>
      have : (kindOf (.arr l) == Kind.value) = false := by simp [kindOf, ha]
      rw [this]
      simp only [if_true, Bool.false_eq_true, if_false]
      exact .cons (.arr (perm_docAot l (by simp [isAotList] at ha; simpa using ha.2))) .nil
    | false =>
      have : (kindOf (.arr l) == Kind.value) = true := by simp [kindOf, ha]
      rw [this]
      simp only [Bool.false_eq_true, if_false, if_true]
      exact .nil
  | _, .str _ | _, .int _ | _, .float _ | _, .bool _ | _, .dt _ => by simp only [docItem, kindOf]; exact .nil
theorem perm_docAot : ∀ l : List TV, (∀ v ∈ l, v.isTable = true) → PermTVs (docAot l) l
  | [], _ => by rw [docAot]; exact .nil
  | v :: r, h => by
    cases v with
    | tbl items =>
      rw [docAot]
      exact .cons (perm_docTbl_of items (perm_docSubs items)) (perm_docAot r fun v hv => h v (List.mem_cons_of_mem _ hv))
    | _ => have := h _ (List.mem_cons_self ..); simp [TV.isTable] at this
end

theorem perm_docTbl (items : List (Bytes × TV)) : PermTV (.tbl (docTbl items)) (.tbl items) :=
  perm_docTbl_of items (perm_docSubs items)

theorem depthTVPs_perm {a b : List (Bytes × TV)} (h : a.Perm b) : depthTVPs a = depthTVPs b := by
  have key : ∀ a b : List (Bytes × TV), a.Perm b → depthTVPs a ≤ depthTVPs b := fun a b h =>
    (depthTVPs_le a _).2 fun e he => (depthTVPs_le b _).1 (Nat.le_refl _) e (h.subset he)
  exact Nat.le_antisymm (key a b h) (key b a h.symm)

mutual
/-- as in `permTV_place`: both directions at once, for `symm` / `trans` -/
theorem permTV_ok : ∀ {v w : TV}, PermTV v w → (OkV v ↔ OkV w) ∧ depthTV v = depthTV w
  | _, _, .refl _ => ⟨Iff.rfl, rfl⟩
  | _, _, .symm h => by
    obtain ⟨h1, h2⟩ := permTV_ok h
    exact ⟨h1.symm, h2.symm⟩
  | _, _, .trans h1 h2 => by
    obtain ⟨a1, a2⟩ := permTV_ok h1
    obtain ⟨b1, b2⟩ := permTV_ok h2
    exact ⟨a1.trans b1, a2.trans b2⟩
  | _, _, .arr h => by
    obtain ⟨a1, a2⟩ := permTVs_ok h
    simp only [OkV, depthTV]
    exact ⟨a1, by rw [a2]⟩
  | _, _, .perm (a := a) (b := b) h => by
    have hk : (a.map Prod.fst).Nodup ↔ (b.map Prod.fst).Nodup := (h.map Prod.fst).nodup_iff
    have hf : FIELD ∈ a.map Prod.fst ↔ FIELD ∈ b.map Prod.fst := (h.map Prod.fst).mem_iff
    have hp : OkPs a ↔ OkPs b := by
      rw [okPs_iff, okPs_iff]
      exact ⟨fun H e he => H e (h.symm.subset he), fun H e he => H e (h.subset he)⟩
    simp only [OkV, depthTV]
    exact ⟨by rw [hk, hf, hp], by rw [depthTVPs_perm h]⟩
  | _, _, .tbl h => by
    obtain ⟨a0, a1, a2⟩ := permTVPs_ok h
    simp only [OkV, depthTV]
    exact ⟨by rw [a0, a1], by rw [a2]⟩
theorem permTVs_ok : ∀ {l l' : List TV}, PermTVs l l' → (OkVs l ↔ OkVs l') ∧ depthTVs l = depthTVs l'
  | _, _, .nil => ⟨Iff.rfl, rfl⟩
  | _, _, .cons h1 h2 => by
    obtain ⟨a1, a2⟩ := permTV_ok h1
    obtain ⟨b1, b2⟩ := permTVs_ok h2
    simp only [OkVs, depthTVs]
    exact ⟨by rw [a1, b1], by rw [a2, b2]⟩
theorem permTVPs_ok : ∀ {l l' : List (Bytes × TV)}, PermTVPs l l' →
    l.map Prod.fst = l'.map Prod.fst ∧ (OkPs l ↔ OkPs l') ∧ depthTVPs l = depthTVPs l'
  | _, _, .nil => ⟨rfl, Iff.rfl, rfl⟩
  | _, _, .cons h1 h2 => by
    obtain ⟨a1, a2⟩ := permTV_ok h1
    obtain ⟨b0, b1, b2⟩ := permTVPs_ok h2
    simp only [OkPs, depthTVPs, List.map_cons]
    exact ⟨by rw [b0], by rw [a1, b1], by rw [a2, b2]⟩
end

mutual
theorem perm_placeTV : ∀ u : TV, NodupTV u → PermTV (placeTV .sorted u) u
  | .str _, _ | .int _, _ | .float _, _ | .bool _, _ | .dt _, _ => by rw [placeTV]; exact .refl _
  | .arr l, h => by rw [NodupTV] at h; rw [placeTV]; exact .arr (perm_placeTVs l h)
  | .tbl items, h => by
    rw [NodupTV] at h
    rw [placeTV]
    exact .trans (.perm (insertAll_sorted_nil (placeTVPs .sorted items) (by rw [placeTVPs_keys]; exact h.1)).2)
      (.tbl (perm_placeTVPs items h.2))
theorem perm_placeTVs : ∀ l : List TV, NodupVs l → PermTVs (placeTVs .sorted l) l
  | [], _ => by rw [placeTVs]; exact .nil
  | v :: r, h => by rw [NodupVs] at h; rw [placeTVs]; exact .cons (perm_placeTV v h.1) (perm_placeTVs r h.2)
theorem perm_placeTVPs : ∀ l : List (Bytes × TV), NodupPs l → PermTVPs (placeTVPs .sorted l) l
  | [], _ => by rw [placeTVPs]; exact .nil
  | (k, v) :: r, h => by rw [NodupPs] at h; rw [placeTVPs]; exact .cons (perm_placeTV v h.1) (perm_placeTVPs r h.2)
end

end TomlVerif.Lemmas.RoundTrip17

namespace TomlVerif.Lemmas.DeTyped13
open TomlVerif TomlVerif.Model TomlVerif.Model.TomlValue TomlVerif.Model.DeRoutes
open TomlVerif.Lemmas.RoundTrip17

theorem insertAll_insertion : ∀ (l acc : List (Bytes × TV)), (l.map Prod.fst).Nodup →
    (∀ k ∈ l.map Prod.fst, k ∉ acc.map Prod.fst) → insertAllReplace .insertion acc l = acc ++ l := by
  intro l
  induction l with
  | nil => intro acc _ _; simp [insertAllReplace]
  | cons x r ih =>
    obtain ⟨k, v⟩ := x
    intro acc hn ha
    simp only [List.map_cons, List.nodup_cons] at hn
    have hk : alookup k acc = none := (Lemmas.State09.alookup_none_iff _ _).2 (ha k (by simp))
    simp only [insertAllReplace, mapInsert, Lemmas.State09.aset_of_none _ _ _ hk]
    rw [ih _ hn.2]
    · simp
    · intro k' hk' hm
      simp only [List.map_append, List.map_cons, List.map_nil, List.mem_append, List.mem_singleton] at hm
      rcases hm with hm | hm
      · exact ha k' (by simp [hk']) hm
      · subst hm; exact hn.1 hk'

mutual
theorem place_insertion_id : ∀ v : TV, NodupTV v → placeTV .insertion v = v
  | .str _, _ | .int _, _ | .float _, _ | .bool _, _ | .dt _, _ => by simp [placeTV]
  | .arr l, h => by rw [NodupTV] at h; rw [placeTV, placeVs_insertion_id l h]
  | .tbl items, h => by
    rw [NodupTV] at h
    rw [placeTV, placePs_insertion_id items h.2, insertAll_insertion items [] h.1 (by simp)]
    simp
theorem placeVs_insertion_id : ∀ l : List TV, NodupVs l → placeTVs .insertion l = l
  | [], _ => by simp [placeTVs]
  | v :: r, h => by rw [NodupVs] at h; rw [placeTVs, place_insertion_id v h.1, placeVs_insertion_id r h.2]
theorem placePs_insertion_id : ∀ l : List (Bytes × TV), NodupPs l → placeTVPs .insertion l = l
  | [], _ => by simp [placeTVPs]
  | (k, v) :: r, h => by rw [NodupPs] at h; rw [placeTVPs, place_insertion_id v h.1, placePs_insertion_id r h.2]
end

end TomlVerif.Lemmas.DeTyped13
