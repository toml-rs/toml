import TomlVerif.Lemmas.AList
import TomlVerif.Model.DeTyped
import TomlVerif.Lemmas.DeRoutes13
/-! The induction principle of the type grammar (`ty_induct`), the data of a parsed tree as a `toml::Value` in
    document order (`plainItem`), which both deserializer families present alike, and the two views of a node through
    which the decoders of Model/DeTyped.lean are compared: an item by its kind, a `toml::Value` through accessors that
    commute with `plainItem`. A struct variant is the struct target with a tag (`asVariant`). -/
namespace TomlVerif.Lemmas.DeTyped13
open TomlVerif TomlVerif.Model TomlVerif.Model.TomlValue TomlVerif.Model.DeRoutes TomlVerif.Model.DeText
open TomlVerif.Model.DeTyped TomlVerif.Lemmas.DeRoutes13

/-! One principle for `Ty` and its four companions, from the recursor: a property of all five is proved by giving its
cases, without a recursion of its own. -/

theorem ty_induct {P : Ty → Prop} {Ps : Tys → Prop} {Pf : Fields → Prop} {Psh : Shape → Prop} {Pv : Variants → Prop}
    (bool : P .bool) (int : ∀ lo hi, P (.int lo hi)) (f64 : P .f64) (f32 : P .f32) (string : P .string)
    (char : P .char) (unit : P .unit) (datetime : P .datetime) (date : P .date) (time : P .time) (value : P .value)
    (ignored : P .ignored) (option : ∀ t, P t → P (.option t)) (seq : ∀ t, P t → P (.seq t))
    (tuple : ∀ ts, Ps ts → P (.tuple ts)) (map : ∀ t, P t → P (.map t)) (newtype : ∀ t, P t → P (.newtype t))
    (struct : ∀ fs, Pf fs → P (.struct fs)) (enum : ∀ vs, Pv vs → P (.enum vs))
    (tnil : Ps .nil) (tcons : ∀ t r, P t → Ps r → Ps (.cons t r))
    (fnil : Pf .nil) (fcons : ∀ name t dflt r, P t → Pf r → Pf (.cons name t dflt r))
    (sunit : Psh .unit) (snewtype : ∀ t, P t → Psh (.newtype t)) (stuple : ∀ ts, Ps ts → Psh (.tuple ts))
    (sstruct : ∀ fs, Pf fs → Psh (.struct fs))
    (vnil : Pv .nil) (vcons : ∀ name s r, Psh s → Pv r → Pv (.cons name s r)) :
    (∀ t, P t) ∧ (∀ ts, Ps ts) ∧ (∀ fs, Pf fs) ∧ (∀ s, Psh s) ∧ (∀ vs, Pv vs) :=
  ⟨@Ty.rec P Ps Pf Psh Pv bool int f64 f32 string char unit datetime date time value ignored option seq tuple map
      newtype struct enum tnil tcons fnil fcons sunit snewtype stuple sstruct vnil vcons,
    @Tys.rec P Ps Pf Psh Pv bool int f64 f32 string char unit datetime date time value ignored option seq tuple map
      newtype struct enum tnil tcons fnil fcons sunit snewtype stuple sstruct vnil vcons,
    @Fields.rec P Ps Pf Psh Pv bool int f64 f32 string char unit datetime date time value ignored option seq tuple map
      newtype struct enum tnil tcons fnil fcons sunit snewtype stuple sstruct vnil vcons,
    @Shape.rec P Ps Pf Psh Pv bool int f64 f32 string char unit datetime date time value ignored option seq tuple map
      newtype struct enum tnil tcons fnil fcons sunit snewtype stuple sstruct vnil vcons,
    @Variants.rec P Ps Pf Psh Pv bool int f64 f32 string char unit datetime date time value ignored option seq tuple map
      newtype struct enum tnil tcons fnil fcons sunit snewtype stuple sstruct vnil vcons⟩

mutual
def plainVal : Val → TV
  | .str s => .str s
  | .int n => .int n
  | .float b => .float b
  | .bool b => .bool b
  | .dt d => .dt d
  | .arr l => .arr (plainVals l)
  | .inl items _ _ => .tbl (plainValPairs items)
def plainVals : List Val → List TV
  | [] => []
  | v :: r => plainVal v :: plainVals r
def plainValPairs : List (Bytes × Val) → List (Bytes × TV)
  | [] => []
  | (k, v) :: r => (k, plainVal v) :: plainValPairs r
end

mutual
def plainItem : Item → TV
  | .value v => plainVal v
  | .table t => plainTbl t
  | .aot ts => .arr (plainTbls ts)
def plainTbl : Tbl → TV
  | .mk items _ _ _ => .tbl (plainItems items)
def plainTbls : List Tbl → List TV
  | [] => []
  | t :: r => plainTbl t :: plainTbls r
def plainItems : List (Bytes × Item) → List (Bytes × TV)
  | [] => []
  | (k, i) :: r => (k, plainItem i) :: plainItems r
end

theorem plainVals_map (l : List Val) : plainVals l = l.map plainVal := by
  induction l with
  | nil => rfl
  | cons v r ih => simp [plainVals, ih]

theorem plainValPairs_map (l : List (Bytes × Val)) : plainValPairs l = l.map fun kv => (kv.1, plainVal kv.2) := by
  induction l with
  | nil => rfl
  | cons x r ih => obtain ⟨k, v⟩ := x; simp [plainValPairs, ih]

theorem plainTbls_map (l : List Tbl) : plainTbls l = l.map plainTbl := by
  induction l with
  | nil => rfl
  | cons v r ih => simp [plainTbls, ih]

theorem plainVals_eq (l : List Val) : plainVals l = (l.map Item.value).map plainItem := by
  rw [plainVals_map, List.map_map]; rfl

theorem plainValPairs_eq (l : List (Bytes × Val)) :
    plainValPairs l = (l.map fun kv => (kv.1, Item.value kv.2)).map fun kv => (kv.1, plainItem kv.2) := by
  rw [plainValPairs_map, List.map_map]; rfl

theorem plainTbls_eq (l : List Tbl) : plainTbls l = (l.map Item.table).map plainItem := by
  rw [plainTbls_map, List.map_map]; rfl

theorem plainItems_eq (l : List (Bytes × Item)) : plainItems l = l.map fun kv => (kv.1, plainItem kv.2) := by
  induction l with
  | nil => rfl
  | cons x r ih => obtain ⟨k, v⟩ := x; simp [plainItems, ih]

mutual
theorem presOfVal_eq : ∀ v : Val, presOfVal v = presEdit (plainVal v)
  | .str _ | .int _ | .float _ | .bool _ | .dt _ => by simp [presOfVal, plainVal, presEdit]
  | .arr l => by simp [presOfVal, plainVal, presEdit, presOfVals_eq l]
  | .inl items _ _ => by simp [presOfVal, plainVal, presEdit, presOfValPairs_eq items]
theorem presOfVals_eq : ∀ l : List Val, presOfVals l = presEditList (plainVals l)
  | [] => by simp [presOfVals, plainVals, presEditList]
  | v :: r => by simp [presOfVals, plainVals, presEditList, presOfVal_eq v, presOfVals_eq r]
theorem presOfValPairs_eq : ∀ l : List (Bytes × Val), presOfValPairs l = presEditPairs (plainValPairs l)
  | [] => by simp [presOfValPairs, plainValPairs, presEditPairs]
  | (k, v) :: r => by simp [presOfValPairs, plainValPairs, presEditPairs, presOfVal_eq v, presOfValPairs_eq r]
end

mutual
theorem presOfItem_eq : ∀ i : Item, presOfItem i = presEdit (plainItem i)
  | .value v => by simp [presOfItem, plainItem, presOfVal_eq v]
  | .table t => by simp [presOfItem, plainItem, presOfTbl_eq t]
  | .aot ts => by simp [presOfItem, plainItem, presEdit, presOfTbls_eq ts]
theorem presOfTbl_eq : ∀ t : Tbl, presOfTbl t = presEdit (plainTbl t)
  | .mk items _ _ _ => by simp [presOfTbl, plainTbl, presEdit, presOfItems_eq items]
theorem presOfTbls_eq : ∀ l : List Tbl, presOfTbls l = presEditList (plainTbls l)
  | [] => by simp [presOfTbls, plainTbls, presEditList]
  | t :: r => by simp [presOfTbls, plainTbls, presEditList, presOfTbl_eq t, presOfTbls_eq r]
theorem presOfItems_eq : ∀ l : List (Bytes × Item), presOfItems l = presEditPairs (plainItems l)
  | [] => by simp [presOfItems, plainItems, presEditPairs]
  | (k, i) :: r => by simp [presOfItems, plainItems, presEditPairs, presOfItem_eq i, presOfItems_eq r]
end

theorem presOfItem_presValue (i : Item) : presOfItem i = presValue currentDtAsMap (plainItem i) := by
  rw [presOfItem_eq, show currentDtAsMap = true from rfl, presValue_true_eq]

/-- the five kinds of item the deserializers distinguish -/
inductive Kind where
  | scalar
  | str (s : Bytes)
  | dt (d : Datetime.Datetime)
  | elems (l : List Item)
  | entries (es : List (Bytes × Item))

def kindOf : Item → Kind
  | .value (.str s) => .str s
  | .value (.int _) => .scalar
  | .value (.float _) => .scalar
  | .value (.bool _) => .scalar
  | .value (.dt d) => .dt d
  | .value (.arr l) => .elems (l.map Item.value)
  | .value (.inl items _ _) => .entries (items.map fun kv => (kv.1, Item.value kv.2))
  | .table t => .entries t.items
  | .aot ts => .elems (ts.map Item.table)

def pairsTV (es : List (Bytes × Item)) : List (Bytes × TV) := es.map fun kv => (kv.1, plainItem kv.2)

theorem item_view (it : Item) :
    match kindOf it with
    | .scalar => itemElems it = none ∧ itemEntries it = none ∧ editMapEntries it = none ∧
        (∀ s, it ≠ .value (.str s)) ∧ (∀ d, it ≠ .value (.dt d)) ∧
        ((∃ n, plainItem it = .int n) ∨ (∃ b, plainItem it = .float b) ∨ (∃ b, plainItem it = .bool b))
    | .str s => it = .value (.str s)
    | .dt d => it = .value (.dt d)
    | .elems l => itemElems it = some l ∧ itemEntries it = none ∧ editMapEntries it = none ∧
        (∀ s, it ≠ .value (.str s)) ∧ (∀ d, it ≠ .value (.dt d)) ∧ plainItem it = .arr (l.map plainItem)
    | .entries es => itemElems it = none ∧ itemEntries it = some es ∧
        editMapEntries it = some (es.map fun kv => (kv.1, ESrc.item kv.2)) ∧
        (∀ s, it ≠ .value (.str s)) ∧ (∀ d, it ≠ .value (.dt d)) ∧ plainItem it = .tbl (pairsTV es) := by
  cases it with
  | value v =>
    cases v <;>
      simp [kindOf, itemElems, itemEntries, editMapEntries, plainItem, plainVal, plainVals_eq, plainValPairs_eq, pairsTV]
  | table t =>
    obtain ⟨items, a, b, c⟩ := t
    simp [kindOf, itemElems, itemEntries, editMapEntries, plainItem, plainTbl, plainItems_eq, pairsTV, Tbl.items]
  | aot ts =>
    simp [kindOf, itemElems, itemEntries, editMapEntries, plainItem, plainTbls_eq]

/-! `decodeValue` matches on the constructors of `TV` where `decodeEdit` asks `itemElems` / `itemEntries` /
`editMapEntries`; read through these accessors the two have the same branches. -/

def tvElems : TV → Option (List TV)
  | .arr l => some l
  | _ => none

def tvEntries : TV → Option (List (Bytes × TV))
  | .tbl es => some es
  | _ => none

/-- what `toml::Value`'s `MapAccess` holds where `toml_edit`'s holds `src` -/
def srcTV : ESrc → TV
  | .item i => plainItem i
  | .str s => .str s

theorem tvElems_plain (it : Item) : tvElems (plainItem it) = (itemElems it).map (List.map plainItem) := by
  cases it with
  | value v => cases v <;> simp [tvElems, itemElems, plainItem, plainVal, plainVals_eq]
  | table t => cases t; rfl
  | aot ts => simp [tvElems, itemElems, plainItem, plainTbls_eq]

theorem tvEntries_plain (it : Item) : tvEntries (plainItem it) = (itemEntries it).map pairsTV := by
  cases it with
  | value v => cases v <;> simp [tvEntries, itemEntries, plainItem, plainVal, plainValPairs_eq, pairsTV]
  | table t => cases t; simp [tvEntries, itemEntries, plainItem, plainTbl, plainItems_eq, pairsTV, Tbl.items]
  | aot ts => rfl

theorem valueMapEntries_plain (it : Item) :
    valueMapEntries (plainItem it) = (editMapEntries it).map (List.map fun kv => (kv.1, srcTV kv.2)) := by
  cases it with
  | value v =>
    cases v <;> simp [valueMapEntries, editMapEntries, itemEntries, plainItem, plainVal, plainValPairs_eq, srcTV]
  | table t =>
    cases t
    simp [valueMapEntries, editMapEntries, itemEntries, plainItem, plainTbl, plainItems_eq, srcTV, Tbl.items]
  | aot ts => rfl

/-! `struct_variant(fields)` is `deserialize_struct("", fields, visitor)` on the payload (after the key validation, for
`toml_edit`): what holds of a struct target carries over to the variant through `rmap`. -/

def asVariant (n : Bytes) : Dec → Dec
  | .struct l => .vStruct n l
  | d => d

theorem asVariant_struct (n : Bytes) (x : R (List (Bytes × Dec))) :
    rmap (.vStruct n) x = rmap (asVariant n) (rmap .struct x) := by
  cases x <;> rfl

theorem decodeValueShape_struct (c : ValueCfg) (fl : Flavour) (fs : Fields) (n : Bytes) (p : TV) :
    decodeValueShape c fl (.struct fs) n p = rmap (asVariant n) (DeTyped.decodeValue c fl (.struct fs) p) := by
  unfold decodeValueShape DeTyped.decodeValue
  cases valueMapEntries p with
  | some es => simp only []; split <;> first | rfl | exact asVariant_struct ..
  | none => cases p <;> first | rfl | (simp only []; split <;> first | rfl | exact asVariant_struct ..)

theorem decodeEditShape_struct (c : EditCfg) (fl : Flavour) (fs : Fields) (n : Bytes) (p : Item) :
    decodeEditShape c fl (.struct fs) n p =
      if c.validateVariantKeys &&
          (match itemEntries p with
           | some es => es.any fun kv => !fs.hasName kv.1
           | none => false) then fail
      else rmap (asVariant n) (decodeEdit c fl (.struct fs) p) := by
  unfold decodeEditShape decodeEdit
  congr 1
  cases editMapEntries p with
  | some es => simp only []; split <;> first | rfl | exact asVariant_struct ..
  | none => cases itemElems p <;> first | rfl | exact asVariant_struct ..

theorem mapE_congr {α β γ} (f : α → R γ) (g : β → R γ) (h : α → β) (l : List α) (hfg : ∀ a ∈ l, f a = g (h a)) :
    mapE f l = mapE g (l.map h) := by
  induction l with
  | nil => rfl
  | cons a r ih =>
    simp only [mapE, List.map_cons]
    rw [hfg a (by simp), ih (fun x hx => hfg x (by simp [hx]))]

theorem alookup_map {α β} (f : α → β) (k : Bytes) (l : List (Bytes × α)) :
    alookup k (l.map fun kv => (kv.1, f kv.2)) = (alookup k l).map f :=
  State09.alookup_mapV f k l

theorem indexKeys_map {α β} (f : α → β) : ∀ (i : Nat) (l : List (Bytes × α)),
    indexKeys i (l.map fun kv => (kv.1, f kv.2)) = indexKeys i l
  | _, [] => rfl
  | i, (k, v) :: r => by simp [indexKeys, indexKeys_map f (i + 1) r]

end TomlVerif.Lemmas.DeTyped13
