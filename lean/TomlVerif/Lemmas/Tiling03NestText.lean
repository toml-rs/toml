import TomlVerif.Lemmas.Tiling03FlatPrint
/-! C03, nested documents — the printer half: the pre-order text of a table tree, the entries
    whose text does not depend on `first_table`, and the printer-side class `preorderDoc`. -/
namespace TomlVerif.Lemmas.Tiling03Nest
open TomlVerif TomlVerif.Spec TomlVerif.Model TomlVerif.Model.Strings TomlVerif.Model.Value
open TomlVerif.Model.Cst TomlVerif.Model.Encode TomlVerif.Lemmas.Cst03 TomlVerif.Lemmas.Tiling03
open TomlVerif.Lemmas.Tiling03Hdr

/-- the text `visit_table` writes for one table (taken with `first_table = false`; for the
    entries of a parsed document the flag does not matter, `entOk`) -/
def entText (f : Bytes → Bytes) (inp : Bytes) (t : CTbl) (path : List CKey) (isArr : Bool) : Bytes :=
  (visitTable f inp ⟨0, t, path, isArr⟩ false).1

mutual
/-- the sections of a table and of the tables below it, in the order `visit_nested_tables`
    walks them (pre-order) -/
def textTbl (f : Bytes → Bytes) (inp : Bytes) : CTbl → List CKey → Bool → Bytes
  | .mk items imp dot p dec sp, path, isArr =>
    (if dot then [] else entText f inp (.mk items imp dot p dec sp) path isArr) ++ textItems f inp items path
def textItems (f : Bytes → Bytes) (inp : Bytes) : List (CKey × CItem) → List CKey → Bytes
  | [], _ => []
  | (k, it) :: r, path =>
    match it with
    | .table t => textTbl f inp t (path ++ [k]) false ++ textItems f inp r path
    | .aot ts _ => textAot f inp ts (path ++ [k]) ++ textItems f inp r path
    | .value _ => textItems f inp r path
def textAot (f : Bytes → Bytes) (inp : Bytes) : List CTbl → List CKey → Bytes
  | [], _ => []
  | t :: r, path => textTbl f inp t path true ++ textAot f inp r path
end

def entsText (f : Bytes → Bytes) (inp : Bytes) : List Entry → Bytes
  | [] => []
  | e :: r => entText f inp e.tbl e.path e.isArr ++ entsText f inp r

theorem entsText_append (f : Bytes → Bytes) (inp : Bytes) : ∀ (a b : List Entry),
    entsText f inp (a ++ b) = entsText f inp a ++ entsText f inp b
  | [], b => by simp [entsText]
  | e :: r, b => by simp [entsText, entsText_append f inp r b, List.append_assoc]

theorem entText_pos (f : Bytes → Bytes) (inp : Bytes) (q : Nat) (t : CTbl) (path : List CKey) (isArr ft : Bool) :
    (visitTable f inp ⟨q, t, path, isArr⟩ ft).1 = (visitTable f inp ⟨0, t, path, isArr⟩ ft).1 := rfl

mutual
theorem visitTbl_text (f : Bytes → Bytes) (inp : Bytes) : ∀ (t : CTbl) (path : List CKey) (isArr : Bool)
    (st : Nat × List Entry),
    entsText f inp (visitTbl t path isArr st).2 = entsText f inp st.2 ++ textTbl f inp t path isArr
  | .mk items imp dot p dec sp, path, isArr, st => by
    rw [visitTbl, textTbl]
    cases dot with
    | true =>
      simp only [if_true, List.nil_append]
      exact visitItems_text f inp items path st
    | false =>
      simp only [Bool.false_eq_true, if_false]
      rw [visitItems_text f inp items path _, entsText_append]
      simp [entsText, List.append_assoc]
theorem visitItems_text (f : Bytes → Bytes) (inp : Bytes) : ∀ (items : List (CKey × CItem)) (path : List CKey)
    (st : Nat × List Entry),
    entsText f inp (visitItems items path st).2 = entsText f inp st.2 ++ textItems f inp items path
  | [], _, st => by simp [visitItems, textItems]
  | (k, .table t) :: r, path, st => by
    rw [visitItems, textItems]
    rw [visitItems_text f inp r path _, visitTbl_text f inp t (path ++ [k]) false st, List.append_assoc]
  | (k, .aot ts sp) :: r, path, st => by
    rw [visitItems, textItems]
    rw [visitItems_text f inp r path _, visitAot_text f inp ts (path ++ [k]) st, List.append_assoc]
  | (k, .value v) :: r, path, st => by
    rw [visitItems, textItems]
    exact visitItems_text f inp r path st
theorem visitAot_text (f : Bytes → Bytes) (inp : Bytes) : ∀ (ts : List CTbl) (path : List CKey)
    (st : Nat × List Entry),
    entsText f inp (visitAot ts path st).2 = entsText f inp st.2 ++ textAot f inp ts path
  | [], _, st => by simp [visitAot, textAot]
  | t :: r, path, st => by
    rw [visitAot, textAot, visitAot_text f inp r path _, visitTbl_text f inp t path true st, List.append_assoc]
end

/-- an entry whose text does not depend on `first_table`: the root, a table with an explicit
    prefix decor (every header the parser reads), or an implicit table without values -/
def entOk (e : Entry) : Bool :=
  e.path.isEmpty || e.tbl.decor.pre.isSome ||
    (!e.isArr && e.tbl.implicit && (valuesTbl e.tbl.items []).isEmpty)

theorem visitTable_entOk (f : Bytes → Bytes) (inp : Bytes) (e : Entry) (ft : Bool) (h : entOk e = true) :
    (visitTable f inp e ft).1 = entText f inp e.tbl e.path e.isArr := by
  obtain ⟨q, t, path, isArr⟩ := e
  unfold entText
  simp only [entOk, Bool.or_eq_true, Bool.and_eq_true, Bool.not_eq_true'] at h
  simp only [visitTable]
  congr 1
  cases hpe : path.isEmpty with
  | true => simp
  | false =>
    simp only [hpe, Bool.false_eq_true, if_false] at h ⊢
    cases isArr with
    | true =>
      simp at h
      cases hp : t.decor.pre with
      | none => rw [hp] at h; cases h
      | some r => simp [prefixEncode, hp]
    | false =>
      cases hv : (!(t.implicit && (valuesTbl t.items []).isEmpty)) with
      | false => simp
      | true =>
        cases hp : t.decor.pre with
        | none =>
          rw [hp] at h
          simp at h
          rw [h.1, h.2] at hv; cases hv
        | some r => simp [prefixEncode, hp]

theorem visitTables_entOk (f : Bytes → Bytes) (inp : Bytes) : ∀ (l : List Entry) (ft : Bool),
    l.all entOk = true → visitTables f inp l ft = entsText f inp l
  | [], _, _ => rfl
  | e :: r, ft, h => by
    simp only [List.all_cons, Bool.and_eq_true] at h
    simp only [visitTables, entsText]
    rw [visitTable_entOk f inp e ft h.1, visitTables_entOk f inp r _ h.2]

/-- the entries `visit_nested_tables` collects -/
def docEntries (d : CDoc) : List Entry := (visitTbl d.root [] false (0, [])).2

/-- the printer-side class: the root carries no decor, the tables are met in position order
    (every sub-table after its parent, sections in source order), and every header has an explicit
    prefix decor -/
def preorderDoc (d : CDoc) : Bool :=
  d.root.decor.pre.isNone && d.root.decor.suf.isNone && sortedFrom 0 (docEntries d) && (docEntries d).all entOk

end TomlVerif.Lemmas.Tiling03Nest
