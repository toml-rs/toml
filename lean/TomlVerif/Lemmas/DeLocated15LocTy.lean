import TomlVerif.Lemmas.DeLocated15Loc
/-! For C15 (and, through `decodeSp`, C14): every error of `decodeLoc` obeys the locating rule `Loc`; a node with a span
    gives every error a span. -/
namespace TomlVerif.Lemmas.DeLocated15
open TomlVerif TomlVerif.Model TomlVerif.Model.TomlValue TomlVerif.Model.DeRoutes TomlVerif.Model.DeText
open TomlVerif.Model.DeTyped TomlVerif.Model.Cst TomlVerif.Model.DeLocated

theorem atSpan_err {α} (sp : Option Span) (e : LErr) : atSpan sp (.error e : LR α) = .error (atSpanE sp e) := rfl
theorem inEntry_err {α} (sp : Option Span) (k : Bytes) (e : LErr) :
    inEntry sp k (.error e : LR α) = .error (inEntryE sp k e) := rfl

theorem loc_atSpanE (it : CItem) (e : LErr) (h : Loc it e.keys e.span) :
    Loc it (atSpanE it.span e).keys (atSpanE it.span e).span :=
  locE_atSpan it (.error e : LR Unit) (fun _ he => by cases he; exact h) _ rfl

/-- an entry error: what `inEntryE` / `dtFromEntry` build (`EntryLoc (.item k v) e`, spelled out) -/
def EntryErr (k : CKey) (v : CItem) (e : LErr) : Prop :=
  ∃ ks sp, Loc v ks sp ∧ e = ⟨if sp.isNone then entrySpan k v else sp, k.key :: ks⟩

theorem dtFromEntry_loc (k : CKey) (v : CItem) (e : LErr) (h : dtFromEntry k v = some e) : EntryErr k v e := by
  unfold dtFromEntry at h
  have : e = ⟨entrySpan k v, [k.key]⟩ := by
    split at h
    · split at h
      · cases h; rfl
      · cases h
    · cases h; rfl
  subst this
  exact ⟨[], none, .pending v, by simp⟩

theorem inEntryE_loc (k : CKey) (v : CItem) (e : LErr) (h : Loc v e.keys e.span) :
    EntryErr k v (inEntryE (entrySpan k v) k.key e) :=
  ⟨e.keys, e.span, h, rfl⟩

mutual
theorem valueErrVal_loc : ∀ (v : CVal) (e : LErr), valueErrVal v = some e → Loc (.value v) e.keys e.span
  | .scalar x r d, e, h => by
    cases x with
    | dt d0 =>
      simp only [valueErrVal] at h
      split at h
      · cases h; exact Loc.self (.value (.scalar (.dt d0) r d))
      · cases h
    | str => simp [valueErrVal] at h
    | int => simp [valueErrVal] at h
    | float => simp [valueErrVal] at h
    | bool => simp [valueErrVal] at h
    | arr => simp [valueErrVal] at h
    | inl => simp [valueErrVal] at h
  | .arr items t c d sp, e, h => by
    simp only [valueErrVal, Option.map_eq_some_iff] at h
    obtain ⟨e0, h0, rfl⟩ := h
    obtain ⟨x, hx, hl⟩ := valueErrVals_loc items e0 h0
    exact loc_atSpanE (.value (.arr items t c d sp)) e0
      (.elem (l := items.map CItem.value) rfl (List.mem_map.2 ⟨x, hx, rfl⟩) hl)
  | .inl items p i dt d sp, e, h => by
    simp only [valueErrVal, Option.map_eq_some_iff] at h
    obtain ⟨e0, h0, rfl⟩ := h
    obtain ⟨k, v, hm, ks, sp0, hl, rfl⟩ := valueErrKvs_loc items true e0 h0
    exact loc_atSpanE (.value (.inl items p i dt d sp)) _
      (.entry (es := items.map fun kv => (kv.1, CItem.value kv.2)) rfl (List.mem_map.2 ⟨(k, v), hm, rfl⟩) hl)
theorem valueErrVals_loc : ∀ (l : List CVal) (e : LErr), valueErrVals l = some e →
    ∃ x ∈ l, Loc (.value x) e.keys e.span
  | [], e, h => by simp [valueErrVals] at h
  | v :: r, e, h => by
    simp only [valueErrVals] at h
    cases hv : valueErrVal v with
    | some e0 =>
      rw [hv] at h; cases h
      exact ⟨v, List.mem_cons_self .., loc_atSpanE (.value v) e0 (valueErrVal_loc v _ hv)⟩
    | none =>
      rw [hv] at h
      obtain ⟨x, hx, hl⟩ := valueErrVals_loc r e h
      exact ⟨x, List.mem_cons_of_mem _ hx, hl⟩
theorem valueErrKvs_loc : ∀ (l : List (CKey × CVal)) (b : Bool) (e : LErr), valueErrKvs b l = some e →
    ∃ k v, (k, v) ∈ l ∧ EntryErr k (.value v) e
  | [], b, e, h => by simp [valueErrKvs] at h
  | (k, v) :: r, b, e, h => by
    simp only [valueErrKvs] at h
    split at h
    · exact ⟨k, v, List.mem_cons_self .., dtFromEntry_loc k (.value v) e h⟩
    · cases hv : valueErrVal v with
      | some e0 =>
        rw [hv] at h; cases h
        exact ⟨k, v, List.mem_cons_self .., inEntryE_loc k (.value v) e0 (valueErrVal_loc v e0 hv)⟩
      | none =>
        rw [hv] at h
        obtain ⟨k', v', hm, hl⟩ := valueErrKvs_loc r false e h
        exact ⟨k', v', List.mem_cons_of_mem _ hm, hl⟩
end

mutual
theorem valueErrItem_loc : ∀ (it : CItem) (e : LErr), valueErrItem it = some e → Loc it e.keys e.span
  | .value v, e, h => by simp only [valueErrItem] at h; exact valueErrVal_loc v e h
  | .table t, e, h => by simp only [valueErrItem] at h; exact valueErrTbl_loc t e h
  | .aot ts sp, e, h => by
    simp only [valueErrItem, Option.map_eq_some_iff] at h
    obtain ⟨e0, h0, rfl⟩ := h
    obtain ⟨x, hx, hl⟩ := valueErrTbls_loc ts e0 h0
    exact loc_atSpanE (.aot ts sp) e0 (.elem (l := ts.map CItem.table) rfl (List.mem_map.2 ⟨x, hx, rfl⟩) hl)
theorem valueErrTbl_loc : ∀ (t : CTbl) (e : LErr), valueErrTbl t = some e → Loc (.table t) e.keys e.span
  | .mk items i d p dc sp, e, h => by
    simp only [valueErrTbl, Option.map_eq_some_iff] at h
    obtain ⟨e0, h0, rfl⟩ := h
    obtain ⟨k, v, hm, ks, sp0, hl, rfl⟩ := valueErrItems_loc items true e0 h0
    exact loc_atSpanE (.table (.mk items i d p dc sp)) _ (.entry (es := items) rfl hm hl)
theorem valueErrTbls_loc : ∀ (l : List CTbl) (e : LErr), valueErrTbls l = some e →
    ∃ x ∈ l, Loc (.table x) e.keys e.span
  | [], e, h => by simp [valueErrTbls] at h
  | v :: r, e, h => by
    simp only [valueErrTbls] at h
    cases hv : valueErrTbl v with
    | some e0 =>
      rw [hv] at h; cases h
      exact ⟨v, List.mem_cons_self .., loc_atSpanE (.table v) e0 (valueErrTbl_loc v _ hv)⟩
    | none =>
      rw [hv] at h
      obtain ⟨x, hx, hl⟩ := valueErrTbls_loc r e h
      exact ⟨x, List.mem_cons_of_mem _ hx, hl⟩
theorem valueErrItems_loc : ∀ (l : List (CKey × CItem)) (b : Bool) (e : LErr), valueErrItems b l = some e →
    ∃ k v, (k, v) ∈ l ∧ EntryErr k v e
  | [], b, e, h => by simp [valueErrItems] at h
  | (k, v) :: r, b, e, h => by
    simp only [valueErrItems] at h
    split at h
    · exact ⟨k, v, List.mem_cons_self .., dtFromEntry_loc k v e h⟩
    · cases hv : valueErrItem v with
      | some e0 =>
        rw [hv] at h; cases h
        exact ⟨k, v, List.mem_cons_self .., inEntryE_loc k v e0 (valueErrItem_loc v e0 hv)⟩
      | none =>
        rw [hv] at h
        obtain ⟨k', v', hm, hl⟩ := valueErrItems_loc r false e h
        exact ⟨k', v', List.mem_cons_of_mem _ hm, hl⟩
end

theorem decodeValueLoc_loc (fl : Flavour) (it : CItem) : LocE it (decodeValueLoc fl it) := by
  intro e h
  unfold decodeValueLoc at h
  split at h
  · cases h
  · split at h
    · rename_i e0 he0
      cases h
      exact valueErrItem_loc it _ he0
    · cases h; exact Loc.self it

theorem dtCore_loc (it : CItem) : LocE it (dtCore it) := by
  unfold dtCore
  split
  · exact locE_atSpan it _ (locE_liftV it _)
  · refine locE_atSpan it _ ?_
    cases hc : citemEntries it with
    | none => exact locE_vfail it
    | some es =>
      cases es with
      | nil => exact locE_vfail it
      | cons kv rest =>
        obtain ⟨k, v⟩ := kv
        simp only []
        split
        · intro e he
          obtain ⟨e0, h0, rfl⟩ := inEntry_error _ _ _ _ he
          have hv : LocE v (atSpan v.span (match presOfItem (eraseItem v) with
              | .string s => liftV (ofOpt (Datetime.Std.fromStr s))
              | _ => vfail)) := by
            refine locE_atSpan v _ ?_
            split
            · exact locE_liftV v _
            · exact locE_vfail v
          exact .entry hc (List.mem_cons_self ..) (hv e0 h0)
        · intro e he
          cases he
          exact .key hc (List.mem_cons_self ..)

theorem dtLoc_loc (ty : Ty) (it : CItem) : LocE it (dtLoc ty it) := by
  intro e he
  unfold dtLoc at he
  cases hc : dtCore it with
  | error e0 => rw [hc] at he; cases he; exact dtCore_loc it _ hc
  | ok d =>
    rw [hc] at he
    simp only [] at he
    have : e = visitorErr := by
      rcases shapeCheck_cases ty d with h | h <;> rw [h] at he <;> cases he
      rfl
    subst this; exact .pending it

/-- errors of a `visit_seq` over the items `l` -/
def SeqLoc (l : List CItem) (e : LErr) : Prop := e = visitorErr ∨ ∃ x ∈ l, Loc x e.keys e.span

theorem seqLoc_elem (it : CItem) (l : List CItem) (hl : citemElems it = some l) (e : LErr) (h : SeqLoc l e) :
    Loc it e.keys e.span := by
  rcases h with h | ⟨x, hx, h⟩
  · subst h; exact .pending it
  · exact .elem hl hx h

/-- a struct read from a table or from an array, given the two facts about its fields that the induction over the
    type grammar supplies -/
theorem struct_loc (fl : Flavour) (fs : Fields) (it : CItem)
    (hentry : ∀ k src e, decodeLocEntry fl fs k src = .error e → EntryLoc src e)
    (hseq : ∀ l e, decodeLocFieldsSeq fl fs l = .error e → SeqLoc l e) : LocE it (decodeLoc fl (.struct fs) it) := by
  unfold decodeLoc
  refine locE_atSpan it _ ?_
  cases hl : locMapEntries it with
  | some es => exact struct_body_loc it fs _ es hl fun kv _ e he => hentry kv.1 kv.2 e he
  | none =>
    simp only []
    cases hle : citemElems it with
    | none => exact locE_vfail it
    | some l =>
      intro e he
      exact seqLoc_elem it l hle e (hseq l e (lmap_error _ _ _ he))

mutual
theorem loc_ty (fl : Flavour) : ∀ (ty : Ty) (it : CItem), LocE it (decodeLoc fl ty it)
  | .bool, it => by unfold decodeLoc; exact locE_atSpan it _ (locE_liftV it _)
  | .int _ _, it => by unfold decodeLoc; exact locE_atSpan it _ (locE_liftV it _)
  | .f64, it => by unfold decodeLoc; exact locE_atSpan it _ (locE_liftV it _)
  | .f32, it => by unfold decodeLoc; exact locE_atSpan it _ (locE_liftV it _)
  | .string, it => by unfold decodeLoc; exact locE_atSpan it _ (locE_liftV it _)
  | .char, it => by unfold decodeLoc; exact locE_atSpan it _ (locE_liftV it _)
  | .unit, it => by unfold decodeLoc; exact locE_atSpan it _ (locE_liftV it _)
  | .datetime, it => by unfold decodeLoc; exact dtLoc_loc _ it
  | .date, it => by unfold decodeLoc; exact dtLoc_loc _ it
  | .time, it => by unfold decodeLoc; exact dtLoc_loc _ it
  | .value, it => by unfold decodeLoc; exact decodeValueLoc_loc fl it
  | .ignored, it => by unfold decodeLoc; exact locE_ok it _
  | .option t, it => by unfold decodeLoc; exact locE_atSpan it _ (locE_lmap it _ _ (loc_ty fl t it))
  | .newtype t, it => by unfold decodeLoc; exact locE_atSpan it _ (locE_lmap it _ _ (loc_ty fl t it))
  | .seq t, it => by
    unfold decodeLoc
    refine locE_atSpan it _ ?_
    cases hl : citemElems it with
    | none => exact locE_vfail it
    | some l =>
      intro e he
      obtain ⟨x, hx, hf⟩ := mapL_error _ l e (lmap_error _ _ _ he)
      exact .elem hl hx (locE_atSpan x _ (loc_ty fl t x) e hf)
  | .tuple ts, it => by
    unfold decodeLoc
    refine locE_atSpan it _ ?_
    cases hl : citemElems it with
    | none => exact locE_vfail it
    | some l =>
      intro e he
      exact seqLoc_elem it l hl e (loc_tys fl ts l e (lmap_error _ _ _ he))
  | .map t, it => by
    unfold decodeLoc
    refine locE_atSpan it _ ?_
    cases hl : locMapEntries it with
    | none => exact locE_vfail it
    | some es =>
      intro e he
      obtain ⟨kv, hkv, hf⟩ := mapL_error _ es e (lmap_error _ _ _ he)
      obtain ⟨key, src⟩ := kv
      have hf' := lmap_error _ _ _ hf
      refine entryLoc_to_loc it es hl key src hkv e ?_
      cases src with
      | str s => exact liftV_error _ _ hf'
      | item k i =>
        obtain ⟨e0, h0, rfl⟩ := inEntry_error _ _ _ _ hf'
        exact ⟨e0.keys, e0.span, loc_ty fl t i e0 h0, rfl⟩
  | .struct fs, it => struct_loc fl fs it (loc_entry fl fs) (loc_fseq fl fs)
  | .enum vs, it => by
    unfold decodeLoc
    refine locE_atSpan it _ ?_
    split
    · exact locE_liftV it _
    · cases hc : citemEntries it with
      | none => exact locE_failAt_self it
      | some es =>
        match es with
        | [] => exact locE_failAt_self it
        | [(k, p)] =>
          intro e he
          rcases loc_variants fl vs k p e he with h | h
          · subst h; exact .key hc (List.mem_cons_self ..)
          · exact .variant hc h
        | _ :: _ :: _ => exact locE_failAt_self it
theorem loc_tys (fl : Flavour) : ∀ (ts : Tys) (l : List CItem) (e : LErr), decodeLocTys fl ts l = .error e → SeqLoc l e
  | .nil, l, e, h => by unfold decodeLocTys at h; cases h
  | .cons t r, [], e, h => by unfold decodeLocTys at h; cases h; exact Or.inl rfl
  | .cons t r, i :: l, e, h => by
    unfold decodeLocTys at h
    rcases lcons_error _ _ _ h with h1 | h1
    · exact Or.inr ⟨i, List.mem_cons_self .., locE_atSpan i _ (loc_ty fl t i) e h1⟩
    · rcases loc_tys fl r l e h1 with h2 | ⟨x, hx, h2⟩
      · exact Or.inl h2
      · exact Or.inr ⟨x, List.mem_cons_of_mem _ hx, h2⟩
theorem loc_entry (fl : Flavour) : ∀ (fs : Fields) (k : Bytes) (src : LSrc) (e : LErr),
    decodeLocEntry fl fs k src = .error e → EntryLoc src e
  | .nil, k, src, e, h => by unfold decodeLocEntry at h; cases h
  | .cons name t dflt r, k, src, e, h => by
    unfold decodeLocEntry at h
    split at h
    · have h' := lmap_error _ _ _ h
      cases src with
      | str s => exact liftV_error _ _ h'
      | item key i =>
        obtain ⟨e0, h0, rfl⟩ := inEntry_error _ _ _ _ h'
        exact ⟨e0.keys, e0.span, loc_ty fl t i e0 h0, rfl⟩
    · exact loc_entry fl r k src e h
theorem loc_fseq (fl : Flavour) : ∀ (fs : Fields) (l : List CItem) (e : LErr),
    decodeLocFieldsSeq fl fs l = .error e → SeqLoc l e
  | .nil, l, e, h => by unfold decodeLocFieldsSeq at h; cases h
  | .cons name t dflt r, [], e, h => by
    unfold decodeLocFieldsSeq at h
    split at h
    · exact loc_fseq fl r [] e (lmap_error _ _ _ h)
    · cases h; exact Or.inl rfl
  | .cons name t dflt r, i :: l, e, h => by
    unfold decodeLocFieldsSeq at h
    rcases lcons_error _ _ _ h with h1 | h1
    · exact Or.inr ⟨i, List.mem_cons_self .., locE_atSpan i _ (loc_ty fl t i) e (lmap_error _ _ _ h1)⟩
    · rcases loc_fseq fl r l e h1 with h2 | ⟨x, hx, h2⟩
      · exact Or.inl h2
      · exact Or.inr ⟨x, List.mem_cons_of_mem _ hx, h2⟩
/-- the left alternative is `unknown_variant`, located at the key: `Loc.key` for the caller, which knows the table -/
theorem loc_variants (fl : Flavour) : ∀ (vs : Variants) (k : CKey) (p : CItem) (e : LErr),
    decodeLocVariants fl vs k p = .error e → e = ⟨keySpan k, []⟩ ∨ Loc p e.keys e.span
  | .nil, k, p, e, h => by unfold decodeLocVariants at h; cases h; exact Or.inl rfl
  | .cons name s r, k, p, e, h => by
    unfold decodeLocVariants at h
    split at h
    · exact Or.inr (loc_shape fl s name p e h)
    · exact loc_variants fl r k p e h
theorem loc_shape (fl : Flavour) : ∀ (s : Shape) (n : Bytes) (p : CItem), LocE p (decodeLocShape fl s n p)
  | .unit, n, p => by
    unfold decodeLocShape
    cases citemElems p with
    | some l => simp only []; split; exact locE_ok p _; exact locE_failAt_self p
    | none =>
      simp only []
      cases citemEntries p with
      | some es => simp only []; split; exact locE_ok p _; exact locE_failAt_self p
      | none => exact locE_failAt_self p
  | .newtype t, n, p => by unfold decodeLocShape; exact locE_lmap p _ _ (loc_ty fl t p)
  | .tuple ts, n, p => by
    unfold decodeLocShape
    cases hl : citemElems p with
    | some l =>
      simp only []
      split
      · intro e he
        exact seqLoc_elem p l hl e (loc_tys fl ts l e (lmap_error _ _ _ he))
      · exact locE_failAt_self p
    | none =>
      simp only []
      cases hc : citemEntries p with
      | none => exact locE_failAt_self p
      | some es =>
        simp only []
        cases hb : firstBadIndex 0 es with
        | some k =>
          intro e he
          cases he
          obtain ⟨v, hv⟩ := firstBadIndex_mem es 0 k hb
          exact .key hc hv
        | none =>
          simp only []
          split
          · intro e he
            rcases loc_tys fl ts _ e (lmap_error _ _ _ he) with h | ⟨x, hx, h⟩
            · subst h; exact .pending p
            · obtain ⟨kv, hkv, rfl⟩ := List.mem_map.1 hx
              exact .index hc hkv (firstBadIndex_none es 0 hb kv hkv) h
          · exact locE_failAt_self p
  | .struct fs, n, p => by
    rw [decodeLocShape_struct]
    cases hx : (citemEntries p).bind (firstExtraKey fs) with
    | some k =>
      refine locE_atSpan p _ ?_
      intro e he
      cases he
      cases hc : citemEntries p with
      | none => rw [hc] at hx; simp at hx
      | some es =>
        rw [hc] at hx
        simp only [Option.bind_some] at hx
        obtain ⟨v, hv⟩ := firstExtraKey_mem fs es k hx
        exact .key hc hv
    | none => exact locE_lmap p _ _ (struct_loc fl fs p (loc_entry fl fs) (loc_fseq fl fs))
end

theorem atSpanE_some (s : Span) (e : LErr) : (atSpanE (some s) e).span.isSome = true := by
  unfold atSpanE; cases h : e.span <;> simp [h]

theorem atSpan_some {α} (s : Span) (x : LR α) (e : LErr) (h : atSpan (some s) x = .error e) : e.span.isSome = true := by
  cases x with
  | ok a => cases h
  | error e0 => cases h; exact atSpanE_some s e0

/-- every arm of `valueErrItem` ends in the `map_err` of the node (`atSpanE it.span`) or, for a date-time leaf, in the
    leaf's own span -/
theorem valueErrItem_present (it : CItem) (e : LErr) (s : Span) (hsp : it.span = some s) (h : valueErrItem it = some e) :
    e.span.isSome = true := by
  have wrapped : ∀ o : Option LErr, o.map (atSpanE it.span) = some e → e.span.isSome = true := by
    intro o ho
    obtain ⟨e1, _, rfl⟩ := Option.map_eq_some_iff.1 ho
    rw [hsp]; exact atSpanE_some s e1
  cases it with
  | value v =>
    cases v with
    | scalar x r d =>
      cases x <;> simp [valueErrItem, valueErrVal] at h
      obtain ⟨_, rfl⟩ := h
      simpa [CItem.span, CVal.span] using congrArg Option.isSome hsp
    | arr items t c d sp => exact wrapped _ h
    | inl items p i dt d sp => exact wrapped _ h
  | table t => cases t; exact wrapped _ h
  | aot ts sp => exact wrapped _ h

/-- if the node decoded has a span, every error has one, whatever the target type — except the targets `Date` / `Time`,
    whose shape test runs after the deserializer has returned, outside every `map_err` -/
theorem span_present (fl : Flavour) (ty : Ty) (it : CItem) (e : LErr) (s : Span)
    (hsp : it.span = some s) (hd : ty ≠ .date) (ht : ty ≠ .time)
    (h : decodeLoc fl ty it = .error e) : e.span.isSome = true := by
  cases ty with
  | date => exact absurd rfl hd
  | time => exact absurd rfl ht
  | ignored => unfold decodeLoc at h; cases h
  | value =>
    unfold decodeLoc decodeValueLoc at h
    split at h
    · cases h
    · split at h
      · cases h; exact valueErrItem_present it _ s hsp ‹_›
      · cases h; simp [hsp]
  | datetime =>
    unfold decodeLoc dtLoc at h
    cases hc : dtCore it with
    | ok d => rw [hc] at h; simp [shapeCheck] at h
    | error e0 =>
      rw [hc] at h; cases h
      unfold dtCore at hc
      rw [hsp] at hc
      split at hc <;> exact atSpan_some s _ _ hc
  | _ => unfold decodeLoc at h; rw [hsp] at h; exact atSpan_some s _ _ h

end TomlVerif.Lemmas.DeLocated15
