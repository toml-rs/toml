import TomlVerif.Lemmas.Ser07TextRoutes
/-! C07 at the TEXT level: the formatted text does not depend on NaN payloads
    (`fmtText disp p (canonKVs kvs) = fmtText disp p kvs`), because `toml_write` prints every NaN as `nan` / `-nan`;
    and what every route that returns a text has in common, as a record (`TextRoute`, with `editRoute`, `fmtRoute`). -/
namespace TomlVerif.Lemmas.Ser07Text
open TomlVerif TomlVerif.Model TomlVerif.Model.Ser TomlVerif.Spec TomlVerif.Spec.Serde
open TomlVerif.Model.TomlValue TomlVerif.Spec.Encode06
open TomlVerif.Lemmas.RoundTrip17 TomlVerif.Lemmas.Ser07TextF

mutual
theorem tvOf_vOf : ∀ t : TV, tvOf (vOf t) = t
  | .str _ | .int _ | .float _ | .bool _ | .dt _ => rfl
  | .arr l => by rw [vOf, tvOf, tvList_vOfList l]
  | .tbl items => by rw [vOf, tvOf, tvKVs_vOfPs items]
theorem tvList_vOfList : ∀ l : List TV, tvList (vOfList l) = l
  | [] => rfl
  | t :: r => by rw [vOfList, tvList, tvOf_vOf t, tvList_vOfList r]
theorem tvKVs_vOfPs : ∀ l : List (Bytes × TV), tvKVs (vOfPs l) = l
  | [] => rfl
  | (k, t) :: r => by rw [vOfPs, tvKVs, tvOf_vOf t, tvKVs_vOfPs r]
end

/-- NaNs reduced to their sign, on `toml::Value`-shaped trees -/
def canonT (t : TV) : TV := tvOf (canonV (vOf t))
def cPair (e : Bytes × TV) : Bytes × TV := (e.1, canonT e.2)
def cStmt : TomlValue.Stmt → TomlValue.Stmt
  | .kv k v => .kv k (canonT v)
  | s => s

theorem canonT_tvOf (v : V) : canonT (tvOf v) = tvOf (canonV v) := by unfold canonT; rw [vOf_tvOf]

theorem canonT_list : ∀ l : List TV, tvList (canonVs (vOfList l)) = l.map canonT
  | [] => rfl
  | t :: r => by simp only [vOfList, canonVs, tvList, List.map_cons, canonT_list r]; rfl
theorem canonT_pairs : ∀ l : List (Bytes × TV), tvKVs (canonKVs (vOfPs l)) = l.map cPair
  | [] => rfl
  | (k, t) :: r => by simp only [vOfPs, canonKVs, tvKVs, List.map_cons, canonT_pairs r]; rfl

theorem canonT_arr (l : List TV) : canonT (.arr l) = .arr (l.map canonT) := by
  show tvOf (canonV (vOf (.arr l))) = _
  rw [vOf, canonV, tvOf, canonT_list]
theorem canonT_tbl (items : List (Bytes × TV)) : canonT (.tbl items) = .tbl (items.map cPair) := by
  show tvOf (canonV (vOf (.tbl items))) = _
  rw [vOf, canonV, tvOf, canonT_pairs]

theorem tvKVs_canon (kvs : List (Bytes × V)) : tvKVs (canonKVs kvs) = (tvKVs kvs).map cPair := by
  have := canonT_pairs (tvKVs kvs)
  rwa [vOfPs_tvKVs] at this

mutual
theorem render_canon (fl : FloatText) (hfl : ∀ b, fl (canonFloat b) = fl b) (p : Bool) :
    ∀ t : TV, renderVal fl p (canonT t) = renderVal fl p t
  | .str _ => rfl
  | .int _ => rfl
  | .float b => by
    have : canonT (.float b) = .float (canonFloat b) := rfl
    rw [this, renderVal, renderVal]; exact hfl b
  | .bool _ => rfl
  | .dt _ => rfl
  | .arr l => by
    rw [canonT_arr, renderVal, renderVal, List.length_map, renderElems_canon fl hfl p l true, renderElemsMl_canon fl hfl p l]
  | .tbl items => by
    rw [canonT_tbl, renderVal, renderVal, renderInline_canon fl hfl p items true]
theorem renderElems_canon (fl : FloatText) (hfl : ∀ b, fl (canonFloat b) = fl b) (p : Bool) :
    ∀ (l : List TV) (first : Bool), renderElems fl p first (l.map canonT) = renderElems fl p first l
  | [], _ => rfl
  | t :: r, first => by
    rw [List.map_cons, renderElems, renderElems, render_canon fl hfl p t, renderElems_canon fl hfl p r false]
theorem renderElemsMl_canon (fl : FloatText) (hfl : ∀ b, fl (canonFloat b) = fl b) (p : Bool) :
    ∀ l : List TV, renderElemsMl fl p (l.map canonT) = renderElemsMl fl p l
  | [] => rfl
  | t :: r => by
    rw [List.map_cons, renderElemsMl, renderElemsMl, render_canon fl hfl p t, renderElemsMl_canon fl hfl p r]
theorem renderInline_canon (fl : FloatText) (hfl : ∀ b, fl (canonFloat b) = fl b) (p : Bool) :
    ∀ (l : List (Bytes × TV)) (first : Bool), renderInline fl p first (l.map cPair) = renderInline fl p first l
  | [], _ => rfl
  | (k, t) :: r, first => by
    have e : ((k, t) :: r).map cPair = (k, canonT t) :: r.map cPair := rfl
    rw [e, renderInline, renderInline, render_canon fl hfl p t, renderInline_canon fl hfl p r false]
    simp
end

theorem renderStmts_canon (fl : FloatText) (hfl : ∀ b, fl (canonFloat b) = fl b) (p : Bool) :
    ∀ (l : List TomlValue.Stmt) (first : Bool), renderStmts fl p first (l.map cStmt) = renderStmts fl p first l
  | [], _ => rfl
  | .header path :: r, first => by
    simp only [List.map_cons, cStmt, renderStmts, renderStmts_canon fl hfl p r]
  | .aotHeader path :: r, first => by
    simp only [List.map_cons, cStmt, renderStmts, renderStmts_canon fl hfl p r]
  | .kv k v :: r, first => by
    simp only [List.map_cons, cStmt, renderStmts, renderStmts_canon fl hfl p r, render_canon fl hfl p v]

theorem isTable_canon (t : TV) : (canonT t).isTable = t.isTable := by
  cases t with
  | arr l => rw [canonT_arr]; rfl
  | tbl items => rw [canonT_tbl]; rfl
  | _ => rfl

theorem isAot_canon (l : List TV) : isAotList (l.map canonT) = isAotList l := by
  unfold isAotList
  congr 1
  · cases l <;> rfl
  · rw [List.all_map]
    congr 1
    funext t
    exact isTable_canon t

theorem kind_canon (t : TV) : kindOf (canonT t) = kindOf t := by
  cases t with
  | arr l => rw [canonT_arr, kindOf, kindOf, isAot_canon]
  | tbl items => rw [canonT_tbl]; rfl
  | _ => rfl

theorem ownValues_canon (items : List (Bytes × TV)) : ownValues (items.map cPair) = (ownValues items).map cPair := by
  unfold ownValues
  rw [List.filter_map]
  congr 1
  apply List.filter_congr
  intro e _
  simp only [Function.comp, cPair, kind_canon]

theorem ownKvs_canon (items : List (Bytes × TV)) : ownKvs (items.map cPair) = (ownKvs items).map cStmt := by
  unfold ownKvs
  rw [ownValues_canon, List.map_map, List.map_map]
  rfl

theorem headerOf_canon (path : List Bytes) (a : Bool) (items : List (Bytes × TV)) :
    headerOf path a (items.map cPair) = (headerOf path a items).map cStmt := by
  unfold headerOf
  rw [ownValues_canon]
  simp only [List.isEmpty_map]
  split
  · rfl
  · split
    · rfl
    · split <;> rfl

theorem tableStmts_canon (path : List Bytes) (a : Bool) (items : List (Bytes × TV)) (subs : List TomlValue.Stmt) :
    tableStmts path a (items.map cPair) (subs.map cStmt) = (tableStmts path a items subs).map cStmt := by
  unfold tableStmts
  rw [headerOf_canon, ownKvs_canon, List.map_append, List.map_append]

mutual
theorem emitSubs_canon : ∀ (items : List (Bytes × TV)) (path : List Bytes),
    emitSubs path (items.map cPair) = (emitSubs path items).map cStmt
  | [], _ => rfl
  | (k, t) :: r, path => by
    have e : ((k, t) :: r).map cPair = (k, canonT t) :: r.map cPair := rfl
    rw [e, emitSubs, emitSubs, List.map_append, emitItem_canon t (path ++ [k]), emitSubs_canon r path]
theorem emitItem_canon : ∀ (t : TV) (path : List Bytes), emitItem path (canonT t) = (emitItem path t).map cStmt
  | .tbl items, path => by
    rw [canonT_tbl, emitItem, emitItem, emitSubs_canon items path, tableStmts_canon]
  | .arr l, path => by
    rw [canonT_arr, emitItem, emitItem, isAot_canon]
    split
    · exact emitAot_canon l path
    · rfl
  | .str _, _ | .int _, _ | .float _, _ | .bool _, _ | .dt _, _ => rfl
theorem emitAot_canon : ∀ (l : List TV) (path : List Bytes), emitAot path (l.map canonT) = (emitAot path l).map cStmt
  | [], _ => rfl
  | .tbl items :: r, path => by
    rw [List.map_cons, canonT_tbl, emitAot, emitAot, List.map_append, emitSubs_canon items path, tableStmts_canon,
      emitAot_canon r path]
  | .arr l :: r, path => by
    rw [List.map_cons, canonT_arr]; simp only [emitAot]; exact emitAot_canon r path
  | .str _ :: r, path => by
    rw [List.map_cons]; simp only [emitAot]; exact emitAot_canon r path
  | .int _ :: r, path => by
    rw [List.map_cons]; simp only [emitAot]; exact emitAot_canon r path
  | .float b :: r, path => by
    have : canonT (.float b) = .float (canonFloat b) := rfl
    rw [List.map_cons, this]; simp only [emitAot]; exact emitAot_canon r path
  | .bool _ :: r, path => by
    rw [List.map_cons]; simp only [emitAot]; exact emitAot_canon r path
  | .dt _ :: r, path => by
    rw [List.map_cons]; simp only [emitAot]; exact emitAot_canon r path
end

theorem fmtText_canon (disp : FloatDisp) (p : Bool) (kvs : List (Bytes × V)) :
    fmtText disp p (canonKVs kvs) = fmtText disp p kvs := by
  unfold fmtText
  rw [tvKVs_canon, ownValues_canon, List.isEmpty_map]
  unfold emitDoc
  rw [emitSubs_canon, tableStmts_canon, renderStmts_canon (flOf disp) (flOf_canon disp)]

theorem parse_fmtText (disp : FloatDisp) (pretty : Bool) (kvs : List (Bytes × V))
    (hn : NodupSKVs kvs ∧ (kvs.map Prod.fst).Nodup) (hl : LeavesOkSKVs disp kvs) (hd : depthSKVs kvs < Value.LIMIT) :
    (Doc.parseDocument (fmtText disp pretty kvs)).map dataTbl = some (docOrder (canonKVs kvs)) := by
  rw [← fmtText_canon]
  exact parse_fmtText_canon disp pretty kvs hn hl hd

/-! ## a route that returns a text

What the text theorems and the round trips need of a serializer route: the table it starts from, its printer, the order
in which the printed document presents the entries, and that the parser reads the text back as that table. -/

structure TextRoute where
  doc : SVal → Except SerErr (List (Bytes × V))
  print : FloatDisp → List (Bytes × V) → Bytes
  order : List (Bytes × V) → List (Bytes × V)
  nodup : ∀ v kvs, doc v = .ok kvs → NodupSKVs kvs ∧ (kvs.map Prod.fst).Nodup
  parse : ∀ disp kvs, NodupSKVs kvs ∧ (kvs.map Prod.fst).Nodup → LeavesOkSKVs disp kvs → depthSKVs kvs < Value.LIMIT →
    (Doc.parseDocument (print disp kvs)).map dataTbl = some (order (canonKVs kvs))

def TextRoute.text (R : TextRoute) (disp : FloatDisp) (v : SVal) : Except SerErr Bytes := (R.doc v).map (R.print disp)

theorem TextRoute.parses (R : TextRoute) (disp : FloatDisp) (v : SVal) (t : Bytes) (h : R.text disp v = .ok t) :
    ∃ kvs, R.doc v = .ok kvs ∧
      (LeavesOkSKVs disp kvs → depthSKVs kvs < Value.LIMIT →
        (Doc.parseDocument t).map dataTbl = some (R.order (canonKVs kvs))) := by
  unfold TextRoute.text at h
  cases hd : R.doc v with
  | error e => rw [hd] at h; cases h
  | ok kvs => rw [hd] at h; cases h; exact ⟨kvs, rfl, R.parse disp kvs (R.nodup v kvs hd)⟩

/-- `toml_edit::ser::to_string`: the order of the image is kept -/
def editRoute : TextRoute where
  doc := serDocument
  print disp kvs := Encode06.printDoc (editDoc disp kvs)
  order := id
  nodup := serDocument_nodup
  parse := parse_editDoc

/-- the formatted routes: `DocumentFormatter` on the table `doc` returns, plain or pretty layout; document order -/
def fmtRoute (pretty : Bool) (doc : SVal → Except SerErr (List (Bytes × V)))
    (hnd : ∀ v kvs, doc v = .ok kvs → NodupSKVs kvs ∧ (kvs.map Prod.fst).Nodup) : TextRoute where
  doc := doc
  print disp := fmtText disp pretty
  order := docOrder
  nodup := hnd
  parse disp := parse_fmtText disp pretty

end TomlVerif.Lemmas.Ser07Text
