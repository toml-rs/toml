import TomlVerif.Lemmas.Comments03PrintVal
import TomlVerif.Lemmas.NotDotted08
import TomlVerif.Lemmas.CstInduct
/-! C03, "every comment is kept" — the printer side for tables: every decor piece of a table tree
    (`tblPieces`) is written by the document printer, provided (`TDc`) an invisible table has no
    decor to lose (implicit and dotted tables carry the default decor), values stored directly in
    tables are not dotted inline tables, elements of arrays of tables are not dotted, and the
    dotted inline tables inside values are bare (`VD`). -/
namespace TomlVerif.Lemmas.Tiling03More
open TomlVerif TomlVerif.Spec TomlVerif.Model TomlVerif.Model.Strings TomlVerif.Model.Value
open TomlVerif.Model.Cst TomlVerif.Model.Encode TomlVerif.Lemmas.Cst03
open TomlVerif.Lemmas.Tiling03 TomlVerif.Lemmas.Tiling03Hdr TomlVerif.Lemmas.Tiling03Nest
open TomlVerif.Lemmas.Refine08c

mutual
def TDc : CTbl → Prop
  | .mk items imp dot _ dec _ => ((imp = true ∨ dot = true) → dec = {}) ∧ IDc items
def IDc : List (CKey × CItem) → Prop
  | [] => True
  | (_, it) :: r => (match it with
      | .value v => notDottedInl v = true ∧ VD v
      | .table t => TDc t
      | .aot ts _ => TsDc ts) ∧ IDc r
def TsDc : List CTbl → Prop
  | [] => True
  | t :: r => (t.dotted = false ∧ TDc t) ∧ TsDc r
end

def Good (f : Bytes → Bytes) (inp : Bytes) (p : Bytes) (e : Entry) : Prop :=
  ∀ ft, f p <:+: (visitTable f inp e ft).1

theorem good_body (f : Bytes → Bytes) (inp : Bytes) (p : Bytes) (e : Entry)
    (h : f p <:+: encodeBody f inp (valuesTbl e.tbl.items [])) : Good f inp p e :=
  fun ft => List.IsInfix.trans h (visitTable_body f inp e ft)

/-- the header of a table that is not the root writes the table's decor, unless the table is
    invisible — and then it has none -/
theorem good_decor (f : Bytes → Bytes) (inp : Bytes) (p : Bytes) (q : Nat) (T : CTbl) (path : List CKey) (isArr : Bool)
    (hpath : path ≠ []) (himp : T.implicit = true → T.decor = {})
    (hp : p ∈ decorPieces inp T.decor) : Good f inp p ⟨q, T, path, isArr⟩ := by
  intro ft
  have hpe : path.isEmpty = false := by cases path with
    | nil => exact absurd rfl hpath
    | cons _ _ => rfl
  simp only [visitTable, hpe, Bool.false_eq_true, if_false]
  refine List.infix_append_of_infix_left ?_
  cases isArr with
  | true =>
    simp only [if_true]
    rcases decorPieces_cases f inp T.decor p hp with h | h
    · rw [← h (if ft = true then [] else [0x0A])]
      exact List.infix_append_of_infix_left (List.infix_append_of_infix_left (List.infix_append_of_infix_left (List.infix_append_of_infix_left (List.infix_append_of_infix_left (List.infix_refl _)))))
    · rw [← h []]
      exact List.infix_append_of_infix_left (List.infix_append_of_infix_right (List.infix_refl _))
  | false =>
    simp only [Bool.false_eq_true, if_false]
    cases hv : (!(T.implicit && (valuesTbl T.items []).isEmpty)) with
    | false =>
      have hi : T.implicit = true := by
        cases hh : T.implicit with
        | true => rfl
        | false => rw [hh] at hv; simp at hv
      rw [himp hi] at hp
      cases hp
    | true =>
      simp only [if_true]
      rcases decorPieces_cases f inp T.decor p hp with h | h
      · rw [← h (if ft = true then [] else [0x0A])]
        exact List.infix_append_of_infix_left (List.infix_append_of_infix_left (List.infix_append_of_infix_left (List.infix_append_of_infix_left (List.infix_append_of_infix_left (List.infix_refl _)))))
      · rw [← h []]
        exact List.infix_append_of_infix_left (List.infix_append_of_infix_right (List.infix_refl _))

/-- where a piece below a list of items goes: into the body of the enclosing section (entries
    reached through dotted tables), or into the section of a table collected below -/
def ItemsStmt (f : Bytes → Bytes) (inp : Bytes) (p : Bytes) (items : List (CKey × CItem)) : Prop :=
  (∀ parent, f p <:+: encodeBody f inp (valuesTbl items parent)) ∨
  (∀ path st, ∃ e, e ∈ (visitItems items path st).2 ∧ Good f inp p e)

def TblStmt (f : Bytes → Bytes) (inp : Bytes) (p : Bytes) (t : CTbl) : Prop :=
  (t.dotted = true ∧ ∀ path, f p <:+: encodeBody f inp (valuesDotted t path)) ∨
  (∀ path, path ≠ [] → ∀ isArr st, ∃ e, e ∈ (visitTbl t path isArr st).2 ∧ Good f inp p e)

def AotStmt (f : Bytes → Bytes) (inp : Bytes) (p : Bytes) (ts : List CTbl) : Prop :=
  ∀ path, path ≠ [] → ∀ st, ∃ e, e ∈ (visitAot ts path st).2 ∧ Good f inp p e

theorem mem_visitTbl_of_mem {e : Entry} {st : Nat × List Entry} (t : CTbl) (path : List CKey) (a : Bool)
    (h : e ∈ st.2) : e ∈ (visitTbl t path a st).2 := by
  obtain ⟨l, hl⟩ := visit_mono.2.1 t path a st
  rw [hl]; exact List.mem_append_left _ h

theorem valuesTbl_single_table (k : CKey) (t : CTbl) (parent : List CKey) :
    valuesTbl [(k, .table t)] parent = valuesDotted t (parent ++ [k]) := by
  simp [valuesTbl]

theorem tree_pieces (f : Bytes → Bytes) (hf0 : f [] = []) (inp : Bytes) :
    (∀ (items : List (CKey × CItem)), IDc items → ∀ p, p ∈ itemsPieces inp items → ItemsStmt f inp p items) ∧
    (∀ (t : CTbl), TDc t → ∀ p, p ∈ tblPieces inp t → TblStmt f inp p t) ∧
    (∀ (ts : List CTbl), TsDc ts → ∀ p, p ∈ tblsPieces inp ts → AotStmt f inp p ts) := by
  have rest : ∀ (k : CKey) (it : CItem) (r : List (CKey × CItem)) (p : Bytes), ItemsStmt f inp p r →
      ItemsStmt f inp p ((k, it) :: r) := by
    intro k it r p h
    rcases h with h | h
    · left
      intro parent
      rw [← List.singleton_append, valuesTbl_append, encodeBody_append]
      exact List.infix_append_of_infix_right (h parent)
    · right
      intro path st
      cases it with
      | value v => rw [visitItems]; exact h path st
      | table t => rw [visitItems]; exact h path _
      | aot ts sp => rw [visitItems]; exact h path _
  refine items_induct ?_ ?_ ?_ ?_ ?_ ?_ ?_
  · intro _ p hp
    rw [itemsPieces] at hp; cases hp
  · intro k v r hr hit p hp
    rw [itemsPieces] at hp
    rw [IDc] at hit
    obtain ⟨⟨hnd, hvd⟩, hrd⟩ := hit
    rcases List.mem_append.1 hp with hp | hp
    · left
      intro parent
      have hm : (parent ++ [k], v) ∈ valuesTbl ((k, .value v) :: r) parent :=
        valuesTbl_mem _ parent k v (by simp) hnd
      have h1 := encodeBody_mem f inp _ _ _ hm
      have h2 := entry_printed f inp k v parent [] [] [0x20] [0x20] []
        (valPieces_printed f hf0 inp v hvd _ _) p hp
      rw [List.nil_append] at h2
      exact List.IsInfix.trans (List.infix_append_of_infix_left h2) h1
    · exact rest k _ r p (hr hrd p hp)
  · intro k t r ht hr hit p hp
    rw [itemsPieces] at hp
    rw [IDc] at hit
    rcases List.mem_append.1 hp with hp | hp
    · rcases ht hit.1 p hp with h | h
      · left
        intro parent
        rw [← List.singleton_append, valuesTbl_append, encodeBody_append, valuesTbl_single_table]
        exact List.infix_append_of_infix_left (h.2 (parent ++ [k]))
      · right
        intro path st
        rw [visitItems]
        obtain ⟨e, he, hg⟩ := h (path ++ [k]) (List.concat_ne_nil _ _) false st
        exact ⟨e, mem_visitItems_of_mem r path he, hg⟩
    · exact rest k _ r p (hr hit.2 p hp)
  · intro k ts asp r hts hr hit p hp
    rw [itemsPieces] at hp
    rw [IDc] at hit
    rcases List.mem_append.1 hp with hp | hp
    · right
      intro path st
      rw [visitItems]
      obtain ⟨e, he, hg⟩ := hts hit.1 p hp (path ++ [k]) (List.concat_ne_nil _ _) st
      exact ⟨e, mem_visitItems_of_mem r path he, hg⟩
    · exact rest k _ r p (hr hit.2 p hp)
  · intro items imp dot q dec sp hitems ht p hp
    rw [tblPieces] at hp
    rw [TDc] at ht
    obtain ⟨hdec, hit⟩ := ht
    cases dot with
    | true =>
      rw [hdec (Or.inr rfl)] at hp
      simp only [decorPieces_default, List.nil_append] at hp
      rcases hitems hit p hp with h | h
      · left
        refine ⟨rfl, fun path => ?_⟩
        rw [valuesDotted]; simp only [if_true]
        exact h path
      · right
        intro path _ isArr st
        rw [visitTbl]; simp only [if_true]
        exact h path st
    | false =>
      right
      intro path hpath isArr st
      rw [visitTbl]; simp only [Bool.false_eq_true, if_false]
      rcases List.mem_append.1 hp with hp | hp
      · refine ⟨⟨q.getD st.1, .mk items imp false q dec sp, path, isArr⟩,
          mem_visitItems_of_mem items path (by simp), ?_⟩
        refine good_decor f inp p _ _ path isArr hpath ?_ hp
        intro hi
        exact hdec (Or.inl hi)
      · rcases hitems hit p hp with h | h
        · exact ⟨⟨q.getD st.1, .mk items imp false q dec sp, path, isArr⟩,
            mem_visitItems_of_mem items path (by simp), good_body f inp p _ (h [])⟩
        · exact h path _
  · intro _ p hp
    rw [tblsPieces] at hp; cases hp
  · intro t r ht hr hts p hp
    rw [tblsPieces] at hp
    rw [TsDc] at hts
    obtain ⟨⟨hnd, htd⟩, hrd⟩ := hts
    intro path hpath st
    rw [visitAot]
    rcases List.mem_append.1 hp with hp | hp
    · rcases ht htd p hp with h | h
      · rw [hnd] at h; exact absurd h.1 (by simp)
      · obtain ⟨e, he, hg⟩ := h path hpath true st
        exact ⟨e, mem_visitAot_of_mem r path he, hg⟩
    · exact hr hrd p hp path hpath _

theorem tbl_pieces (f : Bytes → Bytes) (hf0 : f [] = []) (inp : Bytes) : ∀ (t : CTbl), TDc t →
    ∀ p, p ∈ tblPieces inp t → TblStmt f inp p t :=
  (tree_pieces f hf0 inp).2.1
theorem tbls_pieces (f : Bytes → Bytes) (hf0 : f [] = []) (inp : Bytes) : ∀ (ts : List CTbl), TsDc ts →
    ∀ p, p ∈ tblsPieces inp ts → AotStmt f inp p ts :=
  (tree_pieces f hf0 inp).2.2

theorem visitTables_good (f : Bytes → Bytes) (inp : Bytes) (p : Bytes) : ∀ (l : List Entry) (e : Entry) (ft : Bool),
    e ∈ l → Good f inp p e → f p <:+: visitTables f inp l ft
  | [], _, _, h, _ => by cases h
  | x :: r, e, ft, h, hg => by
    simp only [visitTables]
    rcases List.mem_cons.1 h with h | h
    · subst h
      exact List.infix_append_of_infix_left (hg ft)
    · exact List.infix_append_of_infix_right (visitTables_good f inp p r e _ h hg)

theorem tblPieces_printed (f : Bytes → Bytes) (hf0 : f [] = []) (inp : Bytes) (d : CDoc) (hroot : TDc d.root)
    (hnd : d.root.dotted = false) (p : Bytes) (hp : p ∈ tblPieces inp d.root) : f p <:+: printDocG f inp d := by
  obtain ⟨root, tr⟩ := d
  obtain ⟨items, imp, dot, q, dec, sp⟩ := root
  simp only [CTbl.dotted] at hnd
  subst hnd
  simp only [] at hp hroot
  rw [tblPieces] at hp
  rw [TDc] at hroot
  simp only [printDocG, CTbl.decor]
  rcases List.mem_append.1 hp with hp | hp
  · rcases decorPieces_cases f inp dec p hp with h | h
    · rw [← h []]
      exact List.infix_append_of_infix_left (List.infix_append_of_infix_left (List.infix_append_of_infix_left (List.infix_refl _)))
    · rw [← h []]
      exact List.infix_append_of_infix_left (List.infix_append_of_infix_right (List.infix_refl _))
  · refine List.infix_append_of_infix_left (List.infix_append_of_infix_left (List.infix_append_of_infix_right ?_))
    have key : ∃ e, e ∈ (visitTbl (.mk items imp false q dec sp) [] false (0, [])).2 ∧ Good f inp p e := by
      rw [visitTbl]; simp only [Bool.false_eq_true, if_false]
      rcases (tree_pieces f hf0 inp).1 items hroot.2 p hp with h | h
      · exact ⟨⟨q.getD 0, .mk items imp false q dec sp, [], false⟩,
          mem_visitItems_of_mem items [] (by simp), good_body f inp p _ (h [])⟩
      · exact h [] _
    obtain ⟨e, he, hg⟩ := key
    exact visitTables_good f inp p _ e true ((Sort.sortEntries_is.mem e _).2 he) hg

end TomlVerif.Lemmas.Tiling03More
