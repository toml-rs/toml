import TomlVerif.Lemmas.Sort
import TomlVerif.Model.Edit
import TomlVerif.Model.Encode06
/-! `Spec.OrderedPlain.sortByKey`, `Edit.sortByCKey`, `Encode.sortEntries` and `Encode06.insertByPos`, each with its
    comparison, as instances of `InsertionSort`: what `Lemmas/Sort.lean` proves holds of each
    (`sortByKey_is.perm l : (sortByKey l).Perm l`).  `Encode06.sortByPos` folds from the left, so it is not of that
    form itself: `insertByPos_is`, `sortByPos_eq` and `sortByPos_of_sorted` say what it is and that it leaves input
    alone that is in order already (C06). -/
namespace TomlVerif.Lemmas.Sort
open TomlVerif TomlVerif.Model

universe u

/-- the order of `sortByKey`: `x` goes in front of the first `y` whose key is not smaller -/
def leKey {α : Type u} (x y : Bytes × α) : Bool := !Spec.OrderedPlain.bytesLt y.1 x.1

theorem sortByKey_is {α : Type u} :
    InsertionSort leKey Spec.OrderedPlain.insertByKey (Spec.OrderedPlain.sortByKey (α := α)) where
  ins_nil _ := rfl
  ins_cons x y r := by
    rw [Spec.OrderedPlain.insertByKey, leKey]
    cases Spec.OrderedPlain.bytesLt y.1 x.1 <;> rfl
  srt_nil := rfl
  srt_cons _ _ := rfl

/-- the order of `Edit.sortByCKey` (`IndexMap::sort_keys` on the key text) -/
def leCKey {α : Type u} (x y : Cst.CKey × α) : Bool := !Spec.OrderedPlain.bytesLt y.1.key x.1.key

theorem sortByCKey_is {α : Type u} : InsertionSort leCKey Edit.insertByCKey (Edit.sortByCKey (α := α)) where
  ins_nil _ := rfl
  ins_cons x y r := by
    rw [Edit.insertByCKey, leCKey]
    cases Spec.OrderedPlain.bytesLt y.1.key x.1.key <;> rfl
  srt_nil := rfl
  srt_cons _ _ := rfl

theorem sortEntries_is :
    InsertionSort (fun a b : Encode.Entry => decide (a.pos ≤ b.pos)) Encode.insertEntry Encode.sortEntries where
  ins_nil _ := rfl
  ins_cons x y r := by rw [Encode.insertEntry]; simp only [decide_eq_true_eq]
  srt_nil := rfl
  srt_cons _ _ := rfl

/-- `Encode06.sortByPos` folds from the left and inserts behind equal elements: it is the insertion sort by `<`
    of the reversed list (`sortByPos_eq`) -/
theorem insertByPos_is : InsertionSort (fun a b : Encode06.Visit => decide (a.lastPos < b.lastPos))
    Encode06.insertByPos (List.foldr Encode06.insertByPos []) where
  ins_nil _ := rfl
  ins_cons x y r := by rw [Encode06.insertByPos]; simp only [decide_eq_true_eq]
  srt_nil := rfl
  srt_cons _ _ := rfl

theorem sortByPos_eq (l : List Encode06.Visit) : Encode06.sortByPos l = l.reverse.foldr Encode06.insertByPos [] := by
  rw [List.foldr_reverse, Encode06.sortByPos]

theorem foldl_insertByPos_of_sorted : ∀ (l acc : List Encode06.Visit),
    (acc ++ l).Pairwise (fun a b => ¬ b.lastPos < a.lastPos) →
    l.foldl (fun acc v => Encode06.insertByPos v acc) acc = acc ++ l
  | [], acc, _ => by simp
  | v :: r, acc, h => by
    have e : Encode06.insertByPos v acc = acc ++ [v] := insertByPos_is.ins_of_not_le v acc fun w hw =>
      decide_eq_false ((List.pairwise_append.1 h).2.2 w hw v List.mem_cons_self)
    rw [List.foldl_cons, e, foldl_insertByPos_of_sorted r (acc ++ [v]) (by simpa using h)]
    simp

/-- input that is in order already stays as it is -/
theorem sortByPos_of_sorted (l : List Encode06.Visit) (h : l.Pairwise fun a b => ¬ b.lastPos < a.lastPos) :
    Encode06.sortByPos l = l := by
  rw [Encode06.sortByPos, foldl_insertByPos_of_sorted l [] (by simpa using h)]
  simp

end TomlVerif.Lemmas.Sort
