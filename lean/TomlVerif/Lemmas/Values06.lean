import TomlVerif.Props.C06
import TomlVerif.Lemmas.PrintedDoc
/-! What `encode_value` writes between the decor of a value
    (`core`) is the rendering of a well-formed syntax tree with quoted keys (`qCore`; the decor of
    an element or entry is white space of the enclosing array or inline table), whose meaning is the
    value and whose nesting is the value's: so the parser reads it back by the completeness of
    `value` over that syntax (`val_okQ`), and C06 is a statement about the printer. -/
namespace TomlVerif.Lemmas.Encode06b
open TomlVerif TomlVerif.Spec TomlVerif.Model TomlVerif.Model.Encode06 TomlVerif.Model.Value
open TomlVerif.Model.Strings
open TomlVerif.Lemmas.Encode06 TomlVerif.Props.C06 TomlVerif.Spec.Encode06
open TomlVerif.Spec.AstValue TomlVerif.Spec.AstValueQ TomlVerif.Spec.AstDoc TomlVerif.Lemmas.Value01 TomlVerif.Lemmas.Doc01
open TomlVerif.Lemmas.Sound01C


def core : DVal → Bytes
  | .arr items _ => [0x5B] ++ encodeElems items true ++ [0x5D]
  | .inl items _ => [0x7B] ++ encodePairs items true ++ [0x7D]
  | v => leafRepr v

theorem encodeValue_eq (v : DVal) (dflt : Bytes × Bytes) :
    encodeValue v dflt = (decorOf v).pre.getD dflt.1 ++ (core v ++ (decorOf v).suf.getD dflt.2) := by
  cases v <;> simp [encodeValue, withDecor, core, leafRepr, decorOf]

/-- the decor the constructors leave on an array element: unset, or `("", "")` / `(" ", "")` -/
def DecOk (dec : Decor) : Prop :=
  (dec.pre = none ∨ dec.pre = some [] ∨ dec.pre = some [0x20]) ∧ (dec.suf = none ∨ dec.suf = some [])

mutual
def GoodV : DVal → Prop
  | .arr items _ => GoodVs items
  | .inl items _ => GoodPs items ∧ (keysP items).Nodup
  | _ => True
def GoodVs : List DVal → Prop
  | [] => True
  | v :: r => DecOk (decorOf v) ∧ GoodV v ∧ GoodVs r
def GoodPs : List (Bytes × DVal) → Prop
  | [] => True
  | (_, v) :: r => decorOf v = {} ∧ GoodV v ∧ GoodPs r
def keysP : List (Bytes × DVal) → List Bytes
  | [] => []
  | (k, _) :: r => k :: keysP r
end

theorem keysP_eq (l : List (Bytes × DVal)) : keysP l = l.map Prod.fst := by
  induction l with
  | nil => rfl
  | cons x l ih => obtain ⟨k, v⟩ := x; simp [keysP, ih]


def elemDflt (first : Bool) : Bytes × Bytes := if first then DEFAULT_LEADING_VALUE_DECOR else DEFAULT_VALUE_DECOR

/-- the elements of an array as `array_values` sees them: without the comma before the first -/
def elemsText : List DVal → Bool → Bytes
  | [], _ => []
  | v :: r, first => encodeValue v (elemDflt first) ++ encodeElems r false

theorem encodeElems_true (l : List DVal) : encodeElems l true = elemsText l true := by
  cases l <;> simp [encodeElems, elemsText, elemDflt]

def ElemsGoal (l : List DVal) : Prop :=
  l ≠ [] → ∀ first d rest acc, d + depthVs l < LIMIT →
    ∃ F, ∀ g, F ≤ g →
      arrayElems g d (elemsText l first ++ 0x5D :: rest) acc = .ok (acc ++ canonValsD l) (0x5D :: rest)

def pairDflt (last : Bool) : Bytes × Bytes := if last then DEFAULT_TRAILING_VALUE_DECOR else DEFAULT_VALUE_DECOR

def pairsText : List (Bytes × DVal) → Bytes
  | [] => []
  | (k, v) :: r => encodeKeyPath [k] DEFAULT_INLINE_KEY_DECOR ++ [0x3D] ++ encodeValue v (pairDflt r.isEmpty) ++ encodePairs r false

theorem encodePairs_true (l : List (Bytes × DVal)) : encodePairs l true = pairsText l := by
  cases l with
  | nil => simp [encodePairs, pairsText]
  | cons x r => obtain ⟨k, v⟩ := x; simp [encodePairs, pairsText, pairDflt]

def plainPairs : List (Bytes × DVal) → List (List Bytes × Bytes × Val)
  | [] => []
  | (k, v) :: r => ([], k, canonValD v) :: plainPairs r

def PairsGoal (l : List (Bytes × DVal)) : Prop :=
  l ≠ [] → ∀ d rest acc, d + depthPairs l < LIMIT →
    ∃ F, ∀ g, F ≤ g →
      inlineKeyvals g d (pairsText l ++ 0x7D :: rest) acc = .ok (acc ++ plainPairs l) (0x7D :: rest)

theorem DecOk.allWs {dec : Decor} (h : DecOk dec) {x y : Bytes} (hx : AllWs x) (hy : AllWs y) :
    AllWs (dec.pre.getD x) ∧ AllWs (dec.suf.getD y) := by
  obtain ⟨h1, h2⟩ := h
  constructor
  · rcases h1 with h1 | h1 | h1 <;> rw [h1]
    · exact hx
    · exact AllWs.nil
    · exact AllWs.sp
  · rcases h2 with h2 | h2 <;> rw [h2]
    · exact hy
    · exact AllWs.nil

theorem elemDflt_allWs (first : Bool) : AllWs (elemDflt first).1 ∧ AllWs (elemDflt first).2 := by
  cases first
  · exact ⟨AllWs.sp, AllWs.nil⟩
  · exact ⟨AllWs.nil, AllWs.nil⟩


theorem keyseg_repr (pre k post : Bytes) (hpre : AllWs pre) (hpost : AllWs post) :
    KeySegOK ⟨pre, reprKey k, k, post⟩ :=
  (TomlVerif.Spec.AstDocQ.keySegOK_iff _).2 ⟨hpre, hpost, PrintedDoc.keyText_written k⟩


theorem tableFromPairs_plainPairs : ∀ (l : List (Bytes × DVal)) (acc : List (Bytes × Val)),
    (keysP l).Nodup → (∀ k ∈ keysP l, k ∉ acc.map Prod.fst) →
    tableFromPairs (plainPairs l) acc = some (acc ++ canonPairsD l) := by
  intro l
  induction l with
  | nil => intro acc _ _; simp [plainPairs, tableFromPairs, canonPairsD]
  | cons x l ih =>
    obtain ⟨k, v⟩ := x
    intro acc hn ha
    simp only [keysP, List.nodup_cons] at hn
    have hk : k ∉ acc.map Prod.fst := ha k (by simp [keysP])
    simp only [plainPairs, tableFromPairs, List.isEmpty_nil, inlInsert, (Lemmas.State09.alookup_none_iff _ _).2 hk, canonPairsD]
    simp only [Bool.false_eq_true, if_false, beq_iff_eq]
    rw [ih (acc ++ [(k, canonValD v)]) hn.2]
    · simp
    · intro k' hk' hmem
      simp at hmem
      rcases hmem with hmem | hmem
      · exact ha k' (by simp [keysP, hk']) (by simpa using hmem)
      · rw [hmem] at hk'; exact hn.1 hk'


def preOf (v : DVal) (dflt : Bytes × Bytes) : Bytes := (decorOf v).pre.getD dflt.1
def sufOf (v : DVal) (dflt : Bytes × Bytes) : Bytes := (decorOf v).suf.getD dflt.2
/-- ` key ` as written in an inline table -/
def qKey (k : Bytes) : QDKey := ⟨⟨[0x20], reprKey k, k, [0x20]⟩, []⟩

mutual
def qCore : DVal → QVal
  | .arr items _ => .arr (qElems true items) false []
  | .inl items _ => .inl (qPairs items) []
  | v => .scalar ⟨leafRepr v, canonLeaf v⟩
def qElems (first : Bool) : List DVal → List (Wcn × QVal × Wcn)
  | [] => []
  | v :: r => ([.ws (preOf v (elemDflt first))], qCore v, [.ws (sufOf v (elemDflt first))]) :: qElems false r
def qPairs : List (Bytes × DVal) → List (QDKey × Bytes × QVal × Bytes)
  | [] => []
  | (k, v) :: r => (qKey k, preOf v (pairDflt r.isEmpty), qCore v, sufOf v (pairDflt r.isEmpty)) :: qPairs r
end

theorem qKey_render (k : Bytes) : encodeKeyPath [k] DEFAULT_INLINE_KEY_DECOR = (qKey k).render := by
  simp [encodeKeyPath, encodeKeyPathAux, qKey, QDKey.render, QKey.render, renderQKeySep, DEFAULT_INLINE_KEY_DECOR]

theorem qKey_wf (k : Bytes) : (qKey k).WF :=
  ⟨⟨AllWs.sp, AllWs.sp, PrintedDoc.keyText_written k⟩,
    (fun x hx => by cases hx), by simp [qKey, LIMIT]⟩

mutual
theorem render_qCore : ∀ v : DVal, renderQ (qCore v) = core v
  | .str .. | .int .. | .float .. | .bool .. | .dt .. => by simp [qCore, renderQ, core]
  | .arr items _ => by simp [qCore, renderQ, core, (render_qElems items).1 true, encodeElems_true, renderWcn]
  | .inl items _ => by simp [qCore, renderQ, core, (render_qPairs items).1, encodePairs_true]
theorem render_qElems : ∀ l : List DVal,
    (∀ first, renderItemsQ (qElems first l) = elemsText l first) ∧ renderItemsSepQ (qElems false l) = encodeElems l false
  | [] => by simp [qElems, renderItemsQ, renderItemsSepQ, encodeElems, elemsText]
  | v :: r => by
    have h1 := render_qCore v
    have h2 := (render_qElems r).2
    constructor
    · intro first
      simp [qElems, renderItemsQ, elemsText, renderWcn, Piece.render, h1, h2, encodeValue_eq, preOf, sufOf]
    · simp [qElems, renderItemsSepQ, encodeElems, renderWcn, Piece.render, h1, h2, encodeValue_eq, preOf, sufOf, elemDflt]
theorem render_qPairs : ∀ l : List (Bytes × DVal),
    renderPairsQ (qPairs l) = pairsText l ∧ renderPairsSepQ (qPairs l) = encodePairs l false
  | [] => by simp [qPairs, renderPairsQ, renderPairsSepQ, encodePairs, pairsText]
  | (k, v) :: r => by
    have h1 := render_qCore v
    have h2 := (render_qPairs r).2
    constructor
    · simp [qPairs, renderPairsQ, pairsText, h1, h2, qKey_render, encodeValue_eq, preOf, sufOf]
    · simp [qPairs, renderPairsSepQ, encodePairs, h1, h2, qKey_render, encodeValue_eq, preOf, sufOf, pairDflt]
end

mutual
theorem sem_qCore : ∀ v : DVal, GoodV v → semQ (qCore v) = canonValD v
  | .str .. | .int .. | .float .. | .bool .. | .dt .. => fun _ => by simp [qCore, semQ, canonLeaf, canonValD, valOf]
  | .arr items _ => fun h => by rw [GoodV] at h; simp [qCore, semQ, canonValD, sem_qElems items true h]
  | .inl items _ => fun h => by
    rw [GoodV] at h
    simp [qCore, semQ, canonValD, flat_qPairs items h.1, tableFromPairs_plainPairs items [] h.2 (by simp)]
theorem sem_qElems : ∀ (l : List DVal) (first : Bool), GoodVs l → semItemsQ (qElems first l) = canonValsD l
  | [], _ => fun _ => rfl
  | v :: r, _ => fun h => by
    rw [GoodVs] at h; simp [qElems, semItemsQ, canonValsD, sem_qCore v h.2.1, sem_qElems r false h.2.2]
theorem flat_qPairs : ∀ l : List (Bytes × DVal), GoodPs l → flatPairsQ (qPairs l) = plainPairs l
  | [] => fun _ => rfl
  | (k, v) :: r => fun h => by
    rw [GoodPs] at h
    simp [qPairs, flatPairsQ, plainPairs, sem_qCore v h.2.1, flat_qPairs r h.2.2, qKey, QDKey.path, QDKey.last, splitKeys]
end

mutual
theorem depth_qCore : ∀ v : DVal, depthQ (qCore v) = depthV v
  | .str .. | .int .. | .float .. | .bool .. | .dt .. => by simp [qCore, depthQ, depthV]
  | .arr items _ => by simp [qCore, depthQ, depthV, depth_qElems items true]
  | .inl items _ => by simp [qCore, depthQ, depthV, depth_qPairs items]
theorem depth_qElems : ∀ (l : List DVal) (first : Bool), depthItemsQ (qElems first l) = depthVs l
  | [], _ => rfl
  | v :: r, _ => by simp [qElems, depthItemsQ, depthVs, depth_qCore v, depth_qElems r false]
theorem depth_qPairs : ∀ l : List (Bytes × DVal), depthPairsQ (qPairs l) = Props.C06.depthPairs l
  | [] => rfl
  | (k, v) :: r => by simp [qPairs, depthPairsQ, Props.C06.depthPairs, depth_qCore v, depth_qPairs r, qKey]
end

theorem wcn_ws (bs : Bytes) (h : AllWs bs) : WcnWF [.ws bs] := by
  intro p hp; simp at hp; subst hp; exact h

mutual
theorem wf_qCore : ∀ v : DVal, GoodV v → LeavesOkV v → WFQ (qCore v)
  | .str s d, _, hl => by simp only [LeavesOkV] at hl; exact scalarOK_leaf _ hl
  | .int n d, _, hl => by simp only [LeavesOkV] at hl; exact scalarOK_leaf _ hl
  | .float b t d, _, hl => by simp only [LeavesOkV] at hl; exact scalarOK_leaf _ hl
  | .bool b d, _, hl => by simp only [LeavesOkV] at hl; exact scalarOK_leaf _ hl
  | .dt t d, _, hl => by simp only [LeavesOkV] at hl; exact scalarOK_leaf _ hl
  | .arr items _, hg, hl => by
    rw [GoodV] at hg; rw [LeavesOkV] at hl
    rw [qCore, WFQ]
    exact ⟨wf_qElems items true hg hl, (fun p hp => by cases hp), fun _ => rfl⟩
  | .inl items _, hg, hl => by
    rw [GoodV] at hg; rw [LeavesOkV] at hl
    rw [qCore, WFQ]
    refine ⟨wf_qPairs items hg.1 hl, AllWs.nil, ?_⟩
    rw [flat_qPairs items hg.1, tableFromPairs_plainPairs items [] hg.2 (by simp)]; rfl
theorem wf_qElems : ∀ (l : List DVal) (first : Bool), GoodVs l → LeavesOkVs l → WFItemsQ (qElems first l)
  | [], _, _, _ => by rw [qElems, WFItemsQ]; trivial
  | v :: r, first, hg, hl => by
    rw [GoodVs] at hg; rw [LeavesOkVs] at hl
    obtain ⟨w1, w2⟩ := hg.1.allWs (elemDflt_allWs first).1 (elemDflt_allWs first).2
    rw [qElems, WFItemsQ]
    exact ⟨wcn_ws _ w1, wf_qCore v hg.2.1 hl.1, wcn_ws _ w2, wf_qElems r false hg.2.2 hl.2⟩
theorem wf_qPairs : ∀ l : List (Bytes × DVal), GoodPs l → LeavesOkPairs l → WFPairsQ (qPairs l)
  | [], _, _ => by rw [qPairs, WFPairsQ]; trivial
  | (k, v) :: r, hg, hl => by
    rw [GoodPs] at hg; rw [LeavesOkPairs] at hl
    rw [qPairs, WFPairsQ]
    refine ⟨qKey_wf k, ?_, wf_qCore v hg.2.1 hl.1, ?_, wf_qPairs r hg.2.2 hl.2⟩
    · unfold preOf; rw [hg.1]; cases r <;> simp [pairDflt, DEFAULT_TRAILING_VALUE_DECOR, DEFAULT_VALUE_DECOR] <;> exact AllWs.sp
    · unfold sufOf; rw [hg.1]; cases r <;> simp [pairDflt, DEFAULT_TRAILING_VALUE_DECOR, DEFAULT_VALUE_DECOR] <;>
        first | exact AllWs.sp | exact AllWs.nil
end

theorem val_ok (v : DVal) (hg : GoodV v) (hl : LeavesOkV v) (d fuel : Nat) (rest : Bytes)
    (hd : d + depthV v < LIMIT) (hr : ValFollowS rest) (hf : 2 * (core v).length ≤ fuel) :
    value fuel d (core v ++ rest) = .ok (canonValD v) rest := by
  have := val_okQ (qCore v) (wf_qCore v hg hl) d fuel rest (by rw [depth_qCore]; exact hd) hr
    (by rw [render_qCore]; exact hf)
  rwa [render_qCore, sem_qCore v hg] at this

theorem elems_ok : ∀ l : List DVal, GoodVs l → LeavesOkVs l → ElemsGoal l := by
  intro l hg hl hne first d rest acc hd
  refine ⟨2 * (renderItemsQ (qElems first l)).length + 2, fun g hf => ?_⟩
  have := items_okQ (qElems first l) (wf_qElems l first hg hl) (by cases l <;> simp [qElems] at hne ⊢)
    d g false [] rest acc (fun p hp => by cases hp) (by rw [depth_qElems]; exact hd) hf
  simpa [closeTailQ, renderWcn, (render_qElems l).1 first, sem_qElems l first hg] using this

theorem pairs_ok : ∀ l : List (Bytes × DVal), GoodPs l → LeavesOkPairs l → PairsGoal l := by
  intro l hg hl hne d rest acc hd
  refine ⟨2 * (renderPairsQ (qPairs l)).length + 2, fun g hf => ?_⟩
  have := pairs_okQ (qPairs l) (wf_qPairs l hg hl) (by rcases l with _ | ⟨⟨k, v⟩, r⟩ <;> simp [qPairs] at hne ⊢)
    d g [] rest acc AllWs.nil (by rw [depth_qPairs]; exact hd) hf
  simpa [(render_qPairs l).1, flat_qPairs l hg] using this


theorem decOk_unset : DecOk {} := ⟨Or.inl rfl, Or.inl rfl⟩

theorem decorOf_decorate (p q : Bytes) (v : DVal) : decorOf (decorate p q v) = ⟨some p, some q⟩ := by
  cases v <;> rfl

theorem goodV_decorate (p q : Bytes) (v : DVal) (h : GoodV v) : GoodV (decorate p q v) := by
  cases v <;> first | (simp [decorate, GoodV]; done) | simpa [decorate, GoodV] using h

theorem goodVs_iff (l : List DVal) : GoodVs l ↔ ∀ v ∈ l, DecOk (decorOf v) ∧ GoodV v := by
  induction l with
  | nil => simp [GoodVs]
  | cons v r ih => simp [GoodVs, ih, and_assoc]

theorem goodPs_iff (l : List (Bytes × DVal)) : GoodPs l ↔ ∀ kv ∈ l, decorOf kv.2 = {} ∧ GoodV kv.2 := by
  induction l with
  | nil => simp [GoodPs]
  | cons x r ih => obtain ⟨k, v⟩ := x; simp [GoodPs, ih, and_assoc]

theorem goodVs_push : ∀ (l acc : List DVal), (∀ v ∈ l, GoodV v) → GoodVs acc → GoodVs (l.foldl arrayPush acc) := by
  intro l
  induction l with
  | nil => intro acc _ h; exact h
  | cons v r ih =>
    intro acc hl hacc
    simp only [List.foldl_cons]
    apply ih _ (fun w hw => hl w (by simp [hw]))
    rw [goodVs_iff] at hacc ⊢
    intro w hw
    simp only [arrayPush, List.mem_append, List.mem_singleton] at hw
    rcases hw with hw | hw
    · exact hacc w hw
    · subst hw
      have hv := hl v (by simp)
      split
      · exact ⟨by rw [decorOf_decorate]; exact ⟨Or.inr (Or.inr rfl), Or.inr rfl⟩, goodV_decorate _ _ _ hv⟩
      · exact ⟨by rw [decorOf_decorate]; exact ⟨Or.inr (Or.inl rfl), Or.inr rfl⟩, goodV_decorate _ _ _ hv⟩

mutual
theorem good_build : ∀ b : BVal, GoodV (buildVal b)
  | .str s => by simp [buildVal, GoodV]
  | .int n => by simp [buildVal, GoodV]
  | .float b d => by simp [buildVal, GoodV]
  | .bool b => by simp [buildVal, GoodV]
  | .dt d => by simp [buildVal, GoodV]
  | .arr viaIter items => by
    have h := good_builds items
    rw [buildVal]
    split
    · rw [GoodV, goodVs_iff]
      intro v hv
      exact ⟨by rw [(h v hv).2]; exact decOk_unset, (h v hv).1⟩
    · rw [GoodV]
      exact goodVs_push _ [] (fun v hv => (h v hv).1) (by simp [GoodVs])
  | .inl _ items => by
    have h := good_buildKVs items
    rw [buildVal, GoodV, keysP_eq, goodPs_iff]
    exact State09.fold_aset (fun v => decorOf v = {} ∧ GoodV v) _ [] (fun kv hkv => ⟨(h kv hkv).2, (h kv hkv).1⟩)
      (by simp) (by simp)
theorem good_builds : ∀ l : List BVal, ∀ v ∈ buildVals l, GoodV v ∧ decorOf v = {}
  | [] => by simp [buildVals]
  | b :: r => by
    intro v hv
    simp only [buildVals, List.mem_cons] at hv
    rcases hv with hv | hv
    · subst hv; exact ⟨good_build b, decorOf_buildVal b⟩
    · exact good_builds r v hv
theorem good_buildKVs : ∀ l : List (Bytes × BVal), ∀ kv ∈ buildKVs l, GoodV kv.2 ∧ decorOf kv.2 = {}
  | [] => by simp [buildKVs]
  | (k, b) :: r => by
    intro kv hkv
    simp only [buildKVs, List.mem_cons] at hkv
    rcases hkv with hkv | hkv
    · subst hkv; exact ⟨good_build b, decorOf_buildVal b⟩
    · exact good_buildKVs r kv hkv
end

end TomlVerif.Lemmas.Encode06b
