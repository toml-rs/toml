import TomlVerif.Lemmas.Strings02
import TomlVerif.Lemmas.MlBody
/-! C02, the two multi-line kinds.  Each body parser is the loop of `MlBody.lean` at its quote character
    and its own `unit` (one piece of content); a unit reads exactly the rendering of one well-formed
    item other than `quotes`, and the well-formed item lists are exactly the derivations of `Body`. -/
namespace TomlVerif.Lemmas.S02
open TomlVerif TomlVerif.Spec TomlVerif.Spec.AstString TomlVerif.Model.Strings TomlVerif.Lemmas TomlVerif.Lemmas.MlBody

theorem mlb_item_head (j : MlbItem) (h : j.wf = true) : ∃ x u, j.render = x :: u ∧
    (j.isQuotes = false → x ≠ 0x22) ∧ (j.isNl = false → x ≠ 0x0A ∧ x ≠ 0x0D) ∧
    (j.startsWsNl = false → isWschar x = false) := by
  cases j with
  | char c =>
    cases c with
    | raw b =>
      simp only [MlbItem.wf] at h
      obtain ⟨h1, h2, h3, _⟩ := basicUnescaped_ne b h
      exact ⟨b, [], rfl, fun _ => h1, fun _ => ⟨h2, h3⟩, fun hs => by simpa [MlbItem.startsWsNl] using hs⟩
    | escaped e =>
      exact ⟨0x5C, e.tail, rfl, fun _ => by decide, fun _ => by decide, fun _ => by decide⟩
  | nl c =>
    obtain ⟨x, u, hxu, hxw, hx⟩ := nlBytes_head c
    refine ⟨x, u, hxu, fun _ => ?_, fun hn => by simp [MlbItem.isNl] at hn, fun hn => by simp [MlbItem.startsWsNl] at hn⟩
    rcases hx with hx | hx <;> subst hx <;> decide
  | quotes n =>
    simp only [MlbItem.wf, Bool.or_eq_true, beq_iff_eq] at h
    refine ⟨0x22, List.replicate (n - 1) 0x22, ?_, fun hq => by simp [MlbItem.isQuotes] at hq,
      fun _ => by decide, fun _ => by decide⟩
    rcases h with h | h <;> subst h <;> rfl
  | lineCont ws1 c more =>
    exact ⟨0x5C, _, rfl, fun _ => by decide, fun _ => by decide, fun _ => by decide⟩

theorem mlbTrailing_cons (i : MlbItem) (tl : List MlbItem) (h : i.isQuotes = false) :
    mlbTrailing (i :: tl) = mlbTrailing tl := by
  cases tl with
  | nil => cases i <;> simp [mlbTrailing, MlbItem.isQuotes] at h ⊢
  | cons j tl => simp [mlbTrailing, List.getLast?_cons_cons]

theorem mlbTrailing_cons_cons (i j : MlbItem) (tl : List MlbItem) :
    mlbTrailing (i :: j :: tl) = mlbTrailing (j :: tl) := by
  simp [mlbTrailing, List.getLast?_cons_cons]

theorem wfMlbItems_cons (i : MlbItem) (tl : List MlbItem) (h : wfMlbItems (i :: tl) = true) :
    i.wf = true ∧ wfMlbItems tl = true := by
  simp only [wfMlbItems, Bool.and_eq_true] at h
  exact ⟨h.1.1, h.2⟩

/-- the first byte of the rest of a body and its closing delimiter, whether or not the rest is empty
    (`∀ j tl', tl = j :: tl' → …`: "the next item, if there is one") -/
theorem mlb_tail_head (tl : List MlbItem) (rest : Bytes) (h : wfMlbItems tl = true) :
    ∃ x u, tl.flatMap MlbItem.render ++ 0x22 :: 0x22 :: 0x22 :: rest = x :: u ∧
      ((∀ j tl', tl = j :: tl' → j.isNl = false) → x ≠ 0x0A ∧ x ≠ 0x0D) ∧
      ((∀ j tl', tl = j :: tl' → j.startsWsNl = false) → isWschar x = false) := by
  cases tl with
  | nil =>
    exact ⟨0x22, _, rfl, fun _ => by decide, fun _ => by decide⟩
  | cons j tl' =>
    obtain ⟨hj, _⟩ := wfMlbItems_cons j tl' h
    obtain ⟨x, u, e, _, h2, h3⟩ := mlb_item_head j hj
    refine ⟨x, u ++ (tl'.flatMap MlbItem.render ++ 0x22 :: 0x22 :: 0x22 :: rest), by simp [e], ?_, ?_⟩
    · intro hq; exact h2 (hq j tl' rfl)
    · intro hq; exact h3 (hq j tl' rfl)

theorem fix_not_startsWsNl (j : MlbItem) (t : Bytes) (h : Fix (j.render ++ t)) : j.startsWsNl = false := by
  cases j with
  | char c =>
    cases c with
    | raw b => exact (h b t rfl).1
    | escaped e => rfl
  | nl c =>
    obtain ⟨x, u, hxu, _, _⟩ := nlBytes_head c
    have hn := newline?_nlBytes c t
    simp only [MlbItem.render] at h
    rw [hxu] at h hn
    have := (h x (u ++ t) rfl).2
    simp only [List.cons_append] at hn
    rw [hn] at this; cases this
  | quotes n => rfl
  | lineCont ws1 c more => rfl

theorem wfMlbItems_cons_cons (i j : MlbItem) (tl : List MlbItem) :
    wfMlbItems (i :: j :: tl) =
      (i.wf && (match i with
        | .quotes _ => !j.isQuotes
        | .lineCont _ _ _ => !j.startsWsNl
        | _ => true) && wfMlbItems (j :: tl)) := by
  cases i <;> rfl

theorem wfMlbItems_cons_of (i : MlbItem) (tl : List MlbItem) (hi : i.wf = true) (htl : wfMlbItems tl = true)
    (hq : i.isQuotes = true → ∀ j tl', tl = j :: tl' → j.isQuotes = false)
    (hl : ∀ w c m, i = .lineCont w c m → ∀ j tl', tl = j :: tl' → j.startsWsNl = false) :
    wfMlbItems (i :: tl) = true := by
  cases tl with
  | nil => cases i <;> simp [wfMlbItems, hi]
  | cons j tl' =>
    rw [wfMlbItems_cons_cons, hi, htl]
    cases i with
    | quotes n => simp [hq rfl j tl' rfl]
    | lineCont w c m => simp [hl w c m rfl j tl' rfl]
    | char c => rfl
    | nl c => rfl

/-- one piece of `mlb-content` -/
def mlbUnit : Bytes → Option (Bytes × Bytes)
  | [] => none
  | b :: r =>
    if isMlbUnescaped b then some ([b], r)
    else if b == 0x5C then
      match mlbEscapedNl (r.length + 1) r with
      | some r' => some ([], r')
      | none =>
        match escapeSeqChar r with
        | .ok c r' => some (c, r')
        | _ => none
    else match newline? (b :: r) with
      | some r' => some ([0x0A], r')
      | none => none

theorem mlBasicBody_eq : ∀ (fuel : Nat) (s acc : Bytes),
    mlBasicBody fuel s acc = mlBody 0x22 mlbUnit fuel s acc := by
  intro fuel
  induction fuel with
  | zero => intro s acc; rfl
  | succ f ih =>
    intro s acc
    cases s with
    | nil => rfl
    | cons b r =>
      unfold mlBasicBody mlBody
      simp only [mlbUnit]
      by_cases hu : isMlbUnescaped b = true
      · rw [if_pos hu, if_neg (by simpa using (basicUnescaped_ne b hu).1), if_pos hu]; exact ih _ _
      · rw [if_neg hu, if_neg hu]
        by_cases hb : b = 0x5C
        · subst hb
          have e1 : ((0x5C : UInt8) == 0x5C) = true := rfl
          have e2 : ((0x5C : UInt8) == 0x22) = false := rfl
          simp only [e1, e2, if_true, Bool.false_eq_true, if_false]
          cases mlbEscapedNl (r.length + 1) r with
          | some r' => simp only [ih, List.append_nil]
          | none => cases escapeSeqChar r <;> simp only [ih]
        · have hb' : (b == 0x5C) = false := by simpa using hb
          by_cases hq : b = 0x22
          · subst hq; simp only [hb', beq_self_eq_true, if_true, Bool.false_eq_true, if_false, ih]
          · have hq' : (b == 0x22) = false := by simpa using hq
            simp only [hb', hq', Bool.false_eq_true, if_false]
            cases newline? (b :: r) with
            | none => rfl
            | some r' => exact ih _ _

/-- a line continuation swallows all white space and newlines after it, so what follows must not start with any -/
theorem mlbUnit_item (i : MlbItem) (t : Bytes) (hw : i.wf = true) (hq : i.isQuotes = false)
    (hs : ∀ w c m, i = .lineCont w c m → Fix t) : mlbUnit (i.render ++ t) = some (i.sem, t) := by
  cases i with
  | quotes n => cases hq
  | nl c =>
    cases c <;> simp [MlbItem.render, MlbItem.sem, nlBytes, mlbUnit, newline?,
      show isMlbUnescaped 0x0A = false by decide, show isMlbUnescaped 0x0D = false by decide]
  | char c =>
    cases c with
    | raw b => simp only [MlbItem.wf] at hw; simp [MlbItem.render, MlbItem.sem, BasicChar.render, BasicChar.sem, mlbUnit, hw]
    | escaped e =>
      simp only [MlbItem.wf] at hw
      obtain ⟨c, u, hcu, hcw, h1, h2⟩ := escaped_tail_head e hw
      have hesc := escapeSeqChar_wf e t hw
      simp only [MlbItem.render, MlbItem.sem, BasicChar.render, BasicChar.sem, Escaped.render, List.cons_append, mlbUnit]
      rw [hcu] at hesc ⊢
      simp only [List.cons_append] at hesc ⊢
      simp [isMlbUnescaped, bslash_not_unescaped, mlbEscapedNl_none_of_head _ c _ hcw h1 h2, hesc]
  | lineCont ws1 c more =>
    simp only [MlbItem.wf, Bool.and_eq_true] at hw
    obtain ⟨x, u, hxu, hxw, _⟩ := nlBytes_head c
    have hn := newline?_nlBytes c (more.flatMap WsNl.render ++ t)
    have hd : dropWs (ws1 ++ (nlBytes c ++ (more.flatMap WsNl.render ++ t))) =
        nlBytes c ++ (more.flatMap WsNl.render ++ t) := by
      rw [hxu]; exact dropWs_all ws1 x _ hw.1 hxw
    have he : mlbEscapedNl ((ws1 ++ (nlBytes c ++ (more.flatMap WsNl.render ++ t))).length + 1)
        (ws1 ++ (nlBytes c ++ (more.flatMap WsNl.render ++ t))) = some t := by
      unfold mlbEscapedNl
      rw [hd, hn]
      simp only []
      rw [dropWsNewline_more more _ t hw.2 (hs _ _ _ rfl) (by simp only [List.length_append]; omega)]
    simp only [MlbItem.render, MlbItem.sem, List.cons_append, List.append_assoc, mlbUnit]
    simp only [isMlbUnescaped, bslash_not_unescaped, Bool.false_eq_true, if_false, show ((0x5C : UInt8) == 0x5C) = true from rfl, if_true, he]

theorem mlbUnit_inv {s c r' : Bytes} (h : mlbUnit s = some (c, r')) :
    ∃ i : MlbItem, i.wf = true ∧ i.isQuotes = false ∧ s = i.render ++ r' ∧ c = i.sem ∧
      (∀ w k m, i = .lineCont w k m → Fix r') := by
  cases s with
  | nil => cases h
  | cons b r =>
    simp only [mlbUnit] at h
    by_cases hu : isMlbUnescaped b = true
    · rw [if_pos hu] at h
      injection h with h; injection h with h1 h2; subst h1; subst h2
      exact ⟨.char (.raw b), hu, rfl, rfl, rfl, by intro _ _ _ e; cases e⟩
    · rw [if_neg hu] at h
      by_cases hb : b = 0x5C
      · subst hb
        simp only [show ((0x5C : UInt8) == 0x5C) = true from rfl, if_true] at h
        cases hm : mlbEscapedNl (r.length + 1) r with
        | some r1 =>
          simp only [hm] at h
          injection h with h; injection h with h1 h2; subst h1; subst h2
          unfold mlbEscapedNl at hm
          cases hnl : newline? (dropWs r) with
          | none => simp [hnl] at hm
          | some r2 =>
            simp only [hnl] at hm
            injection hm with hm
            obtain ⟨ws1, hws1, hr⟩ := dropWs_inv r
            obtain ⟨k, hk⟩ := newline?_inv _ _ hnl
            have hlen : r2.length < r.length + 1 := by
              have e1 := congrArg List.length hr
              have e2 := congrArg List.length hk
              simp only [List.length_append] at e1 e2
              omega
            obtain ⟨more, hmore, hr2, hfix⟩ := dropWsNewline_inv (r.length + 1) r2 hlen
            rw [hm] at hr2 hfix
            refine ⟨.lineCont ws1 k more, by simp [MlbItem.wf, hws1, hmore], rfl, ?_, rfl, fun _ _ _ _ => hfix⟩
            simp only [MlbItem.render, List.cons_append, List.append_assoc]
            rw [← hr2, ← hk, ← hr]
        | none =>
          simp only [hm] at h
          cases he : escapeSeqChar r with
          | bt => simp [he] at h
          | cut => simp [he] at h
          | ok c1 r1 =>
            simp only [he] at h
            injection h with h; injection h with h1 h2; subst h1; subst h2
            obtain ⟨e, hew, hes, hec⟩ := escapeSeqChar_inv r _ _ he
            exact ⟨.char (.escaped e), hew, rfl, by simp [MlbItem.render, BasicChar.render, Escaped.render, hes],
              by simp [MlbItem.sem, BasicChar.sem, hec], by intro _ _ _ e; cases e⟩
      · rw [if_neg (by simpa using hb)] at h
        cases hn : newline? (b :: r) with
        | none => simp [hn] at h
        | some r1 =>
          simp only [hn] at h
          injection h with h; injection h with h1 h2; subst h1; subst h2
          obtain ⟨k, hk⟩ := newline?_inv _ _ hn
          exact ⟨.nl k, rfl, rfl, hk, rfl, by intro _ _ _ e; cases e⟩

theorem mlbUnit_lt (s c r' : Bytes) (h : mlbUnit s = some (c, r')) : r'.length < s.length := by
  obtain ⟨i, hw, _, rfl, _⟩ := mlbUnit_inv h
  obtain ⟨x, u, e, _⟩ := mlb_item_head i hw
  simp only [e, List.cons_append, List.length_cons, List.length_append]; omega

theorem mlb_body_of_items (rest : Bytes) : ∀ items : List MlbItem, wfMlbItems items = true →
    MlFollow 0x22 (mlbTrailing items) rest →
    Body 0x22 mlbUnit rest (items.flatMap MlbItem.render ++ 0x22 :: 0x22 :: 0x22 :: rest)
      (items.flatMap MlbItem.sem) := by
  intro items
  induction items with
  | nil => intro _ hf; exact Body.close 0 (by omega) hf
  | cons i tl ih =>
    intro hw hf
    obtain ⟨hi, htl⟩ := wfMlbItems_cons i tl hw
    simp only [List.flatMap_cons, List.append_assoc]
    by_cases hq : i.isQuotes = false
    · rw [mlbTrailing_cons _ _ hq] at hf
      obtain ⟨x, u, e, h1, _⟩ := mlb_item_head i hi
      have hs : ∀ w c m, i = .lineCont w c m → Fix (tl.flatMap MlbItem.render ++ 0x22 :: 0x22 :: 0x22 :: rest) := by
        rintro w c m rfl
        obtain ⟨x, u, e, h2, h3⟩ := mlb_tail_head tl rest htl
        have hst : ∀ j tl', tl = j :: tl' → j.startsWsNl = false := by
          intro j tl' e; subst e
          simp only [wfMlbItems, Bool.and_eq_true] at hw
          simpa using hw.1.2
        have hnl : ∀ j tl', tl = j :: tl' → j.isNl = false := by
          intro j tl' e
          have := hst j tl' e
          cases j <;> simp [MlbItem.startsWsNl, MlbItem.isNl] at this ⊢
        intro y v hy
        rw [e] at hy; injection hy with hy hv; subst hy; subst hv
        exact ⟨h3 hst, newline?_none _ _ (h2 hnl).1 (h2 hnl).2⟩
      have hu := mlbUnit_item i _ hi hq hs
      rw [e] at hu ⊢
      exact Body.unit (h1 hq) hu (ih htl hf)
    · obtain ⟨n, rfl⟩ : ∃ n, i = .quotes n := by cases i <;> simp [MlbItem.isQuotes] at hq; exact ⟨_, rfl⟩
      have hn : n = 1 ∨ n = 2 := by simpa [MlbItem.wf] using hi
      simp only [MlbItem.render, MlbItem.sem]
      cases tl with
      | nil =>
        simp only [List.flatMap_nil, List.nil_append, List.append_nil]
        exact Body.close n (by omega) (by simpa [mlbTrailing] using hf)
      | cons j tl' =>
        rw [mlbTrailing_cons_cons] at hf
        have hjq : j.isQuotes = false := by
          simp only [wfMlbItems, Bool.and_eq_true] at hw
          simpa using hw.1.2
        obtain ⟨x, u, e, h1, _⟩ := mlb_item_head j (wfMlbItems_cons j tl' htl).1
        have hb := ih htl hf
        simp only [List.flatMap_cons, List.append_assoc] at hb ⊢
        rw [e] at hb ⊢
        exact Body.quotes n (by omega) (by omega) (h1 hjq) hb

theorem mlb_items_of_body {rest s w : Bytes} (h : Body 0x22 mlbUnit rest s w) :
    ∃ items : List MlbItem, wfMlbItems items = true ∧
      s = items.flatMap MlbItem.render ++ 0x22 :: 0x22 :: 0x22 :: rest ∧
      w = items.flatMap MlbItem.sem ∧ MlFollow 0x22 (mlbTrailing items) rest := by
  induction h with
  | close k hk hf =>
    by_cases h0 : k = 0
    · subst h0; exact ⟨[], rfl, rfl, rfl, hf⟩
    · have : k = 1 ∨ k = 2 := by omega
      exact ⟨[.quotes k], by simp [wfMlbItems, MlbItem.wf, this], by simp [MlbItem.render],
        by simp [MlbItem.sem], by simpa [mlbTrailing] using hf⟩
  | @unit b r c r' w hb hu _ ih =>
    obtain ⟨items, hw, hs, hv, hf⟩ := ih
    obtain ⟨i, hi, hq, hr, hc, hfix⟩ := mlbUnit_inv hu
    refine ⟨i :: items, ?_, by simp [hr, hs], by simp [hc, hv], by rw [mlbTrailing_cons _ _ hq]; exact hf⟩
    refine wfMlbItems_cons_of i items hi hw (by rw [hq]; intro h; cases h) ?_
    intro w k m e j tl ej
    have := hfix w k m e
    rw [hs, ej] at this
    simp only [List.flatMap_cons, List.append_assoc] at this
    exact fix_not_startsWsNl j _ this
  | @quotes k x t w h1 h2 hx _ ih =>
    obtain ⟨items, hw, hs, hv, hf⟩ := ih
    have hk : k = 1 ∨ k = 2 := by omega
    -- the byte after the run is no quotation mark: the body goes on, and not with a `quotes` item
    cases items with
    | nil => simp at hs; exact absurd hs.1 hx
    | cons j tl =>
      have hjq : j.isQuotes = false := by
        cases j with
        | quotes m =>
          have hm : m = 1 ∨ m = 2 := by simpa [MlbItem.wf] using (wfMlbItems_cons _ _ hw).1
          rcases hm with rfl | rfl <;> simp [MlbItem.render, List.replicate] at hs <;> exact absurd hs.1 hx
        | _ => rfl
      refine ⟨.quotes k :: j :: tl, ?_, by simp [MlbItem.render, hs], by simp [MlbItem.sem, hv],
        by rw [mlbTrailing_cons_cons]; exact hf⟩
      refine wfMlbItems_cons_of _ _ (by simp [MlbItem.wf, hk]) hw ?_ (by intro _ _ _ e; cases e)
      intro _ j' tl' e; injection e with e _; subst e; exact hjq

theorem mlb_items_general (items : List MlbItem) (fuel : Nat) (rest acc : Bytes)
    (hw : wfMlbItems items = true) (hf : MlFollow 0x22 (mlbTrailing items) rest)
    (hl : (items.flatMap MlbItem.render ++ 0x22 :: 0x22 :: 0x22 :: rest).length < fuel) :
    mlBasicBody fuel (items.flatMap MlbItem.render ++ 0x22 :: 0x22 :: 0x22 :: rest) acc =
      .ok (acc ++ items.flatMap MlbItem.sem) rest := by
  rw [mlBasicBody_eq]
  exact mlBody_complete mlbUnit_lt (mlb_body_of_items rest items hw hf) fuel acc hl

theorem mlb_body_sound (fuel : Nat) (s acc v rest : Bytes) (h : mlBasicBody fuel s acc = .ok v rest) :
    ∃ items : List MlbItem, wfMlbItems items = true ∧
      s = items.flatMap MlbItem.render ++ 0x22 :: 0x22 :: 0x22 :: rest ∧
      v = acc ++ items.flatMap MlbItem.sem ∧ MlFollow 0x22 (mlbTrailing items) rest := by
  rw [mlBasicBody_eq] at h
  obtain ⟨w, rfl, hb⟩ := mlBody_sound _ _ _ _ _ h
  obtain ⟨items, hw, hs, rfl, hf⟩ := mlb_items_of_body hb
  exact ⟨items, hw, hs, rfl, hf⟩

theorem mll_char_head (b : UInt8) (h : isMllChar b = true) : b ≠ 0x27 ∧ b ≠ 0x0A ∧ b ≠ 0x0D := by
  refine ⟨?_, ?_, ?_⟩ <;> (rintro rfl; exact absurd h (by decide))

theorem mll_item_head (j : MllItem) (h : j.wf = true) : ∃ x u, j.render = x :: u ∧
    (j.isQuotes = false → x ≠ 0x27) ∧ (j.isNl = false → x ≠ 0x0A ∧ x ≠ 0x0D) := by
  cases j with
  | raw b =>
    simp only [MllItem.wf] at h
    obtain ⟨h1, h2, h3⟩ := mll_char_head b h
    exact ⟨b, [], rfl, fun _ => h1, fun _ => ⟨h2, h3⟩⟩
  | nl c =>
    obtain ⟨x, u, hxu, hxw, hx⟩ := nlBytes_head c
    refine ⟨x, u, hxu, fun _ => ?_, fun hn => by simp [MllItem.isNl] at hn⟩
    rcases hx with hx | hx <;> subst hx <;> decide
  | quotes n =>
    simp only [MllItem.wf, Bool.or_eq_true, beq_iff_eq] at h
    refine ⟨0x27, List.replicate (n - 1) 0x27, ?_, fun hq => by simp [MllItem.isQuotes] at hq, fun _ => by decide⟩
    rcases h with h | h <;> subst h <;> rfl

theorem mllTrailing_cons (i : MllItem) (tl : List MllItem) (h : i.isQuotes = false) :
    mllTrailing (i :: tl) = mllTrailing tl := by
  cases tl with
  | nil => cases i <;> simp [mllTrailing, MllItem.isQuotes] at h ⊢
  | cons j tl => simp [mllTrailing, List.getLast?_cons_cons]

theorem mllTrailing_cons_cons (i j : MllItem) (tl : List MllItem) :
    mllTrailing (i :: j :: tl) = mllTrailing (j :: tl) := by
  simp [mllTrailing, List.getLast?_cons_cons]

theorem wfMllItems_cons (i : MllItem) (tl : List MllItem) (h : wfMllItems (i :: tl) = true) :
    i.wf = true ∧ wfMllItems tl = true := by
  simp only [wfMllItems, Bool.and_eq_true] at h
  exact ⟨h.1.1, h.2⟩

theorem mll_tail_head (tl : List MllItem) (rest : Bytes) (h : wfMllItems tl = true) :
    ∃ x u, tl.flatMap MllItem.render ++ 0x27 :: 0x27 :: 0x27 :: rest = x :: u ∧
      ((∀ j tl', tl = j :: tl' → j.isNl = false) → x ≠ 0x0A ∧ x ≠ 0x0D) := by
  cases tl with
  | nil =>
    exact ⟨0x27, _, rfl, fun _ => by decide⟩
  | cons j tl' =>
    obtain ⟨hj, _⟩ := wfMllItems_cons j tl' h
    obtain ⟨x, u, e, _, h2⟩ := mll_item_head j hj
    exact ⟨x, u ++ (tl'.flatMap MllItem.render ++ 0x27 :: 0x27 :: 0x27 :: rest), by simp [e],
      fun hq => h2 (hq j tl' rfl)⟩

theorem wfMllItems_cons_cons (i j : MllItem) (tl : List MllItem) :
    wfMllItems (i :: j :: tl) =
      (i.wf && (match i with
        | .quotes _ => !j.isQuotes
        | _ => true) && wfMllItems (j :: tl)) := by
  cases i <;> rfl

theorem wfMllItems_cons_of (i : MllItem) (tl : List MllItem) (hi : i.wf = true) (htl : wfMllItems tl = true)
    (hq : i.isQuotes = true → ∀ j tl', tl = j :: tl' → j.isQuotes = false) : wfMllItems (i :: tl) = true := by
  cases tl with
  | nil => cases i <;> simp [wfMllItems, hi]
  | cons j tl' =>
    rw [wfMllItems_cons_cons, hi, htl]
    cases i with
    | quotes n => simp [hq rfl j tl' rfl]
    | raw b => rfl
    | nl c => rfl

/-- one piece of `mll-content` -/
def mllUnit : Bytes → Option (Bytes × Bytes)
  | [] => none
  | b :: r =>
    if isMllChar b then some ([b], r)
    else match newline? (b :: r) with
      | some r' => some ([0x0A], r')
      | none => none

theorem mlLiteralBody_eq : ∀ (fuel : Nat) (s acc : Bytes),
    mlLiteralBody fuel s acc = mlBody 0x27 mllUnit fuel s acc := by
  intro fuel
  induction fuel with
  | zero => intro s acc; rfl
  | succ f ih =>
    intro s acc
    cases s with
    | nil => rfl
    | cons b r =>
      unfold mlLiteralBody mlBody
      simp only [mllUnit]
      by_cases hu : isMllChar b = true
      · rw [if_pos hu, if_neg (by simpa using (mll_char_head b hu).1), if_pos hu]; exact ih _ _
      · rw [if_neg hu, if_neg hu]
        by_cases hq : b = 0x27
        · subst hq; simp only [beq_self_eq_true, if_true, ih]
        · rw [if_neg (by simpa using hq), if_neg (by simpa using hq)]
          cases newline? (b :: r) with
          | none => rfl
          | some r' => exact ih _ _

theorem mllUnit_item (i : MllItem) (t : Bytes) (hw : i.wf = true) (hq : i.isQuotes = false) :
    mllUnit (i.render ++ t) = some (i.sem, t) := by
  cases i with
  | raw b => simp only [MllItem.wf] at hw; simp [MllItem.render, MllItem.sem, mllUnit, hw]
  | nl c =>
    cases c <;> simp [MllItem.render, MllItem.sem, nlBytes, mllUnit, newline?,
      show isMllChar 0x0A = false by decide, show isMllChar 0x0D = false by decide]
  | quotes n => cases hq

theorem mllUnit_inv {s c r' : Bytes} (h : mllUnit s = some (c, r')) :
    ∃ i : MllItem, i.wf = true ∧ i.isQuotes = false ∧ s = i.render ++ r' ∧ c = i.sem := by
  cases s with
  | nil => cases h
  | cons b r =>
    simp only [mllUnit] at h
    by_cases hu : isMllChar b = true
    · rw [if_pos hu] at h
      injection h with h; injection h with h1 h2; subst h1; subst h2
      exact ⟨.raw b, hu, rfl, rfl, rfl⟩
    · rw [if_neg hu] at h
      cases hn : newline? (b :: r) with
      | none => simp [hn] at h
      | some r1 =>
        simp only [hn] at h
        injection h with h; injection h with h1 h2; subst h1; subst h2
        obtain ⟨c, hc⟩ := newline?_inv _ _ hn
        exact ⟨.nl c, rfl, rfl, hc, rfl⟩

theorem mllUnit_lt (s c r' : Bytes) (h : mllUnit s = some (c, r')) : r'.length < s.length := by
  obtain ⟨i, hw, _, rfl, _⟩ := mllUnit_inv h
  obtain ⟨x, u, e, _⟩ := mll_item_head i hw
  simp only [e, List.cons_append, List.length_cons, List.length_append]; omega

theorem mll_body_of_items (rest : Bytes) : ∀ items : List MllItem, wfMllItems items = true →
    MlFollow 0x27 (mllTrailing items) rest →
    Body 0x27 mllUnit rest (items.flatMap MllItem.render ++ 0x27 :: 0x27 :: 0x27 :: rest)
      (items.flatMap MllItem.sem) := by
  intro items
  induction items with
  | nil => intro _ hf; exact Body.close 0 (by omega) hf
  | cons i tl ih =>
    intro hw hf
    obtain ⟨hi, htl⟩ := wfMllItems_cons i tl hw
    simp only [List.flatMap_cons, List.append_assoc]
    by_cases hq : i.isQuotes = false
    · rw [mllTrailing_cons _ _ hq] at hf
      obtain ⟨x, u, e, h1, _⟩ := mll_item_head i hi
      have hu := mllUnit_item i (tl.flatMap MllItem.render ++ 0x27 :: 0x27 :: 0x27 :: rest) hi hq
      rw [e] at hu ⊢
      exact Body.unit (h1 hq) hu (ih htl hf)
    · obtain ⟨n, rfl⟩ : ∃ n, i = .quotes n := by cases i <;> simp [MllItem.isQuotes] at hq; exact ⟨_, rfl⟩
      have hn : n = 1 ∨ n = 2 := by simpa [MllItem.wf] using hi
      simp only [MllItem.render, MllItem.sem]
      cases tl with
      | nil =>
        simp only [List.flatMap_nil, List.nil_append, List.append_nil]
        exact Body.close n (by omega) (by simpa [mllTrailing] using hf)
      | cons j tl' =>
        rw [mllTrailing_cons_cons] at hf
        have hjq : j.isQuotes = false := by
          simp only [wfMllItems, Bool.and_eq_true] at hw
          simpa using hw.1.2
        obtain ⟨x, u, e, h1, _⟩ := mll_item_head j (wfMllItems_cons j tl' htl).1
        have hb := ih htl hf
        simp only [List.flatMap_cons, List.append_assoc] at hb ⊢
        rw [e] at hb ⊢
        exact Body.quotes n (by omega) (by omega) (h1 hjq) hb

theorem mll_items_of_body {rest s w : Bytes} (h : Body 0x27 mllUnit rest s w) :
    ∃ items : List MllItem, wfMllItems items = true ∧
      s = items.flatMap MllItem.render ++ 0x27 :: 0x27 :: 0x27 :: rest ∧
      w = items.flatMap MllItem.sem ∧ MlFollow 0x27 (mllTrailing items) rest := by
  induction h with
  | close k hk hf =>
    by_cases h0 : k = 0
    · subst h0; exact ⟨[], rfl, rfl, rfl, hf⟩
    · have : k = 1 ∨ k = 2 := by omega
      exact ⟨[.quotes k], by simp [wfMllItems, MllItem.wf, this], by simp [MllItem.render],
        by simp [MllItem.sem], by simpa [mllTrailing] using hf⟩
  | @unit b r c r' w hb hu _ ih =>
    obtain ⟨items, hw, hs, hv, hf⟩ := ih
    obtain ⟨i, hi, hq, hr, hc⟩ := mllUnit_inv hu
    exact ⟨i :: items, wfMllItems_cons_of i items hi hw (by rw [hq]; intro h; cases h), by simp [hr, hs],
      by simp [hc, hv], by rw [mllTrailing_cons _ _ hq]; exact hf⟩
  | @quotes k x t w h1 h2 hx _ ih =>
    obtain ⟨items, hw, hs, hv, hf⟩ := ih
    have hk : k = 1 ∨ k = 2 := by omega
    cases items with
    | nil => simp at hs; exact absurd hs.1 hx
    | cons j tl =>
      have hjq : j.isQuotes = false := by
        cases j with
        | quotes m =>
          have hm : m = 1 ∨ m = 2 := by simpa [MllItem.wf] using (wfMllItems_cons _ _ hw).1
          rcases hm with rfl | rfl <;> simp [MllItem.render, List.replicate] at hs <;> exact absurd hs.1 hx
        | _ => rfl
      refine ⟨.quotes k :: j :: tl, ?_, by simp [MllItem.render, hs], by simp [MllItem.sem, hv],
        by rw [mllTrailing_cons_cons]; exact hf⟩
      refine wfMllItems_cons_of _ _ (by simp [MllItem.wf, hk]) hw ?_
      intro _ j' tl' e; injection e with e _; subst e; exact hjq

theorem mll_items_general (items : List MllItem) (fuel : Nat) (rest acc : Bytes)
    (hw : wfMllItems items = true) (hf : MlFollow 0x27 (mllTrailing items) rest)
    (hl : (items.flatMap MllItem.render ++ 0x27 :: 0x27 :: 0x27 :: rest).length < fuel) :
    mlLiteralBody fuel (items.flatMap MllItem.render ++ 0x27 :: 0x27 :: 0x27 :: rest) acc =
      .ok (acc ++ items.flatMap MllItem.sem) rest := by
  rw [mlLiteralBody_eq]
  exact mlBody_complete mllUnit_lt (mll_body_of_items rest items hw hf) fuel acc hl

theorem mll_body_sound (fuel : Nat) (s acc v rest : Bytes) (h : mlLiteralBody fuel s acc = .ok v rest) :
    ∃ items : List MllItem, wfMllItems items = true ∧
      s = items.flatMap MllItem.render ++ 0x27 :: 0x27 :: 0x27 :: rest ∧
      v = acc ++ items.flatMap MllItem.sem ∧ MlFollow 0x27 (mllTrailing items) rest := by
  rw [mlLiteralBody_eq] at h
  obtain ⟨w, rfl, hb⟩ := mlBody_sound _ _ _ _ _ h
  obtain ⟨items, hw, hs, rfl, hf⟩ := mll_items_of_body hb
  exact ⟨items, hw, hs, rfl, hf⟩

theorem first_nl_strip (fn : Option Bool) (t : Bytes) (h : fn = none → newline? t = none) :
    (newline? (firstNlBytes fn ++ t)).getD (firstNlBytes fn ++ t) = t := by
  cases fn with
  | none => simp [firstNlBytes, h rfl]
  | some c => simp [firstNlBytes, newline?_nlBytes]

theorem mlb_wf_none (items : List MlbItem) (t : Bytes)
    (hn : newline? (items.flatMap MlbItem.render ++ t) = none) :
    MlBasic.wf ⟨none, items⟩ = wfMlbItems items := by
  cases items with
  | nil => simp [MlBasic.wf]
  | cons j tl =>
    cases j with
    | nl c =>
      simp only [List.flatMap_cons, MlbItem.render, List.append_assoc] at hn
      rw [newline?_nlBytes] at hn; cases hn
    | char c => simp [MlBasic.wf, MlbItem.isNl]
    | quotes n => simp [MlBasic.wf, MlbItem.isNl]
    | lineCont w c m => simp [MlBasic.wf, MlbItem.isNl]

theorem mll_wf_none (items : List MllItem) (t : Bytes)
    (hn : newline? (items.flatMap MllItem.render ++ t) = none) :
    MlLiteral.wf ⟨none, items⟩ = wfMllItems items := by
  cases items with
  | nil => simp [MlLiteral.wf]
  | cons j tl =>
    cases j with
    | nl c =>
      simp only [List.flatMap_cons, MllItem.render, List.append_assoc] at hn
      rw [newline?_nlBytes] at hn; cases hn
    | raw c => simp [MlLiteral.wf, MllItem.isNl]
    | quotes n => simp [MlLiteral.wf, MllItem.isNl]

end TomlVerif.Lemmas.S02
