import TomlVerif.Lemmas.Same03Body
import TomlVerif.Lemmas.Same03TreeInv
import TomlVerif.Lemmas.Tiling03MoreTkoDefs
/-! C03, same data — a `[t]` header that takes over an implicit table.  The current table may then
    hold sub-tables besides its body; they are invisible to `valuesTbl`.  So the current table is
    `base ++ body`, `base` the taken-over sub-tables (`onlySubs`), `body` a `bodyOkN` body: a
    key/value line works on `body`, and the statements of the body are replayed on top of `base`. -/
namespace TomlVerif.Lemmas.Tiling03More.Tko
open TomlVerif.Model.Cst TomlVerif.Model.Encode
open TomlVerif.Lemmas.Tiling03 TomlVerif.Lemmas.Tiling03Hdr
open TomlVerif.Lemmas.Tiling03More.VS

/-- the items of a current table: values that are not dotted inline tables; every dotted-key table
    is a body with grammatical keys; non-dotted sub-tables and arrays of tables are unrestricted -/
def MixOk (inp : Bytes) (items : Items) : Prop :=
  (∀ k v, (k, CItem.value v) ∈ items → undotted v = true) ∧
  (∀ k t, (k, CItem.table t) ∈ items → t.dotted = true → GKey inp k ∧ bodyOkU t.items = true ∧ bodyG inp t.items)

theorem mixOk_nil (inp : Bytes) : MixOk inp [] := ⟨fun _ _ h => by simp at h, fun _ _ h => by simp at h⟩

theorem onlySubs_table {items : Items} (h : onlySubs items = true) {k : CKey} {t : CTbl}
    (hm : (k, CItem.table t) ∈ items) : t.dotted = false := by
  have := List.all_eq_true.1 h _ hm
  simpa using this

theorem onlySubs_value {items : Items} (h : onlySubs items = true) {k : CKey} {v : CVal}
    (hm : (k, CItem.value v) ∈ items) : False := by
  have := List.all_eq_true.1 h _ hm
  simp at this

theorem onlySubs_tail {x : CKey × CItem} {r : Items} (h : onlySubs (x :: r) = true) : onlySubs r = true := by
  simp only [onlySubs, List.all_cons, Bool.and_eq_true] at h ⊢; exact h.2

theorem mixOk_onlySubs (inp : Bytes) (items : Items) (h : onlySubs items = true) : MixOk inp items :=
  ⟨fun _ _ hm => (onlySubs_value h hm).elim, fun _ _ hm hd => by rw [onlySubs_table h hm] at hd; cases hd⟩

theorem valuesTbl_onlySubs : ∀ (items : Items) (P : List CKey), onlySubs items = true → valuesTbl items P = []
  | [], _, _ => rfl
  | (k, .value v) :: r, P, h => (onlySubs_value h List.mem_cons_self).elim
  | (k, .aot ts sp) :: r, P, h => by
    have := valuesTbl_append [(k, CItem.aot ts sp)] r P
    simp only [List.singleton_append] at this
    rw [this, valuesTbl_onlySubs r P (onlySubs_tail h)]; simp [valuesTbl]
  | (k, .table t) :: r, P, h => by
    have := valuesTbl_mid_table [] r k t (onlySubs_table h List.mem_cons_self) P
    simp only [List.nil_append] at this
    rw [this, valuesTbl_onlySubs r P (onlySubs_tail h)]; simp [valuesTbl]

/-- `NofF stripCr`, written out because fixed statements mention it -/
def Nof (inp : Bytes) (root : CTbl) (items : Items) (SP : List CKey) : NS :=
  nsItems stripCr inp root.items [] ++ nsItems stripCr inp items SP

/-- the summary of everything but the current table itself, for the printer over `f` -/
def NofF (f : Bytes → Bytes) (inp : Bytes) (root : CTbl) (items : Items) (SP : List CKey) : NS :=
  nsItems f inp root.items [] ++ nsItems f inp items SP

/-- positions and keys of a parse state: the root has no position and no decor (the printer writes
    it first, without a header); root and current table satisfy `tiTbl`; after a header the
    current table carries the position the next `finalize_table` files it under -/
def PInvT (st : CState) : Prop :=
  st.root.pos = none ∧ st.root.decor.pre = none ∧ st.root.decor.suf = none ∧
  tiTbl st.root = true ∧ tiTbl st.current = true ∧
  (st.currentPath ≠ [] → st.current.pos = some st.position)

theorem PInvT.current {st : CState} (h : PInvT st) : tiTbl st.current = true := h.2.2.2.2.1

end TomlVerif.Lemmas.Tiling03More.Tko

namespace TomlVerif.Lemmas.Tiling03More.Gen
open TomlVerif TomlVerif.Spec TomlVerif.Model TomlVerif.Model.Strings TomlVerif.Model.Value
open TomlVerif.Model.Cst TomlVerif.Model.Encode TomlVerif.Lemmas.Suffix03 TomlVerif.Lemmas.Cst03
open TomlVerif.Lemmas.LastByte03 TomlVerif.Lemmas.Tiling03 TomlVerif.Lemmas.Tiling03Hdr
open TomlVerif.Lemmas.Tiling03Nest TomlVerif.Lemmas.Tiling03More TomlVerif.Lemmas.Tiling03More.VS
open TomlVerif.Lemmas.Tiling03More.Tko TomlVerif.Lemmas.Tiling03More.Nad

theorem onlySubs_no_dotted (k : Bytes) (sub : CTbl) : ∀ (base : Items), onlySubs base = true →
    clookup k base = some (.table sub) → sub.dotted = false := by
  intro base hb h
  obtain ⟨A, k', B, e, _⟩ := clookup_split _ _ _ h
  exact onlySubs_table hb (k := k') (t := sub) (by rw [e]; simp)

theorem onlySubs_no_value (k : Bytes) (v : CVal) : ∀ (base : Items), onlySubs base = true →
    clookup k base = some (.value v) → False := by
  intro base hb h
  obtain ⟨A, k', B, e, _⟩ := clookup_split _ _ _ h
  exact onlySubs_value hb (k := k') (v := v) (by rw [e]; simp)

/-- `descend` below a first segment that is not in `base` does not see `base` -/
theorem descend_base (t : CTbl) (base body : Items) (k : CKey) (ks : List CKey) (d : Bool) (g : CTbl → Option CTbl)
    (c : CTbl) (hi : t.items = base ++ body) (hb : clookup k.key base = none)
    (hd : descend t (k :: ks) d g = some c) :
    ∃ c', descend (t.setItems body) (k :: ks) d g = some c' ∧ c = t.setItems (base ++ c'.items) := by
  unfold descend at hd ⊢
  simp only [setItems_items] at hd ⊢
  rw [hi, clookup_append_none _ _ _ hb] at hd
  generalize (clookup k.key body).getD (.table (newImplicit d)) = entry at hd ⊢
  cases entry with
  | value v => cases hd
  | aot ts sp =>
    dsimp only at hd ⊢
    by_cases hc : (d && !ks.isEmpty) = true
    · simp only [hc, if_true] at hd; cases hd
    · simp only [hc, Bool.false_eq_true, if_false] at hd ⊢
      cases hm : modifyLast ts (fun last => descend last ks d g) with
      | none => rw [hm] at hd; cases hd
      | some ts' =>
        rw [hm] at hd
        dsimp only at hd ⊢
        injection hd with hd
        refine ⟨_, rfl, ?_⟩
        rw [← hd, cset_append_none _ _ _ _ hb, setItems_items]
  | table sub =>
    dsimp only at hd ⊢
    by_cases hc : (d && !sub.implicit) = true
    · simp only [hc, if_true] at hd; cases hd
    · simp only [hc, Bool.false_eq_true, if_false] at hd ⊢
      cases hm : descend sub ks d g with
      | none => rw [hm] at hd; cases hd
      | some sub' =>
        rw [hm] at hd
        dsimp only at hd ⊢
        injection hd with hd
        refine ⟨_, rfl, ?_⟩
        rw [← hd, cset_append_none _ _ _ _ hb, setItems_items]

theorem bodyOkN_U (items : Items) (h : bodyOkN items = true) : bodyOkU items = true := by
  refine bodyOkN_induct (P := fun items => bodyOkU items = true) rfl ?_ ?_ items h
  · intro k v r _ hv _ ih
    simp only [bodyOkU, Bool.and_eq_true]
    exact ⟨hv, ih⟩
  · intro k its dec sp r _ _ _ _ ih1 ih2
    simp only [bodyOkU, bodyTblU, Bool.and_eq_true]
    exact ⟨⟨trivial, ih1⟩, ih2⟩

theorem mixOk_append (inp : Bytes) (a b : Items) : MixOk inp (a ++ b) ↔ MixOk inp a ∧ MixOk inp b := by
  constructor
  · intro h
    exact ⟨⟨fun k v hm => h.1 k v (List.mem_append_left _ hm), fun k t hm => h.2 k t (List.mem_append_left _ hm)⟩,
      ⟨fun k v hm => h.1 k v (List.mem_append_right _ hm), fun k t hm => h.2 k t (List.mem_append_right _ hm)⟩⟩
  · rintro ⟨h1, h2⟩
    refine ⟨fun k v hm => ?_, fun k t hm hd => ?_⟩
    · rcases List.mem_append.1 hm with hm | hm
      · exact h1.1 k v hm
      · exact h2.1 k v hm
    · rcases List.mem_append.1 hm with hm | hm
      · exact h1.2 k t hm hd
      · exact h2.2 k t hm hd

theorem mixOk_body (inp : Bytes) : ∀ (items : Items), bodyOkU items = true → bodyG inp items → MixOk inp items
  | [], _, _ => mixOk_nil inp
  | (k, .value v) :: r, h, hg => by
    simp only [bodyOkU, Bool.and_eq_true] at h
    have hg' : bodyG inp r := by
      intro x hx; exact hg x (by simpa [dkItems] using hx)
    have := mixOk_body inp r h.2 hg'
    have e : (k, CItem.value v) :: r = [(k, .value v)] ++ r := rfl
    rw [e]
    refine (mixOk_append inp _ _).2 ⟨⟨fun k' v' hm => ?_, fun k' t hm _ => by simp at hm⟩, this⟩
    simp only [List.mem_singleton, Prod.mk.injEq, CItem.value.injEq] at hm
    rw [hm.2]; exact h.1
  | (k, .table t) :: r, h, hg => by
    simp only [bodyOkU, Bool.and_eq_true] at h
    rw [bodyTblU_eq] at h
    simp only [Bool.and_eq_true] at h
    have hg' : bodyG inp r := by
      intro x hx; exact hg x (by simp only [dkItems]; exact List.mem_cons_of_mem _ (List.mem_append_right _ hx))
    have hgt : bodyG inp t.items := by
      intro x hx; exact hg x (by simp only [dkItems, dkTbl_eq]; exact List.mem_cons_of_mem _ (List.mem_append_left _ hx))
    have hk : GKey inp k := hg k (by simp [dkItems])
    have := mixOk_body inp r h.2 hg'
    have e : (k, CItem.table t) :: r = [(k, .table t)] ++ r := rfl
    rw [e]
    refine (mixOk_append inp _ _).2 ⟨⟨fun k' v' hm => by simp at hm, fun k' t' hm _ => ?_⟩, this⟩
    simp only [List.mem_singleton, Prod.mk.injEq, CItem.table.injEq] at hm
    rw [hm.1, hm.2]; exact ⟨hk, h.1.2, hgt⟩
  | (k, .aot _ _) :: r, h, _ => by simp [bodyOkU] at h

theorem kv_descendG (inp : Bytes) (g : CTbl → Option CTbl) (key' : CKey) (v : CVal)
    (hv : undotted v = true)
    (hg : ∀ p p', g p = some p' → p' = p.setItems (p.items ++ [(key', .value v)]) ∧ clookup key'.key p.items = none)
    (path : List CKey) (t c : CTbl) (base body : Items) (hi : t.items = base ++ body) (hbase : onlySubs base = true)
    (hok : dottedOkN t path = true) (hbn : bodyOkN body = true) (hbg : bodyG inp body)
    (hpath : ∀ k ∈ path, GKey inp k) (hd : descend t path true g = some c) :
    ∃ body', c = t.setItems (base ++ body') ∧ bodyOkN body' = true ∧ bodyG inp body' ∧
      ∃ X L1 L2, valuesTbl body [] = L1 ++ L2 ∧ valuesTbl body' [] = L1 ++ [(X ++ [key'], v)] ++ L2 ∧
        keysOf X = keysOf path ∧ ∀ k ∈ X, GKey inp k := by
  cases path with
  | nil =>
    rw [descend_nil] at hd
    obtain ⟨e, hnew⟩ := hg _ _ hd
    subst e
    rw [hi] at hnew
    have hnb : clookup key'.key body = none := by
      rw [← clookup_append_none _ _ _ (clookup_append_none_left _ _ _ hnew)]; exact hnew
    refine ⟨body ++ [(key', .value v)], by rw [hi, List.append_assoc], ?_, ?_, [], valuesTbl body [], [], by simp, ?_, rfl,
      fun k hk => by cases hk⟩
    · exact bodyOkN_snoc key' _ (by simpa [itemOkN] using hv) _ hbn hnb
    · exact (bodyG_snoc_value inp _ _ _).2 hbg
    · rw [valuesTbl_append, valuesTbl_value_atU key' v hv]; simp
  | cons k ks =>
    have hkb : clookup k.key base = none := by
      cases hl : clookup k.key base with
      | none => rfl
      | some y =>
        simp only [dottedOkN] at hok
        rw [hi, clookup_append_some _ _ _ _ hl] at hok
        cases y with
        | value _ => cases hok
        | aot _ _ => cases hok
        | table sub =>
          simp only [Bool.and_eq_true] at hok
          have := onlySubs_no_dotted _ _ _ hbase hl
          rw [this] at hok; cases hok.1
    obtain ⟨c', hd', ec⟩ := descend_base t base body k ks true g c hi hkb hd
    have hok' : dottedOkN (t.setItems body) (k :: ks) = true := by
      simp only [dottedOkN, setItems_items] at hok ⊢
      rw [hi, clookup_append_none _ _ _ hkb] at hok
      exact hok
    obtain ⟨k1, k2n, k2g, X, L1, L2, k3a, k3, k4, k5⟩ := kv_descendN inp g key' v hv hg (k :: ks) (t.setItems body) c' []
      hok' (by rw [setItems_items]; exact hbn)
      (by rw [setItems_items]; exact hbg) hpath hd'
    rw [setItems_items] at k3a
    simp only [List.nil_append] at k3
    exact ⟨c'.items, ec, k2n, k2g, X, L1, L2, k3a, k3, k4, k5⟩

open TomlVerif.Lemmas.State09 (Stmt run step run_append)

/-- the semantic state right after the header line of the current section -/
def hdrStateG (st : CState) (base : Items) : State.ParseState :=
  { eraseState st with current := (eraseTbl st.current).setItems (mapKv eraseItem base) }

theorem run_bodyG (st : CState) (base body : Items) (hi : st.current.items = base ++ body)
    (hd : st.current.dotted = false) (hb : bodyOkN body = true) (hnd : nodupK st.current.items = true) :
    run (hdrStateG st base) ((valuesTbl body []).map stmtOf) = some (eraseState st) := by
  rw [flat_stmts _ hb []]
  have hf : (fun t : KV => Stmt.kv (keysOf [] ++ t.1) t.2.1 t.2.2) = kvStmt := by
    funext t; simp [kvStmt]
  rw [hf, run_kvs]
  have hr := replay_body body ((eraseTbl st.current).setItems (mapKv eraseItem base)) true hb
    (by show (eraseTbl st.current).dotted = _; rw [eraseTbl_dotted, hd]; rfl)
    (fun x hx => by
      rw [State09.items_setItems, alookup_mapKv, nodupK_disj base body (by rw [← hi]; exact hnd) x hx]; rfl)
  have hc : (hdrStateG st base).current = (eraseTbl st.current).setItems (mapKv eraseItem base) := rfl
  rw [hc, hr]
  simp only [Option.map_some, State09.items_setItems]
  have : ((eraseTbl st.current).setItems (mapKv eraseItem base)).setItems (mapKv eraseItem base ++ mapKv eraseItem body)
      = eraseTbl st.current := by
    rw [State09.setItems_setItems, ← mapKv_append, ← hi, ← eraseTbl_items, State09.setItems_self]
  rw [this]; rfl

end TomlVerif.Lemmas.Tiling03More.Gen
