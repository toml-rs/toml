import TomlVerif.Lemmas.DocDriver01
/-! The semantic parser does not see a BOM nor a final LF: for an accepted text `s`, the text
    without its BOM, with or without an extra final LF, decodes to the same table.  (Through the
    grammar trees of C01: the accepted text is the rendering of a well-formed `QDoc`; dropping the
    BOM flag / ending the last line with LF gives a well-formed `QDoc` with the same statements.) -/
namespace TomlVerif.Lemmas.Tiling03More
open TomlVerif.Model
open TomlVerif.Model.Doc
open TomlVerif.Spec.AstValue TomlVerif.Spec.AstDoc TomlVerif.Spec.AstDocQ
open TomlVerif.Lemmas.SoundDoc01 TomlVerif.Lemmas.SoundDoc01C

theorem parseDocument_stripBom (s : Bytes) (t : Tbl) (h : parseDocument s = some t) :
    parseDocument (stripBom s) = some t := by
  obtain ⟨q, hwf, hr, hrun⟩ := parseDocument_sound s t h
  have h0 : stripBom s = renderLinesQ q.lines ++ renderLastQ q.last := by rw [← hr]; exact stripBom_renderQ q hwf
  let q1 : QDoc := ⟨false, q.lines, q.last⟩
  have hwf1 : q1.WF := hwf
  have hr1 : q1.render = stripBom s := by rw [h0]; rfl
  rw [← hr1, parseDocument_renderQ q1 hwf1]
  exact hrun

theorem parseDocument_stripBom_lf (s : Bytes) (t : Tbl) (h : parseDocument s = some t) :
    parseDocument (stripBom s ++ [0x0A]) = some t := by
  obtain ⟨q, hwf, hr, hrun⟩ := parseDocument_sound s t h
  have h0 : stripBom s = renderLinesQ q.lines ++ renderLastQ q.last := by rw [← hr]; exact stripBom_renderQ q hwf
  cases hl : q.last with
  | none =>
    let q2 : QDoc := ⟨false, q.lines ++ [(.blank [], false)], none⟩
    have hwf2 : q2.WF := by
      refine ⟨?_, fun l e => by cases e⟩
      intro p hp
      rcases List.mem_append.1 hp with hp | hp
      · exact hwf.1 p hp
      · simp only [List.mem_singleton] at hp
        subst hp
        intro b hb; cases hb
    have hr2 : q2.render = stripBom s ++ [0x0A] := by
      rw [h0, hl]
      simp [QDoc.render, q2, renderLinesQ_append, renderLinesQ, renderLastQ, QLine.render, bomBytes, nlBytes]
    have hs2 : q2.stmts = q.stmts := by
      simp [QDoc.stmts, q2, stmtsLinesQ_append, stmtsLinesQ, stmtsLastQ, QLine.stmt, hl]
    rw [← hr2, parseDocument_renderQ q2 hwf2, hs2]
    exact hrun
  | some l =>
    let q2 : QDoc := ⟨false, q.lines ++ [(l, false)], none⟩
    have hwf2 : q2.WF := by
      refine ⟨?_, fun l e => by cases e⟩
      intro p hp
      rcases List.mem_append.1 hp with hp | hp
      · exact hwf.1 p hp
      · simp only [List.mem_singleton] at hp
        subst hp
        exact hwf.2 l hl
    have hr2 : q2.render = stripBom s ++ [0x0A] := by
      rw [h0, hl]
      simp [QDoc.render, q2, renderLinesQ_append, renderLinesQ, renderLastQ, bomBytes, nlBytes]
    have hs2 : q2.stmts = q.stmts := by
      simp only [QDoc.stmts, q2, stmtsLinesQ_append, stmtsLinesQ, stmtsLastQ, hl]
      cases l.stmt <;> simp
    rw [← hr2, parseDocument_renderQ q2 hwf2, hs2]
    exact hrun

end TomlVerif.Lemmas.Tiling03More
