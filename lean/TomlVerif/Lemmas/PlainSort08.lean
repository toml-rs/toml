import TomlVerif.Lemmas.Plain08
/-! `sort` on the plain tree. `Table::sort_values` sorts the keys of the table and then, recursively,
    of its *dotted* sub-tables; the plain tree has no `dotted` flag, so the plain op is the one-level
    `sortByKey` and commutes under the side condition that the dotted sub-tables are already in
    order (`SortFlat`; e.g. when there are none). Before that, for any `Upd`: a path update depends only on the
    node updates at the node its path leads to (`Agree`, `congr_*`), and applies only where a lookup succeeds
    (`upd_look_*`). At the end a boolean equality on `Plain` for the examples. -/
namespace TomlVerif.Lemmas.Refine08bSort
open TomlVerif TomlVerif.Model TomlVerif.Model.Cst TomlVerif.Model.Edit TomlVerif.Lemmas.Edit08
open TomlVerif.Lemmas.Refine08 TomlVerif.Lemmas.Refine08b
open TomlVerif.Spec.OrderedPlain

def Agree (u u' : Upd) : Node → Prop
  | .tbl t => u'.tbl t = u.tbl t
  | .val v => u'.val v = u.val v
  | .aot ts _ => u'.aot ts = u.aot ts

variable {u u' : Upd}

theorem congr_vals :
    (∀ p v n, lookupVal p v = some n → Agree u u' n → updVal u' p v = updVal u p v) ∧
    (∀ k r l n, lookupKvs k r l = some n → Agree u u' n → updKvs u' k r l = updKvs u k r l) ∧
    (∀ i r l n, lookupElems i r l = some n → Agree u u' n → updElems u' i r l = updElems u i r l) := by
  refine lookupVal_rel ?here ?arr ?inl ?zero ?succ ?hit ?miss
  case here => intro v ha; simpa only [updVal, Agree] using ha
  case arr => intro s r i items tr c d sp n hi ih ha; simp only [updVal, hi, ih ha]
  case inl => intro s r k items pre imp dot d sp n hi ih ha; simp only [updVal, hi, ih ha]
  case zero => intro r v rest n ih ha; simp only [updElems, ih ha]
  case succ => intro i r v rest n ih ha; simp only [updElems, ih ha]
  case hit => intro k r k' v rest n hk ih ha; simp only [updKvs, hk, if_true, ih ha]
  case miss => intro k r k' v rest n hk ih ha; simp only [updKvs, hk, Bool.false_eq_true, if_false, ih ha]

theorem congr_val : ∀ (p : List Seg) (v : CVal) (n : Node), lookupVal p v = some n → Agree u u' n →
    updVal u' p v = updVal u p v :=
  congr_vals.1

theorem congr_elems : ∀ (i : Nat) (r : List Seg) (items : List CVal) (n : Node),
    lookupElems i r items = some n → Agree u u' n → updElems u' i r items = updElems u i r items :=
  congr_vals.2.2

theorem congr_kvs (k : Bytes) : ∀ (r : List Seg) (items : List (CKey × CVal)) (n : Node),
    lookupKvs k r items = some n → Agree u u' n → updKvs u' k r items = updKvs u k r items :=
  congr_vals.2.1 k

theorem congr_tbls :
    (∀ p t n, lookupTbl p t = some n → Agree u u' n → updTbl u' p t = updTbl u p t) ∧
    (∀ k r l n, lookupItems k r l = some n → Agree u u' n → updItems u' k r l = updItems u k r l) ∧
    (∀ r it n, lookupItem r it = some n → Agree u u' n → updItem u' r it = updItem u r it) ∧
    (∀ i r l n, lookupNth i r l = some n → Agree u u' n → updNth u' i r l = updNth u i r l) := by
  refine lookupTbl_rel ?here ?mk ?value ?table ?aotHere ?aot ?zero ?succ ?hit ?miss
  case here => intro t ha; simpa only [updTbl, Agree] using ha
  case mk => intro s r k items imp dot p dec sp n hi ih ha; simp only [updTbl, hi, ih ha]
  case value => intro r v n h ha; simp only [updItem, congr_val r v n h ha]
  case table => intro r t n ih ha; simp only [updItem, ih ha]
  case aotHere => intro ts sp ha; simp only [Agree] at ha; simp only [updItem, ha]
  case aot => intro s r i ts sp n hi ih ha; simp only [updItem, hi, ih ha]
  case zero => intro r t rest n ih ha; simp only [updNth, ih ha]
  case succ => intro i r t rest n ih ha; simp only [updNth, ih ha]
  case hit => intro k r k' it rest n hk ih ha; simp only [updItems, hk, if_true, ih ha]
  case miss => intro k r k' it rest n hk ih ha; simp only [updItems, hk, Bool.false_eq_true, if_false, ih ha]

theorem congr_tbl : ∀ (p : List Seg) (t : CTbl) (n : Node), lookupTbl p t = some n → Agree u u' n →
    updTbl u' p t = updTbl u p t :=
  congr_tbls.1

theorem congr_items (k : Bytes) : ∀ (r : List Seg) (items : List (CKey × CItem)) (n : Node),
    lookupItems k r items = some n → Agree u u' n → updItems u' k r items = updItems u k r items :=
  congr_tbls.2.1 k

theorem congr_item : ∀ (r : List Seg) (it : CItem) (n : Node), lookupItem r it = some n → Agree u u' n →
    updItem u' r it = updItem u r it :=
  congr_tbls.2.2.1

theorem congr_nth : ∀ (i : Nat) (r : List Seg) (ts : List CTbl) (n : Node),
    lookupNth i r ts = some n → Agree u u' n → updNth u' i r ts = updNth u i r ts :=
  congr_tbls.2.2.2

theorem upd_look_vals (u : Upd) :
    (∀ p v v', updVal u p v = some v' → ∃ n, lookupVal p v = some n) ∧
    (∀ k r l l', updKvs u k r l = some l' → ∃ n, lookupKvs k r l = some n) ∧
    (∀ i r l l', updElems u i r l = some l' → ∃ n, lookupElems i r l = some n) := by
  refine updVal_rel u ?here ?arr ?inl ?zero ?succ ?hit ?miss
  case here => intro v _ _; exact ⟨.val v, by simp only [lookupVal]⟩
  case arr => intro s r i items _ tr c d sp hi ih; simpa only [lookupVal, hi] using ih
  case inl => intro s r k items _ pre imp dot d sp hi ih; simpa only [lookupVal, hi] using ih
  case zero => intro r v _ rest ih; simpa only [lookupElems] using ih
  case succ => intro i r v rest _ ih; simpa only [lookupElems] using ih
  case hit => intro k r k' v _ rest hk ih; simpa only [lookupKvs, hk, if_true] using ih
  case miss => intro k r k' v rest _ hk ih; simpa only [lookupKvs, hk, Bool.false_eq_true, if_false] using ih

theorem upd_look_val (u : Upd) : ∀ (p : List Seg) (v v' : CVal), updVal u p v = some v' →
    ∃ n, lookupVal p v = some n :=
  (upd_look_vals u).1

theorem upd_look_elems (u : Upd) : ∀ (i : Nat) (r : List Seg) (items items' : List CVal),
    updElems u i r items = some items' → ∃ n, lookupElems i r items = some n :=
  (upd_look_vals u).2.2

theorem upd_look_kvs (u : Upd) (k : Bytes) : ∀ (r : List Seg) (items items' : List (CKey × CVal)),
    updKvs u k r items = some items' → ∃ n, lookupKvs k r items = some n :=
  (upd_look_vals u).2.1 k

theorem upd_look_tbls (u : Upd) :
    (∀ p t t', updTbl u p t = some t' → ∃ n, lookupTbl p t = some n) ∧
    (∀ k r l l', updItems u k r l = some l' → ∃ n, lookupItems k r l = some n) ∧
    (∀ r it it', updItem u r it = some it' → ∃ n, lookupItem r it = some n) ∧
    (∀ i r l l', updNth u i r l = some l' → ∃ n, lookupNth i r l = some n) := by
  refine updTbl_rel u ?here ?mk ?value ?table ?aotHere ?aot ?zero ?succ ?hit ?miss
  case here => intro t _ _; exact ⟨.tbl t, by simp only [lookupTbl]⟩
  case mk => intro s r k items _ imp dot p dec sp hi ih; simpa only [lookupTbl, hi] using ih
  case value => intro r v v' h; simpa only [lookupItem] using upd_look_val u r v v' h
  case table => intro r t _ ih; simpa only [lookupItem] using ih
  case aotHere => intro ts _ sp _; exact ⟨.aot ts sp, by simp only [lookupItem]⟩
  case aot => intro s r i ts _ sp hi ih; simpa only [lookupItem, hi] using ih
  case zero => intro r t _ rest ih; simpa only [lookupNth] using ih
  case succ => intro i r t rest _ ih; simpa only [lookupNth] using ih
  case hit => intro k r k' it _ rest hk ih; simpa only [lookupItems, hk, if_true] using ih
  case miss =>
    intro k r k' it rest _ hk ih; simpa only [lookupItems, hk, Bool.false_eq_true, if_false] using ih

theorem upd_look_tbl (u : Upd) : ∀ (p : List Seg) (t t' : CTbl), updTbl u p t = some t' →
    ∃ n, lookupTbl p t = some n :=
  (upd_look_tbls u).1

theorem upd_look_items (u : Upd) (k : Bytes) : ∀ (r : List Seg) (items items' : List (CKey × CItem)),
    updItems u k r items = some items' → ∃ n, lookupItems k r items = some n :=
  (upd_look_tbls u).2.1 k

theorem upd_look_item (u : Upd) : ∀ (r : List Seg) (it it' : CItem), updItem u r it = some it' →
    ∃ n, lookupItem r it = some n :=
  (upd_look_tbls u).2.2.1

theorem upd_look_nth (u : Upd) : ∀ (i : Nat) (r : List Seg) (ts ts' : List CTbl),
    updNth u i r ts = some ts' → ∃ n, lookupNth i r ts = some n :=
  (upd_look_tbls u).2.2.2

/-- `sort_values` on the plain tree: the entries of the table in key order (stable) -/
def pSort : Plain → Option Plain
  | .tbl es => some (.tbl (sortByKey es))
  | _ => none

/-- the dotted sub-tables of the node are already in sorted order (what `sort_values` does below
    the first level is invisible) -/
def SortFlat : Node → Prop
  | .tbl t => sortSub t.items = t.items
  | .val (.inl items _ _ _ _ _) => sortInlSub items = items
  | _ => True

/-- no entry is a dotted table (syntactic sufficient condition for `SortFlat`) -/
def noDottedItems : List (CKey × CItem) → Bool
  | [] => true
  | (_, .table t) :: r => !t.dotted && noDottedItems r
  | (_, _) :: r => noDottedItems r

def noDottedKvs : List (CKey × CVal) → Bool
  | [] => true
  | (_, .inl _ _ _ dot _ _) :: r => !dot && noDottedKvs r
  | (_, _) :: r => noDottedKvs r

theorem sortSub_of_noDotted : ∀ l : List (CKey × CItem), noDottedItems l = true → sortSub l = l
  | [], _ => rfl
  | (k, .table t) :: r, h => by
    simp only [noDottedItems, Bool.and_eq_true, Bool.not_eq_true'] at h
    simp [sortSub, h.1, sortSub_of_noDotted r h.2]
  | (k, .value v) :: r, h => by
    simp only [noDottedItems] at h
    simp [sortSub, sortSub_of_noDotted r h]
  | (k, .aot ts sp) :: r, h => by
    simp only [noDottedItems] at h
    simp [sortSub, sortSub_of_noDotted r h]

theorem sortInlSub_of_noDotted : ∀ l : List (CKey × CVal), noDottedKvs l = true → sortInlSub l = l
  | [], _ => rfl
  | (k, .inl items pre imp dot d sp) :: r, h => by
    simp only [noDottedKvs, Bool.and_eq_true, Bool.not_eq_true'] at h
    simp [sortInlSub, h.1, sortInlSub_of_noDotted r h.2]
  | (k, .scalar a b c) :: r, h => by
    simp only [noDottedKvs] at h
    simp [sortInlSub, sortInlSub_of_noDotted r h]
  | (k, .arr a b c d e) :: r, h => by
    simp only [noDottedKvs] at h
    simp [sortInlSub, sortInlSub_of_noDotted r h]

open Classical in
/-- `sort` restricted to the nodes satisfying the side condition. `Refines u f` speaks of every node, so a condition
    that holds only at the node the path leads to cannot be a hypothesis of it: the condition goes into this
    update, which is `none` off it, and `congr_tbl` exchanges it for `Op.sort.upd` along the path. -/
noncomputable def sortUpdFlat : Upd :=
  ⟨fun t => if SortFlat (.tbl t) then some (sortTbl t) else none,
   fun v => if SortFlat (.val v) then inlSort v else none, noAot⟩

theorem refines_sortFlat : Refines sortUpdFlat pSort where
  tbl t t' h := by
    simp only [sortUpdFlat] at h
    split at h
    · rename_i hf
      simp only [Option.some.injEq] at h; subst h
      cases t with
      | mk items imp dot ps dec sp =>
        simp only [SortFlat, CTbl.items] at hf
        simp only [sortTbl, hf, plainT_mk, pSort, mapKv_sortByCKey]
    · cases h
  val x x' h := by
    simp only [sortUpdFlat] at h
    split at h
    · rename_i hf
      cases x with
      | inl items pre imp dot d sp =>
        simp only [inlSort, Option.some.injEq] at h; subst h
        simp only [SortFlat] at hf
        simp only [sortInl, hf, plainV_inl, pSort, mapKv_sortByCKey]
      | scalar _ _ _ => simp [inlSort] at h
      | arr _ _ _ _ _ => simp [inlSort] at h
    · cases h
  aot ts ts' h := by simp [sortUpdFlat, noAot] at h

theorem refine_sort (rs : List Raw) (p : List Seg) (root r : CTbl)
    (hflat : ∀ n, lookupTbl p root = some n → SortFlat n)
    (h : updTbl (Op.sort.upd rs) p root = some r) : pupd pSort p (plainT root) = some (plainT r) := by
  obtain ⟨n, hn⟩ := upd_look_tbl _ p root r h
  have hf := hflat n hn
  have ha : Agree (Op.sort.upd rs) sortUpdFlat n := by
    cases n with
    | tbl t => simp [Agree, sortUpdFlat, Op.upd, hf]
    | val v => simp [Agree, sortUpdFlat, Op.upd, hf]
    | aot ts sp => simp [Agree, sortUpdFlat, Op.upd]
  rw [← congr_tbl p root n hn ha] at h
  exact refine_tbl refines_sortFlat p root r h

mutual
def plainBeq : Plain → Plain → Bool
  | .scalar a, .scalar b => a == b
  | .arr xs, .arr ys => plainBeqList xs ys
  | .tbl es, .tbl fs => plainBeqEntries es fs
  | _, _ => false
def plainBeqList : List Plain → List Plain → Bool
  | [], [] => true
  | x :: xs, y :: ys => plainBeq x y && plainBeqList xs ys
  | _, _ => false
def plainBeqEntries : List (Bytes × Plain) → List (Bytes × Plain) → Bool
  | [], [] => true
  | (k, x) :: xs, (l, y) :: ys => k == l && plainBeq x y && plainBeqEntries xs ys
  | _, _ => false
end

mutual
theorem plainBeq_sound : ∀ x y : Plain, plainBeq x y = true → x = y
  | .scalar a, .scalar b, h => by simp only [plainBeq, beq_iff_eq] at h; rw [h]
  | .arr xs, .arr ys, h => by simp only [plainBeq] at h; rw [plainBeqList_sound xs ys h]
  | .tbl es, .tbl fs, h => by simp only [plainBeq] at h; rw [plainBeqEntries_sound es fs h]
  | .scalar _, .arr _, h | .scalar _, .tbl _, h | .arr _, .scalar _, h | .arr _, .tbl _, h
  | .tbl _, .scalar _, h | .tbl _, .arr _, h => by simp [plainBeq] at h
theorem plainBeqList_sound : ∀ xs ys : List Plain, plainBeqList xs ys = true → xs = ys
  | [], [], _ => rfl
  | x :: xs, y :: ys, h => by
    simp only [plainBeqList, Bool.and_eq_true] at h
    rw [plainBeq_sound x y h.1, plainBeqList_sound xs ys h.2]
  | [], _ :: _, h | _ :: _, [], h => by simp [plainBeqList] at h
theorem plainBeqEntries_sound : ∀ xs ys : List (Bytes × Plain), plainBeqEntries xs ys = true → xs = ys
  | [], [], _ => rfl
  | (k, x) :: xs, (l, y) :: ys, h => by
    simp only [plainBeqEntries, Bool.and_eq_true, beq_iff_eq] at h
    rw [h.1.1, plainBeq_sound x y h.1.2, plainBeqEntries_sound xs ys h.2]
  | [], _ :: _, h | _ :: _, [], h => by simp [plainBeqEntries] at h
end

mutual
theorem plainBeq_refl : ∀ x : Plain, plainBeq x x = true
  | .scalar a => by simp [plainBeq]
  | .arr xs => by simp [plainBeq, plainBeqList_refl xs]
  | .tbl es => by simp [plainBeq, plainBeqEntries_refl es]
theorem plainBeqList_refl : ∀ xs : List Plain, plainBeqList xs xs = true
  | [] => rfl
  | x :: xs => by simp [plainBeqList, plainBeq_refl x, plainBeqList_refl xs]
theorem plainBeqEntries_refl : ∀ xs : List (Bytes × Plain), plainBeqEntries xs xs = true
  | [] => rfl
  | (k, x) :: xs => by simp [plainBeqEntries, plainBeq_refl x, plainBeqEntries_refl xs]
end

end TomlVerif.Lemmas.Refine08bSort
