import TomlVerif.Model.Tree
/-! A boolean equality test on `Val` with its soundness proof, so that concrete parser results can be
    checked by `decide +kernel` (`Val` is a nested inductive without a derived `DecidableEq`). -/
namespace TomlVerif.Lemmas.ValEq
open TomlVerif TomlVerif.Model

mutual
def beqV : Val → Val → Bool
  | .str a, .str b => a == b
  | .int a, .int b => a == b
  | .float a, .float b => a == b
  | .bool a, .bool b => a == b
  | .dt a, .dt b => a == b
  | .arr a, .arr b => beqL a b
  | .inl a i d, .inl b i' d' => beqP a b && i == i' && d == d'
  | _, _ => false
def beqL : List Val → List Val → Bool
  | [], [] => true
  | a :: r, b :: t => beqV a b && beqL r t
  | _, _ => false
def beqP : List (Bytes × Val) → List (Bytes × Val) → Bool
  | [], [] => true
  | (k, a) :: r, (k', b) :: t => k == k' && beqV a b && beqP r t
  | _, _ => false
end

mutual
theorem beqV_sound : ∀ a b : Val, beqV a b = true → a = b
  | .str a, b, h | .int a, b, h | .float a, b, h | .bool a, b, h | .dt a, b, h => by cases b <;> simp_all [beqV]
  | .arr a, b, h => by
    cases b <;> simp [beqV] at h
    rw [beqL_sound a _ h]
  | .inl a i d, b, h => by
    cases b <;> simp [beqV] at h
    rw [beqP_sound a _ h.1.1, h.1.2, h.2]
theorem beqL_sound : ∀ a b : List Val, beqL a b = true → a = b
  | [], b, h => by cases b <;> simp_all [beqL]
  | x :: r, b, h => by
    cases b with
    | nil => simp [beqL] at h
    | cons y t =>
      simp [beqL] at h
      rw [beqV_sound x y h.1, beqL_sound r t h.2]
theorem beqP_sound : ∀ a b : List (Bytes × Val), beqP a b = true → a = b
  | [], b, h => by cases b <;> simp_all [beqP]
  | (k, x) :: r, b, h => by
    cases b with
    | nil => simp [beqP] at h
    | cons y t =>
      obtain ⟨k', y⟩ := y
      simp [beqP] at h
      rw [h.1.1, beqV_sound x y h.1.2, beqP_sound r t h.2]
end

def okIs (r : Res Val) (v : Val) (rest : Bytes) : Bool :=
  match r with
  | .ok v' r' => beqV v' v && r' == rest
  | _ => false

theorem okIs_sound (r : Res Val) (v : Val) (rest : Bytes) (h : okIs r v rest = true) : r = .ok v rest := by
  cases r with
  | ok v' r' =>
    simp [okIs] at h
    rw [beqV_sound v' v h.1, h.2]
  | bt | cut => simp [okIs] at h

def someIs (r : Option Val) (v : Val) : Bool :=
  match r with
  | some v' => beqV v' v
  | none => false

theorem someIs_sound (r : Option Val) (v : Val) (h : someIs r v = true) : r = some v := by
  cases r with
  | some v' => simp [someIs] at h; rw [beqV_sound v' v h]
  | none => simp [someIs] at h

def someLIs (r : Option (List (Bytes × Val))) (v : List (Bytes × Val)) : Bool :=
  match r with
  | some v' => beqP v' v
  | none => false

theorem someLIs_sound (r : Option (List (Bytes × Val))) (v : List (Bytes × Val)) (h : someLIs r v = true) :
    r = some v := by
  cases r with
  | some v' => simp [someLIs] at h; rw [beqP_sound v' v h]
  | none => simp [someLIs] at h

end TomlVerif.Lemmas.ValEq
