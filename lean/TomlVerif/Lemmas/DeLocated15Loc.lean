import TomlVerif.Lemmas.DeLocated15
import TomlVerif.Model.DeSpanned
/-! For C15 (and, through `decodeSp`, C14): the rule that locates an error, as a relation (`Loc`), what the combinators
    of `Model/DeLocated.lean` do to it, and the loop of a derived struct's `visit_map` inverted for both outcomes. -/
namespace TomlVerif.Lemmas.DeLocated15
open TomlVerif TomlVerif.Model TomlVerif.Model.TomlValue TomlVerif.Model.DeRoutes TomlVerif.Model.DeText
open TomlVerif.Model.DeTyped TomlVerif.Model.Cst TomlVerif.Model.DeLocated
open TomlVerif.Model.DeSpanned (walkG)

/-- `Loc it keys span`: the (keys, span) pairs an error raised while decoding the node `it` may carry.
    The keys are the table entries passed on the way down, outermost first, every one an entry of the node reached so
    far; array elements, the single entry of an enum's table and the numeric keys of a tuple variant's table are passed
    WITHOUT a key. The span is the span of a node on that way, filled in by that node's `map_err` while the error had
    none (`fallback`), or the span of a key of the node reached (`key`), or — in an entry whose value gave no span —
    the value's span, else the entry key's (`entry`). The relation lists what a step may do; it does not say that the
    innermost node with a span is the one that fills it in (`pending` then `fallback` at an outer node is a derivation):
    for sequences that is `elem_error_inside`. -/
inductive Loc : CItem → List Bytes → Option Span → Prop where
  /-- an error just raised by a visitor: no span, no keys -/
  | pending (it : CItem) : Loc it [] none
  /-- a key of the node: unknown variant, unexpected key of a struct variant, wrong index key, not the date-time key -/
  | key {it : CItem} {es : List (CKey × CItem)} {k : CKey} {v : CItem} :
      citemEntries it = some es → (k, v) ∈ es → Loc it [] (keySpan k)
  /-- `TableMapAccess::next_value_seed` -/
  | entry {it : CItem} {es : List (CKey × CItem)} {k : CKey} {v : CItem} {ks : List Bytes} {sp : Option Span} :
      citemEntries it = some es → (k, v) ∈ es → Loc v ks sp →
      Loc it (k.key :: ks) (if sp.isNone then entrySpan k v else sp)
  /-- `ArraySeqAccess::next_element_seed` -/
  | elem {it : CItem} {l : List CItem} {v : CItem} {ks : List Bytes} {sp : Option Span} :
      citemElems it = some l → v ∈ l → Loc v ks sp → Loc it ks sp
  /-- the payload of an enum read from a one-entry table -/
  | variant {it : CItem} {k : CKey} {v : CItem} {ks : List Bytes} {sp : Option Span} :
      citemEntries it = some [(k, v)] → Loc v ks sp → Loc it ks sp
  /-- a component of a tuple variant read from a table with the keys "0", "1", … -/
  | index {it : CItem} {es : List (CKey × CItem)} {k : CKey} {v : CItem} {ks : List Bytes} {sp : Option Span} :
      citemEntries it = some es → (k, v) ∈ es → (parseUsize k.key).isSome = true → Loc v ks sp → Loc it ks sp
  /-- the `map_err` of a `ValueDeserializer` method: the node's span when there is none yet -/
  | fallback {it : CItem} {ks : List Bytes} : Loc it ks none → Loc it ks it.span

def LocE {α} (it : CItem) (x : LR α) : Prop := ∀ e, x = .error e → Loc it e.keys e.span

theorem Loc.self (it : CItem) : Loc it [] it.span := .fallback (.pending it)

theorem locE_ok {α} (it : CItem) (a : α) : LocE it (.ok a : LR α) := by intro e h; cases h
theorem locE_vfail {α} (it : CItem) : LocE it (vfail : LR α) := by
  intro e h; cases h; exact .pending it
theorem locE_liftV {α} (it : CItem) (r : R α) : LocE it (liftV r) := by
  cases r with
  | ok a => exact locE_ok it a
  | error x => exact locE_vfail it
theorem locE_failAt_self {α} (it : CItem) : LocE it (failAt it.span : LR α) := by
  intro e h; cases h; exact Loc.self it

theorem locE_atSpan {α} (it : CItem) (x : LR α) (h : LocE it x) : LocE it (atSpan it.span x) := by
  intro e he
  cases x with
  | ok a => cases he
  | error e0 =>
    have h0 := h e0 rfl
    cases hs : e0.span with
    | none =>
      rw [hs] at h0
      simp only [atSpan, hs, Option.isNone_none, if_true, Except.error.injEq] at he
      rw [← he]
      exact Loc.fallback h0
    | some s =>
      simp only [atSpan, hs, Option.isNone_some, Bool.false_eq_true, if_false, Except.error.injEq] at he
      rw [← he]
      exact h0

theorem locE_lmap {α β} (it : CItem) (f : α → β) (x : LR α) (h : LocE it x) : LocE it (lmap f x) := by
  intro e he
  cases x with
  | ok a => cases he
  | error e0 => cases he; exact h _ rfl

theorem lcons_error {α} (a : LR α) (l : LR (List α)) (e : LErr) (h : lcons a l = .error e) :
    a = .error e ∨ l = .error e := by
  cases a with
  | error e0 => cases h; exact Or.inl rfl
  | ok x =>
    cases l with
    | error e1 => cases h; exact Or.inr rfl
    | ok y => cases h

theorem mapL_error {α β} (f : α → LR β) : ∀ (l : List α) (e : LErr), mapL f l = .error e → ∃ a ∈ l, f a = .error e
  | [], e, h => by cases h
  | a :: r, e, h => by
    rcases lcons_error _ _ _ h with h1 | h1
    · exact ⟨a, List.mem_cons_self .., h1⟩
    · obtain ⟨x, hx, hf⟩ := mapL_error f r e h1
      exact ⟨x, List.mem_cons_of_mem _ hx, hf⟩

theorem inEntry_error {α} (sp : Option Span) (k : Bytes) (x : LR α) (e : LErr) (h : inEntry sp k x = .error e) :
    ∃ e0, x = .error e0 ∧ e = ⟨if e0.span.isNone then sp else e0.span, k :: e0.keys⟩ := by
  cases x with
  | ok a => cases h
  | error e0 => cases h; exact ⟨_, rfl, rfl⟩

theorem lmap_error {α β} (f : α → β) (x : LR α) (e : LErr) (h : lmap f x = .error e) : x = .error e := by
  cases x with
  | ok a => cases h
  | error e0 => cases h; rfl

theorem liftV_error {α} (r : R α) (e : LErr) (h : liftV r = .error e) : e = visitorErr := by
  cases r with
  | ok a => cases h
  | error x => cases h; rfl

/-- what an entry's `next_value_seed` error looks like -/
def EntryLoc (src : LSrc) (e : LErr) : Prop :=
  match src with
  | .item key i => ∃ ks sp, Loc i ks sp ∧ e = ⟨if sp.isNone then entrySpan key i else sp, key.key :: ks⟩
  | .str _ => e = visitorErr

theorem entryLoc_to_loc (it : CItem) (es : List (Bytes × LSrc)) (h : locMapEntries it = some es) (key : Bytes) (src : LSrc)
    (hm : (key, src) ∈ es) (e : LErr) (he : EntryLoc src e) : Loc it e.keys e.span := by
  cases src with
  | str s => simp only [EntryLoc] at he; subst he; exact .pending it
  | item k i =>
    obtain ⟨ks, sp, hl, rfl⟩ := he
    obtain ⟨ces, hc, hmem, _⟩ := srcs_item_mem it es h key k i hm
    exact .entry hc hmem hl

/-- the loop of a derived struct's `visit_map` is written twice in the model (`walkG` of Model/DeSpanned.lean is generic in
    the value type): facts are stated of `walkG` and read off for `walkEntries` -/
theorem walkEntries_eq_walkG {ε σ} (dup : ε) (known : Bytes → Bool) (f : Bytes → σ → Except ε (Option Dec)) :
    ∀ (es : List (Bytes × σ)) (seen : List Bytes), walkEntries dup known f seen es = walkG dup known f seen es
  | [], _ => rfl
  | (k, s) :: r, seen => by
    unfold walkEntries walkG
    rw [walkEntries_eq_walkG dup known f r seen, walkEntries_eq_walkG dup known f r (k :: seen)]
    split
    · rfl
    · cases f k s with
      | error e => rfl
      | ok o => cases o <;> simp only [] <;> cases walkG dup known f (k :: seen) r <;> rfl

theorem walkG_inv {ε σ δ} (dup : ε) (known : Bytes → Bool) (f : Bytes → σ → Except ε (Option δ)) :
    ∀ (es : List (Bytes × σ)) (seen : List Bytes),
    match walkG dup known f seen es with
    | .ok ds => ∀ kd ∈ ds, ∃ kv ∈ es, f kv.1 kv.2 = .ok (some kd.2)
    | .error e => e = dup ∨ ∃ kv ∈ es, f kv.1 kv.2 = .error e
  | [], _ => by simp [walkG]
  | (k, s) :: r, seen => by
    have lift : ∀ {P : Bytes × σ → Prop}, (∃ kv ∈ r, P kv) → ∃ kv ∈ (k, s) :: r, P kv :=
      fun ⟨kv, hkv, h⟩ => ⟨kv, List.mem_cons_of_mem _ hkv, h⟩
    unfold walkG
    by_cases hc : (known k && seen.contains k) = true
    · rw [if_pos hc]; exact Or.inl rfl
    · rw [if_neg hc]
      cases hf : f k s with
      | error e => exact Or.inr ⟨(k, s), List.mem_cons_self .., hf⟩
      | ok o =>
        cases o with
        | none =>
          have ih := walkG_inv dup known f r seen
          cases hw : walkG dup known f seen r with
          | error e => rw [hw] at ih; exact ih.imp_right lift
          | ok ds => rw [hw] at ih; exact fun kd hkd => lift (ih kd hkd)
        | some d =>
          have ih := walkG_inv dup known f r (k :: seen)
          cases hw : walkG dup known f (k :: seen) r with
          | error e => rw [hw] at ih; exact ih.imp_right lift
          | ok ds =>
            rw [hw] at ih
            intro kd hkd
            rcases List.mem_cons.1 hkd with rfl | hkd
            · exact ⟨(k, s), List.mem_cons_self .., hf⟩
            · exact lift (ih kd hkd)

theorem walk_error {σ} (known : Bytes → Bool) (f : Bytes → σ → LR (Option Dec))
    (es : List (Bytes × σ)) (seen : List Bytes) (e : LErr) (h : walkEntries visitorErr known f seen es = .error e) :
    e = visitorErr ∨ ∃ kv ∈ es, f kv.1 kv.2 = .error e := by
  have := walkG_inv visitorErr known f es seen
  rw [← walkEntries_eq_walkG, h] at this
  exact this

theorem fill_error : ∀ (fs : Fields) (ds : List (Bytes × Dec)) (e : LErr), fillFields visitorErr fs ds = .error e → e = visitorErr
  | .nil, _, e, h => by cases h
  | .cons name t dflt r, ds, e, h => by
    rw [fillFields_cons] at h
    cases hf : filled t dflt (alookup name ds) with
    | none => rw [hf] at h; cases h; rfl
    | some d =>
      rw [hf] at h
      cases hr : fillFields visitorErr r ds with
      | ok l => rw [hr] at h; cases h
      | error e0 => rw [hr] at h; cases h; exact fill_error r ds _ hr

theorem struct_body_loc (it : CItem) (fs : Fields) (f : Bytes → LSrc → LR (Option Dec))
    (es : List (Bytes × LSrc)) (hl : locMapEntries it = some es)
    (hf : ∀ kv ∈ es, ∀ e, f kv.1 kv.2 = .error e → EntryLoc kv.2 e) :
    LocE it (match walkEntries visitorErr fs.hasName f [] es with
             | .error e => .error e
             | .ok ds => lmap Dec.struct (fillFields visitorErr fs ds)) := by
  intro e he
  cases hw : walkEntries visitorErr fs.hasName f [] es with
  | error e0 =>
    rw [hw] at he; cases he
    rcases walk_error _ _ _ _ _ hw with h1 | ⟨kv, hkv, h1⟩
    · subst h1; exact .pending it
    · exact entryLoc_to_loc it es hl kv.1 kv.2 hkv e (hf kv hkv e h1)
  | ok ds =>
    rw [hw] at he
    have := fill_error fs ds e (lmap_error _ _ _ he)
    subst this; exact .pending it

theorem firstExtraKey_mem (fs : Fields) : ∀ (es : List (CKey × CItem)) (k : CKey), firstExtraKey fs es = some k →
    ∃ v, (k, v) ∈ es
  | [], k, h => by cases h
  | (k0, v0) :: r, k, h => by
    unfold firstExtraKey at h
    split at h
    · obtain ⟨v, hv⟩ := firstExtraKey_mem fs r k h
      exact ⟨v, List.mem_cons_of_mem _ hv⟩
    · cases h; exact ⟨v0, List.mem_cons_self ..⟩

theorem firstBadIndex_mem : ∀ (es : List (CKey × CItem)) (i : Nat) (k : CKey), firstBadIndex i es = some k →
    ∃ v, (k, v) ∈ es
  | [], _, k, h => by cases h
  | (k0, v0) :: r, i, k, h => by
    unfold firstBadIndex at h
    split at h
    · obtain ⟨v, hv⟩ := firstBadIndex_mem r (i + 1) k h
      exact ⟨v, List.mem_cons_of_mem _ hv⟩
    · cases h; exact ⟨v0, List.mem_cons_self ..⟩

theorem firstBadIndex_none : ∀ (es : List (CKey × CItem)) (i : Nat), firstBadIndex i es = none →
    ∀ kv ∈ es, (parseUsize kv.1.key).isSome = true
  | [], _, _, kv, hkv => by cases hkv
  | (k0, v0) :: r, i, h, kv, hkv => by
    unfold firstBadIndex at h
    split at h
    · rename_i hp
      rcases List.mem_cons.1 hkv with h1 | h1
      · subst h1
        have : parseUsize k0.key = some i := by simpa using hp
        simp [this]
      · exact firstBadIndex_none r (i + 1) h kv h1
    · cases h

end TomlVerif.Lemmas.DeLocated15
