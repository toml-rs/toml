import TomlVerif.Model.DeLocated
import TomlVerif.Lemmas.CstEraseKey
import TomlVerif.Lemmas.DeTyped13
/-! For C15 (and, through `decodeSp`, C14): forgetting the location (`toR`) commutes with every combinator of
    `Model/DeLocated.lean`; the spanned tree erases to the tree `decodeEdit` runs on; a struct variant is the struct
    target with a tag, under the same `map_err`. -/
namespace TomlVerif.Lemmas.DeLocated15
open TomlVerif TomlVerif.Model TomlVerif.Model.TomlValue TomlVerif.Model.DeRoutes TomlVerif.Model.DeText
open TomlVerif.Model.DeTyped TomlVerif.Model.Cst TomlVerif.Model.DeLocated
open TomlVerif.Lemmas.Tiling03More (mapKv eraseItems_eq eraseKvs_eq eraseVals_eq eraseTbls_eq)

/-- forget where the error is -/
def toR {α} : LR α → R α
  | .ok a => .ok a
  | .error _ => fail

@[simp] theorem toR_ok {α} (a : α) : toR (.ok a : LR α) = .ok a := rfl
@[simp] theorem toR_error {α} (e : LErr) : toR (.error e : LR α) = fail := rfl
@[simp] theorem toR_vfail {α} : toR (vfail : LR α) = fail := rfl
@[simp] theorem toR_failAt {α} (sp : Option Span) : toR (failAt sp : LR α) = fail := rfl

@[simp] theorem toR_atSpan {α} (sp : Option Span) (x : LR α) : toR (atSpan sp x) = toR x := by
  cases x <;> rfl

@[simp] theorem toR_inEntry {α} (sp : Option Span) (k : Bytes) (x : LR α) : toR (inEntry sp k x) = toR x := by
  cases x <;> rfl

@[simp] theorem toR_liftV {α} (x : R α) : toR (liftV x) = x := by
  cases x with
  | ok a => rfl
  | error e => cases e; rfl

@[simp] theorem toR_lmap {α β} (f : α → β) (x : LR α) : toR (lmap f x) = rmap f (toR x) := by
  cases x <;> rfl

@[simp] theorem toR_lcons {α} (a : LR α) (l : LR (List α)) : toR (lcons a l) = rcons (toR a) (toR l) := by
  cases a <;> cases l <;> rfl

theorem toR_mapL {α β γ} (f : α → LR β) (g : γ → R β) (er : α → γ) :
    ∀ l : List α, (∀ a ∈ l, toR (f a) = g (er a)) → toR (mapL f l) = mapE g (l.map er)
  | [], _ => rfl
  | a :: r, h => by
    simp only [mapL, List.map_cons, mapE, toR_lcons]
    rw [h a (List.mem_cons_self ..), toR_mapL f g er r fun x hx => h x (List.mem_cons_of_mem _ hx)]

theorem shapeCheck_cases (ty : Ty) (d : Datetime.Datetime) : shapeCheck ty d = .ok (.dt d) ∨ shapeCheck ty d = vfail := by
  unfold shapeCheck
  split <;> first | exact .inl rfl | (split <;> first | exact .inl rfl | exact .inr rfl)

/-- what a field of type `t` holds after a derived struct's `visit_map` loop, `o` being what the loop decoded for it:
    that, else `Default::default()`, else `missing_field` (`None` for an `Option`); `none`: the struct is refused -/
def filled (t : Ty) (dflt : Bool) : Option Dec → Option Dec
  | some d => some d
  | none => if dflt then some .dflt else
    match missingField t with
    | .ok d => some d
    | .error _ => none

theorem fillFields_cons {ε} (missing : ε) (name : Bytes) (t : Ty) (dflt : Bool) (r : Fields) (ds : List (Bytes × Dec)) :
    fillFields missing (.cons name t dflt r) ds =
      match filled t dflt (alookup name ds) with
      | some d => (fillFields missing r ds).map fun l => (name, d) :: l
      | none => .error missing := by
  conv => lhs; unfold fillFields
  generalize fillFields missing r ds = rest
  unfold filled
  cases alookup name ds with
  | some d => cases rest <;> rfl
  | none =>
    cases dflt with
    | true => cases rest <;> rfl
    | false => cases missingField t <;> cases rest <;> rfl

theorem decodeLocShape_struct (fl : Flavour) (fs : Fields) (n : Bytes) (p : CItem) :
    decodeLocShape fl (.struct fs) n p =
      match (citemEntries p).bind (firstExtraKey fs) with
      | some k => atSpan p.span (failAt (keySpan k))
      | none => lmap (DeTyped13.asVariant n) (decodeLoc fl (.struct fs) p) := by
  have tag : ∀ x : LR (List (Bytes × Dec)), lmap (.vStruct n) x = lmap (DeTyped13.asVariant n) (lmap .struct x) := by
    intro x; cases x <;> rfl
  unfold decodeLocShape decodeLoc
  cases (citemEntries p).bind (firstExtraKey fs) with
  | some k => rfl
  | none =>
    have hat : ∀ x : LR Dec, lmap (DeTyped13.asVariant n) (atSpan p.span x) = atSpan p.span (lmap (DeTyped13.asVariant n) x) := by
      intro x; cases x <;> rfl
    simp only [hat]
    congr 1
    cases locMapEntries p with
    | some es => simp only []; split <;> first | rfl | exact tag _
    | none => cases citemElems p <;> first | rfl | exact tag _

theorem citemEntries_ok {it : CItem} {es : List (CKey × CItem)} (h : citemEntries it = some es) :
    (∃ t, it = .table t ∧ es = t.items) ∨
    (∃ items p i dt d s, it = .value (.inl items p i dt d s) ∧ es = items.map fun kv => (kv.1, CItem.value kv.2)) ∨
    (∃ items a b r d, it = .value (.scalar (.inl items a b) r d) ∧
      es = items.map fun kv => (bareKey kv.1, bareItem kv.2)) := by
  cases it with
  | table t => injection h with h; exact .inl ⟨t, rfl, h.symm⟩
  | aot => cases h
  | value x =>
    cases x with
    | arr => cases h
    | inl items p i dt d s => injection h with h; exact .inr (.inl ⟨items, p, i, dt, d, s, rfl, h.symm⟩)
    | scalar x r d =>
      cases x with
      | inl items a b => injection h with h; exact .inr (.inr ⟨items, a, b, r, d, rfl, h.symm⟩)
      | _ => cases h

theorem citemElems_ok {it : CItem} {l : List CItem} (h : citemElems it = some l) :
    (∃ ts s, it = .aot ts s ∧ l = ts.map CItem.table) ∨
    (∃ items t c d s, it = .value (.arr items t c d s) ∧ l = items.map CItem.value) ∨
    (∃ items r d, it = .value (.scalar (.arr items) r d) ∧ l = items.map bareItem) := by
  cases it with
  | table t => cases h
  | aot ts s => injection h with h; exact .inl ⟨ts, s, rfl, h.symm⟩
  | value x =>
    cases x with
    | inl => cases h
    | arr items t c d s => injection h with h; exact .inr (.inl ⟨items, t, c, d, s, rfl, h.symm⟩)
    | scalar x r d =>
      cases x with
      | arr items => injection h with h; exact .inr (.inr ⟨items, r, d, rfl, h.symm⟩)
      | _ => cases h

theorem locMapEntries_ok {it : CItem} {es : List (Bytes × LSrc)} (h : locMapEntries it = some es) :
    (∃ s, es = [(FIELD, .str s)]) ∨
    ∃ ces, citemEntries it = some ces ∧ es = ces.map fun kv => (kv.1.key, LSrc.item kv.1 kv.2) := by
  unfold locMapEntries at h
  split at h
  · injection h with h; exact .inl ⟨_, h.symm⟩
  · cases hc : citemEntries it with
    | none => rw [hc] at h; cases h
    | some ces => rw [hc] at h; injection h with h; exact .inr ⟨ces, rfl, h.symm⟩

theorem locMapEntries_of_elems {it : CItem} {l : List CItem} (h : citemElems it = some l) : locMapEntries it = none := by
  rcases citemElems_ok h with ⟨ts, s, rfl, _⟩ | ⟨items, t, c, d, s, rfl, _⟩ | ⟨items, r, d, rfl, _⟩ <;> rfl

theorem srcs_item_mem (it : CItem) (es : List (Bytes × LSrc)) (h : locMapEntries it = some es) (key : Bytes) (k : CKey) (i : CItem)
    (hkv : (key, LSrc.item k i) ∈ es) : ∃ ces, citemEntries it = some ces ∧ (k, i) ∈ ces ∧ key = k.key := by
  rcases locMapEntries_ok h with ⟨s, rfl⟩ | ⟨ces, hc, rfl⟩
  · cases List.mem_singleton.1 hkv
  · obtain ⟨x, hx, e⟩ := List.mem_map.1 hkv
    cases e
    exact ⟨ces, hc, hx, rfl⟩

def eraseEntries (es : List (CKey × CItem)) : List (Bytes × Item) := es.map fun kv => (kv.1.key, eraseItem kv.2)

theorem itemEntries_erase (it : CItem) : itemEntries (eraseItem it) = (citemEntries it).map eraseEntries := by
  cases it with
  | value v =>
    cases v with
    | scalar v r d =>
      cases v <;> simp [eraseItem, eraseVal, itemEntries, citemEntries, eraseEntries, Function.comp_def, bareItem, bareKey]
    | arr items t c d sp => simp [eraseItem, eraseVal, itemEntries, citemEntries]
    | inl items p i dt d sp =>
      simp [eraseItem, eraseVal, itemEntries, citemEntries, eraseKvs_eq, mapKv, eraseEntries, Function.comp_def]
  | table t =>
    cases t with
    | mk items i d p dc sp => simp [eraseItem, eraseTbl, itemEntries, citemEntries, eraseItems_eq, mapKv, eraseEntries, Tbl.items, CTbl.items]
  | aot ts sp => simp [eraseItem, itemEntries, citemEntries]

theorem itemElems_erase (it : CItem) : itemElems (eraseItem it) = (citemElems it).map fun l => l.map eraseItem := by
  cases it with
  | value v =>
    cases v with
    | scalar v r d => cases v <;> simp [eraseItem, eraseVal, itemElems, citemElems, Function.comp_def, bareItem]
    | arr items t c d sp =>
      simp [eraseItem, eraseVal, itemElems, citemElems, eraseVals_eq, Function.comp_def]
    | inl items p i dt d sp => simp [eraseItem, eraseVal, itemElems, citemElems]
  | table t => simp [eraseItem, itemElems, citemElems]
  | aot ts sp => simp [eraseItem, itemElems, citemElems, eraseTbls_eq, Function.comp_def]

def eraseSrc : LSrc → ESrc
  | .item _ i => .item (eraseItem i)
  | .str s => .str s

def eraseSrcs (es : List (Bytes × LSrc)) : List (Bytes × ESrc) := es.map fun kv => (kv.1, eraseSrc kv.2)

theorem editMapEntries_erase (it : CItem) : editMapEntries (eraseItem it) = (locMapEntries it).map eraseSrcs := by
  unfold locMapEntries editMapEntries
  split
  · rename_i h; rw [h]; rfl
  · rename_i h
    split
    · rename_i h'; exact absurd h' (h _)
    · simp [itemEntries_erase, eraseSrcs, eraseSrc, eraseEntries, Function.comp_def]

end TomlVerif.Lemmas.DeLocated15
