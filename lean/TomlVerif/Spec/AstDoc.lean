import TomlVerif.Spec.AstValue
import TomlVerif.Lemmas.ValueBytes01
import TomlVerif.Lemmas.State09
/-! Abstract syntax of TOML documents (toml.abnf `toml = expression *( newline expression )`,
    `expression = ws [comment] / ws keyval ws [comment] / ws table ws [comment]`): one constructor per
    line kind.  Keys are *abstract*: a key segment is any token that `simple_key` reads back exactly
    whenever no bare-key character follows (instances: bare keys, every key the writer produces).
    `render` writes a document as bytes, `stmts` is the statement sequence it denotes
    (`Lemmas/State09.lean`: `Stmt`, `step`, `run`). -/
namespace TomlVerif.Spec.AstDoc
open TomlVerif TomlVerif.Spec TomlVerif.Model TomlVerif.Model.Value TomlVerif.Spec.AstValue
open TomlVerif.Lemmas.Value01 (commentBytes)
open TomlVerif.Lemmas.State09 (Stmt)

/-- what may follow a key token: nothing, or a byte that is not a bare-key character -/
def KeyFollow (rest : Bytes) : Prop := ∀ x r, rest = x :: r → isUnquotedChar x = false

/-- a simple key with the blanks around it: `tok` is the key as written, `name` the decoded key -/
structure KeySeg where
  pre : Bytes
  tok : Bytes
  name : Bytes
  post : Bytes

def KeySeg.render (k : KeySeg) : Bytes := k.pre ++ (k.tok ++ k.post)

/-- the blanks are blanks and `simple_key` reads the token back as `name`, consuming exactly the token -/
def KeySegOK (k : KeySeg) : Prop :=
  AllWs k.pre ∧ AllWs k.post ∧ ∀ rest, KeyFollow rest → Key.simpleKey (k.tok ++ rest) = .ok k.name rest

/-- a dotted key `k0 . k1 . … . kn` (`more = []`: a plain key) -/
structure KeyPath where
  first : KeySeg
  more : List KeySeg

/-- `. ws key ws` repeated -/
def renderSep : List KeySeg → Bytes
  | [] => []
  | k :: r => 0x2E :: (k.render ++ renderSep r)

def KeyPath.render (p : KeyPath) : Bytes := p.first.render ++ renderSep p.more
/-- the decoded components -/
def KeyPath.names (p : KeyPath) : List Bytes := p.first.name :: p.more.map KeySeg.name
/-- every component is a key segment, and there are fewer than `LIMIT` components -/
def KeyPath.OK (p : KeyPath) : Prop := KeySegOK p.first ∧ (∀ k ∈ p.more, KeySegOK k) ∧ p.more.length + 1 < LIMIT
/-- the tables a dotted key goes through: all components but the last -/
def KeyPath.path (p : KeyPath) : List Bytes := (splitKeys p.first.name (p.more.map KeySeg.name)).1
/-- the key that is assigned: the last component -/
def KeyPath.last (p : KeyPath) : Bytes := (splitKeys p.first.name (p.more.map KeySeg.name)).2

/-- what may follow a dotted key: nothing, or a byte that is neither a bare-key character nor a blank
    nor a dot (in a document: `=` or `]`) -/
def PathFollow (rest : Bytes) : Prop :=
  ∀ x r, rest = x :: r → isUnquotedChar x = false ∧ isWschar x = false ∧ x ≠ 0x2E

/-- one line of a document, without its line end -/
inductive Line where
  /-- `ws` -/
  | blank (ws : Bytes)
  /-- `ws # body` -/
  | comment (ws body : Bytes)
  /-- `path = w1 v w2 [# cm]` (the blanks before the key are the `pre` of the first segment) -/
  | keyval (path : KeyPath) (w1 : Bytes) (v : AVal) (w2 : Bytes) (cm : Option Bytes)
  /-- `ws [ path ] w2 [# cm]` -/
  | std (ws : Bytes) (path : KeyPath) (w2 : Bytes) (cm : Option Bytes)
  /-- `ws [[ path ]] w2 [# cm]` -/
  | aot (ws : Bytes) (path : KeyPath) (w2 : Bytes) (cm : Option Bytes)

def Line.render : Line → Bytes
  | .blank ws => ws
  | .comment ws body => ws ++ 0x23 :: body
  | .keyval p w1 v w2 cm => p.render ++ 0x3D :: (w1 ++ (AstValue.render v ++ (w2 ++ commentBytes cm)))
  | .std ws p w2 cm => ws ++ 0x5B :: (p.render ++ 0x5D :: (w2 ++ commentBytes cm))
  | .aot ws p w2 cm => ws ++ 0x5B :: 0x5B :: (p.render ++ 0x5D :: 0x5D :: (w2 ++ commentBytes cm))

def CommentOK (cm : Option Bytes) : Prop := ∀ body, cm = some body → ∀ b ∈ body, isNonEol b = true

/-- well-formed line: blanks are blanks, comment text is `non-eol`, keys are key segments, the value is
    well formed, and the tables of the dotted key plus the nesting of the value stay below the limit -/
def Line.WF : Line → Prop
  | .blank ws => AllWs ws
  | .comment ws body => AllWs ws ∧ ∀ b ∈ body, isNonEol b = true
  | .keyval p w1 v w2 cm => p.OK ∧ AllWs w1 ∧ AstValue.WF v ∧ p.more.length + depth v < LIMIT ∧ AllWs w2 ∧ CommentOK cm
  | .std ws p w2 cm => AllWs ws ∧ p.OK ∧ AllWs w2 ∧ CommentOK cm
  | .aot ws p w2 cm => AllWs ws ∧ p.OK ∧ AllWs w2 ∧ CommentOK cm

/-- the statement a line denotes, if any -/
def Line.stmt : Line → Option Stmt
  | .blank _ => none
  | .comment _ _ => none
  | .keyval p _ v _ _ => some (.kv p.path p.last (sem v))
  | .std _ p _ _ => some (.std p.names)
  | .aot _ p _ _ => some (.arr p.names)

/-- a document: optional byte-order mark, lines each ended by LF (`false`) or CRLF (`true`), and
    optionally a last line without line end -/
structure Doc where
  bom : Bool
  lines : List (Line × Bool)
  last : Option Line

def bomBytes (b : Bool) : Bytes := if b then [0xEF, 0xBB, 0xBF] else []

def renderLines : List (Line × Bool) → Bytes
  | [] => []
  | (l, c) :: r => l.render ++ (nlBytes c ++ renderLines r)

def renderLast : Option Line → Bytes
  | none => []
  | some l => l.render

def Doc.render (d : Doc) : Bytes := bomBytes d.bom ++ (renderLines d.lines ++ renderLast d.last)

def stmtsLines : List (Line × Bool) → List Stmt
  | [] => []
  | (l, _) :: r => match l.stmt with
    | some s => s :: stmtsLines r
    | none => stmtsLines r

def stmtsLast : Option Line → List Stmt
  | none => []
  | some l => match l.stmt with
    | some s => [s]
    | none => []

/-- the statement sequence of a document -/
def Doc.stmts (d : Doc) : List Stmt := stmtsLines d.lines ++ stmtsLast d.last

def Doc.WF (d : Doc) : Prop := (∀ p ∈ d.lines, p.1.WF) ∧ ∀ l, d.last = some l → l.WF

end TomlVerif.Spec.AstDoc
