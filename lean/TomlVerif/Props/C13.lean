import TomlVerif.Lemmas.DeRoutes13
import TomlVerif.Props.C12
/-! C13 — the decoding routes present the same data to serde (`T13_de_routes_patched`), and `Value::try_from` gives a
date-time leaf back as the text route does (`T13_try_from_patched`; for whole trees: `T17_roundtrip`).
The statements are about Model/DeRoutes.lean; the parameters `dtAsMap` / `honourName` are two lines of
`crates/toml/src/value.rs` on which /repo differs from the upstream crate (finding F7): `false` is the upstream code,
`true` is /repo (`currentDtAsMap`, `currentHonourName`). With `false` both statements fail for date-times. -/
namespace TomlVerif.Props.C13
open TomlVerif TomlVerif.Model TomlVerif.Model.TomlValue TomlVerif.Model.DeRoutes TomlVerif.Lemmas.DeRoutes13
open TomlVerif.Model.Datetime

/-- The model describes /repo: `Value::Datetime` is presented as the private one-entry map, and
`ValueSerializer::serialize_struct` honours the private struct name (the check ties both switches to the source text of
value.rs). So `T13_de_routes_patched` / `T13_try_from_patched` are the statements about /repo, and those with a switch
`false` describe the upstream value.rs. -/
theorem T13_current_code : currentDtAsMap = true ∧ currentHonourName = true := ⟨rfl, rfl⟩

/-- The full-strength statement: for every tree, `impl Deserializer for toml::Value` shows a visitor what
`toml_edit`'s `ValueDeserializer` shows for the same data. FALSE for `dtAsMap = false`, the upstream value.rs
(`T13_finding_datetime`); true for `dtAsMap = true`, where `Value::Datetime` is presented as the private one-entry map:
/repo (`T13_current_code`, `T13_de_routes_patched`). -/
def DeRoutesAgree (dtAsMap : Bool) : Prop := ∀ v : TV, presValue dtAsMap v = presEdit v

/-- On trees without a date-time leaf the two presentations agree, whatever the date-time presentation is: the two
values of the switch differ in the `Value::Datetime` arm only. -/
theorem T13_de_routes_partial (dtAsMap : Bool) (v : TV) (h : noDt v = true) : presValue dtAsMap v = presEdit v :=
  presValue_eq_presEdit dtAsMap v h

/-- non-vacuity: `{ a = [1, "x"], t = { b = true } }` has no date-time leaf -/
example : noDt (.tbl [([97], .arr [.int 1, .str [120]]), ([116], .tbl [([98], .bool true)])]) = true := by rfl

/-- /repo (`Value::Datetime` → `visit_map` over the private key): the full statement holds -/
theorem T13_de_routes_patched : DeRoutesAgree true := presValue_true_eq

/-- F7, decoding direction: for the upstream value.rs the presentations differ on every date-time leaf; `Datetime::deserialize` fails on the `toml::Value` route (it only implements
`visit_map`), and `Value::deserialize` turns the date-time into a string. -/
theorem T13_finding_datetime (d : Datetime) :
    presValue false (.dt d) ≠ presEdit (.dt d) ∧
    decodeDatetime (presValue false (.dt d)) = none ∧
    (∀ fl strict, visitValue fl strict (presValue false (.dt d)) = some (.str (Std.display d))) := by
  refine ⟨?_, ?_, ?_⟩
  · simp [presValue, presEdit, dtMap]
  · simp [presValue, decodeDatetime]
  · intro fl strict
    simp [presValue, visitValue]

/-- so the full statement is false for the upstream value.rs -/
theorem T13_de_routes_false : ¬ DeRoutesAgree false := by
  intro h
  exact (T13_finding_datetime ⟨none, none, none⟩).1 (h _)

/-- …while the `toml_edit` route (every text route: `toml::from_str`, `toml_edit::de::from_str`,
`from_slice`, `from_document`, the value deserializers) hands a valid date-time back unchanged, both to
`Datetime::deserialize` and to `Value::deserialize`. -/
theorem T13_datetime_edit_route (d : Datetime) (h : C12.FieldsInRange d) (hy : ∀ x, d.date = some x → x.year ≤ 9999) :
    decodeDatetime (presEdit (.dt d)) = some d ∧
    (∀ fl strict, visitValue fl strict (presEdit (.dt d)) = some (.dt d)) := by
  have hr := (C12.T12_roundtrip d h hy).1
  refine ⟨?_, ?_⟩
  · simp [presEdit, dtMap, decodeDatetime, hr]
  · intro fl strict
    simp [presEdit, dtMap, visitValue, hr]

/-- non-vacuity of `T13_datetime_edit_route`: 1979-05-27T07:32:00Z -/
example : C12.FieldsInRange ⟨some ⟨1979, 5, 27⟩, some ⟨7, 32, 0, 0⟩, some .z⟩ ∧
    (∀ x, (⟨some ⟨1979, 5, 27⟩, some ⟨7, 32, 0, 0⟩, some .z⟩ : Datetime).date = some x → x.year ≤ 9999) := by
  refine ⟨⟨?_, ?_, ?_, ?_⟩, ?_⟩
  · intro x hx; simp at hx; subst hx; simp [C12.DateInRange, maxDays]
  · intro t ht; simp at ht; subst ht; simp [C12.TimeInRange, C12.NanosInRange]
  · intro o ho; simp at ho; subst ho; trivial
  · simp [C12.ShapeOk]
  · intro x hx; simp at hx; subst hx; decide

/-- Each `deserialize_*` entry point of the `toml::de` wrappers reaches the method of the same
name of the inner `toml_edit` deserializer (or `deserialize_any` where that one forwards too): the wrappers
add nothing. The two tables are tied to the `forward_to_deserialize_any!` lists of the sources by the check. -/
theorem T13_thin : ∀ m : Method, tomlWrapperDispatch m = editDispatch m := by
  intro m; cases m <;> rfl

/-- Where the two dispatch tables differ: `struct` is forwarded to `deserialize_any` by `toml::Value`, handled by
`toml_edit`. A `Datetime` target therefore depends on what the `Value::Datetime` arm of `deserialize_any` shows: the
arm F7 is about. -/
theorem T13_value_forwards_struct :
    valueDispatch .struct = .any ∧ editDispatch .struct = .struct ∧ (∀ m, m ≠ .struct → valueDispatch m = editDispatch m) := by
  refine ⟨rfl, rfl, ?_⟩
  intro m hm; cases m <;> first | rfl | exact absurd rfl hm

/-- F7, encoding direction: with the upstream value.rs `Value::try_from` of a date-time yields the private
one-entry table holding the printed form, for both map flavours, where the text route yields the date-time. -/
theorem T13_finding_try_from (fl : Flavour) (d : Datetime) :
    valueSerializer fl false (serCalls (.dt d)) = some (.tbl [(FIELD, .str (Std.display d))]) := by
  cases fl <;>
    simp [serCalls, valueSerializer, valueSerializerPairs, insertAllReplace, mapInsert,
      sortedInsert, aset, alookup]

/-- /repo (`serialize_struct` honours the private struct name): a valid date-time comes back -/
theorem T13_try_from_patched (fl : Flavour) (d : Datetime) (h : C12.FieldsInRange d)
    (hy : ∀ x, d.date = some x → x.year ≤ 9999) :
    valueSerializer fl true (serCalls (.dt d)) = some (.dt d) := by
  have hr := (C12.T12_roundtrip d h hy).1
  cases fl <;>
    simp [serCalls, valueSerializer, valueSerializerPairs, insertAllReplace, mapInsert,
      sortedInsert, aset, alookup, hr]

/-- On trees without a date-time leaf `Value::try_from` computes the same with either value of `honourName`; the
only serde call on which the two differ is `serialize_struct` under the private name, which only `Datetime::serialize`
makes. -/
theorem T13_try_from_partial (fl : Flavour) (v : TV) (h : noDt v = true) :
    valueSerializer fl false (serCalls v) = valueSerializer fl true (serCalls v) :=
  (valueSerializer_honour_irrelevant fl (serCalls v) (serCalls_noNamed v h)).symm

end TomlVerif.Props.C13
