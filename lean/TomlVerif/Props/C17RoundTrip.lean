import TomlVerif.Lemmas.RoundTrip17MapOrder
/-! # C17 / C13 / C07 — the text round trip of `toml::Value` trees

`toml::to_string(&v)` / `to_string_pretty(&v)` (`toText f pretty v`, Model/TomlValue.lean) followed by
`toml::from_str::<toml::Value>` (`decodeValue fl`, the parser of Model/Doc.lean, then `impl Deserialize for
toml::Value` of Model/DeRoutes.lean) gives the tree back, with every table's entries in the order the target map
puts them (`canonTV fl v`).  `T17_roundtrip` rests on `T17_statements`, `T17_document` and `T17_visit`; `T17_inline`
(the value parser alone on a printed inline value) is not on the way.

`decodeValue` / `decodeTable` are those of `Model/DeText.lean`, written on total `presOfVal` / `presOfItem` /
`presOfTbl` (a `partial def` would be opaque to proofs); `Driver/C13.lean` runs the same definitions. -/
namespace TomlVerif.Props.C17RoundTrip
open TomlVerif.Model.DeText
open TomlVerif TomlVerif.Spec TomlVerif.Model TomlVerif.Model.TomlValue TomlVerif.Model.DeRoutes
open TomlVerif.Model.Value (LIMIT)
open TomlVerif.Lemmas.RoundTrip17

/-- the trees the round trip is stated for: `OkV` (integers in the `i64` range, no float, date-times with fields in
    range and a year ≤ 9999, in every table pairwise distinct keys none of which is `$__toml_private_datetime`)
    and containers nested at most `LIMIT` deep (the root table included) -/
def TVOk (v : TV) : Prop := OkV v ∧ depthTV v ≤ LIMIT

/-- the root table in document order (own values, then sub-tables and arrays of tables, recursively) -/
def docRoot : TV → TV
  | .tbl items => .tbl (docTbl items)
  | w => w

/-- what the round trip returns: the three passes of `impl Serialize for Value` at every table (`normTV`), the
    tables printed as `[table]` / `[[array]]` sections with their values first (`docRoot`), every table's entries
    put into the target map in that order (`placeTV`: `BTreeMap` sorts them by key, `IndexMap` keeps the order) -/
def canonTV (fl : Flavour) (v : TV) : TV := placeTV fl (docRoot (normTV v))

/-- the same for `toml::Table`: no three passes at the root (`impl Serialize for Map`) -/
def canonTable (fl : Flavour) (items : List (Bytes × TV)) : List (Bytes × TV) :=
  insertAllReplace fl [] (placeTVPs fl (docTbl (normTVPs items)))

/-- **inline values**: the text of a well-formed tree, plain or pretty, is read back by the value parser as
    that tree (inline tables in printed order), in any context in which a value may end -/
theorem T17_inline (f : FloatText) (pretty : Bool) (v : TV) (h : OkV v) (d fuel : Nat) (rest : Bytes)
    (hd : d + depthTV v < LIMIT) (hr : AstValue.ValFollowS rest) (hf : 2 * (renderVal f pretty v).length ≤ fuel) :
    Value.value fuel d (renderVal f pretty v ++ rest) = .ok (valOf v) rest :=
  Lemmas.Ser07TextF.value_renderValF f pretty v (okV_okF f v h) d fuel rest hd hr hf

/-- **statements**: the parser on the printed statements runs the definition state machine over them -/
theorem T17_statements (f : FloatText) (pretty first : Bool) (stmts : List TomlValue.Stmt)
    (h : ∀ s ∈ stmts, StmtOk s) :
    Doc.parseDocument (renderStmts f pretty first stmts) =
      (Lemmas.State09.run {} (stmts.map stmtOf)).bind State.intoDocument :=
  Lemmas.Ser07TextF.parseDocument_stmtsF f pretty first stmts fun s hs => stmtOk_okF f s (h s hs)

/-- **document**: the state machine accepts the statements of a well-formed (normalised) tree — hidden
    headers of tables without values of their own included — and what it builds is presented to a visitor as the
    tree in document order -/
theorem T17_document (items : List (Bytes × TV)) (h : OkPs items) (hn : (items.map Prod.fst).Nodup) :
    ∃ T, (Lemmas.State09.run {} ((emitDoc items).map stmtOf)).bind State.intoDocument = some T ∧
      presOfTbl T = .map (presEditPairs (docTbl items)) := by
  obtain ⟨T, hT, hd⟩ := Lemmas.Ser07TextF.run_emitDocD noFloat items (okPs_okFPs _ items h) hn
  exact ⟨T, hT, by rw [presV_dataTbl, hd, presKVs_vOfPs]⟩

/-- **`Value`'s visitor** on what `toml_edit`'s deserializer shows for a well-formed tree: the tree with every
    table's entries placed by the target map; date-times come back through the private one-entry map -/
theorem T17_visit (fl : Flavour) (strict : Bool) (w : TV) (h : OkV w) :
    visitValue fl strict (presEdit w) = some (placeTV fl w) :=
  Lemmas.DeTyped13.visit_presEdit_wf fl strict w (okV_wf w h)

theorem parse_normal (f : FloatText) (pretty first : Bool) (items : List (Bytes × TV)) (h : OkV (.tbl items))
    (hd : 1 + depthTVPs items ≤ LIMIT) :
    ∃ T, Doc.parseDocument (renderStmts f pretty first (emitDoc items)) = some T ∧
      presOfTbl T = presEdit (.tbl (docTbl items)) := by
  rw [OkV] at h
  rw [T17_statements f pretty first (emitDoc items) (stok_doc items h.1 hd)]
  obtain ⟨T, h1, h2⟩ := T17_document items h.1 h.2.1
  exact ⟨T, h1, by rw [h2, presEdit]⟩

/-- **T17_roundtrip** (`toml::Value`): for every well-formed tree, both layouts, both map flavours and any float
    printer (the tree holds no float): if `to_string` / `to_string_pretty` succeeds — i.e. the root is a table —
    then `from_str::<Value>` on the text succeeds and returns `canonTV fl v`. -/
theorem T17_roundtrip (fl : Flavour) (f : FloatText) (pretty : Bool) (v : TV) (t : Bytes) (h : TVOk v)
    (ht : toText f pretty v = .ok t) : decodeValue fl t = some (canonTV fl v) := by
  obtain ⟨hok, hd⟩ := h
  obtain ⟨hn, hnd⟩ := ok_normTV v hok
  obtain ⟨items, hnv, rfl⟩ := toText_ok f pretty v t hok ht
  rw [hnv] at hn hnd
  rw [depthTV] at hnd
  obtain ⟨T, hT, hp⟩ := parse_normal f pretty (ownValues items).isEmpty items hn (by omega)
  unfold decodeValue canonTV
  rw [hT, hnv]
  simp only [hp, docRoot]
  exact T17_visit fl false _ (ok_docTbl items hn)

/-- serialization of a well-formed tree succeeds when its root is a table -/
theorem T17_toText_ok (f : FloatText) (pretty : Bool) (items : List (Bytes × TV)) (h : OkV (.tbl items)) :
    ∃ t, toText f pretty (.tbl items) = .ok t :=
  ⟨_, toText_tbl f pretty _ _ h (by rw [normTV])⟩

/-- **table entry point**: `toml::to_string(&table)` then `from_str::<toml::Table>` -/
theorem T17_roundtrip_table (fl : Flavour) (f : FloatText) (pretty : Bool) (items : List (Bytes × TV)) (t : Bytes)
    (h : TVOk (.tbl items)) (ht : toTextTable f pretty items = .ok t) :
    decodeTable fl t = some (canonTable fl items) := by
  obtain ⟨hok, hd⟩ := h
  rw [OkV] at hok
  rw [depthTV] at hd
  obtain ⟨hn, hnd⟩ := ok_normTVPs items hok.1
  have hn' : OkV (.tbl (normTVPs items)) := by
    rw [OkV, normTVPs_keys]; exact ⟨hn, hok.2.1, hok.2.2⟩
  unfold toTextTable at ht
  rw [normPairs_eq items hok.1] at ht
  simp only [Except.ok.injEq] at ht
  subst ht
  obtain ⟨T, hT, hp⟩ := parse_normal f pretty (ownValues (normTVPs items)).isEmpty (normTVPs items) hn' (by omega)
  unfold decodeTable canonTable
  rw [hT]
  simp only []
  rw [hp, presEdit, visitTable]
  have hdoc := ok_docTbl _ hn'
  rw [OkV] at hdoc
  rw [visitPairs_presEdit fl false _ hdoc.1]
  rfl

/-- the plain and the pretty text of a well-formed tree decode to the same tree -/
theorem T17_plain_pretty_agree (fl : Flavour) (f : FloatText) (v : TV) (t1 t2 : Bytes) (h : TVOk v)
    (h1 : toText f false v = .ok t1) (h2 : toText f true v = .ok t2) : decodeValue fl t1 = decodeValue fl t2 := by
  rw [T17_roundtrip fl f false v t1 h h1, T17_roundtrip fl f true v t2 h h2]

theorem T17_plain_pretty_agree_table (fl : Flavour) (f : FloatText) (items : List (Bytes × TV)) (t1 t2 : Bytes)
    (h : TVOk (.tbl items)) (h1 : toTextTable f false items = .ok t1) (h2 : toTextTable f true items = .ok t2) :
    decodeTable fl t1 = decodeTable fl t2 := by
  rw [T17_roundtrip_table fl f false items t1 h h1, T17_roundtrip_table fl f true items t2 h h2]

/-- both layouts succeed together (the layout only enters after `norm`) -/
theorem T17_plain_pretty_defined (f : FloatText) (v : TV) :
    (∃ t, toText f false v = .ok t) ↔ (∃ t, toText f true v = .ok t) := by
  simp only [Lemmas.TomlValue17.toText_ok_iff]
  exact ⟨fun ⟨_, items, h, _⟩ => ⟨_, items, h, rfl⟩, fun ⟨_, items, h, _⟩ => ⟨_, items, h, rfl⟩⟩

theorem placeTV_insertion : ∀ w : TV, OkV w → placeTV .insertion w = w :=
  fun w h => Lemmas.DeTyped13.place_insertion_id w (okV_nodup w h)
theorem placeTVs_insertion : ∀ l : List TV, OkVs l → placeTVs .insertion l = l :=
  fun l h => Lemmas.DeTyped13.placeVs_insertion_id l (okVs_nodup l h)
theorem placeTVPs_insertion : ∀ l : List (Bytes × TV), OkPs l → placeTVPs .insertion l = l :=
  fun l h => Lemmas.DeTyped13.placePs_insertion_id l (okPs_nodup l h)

/-- for the insertion-ordered map (`preserve_order`) the result is the normalised tree in document order -/
theorem T17_canon_insertion (v : TV) (items : List (Bytes × TV)) (h : OkV v) (hv : normTV v = .tbl items) :
    canonTV .insertion v = .tbl (docTbl items) := by
  have hn := (ok_normTV v h).1
  rw [hv] at hn
  unfold canonTV
  rw [hv, docRoot]
  exact placeTV_insertion _ (ok_docTbl items hn)

/-- `preserve_order`: a tree that is already in serialization and document order
    (`docRoot (normTV v) = v`: in every table the entries are in the order of the three passes — values and arrays
    without a table, then arrays holding a table, then tables —, and in every table printed as a section the arrays of
    tables and tables come in document order after the values) comes back as it is -/
theorem T17_roundtrip_id_insertion (f : FloatText) (pretty : Bool) (v : TV) (t : Bytes) (h : TVOk v)
    (hc : docRoot (normTV v) = v) (ht : toText f pretty v = .ok t) : decodeValue .insertion t = some v := by
  rw [T17_roundtrip .insertion f pretty v t h ht]
  unfold canonTV
  rw [hc, placeTV_insertion v h.1]

/-- The fixed-point statement `serialize ∘ parse ∘ serialize = serialize`, at full strength. -/
def T17_fixpoint_statement (fl : Flavour) : Prop :=
  ∀ (f : FloatText) (pretty : Bool) (v : TV) (t : Bytes) (w : TV), TVOk v →
    toText f pretty v = .ok t → decodeValue fl t = some w → toText f pretty w = .ok t

/-- the decoded tree is `canonTV fl v`, so the fixed point holds exactly when `canonTV fl v` prints like `v`.
    For `preserve_order` it does, for every well-formed `v`; for `BTreeMap` it fails on lists that are not in key order
    (`T17_fixpoint_sorted_needs_order`), which are not values of that build. -/
theorem T17_fixpoint_partial (fl : Flavour) (f : FloatText) (pretty : Bool) (v : TV) (t : Bytes) (w : TV) (h : TVOk v)
    (ht : toText f pretty v = .ok t) (hw : decodeValue fl t = some w) :
    w = canonTV fl v ∧ (toText f pretty (canonTV fl v) = toText f pretty v → toText f pretty w = .ok t) := by
  rw [T17_roundtrip fl f pretty v t h ht] at hw
  injection hw with hw
  subst hw
  exact ⟨rfl, fun e => by rw [e, ht]⟩

theorem T17_fixpoint_canonical (fl : Flavour) (f : FloatText) (pretty : Bool) (v : TV) (t : Bytes) (w : TV) (h : TVOk v)
    (hc : canonTV fl v = v) (ht : toText f pretty v = .ok t) (hw : decodeValue fl t = some w) :
    toText f pretty w = .ok t :=
  (T17_fixpoint_partial fl f pretty v t w h ht hw).2 (by rw [hc])

/-- insensitivity to map order: trees that differ by a permutation of the root entries have the same canonical form
    for the `BTreeMap` flavour (hence the same text after one round trip) -/
def T17_order_insensitive_statement : Prop :=
  ∀ (items items' : List (Bytes × TV)), OkV (.tbl items) → items'.Perm items →
    canonTV .sorted (.tbl items') = canonTV .sorted (.tbl items)


/-! a boolean equality on trees (`TV` has no `DecidableEq`), to evaluate the instances below -/

mutual
def beqTV : TV → TV → Bool
  | .str a, .str b => a == b
  | .int a, .int b => a == b
  | .float a, .float b => a == b
  | .bool a, .bool b => a == b
  | .dt a, .dt b => a == b
  | .arr a, .arr b => beqTVs a b
  | .tbl a, .tbl b => beqTVPs a b
  | _, _ => false
def beqTVs : List TV → List TV → Bool
  | [], [] => true
  | a :: r, b :: t => beqTV a b && beqTVs r t
  | _, _ => false
def beqTVPs : List (Bytes × TV) → List (Bytes × TV) → Bool
  | [], [] => true
  | (k, a) :: r, (k', b) :: t => k == k' && beqTV a b && beqTVPs r t
  | _, _ => false
end

mutual
theorem beqTV_sound : ∀ a b : TV, beqTV a b = true → a = b
  | .str a, b, h | .int a, b, h | .float a, b, h | .bool a, b, h | .dt a, b, h => by cases b <;> simp_all [beqTV]
  | .arr a, b, h => by
    cases b <;> simp [beqTV] at h
    rw [beqTVs_sound a _ h]
  | .tbl a, b, h => by
    cases b <;> simp [beqTV] at h
    rw [beqTVPs_sound a _ h]
theorem beqTVs_sound : ∀ a b : List TV, beqTVs a b = true → a = b
  | [], b, h => by cases b <;> simp_all [beqTVs]
  | x :: r, b, h => by
    cases b with
    | nil => simp [beqTVs] at h
    | cons y t =>
      simp [beqTVs] at h
      rw [beqTV_sound x y h.1, beqTVs_sound r t h.2]
theorem beqTVPs_sound : ∀ a b : List (Bytes × TV), beqTVPs a b = true → a = b
  | [], b, h => by cases b <;> simp_all [beqTVPs]
  | (k, x) :: r, b, h => by
    cases b with
    | nil => simp [beqTVPs] at h
    | cons y t =>
      obtain ⟨k', y⟩ := y
      simp [beqTVPs] at h
      rw [h.1.1, beqTV_sound x y h.1.2, beqTVPs_sound r t h.2]
end

def okIs (e : Except SerError Bytes) (b : Bytes) : Bool :=
  match e with
  | .ok t => t == b
  | .error _ => false

theorem okIs_sound (e : Except SerError Bytes) (b : Bytes) (h : okIs e b = true) : e = .ok b := by
  cases e with
  | error x => simp [okIs] at h
  | ok t => simp only [okIs, beq_iff_eq] at h; rw [h]

def someIs (o : Option TV) (v : TV) : Bool :=
  match o with
  | some w => beqTV w v
  | none => false

theorem someIs_sound (o : Option TV) (v : TV) (h : someIs o v = true) : o = some v := by
  cases o with
  | none => simp [someIs] at h
  | some w => simp only [someIs] at h; rw [beqTV_sound w v h]

/-! `sample` (entries in an order no map would give, to exercise the three passes and the document order):
```
t = { "x y" = 1, sub = { d = 1979-05-27T07:32:00Z } }      # a table with a quoted key and a sub-table
h = { only = { z = true } }                                # a table without values of its own: header hidden
m = [1, "a", [true], { q = 2 }]                            # a mixed array: stays inline, inline table inside
aot = [{ n = 1, deep = { u = 2 } }, { n = 2 }]             # an array of tables, the first with a sub-table
s = "v"
``` -/
def sampleDate : Datetime.Datetime := ⟨some ⟨1979, 5, 27⟩, some ⟨7, 32, 0, 0⟩, some .z⟩

def sample : TV :=
  .tbl [(strBytes "t", .tbl [(strBytes "x y", .int 1), (strBytes "sub", .tbl [(strBytes "d", .dt sampleDate)])]),
        (strBytes "h", .tbl [(strBytes "only", .tbl [(strBytes "z", .bool true)])]),
        (strBytes "m", .arr [.int 1, .str (strBytes "a"), .arr [.bool true], .tbl [(strBytes "q", .int 2)]]),
        (strBytes "aot", .arr [.tbl [(strBytes "n", .int 1), (strBytes "deep", .tbl [(strBytes "u", .int 2)])],
                               .tbl [(strBytes "n", .int 2)]]),
        (strBytes "s", .str (strBytes "v"))]

theorem sampleDate_ok : DtOk sampleDate := by
  refine ⟨⟨?_, ?_, ?_, ?_⟩, ?_⟩
  · intro x hx; simp [sampleDate] at hx; subst hx; simp [Props.C12.DateInRange, Datetime.maxDays]
  · intro t ht; simp [sampleDate] at ht; subst ht; simp [Props.C12.TimeInRange, Props.C12.NanosInRange]
  · intro o ho; simp [sampleDate] at ho; subst ho; trivial
  · simp [sampleDate, Props.C12.ShapeOk]
  · intro x hx; simp [sampleDate] at hx; subst hx; decide

theorem sample_ok : TVOk sample := by
  refine ⟨?_, by decide +kernel⟩
  simp only [sample, OkV, OkPs, OkVs, sampleDate_ok, and_true, true_and]
  decide +kernel

def samplePlain : Bytes := strBytes
  "s = \"v\"\nm = [1, \"a\", [true], { q = 2 }]\n\n[[aot]]\nn = 1\n\n[aot.deep]\nu = 2\n\n[[aot]]\nn = 2\n\n[t]\n\"x y\" = 1\n\n[t.sub]\nd = 1979-05-27T07:32:00Z\n\n[h.only]\nz = true\n"

def samplePretty : Bytes := strBytes
  "s = \"v\"\nm = [\n    1,\n    \"a\",\n    [true],\n    { q = 2 },\n]\n\n[[aot]]\nn = 1\n\n[aot.deep]\nu = 2\n\n[[aot]]\nn = 2\n\n[t]\n\"x y\" = 1\n\n[t.sub]\nd = 1979-05-27T07:32:00Z\n\n[h.only]\nz = true\n"

theorem sample_plain : toText noFloat false sample = .ok samplePlain := by
  rw [samplePlain, strBytes_eq rfl]; exact okIs_sound _ _ (by decide +kernel)
theorem sample_pretty : toText noFloat true sample = .ok samplePretty := by
  rw [samplePretty, strBytes_eq rfl]; exact okIs_sound _ _ (by decide +kernel)

example (fl : Flavour) : decodeValue fl samplePlain = some (canonTV fl sample) ∧
    decodeValue fl samplePretty = some (canonTV fl sample) :=
  ⟨T17_roundtrip fl noFloat false sample _ sample_ok sample_plain,
   T17_roundtrip fl noFloat true sample _ sample_ok sample_pretty⟩

/-- what that is for `preserve_order`: values first (`s` before `m`: an array holding a table is handed over in the
    second pass), then the array of tables, then the tables, at every level -/
def sampleInsertion : TV :=
  .tbl [(strBytes "s", .str (strBytes "v")),
        (strBytes "m", .arr [.int 1, .str (strBytes "a"), .arr [.bool true], .tbl [(strBytes "q", .int 2)]]),
        (strBytes "aot", .arr [.tbl [(strBytes "n", .int 1), (strBytes "deep", .tbl [(strBytes "u", .int 2)])],
                               .tbl [(strBytes "n", .int 2)]]),
        (strBytes "t", .tbl [(strBytes "x y", .int 1), (strBytes "sub", .tbl [(strBytes "d", .dt sampleDate)])]),
        (strBytes "h", .tbl [(strBytes "only", .tbl [(strBytes "z", .bool true)])])]

def sampleSorted : TV :=
  .tbl [(strBytes "aot", .arr [.tbl [(strBytes "deep", .tbl [(strBytes "u", .int 2)]), (strBytes "n", .int 1)],
                               .tbl [(strBytes "n", .int 2)]]),
        (strBytes "h", .tbl [(strBytes "only", .tbl [(strBytes "z", .bool true)])]),
        (strBytes "m", .arr [.int 1, .str (strBytes "a"), .arr [.bool true], .tbl [(strBytes "q", .int 2)]]),
        (strBytes "s", .str (strBytes "v")),
        (strBytes "t", .tbl [(strBytes "sub", .tbl [(strBytes "d", .dt sampleDate)]), (strBytes "x y", .int 1)])]

theorem sample_canon_insertion : canonTV .insertion sample = sampleInsertion :=
  beqTV_sound _ _ (by decide +kernel)
theorem sample_canon_sorted : canonTV .sorted sample = sampleSorted :=
  beqTV_sound _ _ (by decide +kernel)

example : decodeValue .insertion samplePlain = some sampleInsertion :=
  sample_canon_insertion ▸ T17_roundtrip .insertion noFloat false sample _ sample_ok sample_plain
example : decodeValue .sorted samplePretty = some sampleSorted :=
  sample_canon_sorted ▸ T17_roundtrip .sorted noFloat true sample _ sample_ok sample_pretty

theorem sampleSorted_canon : canonTV .sorted sampleSorted = sampleSorted := beqTV_sound _ _ (by decide +kernel)
theorem sampleInsertion_canon : canonTV .insertion sampleInsertion = sampleInsertion :=
  beqTV_sound _ _ (by decide +kernel)

example : docRoot (normTV sampleInsertion) = sampleInsertion := beqTV_sound _ _ (by decide +kernel)
example : canonTV .sorted sampleSorted = sampleSorted := sampleSorted_canon
example : canonTV .insertion sampleInsertion = sampleInsertion := sampleInsertion_canon

theorem sampleSorted_ok : TVOk sampleSorted := by
  refine ⟨?_, by decide +kernel⟩
  simp only [sampleSorted, OkV, OkPs, OkVs, sampleDate_ok, and_true, true_and]
  decide +kernel

theorem sampleInsertion_ok : TVOk sampleInsertion := by
  refine ⟨?_, by decide +kernel⟩
  simp only [sampleInsertion, OkV, OkPs, OkVs, sampleDate_ok, and_true, true_and]
  decide +kernel

example (p : Bool) (t : Bytes) (w : TV) (ht : toText noFloat p sampleSorted = .ok t)
    (hw : decodeValue .sorted t = some w) : toText noFloat p w = .ok t :=
  T17_fixpoint_canonical .sorted noFloat p sampleSorted t w sampleSorted_ok sampleSorted_canon ht hw
example (p : Bool) (t : Bytes) (w : TV) (ht : toText noFloat p sampleInsertion = .ok t)
    (hw : decodeValue .insertion t = some w) : toText noFloat p w = .ok t :=
  T17_fixpoint_canonical .insertion noFloat p sampleInsertion t w sampleInsertion_ok sampleInsertion_canon ht hw

example : toText noFloat false sampleInsertion = .ok samplePlain ∧ toText noFloat true sampleInsertion = .ok samplePretty := by
  -- it has the normal form of `sample`, and the text is printed from the normal form
  have e : normTV sampleInsertion = normTV sample := beqTV_sound _ _ (by decide +kernel)
  rw [toText_congr noFloat false _ _ sampleInsertion_ok.1 sample_ok.1 e,
    toText_congr noFloat true _ _ sampleInsertion_ok.1 sample_ok.1 e]
  exact ⟨sample_plain, sample_pretty⟩

example : canonTV .sorted (.tbl [(strBytes "s", .str (strBytes "v")),
      (strBytes "t", .tbl [(strBytes "sub", .tbl [(strBytes "d", .dt sampleDate)]), (strBytes "x y", .int 1)]),
      (strBytes "aot", .arr [.tbl [(strBytes "n", .int 1), (strBytes "deep", .tbl [(strBytes "u", .int 2)])],
                             .tbl [(strBytes "n", .int 2)]]),
      (strBytes "m", .arr [.int 1, .str (strBytes "a"), .arr [.bool true], .tbl [(strBytes "q", .int 2)]]),
      (strBytes "h", .tbl [(strBytes "only", .tbl [(strBytes "z", .bool true)])])]) = canonTV .sorted sample :=
  beqTV_sound _ _ (by decide +kernel)

example (fl : Flavour) (t : Bytes) (items : List (Bytes × TV)) (hs : sample = .tbl items)
    (ht : toTextTable noFloat false items = .ok t) : decodeTable fl t = some (canonTable fl items) :=
  T17_roundtrip_table fl noFloat false items t (hs ▸ sample_ok) ht

/-! What the hypotheses exclude. **The private date-time key.** `impl Deserialize for toml::Value` (`ValueVisitor::visit_map`) tests the FIRST key of
every map against `$__toml_private_datetime` and, on a match, returns a date-time parsed from the value at once.
A `toml::Value` table whose first printed key is that string therefore does not survive the text round trip
(`OkV` excludes the key; when it is not the first key the table does come back, `T17_private_key_later`). -/

/-- `{ "$__toml_private_datetime" = "x" }` prints as a document the parser accepts, and decoding it as a `Value` FAILS -/
theorem T17_private_key_error :
    toText noFloat false (.tbl [(FIELD, .str (strBytes "x"))]) = .ok (strBytes "\"$__toml_private_datetime\" = \"x\"\n") ∧
    (Doc.parseDocument (strBytes "\"$__toml_private_datetime\" = \"x\"\n")).isSome = true ∧
    (decodeValue .sorted (strBytes "\"$__toml_private_datetime\" = \"x\"\n")).isNone = true := by
  simp only [strBytes_eq rfl]
  exact ⟨okIs_sound _ _ (by decide +kernel), by decide +kernel, by decide +kernel⟩

/-- `{ "$__toml_private_datetime" = "1979-05-27" }` comes back as the DATE 1979-05-27, not as a table -/
theorem T17_private_key_becomes_date :
    toText noFloat false (.tbl [(FIELD, .str (strBytes "1979-05-27"))]) =
      .ok (strBytes "\"$__toml_private_datetime\" = \"1979-05-27\"\n") ∧
    decodeValue .sorted (strBytes "\"$__toml_private_datetime\" = \"1979-05-27\"\n") =
      some (.dt ⟨some ⟨1979, 5, 27⟩, none, none⟩) := by
  simp only [strBytes_eq rfl]
  exact ⟨okIs_sound _ _ (by decide +kernel), someIs_sound _ _ (by decide +kernel)⟩

/-- one level down, the other entries of the table are dropped silently:
    `a = { "$__toml_private_datetime" = "1979-05-27", b = 1 }` comes back as `a = 1979-05-27` -/
theorem T17_private_key_drops_entries :
    toText noFloat false (.tbl [(strBytes "a", .tbl [(FIELD, .str (strBytes "1979-05-27")), (strBytes "b", .int 1)])]) =
      .ok (strBytes "[a]\n\"$__toml_private_datetime\" = \"1979-05-27\"\nb = 1\n") ∧
    decodeValue .sorted (strBytes "[a]\n\"$__toml_private_datetime\" = \"1979-05-27\"\nb = 1\n") =
      some (.tbl [(strBytes "a", .dt ⟨some ⟨1979, 5, 27⟩, none, none⟩)]) := by
  simp only [strBytes_eq rfl]
  exact ⟨okIs_sound _ _ (by decide +kernel), someIs_sound _ _ (by decide +kernel)⟩

/-- when another key is printed first the table survives -/
theorem T17_private_key_later :
    decodeValue .sorted (strBytes "\"!\" = 1\n\"$__toml_private_datetime\" = \"1979-05-27\"\n") =
      some (.tbl [(strBytes "!", .int 1), (FIELD, .str (strBytes "1979-05-27"))]) := by
  simp only [strBytes_eq rfl]
  exact someIs_sound _ _ (by decide +kernel)

/-- **the fixed point needs key order for the `BTreeMap` flavour**: the list `b = 1, a = 2` (not a `BTreeMap` value)
    prints in list order, the decoded map prints in key order -/
theorem T17_fixpoint_sorted_needs_order :
    toText noFloat false (.tbl [(strBytes "b", .int 1), (strBytes "a", .int 2)]) = .ok (strBytes "b = 1\na = 2\n") ∧
    decodeValue .sorted (strBytes "b = 1\na = 2\n") = some (.tbl [(strBytes "a", .int 2), (strBytes "b", .int 1)]) ∧
    toText noFloat false (.tbl [(strBytes "a", .int 2), (strBytes "b", .int 1)]) = .ok (strBytes "a = 2\nb = 1\n") :=
  ⟨okIs_sound _ _ (by decide +kernel), someIs_sound _ _ (by decide +kernel), okIs_sound _ _ (by decide +kernel)⟩

/-- an integer outside `i64` (`TV.int` is unbounded in the model, `i64` in the code) does not come back:
    the parser rejects the literal -/
example : (decodeValue .sorted (strBytes "x = 9223372036854775808\n")).isNone = true := by decide +kernel

end TomlVerif.Props.C17RoundTrip
