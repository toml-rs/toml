import TomlVerif.Lemmas.Containers16
/-! # C16 — the containers behave as ordered maps and sequences

`refStep` runs one API call on the reference ordered map (`Spec/OrdMap.lean`); the refinement
theorems say that the model of the code (`Model/Containers.lean`), run on any history of calls,
returns exactly what the reference returns and ends in a state whose abstraction is the reference's
state.  They are stated for the `repaired` configuration.  `current` (= `afterPatches`) is /repo, which the
driver runs; `asImplemented` is the upstream code.  For `current` the same holds on every history that never
indexes mutably and on every history that stays off the classification made by `entry()`; the `T16_finding_*`
theorems exhibit the deviations of `asImplemented` and of `current` on concrete histories. -/
namespace TomlVerif.Props.C16
open TomlVerif.Spec.OrdMap TomlVerif.Model.Containers TomlVerif.Lemmas.Containers16 TomlVerif.Lemmas.Sort

def valKey : Option Val → Option Nat
  | some (.int n) => some n
  | _ => none

/-- the harness's `retain` predicates on values: both keep the even integers; the value `{}` is kept by the
    closure given to `Table` (`map_or(true, …)`) and dropped by the one given to `InlineTable` (`map_or(false, …)`) -/
def keepVal (d : Dialect) (_ : Nat) : Val → Bool
  | .int n => n % 2 == 0
  | .tbl => d.isTable

/-- descending by value; reservations last -/
def rleTable (a b : Nat × Option Val) : Bool := optLe (valKey b.2) (valKey a.2)

/-- reservations first, then descending by value -/
def rleInline (a b : Nat × Option Val) : Bool :=
  match a.2, b.2 with
  | none, _ => true
  | some _, none => false
  | some _, some _ => optLe (valKey b.2) (valKey a.2)

def pairSlot (e : Nat × Val) : Nat × Slot := (e.1, .item e.2)

def refStep (d : Dialect) (m : RMap Val) : Op → Ret × RMap Val
  | .ins k n => (.opt (optSlot (insert m k (.int n)).2), (insert m k (.int n)).1)
  | .insf k n =>
    if d.isLike then (.na, m) else (.opt (optSlot (insert m k (.int n)).2), (insert m k (.int n)).1)
  | .rem k => (.opt (optSlot (remove m k).2), (remove m k).1)
  | .reme k =>
    if d.isLike then (.na, m) else (.kv ((removeEntry m k).2.map pairSlot), (removeEntry m k).1)
  | .get k => (.opt (optSlot (get m k)), m)
  | .getmut k => (.opt (optSlot (get m k)), m)
  | .gkv k => (.kv ((getKeyValue m k).map pairSlot), m)
  | .has k => (.bool (contains m k), m)
  | .hasv k =>
    match d with
    | .table => (.bool (contains m k), m)
    | _ => (.na, m)
  | .hast _ =>
    match d with
    | .table => (.bool false, m)
    | _ => (.na, m)
  | .len => (.nat (len m), m)
  | .empty => (.bool (isEmpty m), m)
  | .iter => (.pairs ((entries m).map pairSlot), m)
  | .keys => (.keys (keys m), m)
  | .values => (.na, m)
  | .clear => (.unit, clear m)
  -- the Entry API: the entry of `k` is occupied iff `get m k` finds a value
  | .entry k n => (.slot (.item (orInsert m k (.int n)).2), (orInsert m k (.int n)).1)
  | .entocc k => (.bool (contains m k), m)
  | .entwith k n => (.slot (.item (orInsert m k (.int n)).2), (orInsert m k (.int n)).1)
  | .entrem k =>
    match get m k with
    | some v => (.opt (some (.item v)), (remove m k).1)
    | none => (.opt none, m)
  | .entins k n => (.opt (optSlot (insert m k (.int n)).2), (insert m k (.int n)).1)
  | .entget k => (.kv ((getKeyValue m k).map pairSlot), m)
  | .entmut k n =>
    match get m k with
    | some v => (.opt (some (.item v)), put m k (some (.int n)))
    | none => (.opt none, m)
  | .entkey k => (.bool (contains m k), m)
  | .goi k n =>
    match d with
    | .inline => (.slot (.item (orInsert m k (.int n)).2), (orInsert m k (.int n)).1)
    | _ => (.na, m)
  | .idx k =>
    match get m k with
    | some v => (.slot (.item v), m)
    | none => (.panic, m)
  | .idxmut k =>
    (.slot (match get m k with | some v => .item v | none => .placeholder), reserve m k)
  | .idxset k n => (.unit, put m k (some (.int n)))
  | .retain =>
    match d with
    | .table => (.unit, retain true (keepVal .table) m)
    | .inline => (.unit, retain false (keepVal .inline) m)
    | _ => (.na, m)
  | .sort => (.unit, sortKeys m)
  | .sortby =>
    match d with
    | .table => (.unit, sortBy rleTable m)
    | .inline => (.unit, sortBy rleInline m)
    | _ => (.na, m)
  | .extend args =>
    if d.isLike then (.na, m) else (.unit, extend m ((pairsOf args).map fun kn => (kn.1, Val.int kn.2)))
  | .push _ => (.na, m)
  | .repl _ _ => (.na, m)
  | .bad => (.na, m)

def refRun (d : Dialect) : RMap Val → List Op → List Ret × RMap Val
  | m, [] => ([], m)
  | m, op :: ops =>
    let r := refStep d m op
    let rest := refRun d r.2 ops
    (r.1 :: rest.1, rest.2)

/-- There is no reference printer: `print` is the model's printer run on the
    visible entries, so agreement on it says that placeholders do not print. -/
def refObserve (d : Dialect) (m : RMap Val) : Final where
  len := len m
  empty := isEmpty m
  iter := (entries m).map pairSlot
  gets := [0, 1, 2, 3].map fun k => optSlot (get m k)
  into := match d with
    | .table | .inline => some ((entries m).map pairSlot)
    | _ => none
  print := if d.isTable then printTable ((entries m).map pairSlot) else printInline ((entries m).map pairSlot)

theorem retain_table_abs (m : Items) : abs (imRetain keepTable m) = retain true (keepVal .table) (abs m) := by
  apply filter_abs
  rintro ⟨k, s⟩
  cases s with
  | placeholder => rfl
  | item v => cases v <;> rfl

theorem retain_inline_abs (m : Items) : abs (imRetain keepInline m) = retain false (keepVal .inline) (abs m) := by
  apply filter_abs
  rintro ⟨k, s⟩
  cases s with
  | placeholder => rfl
  | item v => cases v <;> rfl

theorem valKey_slotOpt (s : Slot) : valKey (slotOpt s) = s.asInt := by
  cases s with
  | placeholder => rfl
  | item v => cases v <;> rfl

theorem leTable_abs (a b : Nat × Slot) : leTable a b = rleTable (absE a) (absE b) := by
  simp [leTable, rleTable, valKey_slotOpt]

theorem leInline_abs (a b : Nat × Slot) : leInline a b = rleInline (absE a) (absE b) := by
  obtain ⟨ka, sa⟩ := a
  obtain ⟨kb, sb⟩ := b
  rcases sa with _ | va <;> rcases sb with _ | vb <;> try rfl
  cases va <;> cases vb <;> rfl

theorem sortBy_table_abs (m : Items) : abs (imSortBy leTable m) = sortBy rleTable (abs m) :=
  (stableSort_is leTable).map (stableSort_is rleTable) absE leTable_abs m

theorem sortBy_inline_abs (m : Items) : abs (imSortBy leInline m) = sortBy rleInline (abs m) :=
  (stableSort_is leInline).map (stableSort_is rleInline) absE leInline_abs m

theorem pairSlot_entries (m : Items) : (entries (abs m)).map pairSlot = iterVis m := entries_abs m

theorem kv_abs (m : Items) (k : Nat) :
    (getKeyValue (abs m) k).map pairSlot = (vis (imGet m k)).map fun s => (k, s) := by
  rw [← optSlot_get_abs]
  unfold getKeyValue
  cases get (abs m) k <;> rfl

theorem step_refines (d : Dialect) (m : Items) (op : Op) :
    refStep d (abs m) op = ((step repaired d m op).1, abs (step repaired d m op).2) := by
  cases op with
  | ins k n =>
    simp only [refStep, step, Spec.OrdMap.insert, oldRet_repaired, imInsert_eq, optSlot_get_abs]
    rw [← put_abs]; rfl
  | insf k n =>
    simp only [refStep, step]
    cases hd : d.isLike
    · simp only [Bool.false_eq_true, ↓reduceIte, Spec.OrdMap.insert, oldRet_repaired, imInsert_eq, optSlot_get_abs]
      rw [← put_abs]; rfl
    · simp
  | rem k =>
    simp only [refStep, step, Spec.OrdMap.remove, oldRet_repaired, imShiftRemove_eq, optSlot_get_abs, eraseP_abs]
  | reme k =>
    simp only [refStep, step]
    cases hd : d.isLike
    · simp only [Bool.false_eq_true, ↓reduceIte, removeEntry, oldRet_repaired, imShiftRemove_eq, eraseP_abs, kv_abs]
    · simp
  | get k | getmut k => simp only [refStep, step, optSlot_get_abs, dGet_repaired]
  | gkv k => simp only [refStep, step, kv_abs]
  | has k => simp only [refStep, step, contains_abs]
  | hasv k => cases d <;> simp [refStep, step, contains_abs]
  | hast k => cases d <;> simp [refStep, step]
  | len => simp only [refStep, step, len_abs, dLen_repaired]
  | empty => simp only [refStep, step, isEmpty_abs, dLen_repaired]
  | iter => simp only [refStep, step, pairSlot_entries, dIter_repaired]
  | keys => simp only [refStep, step, keys_abs, dIter_repaired]
  | values => simp [refStep, step]
  | clear => simp [refStep, step, clear]
  | entry k n | entwith k n => simp only [refStep, step]; exact orInsert_refines d m k n
  | entrem k =>
    simp only [refStep, step, entryOf_repaired, Spec.OrdMap.remove]
    rcases slot_cases m k with ⟨h, hg⟩ | ⟨h, hg⟩ | ⟨v, h, hg⟩ <;> simp only [h, hg, vis, imShiftRemove_eq, eraseP_abs]
  | entins k n =>
    simp only [refStep, step, entryOf_repaired, Spec.OrdMap.insert, optSlot_get_abs, imInsert_eq]
    have hp := put_abs m k (.item (.int n))
    simp only [slotOpt] at hp
    rw [hp]
    cases h : imGet m k with
    | none => simp only [vis]
    | some s =>
      cases s with
      | placeholder => simp only [vis]
      | item v => simp only [vis, imSet_eq m k _ (by simp [h])]
  | entget k => simp only [refStep, step, entryOf_repaired, kv_abs]
  | entmut k n =>
    simp only [refStep, step, entryOf_repaired]
    rcases slot_cases m k with ⟨h, hg⟩ | ⟨h, hg⟩ | ⟨v, h, hg⟩ <;> simp only [h, hg, vis]
    exact congrArg _ (put_abs_set m k (.item (.int n)) (by simp [h]))
  | entkey k =>
    simp only [refStep, step, entryOf_repaired, contains_abs, dHas]
    cases h : imGet m k with
    | none => rfl
    | some s => cases s <;> rfl
  | entocc k =>
    simp only [refStep, step, contains_abs, dHas]
    cases h : imGet m k with
    | none => rfl
    | some s => cases s <;> cases d <;> simp [repaired, Slot.isNone]
  | goi k n =>
    cases d
    case inline =>
      simp only [refStep, step, goiStep_eq_orInsertStep repaired m k n rfl]
      exact orInsert_refines .inline m k n
    all_goals simp [refStep, step]
  | idx k =>
    simp only [refStep, step]
    rw [← optSlot_get_abs]
    cases get (abs m) k <;> rfl
  | idxmut k =>
    simp only [refStep, step]
    rcases slot_cases m k with ⟨h, hg⟩ | ⟨h, hg⟩ | ⟨v, h, hg⟩
    · simp only [h, hg, reserve_abs m k h]
    · simp only [h, hg, reserve_abs_some m k _ h]
    · simp only [h, hg, reserve_abs_some m k _ h]
  | idxset k n =>
    simp only [refStep, step]
    cases h : imGet m k with
    | none => exact congrArg _ (put_abs_push m k (.item (.int n)) h)
    | some s => exact congrArg _ (put_abs_set m k (.item (.int n)) (by simp [h]))
  | retain =>
    cases d <;> simp [refStep, step, retain_table_abs, retain_inline_abs]
  | sort => simp only [refStep, step, sortKeys_abs]
  | sortby =>
    cases d <;> simp [refStep, step, sortBy_table_abs, sortBy_inline_abs]
  | extend args =>
    simp only [refStep, step]
    cases hd : d.isLike
    · simp only [Bool.false_eq_true, ↓reduceIte]
      have := extend_abs ((pairsOf args).map fun kn => (kn.1, Val.int kn.2)) m
      simp only [List.map_map] at this
      rw [this]; rfl
    · simp
  | push n | repl i n | bad => simp [refStep, step]

theorem run_refines (d : Dialect) (ops : List Op) (m : Items) :
    refRun d (abs m) ops = ((run repaired d m ops).1, abs (run repaired d m ops).2) := by
  induction ops generalizing m with
  | nil => rfl
  | cons op ops ih =>
    simp only [refRun, run, step_refines, ih]

theorem observe_refines (d : Dialect) (m : Items) : observe repaired d m = refObserve d (abs m) := by
  simp only [observe, refObserve, dLen_repaired, dIter_repaired, dGet_repaired, len_abs, isEmpty_abs,
    pairSlot_entries, optSlot_get_abs, printTable_iterVis, printInline_iterVis, List.map_cons, List.map_nil]
  cases d <;> simp [repaired]

def Refines (fx : Fix) (d : Dialect) (init : Items) (ops : List Op) : Prop :=
  (run fx d init ops).1 = (refRun d (abs init) ops).1 ∧
  abs (run fx d init ops).2 = (refRun d (abs init) ops).2 ∧
  observe fx d (run fx d init ops).2 = refObserve d (refRun d (abs init) ops).2

theorem refines_repaired (d : Dialect) (init : Items) (ops : List Op) : Refines repaired d init ops := by
  unfold Refines
  rw [run_refines d ops init]
  exact ⟨rfl, rfl, observe_refines d _⟩

/-- **Table** (inherent methods, and through `dyn TableLike`), repaired code: every history of calls
    refines the reference ordered map. -/
theorem T16_refine_table (ops : List Op) :
    Refines repaired .table [] ops ∧ Refines repaired .tablelike [] ops :=
  ⟨refines_repaired _ _ _, refines_repaired _ _ _⟩

/-- **InlineTable** (inherent methods, and through `dyn TableLike`), repaired code, started empty or as
    the inline table `doc["t"]["a"]` creates in an empty document (one placeholder). -/
theorem T16_refine_inline (ops : List Op) :
    Refines repaired .inline [] ops ∧ Refines repaired .inlinelike [] ops ∧
    Refines repaired .inlinelike [(0, .placeholder)] ops :=
  ⟨refines_repaired _ _ _, refines_repaired _ _ _, refines_repaired _ _ _⟩

example : (run repaired .table [] [.ins 0 1, .ins 1 2, .idxmut 2, .ins 2 3, .rem 1, .ins 0 4, .ins 1 5, .iter]).1 =
    [.opt none, .opt none, .slot .placeholder, .opt none, .opt (some (.item (.int 2))), .opt (some (.item (.int 1))),
     .opt none, .pairs [(0, .item (.int 4)), (2, .item (.int 3)), (1, .item (.int 5))]] := by decide

def NoPh (m : Items) : Prop := ∀ e ∈ m, e.2.isNone = false

def indexesMutably : Op → Bool
  | .idxmut _ => true
  | _ => false

theorem imGet_noPh (m : Items) (h : NoPh m) (k : Nat) : imGet m k ≠ some .placeholder := by
  intro hg
  have := h _ (imGet_key_mem m k _ hg)
  simp [Slot.isNone] at this

theorem vis_noPh (m : Items) (h : NoPh m) (k : Nat) : vis (imGet m k) = imGet m k := by
  have := imGet_noPh m h k
  cases hg : imGet m k with
  | none => rfl
  | some s => cases s with
    | placeholder => exact absurd hg this
    | item v => rfl

theorem iterVis_noPh (m : Items) (h : NoPh m) : iterVis m = m := by
  unfold iterVis
  apply List.filter_eq_self.2
  intro e he
  simp [h e he]

theorem dIter_noPh (fx : Fix) (d : Dialect) (m : Items) (h : NoPh m) : dIter fx d m = dIter repaired d m := by
  cases d <;> simp [dIter, iterVis_noPh m h]

theorem dGet_noPh (fx : Fix) (d : Dialect) (m : Items) (h : NoPh m) (k : Nat) :
    dGet fx d m k = dGet repaired d m k := by
  cases d <;> simp [dGet, vis_noPh m h]

theorem dLen_noPh (fx : Fix) (d : Dialect) (m : Items) (h : NoPh m) : dLen fx d m = dLen repaired d m := by
  simp [dLen, dIter_noPh fx d m h]

theorem step_noPh (fx : Fix) (d : Dialect) (m : Items) (h : NoPh m) (op : Op) :
    step fx d m op = step repaired d m op := by
  have hv := vis_noPh m h
  cases op with
  | ins k n | insf k n => simp only [step, imInsert_eq]; rw [oldRet_eq fx d _ (hv k)]
  | rem k | reme k => simp only [step, imShiftRemove_eq]; rw [oldRet_eq fx d _ (hv k)]
  | get k | getmut k => simp only [step, dGet_noPh fx d m h]
  | len | empty => simp only [step, dLen_noPh fx d m h]
  | iter | keys => simp only [step, dIter_noPh fx d m h]
  | entry k n | entwith k n => simp only [step, orInsertStep_of_ne fx d m k n (imGet_noPh m h k)]
  | entrem k | entget k | entkey k | entins k n | entmut k n =>
    simp only [step, entryOf_of_ne fx d m k (imGet_noPh m h k), entryOf_of_ne repaired d m k (imGet_noPh m h k)]
  | entocc k =>
    simp only [step]
    have := imGet_noPh m h k
    cases hg : imGet m k with
    | none => rfl
    | some s => cases s with
      | placeholder => exact absurd hg this
      | item v => rfl
  | goi k n =>
    simp only [step]
    rw [goiStep_of_ne fx m k n (imGet_noPh m h k)]
  | _ => rfl

theorem kept_noPh : Kept (fun s => s.isNone = false) NoPh where
  set m k s h hs e he := by
    rcases mem_imSet m k _ e he with h' | h'
    · exact h e h'
    · rw [h']; exact hs
  push m k s h hs _ e he := by
    simp only [imPush, List.mem_append, List.mem_singleton] at he
    rcases he with h' | h'
    · exact h e h'
    · rw [h']; exact hs
  sub m m' h hs e he := h e (hs.subset he)
  perm m m' h hp e he := h e (hp.subset he)

/-- the premise of `Kept.run` at `P := (·.isNone = false)`: no call in `ops` is an `idxmut` -/
theorem noPh_of_all {ops : List Op} (hops : ops.all (fun op => !indexesMutably op)) :
    ∀ op ∈ ops, ∀ k, op = .idxmut k → Slot.placeholder.isNone = false :=
  fun op ho k hk => by subst hk; simpa [indexesMutably] using List.all_eq_true.1 hops _ ho

theorem run_noPh (fx : Fix) (d : Dialect) (ops : List Op) (hops : ops.all (fun op => !indexesMutably op))
    (m : Items) (h : NoPh m) : run fx d m ops = run repaired d m ops := by
  induction ops generalizing m with
  | nil => rfl
  | cons op ops ih =>
    simp only [List.all_cons, Bool.and_eq_true, Bool.not_eq_eq_eq_not, Bool.not_true] at hops
    have hn := kept_noPh.step (fun _ => rfl) repaired d h op (fun k hk => by subst hk; cases hops.1)
    simp only [run, step_noPh fx d m h op, ih hops.2 _ hn]

theorem observe_noPh (fx : Fix) (d : Dialect) (m : Items) (h : NoPh m) : observe fx d m = observe repaired d m := by
  simp only [observe, dLen_noPh fx d m h, dIter_noPh fx d m h, iterVis_noPh m h]
  simp [dGet_noPh fx d m h]

theorem refines_noPh (fx : Fix) (d : Dialect) (init : Items) (ops : List Op) (hn : NoPh init)
    (hops : ops.all (fun op => !indexesMutably op)) : Refines fx d init ops := by
  unfold Refines
  rw [run_noPh fx d ops hops init hn,
    observe_noPh fx d _ (kept_noPh.run (fun _ => rfl) repaired d ops (noPh_of_all hops) hn)]
  exact refines_repaired d init ops

/-- **The code as it is** (`current`), every map-like dialect: every history of calls that never
    indexes mutably (so no placeholder is ever created) refines the reference ordered map. -/
theorem T16_refine_current_without_indexing (d : Dialect) (ops : List Op)
    (hops : ops.all (fun op => !indexesMutably op)) : Refines current d [] ops :=
  refines_noPh current d [] ops (fun e he => by simp at he) hops

/-- the hypothesis of `T16_refine_current_without_indexing` on a real history -/
example : [Op.ins 0 1, .ins 1 2, .rem 0, .entry 0 3, .retain, .sortby, .extend [2, 5, 0, 6], .iter].all
    (fun op => !indexesMutably op) = true := by decide

/-- calls on which `afterPatches` still differs from the reference: asking whether an entry is
    occupied — directly, or by what the `Occupied` / `Vacant` branch does (`remove`, `insert`, `get`,
    `get_mut`, `key`) —, and `InlineTable::entry` (its own `entry`, not the one of `TableLike`) -/
def touchesEntryClassification (d : Dialect) : Op → Bool
  | .entocc _ => true
  | .entrem _ | .entins _ _ | .entget _ | .entmut _ _ | .entkey _ => true
  | .entry _ _ | .entwith _ _ => d == .inline
  | _ => false

theorem step_afterPatches (d : Dialect) (m : Items) (op : Op) (h : touchesEntryClassification d op = false) :
    step afterPatches d m op = step repaired d m op := by
  cases op with
  | entry k n | entwith k n =>
    simp only [step]; exact orInsertStep_afterPatches d m k n (by simpa [touchesEntryClassification] using h)
  | entocc k | entrem k | entins k n | entget k | entmut k n | entkey k => simp [touchesEntryClassification] at h
  | _ => rfl

theorem run_afterPatches (d : Dialect) (ops : List Op)
    (hops : ops.all (fun op => !touchesEntryClassification d op)) (m : Items) :
    run afterPatches d m ops = run repaired d m ops := by
  induction ops generalizing m with
  | nil => rfl
  | cons op ops ih =>
    simp only [List.all_cons, Bool.and_eq_true, Bool.not_eq_eq_eq_not, Bool.not_true] at hops
    simp only [run, step_afterPatches d m op hops.1, ih hops.2]

/-- **After the five small repairs**: every history that neither asks whether an entry is occupied nor
    (on an `InlineTable` itself) uses `entry` refines the reference ordered map — placeholders included. -/
theorem T16_refine_after_patches (d : Dialect) (init : Items) (ops : List Op)
    (hops : ops.all (fun op => !touchesEntryClassification d op)) : Refines afterPatches d init ops := by
  unfold Refines
  rw [run_afterPatches d ops hops]
  -- `observe` reads only `fx.likeIter` and `fx.intoIter`, both `true` in `afterPatches` as in `repaired`
  exact refines_repaired d init ops

example : [Op.idxmut 0, .ins 1 2, .entry 0 3, .rem 1, .idxmut 1, .iter].all
    (fun op => !touchesEntryClassification .table op) = true := by decide

/-! The deviations of the upstream code (`asImplemented`).  /repo (`current = afterPatches`) differs from upstream by
    fix commits for those behind `Fix.likeIter`, `insRet`, `entry`, `intoIter` and `goi`; the two classifications of
    `entry()` (`Fix.entOcc`, `Fix.inlineEntry`) are in /repo too: known findings. -/

/-- F6 — `impl TableLike for InlineTable`: after `doc["t"]["a"]` on an empty document the inline table
    has `len() == 0`, but `iter()` yields the placeholder and `get("a")` is `Some(Item::None)`. -/
theorem T16_finding_tablelike_inline_placeholder :
    (run asImplemented .inlinelike [(0, .placeholder)] [.len, .iter, .get 0]).1 =
      [.nat 0, .pairs [(0, .placeholder)], .opt (some .placeholder)] ∧
    (refRun .inlinelike (abs [(0, .placeholder)]) [.len, .iter, .get 0]).1 = [.nat 0, .pairs [], .opt none] := by
  decide

/-- `Table::insert` / `remove` report `Some(Item::None)` as the previous value of a placeholder. -/
theorem T16_finding_table_insert_returns_placeholder :
    (run asImplemented .table [] [.idxmut 0, .ins 0 1]).1 = [.slot .placeholder, .opt (some .placeholder)] ∧
    (refRun .table [] [.idxmut 0, .ins 0 1]).1 = [.slot .placeholder, .opt none] ∧
    (run asImplemented .table [] [.idxmut 0, .rem 0]).1 = [.slot .placeholder, .opt (some .placeholder)] ∧
    (refRun .table [] [.idxmut 0, .rem 0]).1 = [.slot .placeholder, .opt none] := by
  decide

/-- `entry(k).or_insert(v)` on a placeholder stores nothing: the key stays absent. -/
theorem T16_finding_entry_or_insert_keeps_placeholder :
    (run asImplemented .table [] [.idxmut 0, .entry 0 1, .get 0]).1 = [.slot .placeholder, .slot .placeholder, .opt none] ∧
    (refRun .table [] [.idxmut 0, .entry 0 1, .get 0]).1 =
      [.slot .placeholder, .slot (.item (.int 1)), .opt (some (.item (.int 1)))] := by
  decide

/-- `entry(k)` is `Occupied` for a placeholder. -/
theorem T16_finding_entry_occupied_for_placeholder :
    (run asImplemented .table [] [.idxmut 0, .entocc 0]).1 = [.slot .placeholder, .bool true] ∧
    (refRun .table [] [.idxmut 0, .entocc 0]).1 = [.slot .placeholder, .bool false] := by
  decide

/-- `InlineTable::entry` writes the value `{}` over a placeholder: merely asking for the entry makes the
    key present (`len` 1, printed `{ a = {} }`). -/
theorem T16_finding_inline_entry_materialises :
    (run asImplemented .inline [] [.idxmut 0, .entocc 0, .len, .get 0]).1 =
      [.slot .placeholder, .bool true, .nat 1, .opt (some (.item .tbl))] ∧
    (refRun .inline [] [.idxmut 0, .entocc 0, .len, .get 0]).1 = [.slot .placeholder, .bool false, .nat 0, .opt none] ∧
    (observe asImplemented .inline (run asImplemented .inline [] [.idxmut 0, .entocc 0]).2).print = "{ a = {} }" := by
  decide

/-- `Table::into_iter` yields placeholders. -/
theorem T16_finding_table_into_iter_placeholder :
    (observe asImplemented .table (run asImplemented .table [] [.idxmut 0]).2).into = some [(0, .placeholder)] ∧
    (refObserve .table (refRun .table [] [.idxmut 0]).2).into = some [] := by
  decide

/-- one call on the reference vector (a `List Nat` with the `Vec` operations; out-of-range insert,
    replace and remove panic and leave the vector unchanged) -/
def refVecStep (isArray : Bool) (a : List Nat) : Op → Ret × List Nat
  | .push n => (.unit, a ++ [n])
  | .ins i n =>
    if isArray then
      match vinsert a i n with
      | some a' => (.unit, a')
      | none => (.panic, a)
    else (.na, a)
  | .repl i n =>
    if isArray then
      match vreplace a i n with
      | some r => (.opt (some (ival r.2)), r.1)
      | none => (.panic, a)
    else (.na, a)
  | .rem i =>
    match vremove a i with
    | some r => (if isArray then .opt (some (ival r.2)) else .unit, r.1)
    | none => (.panic, a)
  | .get i => (.opt (a[i]?.map ival), a)
  | .getmut i => (.opt (a[i]?.map ival), a)
  | .len => (.nat a.length, a)
  | .empty => (.bool (a.length == 0), a)
  | .iter => (.vals a, a)
  | .clear => (.unit, [])
  | .retain => (.unit, a.filter fun n => n % 2 == 0)
  | .sortby => if isArray then (.unit, stableSort (fun x y => decide (x ≤ y)) a) else (.na, a)
  | .extend ns => (.unit, a ++ ns)
  | _ => (.na, a)

def refVecRun (isArray : Bool) : List Nat → List Op → List Ret × List Nat
  | a, [] => ([], a)
  | a, op :: ops =>
    let r := refVecStep isArray a op
    let rest := refVecRun isArray r.2 ops
    (r.1 :: rest.1, rest.2)

/-- abstraction of an `Array`: forget the decoration of the elements -/
def vals (a : Arr) : List Nat := a.map (·.1)

theorem arr_step_refines (a : Arr) (op : Op) :
    refVecStep true (vals a) op = ((arrStep a op).1, vals (arrStep a op).2) := by
  cases op with
  | ins i n =>
    simp only [refVecStep, arrStep, vinsert, vals, List.length_map, ↓reduceIte]
    by_cases h : i ≤ a.length <;> simp [h, map_insertIdx]
  | repl i n =>
    simp only [refVecStep, arrStep, vreplace, vals, List.getElem?_map, ↓reduceIte]
    cases h : a[i]? with
    | none => simp
    | some old => simp [List.map_set]
  | rem i =>
    simp only [refVecStep, arrStep, vremove, vals, List.getElem?_map, ↓reduceIte]
    cases h : a[i]? with
    | none => simp
    | some old => simp [map_eraseIdx]
  | get i | getmut i => simp [refVecStep, arrStep, vals, List.getElem?_map, Function.comp_def]
  | push n | len | empty | iter | clear => simp [refVecStep, arrStep, vals]
  | retain => simp [refVecStep, arrStep, vals, List.filter_map, Function.comp_def]
  | sortby =>
    simp only [refVecStep, arrStep, vals, ↓reduceIte]
    exact congrArg _ ((stableSort_is fun x y : Nat × Decor => decide (x.1 ≤ y.1)).map
      (stableSort_is fun x y : Nat => decide (x ≤ y)) (fun e => e.1) (fun _ _ => rfl) a).symm
  | extend ns => simp [refVecStep, arrStep, vals, Function.comp_def]
  | _ => rfl

/-- **Array**: on every history of calls each call's return value is the reference vector's, and the
    elements (decoration forgotten) are the reference vector. -/
theorem T16_refine_array (ops : List Op) (a : Arr) :
    refVecRun true (vals a) ops = ((arrRun a ops).1, vals (arrRun a ops).2) := by
  induction ops generalizing a with
  | nil => rfl
  | cons op ops ih => simp only [refVecRun, arrRun, arr_step_refines, ih]

theorem aot_step_refines (a : Aot) (op : Op) : refVecStep false a op = aotStep a op := by
  cases op <;> simp [refVecStep, aotStep]
  case rem i => cases vremove a i <;> rfl

/-- **ArrayOfTables**: on every history the results and the sequence of tables are the reference vector's. -/
theorem T16_refine_aot (ops : List Op) (a : Aot) : refVecRun false a ops = aotRun a ops := by
  induction ops generalizing a with
  | nil => rfl
  | cons op ops ih => simp only [refVecRun, aotRun, aot_step_refines, ih]

example : (arrRun [] [.push 1, .push 2, .ins 0 5, .repl 1 7, .rem 0, .ins 9 1, .repl 9 1, .rem 9, .iter]).1 =
    [.unit, .unit, .unit, .opt (some (ival 1)), .opt (some (ival 5)), .panic, .panic, .panic, .vals [7, 2]] := by
  decide

def refMapStep (sorted : Bool) (m : PMap Nat) : Op → Ret × PMap Nat
  | .ins k n => (.opt ((pget m k).map ival), pput sorted m k n)
  | .rem k => (.opt ((pget m k).map ival), premove m k)
  | .get k => (.opt ((pget m k).map ival), m)
  | .getmut k => (.opt ((pget m k).map ival), m)
  | .gkv k => (.kv ((pget m k).map fun n => (k, ival n)), m)
  | .has k => (.bool (pget m k).isSome, m)
  | .len => (.nat m.length, m)
  | .empty => (.bool m.isEmpty, m)
  | .iter => (.pairs (m.map fun e => (e.1, ival e.2)), m)
  | .keys => (.keys (m.map (·.1)), m)
  | .values => (.vals (m.map (·.2)), m)
  | .clear => (.unit, [])
  | .entry k n =>
    match pget m k with
    | some x => (.slot (ival x), m)
    | none => (.slot (ival n), pput sorted m k n)
  | .entocc k => (.bool (pget m k).isSome, m)
  | .idx k =>
    match pget m k with
    | some x => (.slot (ival x), m)
    | none => (.panic, m)
  | .idxset k n =>
    match pget m k with
    | some _ => (.unit, pput sorted m k n)
    | none => (.panic, m)
  | .retain => (.unit, m.filter fun e => e.2 % 2 == 0)
  | .extend args => (.unit, pextend sorted m (pairsOf args))
  | _ => (.na, m)

def refMapRun (sorted : Bool) : PMap Nat → List Op → List Ret × PMap Nat
  | m, [] => ([], m)
  | m, op :: ops =>
    let r := refMapStep sorted m op
    let rest := refMapRun sorted r.2 ops
    (r.1 :: rest.1, rest.2)

def MapInv (sorted : Bool) (m : MapImpl) : Prop := sorted = true → StrictSorted m

theorem mInsert_snd (sorted : Bool) (m : MapImpl) (k v : Nat) (h : MapInv sorted m) :
    (mInsert sorted m k v).2 = pget m k := by
  cases sorted
  · simp [mInsert, imInsert_eq, imGet_eq]
  · simp [mInsert, btInsert_snd_eq m k v (h rfl)]

theorem inv_pput (sorted : Bool) (m : MapImpl) (k v : Nat) (h : MapInv sorted m) : MapInv sorted (pput sorted m k v) := by
  intro hs
  subst hs
  exact strictSorted_pputSorted m k v (h rfl)

theorem imSet_eq_pput (sorted : Bool) (m : MapImpl) (k v : Nat) (h : MapInv sorted m) (hk : (imGet m k).isSome) :
    imSet m k v = pput sorted m k v := by
  cases sorted
  · simp [pput, imSet_eq m k v hk]
  · simp [pput, imSet_eq_pputSorted m k v (h rfl) hk]

theorem extend_eq (sorted : Bool) (kvs : List (Nat × Nat)) (m : MapImpl) (h : MapInv sorted m) :
    kvs.foldl (fun m kv => (mInsert sorted m kv.1 kv.2).1) m = pextend sorted m kvs ∧
    MapInv sorted (pextend sorted m kvs) := by
  induction kvs generalizing m with
  | nil => exact ⟨rfl, h⟩
  | cons kv kvs ih =>
    simp only [List.foldl_cons, pextend, mInsert_fst] at ih ⊢
    exact ih _ (inv_pput sorted m kv.1 kv.2 h)

theorem map_step_refines (sorted : Bool) (m : MapImpl) (h : MapInv sorted m) (op : Op) :
    mapStep sorted m op = refMapStep sorted m op ∧ MapInv sorted (mapStep sorted m op).2 := by
  cases op with
  | ins k n =>
    simp only [mapStep, refMapStep, mInsert_fst, mInsert_snd sorted m k n h]
    exact ⟨trivial, inv_pput sorted m k n h⟩
  | rem k =>
    simp only [mapStep, refMapStep, imShiftRemove_eq, imGet_eq]
    refine ⟨trivial, fun hs => ?_⟩
    exact List.Pairwise.sublist (List.eraseP_sublist) (h hs)
  | entry k n =>
    simp only [mapStep, refMapStep, imGet_eq, mInsert_fst]
    cases pget m k with
    | none => exact ⟨rfl, inv_pput sorted m k n h⟩
    | some x => exact ⟨rfl, h⟩
  | idx k =>
    simp only [mapStep, refMapStep, imGet_eq]
    cases pget m k <;> exact ⟨rfl, h⟩
  | idxset k n =>
    simp only [mapStep, refMapStep, imGet_eq]
    cases hg : pget m k with
    | none => exact ⟨rfl, h⟩
    | some x =>
      have hk : (imGet m k).isSome := by rw [imGet_eq, hg]; rfl
      simp only [imSet_eq_pput sorted m k n h hk]
      exact ⟨trivial, inv_pput sorted m k n h⟩
  | retain =>
    simp only [mapStep, refMapStep, imRetain]
    exact ⟨trivial, fun hs => List.Pairwise.filter _ (h hs)⟩
  | extend args =>
    simp only [mapStep, refMapStep]
    have := extend_eq sorted (pairsOf args) m h
    rw [this.1]
    exact ⟨rfl, this.2⟩
  | clear => exact ⟨rfl, fun _ => List.Pairwise.nil⟩
  | get k | getmut k | gkv k | has k | entocc k => simp only [mapStep, refMapStep, imGet_eq]; exact ⟨trivial, h⟩
  | _ => exact ⟨rfl, h⟩

/-- **toml::Map**, both configurations, from any state satisfying the invariant (the empty map does):
    on every history of calls the results and the final map are the reference ordered map's; in the
    default configuration the keys of the final map are strictly increasing (iteration in key order). -/
theorem T16_refine_map (sorted : Bool) (ops : List Op) (m : MapImpl) (h : MapInv sorted m) :
    mapRun sorted m ops = refMapRun sorted m ops ∧ MapInv sorted (mapRun sorted m ops).2 := by
  induction ops generalizing m with
  | nil => exact ⟨rfl, h⟩
  | cons op ops ih =>
    obtain ⟨h1, h2⟩ := map_step_refines sorted m h op
    have := ih _ h2
    have h3 := this.2
    rw [this.1] at h3
    simp only [mapRun, refMapRun]
    rw [← h1, this.1]
    exact ⟨rfl, h3⟩

/-- the empty map satisfies the invariant; a sorted history with removal: order of the rest is kept -/
example : MapInv true [] := fun _ => List.Pairwise.nil
example : (mapRun true [] [.ins 2 1, .ins 0 2, .ins 1 3, .rem 0, .ins 0 4, .iter]).1 =
    [.opt none, .opt none, .opt none, .opt (some (ival 2)), .opt none,
     .pairs [(0, ival 4), (1, ival 3), (2, ival 1)]] := by decide
example : (mapRun false [] [.ins 2 1, .ins 0 2, .ins 1 3, .rem 0, .ins 2 4, .ins 0 5, .iter]).1 =
    [.opt none, .opt none, .opt none, .opt (some (ival 2)), .opt (some (ival 1)), .opt none,
     .pairs [(2, ival 4), (1, ival 3), (0, ival 5)]] := by decide

/-- `len()` is the number of pairs `iter()` yields, and `is_empty()` says `len() == 0` -/
theorem T16_len_is_iter_length (d : Dialect) (m : Items) :
    (step repaired d m .len).1 = .nat (dIter repaired d m).length ∧
    (step repaired d m .empty).1 = .bool ((dIter repaired d m).length == 0) := by
  simp [step, dLen_repaired, dIter_repaired]

/-- placeholders do not count: `len`, `iter` and the printed text are those of the map with every
    placeholder dropped -/
theorem T16_placeholders_invisible (d : Dialect) (m : Items) :
    dLen repaired d m = dLen repaired d (iterVis m) ∧
    dIter repaired d m = dIter repaired d (iterVis m) ∧
    (observe repaired d m).print = (observe repaired d (iterVis m)).print := by
  simp only [dLen_repaired, dIter_repaired, iterVis_idem, observe]
  cases d <;> simp [Dialect.isTable, printTable_iterVis, printInline_iterVis]

/-- removal keeps the remaining entries in order: the new state is the old one with one position
    deleted, so the new iteration is a subsequence of the old one -/
theorem T16_remove_keeps_order (d : Dialect) (m : Items) (k : Nat) :
    (step repaired d m (.rem k)).2 = m.eraseP (fun e => e.1 == k) ∧
    (dIter repaired d (step repaired d m (.rem k)).2).Sublist (dIter repaired d m) := by
  simp only [step, imShiftRemove_eq, premove, dIter_repaired, iterVis]
  exact ⟨trivial, List.Sublist.filter _ List.eraseP_sublist⟩

/-- insertion of a key that has a position — an entry or a placeholder left by `&mut c[k]` — keeps
    that position; a key without a position is appended -/
theorem T16_insert_keeps_position (d : Dialect) (m : Items) (k n : Nat) :
    ((imGet m k).isSome → ((step repaired d m (.ins k n)).2).map (·.1) = m.map (·.1)) ∧
    (imGet m k = none → (step repaired d m (.ins k n)).2 = m ++ [(k, .item (.int n))]) := by
  simp only [step, imInsert]
  constructor
  · intro h
    cases hg : imGet m k with
    | none => simp [hg] at h
    | some s => simp [keys_imSet]
  · intro h
    simp [h, imPush]

/-- non-vacuity of the first part: the key's slot is a placeholder -/
example : (imGet (step repaired .table [(1, .item (.int 5))] (.idxmut 0)).2 0).isSome = true ∧
    (step repaired .table (step repaired .table [(1, .item (.int 5))] (.idxmut 0)).2 (.ins 0 7)).2 =
      [(1, .item (.int 5)), (0, .item (.int 7))] := by decide

/-! The Entry API (`entry(k)` then `remove` / `insert` / `get` / `get_mut` / `or_insert_with` / `key`).  On a state
without placeholders every configuration of the model — in particular `current`, which is /repo — takes the
reference's step.  With placeholders the same holds for `repaired` only; what `current` does there is the class
of the known findings. -/

theorem step_refines_noPh (fx : Fix) (d : Dialect) (m : Items) (h : NoPh m) (op : Op) :
    refStep d (abs m) op = ((step fx d m op).1, abs (step fx d m op).2) := by
  rw [step_noPh fx d m h]
  exact step_refines d m op

theorem step_fst_noPh (fx : Fix) (d : Dialect) (m : Items) (h : NoPh m) (op : Op) :
    (step fx d m op).1 = (refStep d (abs m) op).1 := by rw [step_refines_noPh fx d m h op]

theorem step_snd_noPh (fx : Fix) (d : Dialect) (m : Items) (h : NoPh m) (op : Op) :
    abs (step fx d m op).2 = (refStep d (abs m) op).2 := by rw [step_refines_noPh fx d m h op]

/-- the repaired model takes the reference's step on each of the six calls, from any state (placeholders included) -/
theorem T16_refine_entry_api_repaired (d : Dialect) (m : Items) (k n : Nat) :
    ∀ op ∈ [Op.entrem k, .entins k n, .entget k, .entmut k n, .entwith k n, .entkey k],
      refStep d (abs m) op = ((step repaired d m op).1, abs (step repaired d m op).2) :=
  fun op _ => step_refines d m op

/-- **`match entry(k) { Occupied(e) => e.remove(), Vacant(_) => … }`**, any configuration, no placeholder
    in the map: it is the reference's `remove` — the removed value (`none` = vacant) is returned, the key's
    position disappears and all other entries keep their order (`eraseP`: shift-, not swap-removal). -/
theorem T16_refine_entrem (fx : Fix) (d : Dialect) (m : Items) (k : Nat) (h : NoPh m) :
    (step fx d m (.entrem k)).1 = .opt (optSlot (remove (abs m) k).2) ∧
    abs (step fx d m (.entrem k)).2 = (remove (abs m) k).1 ∧
    (step fx d m (.entrem k)).2 = m.eraseP (fun e => e.1 == k) ∧
    refStep d (abs m) (.entrem k) = ((step fx d m (.entrem k)).1, abs (step fx d m (.entrem k)).2) := by
  have hs : (step fx d m (.entrem k)).2 = premove m k ∧ (step fx d m (.entrem k)).1 = .opt (imGet m k) := by
    rw [step_noPh fx d m h]
    simp only [step, entryOf_repaired, vis_noPh m h, imShiftRemove_eq]
    cases hg : imGet m k with
    | none => exact ⟨(premove_of_none m k hg).symm, rfl⟩
    | some s => exact ⟨rfl, rfl⟩
  refine ⟨?_, ?_, hs.1, step_refines_noPh fx d m h (.entrem k)⟩
  · rw [hs.2]; simp only [Spec.OrdMap.remove, optSlot_get_abs, vis_noPh m h]
  · rw [hs.1]; simp only [Spec.OrdMap.remove, eraseP_abs]

/-- the hypothesis on a real state; after `a` is removed through its entry, b, c, d keep their order (a
    `swap_remove` would put d first) -/
example : NoPh [(0, .item (.int 0)), (1, .item (.int 1))] := by
  intro e he
  simp at he
  rcases he with rfl | rfl <;> rfl
example : (run current .table [] [.ins 0 0, .ins 1 1, .ins 2 2, .ins 3 3, .entrem 0, .iter]).1.getLast? =
    some (.pairs [(1, .item (.int 1)), (2, .item (.int 2)), (3, .item (.int 3))]) := by decide

/-- **`Occupied(e) => e.insert(v)`, `Vacant(e) => e.insert(v)`**, any configuration, no placeholder: the
    reference's `insert` — the old value (`none` = vacant) is returned; an occupied key keeps its position,
    a vacant one is appended. -/
theorem T16_refine_entins (fx : Fix) (d : Dialect) (m : Items) (k n : Nat) (h : NoPh m) :
    (step fx d m (.entins k n)).1 = .opt (optSlot (insert (abs m) k (.int n)).2) ∧
    abs (step fx d m (.entins k n)).2 = (insert (abs m) k (.int n)).1 ∧
    ((imGet m k).isSome → ((step fx d m (.entins k n)).2).map (·.1) = m.map (·.1)) ∧
    (imGet m k = none → (step fx d m (.entins k n)).2 = m ++ [(k, .item (.int n))]) := by
  refine ⟨step_fst_noPh fx d m h _, step_snd_noPh fx d m h _, ?_, ?_⟩
  · intro hk
    rw [step_noPh fx d m h]
    simp only [step, entryOf_repaired, vis_noPh m h]
    cases hg : imGet m k with
    | none => simp [hg] at hk
    | some s => simp [keys_imSet]
  · intro hk
    rw [step_noPh fx d m h]
    simp [step, entryOf_repaired, hk, vis, imInsert, imPush]

example : (imGet [(0, Slot.item (.int 0)), (1, .item (.int 1))] 0).isSome = true ∧
    imGet [(0, Slot.item (.int 0)), (1, .item (.int 1))] 2 = none := by decide

/-- **`Occupied(e) => (e.key(), e.get())`, `Vacant(e) => e.key()`**: the reference's `getKeyValue`; nothing changes. -/
theorem T16_refine_entget (fx : Fix) (d : Dialect) (m : Items) (k : Nat) (h : NoPh m) :
    (step fx d m (.entget k)).1 = .kv ((getKeyValue (abs m) k).map pairSlot) ∧
    (step fx d m (.entget k)).2 = m := by
  rw [step_noPh fx d m h]
  simp only [step, entryOf_repaired, kv_abs, and_self]

/-- **`Occupied(e) => *e.get_mut() = v` (`into_mut`)**: the old value is the reference's lookup; an occupied
    key gets the new value at its position (`put`), a vacant one leaves the map alone. -/
theorem T16_refine_entmut (fx : Fix) (d : Dialect) (m : Items) (k n : Nat) (h : NoPh m) :
    (step fx d m (.entmut k n)).1 = .opt (optSlot (get (abs m) k)) ∧
    abs (step fx d m (.entmut k n)).2 = (if contains (abs m) k then put (abs m) k (some (.int n)) else abs m) ∧
    ((step fx d m (.entmut k n)).2).map (·.1) = m.map (·.1) := by
  refine ⟨?_, ?_, ?_⟩
  · rw [step_fst_noPh fx d m h]
    simp only [refStep]
    cases get (abs m) k <;> rfl
  · rw [step_snd_noPh fx d m h]
    simp only [refStep, contains]
    split <;> rename_i hg <;> simp [hg]
  · rw [step_noPh fx d m h]
    simp only [step, entryOf_repaired]
    cases vis (imGet m k) <;> simp [keys_imSet]

/-- **`entry(k).or_insert_with(|| v)`** is `entry(k).or_insert(v)` (any state, any configuration), and on a
    state without placeholders the reference's `orInsert`. -/
theorem T16_refine_entwith (fx : Fix) (d : Dialect) (m : Items) (k n : Nat) :
    step fx d m (.entwith k n) = step fx d m (.entry k n) ∧
    (NoPh m →
      (step fx d m (.entwith k n)).1 = .slot (.item (orInsert (abs m) k (.int n)).2) ∧
      abs (step fx d m (.entwith k n)).2 = (orInsert (abs m) k (.int n)).1) := by
  exact ⟨rfl, fun h => ⟨step_fst_noPh fx d m h _, step_snd_noPh fx d m h _⟩⟩

/-- **`entry(k).key()`** with the classification: occupied iff the reference contains the key; nothing changes. -/
theorem T16_refine_entkey (fx : Fix) (d : Dialect) (m : Items) (k : Nat) (h : NoPh m) :
    (step fx d m (.entkey k)).1 = .bool (contains (abs m) k) ∧ (step fx d m (.entkey k)).2 = m := by
  refine ⟨step_fst_noPh fx d m h _, ?_⟩
  rw [step_noPh fx d m h]
  simp only [step, entryOf_repaired]

/-- `current` (/repo) on a placeholder (the class of the known findings F19 / F20, seen through the rest of
    the Entry API): `Table::entry` is `Occupied` holding `Item::None`, so `remove` returns and deletes the
    placeholder and `get_mut` stores a value where the reference's entry is vacant; `InlineTable::entry`
    hands out the value `{}` it has just written. -/
theorem T16_finding_entry_api_on_placeholder :
    (run current .table [] [.idxmut 0, .entrem 0]).1 = [.slot .placeholder, .opt (some .placeholder)] ∧
    (refRun .table [] [.idxmut 0, .entrem 0]).1 = [.slot .placeholder, .opt none] ∧
    (run current .tablelike [] [.idxmut 0, .entmut 0 1, .get 0]).1 =
      [.slot .placeholder, .opt (some .placeholder), .opt (some (.item (.int 1)))] ∧
    (refRun .tablelike [] [.idxmut 0, .entmut 0 1, .get 0]).1 = [.slot .placeholder, .opt none, .opt none] ∧
    (run current .inline [] [.idxmut 0, .entget 0, .len]).1 =
      [.slot .placeholder, .kv (some (0, .item .tbl)), .nat 1] ∧
    (refRun .inline [] [.idxmut 0, .entget 0, .len]).1 = [.slot .placeholder, .kv none, .nat 0] ∧
    (run current .inline [] [.idxmut 0, .entins 0 1]).1 = [.slot .placeholder, .opt (some (.item .tbl))] ∧
    (refRun .inline [] [.idxmut 0, .entins 0 1]).1 = [.slot .placeholder, .opt none] := by
  decide

/-- **`InlineTable::get_or_insert(k, n)` in /repo (`current`), from every state — placeholders
    included**: the call is the reference ordered map's `orInsert`: it returns the value already stored, else
    `n`, and the abstraction of the new state is the reference's new state. -/
theorem T16_refine_goi (m : Items) (k n : Nat) :
    (step current .inline m (.goi k n)).1 = .slot (.item (orInsert (abs m) k (.int n)).2) ∧
    abs (step current .inline m (.goi k n)).2 = (orInsert (abs m) k (.int n)).1 ∧
    refStep .inline (abs m) (.goi k n) =
      ((step current .inline m (.goi k n)).1, abs (step current .inline m (.goi k n)).2) := by
  have hr := orInsert_refines .inline m k n
  rw [← goiStep_eq_orInsertStep current m k n rfl] at hr
  have hr' := hr
  simp only [Prod.mk.injEq] at hr'
  exact ⟨hr'.1.symm, hr'.2.symm, hr⟩

/-- the three cases of the call, on the concrete state: a value is returned and nothing changes; a placeholder
    receives `n` at its reserved position (the key order is untouched); an absent key is appended -/
theorem T16_goi_positions (m : Items) (k n : Nat) :
    (∀ v, imGet m k = some (.item v) → step current .inline m (.goi k n) = (.slot (.item v), m)) ∧
    (imGet m k = some .placeholder →
      step current .inline m (.goi k n) = (.slot (.item (.int n)), imSet m k (.item (.int n))) ∧
      ((step current .inline m (.goi k n)).2).map (·.1) = m.map (·.1) ∧
      dGet current .inline (step current .inline m (.goi k n)).2 k = some (.item (.int n))) ∧
    (imGet m k = none → step current .inline m (.goi k n) = (.slot (.item (.int n)), m ++ [(k, .item (.int n))])) := by
  refine ⟨fun v h => ?_, fun h => ?_, fun h => ?_⟩
  · simp only [step, goiStep, h]
  · have hs : step current .inline m (.goi k n) = (.slot (.item (.int n)), imSet m k (.item (.int n))) := by
      simp only [step, goiStep, h]; rfl
    refine ⟨hs, ?_, ?_⟩
    · rw [hs]; exact keys_imSet m k _
    · rw [hs]
      simp only [dGet, imGet_imSet_self m k _ (by simp [h])]
      rfl
  · simp only [step, goiStep, h, imPush]

/-- the three hypotheses on real states -/
example : imGet [(1, Slot.item (.int 0)), (0, .placeholder)] 1 = some (.item (.int 0)) ∧
    imGet [(1, Slot.item (.int 0)), (0, .placeholder)] 0 = some .placeholder ∧
    imGet [(1, Slot.item (.int 0)), (0, .placeholder)] 2 = none := by decide

/-- every other dialect, model and reference: no such method, nothing happens -/
theorem T16_goi_na (fx : Fix) (d : Dialect) (hd : d ≠ .inline) (m : Items) (k n : Nat) :
    step fx d m (.goi k n) = (.na, m) ∧ refStep d (abs m) (.goi k n) = (.na, abs m) := by
  cases d <;> first | exact absurd rfl hd | exact ⟨rfl, rfl⟩

/-- whole histories: `goi` is not among the calls excluded by `T16_refine_after_patches`, so every history of
    `current` that uses `get_or_insert` — also on placeholders — next to every call except the `entry()` family
    refines the reference -/
example : [Op.ins 1 0, .idxmut 0, .ins 2 2, .goi 0 1, .goi 1 5, .goi 3 7, .rem 0, .idxmut 0, .goi 0 4, .iter].all
    (fun op => !touchesEntryClassification .inline op) = true := by decide

/-- **The defect in the upstream code** (`asImplemented.goi = false`): `item["a"]` then `get_or_insert("a", 1)`
    panics where the reference ordered map returns 1 and stores it; `current` returns 1, the key is present
    afterwards, and the value sits at the position the indexing reserved (`{ b = 0, a = 1, c = 2 }`). -/
theorem T16_finding_goi_placeholder :
    (run asImplemented .inline [] [.idxmut 0, .goi 0 1]).1 = [.slot .placeholder, .panic] ∧
    (refRun .inline [] [.idxmut 0, .goi 0 1]).1 = [.slot .placeholder, .slot (.item (.int 1))] ∧
    (run current .inline [] [.idxmut 0, .goi 0 1, .get 0, .len]).1 =
      [.slot .placeholder, .slot (.item (.int 1)), .opt (some (.item (.int 1))), .nat 1] ∧
    (observe current .inline (run current .inline [] [.ins 1 0, .idxmut 0, .ins 2 2, .goi 0 1]).2).print =
      "{ b = 0, a = 1, c = 2 }" := by
  decide

/-- `asImplemented` panics exactly on the keys holding a placeholder (and then stores nothing); on every other
    key it does what `current` does -/
theorem T16_finding_goi_panics_iff (m : Items) (k n : Nat) :
    ((step asImplemented .inline m (.goi k n)).1 = .panic ↔ imGet m k = some .placeholder) ∧
    (imGet m k = some .placeholder → (step asImplemented .inline m (.goi k n)).2 = m) ∧
    (imGet m k ≠ some .placeholder → step asImplemented .inline m (.goi k n) = step current .inline m (.goi k n)) := by
  refine ⟨?_, fun h => ?_, fun h => ?_⟩
  · simp only [step, goiStep]
    cases hg : imGet m k with
    | none => simp
    | some s => cases s <;> simp [asImplemented]
  · simp only [step, goiStep, h]; rfl
  · simp only [step]
    rw [goiStep_of_ne asImplemented m k n h, goiStep_of_ne current m k n h]

def KeysNodup (m : Items) : Prop := (m.map (·.1)).Nodup

theorem imGet_of_mem (m : Items) (h : KeysNodup m) (e : Nat × Slot) (he : e ∈ m) : imGet m e.1 = some e.2 := by
  induction m with
  | nil => simp at he
  | cons x m ih =>
    simp only [KeysNodup, List.map_cons, List.nodup_cons] at h
    simp only [List.mem_cons] at he
    rcases he with he | he
    · simp [imGet, he]
    · have hne : (x.1 == e.1) = false := by
        have : e.1 ∈ m.map (·.1) := List.mem_map.2 ⟨e, he, rfl⟩
        have : x.1 ≠ e.1 := fun hx => h.1 (hx ▸ this)
        simpa using this
      simp only [imGet, hne, Bool.false_eq_true, ↓reduceIte]
      exact ih h.2 he

/-- with unique keys (an invariant, see `T16_keys_unique`) `len()` is the number of keys whose `get`
    is not `None` -/
theorem T16_len_counts_keys_with_get (d : Dialect) (m : Items) (h : KeysNodup m) :
    dLen repaired d m = (m.filter fun e => (dGet repaired d m e.1).isSome).length := by
  rw [dLen_repaired]
  unfold iterVis
  congr 1
  apply List.filter_congr
  intro e he
  rw [dGet_repaired, imGet_of_mem m h e he]
  cases e.2 <;> rfl

theorem kept_nodup : Kept (fun _ => True) KeysNodup where
  set m k s h _ := by unfold KeysNodup; rw [keys_imSet]; exact h
  push m k s h _ hk := by
    unfold KeysNodup imPush
    rw [List.map_append, List.nodup_append]
    refine ⟨h, by simp, ?_⟩
    intro a ha b hb
    simp only [List.map_cons, List.map_nil, List.mem_singleton] at hb
    subst hb
    intro hab
    exact (imGet_eq_none m _).1 hk (hab ▸ ha)
  sub m m' h hs := List.Nodup.sublist (List.Sublist.map _ hs) h
  perm m m' h hp := (hp.map _).nodup_iff.2 h

/-- keys stay unique along every history of every configuration, from any state with unique keys (the empty
    map and the `doc["t"]["a"]` inline table are such states, see the example below) -/
theorem T16_keys_unique (fx : Fix) (d : Dialect) (ops : List Op) (m : Items) (h : KeysNodup m) :
    KeysNodup (run fx d m ops).2 :=
  kept_nodup.run (fun _ => trivial) fx d ops (fun _ _ _ _ => trivial) h

example : KeysNodup [] ∧ KeysNodup [(0, .placeholder)] := by simp [KeysNodup]

/-! The model sorts with `stableSort` (insertion sort).  It returns a permutation, ordered by the
comparator, in which the members of every tie class (elements that are pairwise `le`, e.g. all
entries with one sort key) keep their relative order — the three properties that determine the
result of a stable sort. -/

/-- stability, general form: filtering a tie class out of the sorted list gives the same sequence as
    filtering it out of the input -/
theorem T16_sortby_stable {α : Type} (le : α → α → Bool) (p : α → Bool)
    (hp : ∀ a z, p a = true → p z = true → le a z = true) (l : List α) :
    (stableSort le l).filter p = l.filter p := (stableSort_is le).filter_tie p hp l

/-- **Table::sort_values_by** (value-only comparator of the harness): entries with the same sort key
    (the same integer, or no integer: placeholders and the value `{}`) keep their relative order; the result is a
    permutation of the entries and is ordered by the comparator. -/
theorem T16_sortby_stable_table (fx : Fix) (m : Items) (key : Option Nat) :
    ((step fx .table m .sortby).2.filter fun e => e.2.asInt == key) = (m.filter fun e => e.2.asInt == key) ∧
    (step fx .table m .sortby).2.Perm m ∧
    (step fx .table m .sortby).2.Pairwise (fun a b => leTable a b = true) := by
  refine ⟨?_, (stableSort_is _).perm m, ?_⟩
  · apply T16_sortby_stable
    intro a z ha hz
    simp only [beq_iff_eq] at ha hz
    simp [leTable, ha, hz, optLe_refl]
  · exact (stableSort_is leTable).sorted (fun a b => optLe_total _ _) (fun a b c h1 h2 => optLe_trans _ _ _ h2 h1) m

/-- the sort class of an entry under `InlineTable::sort_values_by`: placeholders, or values by integer -/
def inlineClass (e : Nat × Slot) : Option (Option Nat) :=
  match e.2 with
  | .placeholder => none
  | .item _ => some e.2.asInt

/-- **InlineTable::sort_values_by**: the same three properties -/
theorem T16_sortby_stable_inline (fx : Fix) (m : Items) (cls : Option (Option Nat)) :
    ((step fx .inline m .sortby).2.filter fun e => inlineClass e == cls) = (m.filter fun e => inlineClass e == cls) ∧
    (step fx .inline m .sortby).2.Perm m ∧
    (step fx .inline m .sortby).2.Pairwise (fun a b => leInline a b = true) := by
  refine ⟨?_, (stableSort_is _).perm m, (stableSort_is leInline).sorted leInline_total leInline_trans m⟩
  apply T16_sortby_stable
  rintro ⟨ka, sa⟩ ⟨kz, sz⟩ ha hz
  simp only [beq_iff_eq] at ha hz
  cases sa with
  | placeholder => cases sz <;> simp [leInline]
  | item va =>
    cases sz with
    | placeholder =>
      simp only [inlineClass] at ha hz
      rw [← hz] at ha
      cases ha
    | item vz =>
      simp only [inlineClass] at ha hz
      have : (Slot.item va).asInt = (Slot.item vz).asInt := by
        rw [← hz] at ha
        exact Option.some.inj ha
      simp [leInline, this, optLe_refl]

/-- **Array::sort_by_key**: equal elements keep their relative order (visible through their
    decoration), the result is a permutation and ascending -/
theorem T16_sortby_stable_array (a : Arr) (n : Nat) :
    ((arrStep a .sortby).2.filter fun e => e.1 == n) = (a.filter fun e => e.1 == n) ∧
    (arrStep a .sortby).2.Perm a ∧
    (arrStep a .sortby).2.Pairwise (fun x y => x.1 ≤ y.1) := by
  refine ⟨?_, (stableSort_is _).perm a, ?_⟩
  · apply T16_sortby_stable
    intro x z hx hz
    simp only [beq_iff_eq] at hx hz
    simp [hx, hz]
  · have := (stableSort_is fun x y : Nat × Decor => decide (x.1 ≤ y.1)).sorted
      (fun x y => by simp; omega) (fun x y z h1 h2 => by simp at *; omega) a
    simpa [arrStep] using this

/-- 24 entries k00..k23 with value i % 3: the sort by value keeps k02, k05, …, k23 in that order -/
example :
    ((step current .table ((List.range 24).map fun i => (4 + i, Slot.item (.int (i % 3)))) .sortby).2.take 8).map (·.1) =
      [6, 9, 12, 15, 18, 21, 24, 27] := by decide

end TomlVerif.Props.C16
