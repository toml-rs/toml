import TomlVerif.Props.C03MoreSem
import TomlVerif.Lemmas.Same03Main
import TomlVerif.Lemmas.Bytes
/-! C03 — the weaker clause (valid, SAME DATA) without the adjacency of dotted keys.

    The class.  `nadRun s` (`Lemmas/Tiling03MoreNadDefs.lean`) is `adjRun s`
    (`Props/C03MoreSem.lean`) with the key/value check `dottedOkA` (a prefix segment naming an
    existing entry names the LAST entry of its table, a dotted-key table) replaced by `dottedOkN`:
    a prefix segment of the key that names an existing entry names a dotted-key table — anywhere
    in its table.  The header check (`pathOkA`) is unchanged.  Still excluded: a dotted key through
    a table that a header made implicitly (the statement is false there,
    `T03_same_data_counterexample`) and a `[t]` header on an implicitly existing table.

    The class is inside `genRun2` (`Props/C03MoreGen3.lean`).  With non-adjacent dotted keys the
    printer REGROUPS the body: a key/value line is not appended to the printed body but inserted
    after the entries of its group, and the printed statements come in another order than the
    source's; they rebuild the same body because its keys are distinct and its dotted-key tables
    implicit and not empty. -/
namespace TomlVerif.Props.C03More
open TomlVerif TomlVerif.Model TomlVerif.Model.Cst TomlVerif.Model.Encode
open TomlVerif.Lemmas.Cst03 TomlVerif.Lemmas.Tiling03 TomlVerif.Lemmas.Tiling03Hdr TomlVerif.Lemmas.Tiling03Nest
open TomlVerif.Lemmas.Tiling03More TomlVerif.Lemmas.Tiling03More.Nad
open TomlVerif.Props.C03 TomlVerif.Props.C03Doc TomlVerif.Props.C03Hdr TomlVerif.Props.C03Nest

/-- the class of `T03_same_data_adjacent` is inside `nadRun` -/
theorem T03_adjRun_nadRun (s : Bytes) (h : adjRun s = true) : nadRun s = true :=
  adjRun_N s h

/-- for every source in the class — dotted keys in any order, no
    hypothesis on BOM, CR, final newline, spelling or values — the printed text decodes (semantic
    parser) to the same table, flags and positions included -/
theorem T03_same_data_nonadjacent (s : Bytes) (d : CDoc) (h : parseCst s = some d) (hrun : nadRun s = true) :
    Doc.parseDocument (printDoc s d) = Doc.parseDocument s := by
  rw [same_data_nad s d h hrun, ← T03_cst_erases_to_doc s, h]; rfl

/-- … and is accepted by the format-preserving parser, with the same data -/
theorem T03_same_data_nonadjacent_cst (s : Bytes) (d : CDoc) (h : parseCst s = some d) (hrun : nadRun s = true) :
    ∃ d', parseCst (printDoc s d) = some d' ∧ eraseTbl d'.root = eraseTbl d.root :=
  (T03_reparse_iff_doc (printDoc s d) (fun t => t = eraseTbl d.root)).2 ⟨_, same_data_nad s d h hrun, rfl⟩

/-- with the fixed data spelled out -/
theorem T03_same_data_nonadjacent_tbl (s : Bytes) (d : CDoc) (h : parseCst s = some d) (hrun : nadRun s = true) :
    Doc.parseDocument (printDoc s d) = some (eraseTbl d.root) :=
  same_data_nad s d h hrun

/-- the smallest case: `c` between `a.b` and `a.d`; the printer regroups -/
example : nadRun (strBytes "a.b = 1\nc = 2\na.d = 3\n") = true ∧ adjRun (strBytes "a.b = 1\nc = 2\na.d = 3\n") = false ∧
    (parseCst (strBytes "a.b = 1\nc = 2\na.d = 3\n")).map (printDoc (strBytes "a.b = 1\nc = 2\na.d = 3\n"))
      = some (strBytes "a.b = 1\na.d = 3\nc = 2\n") ∧
    sameData (strBytes "a.b = 1\nc = 2\na.d = 3\n") = some true := by
  simp only [strBytes_eq rfl]
  decide +kernel

/-- two levels, in a `[t]` section, with comments: the comment line `# c2` travels with `a.y` -/
example : nadRun (strBytes "[t]\na.x.p = 1 # c1\n# c2\na.y = 2\nq = 1\na.x.q = 3\n") = true ∧
    adjRun (strBytes "[t]\na.x.p = 1 # c1\n# c2\na.y = 2\nq = 1\na.x.q = 3\n") = false ∧
    (parseCst (strBytes "[t]\na.x.p = 1 # c1\n# c2\na.y = 2\nq = 1\na.x.q = 3\n")).map
        (printDoc (strBytes "[t]\na.x.p = 1 # c1\n# c2\na.y = 2\nq = 1\na.x.q = 3\n"))
      = some (strBytes "[t]\na.x.p = 1 # c1\na.x.q = 3\n# c2\na.y = 2\nq = 1\n") ∧
    sameData (strBytes "[t]\na.x.p = 1 # c1\n# c2\na.y = 2\nq = 1\na.x.q = 3\n") = some true := by
  simp only [strBytes_eq rfl]
  decide +kernel

/-- a BOM, CR LF, respelled dotted keys and headers, sections out of order, comments, non-adjacent
    dotted keys on two levels and inside an inline table, no final newline -/
def exNadAll : Bytes :=
  [0xEF, 0xBB, 0xBF] ++ strBytes ("[a]\r\nk.x = 1\r\nm = 2\r\nk . y = 3\r\n# c\r\n[c]\r\n[ a.b]\r\nu.v.w = 1\r\n" ++
    "z = {p.q = 1, r = 2, p.s = 3}\r\nu.v.x = 2\r\nu.y = 3 # e\r\nu.v.z = 4\r\n[[a.c]]\r\n[[a . c]] # z")

theorem exNadAll_eval : nadRun exNadAll = true ∧ adjRun exNadAll = false ∧
    (parseCst exNadAll).map (printDoc exNadAll)
      = some (strBytes ("[a]\nk.x = 1\nk. y = 3\nm = 2\n# c\n[c]\n[ a.b]\nu.v.w = 1\nu.v.x = 2\nu.v.z = 4\nu.y = 3 # e\n" ++
          "z = {p.q = 1, p.s = 3, r = 2}\n[[a.c]]\n[[a.c]] # z\n")) ∧
    sameData exNadAll = some true := by
  simp only [exNadAll, strBytes_append, strBytes_eq rfl]
  decide +kernel

example : nadRun exNadAll = true ∧ adjRun exNadAll = false ∧
    (parseCst exNadAll).map (printDoc exNadAll)
      = some (strBytes ("[a]\nk.x = 1\nk. y = 3\nm = 2\n# c\n[c]\n[ a.b]\nu.v.w = 1\nu.v.x = 2\nu.v.z = 4\nu.y = 3 # e\n" ++
          "z = {p.q = 1, p.s = 3, r = 2}\n[[a.c]]\n[[a.c]] # z\n")) ∧
    sameData exNadAll = some true := exNadAll_eval

theorem exNadAll_nadRun : nadRun exNadAll = true := exNadAll_eval.1

/-- the examples of the smaller classes -/
example : nadRun (strBytes "# only comment") = true ∧ nadRun exSemAll = true ∧ nadRun exOrd2 = true ∧
    nadRun exCargoOrd = true ∧ nadRun exMixed = true ∧ nadRun exNestedCrlf = true := by
  have adj := fun s h => T03_adjRun_nadRun s (T03_ordRunV_adjRun s h)
  refine ⟨?_, T03_adjRun_nadRun _ exSemAll_adjRun, adj _ exOrd2_ordRunV, adj _ exCargoOrd_ordRunV,
    adj _ (T03_nestRunV_ordRunV _ exMixed_nestRunV), adj _ (T03_nestRunV_ordRunV _ exNestedCrlf_nestRunV)⟩
  simp only [strBytes_eq rfl]
  decide +kernel

/-- a dotted key through a table made by a header (`T03_same_data_counterexample`,
    `Props/C03More.lean`): outside the class, and the data DIFFERS (the printed text makes `a.b`
    explicit: its `implicit` flag and its position) -/
example : nadRun (strBytes "[a.b.d]\n[a]\nb.c.e = 3\n") = false ∧
    sameData (strBytes "[a.b.d]\n[a]\nb.c.e = 3\n") = some false :=
  ⟨by simp only [strBytes_eq rfl]; decide +kernel, sameData_implicitDotted⟩

/-- a `[t]` header on an implicitly existing table: outside the class (same data here) -/
example : nadRun (strBytes "[x.y]\n[z]\n[x]\n") = false ∧ sameData (strBytes "[x.y]\n[z]\n[x]\n") = some true :=
  ⟨by simp only [strBytes_eq rfl]; decide +kernel, sameData_reopened⟩

end TomlVerif.Props.C03More

#print axioms TomlVerif.Props.C03More.T03_same_data_nonadjacent
#print axioms TomlVerif.Props.C03More.T03_same_data_nonadjacent_cst
#print axioms TomlVerif.Props.C03More.T03_adjRun_nadRun
