import TomlVerif.Props.C08Full
import TomlVerif.Props.C14Doc
import TomlVerif.Lemmas.TreeOKInst08
import TomlVerif.Lemmas.NotDotted08
/-! C08 for parsed documents: the side conditions of `Props/C08Full.lean` about spans
    (`DocSpansIn`, `EntrySpansIn`) and about scalar payloads (`NodeInlOK`) hold for every parsed
    document and are kept by every op, so the print-level frame and the `sort` refinement hold for
    every history of edits of every parsed document; and the line of an entry that is stored directly in a
    table that is not dotted (root, `[header]`, `[a.b]`, element of `[[aot]]`) and whose path diverges from
    every edit path is a contiguous piece of `to_string()` of the edited document
    (`T08_untouched_line_in_output`). A dotted inline table stored directly in a table does not print as one
    line (`dotted_inl_no_line`: `mv` can put one there), hence the hypothesis `notDottedInl` of
    `T08_line_in_print`; it holds for every entry of a parsed document. -/
namespace TomlVerif.Props.C08
open TomlVerif TomlVerif.Model TomlVerif.Model.Cst TomlVerif.Model.Edit TomlVerif.Model.Encode
open TomlVerif.Lemmas.Edit08 TomlVerif.Lemmas.Refine08bSem TomlVerif.Lemmas.Refine08bFrame
open TomlVerif.Lemmas.Refine08bPrint TomlVerif.Lemmas.Refine08bSpans TomlVerif.Lemmas.Cst03
open TomlVerif.Lemmas.Refine08c TomlVerif.Lemmas.Spans14

/-- **`DocSpansIn` holds for every parsed document** (from `T14_bounds`: `allSpans d` is
    `tblSpans d.root` followed by the span of the document's trailing text) -/
theorem T08_parsed_spans (s : Bytes) (d : CDoc) (h : parseCst s = some d) : DocSpansIn ⟨s, d⟩ :=
  fun sp hs => (C14.T14_bounds s d h sp (List.mem_append_left _ hs)).2

theorem T08_parsed_spans' (s : Bytes) (d : CDoc) (h : parseCst s = some d) : DocSpansIn ⟨s, d⟩ := by
  exact T08_parsed_spans s d h

/-- for the initial state of the driver (`Edit.start`: UTF-8 validation, then `parseCst`) -/
theorem T08_start_spans (s : Bytes) (st : St) (h : start s = some st) : DocSpansIn st := by
  unfold start at h
  obtain ⟨d, hd, rfl⟩ := Option.map_eq_some_iff.mp h
  unfold parseCstSlice at hd
  split at hd
  · exact T08_parsed_spans s d hd
  · cases hd

theorem docSpansIn_iff (st : St) : DocSpansIn st ↔ TOK (spanPr st.inp.length) st.doc.root :=
  (TOK_span st.doc.root).symm

/-- one op: new text is appended to the arena and referred to by spans inside the new arena; what
    is moved or converted keeps spans that were inside the old arena -/
theorem T08_spans_step (st st' : St) (op : Op) (p : List Seg) (h : applyOp st op p = some st')
    (hs : DocSpansIn st) : DocSpansIn st' :=
  (docSpansIn_iff st').2 (applyOp_ok spanFam st st' op p h ((docSpansIn_iff st).1 hs))

/-- **`DocSpansIn` is an invariant of every history** -/
theorem T08_spans_invariant (es : List (Op × List Seg)) (st : St) (hs : DocSpansIn st) : DocSpansIn (run st es) :=
  (docSpansIn_iff _).2 (run_ok spanFam es st ((docSpansIn_iff st).1 hs))

/-- **print-level frame, no condition on spans**: for every parsed document and every history of edits, the
    line `encodeItemAt` builds for a key/value entry whose path diverges from every edit path (`Untouched`) is
    the same byte string as in the parsed document -/
theorem T08_print_untouched_parsed (s : Bytes) (d : CDoc) (es : List (Op × List Seg)) (q : List Seg)
    (h : parseCst s = some d) (hu : ∀ e ∈ es, Untouched q e) :
    encodeItemAt (run ⟨s, d⟩ es).inp (run ⟨s, d⟩ es).doc q = encodeItemAt s d q :=
  T08_print_untouched_doc es ⟨s, d⟩ q hu (T08_parsed_spans s d h)

/-- the same in the middle of a history: an entry untouched by the later ops `es2` keeps its line,
    whatever the earlier ops `es1` did (also to that entry) -/
theorem T08_print_untouched_later (s : Bytes) (d : CDoc) (es1 es2 : List (Op × List Seg)) (q : List Seg)
    (h : parseCst s = some d) (hu : ∀ e ∈ es2, Untouched q e) :
    encodeItemAt (run ⟨s, d⟩ (es1 ++ es2)).inp (run ⟨s, d⟩ (es1 ++ es2)).doc q =
      encodeItemAt (run ⟨s, d⟩ es1).inp (run ⟨s, d⟩ es1).doc q := by
  have e : run ⟨s, d⟩ (es1 ++ es2) = run (run ⟨s, d⟩ es1) es2 := by simp [run, List.foldl_append]
  rw [e]
  exact T08_print_untouched_doc es2 _ q hu (T08_spans_invariant es1 _ (T08_parsed_spans s d h))

/-- no `CVal.scalar` anywhere in the document holds an inline table as its payload -/
def DocClean (st : St) : Prop := TOK cleanPr st.doc.root

/-- **parsed documents are clean** -/
theorem T08_parsed_clean (s : Bytes) (d : CDoc) (h : parseCst s = some d) : DocClean ⟨s, d⟩ :=
  (cleanTree.parseCst_root (R := noFr) (hR := fun _ _ _ _ => trivial) (hRp := fun _ => trivial) cvalue_clean h).1

/-- **every op keeps the document clean** -/
theorem T08_clean_step (st st' : St) (op : Op) (p : List Seg) (h : applyOp st op p = some st')
    (hs : DocClean st) : DocClean st' :=
  applyOp_ok cleanFam st st' op p h hs

theorem T08_clean_invariant (es : List (Op × List Seg)) (st : St) (hs : DocClean st) : DocClean (run st es) :=
  run_ok cleanFam es st hs

theorem T08_clean_nodeInlOK (st : St) (hs : DocClean st) (p : List Seg) :
    ∀ n, lookupTbl p st.doc.root = some n → NodeInlOK n := by
  intro n hn
  have := look_ok_tbl p st.doc.root n hn hs
  cases n with
  | val v => exact inlOK_of_clean v this
  | tbl _ => trivial
  | aot _ _ => trivial

/-- **`sort` refines `sort_values` on the semantic tree, without `NodeInlOK`**: at any path of any document
    reached from a parsed document by any history of edits -/
theorem T08_refine_sort_sem_parsed (s : Bytes) (d : CDoc) (es : List (Op × List Seg)) (st' : St) (p : List Seg)
    (h : parseCst s = some d) (ha : applyOp (run ⟨s, d⟩ es) .sort p = some st') :
    supdTbl sortSU p (eraseTbl (run ⟨s, d⟩ es).doc.root) = some (eraseTbl st'.doc.root) :=
  T08_refine_sort_sem _ st' p ha
    (T08_clean_nodeInlOK _ (T08_clean_invariant es _ (T08_parsed_clean s d h)) p)

/-- **the line of an entry is a contiguous piece of the printed document** (any state): `(k, v)`
    is the entry at `p ++ [sg]`, `p` leads to a table that is not dotted (the root for `p = []`, a
    `[header]` table, an element of an array of tables), and `v` is not a dotted inline table -/
theorem T08_line_in_print (st : St) (p : List Seg) (sg : Seg) (T : CTbl) (k : CKey) (v : CVal)
    (hT : lookupTbl p st.doc.root = some (.tbl T)) (hd : T.dotted = false)
    (he : entryAt st.doc.root (p ++ [sg]) = some (k, v)) (hv : notDottedInl v = true) :
    encodeLine st.inp k v <:+: Edit.print st :=
  line_in_print stripCr st.inp st.doc p T k v hT hd
    (emem_tbl none p sg st.doc.root T k v hT (entryAt_some _ _ k v he)) hv

/-- no table of a parsed document stores a dotted inline table directly: the hypothesis `notDottedInl` of
    `T08_line_in_print` holds of every entry of a parsed document -/
theorem T08_parsed_entry_notDotted (s : Bytes) (d : CDoc) (h : parseCst s = some d) (p : List Seg) (sg : Seg)
    (T : CTbl) (k : CKey) (v : CVal) (hT : lookupTbl p d.root = some (.tbl T))
    (he : entryAt d.root (p ++ [sg]) = some (k, v)) : notDottedInl v = true :=
  ((TND_iff T).1 (look_nd_tbl p d.root T hT (parseCst_nd s d h)) (k, .value v)
    (emem_tbl none p sg d.root T k v hT (entryAt_some _ _ k v he))).2

/-- **the printed line of every untouched entry is unchanged and still present in the output**: for
    a parsed document, a key/value entry `(k, v)` at `p ++ [sg]` stored directly in a table that is
    not dotted (root, `[header]`, `[a.b]`, element of `[[aot]]`), and a history of edits that leaves
    the entry alone — the line the edited document has for the entry is the line of the parsed
    document, and it occurs as a contiguous piece of `to_string()` of the edited document -/
theorem T08_untouched_line_in_output (s : Bytes) (d : CDoc) (h : parseCst s = some d) (es : List (Op × List Seg))
    (p : List Seg) (sg : Seg) (T : CTbl) (k : CKey) (v : CVal)
    (hu : ∀ e ∈ es, Untouched (p ++ [sg]) e)
    (hT : lookupTbl p d.root = some (.tbl T)) (hd : T.dotted = false)
    (he : entryAt d.root (p ++ [sg]) = some (k, v)) :
    encodeItemAt (run ⟨s, d⟩ es).inp (run ⟨s, d⟩ es).doc (p ++ [sg]) = some (encodeLine s k v) ∧
    encodeLine s k v <:+: Edit.print (run ⟨s, d⟩ es) := by
  have hv := T08_parsed_entry_notDotted s d h p sg T k v hT he
  have h1 := T08_print_untouched_parsed s d es (p ++ [sg]) h hu
  have h0 : encodeItemAt s d (p ++ [sg]) = some (encodeLine s k v) := by simp [encodeItemAt, he]
  rw [h0] at h1
  refine ⟨h1, ?_⟩
  have he' : entryAt (run ⟨s, d⟩ es).doc.root (p ++ [sg]) = some (k, v) :=
    (T08_history_entry es ⟨s, d⟩ (p ++ [sg]) hu).trans he
  obtain ⟨T', hT', hd'⟩ :=
    untouched_run_rel (KeepsTbl p) (.refl p) .trans (fun _ hx u _ _ hu => upd_keeps_tbl u hu hx) es ⟨s, d⟩ hu T hT
  have h2 := T08_line_in_print (run ⟨s, d⟩ es) p sg T' k v hT' (hd'.trans hd) he' hv
  have e : encodeLine (run ⟨s, d⟩ es).inp k v = encodeLine s k v := by
    simpa [encodeItemAt, he'] using h1
  rw [e] at h2
  exact h2

/-- root-level entries: no hypothesis on the table (the root of a parsed document is not dotted) -/
theorem T08_untouched_root_line (s : Bytes) (d : CDoc) (h : parseCst s = some d) (es : List (Op × List Seg))
    (sg : Seg) (k : CKey) (v : CVal) (hu : ∀ e ∈ es, Untouched [sg] e)
    (he : entryAt d.root [sg] = some (k, v)) :
    encodeItemAt (run ⟨s, d⟩ es).inp (run ⟨s, d⟩ es).doc [sg] = some (encodeLine s k v) ∧
    encodeLine s k v <:+: Edit.print (run ⟨s, d⟩ es) :=
  T08_untouched_line_in_output s d h es [] sg d.root k v hu (by simp only [lookupTbl]) (parseCst_root_not_dotted s d h) he

/-- entries of a top-level `[t]` table -/
theorem T08_untouched_header_line (s : Bytes) (d : CDoc) (h : parseCst s = some d) (es : List (Op × List Seg))
    (t sg : Seg) (T : CTbl) (k : CKey) (v : CVal) (hu : ∀ e ∈ es, Untouched [t, sg] e)
    (hT : lookupTbl [t] d.root = some (.tbl T)) (hd : T.dotted = false)
    (he : entryAt d.root [t, sg] = some (k, v)) :
    encodeItemAt (run ⟨s, d⟩ es).inp (run ⟨s, d⟩ es).doc [t, sg] = some (encodeLine s k v) ∧
    encodeLine s k v <:+: Edit.print (run ⟨s, d⟩ es) :=
  T08_untouched_line_in_output s d h es [t] sg T k v hu hT hd he

/-- the unedited document (`es = []`): every entry of a non-dotted table of a parsed document is a
    contiguous piece of its print -/
theorem T08_parsed_line_in_print (s : Bytes) (d : CDoc) (h : parseCst s = some d) (p : List Seg) (sg : Seg)
    (T : CTbl) (k : CKey) (v : CVal) (hT : lookupTbl p d.root = some (.tbl T)) (hd : T.dotted = false)
    (he : entryAt d.root (p ++ [sg]) = some (k, v)) : encodeLine s k v <:+: Encode.printDoc s d :=
  T08_line_in_print ⟨s, d⟩ p sg T k v hT hd he (T08_parsed_entry_notDotted s d h p sg T k v hT he)

/-- a root-level entry of the *edited* document (whatever created it) has its line in the output -/
theorem T08_root_line_in_print (s : Bytes) (d : CDoc) (h : parseCst s = some d) (es : List (Op × List Seg))
    (sg : Seg) (k : CKey) (v : CVal) (he : entryAt (run ⟨s, d⟩ es).doc.root [sg] = some (k, v))
    (hv : notDottedInl v = true) :
    encodeLine (run ⟨s, d⟩ es).inp k v <:+: Edit.print (run ⟨s, d⟩ es) :=
  T08_line_in_print _ [] sg _ k v (by simp only [lookupTbl])
    ((run_root_dotted es ⟨s, d⟩).trans (parseCst_root_not_dotted s d h)) he hv

/-- the parsed document of a text (the empty document when it does not parse) -/
def docOf (s : Bytes) : CDoc := (parseCst s).getD ⟨CTbl.empty, .empty⟩

theorem docOf_parsed (s : Bytes) (h : (parseCst s).isSome = true) : parseCst s = some (docOf s) := by
  unfold docOf
  cases hp : parseCst s with
  | none => simp [hp] at h
  | some d => rfl

/-- ```
    # config
    title = "x" # the title

    [owner] # who
    name = "n" # keep me
    [srv] # server
    port = 80 # the port
    tags = ["a", "b"]
    pts = [{x = 1}, {x = 2}]

    [[job]]
    id = "j1"
    ``` -/
def exDoc3 : Bytes := strBytes
  "# config\ntitle = \"x\" # the title\n\n[owner] # who\nname = \"n\" # keep me\n[srv] # server\nport = 80 # the port\ntags = [\"a\", \"b\"]\npts = [{x = 1}, {x = 2}]\n\n[[job]]\nid = \"j1\"\n"

/-- `set`, `push`, `tpush`, `mv` (an entry with its comment into an element of an array of tables),
    `arr2aot` (a conversion), `sort`, `fmt`: seven ops, all applied -/
def exHist3 : List (Op × List Seg) :=
  [(.set (strBytes "host") (.str (strBytes "h")), [exSeg "srv"]),
   (.push (.str (strBytes "c")), [exSeg "srv", exSeg "tags"]),
   (.tpush, [exSeg "job"]),
   (.mv (strBytes "port") [exSeg "job", ixSeg 0], [exSeg "srv"]),
   (.arr2aot (strBytes "pts"), [exSeg "srv"]),
   (.sort, [exSeg "srv"]),
   (.fmt, [exSeg "srv", exSeg "tags"])]

def exSt3 : St := ⟨exDoc3, docOf exDoc3⟩

/-- decidable form of "the entry at `q` exists and its value is not a dotted inline table" -/
def entryLineB (root : CTbl) (q : List Seg) : Bool :=
  match entryAt root q with
  | some (_, v) => notDottedInl v
  | none => false

theorem entryLineB_sound (root : CTbl) (q : List Seg) (h : entryLineB root q = true) :
    ∃ k v, entryAt root q = some (k, v) ∧ notDottedInl v = true := by
  unfold entryLineB at h
  split at h
  · rename_i k v he; exact ⟨k, v, he, h⟩
  · cases h

/-- decidable form of "`p` leads to a table that is not dotted" -/
def tblAtB (root : CTbl) (p : List Seg) : Bool :=
  match lookupTbl p root with
  | some (.tbl T) => !T.dotted
  | _ => false

theorem tblAtB_sound (root : CTbl) (p : List Seg) (h : tblAtB root p = true) :
    ∃ T, lookupTbl p root = some (.tbl T) ∧ T.dotted = false := by
  unfold tblAtB at h
  split at h
  · rename_i T hT; exact ⟨T, hT, by simpa using h⟩
  · cases h

/-- the evaluation the examples below quote: `exDoc3` parsed, `exHist3` run, the result printed, once -/
theorem exDoc3_eval :
    (parseCst exDoc3).isSome = true ∧
    (start exDoc3).isSome = true ∧
    (applied exSt3 exHist3).length = 7 ∧
    docSpansInB (run exSt3 exHist3) = true ∧
    (exDoc3.length = 167 ∧ (run exSt3 exHist3).inp.length = 186) ∧
    encodeItemAt exDoc3 (docOf exDoc3) [exSeg "title"] = some (strBytes "# config\ntitle = \"x\" # the title\n") ∧
    encodeItemAt exDoc3 (docOf exDoc3) [exSeg "owner", exSeg "name"] = some (strBytes "name = \"n\" # keep me\n") ∧
    entryLineB (docOf exDoc3).root [exSeg "title"] = true ∧
    entryLineB (docOf exDoc3).root [exSeg "owner", exSeg "name"] = true ∧
    tblAtB (docOf exDoc3).root [exSeg "owner"] = true ∧
    (applyOp (run exSt3 (exHist3.take 5)) .sort [exSeg "srv"]).isSome = true ∧
    Edit.print (run exSt3 exHist3) = strBytes
    "# config\ntitle = \"x\" # the title\n\n[owner] # who\nname = \"n\" # keep me\n[srv] # server\nhost = \"h\"\ntags = [\"a\", \"b\", \"c\"]\n\n[[srv.pts ]]\nx = 1\n\n[[srv.pts ]]\nx = 2\n\n[[job]]\nid = \"j1\"\nport = 80 # the port\n\n[[job]]\nn = 1\n" := by
  rw [exSt3, exDoc3]; simp only [strBytes_eq rfl]; decide +kernel

theorem exDoc3_parsed : parseCst exDoc3 = some (docOf exDoc3) :=
  docOf_parsed _ exDoc3_eval.1

example : (start exDoc3).isSome = true := exDoc3_eval.2.1

example : (applied exSt3 exHist3).length = 7 := exDoc3_eval.2.2.1

/-- `T08_parsed_spans` / `T08_spans_invariant` on the example, and the decidable form agrees -/
example : DocSpansIn (run exSt3 exHist3) := T08_spans_invariant exHist3 exSt3 (T08_parsed_spans _ _ exDoc3_parsed)

example : docSpansInB (run exSt3 exHist3) = true := exDoc3_eval.2.2.2.1

/-- the arena did grow (the invariant is not about the input length) -/
example : exDoc3.length = 167 ∧ (run exSt3 exHist3).inp.length = 186 := exDoc3_eval.2.2.2.2.1

/-- the history leaves `title` (root) and `owner.name` (a `[header]` table) alone -/
theorem exHist3_title : ∀ e ∈ exHist3, Untouched [exSeg "title"] e := untouched_all _ _ (by decide +kernel)

theorem exHist3_name : ∀ e ∈ exHist3, Untouched [exSeg "owner", exSeg "name"] e :=
  untouched_all _ _ (by decide +kernel)

example : encodeItemAt (run exSt3 exHist3).inp (run exSt3 exHist3).doc [exSeg "title"]
    = encodeItemAt exDoc3 (docOf exDoc3) [exSeg "title"] :=
  T08_print_untouched_parsed exDoc3 (docOf exDoc3) exHist3 [exSeg "title"] exDoc3_parsed exHist3_title

/-- the line of the first entry includes the comment above it (it is the key's leaf prefix) -/
example : encodeItemAt exDoc3 (docOf exDoc3) [exSeg "title"]
    = some (strBytes "# config\ntitle = \"x\" # the title\n") := exDoc3_eval.2.2.2.2.2.1

example : encodeItemAt exDoc3 (docOf exDoc3) [exSeg "owner", exSeg "name"]
    = some (strBytes "name = \"n\" # keep me\n") := exDoc3_eval.2.2.2.2.2.2.1

example : ∃ k v, entryAt (docOf exDoc3).root [exSeg "title"] = some (k, v) ∧
    encodeItemAt (run exSt3 exHist3).inp (run exSt3 exHist3).doc [exSeg "title"] = some (encodeLine exDoc3 k v) ∧
    encodeLine exDoc3 k v <:+: Edit.print (run exSt3 exHist3) := by
  obtain ⟨k, v, he, _⟩ := entryLineB_sound (docOf exDoc3).root [exSeg "title"] exDoc3_eval.2.2.2.2.2.2.2.1
  exact ⟨k, v, he, T08_untouched_root_line exDoc3 _ exDoc3_parsed exHist3 _ k v exHist3_title he⟩

example : ∃ k v, entryAt (docOf exDoc3).root [exSeg "owner", exSeg "name"] = some (k, v) ∧
    encodeItemAt (run exSt3 exHist3).inp (run exSt3 exHist3).doc [exSeg "owner", exSeg "name"]
      = some (encodeLine exDoc3 k v) ∧
    encodeLine exDoc3 k v <:+: Edit.print (run exSt3 exHist3) := by
  obtain ⟨k, v, he, _⟩ := entryLineB_sound (docOf exDoc3).root [exSeg "owner", exSeg "name"]
    exDoc3_eval.2.2.2.2.2.2.2.2.1
  obtain ⟨T, hT, hd⟩ := tblAtB_sound (docOf exDoc3).root [exSeg "owner"] exDoc3_eval.2.2.2.2.2.2.2.2.2.1
  exact ⟨k, v, he, T08_untouched_header_line exDoc3 _ exDoc3_parsed exHist3 _ _ T k v exHist3_name hT hd he⟩

/-- the whole edited document: the two untouched lines with their comments are in place; the moved
    entry took its comment along -/
example : Edit.print (run exSt3 exHist3) = strBytes
    "# config\ntitle = \"x\" # the title\n\n[owner] # who\nname = \"n\" # keep me\n[srv] # server\nhost = \"h\"\ntags = [\"a\", \"b\", \"c\"]\n\n[[srv.pts ]]\nx = 1\n\n[[srv.pts ]]\nx = 2\n\n[[job]]\nid = \"j1\"\nport = 80 # the port\n\n[[job]]\nn = 1\n" :=
  exDoc3_eval.2.2.2.2.2.2.2.2.2.2.2

example : ∃ st', applyOp (run exSt3 (exHist3.take 5)) .sort [exSeg "srv"] = some st' ∧
    supdTbl sortSU [exSeg "srv"] (eraseTbl (run exSt3 (exHist3.take 5)).doc.root) = some (eraseTbl st'.doc.root) := by
  have ha := applyOp_after (run exSt3 (exHist3.take 5)) .sort [exSeg "srv"] exDoc3_eval.2.2.2.2.2.2.2.2.2.2.1
  exact ⟨_, ha, T08_refine_sort_sem_parsed exDoc3 (docOf exDoc3) (exHist3.take 5) _ _ exDoc3_parsed ha⟩

/-- and at an inline table (where `NodeInlOK` is not `True`): `{z = 1, a = {d = 1, c = 2}}` -/
def exDoc4 : Bytes := strBytes "t = {z = 1, a = {d = 1, c = 2}}\n"

/-- the evaluation the example below quotes: `exDoc4` parsed, `sort` applied at `t` -/
theorem exDoc4_eval : (parseCst exDoc4).isSome = true ∧
    (applyOp ⟨exDoc4, docOf exDoc4⟩ .sort [exSeg "t"]).isSome = true := by
  decide +kernel

theorem exDoc4_parsed : parseCst exDoc4 = some (docOf exDoc4) := docOf_parsed _ exDoc4_eval.1

example : ∃ st', applyOp ⟨exDoc4, docOf exDoc4⟩ .sort [exSeg "t"] = some st' ∧
    supdTbl sortSU [exSeg "t"] (eraseTbl (docOf exDoc4).root) = some (eraseTbl st'.doc.root) := by
  have ha := applyOp_after ⟨exDoc4, docOf exDoc4⟩ .sort [exSeg "t"] exDoc4_eval.2
  exact ⟨_, ha, T08_refine_sort_sem_parsed exDoc4 (docOf exDoc4) [] _ _ exDoc4_parsed ha⟩

/-- `a = {b.c = 1}⏎` -/
def exDoc5 : Bytes := strBytes "a = {b.c = 1}\n"

/-- `mv` takes the dotted inline table `b` out of `a` into the root table -/
def exHist5 : List (Op × List Seg) := [(.mv (strBytes "b") [], [exSeg "a"])]

/-- **a dotted inline table stored directly in a table has no line of its own**: after the move the
    root holds the entry `b` (a dotted inline table), `to_string()` prints it as `b.c = 1`, and the
    line `encodeItemAt` computes for the entry is `b = {c = 1}`, which the output does not contain -/
theorem dotted_inl_no_line :
    entryLineB (run ⟨exDoc5, docOf exDoc5⟩ exHist5).doc.root [exSeg "b"] = false ∧
    (entryAt (run ⟨exDoc5, docOf exDoc5⟩ exHist5).doc.root [exSeg "b"]).isSome = true ∧
    Edit.print (run ⟨exDoc5, docOf exDoc5⟩ exHist5) = strBytes "a = {}\nb.c = 1\n" ∧
    encodeItemAt (run ⟨exDoc5, docOf exDoc5⟩ exHist5).inp (run ⟨exDoc5, docOf exDoc5⟩ exHist5).doc [exSeg "b"]
      = some (strBytes "b = {c = 1}\n") := by
  decide +kernel

end TomlVerif.Props.C08
