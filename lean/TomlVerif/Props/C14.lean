import TomlVerif.Lemmas.Tiling03Doc
import TomlVerif.Lemmas.Spans14Value
/-! C14 — spans. Stated here: every recorded span is well-formed and ends inside the input (`T14_bounds_statement`,
    proved in Props/C14Doc.lean with the nesting of values); the verbatim print of a value built from scalars and
    arrays is the text its parse consumed (`T14_value_consumed`). -/
namespace TomlVerif.Props.C14
open TomlVerif TomlVerif.Model TomlVerif.Model.Cst TomlVerif.Model.Encode TomlVerif.Lemmas.Cst03

/-- every span recorded in a parsed document (keys, reprs, decor, `trailing`, `preamble`, table and
    array-of-tables spans) -/
def allSpans (d : CDoc) : List (Nat × Nat) := TomlVerif.Lemmas.Cst03.allSpans d

/-- T14_bounds at document level (proved as `T14_bounds` in `Props/C14Doc.lean`) -/
def T14_bounds_statement : Prop :=
  ∀ (s : Bytes) (d : CDoc), parseCst s = some d → ∀ sp ∈ allSpans d, sp.1 ≤ sp.2 ∧ sp.2 ≤ s.length

/-- T14_bounds at value level: every span recorded for the value satisfies `start ≤ end ≤ input length`. The
    hypothesis `hflat` is not needed (`T14_value_bounds_whole`, Props/C14Doc.lean, is the same without it). -/
theorem T14_bounds_partial (s : Bytes) (v : CVal) (h : parseCstValue s = some v)
    (hflat : flatVal v = true) : ∀ sp ∈ valSpans v, sp.1 ≤ sp.2 ∧ sp.2 ≤ s.length := by
  unfold parseCstValue at h
  split at h
  · rename_i v0 hv
    injection h with h; subst h
    intro sp hm
    have := (Lemmas.Spans14.cvalue_spans _ _ _ _ _ _ hv).2.2.1 sp hm
    unfold Within at this
    simp [pos] at this
    omega
  · cases h

/-- T14_value_consumed: the verbatim print of a value built from scalars and arrays (`flatVal`) — the texts its
    reprs and decor spans denote in the input, concatenated — is the text `t` its parse consumed. -/
theorem T14_value_consumed (inp : Bytes) (fuel d : Nat) (s r : Bytes) (v : CVal) (hs : s <:+ inp)
    (h : cvalue inp.length fuel d s = .ok v r) (hflat : flatVal v = true) :
    ∃ t, s = t ++ r ∧ encodeValue id inp v [] [] = t :=
  let ⟨t, ht, _, htile⟩ := Lemmas.Tiling03.cvalue_tiling_simple id inp (Lemmas.Tiling03.FixOn.id inp) fuel d s r v hs h
  ⟨t, ht, htile (flatVal_simpleVal.1 v hflat) [] []⟩

/-- `[1, [ 2]]` -/
def exNested : Bytes := [0x5B, 0x31, 0x2C, 0x20, 0x5B, 0x20, 0x32, 0x5D, 0x5D]

example : (parseCstValue exNested).isSome = true ∧ (parseCstValue exNested).map flatVal = some true ∧
    (parseCstValue exNested).map valSpans = some [(1, 2), (6, 7), (5, 6), (3, 4), (4, 8), (0, 9)] := by decide +kernel

end TomlVerif.Props.C14
