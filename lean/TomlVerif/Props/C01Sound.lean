import TomlVerif.Props.C01Values
/-! # C01, soundness of the value parser — everything `value` accepts is generated by the grammar

The syntax is `QVal` (`Lemmas/AstValueQ01.lean`): `AVal` of `Spec/AstValue.lean` extended with quoted keys in inline
tables, because `AVal` has bare keys only and the parser (correctly, per TOML 1.0.0) accepts `{"a"=1}`.
Arrays and inline tables are sound once the scalar branches of `value` are (`ScalarSound`); the scalar branches
are, because what each scalar reader returns depends only on the bytes it consumes. -/
namespace TomlVerif.Props.C01Sound
open TomlVerif TomlVerif.Spec TomlVerif.Model TomlVerif.Model.Strings TomlVerif.Model.Value
open TomlVerif.Spec.AstValue TomlVerif.Spec.AstValueQ TomlVerif.Lemmas.Value01 TomlVerif.Lemmas.Sound01
open TomlVerif.Lemmas.ValEq TomlVerif.Lemmas.Sound01C TomlVerif.Lemmas.InlineKeys01

/-- whatever `ws_comment_newline` consumes is the rendering of well-formed trivia; with the fuel its callers
    pass nothing that starts trivia is left (converse of `T01_wcn`) -/
theorem T01_wcn_sound (fuel : Nat) (s r : Bytes) (h : wsCommentNewline fuel s = some r) :
    ∃ w : Wcn, WcnWF w ∧ s = renderWcn w ++ r ∧ (s.length < fuel → NoTriviaHead r) :=
  wcn_sound fuel s r h

/-- what `ws_comment_newline` consumes, with the fuel its callers pass, is exactly well-formed trivia -/
theorem T01_wcn_iff (s rest : Bytes) :
    wsCommentNewline (s.length + 1) s = some rest ↔ ∃ w : Wcn, WcnWF w ∧ s = renderWcn w ++ rest ∧ NoTriviaHead rest := by
  constructor
  · intro h
    obtain ⟨w, hw, e, hnt⟩ := wcn_sound _ _ _ h
    exact ⟨w, hw, e, hnt (by omega)⟩
  · rintro ⟨w, hw, e, hnt⟩
    have := wcn_exact w (s.length + 1) rest hw hnt (by rw [e]; simp; omega)
    rw [← e] at this
    exact this

example : wsCommentNewline 10 [0x20, 0x23, 0x63, 0x0A, 0x09, 0x31] = some [0x31] := by decide

/-- `key` accepts only dotted keys of bare, basic-quoted or literal-quoted components -/
theorem T01_keyPath_sound (s : Bytes) (ks : List Bytes) (r : Bytes) (h : keyPath s = .ok ks r) :
    ∃ k : QDKey, k.WF ∧ s = k.render ++ r ∧ k.keys = ks :=
  keyPath_sound s ks r h

example : keyPath [0x61, 0x2E, 0x22, 0x62, 0x22, 0x20, 0x3D] = .ok [[0x61], [0x62]] [0x3D] := by decide +kernel

/-- **soundness of `value`, conditional on the scalar branches**.  `tableFromPairs` accepting is exactly the third
    conjunct of `WFQ (.inl …)`. -/
theorem T01_value_sound_given_scalars (hs : ScalarSound) (fuel d : Nat) (s rest : Bytes) (v : Val)
    (h : value fuel d s = .ok v rest) :
    ∃ a : QVal, WFQ a ∧ s = renderQ a ++ rest ∧ semQ a = v ∧ (depthQ a = 0 ∨ d + depthQ a < LIMIT) :=
  (sound_all hs fuel).1 d s v rest h

/-- every scalar branch of `value` (strings, date-times, floats incl. `inf`/`nan`, integers in four bases,
    booleans) consumes a token it reads the same whatever follows (`ScalarOK`): locality of the scalar readers, not
    a grammar of scalars -/
theorem T01_scalar_sound : ScalarSound := scalarSound

/-- non-vacuity: a hexadecimal integer, a float with a negative exponent, an offset date-time, each followed
    by something else -/
example : value 3 0 (strBytes "0x1F,") = .ok (.int 31) [0x2C] := okIs_sound _ _ _ (by decide +kernel)
example : (value 3 0 (strBytes "-1e-5]")).isOk = true := by decide +kernel
example : (value 3 0 (strBytes "1979-05-27T07:32:00.5-07:00 #")).isOk = true := by
  simp only [strBytes_eq rfl]; decide +kernel

/-- **soundness of `value`**: what it accepts is the rendering of a well-formed syntax tree, followed by the
    rest it returns; the value is the one the tree denotes; containers nest below the limit.
    (The depth conjunct is a disjunction because scalars are accepted at any `d`: the recursion check sits in
    `array` / `inline_table` only.) -/
theorem T01_value_sound (fuel d : Nat) (s rest : Bytes) (v : Val) (h : value fuel d s = .ok v rest) :
    ∃ a : QVal, WFQ a ∧ s = renderQ a ++ rest ∧ semQ a = v ∧ (depthQ a = 0 ∨ d + depthQ a < LIMIT) :=
  T01_value_sound_given_scalars scalarSound fuel d s rest v h

/-- below the limit the depth conjunct is the inequality alone -/
theorem T01_value_sound_depth (fuel d : Nat) (s rest : Bytes) (v : Val) (h : value fuel d s = .ok v rest)
    (hd : d < LIMIT) : ∃ a : QVal, WFQ a ∧ s = renderQ a ++ rest ∧ semQ a = v ∧ d + depthQ a < LIMIT := by
  obtain ⟨a, hw, e, hv, hdep⟩ := T01_value_sound fuel d s rest v h
  exact ⟨a, hw, e, hv, by omega⟩

/-- the depth conjunct `d + depth a < LIMIT` without `d < LIMIT` is false: a scalar at depth 100 -/
example : value 10 100 [0x74, 0x72, 0x75, 0x65] = .ok (.bool true) [] := okIs_sound _ _ _ (by decide +kernel)

/-- the same for `parseValue` on a whole text -/
theorem T01_parseValue_sound (s : Bytes) (v : Val) (h : parseValue s = some v) :
    ∃ a : QVal, WFQ a ∧ renderQ a = s ∧ semQ a = v ∧ depthQ a < LIMIT := by
  unfold parseValue at h
  split at h
  · rename_i v' hv
    injection h with h
    subst h
    obtain ⟨a, hw, e, hsem, hdep⟩ := T01_value_sound_depth _ 0 s [] _ hv (by decide)
    exact ⟨a, hw, by simpa using e.symm, hsem, by omega⟩
  · cases h

/-! non-vacuity: `{"a" = [1, 'x'], b.'c d' = 1979-05-27}` followed by `x` -/
def soundText : Bytes := strBytes "{\"a\" = [1, 'x'], b.'c d' = 1979-05-27}"

theorem soundText_parses : parseValue soundText =
    some (.inl [([0x61], .arr [.int 1, .str [0x78]]),
                ([0x62], .inl [([0x63, 0x20, 0x64], .dt ⟨some ⟨1979, 5, 27⟩, none, none⟩)] true true)] false false) := by
  rw [soundText, strBytes_eq rfl]; exact someIs_sound _ _ (by decide +kernel)

example : ∃ a : QVal, WFQ a ∧ renderQ a = soundText ∧ depthQ a < LIMIT := by
  obtain ⟨a, hw, e, _, hd⟩ := T01_parseValue_sound _ _ soundText_parses
  exact ⟨a, hw, e, hd⟩

example : ∃ v, value 40 3 (soundText ++ [0x78]) = .ok v [0x78] := by
  rw [soundText, strBytes_eq rfl]
  refine ⟨_, okIs_sound _ (.inl [([0x61], .arr [.int 1, .str [0x78]]),
      ([0x62], .inl [([0x63, 0x20, 0x64], .dt ⟨some ⟨1979, 5, 27⟩, none, none⟩)] true true)] false false) _ ?_⟩
  decide +kernel

/-- `{"a"=true}` is accepted (and is valid TOML 1.0.0: `simple-key = quoted-key / unquoted-key`), but no
    well-formed `AVal` renders it: soundness over `AVal` is false; over `QVal` it holds (`T01_value_sound`) -/
theorem T01_AVal_misses_quoted_keys :
    parseValue [0x7B, 0x22, 0x61, 0x22, 0x3D, 0x74, 0x72, 0x75, 0x65, 0x7D] =
      some (.inl [([0x61], .bool true)] false false) ∧
    ¬ ∃ a : AVal, WF a ∧ render a = [0x7B, 0x22, 0x61, 0x22, 0x3D, 0x74, 0x72, 0x75, 0x65, 0x7D] := by
  refine ⟨someIs_sound _ _ (by decide +kernel), ?_⟩
  rintro ⟨a, hw, e⟩
  cases a with
  | scalar t =>
    obtain ⟨⟨b, r, e1, _, _, hb⟩, _⟩ := wf_scalar.1 hw
    rw [render, e1] at e
    injection e with e2 _
    exact hb e2
  | arr items tc tail =>
    rw [render] at e
    injection e with e2 _
    exact absurd e2 (by decide)
  | inl items tail =>
    obtain ⟨hitems, htail, _⟩ := wf_inl.1 hw
    rw [render] at e
    injection e with _ e
    cases items with
    | nil =>
      simp only [renderPairs, List.nil_append] at e
      cases tail with
      | nil => simp at e
      | cons c t =>
        simp only [List.cons_append] at e
        injection e with e1 _
        have := htail c (by simp)
        rw [e1] at this
        revert this; decide
    | cons p l =>
      obtain ⟨k, w1, v, w2⟩ := p
      obtain ⟨⟨⟨hpre, _, hne, hkey⟩, _⟩, _⟩ := wfPairs_cons.1 hitems
      simp only [renderPairs, DKey.render, KeyTok.render, List.append_assoc] at e
      cases hp : k.first.pre with
      | cons c t =>
        rw [hp] at e
        simp only [List.cons_append] at e
        injection e with e1 _
        have := hpre c (by rw [hp]; simp)
        rw [e1] at this
        revert this; decide
      | nil =>
        rw [hp] at e
        cases hkk : k.first.key with
        | nil => exact hne hkk
        | cons c t =>
          rw [hkk] at e
          simp only [List.nil_append, List.cons_append] at e
          injection e with e1 _
          have := hkey c (by rw [hkk]; simp)
          rw [e1] at this
          revert this; decide

/-- `QVal` contains `AVal`: same bytes, same value, same depth, well-formedness preserved -/
theorem T01_QVal_extends_AVal (a : AVal) (h : WF a) :
    WFQ (ofAVal a) ∧ renderQ (ofAVal a) = render a ∧ semQ (ofAVal a) = sem a ∧ depthQ (ofAVal a) = depth a :=
  ⟨ofAVal_wf a h, ofAVal_render a, ofAVal_sem a, ofAVal_depth a⟩

/-- completeness of `value` for the syntax with quoted keys (`T01_array_complete` is the case `ofAVal`) -/
theorem T01_value_completeQ (a : QVal) (hwf : WFQ a) (d fuel : Nat) (rest : Bytes) (hd : d + depthQ a < LIMIT)
    (hr : ValFollowS rest) (hf : 2 * (renderQ a).length ≤ fuel) :
    value fuel d (renderQ a ++ rest) = .ok (semQ a) rest :=
  val_okQ a hwf d fuel rest hd hr hf

theorem T01_parseValue_completeQ (a : QVal) (hwf : WFQ a) (hd : depthQ a < LIMIT) :
    parseValue (renderQ a) = some (semQ a) := by
  have := T01_value_completeQ a hwf 0 (3 * (renderQ a).length + 4) [] (by omega) ⟨trivial, by intro b r h; cases h⟩ (by omega)
  rw [List.append_nil] at this
  unfold parseValue
  rw [this]

/-- **C01 for values**: `parse_value` returns `v` exactly when the text is the rendering of a well-formed syntax
    tree nested below `LIMIT` that denotes `v`.  At the leaves well-formed is `ScalarOK`, "the parser reads the token
    whole" (`scalarOK_iff`), not a grammar of scalars: numbers, date-times and strings have their literal theorems
    (C11, C12, C02). -/
theorem T01_parseValue_iff (s : Bytes) (v : Val) :
    parseValue s = some v ↔ ∃ a : QVal, WFQ a ∧ depthQ a < LIMIT ∧ renderQ a = s ∧ semQ a = v := by
  constructor
  · intro h
    obtain ⟨a, hw, e, hv, hd⟩ := T01_parseValue_sound s v h
    exact ⟨a, hw, hd, e, hv⟩
  · rintro ⟨a, hw, hd, rfl, rfl⟩
    exact T01_parseValue_completeQ a hw hd

/-- the parser accepts exactly the renderings of well-formed trees below the nesting limit -/
theorem T01_parseValue_accepts_iff (s : Bytes) :
    (∃ v, parseValue s = some v) ↔ ∃ a : QVal, WFQ a ∧ depthQ a < LIMIT ∧ renderQ a = s := by
  constructor
  · rintro ⟨v, h⟩
    obtain ⟨a, hw, hd, e, _⟩ := (T01_parseValue_iff s v).1 h
    exact ⟨a, hw, hd, e⟩
  · rintro ⟨a, hw, hd, e⟩
    exact ⟨semQ a, (T01_parseValue_iff s (semQ a)).2 ⟨a, hw, hd, e, rfl⟩⟩

/-- non-vacuity of the right-to-left direction with a quoted key: `{"a b" = true}` -/
def quotedTree : QVal :=
  .inl [ (⟨⟨[], [0x22, 0x61, 0x20, 0x62, 0x22], [0x61, 0x20, 0x62], [0x20]⟩, []⟩, [0x20], .scalar trueTok, []) ] []

theorem quotedTree_wf : WFQ quotedTree := by
  unfold quotedTree
  rw [WFQ, WFPairsQ, WFPairsQ, WFQ]
  refine ⟨⟨⟨⟨AllWs.of_all _ (by decide), AllWs.of_all _ (by decide), ?_⟩, ?_, by decide⟩, AllWs.of_all _ (by decide), scalarOK_true,
    AllWs.of_all _ (by decide), trivial⟩, AllWs.of_all _ (by decide), by decide +kernel⟩
  · exact Or.inr (Or.inl ⟨[.raw 0x61, .raw 0x20, .raw 0x62], by decide, by decide, by decide⟩)
  · exact List.forall_mem_nil _

example : parseValue (strBytes "{\"a b\" = true}") = some (.inl [([0x61, 0x20, 0x62], .bool true)] false false) := by
  have h := T01_parseValue_completeQ quotedTree quotedTree_wf (by decide)
  have e : renderQ quotedTree = strBytes "{\"a b\" = true}" := by decide +kernel
  rw [e] at h
  rw [h]
  exact congrArg some (beqV_sound _ _ (by decide +kernel))

/-- `table_from_pairs` accepts the entries of an inline table exactly when its (dotted, decoded) keys are pairwise
    prefix-incomparable; read right to left this is what an accepted inline table guarantees
    (`T01_inline_wf_iff` for `QVal`) -/
theorem T01_inline_wf_iffQ (items : List (QDKey × Bytes × QVal × Bytes)) (hwf : WFPairsQ items) :
    (tableFromPairs (flatPairsQ items) []).isSome = true ↔ (items.map fun i => i.1.keys).Pairwise Incomp :=
  inlQ_assembles_iff items hwf

/-- an accepted inline table has pairwise prefix-incomparable keys -/
theorem T01_inline_accepted_keys (fuel d : Nat) (r rest : Bytes) (v : Val)
    (h : value fuel d (0x7B :: r) = .ok v rest) :
    ∃ (items : List (QDKey × Bytes × QVal × Bytes)) (tail : Bytes), WFQ (.inl items tail) ∧
      0x7B :: r = renderQ (.inl items tail) ++ rest ∧ semQ (.inl items tail) = v ∧
      (items.map fun i => i.1.keys).Pairwise Incomp := by
  obtain ⟨a, hw, e, hv, _⟩ := T01_value_sound fuel d _ rest v h
  cases a with
  | scalar t =>
    obtain ⟨⟨b, r', e1, _, _, hb⟩, _⟩ := wfQ_scalar.1 hw
    rw [renderQ, e1] at e
    injection e with e2 _
    exact absurd e2.symm hb
  | arr items tc tail =>
    rw [renderQ] at e
    injection e with e2 _
    exact absurd e2 (by decide)
  | inl items tail =>
    obtain ⟨hitems, _, hsome⟩ := wfQ_inl.1 hw
    exact ⟨items, tail, hw, e, hv, (T01_inline_wf_iffQ items hitems).1 hsome⟩

example : value 20 0 (0x7B :: strBytes "a.b=true,a.c=false}x") =
    .ok (.inl [([0x61], .inl [([0x62], .bool true), ([0x63], .bool false)] true true)] false false) [0x78] := by
  simp only [strBytes_eq rfl]; exact okIs_sound _ _ _ (by decide +kernel)

end TomlVerif.Props.C01Sound
