import TomlVerif.Lemmas.DeSpanned14Transparent
import TomlVerif.Props.C14Spanned
import TomlVerif.Props.C15Located
/-! C14, second sentence, the congruence: "wrapping a target type in Spanned never changes whether decoding succeeds or what
    value results" — for `Spanned` wrappers at ANY depth of the wrapper grammar `STy` (Model/DeSpanned.lean).

    `T14_spanned_transparent`: under `Ok t it` (Lemmas/DeSpanned14Strip.lean), decoding into the wrapper type `t` is decoding into
    the stripped type `strip t`: the same verdict, on success the stripped value, on failure the SAME error (span and keys).
    `Ok t it` says, along the nodes the decoding of `it` into `t` visits:
      * every node a `Spanned<_>` of the type meets has an `item_span` (its own span, or the range its entries cover) —
        false everywhere in a despanned tree;
      * a map key met by a key type containing `Spanned` has a span, and the key type has no `Spanned` inside a `Spanned`
        (`keyOk`);
      * `missing_field` agrees for every struct field (`missAll` / `missAgree`: `Spanned<Option<T>>` is the one wrapper
        type for which it does not);
      * where a DATE-TIME is read as a map or a struct (its one entry comes through serde's string deserializers, which know
        nothing of `Spanned`) the key type is `String` and the value type is not `Spanned<_>` itself.
    Each exclusion is necessary: `ex_spanned_option`, `ex_double_spanned_key`, `ex_datetime_map_spanned_key` below (the first
    two confirmed on the real code in Props/C14Spanned.lean; the third: `sp S S(61:K(P(s),s)) 61203d20313937392d30352d32370a`
    → err, while `loc S S(61:M(s)) …` → ok). -/
namespace TomlVerif.Props.C14SpannedFull
open TomlVerif TomlVerif.Model TomlVerif.Model.DeTyped TomlVerif.Model.Cst TomlVerif.Model.DeLocated
open TomlVerif.Model.DeSpanned TomlVerif.Lemmas.DeLocated15 TomlVerif.Lemmas.DeSpanned14

/-- Under `Ok t it`, `decodeSp` into the wrapper type with the wrappers forgotten IS `decodeLoc`
into the stripped type — verdict, value and error location. -/
theorem T14_spanned_transparent (fl : TomlValue.Flavour) (t : STy) (it : SItem) (h : Ok t it) :
    lmap stripDec (decodeSp fl t it) = decodeLoc fl (strip t) it :=
  tr_ty fl t it h

/-- the same, spelled out: success iff success, the stripped value, the same error -/
theorem T14_spanned_transparent_cases (fl : TomlValue.Flavour) (t : STy) (it : SItem) (h : Ok t it) :
    (∀ d, decodeSp fl t it = .ok d → decodeLoc fl (strip t) it = .ok (stripDec d)) ∧
    (∀ d', decodeLoc fl (strip t) it = .ok d' → ∃ d, decodeSp fl t it = .ok d ∧ stripDec d = d') ∧
    (∀ e, decodeSp fl t it = .error e ↔ decodeLoc fl (strip t) it = .error e) := by
  have ht := T14_spanned_transparent fl t it h
  refine ⟨fun d hd => ?_, fun d' hd' => ?_, fun e => ?_⟩
  · rw [← ht, hd]; rfl
  · rw [← ht] at hd'
    obtain ⟨d, hd, rfl⟩ := lmap_ok _ _ _ hd'
    exact ⟨d, hd, rfl⟩
  · rw [← ht]
    cases decodeSp fl t it <;> simp [lmap]

/-- with `T15_loc_erases`: the wrapper type decodes exactly when the unlocated model `decodeEdit` (C13) decodes the
stripped type, to the stripped value -/
theorem T14_spanned_transparent_edit (fl : TomlValue.Flavour) (t : STy) (it : SItem) (h : Ok t it)
    (hw : wfTy (strip t) = true) (d' : Dec) :
    (∃ d, decodeSp fl t it = .ok d ∧ stripDec d = d') ↔ decodeEdit editAsIs fl (strip t) (eraseItem it) = .ok d' := by
  rw [← Props.C15Located.T15_loc_erases_ok fl (strip t) it hw d']
  obtain ⟨h1, h2, _⟩ := T14_spanned_transparent_cases fl t it h
  constructor
  · rintro ⟨d, hd, rfl⟩; exact h1 d hd
  · exact h2 d'

def i32 : Ty := .int (-2147483648) 2147483647
def key (s : String) (a b : Nat) : CKey := { key := strBytes s, repr := .spanned a b }
/-- `a = 1` -/
def exDoc : CItem := .table (.mk [(key "a" 0 1, .value (.scalar (.int 1) (.spanned 4 5) {}))] false false (some 0) {} (some (0, 5)))

example : Ok (.spanned (.option (.spanned (.plain i32)))) (.value (.scalar (.int 1) (.spanned 4 5) {})) := by
  simp [Ok, itemSpan, ispanVal, Raw.span]

/-- `Spanned<BTreeMap<Spanned<Newtype(String)>, Spanned<i32>>>` on the document `a = 1` -/
example : Ok (.spanned (.map (.spanned (.newtype .string)) (.spanned (.plain i32)))) exDoc := by
  refine ⟨by decide, ?_⟩
  intro es hes kv hkv
  simp only [exDoc, locMapEntries, eraseItem, citemEntries, CTbl.items, Option.map_some, Option.some.injEq] at hes
  subst hes
  simp only [List.map_cons, List.map_nil, List.mem_singleton] at hkv
  subst hkv
  refine ⟨by decide, Or.inl (by decide), by decide, trivial⟩

def isOk {α} (x : LR α) : Bool := match x with | .ok _ => true | .error _ => false
def emptyRoot : CItem := .table (.mk [] false false (some 0) {} (some (0, 0)))

/-- `struct { a: Spanned<Option<i32>> }` from the empty document fails, the stripped
`struct { a: Option<i32> }` succeeds; `missAgree` is what excludes it -/
theorem ex_spanned_option :
    missAgree (.spanned (.option (.plain i32))) = false ∧
    isOk (decodeSp .sorted (.struct (.cons [0x61] (.spanned (.option (.plain i32))) false .nil)) emptyRoot) = false ∧
    isOk (decodeLoc .sorted (strip (.struct (.cons [0x61] (.spanned (.option (.plain i32))) false .nil))) emptyRoot) = true := by
  decide +kernel

/-- `BTreeMap<Spanned<Spanned<String>>, i32>` on `a = 1` fails, the stripped
`BTreeMap<String, i32>` succeeds; `keyOk` is what excludes it -/
theorem ex_double_spanned_key :
    keyOk (.spanned (.spanned .string)) = false ∧
    isOk (decodeSp .sorted (.map (.spanned (.spanned .string)) (.plain i32)) exDoc) = false ∧
    isOk (decodeLoc .sorted (strip (.map (.spanned (.spanned .string)) (.plain i32))) exDoc) = true := by
  decide +kernel

/-- `1979-05-27` at 4..14 -/
def exDt : CItem := .value (.scalar (.dt ⟨some ⟨1979, 5, 27⟩, none, none⟩) (.spanned 4 14) {})
/-- a date-time read as `BTreeMap<Spanned<String>, String>` fails (its one key comes through serde's
`BorrowedStrDeserializer`), as `BTreeMap<String, String>` it succeeds -/
theorem ex_datetime_map_spanned_key :
    isOk (decodeSp .sorted (.map (.spanned .string) (.plain .string)) exDt) = false ∧
    isOk (decodeLoc .sorted (strip (.map (.spanned .string) (.plain .string))) exDt) = true := by
  decide +kernel

end TomlVerif.Props.C14SpannedFull
