import TomlVerif.Props.C03Hdr
import TomlVerif.Lemmas.Tiling03NestVMain
import TomlVerif.Spec.Encode06
/-! C03 — document-level tiling beyond `flatRoot`: multi-element arrays of tables,
    multi-segment header names with implicit parents and sub-tables in pre-order, dotted keys in
    table bodies.  Three classes, each containing the one before (`aotDoc_nestedDoc`,
    `nestedDoc_dottedDoc`): A = `aotDoc` (`flatRoot` with arrays of any length), B = `nestedDoc`
    (nested headers), C = `dottedDoc` (also dotted keys in bodies).

    The class.  `d` keeps one `Key` per table entry, so the spelling of a later `[[ t ]]`, of the
    `a` in a later `[a.b]` or `a.c = 2` is not in `d`; the class is therefore stated on the SOURCE,
    with a TREE side beside it:
      * `nestRun dot s` (source side, `Lemmas/Tiling03NestDefs`): `parse_document` re-run with a
        check at every header and key/value line, on the state the line meets.  A header
        `[p1.….pn.key]` / `[[…]]` passes (`pathOk`) when every segment that names an EXISTING
        table names the LAST item of its parent, is spelled like the stored key (`sameSeg`: same
        key text and same white space inside the path) and is not a dotted-key table, and the
        last key is new or — for `[[…]]` — names the last item, an array of tables, with the same
        spelling including the white space around the path (`sameLeaf`).  A key/value line passes
        (`kvLineOk`) when its value is a `simpleVal` and every prefix segment of its key that
        names an existing table names the LAST item (adjacent dotted keys), a dotted-key table,
        spelled like the stored key (`dottedOk`); with `dot = false` the key has one segment.
      * `preorderDoc d` (tree side, `Lemmas/Tiling03NestText`): the root has no decor, the
        tables of `d` are met by `visit_nested_tables` in position order, every header has an
        explicit prefix decor.  This side is redundant: every tree a checked run produces
        satisfies it (`C03More.T03_preorder_of_run`), and no proof below uses it; the classes
        `nestedDoc` / `dottedDoc` carry it as a conjunct. -/
namespace TomlVerif.Props.C03Nest
open TomlVerif TomlVerif.Model TomlVerif.Model.Cst TomlVerif.Model.Encode
open TomlVerif.Lemmas.Cst03 TomlVerif.Lemmas.Tiling03 TomlVerif.Lemmas.Tiling03Hdr TomlVerif.Lemmas.Tiling03Nest
open TomlVerif.Props.C03 TomlVerif.Props.C03Doc TomlVerif.Props.C03Hdr

/-- class B: nested headers, repeated `[[t]]`, one-segment keys in bodies -/
def nestedDoc (s : Bytes) (d : CDoc) : Bool := nestRun false s && preorderDoc d

/-- class C: also dotted keys in bodies (adjacent, same spelling of the shared prefix) -/
def dottedDoc (s : Bytes) (d : CDoc) : Bool := nestRun true s && preorderDoc d

/-- root items of class A: simple values, `[t]` leaf tables, `[[t]]` arrays of one or more leaf tables -/
def aotItems : List (CKey × CItem) → Bool
  | [] => true
  | (_, .value v) :: r => simpleVal v && aotItems r
  | (_, .table t) :: r => leafTbl t && aotItems r
  | (_, .aot ts _) :: r => !ts.isEmpty && ts.all leafTbl && aotItems r

/-- class A: `flatRoot` with arrays of any length, every `[[t]]` header spelled like the first -/
def aotDoc (s : Bytes) (d : CDoc) : Bool := aotItems d.root.items && nestedDoc s d

/-- tiling proper, any source: the recorded pieces concatenated verbatim are the source without
    its BOM with some CR LF pairs written LF (`EolRel`; which pairs is not stated), plus a final LF
    (`EolOk`) -/
theorem T03_doc_verbatim_run (dot : Bool) (s : Bytes) (d : CDoc) (h : parseCst s = some d)
    (hrun : nestRun dot s = true) :
    ∃ out eol, verbatimDoc s d = out ++ eol ∧ EolRel out (Doc.stripBom s) ∧ EolOk eol (Doc.stripBom s) :=
  nest_doc_tiling id s d (FixOn.id s) dot h hrun

theorem T03_doc_crlf_run (dot : Bool) (s : Bytes) (d : CDoc) (h : parseCst s = some d)
    (hrun : nestRun dot s = true) :
    ∃ eol, DropCr (printDoc s d) (Doc.stripBom s ++ eol) ∧
      stripCr (printDoc s d) = stripCr (Doc.stripBom s) ++ eol ∧ EolOk eol (Doc.stripBom s) :=
  crlf_of_verbatim (T03_doc_verbatim_run dot s d h hrun)

theorem T03_doc_norm_run (dot : Bool) (s : Bytes) (d : CDoc) (h : parseCst s = some d)
    (hrun : nestRun dot s = true) (hcr : ∀ b ∈ s, b ≠ 0x0D) :
    ∃ eol, printDoc s d = Doc.stripBom s ++ eol ∧ EolOk eol (Doc.stripBom s) :=
  eolRel_noCr (nest_doc_tiling stripCr s d (FixOn.stripCr s hcr) dot h hrun) hcr

theorem T03_doc_tiling_run (dot : Bool) (s : Bytes) (d : CDoc) (h : parseCst s = some d)
    (hrun : nestRun dot s = true)
    (hbom : Doc.stripBom s = s) (hcr : ∀ b ∈ s, b ≠ 0x0D) (hnl : s.getLast? = some 0x0A ∨ s = []) :
    printDoc s d = s :=
  tiling_of_norm h (T03_doc_norm_run dot s d h hrun hcr) hbom hnl

theorem nestedDoc_iff (s : Bytes) (d : CDoc) : nestedDoc s d = true ↔ nestRun false s = true ∧ preorderDoc d = true := by
  simp [nestedDoc]

/-- T03_doc_tiling_nested: multi-segment header names (`[a.b]`, `[x.y.z]`, implicit parents),
    sub-tables after their parent (`[a]` … `[a.b]`), arrays of tables with any number of
    elements and tables below them, every repeated segment spelled like its first occurrence:
    an unedited document prints back byte for byte -/
theorem T03_doc_tiling_nested (s : Bytes) (d : CDoc) (h : parseCst s = some d) (hc : nestedDoc s d = true)
    (hbom : Doc.stripBom s = s) (hcr : ∀ b ∈ s, b ≠ 0x0D) (hnl : s.getLast? = some 0x0A ∨ s = []) :
    printDoc s d = s :=
  T03_doc_tiling_run false s d h ((nestedDoc_iff s d).1 hc).1 hbom hcr hnl

theorem T03_doc_verbatim_nested (s : Bytes) (d : CDoc) (h : parseCst s = some d) (hc : nestedDoc s d = true) :
    ∃ out eol, verbatimDoc s d = out ++ eol ∧ EolRel out (Doc.stripBom s) ∧ EolOk eol (Doc.stripBom s) :=
  T03_doc_verbatim_run false s d h ((nestedDoc_iff s d).1 hc).1

theorem T03_doc_crlf_nested (s : Bytes) (d : CDoc) (h : parseCst s = some d) (hc : nestedDoc s d = true) :
    ∃ eol, DropCr (printDoc s d) (Doc.stripBom s ++ eol) ∧
      stripCr (printDoc s d) = stripCr (Doc.stripBom s) ++ eol ∧ EolOk eol (Doc.stripBom s) :=
  T03_doc_crlf_run false s d h ((nestedDoc_iff s d).1 hc).1

theorem T03_doc_norm_nested (s : Bytes) (d : CDoc) (h : parseCst s = some d) (hc : nestedDoc s d = true)
    (hcr : ∀ b ∈ s, b ≠ 0x0D) : ∃ eol, printDoc s d = Doc.stripBom s ++ eol ∧ EolOk eol (Doc.stripBom s) :=
  T03_doc_norm_run false s d h ((nestedDoc_iff s d).1 hc).1 hcr

theorem T03_print_fixpoint_nested (s : Bytes) (d : CDoc) (h : parseCst s = some d) (hc : nestedDoc s d = true)
    (hbom : Doc.stripBom s = s) (hcr : ∀ b ∈ s, b ≠ 0x0D) (hnl : s.getLast? = some 0x0A ∨ s = []) :
    ∃ d', parseCst (printDoc s d) = some d' ∧ printDoc (printDoc s d) d' = printDoc s d :=
  fixpoint_of_tiling h (T03_doc_tiling_nested s d h hc hbom hcr hnl)

theorem aotDoc_nestedDoc (s : Bytes) (d : CDoc) (h : aotDoc s d = true) : nestedDoc s d = true := by
  simp only [aotDoc, Bool.and_eq_true] at h
  exact h.2

/-- T03_doc_tiling_aot: `flatRoot` documents with arrays of tables of any length, every
    `[[t]]` header of an array spelled like the first (the source-side check) -/
theorem T03_doc_tiling_aot (s : Bytes) (d : CDoc) (h : parseCst s = some d) (hc : aotDoc s d = true)
    (hbom : Doc.stripBom s = s) (hcr : ∀ b ∈ s, b ≠ 0x0D) (hnl : s.getLast? = some 0x0A ∨ s = []) :
    printDoc s d = s :=
  T03_doc_tiling_nested s d h (aotDoc_nestedDoc s d hc) hbom hcr hnl

theorem dottedDoc_iff (s : Bytes) (d : CDoc) : dottedDoc s d = true ↔ nestRun true s = true ∧ preorderDoc d = true := by
  simp [dottedDoc]

/-- T03_doc_tiling_dotted: as `T03_doc_tiling_nested`, with dotted keys in table bodies when the
    keys sharing a prefix are adjacent and spell the shared segments alike (`a.b = 1`, `a.c = 2`) -/
theorem T03_doc_tiling_dotted (s : Bytes) (d : CDoc) (h : parseCst s = some d) (hc : dottedDoc s d = true)
    (hbom : Doc.stripBom s = s) (hcr : ∀ b ∈ s, b ≠ 0x0D) (hnl : s.getLast? = some 0x0A ∨ s = []) :
    printDoc s d = s :=
  T03_doc_tiling_run true s d h ((dottedDoc_iff s d).1 hc).1 hbom hcr hnl

theorem T03_doc_verbatim_dotted (s : Bytes) (d : CDoc) (h : parseCst s = some d) (hc : dottedDoc s d = true) :
    ∃ out eol, verbatimDoc s d = out ++ eol ∧ EolRel out (Doc.stripBom s) ∧ EolOk eol (Doc.stripBom s) :=
  T03_doc_verbatim_run true s d h ((dottedDoc_iff s d).1 hc).1

theorem T03_doc_crlf_dotted (s : Bytes) (d : CDoc) (h : parseCst s = some d) (hc : dottedDoc s d = true) :
    ∃ eol, DropCr (printDoc s d) (Doc.stripBom s ++ eol) ∧
      stripCr (printDoc s d) = stripCr (Doc.stripBom s) ++ eol ∧ EolOk eol (Doc.stripBom s) :=
  T03_doc_crlf_run true s d h ((dottedDoc_iff s d).1 hc).1

theorem T03_doc_norm_dotted (s : Bytes) (d : CDoc) (h : parseCst s = some d) (hc : dottedDoc s d = true)
    (hcr : ∀ b ∈ s, b ≠ 0x0D) : ∃ eol, printDoc s d = Doc.stripBom s ++ eol ∧ EolOk eol (Doc.stripBom s) :=
  T03_doc_norm_run true s d h ((dottedDoc_iff s d).1 hc).1 hcr

theorem T03_print_fixpoint_dotted (s : Bytes) (d : CDoc) (h : parseCst s = some d) (hc : dottedDoc s d = true)
    (hbom : Doc.stripBom s = s) (hcr : ∀ b ∈ s, b ≠ 0x0D) (hnl : s.getLast? = some 0x0A ∨ s = []) :
    ∃ d', parseCst (printDoc s d) = some d' ∧ printDoc (printDoc s d) d' = printDoc s d :=
  fixpoint_of_tiling h (T03_doc_tiling_dotted s d h hc hbom hcr hnl)

theorem nestedDoc_dottedDoc (s : Bytes) (d : CDoc) (h : nestedDoc s d = true) : dottedDoc s d = true := by
  obtain ⟨h1, h2⟩ := (nestedDoc_iff s d).1 h
  exact (dottedDoc_iff s d).2 ⟨nestRun_mono s h1, h2⟩

/-- T03_same_data, full statement: for every accepted document the printed text is accepted and
    erases to the same plain tree.  FALSE as stated (`C03More.T03_same_data_counterexample`).  For
    sources that pass the source-side checks it follows from tiling: `T03_same_data_partial` below,
    and `T03_same_data_general_class_cst` in `Props/C03MoreGen.lean` for the largest class. -/
def T03_same_data_statement : Prop :=
  ∀ (s : Bytes) (d : CDoc), parseCst s = some d →
    ∃ d', parseCst (printDoc s d) = some d' ∧ eraseTbl d'.root = eraseTbl d.root

/-- T03_same_data (proved part): in the class of `T03_doc_tiling_dotted` (which contains those of
    the other classes) on sources without BOM and CR ending in a newline, the printed text parses
    to the very same tree -/
theorem T03_same_data_partial (s : Bytes) (d : CDoc) (h : parseCst s = some d) (hc : dottedDoc s d = true)
    (hbom : Doc.stripBom s = s) (hcr : ∀ b ∈ s, b ≠ 0x0D) (hnl : s.getLast? = some 0x0A ∨ s = []) :
    ∃ d', parseCst (printDoc s d) = some d' ∧ eraseTbl d'.root = eraseTbl d.root := by
  rw [T03_doc_tiling_dotted s d h hc hbom hcr hnl]
  exact ⟨d, h, rfl⟩

def exCargo : Bytes := strBytes
  "# manifest\n[package]\nname = \"x\" # the name\nversion = \"0.1.0\"\n\n[dependencies]\nserde = { version = \"1\" }\n\n[dependencies.tokio]\nversion = \"1\"\nfeatures.default = false\nfeatures.full = true\n\n[[bin]]\nname = \"a\"\n\n[[bin]]\nname = \"b\"\n# end\n"

theorem exCargo_eval :
    ((parseCst exCargo).map (dottedDoc exCargo) = some true ∧
      Doc.stripBom exCargo = exCargo ∧ (exCargo.all fun b => b != 0x0D) = true ∧
      exCargo.getLast? = some 0x0A) ∧
    nestRun true exCargo = true ∧ (parseCst exCargo).isSome = true ∧
    (parseCst exCargo).map (fun d => Spec.Encode06.beqOptTbl (some (eraseTbl d.root)) (Doc.parseDocument exCargo))
      = some true := by
  rw [exCargo, strBytes_eq rfl]
  decide +kernel

example : (parseCst exCargo).map (dottedDoc exCargo) = some true ∧
    Doc.stripBom exCargo = exCargo ∧ (exCargo.all fun b => b != 0x0D) = true ∧
    exCargo.getLast? = some 0x0A ∧
    (parseCst exCargo).map (printDoc exCargo) = some exCargo :=
  tiling_vector (T03_doc_tiling_dotted _) exCargo_eval.1

/-- class B: `[x.y.z]` with implicit parents, a sibling `[x.y.w]`, an array below an implicit
    table, a table below an array element, a second element, spaces inside the header names
    repeated identically -/
def exNested : Bytes := strBytes
  "top = 1\n[x . y.z]\nq = 1\n[x . y.w]\n[[x .arr]]\n[x .arr.sub] # s\nv = [1, 2]\n[[x .arr]]\n[last]\n"

theorem exNested_eval :
    ((parseCst exNested).map (nestedDoc exNested) = some true ∧
      Doc.stripBom exNested = exNested ∧ (exNested.all fun b => b != 0x0D) = true ∧
      exNested.getLast? = some 0x0A) ∧
    nestRun false exNested = true ∧ (parseCst exNested).isSome = true := by
  rw [exNested, strBytes_eq rfl]
  decide +kernel

example : (parseCst exNested).map (nestedDoc exNested) = some true ∧
    Doc.stripBom exNested = exNested ∧ (exNested.all fun b => b != 0x0D) = true ∧
    exNested.getLast? = some 0x0A ∧
    (parseCst exNested).map (printDoc exNested) = some exNested :=
  tiling_vector (T03_doc_tiling_nested _) exNested_eval.1

/-- class A: three `[[ c ]]` sections spelled alike between other sections -/
def exAot : Bytes := strBytes "x = 1\n[[ c ]]\nq = 1\n\n[[ c ]] # two\n[[ c ]]\nq = 3\n[b]\n"

example : (parseCst exAot).map (aotDoc exAot) = some true ∧
    (parseCst exAot).map flatRoot = some false ∧
    (parseCst exAot).map (printDoc exAot) = some exAot := by
  rw [exAot, strBytes_eq rfl]
  decide +kernel

/-- class C outside B: dotted keys need `dot = true` -/
example : (parseCst (strBytes "[t]\na.b = 1\na.c = 2\n")).map (nestedDoc (strBytes "[t]\na.b = 1\na.c = 2\n")) = some false ∧
    (parseCst (strBytes "[t]\na.b = 1\na.c = 2\n")).map (dottedDoc (strBytes "[t]\na.b = 1\na.c = 2\n")) = some true := by
  simp only [strBytes_eq rfl]
  decide +kernel

/-- CR LF line ends and a BOM: the normalising variants apply -/
def exNestedCrlf : Bytes := [0xEF, 0xBB, 0xBF] ++ strBytes "[a]\r\nk.x = 1\r\nk.y = 2\r\n# c\r\n[a.b]\r\n[[a.c]]\r\n[[a.c]]"

theorem exNestedCrlf_eval :
    ((parseCst exNestedCrlf).map (dottedDoc exNestedCrlf) = some true ∧
      (parseCst exNestedCrlf).map (printDoc exNestedCrlf)
        = some (strBytes "[a]\nk.x = 1\nk.y = 2\n# c\n[a.b]\n[[a.c]]\n[[a.c]]\n")) ∧
    nestRun true exNestedCrlf = true ∧ (parseCst exNestedCrlf).isSome = true ∧
    strBytes "# c" <:+: Doc.stripBom exNestedCrlf ∧
    (parseCst exNestedCrlf).map (fun d => decide (strBytes "# c" <:+: printDoc exNestedCrlf d)) = some true := by
  simp only [exNestedCrlf, strBytes_eq rfl]
  decide +kernel

example : (parseCst exNestedCrlf).map (dottedDoc exNestedCrlf) = some true ∧
    (parseCst exNestedCrlf).map (printDoc exNestedCrlf)
      = some (strBytes "[a]\nk.x = 1\nk.y = 2\n# c\n[a.b]\n[[a.c]]\n[[a.c]]\n") :=
  exNestedCrlf_eval.1

/-- a later `[[ c ]]` spelled differently: out of the class, printed with the first spelling -/
example : nestRun true (strBytes "[[c]]\n[[ c ]]\n") = false ∧
    (parseCst (strBytes "[[c]]\n[[ c ]]\n")).map preorderDoc = some true ∧
    (parseCst (strBytes "[[c]]\n[[ c ]]\n")).map (printDoc (strBytes "[[c]]\n[[ c ]]\n"))
      = some (strBytes "[[c]]\n[[c]]\n") := by
  simp only [strBytes_eq rfl]
  decide +kernel

/-- a parent segment spelled differently -/
example : nestRun true (strBytes "[a]\n[ a .d]\n") = false ∧
    (parseCst (strBytes "[a]\n[ a .d]\n")).map preorderDoc = some true ∧
    (parseCst (strBytes "[a]\n[ a .d]\n")).map (printDoc (strBytes "[a]\n[ a .d]\n"))
      = some (strBytes "[a]\n[ a.d]\n") := by
  simp only [strBytes_eq rfl]
  decide +kernel

/-- a shared dotted-key prefix spelled differently -/
example : nestRun true (strBytes "a .b = 1\na.c = 2\n") = false ∧
    (parseCst (strBytes "a .b = 1\na.c = 2\n")).map preorderDoc = some true ∧
    (parseCst (strBytes "a .b = 1\na.c = 2\n")).map (printDoc (strBytes "a .b = 1\na.c = 2\n"))
      = some (strBytes "a .b = 1\na .c = 2\n") := by
  simp only [strBytes_eq rfl]
  decide +kernel

/-- non-adjacent dotted keys sharing a prefix are regrouped -/
example : nestRun true (strBytes "a.b = 1\nc = 2\na.d = 3\n") = false ∧
    (parseCst (strBytes "a.b = 1\nc = 2\na.d = 3\n")).map (printDoc (strBytes "a.b = 1\nc = 2\na.d = 3\n"))
      = some (strBytes "a.b = 1\na.d = 3\nc = 2\n") := by
  simp only [strBytes_eq rfl]
  decide +kernel

/-- the class is sufficient, not necessary: sections out of pre-order (`[a]`, `[c]`, `[a.b]`)
    print back exactly (the printer sorts by position) but fail the check "names the last item" -/
example : nestRun true (strBytes "[a]\n[c]\n[a.b]\n") = false ∧
    (parseCst (strBytes "[a]\n[c]\n[a.b]\n")).map preorderDoc = some false ∧
    (parseCst (strBytes "[a]\n[c]\n[a.b]\n")).map (printDoc (strBytes "[a]\n[c]\n[a.b]\n"))
      = some (strBytes "[a]\n[c]\n[a.b]\n") := by
  simp only [strBytes_eq rfl]
  decide +kernel

end TomlVerif.Props.C03Nest
