import TomlVerif.Props.C03MoreGen2
import TomlVerif.Lemmas.Same03Main
import TomlVerif.Lemmas.Bytes
/-! C03 — headers THROUGH dotted-key tables (`a.d = 3`, `[a.b]`): the same-data clause
    for the class `genRun2` (`Lemmas/Tiling03MoreGen2Defs.lean`; `genRun` with `!t.dotted` dropped
    for every table on a header's path, `pathOkT2`), stated in `Props/C03MoreGen2.lean` as
    `T03_same_data_general_class2_statement`.  It is the largest of the same-data classes
    (`adjRun ⊆ nadRun ⊆ genRun ⊆ genRun2`, `adjRun ⊆ tkoRun ⊆ genRun`): the clauses for the
    smaller ones (`Props/C03More{Sem,Nad,Tko,Gen}.lean`) are its instances.

    Why it holds: the printed text is the rendering of well-formed grammar lines (C01) whose
    statements, run from the initial state, give the erased parse state; the completeness of the
    grammar reads the printed text back as that run.  Along the parse the finished sections are
    printed in position order (the printer sorts; implicit tables are invisible), a header is
    written with the STORED keys of its path, and the printer REGROUPS a body of dotted keys: a
    key/value line inserts its lines after the entries of its group, and the statements of the
    body are replayed in the printed order when the section ends. -/
namespace TomlVerif.Props.C03More
open TomlVerif TomlVerif.Model TomlVerif.Model.Cst TomlVerif.Model.Encode
open TomlVerif.Lemmas.Cst03 TomlVerif.Lemmas.Tiling03 TomlVerif.Lemmas.Tiling03Hdr TomlVerif.Lemmas.Tiling03Nest
open TomlVerif.Lemmas.Tiling03More TomlVerif.Lemmas.Tiling03More.Tko TomlVerif.Lemmas.Tiling03More.Gen
open TomlVerif.Props.C03 TomlVerif.Props.C03Doc TomlVerif.Props.C03Hdr TomlVerif.Props.C03Nest

/-- for every source in `genRun2` (headers may pass through
    dotted-key tables) the printed text decodes (semantic parser) to the same table, flags and
    positions included -/
theorem T03_same_data_general_class2 : T03_same_data_general_class2_statement := by
  intro s d h hrun
  rw [same_data_gen2 s d h hrun, ← T03_cst_erases_to_doc s, h]; rfl

theorem T03_same_data_general_class2' (s : Bytes) (d : CDoc) (h : parseCst s = some d) (hrun : genRun2 s = true) :
    Doc.parseDocument (printDoc s d) = Doc.parseDocument s :=
  T03_same_data_general_class2 s d h hrun

/-- … and the printed text is accepted by the format-preserving parser, with the same data -/
theorem T03_same_data_general_class2_cst (s : Bytes) (d : CDoc) (h : parseCst s = some d) (hrun : genRun2 s = true) :
    ∃ d', parseCst (printDoc s d) = some d' ∧ eraseTbl d'.root = eraseTbl d.root :=
  (T03_reparse_iff_doc (printDoc s d) (fun t => t = eraseTbl d.root)).2 ⟨_, same_data_gen2 s d h hrun, rfl⟩

theorem T03_same_data_general_class2_tbl (s : Bytes) (d : CDoc) (h : parseCst s = some d) (hrun : genRun2 s = true) :
    Doc.parseDocument (printDoc s d) = some (eraseTbl d.root) :=
  same_data_gen2 s d h hrun

/-- `T03_same_data_general_class` is the instance on the smaller class -/
theorem T03_same_data_general_class_of_class2 (s : Bytes) (d : CDoc) (h : parseCst s = some d)
    (hrun : genRun s = true) : Doc.parseDocument (printDoc s d) = Doc.parseDocument s :=
  T03_same_data_general_class2 s d h (T03_genRun_genRun2 s hrun)

/-- `a.d = 3`, `[a.b]`: a header through a dotted-key table of the root -/
def exGen2a : Bytes := strBytes "a.d = 3\n[a.b]\n"

theorem exGen2a_eval : genRun2 exGen2a = true ∧ genRun exGen2a = false ∧ (parseCst exGen2a).isSome = true := by
  simp only [exGen2a, strBytes_eq rfl]
  decide +kernel

example : genRun2 exGen2a = true ∧ genRun exGen2a = false ∧ (parseCst exGen2a).isSome = true := exGen2a_eval

example : ∃ d, parseCst exGen2a = some d ∧ Doc.parseDocument (printDoc exGen2a d) = Doc.parseDocument exGen2a := by
  obtain ⟨d, hd⟩ := Option.isSome_iff_exists.1 exGen2a_eval.2.2
  exact ⟨d, hd, T03_same_data_general_class2 exGen2a d hd exGen2a_eval.1⟩

/-- `[t]`, `a.b = 1`, `[t.a.c]`: a header through a dotted-key table of a finished section -/
def exGen2b : Bytes := strBytes "[t]\na.b = 1\n[t.a.c]\n"

theorem exGen2b_eval : genRun2 exGen2b = true ∧ genRun exGen2b = false ∧ (parseCst exGen2b).isSome = true := by
  simp only [exGen2b, strBytes_eq rfl]
  decide +kernel

example : genRun2 exGen2b = true ∧ genRun exGen2b = false ∧ (parseCst exGen2b).isSome = true := exGen2b_eval

example : ∃ d, parseCst exGen2b = some d ∧ Doc.parseDocument (printDoc exGen2b d) = Doc.parseDocument exGen2b := by
  obtain ⟨d, hd⟩ := Option.isSome_iff_exists.1 exGen2b_eval.2.2
  exact ⟨d, hd, T03_same_data_general_class2 exGen2b d hd exGen2b_eval.1⟩

/-- arrays of tables and a take-over below a dotted-key table, then non-adjacent dotted keys in the
    taken-over table -/
def exGen2c : Bytes := strBytes "a.b = 1\n[a.c.d]\n[a.c]\ne.f = 1\ng = 1\ne.h = 2\n[[a.q]]\n[[a.q]]\n[a.q.r]\n"
/-- a header through a dotted-key table built by non-adjacent dotted keys; CR LF, a respelled
    header segment (`[ t . a .c]`), comments, no final newline -/
def exGen2d : Bytes :=
  strBytes "# top\r\n[t]\r\na.b = 1 # x\r\nc = 2\r\na.d = 2\r\n[ t . a .c]\r\nq.r = 1\r\n[[t.a.e]]\r\n[[t.a.e]] # last"

example : genRun2 exGen2c = true ∧ genRun exGen2c = false ∧ (parseCst exGen2c).isSome = true ∧
    sameData exGen2c = some true ∧
    genRun2 exGen2d = true ∧ genRun exGen2d = false ∧ (parseCst exGen2d).isSome = true ∧
    sameData exGen2d = some true := by
  simp only [exGen2c, exGen2d, strBytes_eq rfl]
  decide +kernel

/-- the examples of the smaller classes are instances too -/
example : genRun2 exGen1 = true ∧ genRun2 exGenAll = true :=
  ⟨T03_genRun_genRun2 _ exGen1_genRun, T03_genRun_genRun2 _ exGenAll_genRun⟩

/-- a dotted key through a table made by a header (the data DIFFERS); a take-over under a
    respelled name (same data, not covered) -/
example : genRun2 (strBytes "[a.b.d]\n[a]\nb.c.e = 3\n") = false ∧
    sameData (strBytes "[a.b.d]\n[a]\nb.c.e = 3\n") = some false ∧
    genRun2 (strBytes "[x .y]\n[x]\n") = false ∧ sameData (strBytes "[x .y]\n[x]\n") = some true :=
  ⟨by simp only [strBytes_eq rfl]; decide +kernel, sameData_implicitDotted, by simp only [strBytes_eq rfl]; decide +kernel, sameData_reopened_respelled⟩

end TomlVerif.Props.C03More

#print axioms TomlVerif.Props.C03More.T03_same_data_general_class2
#print axioms TomlVerif.Props.C03More.T03_same_data_general_class2_cst
#print axioms TomlVerif.Props.C03More.T03_same_data_general_class2_tbl
