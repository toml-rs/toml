import TomlVerif.Lemmas.DocDriver01
import TomlVerif.Props.C09
/-! # C01 / C02 at document level — every document the grammar generates drives exactly its statements

`Spec/AstDoc.lean` gives the abstract syntax of documents (`Doc`: optional byte-order mark, lines ended
by LF or CRLF, an optional last line without line end; a `Line` is blank, a comment, `key = value`,
`[table]` or `[[array-of-tables]]`, the last three with optional trailing comment), `render` (the bytes)
and `stmts` (the statement sequence).  This reduces "the document is accepted and decodes to …" to `run` over
`Stmt`s, the state machine of `Lemmas/State09.lean`. -/
namespace TomlVerif.Props.C01Doc
open TomlVerif TomlVerif.Spec TomlVerif.Model TomlVerif.Model.Strings TomlVerif.Model.Value
open TomlVerif.Model.State TomlVerif.Model.Doc
open TomlVerif.Spec.AstValue TomlVerif.Spec.AstDoc TomlVerif.Lemmas.Value01 TomlVerif.Lemmas.State09
open TomlVerif.Lemmas.Doc01 TomlVerif.Lemmas.SoundDoc01C TomlVerif.Spec.AstDocQ

/-- a bare key is a key segment -/
theorem T01_keyseg_bare (pre key post : Bytes) (hpre : AllWs pre) (hpost : AllWs post) (hne : key ≠ [])
    (hk : ∀ b ∈ key, isUnquotedChar b = true) : KeySegOK ⟨pre, key, key, post⟩ :=
  ⟨hpre, hpost, fun rest hr => simpleKey_bare key rest hne hk hr⟩

/-- every key the writer produces, in any style, is a key segment -/
theorem T01_keyseg_written (st : Write.KStyle) (pre s tok post : Bytes) (hpre : AllWs pre) (hpost : AllWs post)
    (h : Write.writeKey st s = some tok) : KeySegOK ⟨pre, tok, s, post⟩ :=
  ⟨hpre, hpost, fun rest hr => Props.C10.T10_key st s tok rest h hr⟩

/-- every basic string of the grammar (`Spec/AstString.lean`) is a key segment denoting its decoded text; with
    `T01_keyseg_bare` and `T01_keyseg_literal` the whole of `simple-key = quoted-key / unquoted-key` is covered -/
theorem T01_keyseg_basic (pre post : Bytes) (cs : List AstString.BasicChar) (hpre : AllWs pre) (hpost : AllWs post)
    (h : AstString.wfBasic cs = true) : KeySegOK ⟨pre, AstString.renderBasic cs, AstString.semBasic cs, post⟩ := by
  refine ⟨hpre, hpost, fun rest _ => ?_⟩
  have := Props.C02Strings.T02_basic_general cs rest h
  simp only [AstString.renderBasic, List.cons_append] at this ⊢
  simpa [Key.simpleKey] using this

/-- every literal string of the grammar is a key segment -/
theorem T01_keyseg_literal (pre post bs : Bytes) (hpre : AllWs pre) (hpost : AllWs post)
    (h : AstString.wfLiteral bs = true) : KeySegOK ⟨pre, AstString.renderLiteral bs, AstString.semLiteral bs, post⟩ := by
  refine ⟨hpre, hpost, fun rest _ => ?_⟩
  have := Props.C02Strings.T02_literal_general bs rest h
  simp only [AstString.renderLiteral, List.cons_append] at this ⊢
  simpa [Key.simpleKey] using this

/-- non-vacuity: the keys `"a\tb"` (an escape the writer's basic style would also produce) and `'a b'` -/
example : KeySegOK ⟨[], [0x22, 0x61, 0x5C, 0x74, 0x62, 0x22], [0x61, 0x09, 0x62], []⟩ :=
  T01_keyseg_basic [] [] [.raw 0x61, .escaped (.simple 0x74), .raw 0x62] (by intro b hb; cases hb) (by intro b hb; cases hb)
    (by decide)
example : KeySegOK ⟨[], [0x27, 0x61, 0x20, 0x62, 0x27], [0x61, 0x20, 0x62], []⟩ :=
  T01_keyseg_literal [] [] [0x61, 0x20, 0x62] (by intro b hb; cases hb) (by intro b hb; cases hb) (by decide)

/-- **dotted keys are read back exactly**: a well-formed dotted key (every component a key segment, fewer than
    `LIMIT` components) followed by something that cannot continue it (`PathFollow`: the end of the input or a byte
    that is not a bare-key character, a blank or a dot) yields its decoded components and leaves exactly the rest -/
theorem T01_keypath_complete (p : KeyPath) (rest : Bytes) (hp : p.OK) (hr : PathFollow rest) :
    keyPath (p.render ++ rest) = .ok p.names rest :=
  keyPath_path p rest hp hr

/-- `=` and `]` (the two bytes that follow a dotted key in a document) satisfy the follow condition -/
theorem T01_pathFollow_eq (r : Bytes) : PathFollow (0x3D :: r) := pathFollow_eq r
theorem T01_pathFollow_close (r : Bytes) : PathFollow (0x5D :: r) := pathFollow_close r

/-- the follow condition is needed: a dotted key followed by `.x` reads on -/
example : keyPath ([0x61] ++ [0x2E, 0x78]) = .ok [[0x61], [0x78]] [] := by decide

/-- the quoted key `"x y"` -/
def xyTok : Bytes := [0x22, 0x78, 0x20, 0x79, 0x22]
def xyName : Bytes := [0x78, 0x20, 0x79]
theorem xy_written : Write.writeKey .basic xyName = some xyTok := by decide +kernel

/-- non-vacuity: ` t . "x y" ` followed by `]` -/
def examplePath : KeyPath := ⟨⟨[0x20], [0x74], [0x74], [0x20]⟩, [⟨[0x20], xyTok, xyName, [0x20]⟩]⟩

theorem examplePath_ok : examplePath.OK := by
  refine ⟨T01_keyseg_bare _ _ _ AllWs.sp AllWs.sp (by decide) (by intro b hb; simp at hb; subst hb; decide), ?_, by decide⟩
  intro k hk
  simp [examplePath] at hk
  subst hk
  exact T01_keyseg_written .basic _ _ _ _ AllWs.sp AllWs.sp xy_written

example : keyPath ([0x20, 0x74, 0x20, 0x2E, 0x20, 0x22, 0x78, 0x20, 0x79, 0x22, 0x20] ++ [0x5D]) =
    .ok [[0x74], [0x78, 0x20, 0x79]] [0x5D] :=
  T01_keypath_complete examplePath [0x5D] examplePath_ok (T01_pathFollow_close [])

/-- **a `key = value` line drives exactly `on_keyval`** with the dotted key split into the table path and the last
    component and with the value the syntax tree denotes, and consumes exactly the line and its line end -/
theorem T01_keyval_line (st : ParseState) (p : KeyPath) (w1 : Bytes) (v : AVal) (w2 : Bytes) (cm : Option Bytes)
    (c : Bool) (more : Bytes) (hwf : (Line.keyval p w1 v w2 cm).WF) :
    keyvalLine st ((Line.keyval p w1 v w2 cm).render ++ (nlBytes c ++ more)) =
      (onKeyval st p.path p.last (sem v)).map fun st' => (st', more) :=
  keyvalLine_end st p w1 v w2 cm _ more hwf (.nl c more)

/-- the same for a last line without line end -/
theorem T01_keyval_line_eof (st : ParseState) (p : KeyPath) (w1 : Bytes) (v : AVal) (w2 : Bytes) (cm : Option Bytes)
    (hwf : (Line.keyval p w1 v w2 cm).WF) :
    keyvalLine st (Line.keyval p w1 v w2 cm).render = (onKeyval st p.path p.last (sem v)).map fun st' => (st', []) := by
  have := keyvalLine_end st p w1 v w2 cm [] [] hwf .eof
  rwa [List.append_nil] at this

/-- what the statement loop hands to `table`: the line without the blanks before `[` -/
theorem T01_header_dropWs (ws : Bytes) (p : KeyPath) (w2 : Bytes) (cm : Option Bytes) (T : Bytes) (hws : AllWs ws) :
    dropWs ((Line.std ws p w2 cm).render ++ T) = (Line.std [] p w2 cm).render ++ T ∧
    dropWs ((Line.aot ws p w2 cm).render ++ T) = (Line.aot [] p w2 cm).render ++ T := by
  simp only [Line.render, List.append_assoc, List.cons_append, List.nil_append]
  rw [dropWs_allws _ _ hws, dropWs_allws _ _ hws]
  exact ⟨dropWs_head _ _ (by decide), dropWs_head _ _ (by decide)⟩

/-- **a `[table]` line drives exactly `on_std_header`** with the decoded dotted key and consumes exactly the line
    and its line end -/
theorem T01_header_line (st : ParseState) (p : KeyPath) (w2 : Bytes) (cm : Option Bytes) (c : Bool) (more : Bytes)
    (hwf : (Line.std [] p w2 cm).WF) :
    tableLine st ((Line.std [] p w2 cm).render ++ (nlBytes c ++ more)) =
      (onStdHeader st p.names).map fun st' => (st', more) := by
  have := stdLine_end st p w2 cm _ more hwf.2.1 hwf.2.2.1 hwf.2.2.2 (.nl c more)
  simpa [Line.render] using this

theorem T01_header_line_eof (st : ParseState) (p : KeyPath) (w2 : Bytes) (cm : Option Bytes)
    (hwf : (Line.std [] p w2 cm).WF) :
    tableLine st (Line.std [] p w2 cm).render = (onStdHeader st p.names).map fun st' => (st', []) := by
  have := stdLine_end st p w2 cm [] [] hwf.2.1 hwf.2.2.1 hwf.2.2.2 .eof
  simpa [Line.render] using this

/-- **a `[[array-of-tables]]` line drives exactly `on_array_header`** -/
theorem T01_aot_line (st : ParseState) (p : KeyPath) (w2 : Bytes) (cm : Option Bytes) (c : Bool) (more : Bytes)
    (hwf : (Line.aot [] p w2 cm).WF) :
    tableLine st ((Line.aot [] p w2 cm).render ++ (nlBytes c ++ more)) =
      (onArrayHeader st p.names).map fun st' => (st', more) := by
  have := aotLine_end st p w2 cm _ more hwf.2.1 hwf.2.2.1 hwf.2.2.2 (.nl c more)
  simpa [Line.render] using this

theorem T01_aot_line_eof (st : ParseState) (p : KeyPath) (w2 : Bytes) (cm : Option Bytes)
    (hwf : (Line.aot [] p w2 cm).WF) :
    tableLine st (Line.aot [] p w2 cm).render = (onArrayHeader st p.names).map fun st' => (st', []) := by
  have := aotLine_end st p w2 cm [] [] hwf.2.1 hwf.2.2.1 hwf.2.2.2 .eof
  simpa [Line.render] using this

/-- **one pass of the statement loop**: any well-formed line followed by a line end performs the step of its
    statement (none for blank and comment lines) and continues after the line end with one unit of fuel less -/
theorem T01_line_step (fuel : Nat) (st : ParseState) (l : Line) (c : Bool) (more : Bytes) (hwf : l.WF) :
    lines (fuel + 1) st (dropWs (l.render ++ (nlBytes c ++ more))) =
      (stepLine st l).bind fun st' => lines fuel st' (dropWs more) := by
  have := lines_line_nlQ fuel st (ofLine l) c more (ofLine_wf l hwf)
  rwa [ofLine_render, ofLine_stmt] at this

/-- **the statement loop follows `run`**: on the rendering of well-formed lines (each with LF or CRLF, the last one
    optionally without line end; blank and comment lines anywhere, comments after values and headers) the loop
    returns what `run` returns on the statement sequence, from any state, for any fuel above the length -/
theorem T01_lines_complete (ls : List (Line × Bool)) (last : Option Line) (st : ParseState) (fuel : Nat)
    (hls : ∀ p ∈ ls, p.1.WF) (hl : ∀ l, last = some l → l.WF)
    (hf : (dropWs (renderLines ls ++ renderLast last)).length < fuel) :
    lines fuel st (dropWs (renderLines ls ++ renderLast last)) = run st (stmtsLines ls ++ stmtsLast last) := by
  have hwf := ofDoc_wf ⟨false, ls, last⟩ ⟨hls, hl⟩
  have := lines_runQ (ls.map fun p : Line × Bool => (ofLine p.1, p.2)) (last.map ofLine) st fuel hwf.1 hwf.2
  rw [renderLinesQ_of, renderLastQ_of, stmtsLinesQ_of, stmtsLastQ_of] at this
  exact this hf

/-- **document-level completeness, syntactic side**: a well-formed document is parsed exactly as the run of its
    statement sequence from the initial state followed by `into_document` -/
theorem T01_document_complete (d : Doc) (hwf : d.WF) :
    parseDocument d.render = (run {} d.stmts).bind intoDocument := by
  have := Lemmas.SoundDoc01C.parseDocument_renderQ (AstDocQ.ofDoc d) (AstDocQ.ofDoc_wf d hwf)
  rwa [AstDocQ.ofDoc_render, AstDocQ.ofDoc_stmts] at this

/-- a well-formed document is accepted exactly when its statement sequence is (closing the last table never fails) -/
theorem T01_document_accepted_iff (d : Doc) (hwf : d.WF) :
    (parseDocument d.render).isSome = true ↔ (run {} d.stmts).isSome = true := by
  rw [T01_document_complete d hwf]
  cases h : run {} d.stmts with
  | none => simp
  | some st => simpa using Props.C09.T09_run_document_defined d.stmts st h

/-- the slice entry point: the same for well-formed UTF-8 -/
theorem T01_slice_complete (d : Doc) (hwf : d.WF) (hu : Utf8.valid d.render = true) :
    parseSlice d.render = (run {} d.stmts).bind intoDocument := by
  unfold parseSlice
  rw [hu, if_pos rfl, T01_document_complete d hwf]

/-! non-vacuity: the document (with byte-order mark)
```
  # hi␍␊
a.b = [true, false]  # c␊
␊
[t."x y"]␊
k = true␊
␉[[arr]] # c␍␊
z = false
``` -/
def kA : Bytes := [0x61]
def kB : Bytes := [0x62]
def kT : Bytes := [0x74]
def kK : Bytes := [0x6B]
def kZ : Bytes := [0x7A]
def kArr : Bytes := [0x61, 0x72, 0x72]
def bare (pre key post : Bytes) : KeySeg := ⟨pre, key, key, post⟩

def exampleDoc : Doc :=
  { bom := true
    lines := [
      (.comment [0x20, 0x20] [0x20, 0x68, 0x69], true),
      (.keyval ⟨bare [] kA [], [bare [] kB [0x20]]⟩ [0x20]
         (.arr [([], .scalar trueTok, []), ([.ws [0x20]], .scalar falseTok, [])] false []) [0x20, 0x20] (some [0x20, 0x63]), false),
      (.blank [], false),
      (.std [] ⟨bare [] kT [], [⟨[], xyTok, xyName, []⟩]⟩ [] none, false),
      (.keyval ⟨bare [] kK [0x20], []⟩ [0x20] (.scalar trueTok) [] none, false),
      (.aot [0x09] ⟨bare [] kArr [], []⟩ [0x20] (some [0x20, 0x63]), true) ]
    last := some (.keyval ⟨bare [] kZ [0x20], []⟩ [0x20] (.scalar falseTok) [] none) }

def exampleDocText : Bytes :=
  [0xEF, 0xBB, 0xBF, 32, 32, 35, 32, 104, 105, 13, 10,
   97, 46, 98, 32, 61, 32, 91, 116, 114, 117, 101, 44, 32, 102, 97, 108, 115, 101, 93, 32, 32, 35, 32, 99, 10,
   10,
   91, 116, 46, 34, 120, 32, 121, 34, 93, 10,
   107, 32, 61, 32, 116, 114, 117, 101, 10,
   9, 91, 91, 97, 114, 114, 93, 93, 32, 35, 32, 99, 13, 10,
   122, 32, 61, 32, 102, 97, 108, 115, 101]

theorem exampleDoc_render : exampleDoc.render = exampleDocText := by decide +kernel

theorem exampleDoc_wf : exampleDoc.WF := by
  have hA : KeySegOK (bare [] kA []) := T01_keyseg_bare _ _ _ AllWs.nil AllWs.nil (by decide) (by decide)
  have hB : KeySegOK (bare [] kB [0x20]) := T01_keyseg_bare _ _ _ AllWs.nil AllWs.sp (by decide) (by decide)
  have hT : KeySegOK (bare [] kT []) := T01_keyseg_bare _ _ _ AllWs.nil AllWs.nil (by decide) (by decide)
  have hK : KeySegOK (bare [] kK [0x20]) := T01_keyseg_bare _ _ _ AllWs.nil AllWs.sp (by decide) (by decide)
  have hZ : KeySegOK (bare [] kZ [0x20]) := T01_keyseg_bare _ _ _ AllWs.nil AllWs.sp (by decide) (by decide)
  have hR : KeySegOK (bare [] kArr []) := T01_keyseg_bare _ _ _ AllWs.nil AllWs.nil (by decide) (by decide)
  have hX : KeySegOK ⟨[], xyTok, xyName, []⟩ := T01_keyseg_written .basic _ _ _ _ AllWs.nil AllWs.nil xy_written
  have hc : CommentOK (some [0x20, 0x63]) := by
    intro body h; injection h with h; subst h; decide
  have hn : CommentOK none := by intro body h; cases h
  have hws2 : AllWs [0x20, 0x20] := AllWs.of_all _ (by decide)
  have hwt : AllWs [0x09] := AllWs.of_all _ (by decide)
  have hv : AstValue.WF (.arr [([], .scalar trueTok, []), ([.ws [0x20]], .scalar falseTok, [])] false []) := by
    simp [AstValue.WF, WFItems, WcnWF, Piece.WF, scalarOK_true, scalarOK_false, isWschar]
  refine ⟨?_, ?_⟩
  · intro p hp
    simp only [exampleDoc, List.mem_cons, List.not_mem_nil, or_false] at hp
    rcases hp with rfl | rfl | rfl | rfl | rfl | rfl
    · exact ⟨hws2, by decide⟩
    · exact ⟨⟨hA, by intro k hk; simp at hk; subst hk; exact hB, by decide⟩, AllWs.sp, hv, by decide, hws2, hc⟩
    · exact AllWs.nil
    · exact ⟨AllWs.nil, ⟨hT, by intro k hk; simp at hk; subst hk; exact hX, by decide⟩, AllWs.nil, hn⟩
    · exact ⟨⟨hK, List.forall_mem_nil _, by decide⟩, AllWs.sp, scalarOK_true, by decide, AllWs.nil, hn⟩
    · exact ⟨hwt, ⟨hR, List.forall_mem_nil _, by decide⟩, AllWs.sp, hc⟩
  · intro l hl
    simp only [exampleDoc] at hl
    injection hl with hl
    subst hl
    exact ⟨⟨hZ, List.forall_mem_nil _, by decide⟩, AllWs.sp, scalarOK_false, by decide, AllWs.nil, hn⟩

theorem exampleDoc_stmts : exampleDoc.stmts =
    [.kv [kA] kB (.arr [.bool true, .bool false]), .std [kT, xyName], .kv [] kK (.bool true), .arr [kArr],
     .kv [] kZ (.bool false)] := rfl

example : parseDocument exampleDocText =
    (run {} [.kv [kA] kB (.arr [.bool true, .bool false]), .std [kT, xyName], .kv [] kK (.bool true), .arr [kArr],
      .kv [] kZ (.bool false)]).bind intoDocument := by
  rw [← exampleDoc_render, T01_document_complete exampleDoc exampleDoc_wf, exampleDoc_stmts]

example : (parseDocument exampleDocText).isSome = true := by
  rw [← exampleDoc_render, T01_document_accepted_iff exampleDoc exampleDoc_wf, exampleDoc_stmts]
  decide +kernel

/-- non-vacuity of the per-line theorems: the second line of the example from the initial state -/
example : keyvalLine {} ([97, 46, 98, 32, 61, 32, 91, 116, 114, 117, 101, 44, 32, 102, 97, 108, 115, 101, 93, 32, 32, 35, 32, 99] ++
    ([0x0A] ++ [0x78])) = (onKeyval {} [kA] kB (.arr [.bool true, .bool false])).map fun st' => (st', [0x78]) := by
  have h := T01_keyval_line {} ⟨bare [] kA [], [bare [] kB [0x20]]⟩ [0x20]
    (.arr [([], .scalar trueTok, []), ([.ws [0x20]], .scalar falseTok, [])] false []) [0x20, 0x20] (some [0x20, 0x63])
    false [0x78] (exampleDoc_wf.1 _ (List.mem_cons_of_mem _ List.mem_cons_self))
  exact h

end TomlVerif.Props.C01Doc
