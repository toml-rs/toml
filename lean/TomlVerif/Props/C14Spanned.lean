import TomlVerif.Lemmas.DeSpanned14Ranges
import TomlVerif.Lemmas.DeLocated15Spans
import TomlVerif.Props.C14Doc
/-! C14, second sentence: "Spans delivered through serde (Spanned<T> fields, map keys and error locations) are the same
    ranges, wrapping a target type in Spanned never changes whether decoding succeeds or what value results".

    `decodeSp` (Model/DeSpanned.lean) decodes into the wrapper grammar `STy` (`Spanned` around values, struct fields, `Option` /
    newtype / `Vec` / map payloads, newtype-variant payloads and map keys); on `Spanned`-free types it is `decodeLoc`. It is
    tied to the three deserializer routes by the `c14s` stream (tools/props/c14sp.py).

    Here: the ranges are those of the tree, and one `Spanned` more changes nothing but the wrapper. The full congruence (wrappers at any depth) is `T14_spanned_transparent` in `Props/C14SpannedFull.lean`, under the
    condition `Ok t it` that spells out the exclusions, and with hypotheses on the type and on the tree separately
    `T14_spanned_transparent_uniform` in `Props/C14SpannedUniform.lean`. `T14_spanned_transparent_statement` below has
    hypotheses on the tree only; so stated it does not hold: the exceptions are types, not trees.
    Exceptions to transparency read off the code and confirmed on it (a third, about date-times read as maps, in
    `Props/C14SpannedFull.lean`):
      * a struct field of type `Spanned<Option<T>>` that is ABSENT is an error, `Option<T>` is `None` (serde's `missing_field`
        special-cases `Option` only) — the last two examples below, `ex_spanned_option` in `Props/C14SpannedFull.lean`;
      * a key type with `Spanned` inside `Spanned` fails: the value part of a spanned key is handed a span-less
        `KeyDeserializer` — `ex_spanned_spanned_key`. -/
namespace TomlVerif.Props.C14Spanned
open TomlVerif TomlVerif.Model TomlVerif.Model.DeTyped TomlVerif.Model.Cst TomlVerif.Model.DeLocated
open TomlVerif.Model.DeSpanned TomlVerif.Lemmas.DeLocated15 TomlVerif.Lemmas.DeSpanned14 TomlVerif.Lemmas.Cst03

/-- Every `spanned a b _` (and every spanned key) in a result carries the `item_span` of a node of the
tree decoded — the node's own span, or for a table without one the range its entries cover — or the span of a key of a node. -/
theorem T14_spanned_ranges (fl : TomlValue.Flavour) (t : STy) (it : SItem) (d : SDec) (h : decodeSp fl t it = .ok d) :
    ∀ s ∈ ranges d, Good it s :=
  ranges_ty fl t it d h

theorem sub_spans {it n : CItem} (h : Sub it n) : ∀ sp ∈ nodeSpans n, sp ∈ nodeSpans it := by
  induction h with
  | refl it => intro sp h; exact h
  | entry hc hm _ ih => intro sp h; exact entries_sub _ _ hc _ _ hm sp (Or.inr (ih sp h))
  | elem hc hm _ ih => intro sp h; exact childSpans_sub _ sp (elems_child _ _ hc _ hm sp (ih sp h))

/-- a range covered by recorded spans: it starts where one starts and ends where one ends -/
def Covered (l : List Span) (s : Span) : Prop := ∃ s1 ∈ l, ∃ s2 ∈ l, s.1 = s1.1 ∧ s.2 = s2.2

theorem Covered.mono {l l' : List Span} {s : Span} (h : Covered l s) (hl : ∀ x ∈ l, x ∈ l') : Covered l' s := by
  obtain ⟨s1, h1, s2, h2, e1, e2⟩ := h
  exact ⟨s1, hl _ h1, s2, hl _ h2, e1, e2⟩

theorem covered_cover {l : List Span} {a b : Option Span} {s : Span} (h : cover a b = some s)
    (ha : ∀ x, a = some x → Covered l x) (hb : ∀ x, b = some x → Covered l x) : Covered l s := by
  cases a with
  | none => simp only [cover] at h; exact hb s h
  | some x =>
    cases b with
    | none => simp only [cover, Option.some.injEq] at h; subst h; exact ha x rfl
    | some y =>
      simp only [cover, Option.some.injEq] at h
      subst h
      obtain ⟨a1, ha1, a2, ha2, e1, e2⟩ := ha x rfl
      obtain ⟨b1, hb1, b2, hb2, f1, f2⟩ := hb y rfl
      -- the cover starts where the earlier of the two starts and ends where the later ends
      rcases Nat.le_total x.1 y.1 with h1 | h1 <;> rcases Nat.le_total x.2 y.2 with h2 | h2
      · exact ⟨a1, ha1, b2, hb2, (Nat.min_eq_left h1).trans e1, (Nat.max_eq_right h2).trans f2⟩
      · exact ⟨a1, ha1, a2, ha2, (Nat.min_eq_left h1).trans e1, (Nat.max_eq_left h2).trans e2⟩
      · exact ⟨b1, hb1, b2, hb2, (Nat.min_eq_right h1).trans f1, (Nat.max_eq_right h2).trans f2⟩
      · exact ⟨b1, hb1, a2, ha2, (Nat.min_eq_right h1).trans f1, (Nat.max_eq_left h2).trans e2⟩

theorem covered_self {l : List Span} {s : Span} (h : s ∈ l) : Covered l s := ⟨s, h, s, h, rfl, rfl⟩

mutual
theorem ispanVal_covered : ∀ (v : CVal) (s : Span), ispanVal v = some s → Covered (valSpans v) s
  | .scalar x r d, s, h => by
    simp only [ispanVal] at h
    cases r with
    | empty => simp [Raw.span] at h
    | spanned a b => simp only [Raw.span, Option.some.injEq] at h; subst h; exact covered_self (by simp [valSpans, rawSp])
  | .arr items t c d sp, s, h => by
    simp only [ispanVal] at h; subst h; exact covered_self (by simp [valSpans, optSp])
  | .inl items p i dt d sp, s, h => by
    simp only [ispanVal] at h
    cases sp with
    | some x => simp only [Option.some.injEq] at h; subst h; exact covered_self (by simp [valSpans, optSp])
    | none =>
      simp only [] at h
      exact (ispanKvs_covered items s h).mono (by intro x hx; simp [valSpans, hx])
theorem ispanKvs_covered : ∀ (l : List (CKey × CVal)) (s : Span), ispanKvs l = some s → Covered (kvsSpans l) s
  | [], s, h => by simp [ispanKvs] at h
  | (k, v) :: r, s, h => by
    simp only [ispanKvs] at h
    refine covered_cover h (fun x hx => covered_cover hx (fun y hy => ?_) (fun y hy => ?_)) (fun x hx => ?_)
    · exact covered_self (by simp [kvsSpans, keySpan_mem k y hy])
    · exact (ispanVal_covered v y hy).mono (by intro z hz; simp [kvsSpans, hz])
    · exact (ispanKvs_covered r x hx).mono (by intro z hz; simp [kvsSpans, hz])
end

mutual
theorem itemSpan_covered : ∀ (it : CItem) (s : Span), itemSpan it = some s → Covered (nodeSpans it) s
  | .value v, s, h => by simp only [itemSpan] at h; exact ispanVal_covered v s h
  | .table t, s, h => by simp only [itemSpan] at h; exact ispanTbl_covered t s h
  | .aot ts sp, s, h => by simp only [itemSpan] at h; subst h; exact covered_self (by simp [nodeSpans, optSp])
theorem ispanTbl_covered : ∀ (t : CTbl) (s : Span), ispanTbl t = some s → Covered (tblSpans t) s
  | .mk items i d p dc sp, s, h => by
    simp only [ispanTbl] at h
    cases sp with
    | some x => simp only [Option.some.injEq] at h; subst h; exact covered_self (by simp [tblSpans, optSp])
    | none =>
      simp only [] at h
      exact (ispanItems_covered items s h).mono (by intro x hx; simp [tblSpans, hx])
theorem ispanItems_covered : ∀ (l : List (CKey × CItem)) (s : Span), ispanItems l = some s → Covered (itemsSpans l) s
  | [], s, h => by simp [ispanItems] at h
  | (k, v) :: r, s, h => by
    simp only [ispanItems] at h
    rw [itemsSpans_cons]
    refine covered_cover h (fun x hx => covered_cover hx (fun y hy => ?_) (fun y hy => ?_)) (fun x hx => ?_)
    · exact covered_self (by simp [keySpan_mem k y hy])
    · exact (itemSpan_covered v y hy).mono (by intro z hz; simp [hz])
    · exact (ispanItems_covered r x hx).mono (by intro z hz; simp [hz])
end

theorem itemSpan_own (it : CItem) (s : Span) (h : it.span = some s) : itemSpan it = some s := by
  cases it with
  | value v => cases v <;> simp_all [itemSpan, ispanVal, CItem.span, CVal.span]
  | table t => cases t; simp_all [itemSpan, ispanTbl, CItem.span, CTbl.span]
  | aot ts sp => simp_all [itemSpan, CItem.span]

/-- Every range in a result starts at the start of a span recorded in the tree and ends at the
end of one (`nodeSpans it`, the collection `T14_bounds` speaks about). -/
theorem T14_spanned_ranges_recorded (fl : TomlValue.Flavour) (t : STy) (it : SItem) (d : SDec) (h : decodeSp fl t it = .ok d) :
    ∀ s ∈ ranges d, Covered (nodeSpans it) s := by
  intro s hs
  obtain ⟨n, hn, hg⟩ := T14_spanned_ranges fl t it d h s hs
  rcases hg with hg | ⟨es, k, v, hc, hm, hk⟩
  · exact (itemSpan_covered n s hg).mono (sub_spans hn)
  · exact covered_self (sub_spans hn s (entries_sub n es hc k v hm s (Or.inl (keySpan_mem k s hk))))

/-- with `T14_bounds`: on a parsed document both ends of every range delivered are offsets of the text -/
theorem T14_spanned_ranges_in_text (fl : TomlValue.Flavour) (t : STy) (text : Bytes) (doc : CDoc) (d : SDec)
    (hp : parseCst text = some doc) (h : decodeSp fl t (.table doc.root) = .ok d) :
    ∀ s ∈ ranges d, s.1 ≤ text.length ∧ s.2 ≤ text.length := by
  intro s hs
  obtain ⟨s1, h1, s2, h2, e1, e2⟩ := T14_spanned_ranges_recorded fl t _ d h s hs
  have b1 := Props.C14.T14_bounds text doc hp s1 (List.mem_append_left _ h1)
  have b2 := Props.C14.T14_bounds text doc hp s2 (List.mem_append_left _ h2)
  omega

theorem good_spanless {it : CItem} (h0 : nodeSpans it = []) (s : Span) (h : Good it s) : False := by
  obtain ⟨n, hn, hg⟩ := h
  have hsub := sub_spans hn
  rcases hg with hg | ⟨es, k, v, hc, hm, hk⟩
  · obtain ⟨s1, h1, _⟩ := itemSpan_covered n s hg
    have := hsub s1 h1
    rw [h0] at this; cases this
  · have := hsub s (entries_sub n es hc k v hm s (Or.inl (keySpan_mem k s hk)))
    rw [h0] at this; cases this

/-- Decoding the despanned tree (what a `Deserializer` made from a `DocumentMut` holds) never delivers
a range, and the target `Spanned<T>` itself fails there with an unlocated error — ranges disappear, they do not go stale. -/
theorem T14_spanned_despanned (fl : TomlValue.Flavour) (t : STy) (it : SItem) :
    (∀ d, decodeSp fl t (despanItem it) = .ok d → ranges d = []) ∧
    decodeSp fl (.spanned t) (despanItem it) = .error ⟨none, []⟩ := by
  have h0 := despanItem_spans it
  constructor
  · intro d h
    cases hr : ranges d with
    | nil => rfl
    | cons s r =>
      exact (good_spanless h0 s (T14_spanned_ranges fl t _ d h s (by rw [hr]; exact List.mem_cons_self ..))).elim
  · have hi : itemSpan (despanItem it) = none := by
      cases hx : itemSpan (despanItem it) with
      | none => rfl
      | some s =>
        obtain ⟨s1, h1, _⟩ := itemSpan_covered _ s hx
        rw [h0] at h1; cases h1
    have hs : (despanItem it).span = none := by
      cases hx : (despanItem it).span with
      | none => rfl
      | some s => rw [itemSpan_own _ s hx] at hi; cases hi
    unfold decodeSp
    rw [hi, hs]
    rfl

/-- transparency with hypotheses on the tree only (every node has an `item_span`, every key a span): decoding into the
wrapper type is decoding into the stripped type, same verdict, same error, the stripped value. In this form it does not
hold of every wrapper type (`ex_spanned_option`, `ex_double_spanned_key` in `Props/C14SpannedFull.lean` meet the
hypotheses). With the conditions on the type it is `T14_spanned_transparent` (`Ok t it`) and
`T14_spanned_transparent_uniform` (`TyOk t`, and `DtSafe t` or a tree without date-times). -/
def T14_spanned_transparent_statement : Prop :=
  ∀ (fl : TomlValue.Flavour) (t : STy) (it : SItem),
    (∀ n, Sub it n → (itemSpan n).isSome = true ∧
      ∀ es k v, citemEntries n = some es → (k, v) ∈ es → (keySpan k).isSome = true) →
    (∀ d, decodeSp fl t it = .ok d → decodeLoc fl (strip t) it = .ok (stripDec d)) ∧
    (∀ e, decodeSp fl t it = .error e → decodeLoc fl (strip t) it = .error e)

/-- Wrapping any target type in one more `Spanned`, at any node that has an `item_span`:
an error stays the same error, a value stays the same value inside `spanned a b`; `strip` and `stripDec` do not see the wrapper. -/
theorem T14_spanned_transparent_partial (fl : TomlValue.Flavour) (t : STy) (it : SItem) (a b : Nat)
    (hs : itemSpan it = some (a, b)) :
    (∀ e, decodeSp fl (.spanned t) it = .error e ↔ decodeSp fl t it = .error e) ∧
    (∀ d, decodeSp fl t it = .ok d → decodeSp fl (.spanned t) it = .ok (.spanned a b d)) ∧
    (∀ d', decodeSp fl (.spanned t) it = .ok d' → ∃ d, decodeSp fl t it = .ok d ∧ d' = .spanned a b d ∧ stripDec d' = stripDec d) ∧
    strip (.spanned t) = strip t := by
  have hu : decodeSp fl (.spanned t) it = lmap (.spanned a b) (decodeSp fl t it) := by
    conv => lhs; unfold decodeSp
    rw [hs]
  refine ⟨fun e => ?_, fun d h => ?_, fun d' h => ?_, by simp [strip]⟩
  · rw [hu]; cases decodeSp fl t it <;> simp [lmap]
  · rw [hu, h]; rfl
  · rw [hu] at h
    obtain ⟨d, hd, rfl⟩ := lmap_ok _ _ _ h
    exact ⟨d, hd, rfl, by simp [stripDec]⟩

/-- on `Spanned`-free types `decodeSp` is `decodeLoc` -/
theorem T14_spanned_plain (fl : TomlValue.Flavour) (t : Ty) (it : SItem) :
    decodeSp fl (.plain t) it = lmap .plain (decodeLoc fl t it) ∧ strip (.plain t) = t := by
  constructor
  · conv => lhs; unfold decodeSp
  · simp [strip]

/-- Finding F35: with a key span, a `Spanned<Newtype(String)>` key and a `Newtype(String)` key
both decode, to the same key; so does `Newtype(Spanned<String>)`, with the same range. -/
theorem T14_spanned_key_newtype (k : Bytes) (a b : Nat) :
    decodeKey (.spanned (.newtype .string)) k (some (a, b)) = .ok (.spanned a b (.newtype (.str k))) ∧
    decodeKey (.newtype .string) k (some (a, b)) = .ok (.newtype (.str k)) ∧
    decodeKey (.newtype (.spanned .string)) k (some (a, b)) = .ok (.newtype (.spanned a b (.str k))) ∧
    stripKey (.spanned a b (.newtype (.str k))) = stripKey (.newtype (.str k)) := by
  simp [decodeKey, lmap, stripKey]

/-- `Spanned<Spanned<String>>` as a key type fails although the key has a span (real code:
`sp S K(P(P(s)),i32) 61203d20310a` → `err span=0..1 keys=-`) -/
theorem ex_spanned_spanned_key (k : Bytes) (a b : Nat) :
    decodeKey (.spanned (.spanned .string)) k (some (a, b)) = vfail := by
  simp [decodeKey, lmap, vfail]

def rangesOf (x : LR SDec) : Option (List Span) := match x with | .ok d => some (ranges d) | .error _ => none
def i32 : Ty := .int (-2147483648) 2147483647
/-- `a.b = 1` -/
def exDotted : Bytes := [0x61, 0x2e, 0x62, 0x20, 0x3d, 0x20, 0x31, 0x0a]

/-- `a.b = 1` into `struct { a: Spanned<struct { b: Spanned<i32> }> }`: the dotted table `a` has no span of its own and gets the
range its entry covers, 2..7 (key `b` 2..3, value 6..7); the value 6..7 (real code: `sp S S(61:P(S(62:P(i32)))) 612e62203d20310a`) -/
example : (parseCst exDotted).map (fun d => rangesOf (decodeSp .sorted
      (.struct (.cons [0x61] (.spanned (.struct (.cons [0x62] (.spanned (.plain i32)) false .nil))) false .nil)) (.table d.root))) =
    some (some [(2, 7), (6, 7)]) := by decide +kernel
/-- the same from the despanned tree: an error -/
example : (parseCst exDotted).map (fun d => rangesOf (decodeSp .sorted
      (.struct (.cons [0x61] (.spanned (.struct (.cons [0x62] (.spanned (.plain i32)) false .nil))) false .nil))
      (despanItem (.table d.root)))) = some none := by decide +kernel
/-- map keys: a map with `Spanned<Newtype(String)>` keys of maps with `Newtype(Spanned<String>)` keys and `Spanned<i32>`
values: the key `a` 0..1, the key `b` 2..3, the value 6..7 -/
example : (parseCst exDotted).map (fun d => rangesOf (decodeSp .sorted
      (.map (.spanned (.newtype .string)) (.map (.newtype (.spanned .string)) (.spanned (.plain i32)))) (.table d.root))) =
    some (some [(0, 1), (2, 3), (6, 7)]) := by decide +kernel
/-- the empty document into `struct { a: Spanned<Option<i32>> }` fails, into `struct { a: Option<Spanned<i32>> }` (next
example) succeeds (real code: `sp S S(61:P(O(i32))) -` → err) -/
example : (parseCst []).map (fun d => rangesOf (decodeSp .sorted
      (.struct (.cons [0x61] (.spanned (.option (.plain i32))) false .nil)) (.table d.root))) = some none := by decide +kernel
example : (parseCst []).map (fun d => rangesOf (decodeSp .sorted
      (.struct (.cons [0x61] (.option (.spanned (.plain i32))) false .nil)) (.table d.root))) = some (some []) := by decide +kernel

end TomlVerif.Props.C14Spanned
