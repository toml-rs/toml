import TomlVerif.Props.C03MoreSum
import TomlVerif.Props.C03MoreVS
import TomlVerif.Props.C03MoreSem
import TomlVerif.Props.C03MoreNad
import TomlVerif.Props.C03MoreTko
import TomlVerif.Props.C03MoreGen
import TomlVerif.Props.C03MoreGen2
import TomlVerif.Props.C03MoreGen3
import TomlVerif.Lemmas.Tiling03MoreOrdEx
import TomlVerif.Lemmas.Tiling03MoreSemEx
import TomlVerif.Lemmas.Tiling03MoreNadEx
import TomlVerif.Lemmas.Tiling03MoreGenEx
/-! C03 — index of `Props/C03More*.lean`: import this one module for the classes of C03 and their
    theorems.  It also imports the test vectors `Lemmas/Tiling03More{Ord,Sem,Nad,Gen}Ex`, which reach
    the library only through it. -/
