import TomlVerif.Props.C13TypedParsed
/-! # C18 — `toml::from_str::<toml::Value>` under both map builds, for every accepted text

`Model/DeText.lean` `decodeValue fl text` is the model of `toml::from_str::<toml::Value>` with the map
behind `toml::Table` chosen by `fl` (`.sorted` = `BTreeMap`, default; `.insertion` = `IndexMap`,
`preserve_order`); the C13 correspondence ties it to the crates in both builds. The property says
the feature changes ordering only. For every text the parser accepts (no table holding the private
date-time key, finding F24) both builds succeed and return the placement of the SAME decoded data into their map
(`T18_decode_parsed`): the `preserve_order` build the data in document order, the default build its key-sorted
placement, and nothing but order distinguishes them (`T18_decode_perm`). The same for the target `toml::Table`
(`Map`'s own `Deserialize`). -/
namespace TomlVerif.Props.C18Decode
open TomlVerif TomlVerif.Model TomlVerif.Model.TomlValue TomlVerif.Model.DeRoutes
open TomlVerif.Lemmas.DeTyped13 TomlVerif.Lemmas.RoundTrip17 TomlVerif.Lemmas.TypedGapsParsed
open TomlVerif.Props.C13Typed TomlVerif.Props.C13TypedParsed

/-- the data of an accepted document is well-formed in the sense of C13 -/
theorem parsed_wfTV (s : Bytes) (T : Tbl) (hp : Doc.parseDocument s = some T) (hk : NoPrivateKey (.table T)) :
    WfTV (plainTbl T) := by
  have h := T13_parsed_wfItem s T hp hk
  unfold WfItem at h
  rwa [plainItem] at h

/-- both builds accept and return the placement of the same data into their map -/
theorem T18_decode_parsed (fl : Flavour) (s : Bytes) (T : Tbl) (hp : Doc.parseDocument s = some T)
    (hk : NoPrivateKey (.table T)) :
    DeText.decodeValue fl s = some (placeTV fl (plainTbl T)) := by
  unfold DeText.decodeValue
  rw [hp]
  simp only []
  rw [presOfTbl_eq]
  exact visit_presEdit_wf fl false _ (parsed_wfTV s T hp hk)

theorem T18_decode_rejected (fl : Flavour) (s : Bytes) (hp : Doc.parseDocument s = none) :
    DeText.decodeValue fl s = none := by
  unfold DeText.decodeValue
  rw [hp]

theorem T18_decode_same_verdict (s : Bytes) (hk : ∀ T, Doc.parseDocument s = some T → NoPrivateKey (.table T)) :
    (DeText.decodeValue .sorted s).isSome = (DeText.decodeValue .insertion s).isSome := by
  cases hp : Doc.parseDocument s with
  | none => rw [T18_decode_rejected _ s hp, T18_decode_rejected _ s hp]
  | some T => rw [T18_decode_parsed _ s T hp (hk T hp), T18_decode_parsed _ s T hp (hk T hp)]; rfl

/-- `preserve_order`: the document's data in document order -/
theorem T18_decode_insertion (s : Bytes) (T : Tbl) (hp : Doc.parseDocument s = some T)
    (hk : NoPrivateKey (.table T)) :
    DeText.decodeValue .insertion s = some (plainTbl T) := by
  rw [T18_decode_parsed .insertion s T hp hk, place_insertion_id _ (wf_nodup _ (parsed_wfTV s T hp hk))]

/-- the default build's value is the key-sorted placement of the `preserve_order` build's value -/
theorem T18_decode_sorted_of_insertion (s : Bytes) (T : Tbl) (hp : Doc.parseDocument s = some T)
    (hk : NoPrivateKey (.table T)) :
    DeText.decodeValue .sorted s = (DeText.decodeValue .insertion s).map (placeTV .sorted) := by
  rw [T18_decode_insertion s T hp hk, T18_decode_parsed .sorted s T hp hk]; rfl

/-- the two results differ by order only: equal up to permuting table entries at every depth, the
    default one key-sorted at every depth -/
theorem T18_decode_perm (s : Bytes) (T : Tbl) (v w : TV) (hp : Doc.parseDocument s = some T)
    (hk : NoPrivateKey (.table T)) (hv : DeText.decodeValue .sorted s = some v)
    (hw : DeText.decodeValue .insertion s = some w) : PermTV v w ∧ SortedTV v ∧ v = placeTV .sorted w := by
  have hn := wf_nodup _ (parsed_wfTV s T hp hk)
  rw [T18_decode_parsed .sorted s T hp hk] at hv
  rw [T18_decode_insertion s T hp hk] at hw
  injection hv with hv
  injection hw with hw
  subst hv hw
  exact ⟨perm_placeTV _ hn, place_is_sorted _ hn, rfl⟩

/-- `toml::Table` as the target: both builds accept, and return the entries of the value `toml::Value` gets -/
theorem T18_decodeTable_parsed (fl : Flavour) (s : Bytes) (T : Tbl) (hp : Doc.parseDocument s = some T)
    (hk : NoPrivateKey (.table T)) :
    (DeText.decodeTable fl s).map TV.tbl = DeText.decodeValue fl s := by
  rw [T18_decode_parsed fl s T hp hk]
  unfold DeText.decodeTable
  rw [hp]
  simp only []
  rw [presOfTbl_eq]
  obtain ⟨items, a, b, c⟩ := T
  have hw := parsed_wfTV s _ hp hk
  rw [plainTbl] at hw ⊢
  rw [WfTV] at hw
  rw [presEdit, visitTable, visitPairs_presEdit_wf fl false _ hw.1, placeTV]
  rfl

theorem T18_decodeTable_same_verdict (s : Bytes)
    (hk : ∀ T, Doc.parseDocument s = some T → NoPrivateKey (.table T)) :
    (DeText.decodeTable .sorted s).isSome = (DeText.decodeTable .insertion s).isSome := by
  cases hp : Doc.parseDocument s with
  | none => unfold DeText.decodeTable; rw [hp]
  | some T =>
    have h1 := T18_decodeTable_parsed .sorted s T hp (hk T hp)
    have h2 := T18_decodeTable_parsed .insertion s T hp (hk T hp)
    rw [T18_decode_parsed _ s T hp (hk T hp)] at h1 h2
    -- both are `some`: their images under `TV.tbl` are
    rw [← Option.isSome_map (f := TV.tbl), h1, ← Option.isSome_map (f := TV.tbl), h2]
    rfl

def rootKeys : TV → List Bytes
  | .tbl items => items.map Prod.fst
  | _ => []

/-- non-vacuity: the text of `Props/C13TypedParsed.lean` (`b` before `a`, an inline table, an array of tables, a
    date) is accepted and has no private key, and the two builds really return different values for it -/
example : ∃ T, Doc.parseDocument C13TypedParsed.exText = some T ∧ NoPrivateKey (.table T) ∧
    DeText.decodeValue .sorted C13TypedParsed.exText ≠ DeText.decodeValue .insertion C13TypedParsed.exText := by
  cases h : Doc.parseDocument C13TypedParsed.exText with
  | none => have := C13TypedParsed.exText_accepted; rw [h] at this; cases this
  | some T =>
    have e : (Doc.parseDocument C13TypedParsed.exText).getD Tbl.empty = T := by rw [h]; rfl
    rw [C13TypedParsed.exText, strBytes_eq rfl] at e
    have hk : NoPrivateKey (.table T) := by rw [noPrivateKey_iff, ← e]; decide +kernel
    refine ⟨T, rfl, hk, ?_⟩
    rw [T18_decode_parsed .sorted _ T h hk, T18_decode_insertion _ T h hk, ← e]
    intro heq
    have hkeys := congrArg (Option.map rootKeys) heq
    revert hkeys
    decide +kernel

end TomlVerif.Props.C18Decode
