import TomlVerif.Lemmas.ErrorPos15
/-! C15 — every rejection is a well-formed, correctly located error. `lineStartSpec` / `specLine` / `specColumn` are the
    specification of a position, written without reference to the code; `translatePosition_eq` is the bridge to
    `translate_position`, and `T15_position_spec` the statement. -/
namespace TomlVerif.Props.C15
open TomlVerif TomlVerif.Spec TomlVerif.Model.ErrorPos TomlVerif.Lemmas.ErrorPos15

theorem T15_empty (i : Nat) : translatePosition [] i = (0, i) := rfl

/-- at end of input winnow reports an empty span at the end -/
theorem T15_charspan_eof (s : Bytes) : charSpan s s.length = (s.length, s.length) := by
  simp [charSpan]

theorem T15_charspan_bounds (s : Bytes) (o : Nat) (ho : o ≤ s.length) :
    (charSpan s o).1 ≤ (charSpan s o).2 ∧ (charSpan s o).2 ≤ s.length ∧ (charSpan s o).1 ≤ o ∧
      (o < s.length → o < (charSpan s o).2) := by
  by_cases hlt : o < s.length
  · have h1 := charSpan_start_facts s o hlt
    have h2 := charSpan_end_facts s o hlt
    omega
  · have : o = s.length := by omega
    subst this
    rw [T15_charspan_eof]
    simp

/-- holds for every byte string (validity is not needed with `Utf8.isBoundary` as defined) -/
theorem T15_charspan_boundary_any (s : Bytes) (o : Nat) (ho : o ≤ s.length) :
    Utf8.isBoundary s (charSpan s o).1 = true ∧ Utf8.isBoundary s (charSpan s o).2 = true := by
  by_cases hlt : o < s.length
  · exact ⟨(charSpan_start_facts s o hlt).2, (charSpan_end_facts s o hlt).2.2⟩
  · have : o = s.length := by omega
    subst this
    rw [T15_charspan_eof]
    exact ⟨isBoundary_length s, isBoundary_length s⟩

theorem T15_charspan_boundary (s : Bytes) (o : Nat) (_hv : Utf8.valid s = true) (ho : o ≤ s.length) :
    Utf8.isBoundary s (charSpan s o).1 = true ∧ Utf8.isBoundary s (charSpan s o).2 = true :=
  T15_charspan_boundary_any s o ho

/-- what a boundary means on valid UTF-8: it cuts the text into two valid texts -/
theorem T15_boundary_splits (s : Bytes) (a : Nat) (hv : Utf8.valid s = true) (ha : a ≤ s.length)
    (hb : Utf8.isBoundary s a = true) :
    Utf8.valid (s.take a) = true ∧ Utf8.valid (s.drop a) = true :=
  ⟨valid_take s a hv ha hb, valid_drop s a hv ha hb⟩

/-- the slice between two boundaries of a valid text is valid -/
theorem T15_slice_valid (s : Bytes) (a b : Nat) (hv : Utf8.valid s = true)
    (ha : Utf8.isBoundary s a = true) (hb : Utf8.isBoundary s b = true) (hab : a ≤ b) (hbl : b ≤ s.length) :
    Utf8.valid ((s.take b).drop a) = true := by
  have ht := valid_take s b hv hbl hb
  have hlen : (s.take b).length = b := by simp [List.length_take]; omega
  apply valid_drop _ a ht (by omega)
  by_cases hab' : a = b
  · subst hab'
    have := isBoundary_length (s.take a)
    rwa [hlen] at this
  · rcases isBoundary_cases _ _ ha with h | h | ⟨x, hg, hnc⟩
    · subst h; exact isBoundary_zero _
    · omega
    · apply isBoundary_of_get _ a x _ hnc
      rw [List.getElem?_take_of_lt (by omega)]
      exact hg

/-- on valid UTF-8 the reported span is a valid piece of text -/
theorem T15_charspan_slice_valid (s : Bytes) (o : Nat) (hv : Utf8.valid s = true) (ho : o ≤ s.length) :
    Utf8.valid ((s.take (charSpan s o).2).drop (charSpan s o).1) = true := by
  have hb := T15_charspan_bounds s o ho
  have hc := T15_charspan_boundary_any s o ho
  exact T15_slice_valid s _ _ hv hc.1 hc.2 hb.1 hb.2.1

/-- index just after the last LF strictly before position `min i (|s| - 1)` (0 if none). The search starts at the last
    byte at most: at the end of a text that ends in LF the position is on the last line and that LF counts as a column
    (`"a\n"` at 2 is line 0, column 2). -/
def lineStartSpec (s : Bytes) (i : Nat) : Nat := lastLfEnd s (min i (s.length - 1))

/-- number of LF bytes before `lineStartSpec s i` -/
def specLine (s : Bytes) (i : Nat) : Nat := ((s.take (lineStartSpec s i)).filter (· == 0x0A)).length

/-- number of characters (non-continuation bytes) between the line start and `i` -/
def specColumn (s : Bytes) (i : Nat) : Nat :=
  (((s.take (min i s.length)).drop (lineStartSpec s i)).filter (fun b => !Utf8.isCont b)).length +
    (i - min i s.length)

theorem lineStartSpec_char (s : Bytes) (i : Nat) :
    lineStartSpec s i ≤ min i (s.length - 1) ∧
    (lineStartSpec s i = 0 ∨ ∃ j, lineStartSpec s i = j + 1 ∧ s[j]? = some 0x0A) ∧
    (∀ j, lineStartSpec s i ≤ j → j < min i (s.length - 1) → s[j]? ≠ some 0x0A) :=
  ⟨lastLfEnd_le s _, lastLfEnd_after_lf s _, lastLfEnd_no_lf s _⟩

theorem lineStartSpec_boundary (s : Bytes) (i : Nat) (hv : Utf8.valid s = true) :
    Utf8.isBoundary s (lineStartSpec s i) = true := lastLfEnd_boundary s hv _

/-- `translate_position` at a position `i ≤ |s|` of a non-empty text, without any assumption on the bytes: the line of
    `lineStartSpec`, and the characters of the slice from there to the anchor if that slice is valid UTF-8 (its
    length otherwise) -/
theorem translatePosition_eq (s : Bytes) (i : Nat) (hne : s ≠ []) (hi : i ≤ s.length) :
    translatePosition s i = (specLine s i,
      (if Utf8.valid ((s.take i).drop (lineStartSpec s i)) then charCount ((s.take i).drop (lineStartSpec s i))
       else i - lineStartSpec s i)) := by
  have hlen : 0 < s.length := List.length_pos_iff.mpr hne
  have hemp : s.isEmpty = false := by cases s with | nil => exact absurd rfl hne | cons _ _ => rfl
  unfold translatePosition
  simp only [hemp, Bool.false_eq_true, if_false]
  have hsafe : min i (s.length - 1) ≤ s.length := by omega
  rw [lineStartOf_take s _ hsafe]
  have he : min (min i (s.length - 1) + (i - min i (s.length - 1))) s.length = i := by omega
  have hso : min i (s.length - 1) + (i - min i (s.length - 1)) = i := by omega
  rw [he, hso, Nat.sub_self, Nat.add_zero]
  rfl

theorem T15_position_spec (s : Bytes) (i : Nat) (hne : s ≠ []) (hv : Utf8.valid s = true)
    (hi : i ≤ s.length) (hb : Utf8.isBoundary s i = true) :
    translatePosition s i = (specLine s i, specColumn s i) := by
  have hls : lineStartSpec s i ≤ i := Nat.le_trans (lineStartSpec_char s i).1 (Nat.min_le_left _ _)
  rw [translatePosition_eq s i hne hi, T15_slice_valid s _ i hv (lineStartSpec_boundary s i hv) hb hls hi]
  unfold specColumn charCount
  rw [Nat.min_eq_left hi, Nat.sub_self, Nat.add_zero, if_pos rfl]
  rfl


theorem translatePosition_line_le (s : Bytes) (i : Nat) :
    (translatePosition s i).1 ≤ (s.filter (· == 0x0A)).length := by
  unfold translatePosition
  split
  · exact Nat.zero_le _
  · exact List.Sublist.length_le ((List.take_sublist _ s).filter _)

/-- the only way `Display for TomlError` can panic is an inverted span -/
theorem T15_render_isSome_iff (s : Bytes) (a b : Nat) : (displayIndices s a b).isSome = true ↔ a ≤ b := by
  have hl := translatePosition_line_le s a
  unfold displayIndices
  have h1 : ¬ (translatePosition s a).1 ≥ (s.filter (· == 0x0A)).length + 1 := by omega
  simp only [h1, if_false]
  by_cases hab : b < a
  · simp only [hab, if_true]; simp; omega
  · simp only [hab, if_false]; simp; omega

theorem T15_render_total (s : Bytes) (o : Nat) (ho : o ≤ s.length) :
    (displayIndices s (charSpan s o).1 (charSpan s o).2).isSome = true :=
  (T15_render_isSome_iff s _ _).mpr (T15_charspan_bounds s o ho).1

theorem T15_column_counts_chars (s : Bytes) (i : Nat) (hne : s ≠ []) (hv : Utf8.valid s = true)
    (hi : i ≤ s.length) (hb : Utf8.isBoundary s i = true) :
    (translatePosition s i).2 ≤ i - lineStartSpec s i ∧
    ((translatePosition s i).2 = i - lineStartSpec s i ↔
      ∀ b ∈ (s.take i).drop (lineStartSpec s i), b < 0x80) := by
  rw [T15_position_spec s i hne hv hi hb]
  have hmi : min i s.length = i := by omega
  have hls : lineStartSpec s i ≤ i := by
    have := (lineStartSpec_char s i).1; omega
  have hcol : specColumn s i = charCount ((s.take i).drop (lineStartSpec s i)) := by
    unfold specColumn charCount
    rw [hmi, Nat.sub_self, Nat.add_zero]
    rfl
  have hlen : ((s.take i).drop (lineStartSpec s i)).length = i - lineStartSpec s i := by
    simp [List.length_drop, List.length_take, hmi]
  have hslice := T15_slice_valid s _ i hv (lineStartSpec_boundary s i hv) hb hls hi
  simp only [hcol]
  rw [← hlen]
  refine ⟨charCount_le_length _, ?_⟩
  rw [charCount_eq_length_iff]
  constructor
  · intro h; exact valid_no_cont_ascii _ hslice h
  · intro h b hb; exact ascii_not_cont b (h b hb)


/-- the span is tight: there is no character boundary strictly inside it, so together with
    `T15_charspan_bounds`/`T15_charspan_boundary_any` the span is exactly the character
    (maximal boundary-free block) containing byte `o` -/
theorem T15_charspan_tight (s : Bytes) (o : Nat) (ho : o < s.length) (j : Nat)
    (h1 : (charSpan s o).1 < j) (h2 : j < (charSpan s o).2) : Utf8.isBoundary s j = false := by
  have hb := (charSpan_end_facts s o ho).2.1
  rw [charSpan_of_lt s o ho] at h1 h2 hb
  rw [isBoundary_inner s j (by omega) (by omega)]
  by_cases hjo : j ≤ o
  · cases hf : (List.range (o + 1)).reverse.find? (startAt s) with
    | none => exact (find_rev_range (startAt s) (o + 1)).1 hf j (by omega)
    | some i =>
      rw [hf] at h1
      simp only [Option.getD_some] at h1
      exact (find_rev_range (startAt s) (o + 1)).2 i hf j h1 (by omega)
  · cases hf : (List.range' (o + 1) (s.length - (o + 1))).find? (startAt s) with
    | none => exact (find_range' (startAt s) _ _).1 hf j (by omega) (by omega)
    | some i =>
      rw [hf] at h2
      simp only [Option.getD_some] at h2
      exact (find_range' (startAt s) _ _).2 i hf j (by omega) h2

/-- `Utf8.valid` / `charCount` against the encoder: a concatenation of encoded scalar values is
    valid and its `charCount` is the number of scalar values -/
theorem T15_charCount_scalars (cps : List Nat) (hs : ∀ cp ∈ cps, Utf8.isScalar cp = true) :
    Utf8.valid (cps.flatMap Utf8.encode) = true ∧ charCount (cps.flatMap Utf8.encode) = cps.length := by
  induction cps with
  | nil => exact ⟨rfl, rfl⟩
  | cons cp rest ih =>
    have h1 := encode_valid_count cp (hs cp (by simp))
    have h2 := ih (fun c hc => hs c (List.mem_cons_of_mem _ hc))
    simp only [List.flatMap_cons, List.length_cons]
    refine ⟨?_, ?_⟩
    · rw [valid_append _ _ h1.1]; exact h2.1
    · rw [charCount_append, h1.2, h2.2]; omega

/-- the reported column is the number of Unicode scalar values between the line start and position `i`
    (no validity assumption on the rest of the text) -/
theorem T15_column_is_scalar_count (s : Bytes) (i : Nat) (cps : List Nat) (hne : s ≠ [])
    (hi : i ≤ s.length) (hs : ∀ cp ∈ cps, Utf8.isScalar cp = true)
    (hline : (s.take i).drop (lineStartSpec s i) = cps.flatMap Utf8.encode) :
    translatePosition s i = (specLine s i, cps.length) := by
  have := T15_charCount_scalars cps hs
  rw [translatePosition_eq s i hne hi, hline, this.1, this.2]
  rfl

theorem T15_charspan_bounds' : ∀ (s : Bytes) (o : Nat), o ≤ s.length →
    let (a, b) := charSpan s o
    a ≤ b ∧ b ≤ s.length ∧ a ≤ o ∧ (o < s.length → o < b) := by
  intro s o ho
  have := T15_charspan_bounds s o ho
  generalize charSpan s o = p at *
  obtain ⟨a, b⟩ := p
  exact this

theorem T15_charspan_boundary' : ∀ (s : Bytes) (o : Nat), Utf8.valid s = true → o ≤ s.length →
    let (a, b) := charSpan s o
    Utf8.isBoundary s a = true ∧ Utf8.isBoundary s b = true := by
  intro s o hv ho
  have := T15_charspan_boundary s o hv ho
  generalize charSpan s o = p at *
  obtain ⟨a, b⟩ := p
  exact this

theorem T15_render_total' : ∀ (s : Bytes) (o : Nat), o ≤ s.length →
    let (a, b) := charSpan s o
    (displayIndices s a b).isSome = true := by
  intro s o ho
  have := T15_render_total s o ho
  generalize charSpan s o = p at *
  obtain ⟨a, b⟩ := p
  exact this

/-- bytes of `"é"é` (quote, é, quote, é) -/
def ex1 : Bytes := [0x22, 0xC3, 0xA9, 0x22, 0xC3, 0xA9]
/-- bytes of `a = 1⏎bé = "日本"⏎€` -/
def ex2 : Bytes := [97, 32, 61, 32, 49, 10, 98, 195, 169, 32, 61, 32, 34, 230, 151, 165, 230, 156, 172, 34, 10,
  226, 130, 172]
/-- not UTF-8: two stray continuation bytes, `A`, a truncated 2-byte lead -/
def ex3 : Bytes := [0x80, 0x80, 0x41, 0xC3]

-- hypotheses of T15_position_spec / T15_column_counts_chars are met by multi-byte inputs
example : ex1 ≠ [] ∧ Utf8.valid ex1 = true ∧ 4 ≤ ex1.length ∧ Utf8.isBoundary ex1 4 = true := by decide
example : translatePosition ex1 4 = (0, 3) := by decide
example : (specLine ex1 4, specColumn ex1 4) = (0, 3) := by decide
example : ex2 ≠ [] ∧ Utf8.valid ex2 = true ∧ 19 ≤ ex2.length ∧ Utf8.isBoundary ex2 19 = true := by decide
/-- the evaluation the three examples at offset 19 of `ex2` quote -/
theorem ex2_at19 : translatePosition ex2 19 = (1, 8) ∧ lineStartSpec ex2 19 = 6 := by decide
example : translatePosition ex2 19 = (1, 8) ∧ lineStartSpec ex2 19 = 6 := ex2_at19   -- 13 bytes, 8 characters
example : translatePosition ex2 24 = (2, 1) := by decide                              -- at EOF after `€`
-- the column is strictly below the byte count as soon as a non-ASCII character precedes the anchor
example : (translatePosition ex2 19).2 < 19 - lineStartSpec ex2 19 := by rw [ex2_at19.1, ex2_at19.2]; decide
-- … and equals it on an all-ASCII line prefix
example : (translatePosition ex2 5).2 = 5 - lineStartSpec ex2 5 := by decide
-- the boundary hypothesis of T15_position_spec is needed: inside `日` the model falls back to bytes
example : Utf8.isBoundary ex2 14 = false ∧ translatePosition ex2 14 = (1, 8) ∧ specColumn ex2 14 = 7 := by decide
-- T15_column_is_scalar_count: `bé = "日本` is 8 scalar values
example : (ex2.take 19).drop (lineStartSpec ex2 19) =
    [0x62, 0xE9, 0x20, 0x3D, 0x20, 0x22, 0x65E5, 0x672C].flatMap Utf8.encode := by rw [ex2_at19.2]; decide
-- charSpan: on a continuation byte of `é` the span is the whole character; at EOF it is empty
example : charSpan ex1 2 = (1, 3) ∧ charSpan ex1 1 = (1, 3) ∧ charSpan ex1 3 = (3, 4) ∧ charSpan ex1 6 = (6, 6) := by
  decide
example : charSpan ex2 15 = (13, 16) ∧ Utf8.isBoundary ex2 14 = false ∧ Utf8.isBoundary ex2 15 = false := by decide
-- T15_charspan_bounds / T15_render_total also cover ill-formed input
example : Utf8.valid ex3 = false ∧ charSpan ex3 1 = (0, 2) ∧ charSpan ex3 3 = (3, 4) := by decide
example : displayIndices ex3 0 2 = some (1, 1, 2) := by decide
example : displayIndices ex1 4 6 = some (1, 4, 2) := by decide
-- `displayIndices` is `none` only for an inverted span (its other `none`, a line beyond the text, is unreachable:
-- `translatePosition_line_le`)
example : displayIndices ex1 4 3 = none := by decide
-- T15_boundary_splits / T15_slice_valid
example : Utf8.valid ((ex2.take 19).drop 13) = true ∧ Utf8.valid ((ex2.take 19).drop 14) = false := by decide

end TomlVerif.Props.C15
