import TomlVerif.Model.Edit
import TomlVerif.Lemmas.Frame08
import TomlVerif.Lemmas.PlainOps08
/-! C08 — structural edits. Frame property: a subtree whose path diverges from the path of every applied op
    (`Untouched`) keeps its decorated subtree and its source text; for one op and for op sequences.
    Refinement: the ops commute with erasure to the plain ordered tree (the in-memory tree, not a re-parse). -/
namespace TomlVerif.Props.C08
open TomlVerif TomlVerif.Model TomlVerif.Model.Cst TomlVerif.Model.Edit TomlVerif.Lemmas.Edit08
open TomlVerif.Lemmas.Refine08 TomlVerif.Lemmas.RefineOps08 TomlVerif.Spec.OrderedPlain

/-- the paths an op works at -/
def touches (e : Op × List Seg) : List (List Seg) :=
  match e.1 with
  | .mv _ p2 => [e.2, p2]
  | _ => [e.2]

/-- `q` diverges from every path the op works at: it branches off before the node the op edits. The op's key is
    not part of its path, so the other entries of the edited table count as touched, and nothing diverges from
    the root path `[]`. -/
def Untouched (q : List Seg) (e : Op × List Seg) : Prop := ∀ x ∈ touches e, Diverge x q

theorem mem_touches (e : Op × List Seg) : e.2 ∈ touches e := by
  obtain ⟨op, p⟩ := e
  cases op <;> simp [touches]

theorem mem_touches_mv {e : Op × List Seg} {k : Bytes} {p2 : List Seg} (h : e.1 = .mv k p2) : p2 ∈ touches e := by
  simp [touches, h]

theorem untouched_step_rel (R : CTbl → CTbl → Prop) (trans : ∀ {a b c}, R a b → R b c → R a c) {q : List Seg}
    (hR : ∀ x, Diverge x q → ∀ u t t', updTbl u x t = some t' → R t t')
    {st st' : St} {e : Op × List Seg} (hq : Untouched q e) (h : applyOp st e.1 e.2 = some st') :
    R st.doc.root st'.doc.root :=
  applyOp_rel R trans h (hR e.2 (hq e.2 (mem_touches e))) fun _ p2 he => hR p2 (hq p2 (mem_touches_mv he))

theorem untouched_run_rel (R : CTbl → CTbl → Prop) (refl : ∀ a, R a a) (trans : ∀ {a b c}, R a b → R b c → R a c)
    {q : List Seg} (hR : ∀ x, Diverge x q → ∀ u t t', updTbl u x t = some t' → R t t')
    (es : List (Op × List Seg)) (st : St) (h : ∀ e ∈ es, Untouched q e) : R st.doc.root (run st es).doc.root :=
  run_rel (fun a b => R a.doc.root b.doc.root) (fun _ => refl _) trans (Untouched q)
    (fun _ _ _ hq ha => untouched_step_rel R trans hR hq ha) es st h

/-- **frame, one op**: the decorated subtree at a path that diverges from the edit path(s) is the
    same before and after the op (all 17 ops, whatever they do at their own path) -/
theorem T08_untouched_step (st st' : St) (op : Op) (p q : List Seg)
    (h : applyOp st op p = some st') (hq : Untouched q (op, p)) :
    lookupTbl q st'.doc.root = lookupTbl q st.doc.root :=
  untouched_step_rel (fun a b => lookupTbl q b = lookupTbl q a) (fun h1 h2 => h2.trans h1)
    (fun x hx u t t' hu => frame_tbl u x t t' hu q hx) (e := (op, p)) hq h

/-- **frame, op sequences**: a subtree whose path diverges from the path(s) of every op of the sequence
    (`Untouched`) is the same decorated subtree — keys with their reprs and decor, values with
    their reprs and decor, comments and whitespace — after the whole sequence -/
theorem T08_history (es : List (Op × List Seg)) : ∀ (st : St) (q : List Seg),
    (∀ e ∈ es, Untouched q e) → lookupTbl q (run st es).doc.root = lookupTbl q st.doc.root := by
  intro st q h
  exact untouched_run_rel (fun a b => lookupTbl q b = lookupTbl q a) (fun _ => rfl) (fun h1 h2 => h2.trans h1)
    (fun x hx u t t' hu => frame_tbl u x t t' hu q hx) es st h

/-- the arena only grows: every string an op sequence creates is appended -/
theorem T08_arena (es : List (Op × List Seg)) : ∀ st : St, ∃ x, (run st es).inp = st.inp ++ x := by
  intro st
  exact run_rel (fun a b => ∃ x, b.inp = a.inp ++ x) (fun _ => ⟨[], (List.append_nil _).symm⟩)
    (fun ⟨x, hx⟩ ⟨y, hy⟩ => ⟨x ++ y, by rw [hy, hx, List.append_assoc]⟩) (fun _ => True)
    (fun st e st' _ h => applyOp_arena st st' e.1 e.2 h) es st fun _ _ => trivial

/-- a span inside the old arena denotes the same text after any op sequence: together with
    `T08_history` (same decorated subtree, hence the same spans) the source text of an untouched
    entry — key spelling, value spelling, comments, whitespace — is unchanged -/
theorem T08_text_stable (es : List (Op × List Seg)) (st : St) (a b : Nat) (hb : b ≤ st.inp.length) :
    Encode.rawText (run st es).inp (.spanned a b) = Encode.rawText st.inp (.spanned a b) := by
  obtain ⟨x, hx⟩ := T08_arena es st
  simp only [Encode.rawText, hx]
  exact slice_append st.inp x a b hb

/-- the op on the plain ordered tree (`Spec/OrderedPlain.lean`), applied at the node the path leads
    to: insert appends or replaces in place, remove deletes in place, the array ops are the list
    ops, `fmt` and the conversions keep the content. `none`: not covered by `T08_refine`
    (`viv`, `sort`, `arr2aot`, `mv`). -/
def plainOp : Op → Option (Plain → Option Plain)
  | .set k v => some (pSet k (.scalar (leaf v)))
  | .del k => some (pDel k)
  | .newt k => some (pSet k (.tbl []))
  | .push v => some (pPush (.scalar (leaf v)))
  | .ains i v => some (pInsert i (.scalar (leaf v)))
  | .arepl i v => some (pReplace i (.scalar (leaf v)))
  | .adel i => some (pRemove i)
  | .tpush => some pTpush
  | .tdel i => some (pRemove i)
  | .fmt => some pId
  | .inl _ => some pId
  | .tbl _ => some pId
  | .aot2arr _ => some pId
  | _ => none

theorem plainOp_refines (op : Op) (f : Plain → Option Plain) (hf : plainOp op = some f) (rs : List Raw) :
    Refines (op.upd rs) f := by
  cases op with
  | set k v => cases hf; exact refines_set k v rs
  | del k => cases hf; exact refines_del k rs
  | newt k => cases hf; exact refines_newt k rs
  | push v => cases hf; exact refines_push v rs
  | ains i v => cases hf; exact refines_ains i v rs
  | arepl i v => cases hf; exact refines_arepl i v rs
  | adel i => cases hf; exact refines_adel i rs
  | tdel i => cases hf; exact refines_tdel i rs
  | fmt => cases hf; exact refines_fmt rs
  | inl k => cases hf; exact refines_inl k rs
  | tbl k => cases hf; exact refines_tbl k rs
  | aot2arr k => cases hf; exact refines_aot2arr k rs
  -- `(Op.tpush).upd` is all-`none`, so this row holds emptily; `T08_refine` takes `tpush` from `Applied.tpush` and
  -- `refines_tpush`
  | tpush => exact ⟨fun _ _ h => (by cases h), fun _ _ h => (by cases h), fun _ _ h => (by cases h)⟩
  | viv _ _ _ | sort | arr2aot _ | mv _ _ => cases hf

/-- **refinement**: whenever a model op applies, the plain ordered tree of the edited document is
    the plain op applied, at the same path, to the plain ordered tree of the document before —
    erasure (`toPlain ∘ eraseTbl`) commutes with the op -/
theorem T08_refine (st st' : St) (op : Op) (p : List Seg) (f : Plain → Option Plain)
    (hf : plainOp op = some f) (h : applyOp st op p = some st') :
    pupd f p (plainT st.doc.root) = some (plainT st'.doc.root) := by
  cases applyOp_applied h with
  | upd _ _ _ hu => exact refine_tbl (plainOp_refines op f hf _) p _ _ hu
  | tpush _ _ hu => cases hf; exact refine_tbl (refines_tpush _ _) p _ _ hu
  | mv _ _ _ _ => cases hf

/-- `fmt` and the conversions between inline and standard forms keep the decoded content: on the plain
    ordered tree they are the identity `pId` at the node the path leads to -/
theorem T08_refine_content_kept (st st' : St) (op : Op) (p : List Seg)
    (hop : plainOp op = some pId) (h : applyOp st op p = some st') :
    pupd pId p (plainT st.doc.root) = some (plainT st'.doc.root) :=
  T08_refine st st' op p pId hop h

/-- `sort_keys`, the last step of `Table::sort_values`, at the semantic level: erasing the entries sorted by
    `sortByCKey` gives `sortByKey` (Spec/OrderedPlain.lean) of the erased entries -/
theorem T08_refine_sort_entries (l : List (CKey × CItem)) :
    eraseItems (sortByCKey l) = sortByKey (eraseItems l) := erase_sortByCKey_items l

/-- the refinement statement in its strongest shape: every op (all 17) has a plain op that depends on
    the op alone and is applied at the edit path. As a whole it is FALSE (`T08_refine_full_false`,
    Props/C08Full.lean): `sort` depends on the `dotted` flags, which the plain tree does not have, and `mv`
    changes a second path. -/
def T08_refine_full : Prop :=
  ∀ op : Op, ∃ f : Plain → Option Plain, ∀ (st st' : St) (p : List Seg),
    applyOp st op p = some st' → pupd f p (plainT st.doc.root) = some (plainT st'.doc.root)

/-- `a = 1 # c⏎[t]⏎x = 2⏎` -/
def exDoc : Bytes := strBytes "a = 1 # c\n[t]\nx = 2\n"

def exSeg (s : String) : Seg := { key := some (strBytes s), idx := none }

/-- the evaluation the examples below quote: `exDoc` parsed, `set y = 5` applied at `t`, the result printed, once -/
theorem exDoc_eval :
    ((start exDoc).bind fun st => applyOp st (.set (strBytes "y") (.int 5)) [exSeg "t"]).isSome = true ∧
    ((start exDoc).bind fun st => (applyOp st (.set (strBytes "y") (.int 5)) [exSeg "t"]).map Edit.print)
      = some (strBytes "a = 1 # c\n[t]\nx = 2\ny = 5\n") := by
  decide +kernel

/-- an op applies at `t` (the next example: the path `a` diverges from the edit path `t`) -/
example : ((start exDoc).bind fun st => applyOp st (.set (strBytes "y") (.int 5)) [exSeg "t"]).isSome = true :=
  exDoc_eval.1

example : Diverge [exSeg "t"] [exSeg "a"] :=
  .here ⟨.inr (by decide +kernel), .inl rfl⟩

/-- the edited document prints with the comment of the untouched entry in place -/
example : ((start exDoc).bind fun st => (applyOp st (.set (strBytes "y") (.int 5)) [exSeg "t"]).map Edit.print)
    = some (strBytes "a = 1 # c\n[t]\nx = 2\ny = 5\n") :=
  exDoc_eval.2

example : plainOp (.inl (strBytes "t")) = some pId := rfl

end TomlVerif.Props.C08
