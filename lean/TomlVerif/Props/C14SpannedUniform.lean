import TomlVerif.Props.C14SpannedFull
/-! C14, second sentence: the hypothesis `Ok t it` of `T14_spanned_transparent` from UNIFORM hypotheses —
    `TyOk t` on the type alone, `AllSpans it` on the tree alone, and for the date-time clause either `DtSafe t` (type alone) or
    `DtFree it` (tree alone).

      TyOk t      no struct field whose `missing_field` differs (`Spanned<Option<_>>`), every map key type without `Spanned` inside
                  `Spanned` (`keyOk`), recursively
      AllSpans it every node of the tree (through `citemEntries` / `citemElems`) has an `item_span`, every key a span
      DtSafe t    every map of the type has `String` keys and a value type that is not `Spanned<_>` itself, every struct field type
                  is not `Spanned<_>` itself — what a date-time read as a map / struct needs (serde's string deserializers).
                  It rules out every struct with a direct `Spanned<_>` field, every `Spanned<_>` map value and every map key
                  type but `String`: for those shapes use `DtFree`
      DtFree it   no node of the tree is a date-time
    A clean `TyOk` alone is impossible: `BTreeMap<Spanned<String>, String>` is transparent on tables and not on a date-time
    (`ex_datetime_map_spanned_key`), so the clause needs the tree (`DtFree`) or a stricter type (`DtSafe`). -/
namespace TomlVerif.Props.C14SpannedUniform
open TomlVerif TomlVerif.Model TomlVerif.Model.DeTyped TomlVerif.Model.Cst TomlVerif.Model.DeLocated
open TomlVerif.Model.DeSpanned TomlVerif.Lemmas.DeLocated15 TomlVerif.Lemmas.DeSpanned14

mutual
def TyOk : STy → Bool
  | .plain _ => true
  | .spanned t => TyOk t
  | .option t => TyOk t
  | .newtype t => TyOk t
  | .seq t => TyOk t
  | .map kt t => keyOk kt && TyOk t
  | .struct fs => missAll fs && TyOkFields fs
  | .enum vs => TyOkVariants vs
def TyOkFields : SFields → Bool
  | .nil => true
  | .cons _ t _ r => TyOk t && TyOkFields r
def TyOkShape : SShape → Bool
  | .unit => true
  | .newtype t => TyOk t
def TyOkVariants : SVariants → Bool
  | .nil => true
  | .cons _ s r => TyOkShape s && TyOkVariants r
end

def isString : KeyTy → Bool
  | .string => true
  | _ => false

mutual
def DtSafe : STy → Bool
  | .plain _ => true
  | .spanned t => DtSafe t
  | .option t => DtSafe t
  | .newtype t => DtSafe t
  | .seq t => DtSafe t
  | .map kt t => isString kt && strOk t && DtSafe t
  | .struct fs => DtSafeFields fs
  | .enum vs => DtSafeVariants vs
def DtSafeFields : SFields → Bool
  | .nil => true
  | .cons _ t _ r => strOk t && DtSafe t && DtSafeFields r
def DtSafeShape : SShape → Bool
  | .unit => true
  | .newtype t => DtSafe t
def DtSafeVariants : SVariants → Bool
  | .nil => true
  | .cons _ s r => DtSafeShape s && DtSafeVariants r
end

/-- every node has an `item_span`, every key a span -/
def AllSpans (it : CItem) : Prop :=
  ∀ n, Sub it n → (itemSpan n).isSome = true ∧
    ∀ es k v, citemEntries n = some es → (k, v) ∈ es → (keySpan k).isSome = true

/-- no node is a date-time -/
def DtFree (it : CItem) : Prop := ∀ n, Sub it n → ∀ d, eraseItem n ≠ .value (.dt d)

theorem AllSpans.entry {it v : CItem} {es : List (CKey × CItem)} {k : CKey} (h : AllSpans it)
    (hc : citemEntries it = some es) (hm : (k, v) ∈ es) : AllSpans v := fun n hn => h n (.entry hc hm hn)
theorem AllSpans.elem {it v : CItem} {l : List CItem} (h : AllSpans it)
    (hc : citemElems it = some l) (hm : v ∈ l) : AllSpans v := fun n hn => h n (.elem hc hm hn)
theorem DtFree.entry {it v : CItem} {es : List (CKey × CItem)} {k : CKey} (h : DtFree it)
    (hc : citemEntries it = some es) (hm : (k, v) ∈ es) : DtFree v := fun n hn => h n (.entry hc hm hn)
theorem DtFree.elem {it v : CItem} {l : List CItem} (h : DtFree it)
    (hc : citemElems it = some l) (hm : v ∈ l) : DtFree v := fun n hn => h n (.elem hc hm hn)

theorem srcs_str_dt (it : CItem) (es : List (Bytes × LSrc)) (h : locMapEntries it = some es) (key s : Bytes)
    (hm : (key, LSrc.str s) ∈ es) : ∃ d, eraseItem it = .value (.dt d) := by
  unfold locMapEntries at h
  split at h
  · rename_i d hd; exact ⟨d, hd⟩
  · cases hc : citemEntries it with
    | none => rw [hc] at h; simp at h
    | some ces =>
      rw [hc] at h
      simp only [Option.map_some, Option.some.injEq] at h
      subst h
      simp at hm

/-- the date-time clause: the type is safe, or the tree has no date-time -/
def DtClause (safe : Bool) (it : CItem) : Prop := safe = true ∨ DtFree it

mutual
theorem ok_ty : ∀ (t : STy) (it : CItem), TyOk t = true → AllSpans it → (DtSafe t = true ∨ DtFree it) → Ok t it
  | .plain t, it, _, _, _ => by unfold Ok; trivial
  | .spanned t, it, ht, hi, hd => by
    unfold Ok
    exact ⟨(hi it (.refl it)).1, ok_ty t it (by simpa [TyOk] using ht) hi (by simpa [DtSafe] using hd)⟩
  | .option t, it, ht, hi, hd => by
    unfold Ok; exact ok_ty t it (by simpa [TyOk] using ht) hi (by simpa [DtSafe] using hd)
  | .newtype t, it, ht, hi, hd => by
    unfold Ok; exact ok_ty t it (by simpa [TyOk] using ht) hi (by simpa [DtSafe] using hd)
  | .seq t, it, ht, hi, hd => by
    unfold Ok
    intro l hl x hx
    exact ok_ty t x (by simpa [TyOk] using ht) (hi.elem hl hx)
      (hd.elim (fun h => Or.inl (by simpa [DtSafe] using h)) (fun h => Or.inr (h.elem hl hx)))
  | .map kt t, it, ht, hi, hd => by
    have ht' : keyOk kt = true ∧ TyOk t = true := by simpa [TyOk] using ht
    unfold Ok
    intro es hes kv hkv
    obtain ⟨key, src⟩ := kv
    cases src with
    | item k i =>
      obtain ⟨ces, hc, hmem, _⟩ := srcs_item_mem it es hes key k i hkv
      exact ⟨ht'.1, Or.inl ((hi it (.refl it)).2 ces k i hc hmem),
        ok_ty t i ht'.2 (hi.entry hc hmem)
          (hd.elim (fun h => Or.inl (by have : (isString kt = true ∧ strOk t = true) ∧ DtSafe t = true := by
                                          simpa [DtSafe] using h
                                        exact this.2)) (fun h => Or.inr (h.entry hc hmem)))⟩
    | str s =>
      rcases hd with h | h
      · have : (isString kt = true ∧ strOk t = true) ∧ DtSafe t = true := by simpa [DtSafe] using h
        refine ⟨?_, this.1.2⟩
        cases kt <;> simp_all [isString]
      · obtain ⟨d, hdt⟩ := srcs_str_dt it es hes key s hkv
        exact absurd hdt (h it (.refl it) d)
  | .struct fs, it, ht, hi, hd => by
    have ht' : missAll fs = true ∧ TyOkFields fs = true := by simpa [TyOk] using ht
    unfold Ok
    refine ⟨ht'.1, ?_, ?_⟩
    · intro es hes kv hkv
      obtain ⟨key, src⟩ := kv
      cases src with
      | item k i =>
        obtain ⟨ces, hc, hmem, _⟩ := srcs_item_mem it es hes key k i hkv
        exact ok_entry fs key (.item k i) ht'.2
          ⟨hi.entry hc hmem, hd.elim (fun h => Or.inl (by simpa [DtSafe] using h)) (fun h => Or.inr (h.entry hc hmem))⟩
      | str s =>
        rcases hd with h | h
        · exact ok_entry fs key (.str s) ht'.2 (by simpa [DtSafe] using h)
        · obtain ⟨d, hdt⟩ := srcs_str_dt it es hes key s hkv
          exact absurd hdt (h it (.refl it) d)
    · intro l hl
      exact ok_seq fs l ht'.2 (fun x hx => ⟨hi.elem hl hx,
        hd.elim (fun h => Or.inl (by simpa [DtSafe] using h)) (fun h => Or.inr (h.elem hl hx))⟩)
  | .enum vs, it, ht, hi, hd => by
    unfold Ok
    intro k p hc
    exact ok_variants vs k.key p (by simpa [TyOk] using ht) (hi.entry hc (List.mem_cons_self ..))
      (hd.elim (fun h => Or.inl (by simpa [DtSafe] using h)) (fun h => Or.inr (h.entry hc (List.mem_cons_self ..))))
/-- a `.str` source (the text of a date-time) has no tree below it: there only the type can be safe -/
theorem ok_entry : ∀ (fs : SFields) (k : Bytes) (src : LSrc), TyOkFields fs = true →
    (match src with
     | .item _ i => AllSpans i ∧ (DtSafeFields fs = true ∨ DtFree i)
     | .str _ => DtSafeFields fs = true) → OkEntry fs k src
  | .nil, k, src, _, _ => by unfold OkEntry; trivial
  | .cons name t dflt r, k, src, ht, h => by
    have ht' : TyOk t = true ∧ TyOkFields r = true := by simpa [TyOkFields] using ht
    unfold OkEntry
    by_cases hn : (name == k) = true
    · simp only [hn, if_true]
      cases src with
      | item key i =>
        simp only [] at h ⊢
        exact ok_ty t i ht'.1 h.1 (h.2.elim (fun hs => Or.inl (by
          have : (strOk t = true ∧ DtSafe t = true) ∧ DtSafeFields r = true := by simpa [DtSafeFields] using hs
          exact this.1.2)) Or.inr)
      | str s =>
        simp only [] at h ⊢
        have : (strOk t = true ∧ DtSafe t = true) ∧ DtSafeFields r = true := by simpa [DtSafeFields] using h
        exact this.1.1
    · simp only [hn]
      refine ok_entry r k src ht'.2 ?_
      cases src with
      | item key i =>
        simp only [] at h ⊢
        exact ⟨h.1, h.2.elim (fun hs => Or.inl (by
          have : (strOk t = true ∧ DtSafe t = true) ∧ DtSafeFields r = true := by simpa [DtSafeFields] using hs
          exact this.2)) Or.inr⟩
      | str s =>
        simp only [] at h ⊢
        have : (strOk t = true ∧ DtSafe t = true) ∧ DtSafeFields r = true := by simpa [DtSafeFields] using h
        exact this.2
theorem ok_seq : ∀ (fs : SFields) (l : List CItem), TyOkFields fs = true →
    (∀ x ∈ l, AllSpans x ∧ (DtSafeFields fs = true ∨ DtFree x)) → OkSeq fs l
  | .nil, l, _, _ => by unfold OkSeq; trivial
  | .cons name t dflt r, [], ht, h => by
    have ht' : TyOk t = true ∧ TyOkFields r = true := by simpa [TyOkFields] using ht
    unfold OkSeq
    exact ok_seq r [] ht'.2 (fun x hx => by cases hx)
  | .cons name t dflt r, i :: l, ht, h => by
    have ht' : TyOk t = true ∧ TyOkFields r = true := by simpa [TyOkFields] using ht
    have hsplit : DtSafeFields (.cons name t dflt r) = true → DtSafe t = true ∧ DtSafeFields r = true := by
      intro hs
      have : (strOk t = true ∧ DtSafe t = true) ∧ DtSafeFields r = true := by simpa [DtSafeFields] using hs
      exact ⟨this.1.2, this.2⟩
    unfold OkSeq
    have hi := h i (List.mem_cons_self ..)
    refine ⟨ok_ty t i ht'.1 hi.1 (hi.2.elim (fun hs => Or.inl (hsplit hs).1) Or.inr), ?_⟩
    exact ok_seq r l ht'.2 (fun x hx => by
      have hx' := h x (List.mem_cons_of_mem _ hx)
      exact ⟨hx'.1, hx'.2.elim (fun hs => Or.inl (hsplit hs).2) Or.inr⟩)
theorem ok_variants : ∀ (vs : SVariants) (k : Bytes) (p : CItem), TyOkVariants vs = true → AllSpans p →
    (DtSafeVariants vs = true ∨ DtFree p) → OkVariants vs k p
  | .nil, k, p, _, _, _ => by unfold OkVariants; trivial
  | .cons name s r, k, p, ht, hi, hd => by
    have ht' : TyOkShape s = true ∧ TyOkVariants r = true := by simpa [TyOkVariants] using ht
    unfold OkVariants
    by_cases hn : (name == k) = true
    · simp only [hn, if_true]
      exact ok_shape s p ht'.1 hi (hd.elim (fun h => Or.inl (by
        have : DtSafeShape s = true ∧ DtSafeVariants r = true := by simpa [DtSafeVariants] using h
        exact this.1)) Or.inr)
    · simp only [hn]
      exact ok_variants r k p ht'.2 hi (hd.elim (fun h => Or.inl (by
        have : DtSafeShape s = true ∧ DtSafeVariants r = true := by simpa [DtSafeVariants] using h
        exact this.2)) Or.inr)
theorem ok_shape : ∀ (s : SShape) (p : CItem), TyOkShape s = true → AllSpans p →
    (DtSafeShape s = true ∨ DtFree p) → OkShape s p
  | .unit, p, _, _, _ => by unfold OkShape; trivial
  | .newtype t, p, ht, hi, hd => by
    unfold OkShape
    exact ok_ty t p (by simpa [TyOkShape] using ht) hi (hd.elim (fun h => Or.inl (by simpa [DtSafeShape] using h)) Or.inr)
end

/-- With a type-only hypothesis `TyOk t`, a tree-only hypothesis `AllSpans it`, and the
date-time clause (`DtSafe t`, type only — or `DtFree it`, tree only), decoding into the wrapper type with the wrappers
forgotten is decoding into the stripped type: verdict, value and error location. -/
theorem T14_spanned_transparent_uniform (fl : TomlValue.Flavour) (t : STy) (it : SItem)
    (ht : TyOk t = true) (hi : AllSpans it) (hd : DtSafe t = true ∨ DtFree it) :
    lmap stripDec (decodeSp fl t it) = decodeLoc fl (strip t) it :=
  Props.C14SpannedFull.T14_spanned_transparent fl t it (ok_ty t it ht hi hd)

mutual
def asVal : CVal → Bool
  | .scalar v r _ => (match v with | .arr _ => false | .inl _ _ _ => false | _ => true) && r.span.isSome
  | .arr items _ _ _ sp => sp.isSome && asVals items
  | .inl items p i dt d sp => (ispanVal (.inl items p i dt d sp)).isSome && asKvs items
def asVals : List CVal → Bool
  | [] => true
  | v :: r => asVal v && asVals r
def asKvs : List (CKey × CVal) → Bool
  | [] => true
  | (k, v) :: r => (keySpan k).isSome && asVal v && asKvs r
end

mutual
/-- a checker for `AllSpans` -/
def asItem : CItem → Bool
  | .value v => asVal v
  | .table t => asTbl t
  | .aot ts sp => sp.isSome && asTbls ts
def asTbl : CTbl → Bool
  | .mk items i d p dc sp => (ispanTbl (.mk items i d p dc sp)).isSome && asItems items
def asTbls : List CTbl → Bool
  | [] => true
  | t :: r => asTbl t && asTbls r
def asItems : List (CKey × CItem) → Bool
  | [] => true
  | (k, v) :: r => (keySpan k).isSome && asItem v && asItems r
end

theorem asVals_eq : ∀ l : List CVal, asVals l = l.all asVal
  | [] => rfl
  | x :: r => by rw [asVals, asVals_eq r, List.all_cons]

theorem asKvs_eq : ∀ l : List (CKey × CVal), asKvs l = l.all fun kv => (keySpan kv.1).isSome && asVal kv.2
  | [] => rfl
  | (k, x) :: r => by rw [asKvs, asKvs_eq r, List.all_cons]

theorem asTbls_eq : ∀ l : List CTbl, asTbls l = l.all asTbl
  | [] => rfl
  | x :: r => by rw [asTbls, asTbls_eq r, List.all_cons]

theorem asItems_eq : ∀ l : List (CKey × CItem), asItems l = l.all fun kv => (keySpan kv.1).isSome && asItem kv.2
  | [] => rfl
  | (k, x) :: r => by rw [asItems, asItems_eq r, List.all_cons]

theorem as_span (it : CItem) (h : asItem it = true) : (itemSpan it).isSome = true := by
  cases it with
  | value v =>
    cases v with
    | scalar x r d => simp only [asItem, asVal, Bool.and_eq_true] at h; simpa [itemSpan, ispanVal] using h.2
    | arr items t c d sp => simp only [asItem, asVal, Bool.and_eq_true] at h; simpa [itemSpan, ispanVal] using h.1
    | inl items p i dt d sp => simp only [asItem, asVal, Bool.and_eq_true] at h; simpa [itemSpan] using h.1
  | table t => cases t; simp only [asItem, asTbl, Bool.and_eq_true] at h; simpa [itemSpan] using h.1
  | aot ts sp => simp only [asItem, Bool.and_eq_true] at h; simpa [itemSpan] using h.1

theorem as_entries (it : CItem) (h : asItem it = true) (es : List (CKey × CItem)) (hc : citemEntries it = some es) :
    ∀ kv ∈ es, (keySpan kv.1).isSome = true ∧ asItem kv.2 = true := by
  rcases citemEntries_ok hc with ⟨t, rfl, rfl⟩ | ⟨items, p, i, dt, d, s, rfl, rfl⟩ | ⟨items, a, b, r, d, rfl, rfl⟩
  · cases t
    simp only [asItem, asTbl, Bool.and_eq_true] at h
    exact fun kv hkv => Bool.and_eq_true_iff.1 (List.all_eq_true.1 (asItems_eq _ ▸ h.2) kv hkv)
  · simp only [asItem, asVal, Bool.and_eq_true] at h
    intro kv hkv
    obtain ⟨x, hx, rfl⟩ := List.mem_map.1 hkv
    exact Bool.and_eq_true_iff.1 (List.all_eq_true.1 (asKvs_eq items ▸ h.2) x hx)
  · simp [asItem, asVal] at h

theorem as_elems (it : CItem) (h : asItem it = true) (l : List CItem) (hc : citemElems it = some l) :
    ∀ v ∈ l, asItem v = true := by
  rcases citemElems_ok hc with ⟨ts, s, rfl, rfl⟩ | ⟨items, t, c, d, s, rfl, rfl⟩ | ⟨items, r, d, rfl, rfl⟩
  · simp only [asItem, Bool.and_eq_true] at h
    intro v hv
    obtain ⟨x, hx, rfl⟩ := List.mem_map.1 hv
    exact List.all_eq_true.1 (asTbls_eq ts ▸ h.2) x hx
  · simp only [asItem, asVal, Bool.and_eq_true] at h
    intro v hv
    obtain ⟨x, hx, rfl⟩ := List.mem_map.1 hv
    exact List.all_eq_true.1 (asVals_eq items ▸ h.2) x hx
  · simp [asItem, asVal] at h

theorem allSpans_of_check (it : CItem) (h : asItem it = true) : AllSpans it := by
  intro n hn
  induction hn with
  | refl it => exact ⟨as_span it h, fun es k v hc hm => (as_entries it h es hc (k, v) hm).1⟩
  | entry hc hm _ ih => exact ih (as_entries _ h _ hc _ hm).2
  | elem hc hm _ ih => exact ih (as_elems _ h _ hc _ hm)

/-- on a document whose root passes the check `asItem` (every value, key, array of tables has a span, every table a
span of its own or an entry; that parsed documents pass is not proved, `_hp` is not used), for a `TyOk`, `DtSafe` type -/
theorem T14_spanned_transparent_parsed (fl : TomlValue.Flavour) (t : STy) (text : Bytes) (doc : CDoc)
    (_hp : parseCst text = some doc) (hc : asItem (.table doc.root) = true) (ht : TyOk t = true) (hd : DtSafe t = true) :
    lmap stripDec (decodeSp fl t (.table doc.root)) = decodeLoc fl (strip t) (.table doc.root) :=
  T14_spanned_transparent_uniform fl t _ ht (allSpans_of_check _ hc) (Or.inl hd)

/-! ## non-vacuity: `a.b = 1` (a dotted table without a span of its own) and `[[t]]` / inline tables -/

example : (parseCst Props.C14Spanned.exDotted).map (fun d => asItem (.table d.root)) = some true := by decide +kernel
/-- `x = [1, {y = 2}]⏎[[t]]⏎k.l = "s"⏎` -/
def exMixed : Bytes :=
  [0x78, 0x20, 0x3d, 0x20, 0x5b, 0x31, 0x2c, 0x20, 0x7b, 0x79, 0x20, 0x3d, 0x20, 0x32, 0x7d, 0x5d, 0x0a,
   0x5b, 0x5b, 0x74, 0x5d, 0x5d, 0x0a, 0x6b, 0x2e, 0x6c, 0x20, 0x3d, 0x20, 0x22, 0x73, 0x22, 0x0a]
example : (parseCst exMixed).map (fun d => asItem (.table d.root)) = some true := by decide +kernel
example : TyOk (.struct (.cons [0x61] (.spanned (.struct (.cons [0x62] (.spanned (.plain .bool)) false .nil))) false .nil)) = true ∧
    DtSafe (.struct (.cons [0x61] (.option (.spanned (.plain .bool))) false .nil)) = true ∧
    TyOk (.map (.spanned (.newtype .string)) (.spanned (.plain .bool))) = true ∧
    DtSafe (.map (.spanned .string) (.plain .bool)) = false := by decide

end TomlVerif.Props.C14SpannedUniform
