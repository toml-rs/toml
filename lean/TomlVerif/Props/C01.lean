import TomlVerif.Model.Doc
/-! # C01 — the two entry points: bytes and text, with or without byte-order mark.  The property itself
    ("accepts exactly the valid documents") is `Props/C01DocSound.lean`. -/
namespace TomlVerif.Props.C01
open TomlVerif TomlVerif.Spec TomlVerif.Model TomlVerif.Model.Doc

/-- the definition of the slice entry point, restated: the UTF-8 check, then `parse_document` -/
theorem T01_slice (b : Bytes) : parseSlice b = if Utf8.valid b then parseDocument b else none := rfl

/-- a leading byte-order mark is ignored -/
theorem T01_bom (s : Bytes) (h : stripBom s = s) : parseDocument (0xEF :: 0xBB :: 0xBF :: s) = parseDocument s := by
  have e : stripBom (0xEF :: 0xBB :: 0xBF :: s) = s := rfl
  unfold parseDocument
  rw [e, h]

end TomlVerif.Props.C01
