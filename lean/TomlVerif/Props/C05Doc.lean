import TomlVerif.Lemmas.Depth05DeepDoc
/-! # C05 at document level — no accepted document decodes to a tree deeper than `3 * LIMIT - 2`

`nestTbl T` is the nesting depth of a decoded table: one level for the table plus its deepest entry; an entry that is
a value counts `nest v`, a sub-table its own depth, an array of tables one level for the array plus its deepest table.

Why `3 * LIMIT - 2` (= 238):
* a header path has fewer than `LIMIT` keys (`T05_keypath_len`), and each of these keys may be an array of tables,
  which costs two levels (array + element): `2 * (LIMIT - 1)` levels;
* inside the table a header opened, a dotted key `k₁.….kₘ = v` is parsed with the value at recursion depth `m - 1`,
  so `(m - 1) + nest v < LIMIT` (`T05_value_depth`): together with the level of the header table itself at most
  `LIMIT` levels.
A header may extend a table made by a dotted key (`[a]`, `b.c = 1`, `[a.b.d]` is accepted, by the crate as well), so header-made and
dotted-made tables can alternate on one branch.  The bound is reached (`Props/C05DocTight.lean`). -/
namespace TomlVerif.Props.C05Doc
open TomlVerif TomlVerif.Spec TomlVerif.Model TomlVerif.Model.Value
open TomlVerif.Lemmas.Depth05 TomlVerif.Lemmas.Depth05Doc TomlVerif.Lemmas.StateInv TomlVerif.Lemmas.DocStmts

/-- the depth functions (defined in `Lemmas/Depth05Doc.lean`, structurally, as `nest` is) -/
example (v : Val) : nestItem (.value v) = nest v := by rw [nestItem]
example (t : Tbl) : nestItem (.table t) = nestTbl t := by rw [nestItem]
example (ts : List Tbl) : nestItem (.aot ts) = 1 + nestTbls ts := by rw [nestItem]
example (items : List (Bytes × Item)) (a b : Bool) (p : Option Nat) : nestTbl (.mk items a b p) = 1 + nestItems items := by
  rw [nestTbl]
example (k : Bytes) (it : Item) (r : List (Bytes × Item)) : nestItems ((k, it) :: r) = max (nestItem it) (nestItems r) := by
  rw [nestItems]
example (t : Tbl) (r : List Tbl) : nestTbls (t :: r) = max (nestTbl t) (nestTbls r) := by rw [nestTbls]
example : nestItems [] = 0 ∧ nestTbls [] = 0 := ⟨by rw [nestItems], by rw [nestTbls]⟩

/-- the bound on the whole decoded tree -/
def K : Nat := 3 * LIMIT - 2

example : K = 238 := by decide

/-- what the state machine guarantees about the tree it returns: see `OkItem` -/
theorem T05_document_shape (s : Bytes) (T : Tbl) (h : Doc.parseDocument s = some T) : OkTbl T 0 0 := by
  obtain ⟨st, hi, hd⟩ := parseDocument_inv step_ok (holds_init okInv) h
  exact intoDocument_inv okInv st T hi hd

/-- **every accepted document decodes to a tree at most `3 * LIMIT - 2` levels deep** -/
theorem T05_document_depth (s : Bytes) (T : Tbl) (h : Doc.parseDocument s = some T) : nestTbl T ≤ K :=
  nestTbl_root_le T (T05_document_shape s T h)

/-- the same from the slice entry point -/
theorem T05_slice_depth (b : Bytes) (T : Tbl) (h : Doc.parseSlice b = some T) : nestTbl T ≤ K := by
  unfold Doc.parseSlice at h
  split at h
  · exact T05_document_depth b T h
  · cases h

/-- every value anywhere in an accepted document nests less than `LIMIT`, whatever it sits under: at the top level … -/
theorem T05_document_top_values (s : Bytes) (T : Tbl) (k : Bytes) (v : Val) (h : Doc.parseDocument s = some T)
    (hk : alookup k T.items = some (.value v)) : nest v < LIMIT := by
  have := (okItem_value v 0 0).1 (ok_item T 0 0 k _ (T05_document_shape s T h) hk)
  omega

/-- … and every table entry of the root made by a header is again a tree of the same kind one key further down -/
theorem T05_document_sub (s : Bytes) (T sub : Tbl) (k : Bytes) (h : Doc.parseDocument s = some T)
    (hk : alookup k T.items = some (.table sub)) (hd : sub.dotted = false) : OkTbl sub 1 0 :=
  (((okItem_table sub 0 0).1 (ok_item T 0 0 k _ (T05_document_shape s T h) hk)).2 hd).2

/-- headers, an array of tables, dotted keys, an array holding an inline table -/
def exText : Bytes := strBytes "t = [[1]]\n[a.b]\nc.d = [{e=1}]\n[[a.x]]\ny = 1\n[[a.x]]\n[a.b.c.h]\nz.w = 2\n"

/-- the evaluation the three examples below quote: `exText` parsed, once -/
theorem exText_eval :
    (Doc.parseDocument exText).map nestTbl = some 6 ∧
    ((Doc.parseDocument exText).bind fun T => alookup (strBytes "t") T.items).map
      (fun it => match it with | .value v => nest v | _ => 0) = some 2 ∧
    ((Doc.parseDocument exText).bind fun T => alookup (strBytes "a") T.items).map
      (fun it => match it with | .table sub => !sub.dotted | _ => false) = some true := by
  rw [exText, strBytes_eq rfl]; decide +kernel

/-- accepted, and 6 levels deep: the tables root, `a`, `b`, `c` (dotted-made), `h` (header-made inside `c`), `z`
    (dotted-made); the scalar under `w` adds none -/
example : (Doc.parseDocument exText).map nestTbl = some 6 := exText_eval.1

example : ∃ T, Doc.parseDocument exText = some T ∧ nestTbl T ≤ K := by
  cases h : Doc.parseDocument exText with
  | none => have := exText_eval.1; rw [h] at this; cases this
  | some T => exact ⟨T, rfl, T05_document_depth exText T h⟩

/-- the hypotheses of `T05_document_top_values` / `T05_document_sub` are met: `t` is a value of the root, `a` a
    header-made table -/
example : ((Doc.parseDocument exText).bind fun T => alookup (strBytes "t") T.items).map
      (fun it => match it with | .value v => nest v | _ => 0) = some 2 ∧
    ((Doc.parseDocument exText).bind fun T => alookup (strBytes "a") T.items).map
      (fun it => match it with | .table sub => !sub.dotted | _ => false) = some true := exText_eval.2

/-- header-made and dotted-made tables alternating on one branch: accepted, 5 levels (root, `a`, `b`, `d`, and the
    array) -/
example : (Doc.parseDocument (strBytes "[a]\nb.c = 1\n[a.b.d]\ne = [2]\n")).map nestTbl = some 5 := by
  rw [strBytes_eq rfl]; decide +kernel

example : deepDoc 2 1 = strBytes "[[a]]\n[[a.a]]\nb.b=[]" := by decide +kernel

/-- small members: `2 * m` levels for the arrays of tables and the tables in them, `k` for the dotted tables, one for
    the empty array, one for the root -/
example : (Doc.parseDocument (deepDoc 2 1)).map nestTbl = some 7 := deepDoc_depth 1 1 (by decide) (by decide)
example : (Doc.parseDocument (deepDoc 3 2)).map nestTbl = some 10 := deepDoc_depth 2 2 (by decide) (by decide)
example : (Doc.parseDocument (deepDoc 10 20)).map nestTbl = some 42 := deepDoc_depth 9 20 (by decide) (by decide)

end TomlVerif.Props.C05Doc
