import TomlVerif.Props.C19Full
import TomlVerif.Props.C01DocSound
import TomlVerif.Lemmas.Macro19ParseDoc
/-! # C19 at text level — `toml! { text }` builds the table `parse(text)` builds

`Props/C19Full.lean` relates the macro on the TOKENS of a document (`spellDoc ds`) to the state machine on its STATEMENTS
(`stmtsOf ds`); this file closes the gap to the TEXT, for the canonical text `textOf ds` (Lemmas/Macro19Text.lean): one
statement per line, `key = value`, `[key]`, `[[key]]`, keys without blanks, `[v, v,]`, `{k = v, k = v}`, a sign directly
before its number, at most one blank inside a date-time (between date and time, the `…Sp` shapes).

## `TextOk ds := synOk ds ∧ (stmtsOf ds).isSome`: what is covered

`synOk` is decidable and purely lexical (`keyOk`, `strOk`, `decOk`, `fracOk`, `dtOk`, `valOk` of Lemmas/Macro19Text.lean):
key components that are identifiers joined by `-` (not the lone `_`) or ONE string literal, fewer than 80 of them;
strings `"…"` of `basic-unescaped` bytes and the escapes `\n \r \t \\ \"` (the ones with the same meaning in Rust and
TOML); decimal integers and `int.frac` floats without leading zero, with optional sign; `inf`, `nan`, `true`, `false`;
the date-time shapes `odt`, `ldt`, `date`, `time` (fields digits, seconds possibly `ss.fff`, suffix none or starting
with `T`/`t`/`Z`/`z`, as in `T07`, `Z`) and `odtSp`, `ldtSp` (ONE blank; 4-digit year, 2-digit month and day); arrays
of those with optional trailing comma, inline tables without, below the parser's recursion limit. `(stmtsOf ds).isSome`: the macro evaluates every
literal (integers in `i32`, valid date-times) and the entries of every inline table can be assembled — the documents
for which the statement list exists at all (hypothesis `hs` of `T19_doc`).

## what `TextOk` excludes (an instance each for classes 1–5 and 8 at the end of the file)

1. comments — `#` is outside the token subset of the model (`tokens = none`; for rustc it is a token, which no arm of
   the macro matches), `//` is no TOML.
2. literal strings `'…'`, multi-line strings — `'ab'` is no Rust token; `"""x"""` lexes as three strings, which no arm
   matches.  A ONE-character `'u'` is a Rust character literal and the macro reads it as the TOML literal string does;
   `'\n'` is read DIFFERENTLY (`excl_char_escape`).  Character leaves are not covered.
3. string escapes outside the shared five: TOML-only `\b \f \uXXXX \UXXXXXXXX` are rejected by rustc; Rust-only
   `\0 \' \xNN \u{…}` by TOML.
4. numeric-looking bare keys — read DIFFERENTLY: finding F21 (`T19_F21_007`, `T19_F21_float_key`).  Keys like `a-1`,
   `2024` (canonical decimal) do agree; they are not covered.
5. integers: `0x…/0o…/0b…` and `_` separators agree and are not covered; leading zeros are rejected by TOML; literals
   outside `i32` are accepted by the parser and do NOT compile in the macro (`excl_i32`).
6. floats with exponent or `_` agree and are not covered; `1.` is Rust only.
7. date-times: the `…Frac` shapes (a separate `.` token) need a blank around the `.` and are no TOML — a fraction
   written without blanks is part of the seconds token and covered; offsets with `+` have no arm in the macro.
8. a trailing comma in an inline table — the macro accepts it, TOML 1.0 does not (`excl_inline_trailing`).
9. `MacroVal.arr` leaves — the same tokens are spelled by `MTree.arr`, which is covered. -/
namespace TomlVerif.Props.C19Text
open TomlVerif TomlVerif.Model TomlVerif.Model.Macro TomlVerif.Lemmas.Macro19 TomlVerif.Lemmas.Macro19b
open TomlVerif.Lemmas.Macro19c TomlVerif.Model.State TomlVerif.Lemmas.State09 TomlVerif.Model.Doc
open TomlVerif.Lemmas.SoundDoc01U TomlVerif.Props.C19Full

/-- the documents whose canonical text both readers are shown to read the same way -/
def TextOk (ds : List DStmt) : Prop := synOk ds = true ∧ (stmtsOf ds).isSome = true

instance (ds : List DStmt) : Decidable (TextOk ds) := by unfold TextOk; infer_instance

/-- **lexer side**: rustc reads the canonical text as the token trees `spellDoc ds` (only the lexical half of `TextOk`
    is used) -/
theorem T19_tokens_text (ds : List DStmt) (h : TextOk ds) : tokens (textOf ds) = some (spellDoc ds) :=
  tokens_textOf ds h.1

/-- **parser side**: the TOML parser reads the same text as the statements `stmtsOf ds` -/
theorem T19_stmts_text (ds : List DStmt) (h : TextOk ds) : stmtsOfText (textOf ds) = stmtsOf ds := by
  obtain ⟨ss, hs⟩ := Option.isSome_iff_exists.1 h.2
  rw [hs]
  exact stmtsOfText_textOf ds h.1 ss hs

/-- the same with the grammar tree in view: the text is the rendering of a well-formed `QDoc` with those statements -/
theorem T19_text_tree (ds : List DStmt) (h : TextOk ds) :
    (qdocOf ds).WF ∧ (qdocOf ds).render = textOf ds ∧ some (qdocOf ds).stmts = stmtsOf ds := by
  obtain ⟨ss, hs⟩ := Option.isSome_iff_exists.1 h.2
  obtain ⟨h1, h2⟩ := qdocOf_stmts ds h.1 ss hs
  exact ⟨h2, qdocOf_render ds, by rw [h1, hs]⟩

/-- `parse_document` on the canonical text is the definition state machine on `stmtsOf ds` -/
theorem T19_parse_text (ds : List DStmt) (h : TextOk ds) :
    parseDocument (textOf ds) = (stmtsOf ds).bind fun ss => (run {} ss).bind intoDocument := by
  rw [TomlVerif.Props.C01DocSound.T01_document_factor, T19_stmts_text ds h]

/-- **C19, end to end**: whenever the parser accepts the text and returns `d`, rustc tokenises the same text and
    `toml!` (`keep = true`) yields a table on those tokens, neither `unsupported` nor `panic`: the same table -/
theorem T19_text (ds : List DStmt) (h : TextOk ds) (hne : ds ≠ []) :
    ∀ d, parseDocument (textOf ds) = some d →
      ∃ toks m, tokens (textOf ds) = some toks ∧ macroDocWith true toks = .ok m ∧ Sim m (tblM d) := by
  intro d hd
  rw [T19_parse_text ds h] at hd
  obtain ⟨ss, hs⟩ := Option.isSome_iff_exists.1 h.2
  rw [hs] at hd
  simp only [Option.bind_some] at hd
  cases hr : run {} ss with
  | none => simp [hr] at hd
  | some st =>
    simp only [hr, Option.bind_some] at hd
    obtain ⟨m, hm, hsim⟩ := T19_doc ds ss st d hne hs hr hd
    exact ⟨spellDoc ds, m, T19_tokens_text ds h, hm, hsim⟩

/-- the same for the macro as /repo has it (`run` = `tokens` then `macroDoc`; `headerKeeps = true`, the header arm calling `table_toml`) -/
theorem T19_text_repo (ds : List DStmt) (h : TextOk ds) (hne : ds ≠ []) :
    ∀ d, parseDocument (textOf ds) = some d → ∃ m, Macro.run (textOf ds) = .ok m ∧ Sim m (tblM d) := by
  intro d hd
  obtain ⟨toks, m, ht, hm, hsim⟩ := T19_text ds h hne d hd
  refine ⟨m, ?_, hsim⟩
  have hk : headerKeeps = true := by decide
  unfold Macro.run macroDoc
  rw [ht, hk]
  exact hm

/-! ## decision procedures for the instances (`TT`, `MVal`, `R` have no `DecidableEq`) -/

mutual
def ttEq : TT → TT → Bool
  | .tok a, .tok b => a == b
  | .group d x, .group e y => d == e && ttsEq x y
  | _, _ => false
def ttsEq : List TT → List TT → Bool
  | [], [] => true
  | a :: x, b :: y => ttEq a b && ttsEq x y
  | _, _ => false
end

mutual
theorem ttEq_sound : ∀ a b : TT, ttEq a b = true → a = b
  | .tok a, .tok b, h => by simp only [ttEq, beq_iff_eq] at h; rw [h]
  | .group d x, .group e y, h => by
    simp only [ttEq, Bool.and_eq_true, beq_iff_eq] at h
    rw [h.1, ttsEq_sound x y h.2]
  | .tok _, .group _ _, h => by simp [ttEq] at h
  | .group _ _, .tok _, h => by simp [ttEq] at h
theorem ttsEq_sound : ∀ a b : List TT, ttsEq a b = true → a = b
  | [], [], _ => rfl
  | a :: x, b :: y, h => by
    simp only [ttsEq, Bool.and_eq_true] at h
    rw [ttEq_sound a b h.1, ttsEq_sound x y h.2]
  | [], _ :: _, h => by simp [ttsEq] at h
  | _ :: _, [], h => by simp [ttsEq] at h
end

def toksAre (x : Option (List TT)) (y : List TT) : Bool :=
  match x with
  | some t => ttsEq t y
  | none => false

theorem toksAre_sound (x : Option (List TT)) (y : List TT) (h : toksAre x y = true) : x = some y := by
  cases x with
  | none => simp [toksAre] at h
  | some t => simp only [toksAre] at h; rw [ttsEq_sound t y h]

def rUnsup : R MVal → Bool
  | .unsupported => true
  | _ => false

theorem rUnsup_sound (x : R MVal) (h : rUnsup x = true) : x = .unsupported := by
  cases x <;> simp [rUnsup] at h; rfl

/-! ## non-vacuity

```
[srv]
host.name = "a\tb"
ports = [8001, -2, +3.5,]
[[bin]]
name = {x-y = true, "q r".z = -inf}
[bin.sub]
when = 1979-05-27T07:32:00Z
then = 1979-05-27 07:32:00.5-07:00
```
a header, an array header with a sub-table, dotted and dashed and quoted keys, an inline table, an array with trailing
comma, negative numbers, an escape, a date-time -/
def exDocT : List DStmt := [
  .std (bare (strBytes "srv")),
  .kv (dottedKey (strBytes "host") [strBytes "name"]) (.leaf (.str (strBytes "\"a\\tb\"") (strBytes "a\tb"))),
  .kv (bare (strBytes "ports"))
    (.arr [int (strBytes "8001"), .leaf (.int .minus (strBytes "2")), .leaf (.float .plus (strBytes "3.5"))] true),
  .arr (bare (strBytes "bin")),
  .kv (bare (strBytes "name"))
    (.tbl [(⟨⟨.ident (strBytes "x"), [.ident (strBytes "y")]⟩, []⟩, .leaf (.bool true)),
           (⟨⟨.str (strBytes "\"q r\"") (strBytes "q r"), []⟩, [⟨.ident (strBytes "z"), []⟩]⟩,
              .leaf (.special .minus false))] false),
  .std (dottedKey (strBytes "bin") [strBytes "sub"]),
  .kv (bare (strBytes "when"))
    (.leaf (.dt (.ldt ⟨strBytes "1979", [], false⟩ ⟨strBytes "05", [], false⟩ ⟨strBytes "27", strBytes "T07", false⟩
                      ⟨strBytes "32", [], false⟩ ⟨strBytes "00", strBytes "Z", false⟩))),
  .kv (bare (strBytes "then"))
    (.leaf (.dt (.odtSp ⟨strBytes "1979", [], false⟩ ⟨strBytes "05", [], false⟩ ⟨strBytes "27", [], false⟩
                        ⟨strBytes "07", [], false⟩ ⟨strBytes "32", [], false⟩ ⟨strBytes "00.5", [], true⟩
                        ⟨strBytes "07", [], false⟩ ⟨strBytes "00", [], false⟩)))]

def exTextT : Bytes := strBytes
  "[srv]\nhost.name = \"a\\tb\"\nports = [8001, -2, +3.5,]\n[[bin]]\nname = {x-y = true, \"q r\".z = -inf}\n[bin.sub]\nwhen = 1979-05-27T07:32:00Z\nthen = 1979-05-27 07:32:00.5-07:00\n"

theorem exDocT_ok : TextOk exDocT := by decide +kernel
theorem exDocT_text : textOf exDocT = exTextT := by rw [exTextT, strBytes_eq rfl]; decide +kernel
theorem exDocT_accepted : (parseDocument exTextT).isSome = true := by
  rw [exTextT, strBytes_eq rfl]; decide +kernel

/-- the hypotheses of `T19_text` are met by `exDocT`, and its conclusion holds for the text written out -/
example : ∃ d toks m, parseDocument exTextT = some d ∧ tokens exTextT = some toks ∧
    macroDocWith true toks = .ok m ∧ Sim m (tblM d) := by
  obtain ⟨d, hd⟩ := Option.isSome_iff_exists.1 exDocT_accepted
  have := T19_text exDocT exDocT_ok (by simp [exDocT]) d (by rw [exDocT_text]; exact hd)
  rw [exDocT_text] at this
  obtain ⟨toks, m, h1, h2, h3⟩ := this
  exact ⟨d, toks, m, hd, h1, h2, h3⟩

/-- what both build for it -/
theorem exDocT_macro : Macro.run exTextT =
    .ok (.tbl [(strBytes "srv", .tbl [(strBytes "host", .tbl [(strBytes "name", .str (strBytes "a\tb"))]),
                                      (strBytes "ports", .arr [.int 8001, .int (-2), .float 0x400C000000000000])]),
               (strBytes "bin", .arr [.tbl [(strBytes "name", .tbl [(strBytes "x-y", .bool true),
                                                                    (strBytes "q r", .tbl [(strBytes "z", .float 0xFFF0000000000000)])]),
                                            (strBytes "sub", .tbl [(strBytes "when", .dt ⟨some ⟨1979, 5, 27⟩, some ⟨7, 32, 0, 0⟩, some .z⟩),
                                                                   (strBytes "then", .dt ⟨some ⟨1979, 5, 27⟩, some ⟨7, 32, 0, 500000000⟩, some (.custom (-420))⟩)])]])]) :=
  rIs_sound _ _ (by rw [exTextT, strBytes_eq rfl]; decide +kernel)

/-- `toml!`'s table and the parser's table for a text; `none`: one of the two refuses it -/
def bothTables (s : Bytes) : Option (MVal × MVal) :=
  match Macro.run s, parseDocument s with
  | .ok m, some d => some (m, tblM d)
  | _, _ => none

def pairIs (x : Option (MVal × MVal)) (a b : MVal) : Bool :=
  match x with
  | some (m, p) => mvalEq m a && mvalEq p b
  | none => false

theorem pairIs_sound (x : Option (MVal × MVal)) (a b : MVal) (h : pairIs x a b = true) : x = some (a, b) := by
  cases x with
  | none => simp [pairIs] at h
  | some q =>
    obtain ⟨m, p⟩ := q
    simp only [pairIs, Bool.and_eq_true] at h
    rw [mvalEq_sound m a h.1, mvalEq_sound p b h.2]

theorem not_sim_of_key (xs ys : List (Bytes × MVal)) (k : Bytes) (h1 : (alookup k xs).isSome = true)
    (h2 : (alookup k ys).isSome = false) : ¬ Sim (.tbl xs) (.tbl ys) := by
  intro h
  have := h 1 k
  cases hx : alookup k xs with
  | none => simp [hx] at h1
  | some v =>
    cases hy : alookup k ys with
    | some w => simp [hy] at h2
    | none => rw [hx, hy] at this; exact this

/-- `007 = 1` as a document of the macro syntax (the key is ONE integer-literal token) -/
def f21Doc : List DStmt := [.kv ⟨⟨.num [0x30, 0x30, 0x37] [] false, []⟩, []⟩ (int [0x31])]

/-- **F21 at text level.** The canonical text of `f21Doc` is `007 = 1`; rustc's tokens are `spellDoc f21Doc`; the macro's key
    is `7` (`concat!` prints the VALUE of an integer literal), the parser's key is `007`: two different tables. `TextOk`
    excludes the document (its key is no identifier), and it has to: the conclusion of `T19_text` fails. -/
theorem T19_F21_007 :
    textOf f21Doc = strBytes "007 = 1\n" ∧ tokens (textOf f21Doc) = some (spellDoc f21Doc) ∧ ¬ TextOk f21Doc ∧
    macroDocWith true (spellDoc f21Doc) = .ok (.tbl [(strBytes "7", .int 1)]) ∧
    (parseDocument (textOf f21Doc)).map tblM = some (.tbl [(strBytes "007", .int 1)]) ∧
    ¬ Sim (.tbl [(strBytes "7", .int 1)]) (.tbl [(strBytes "007", .int 1)]) :=
  ⟨by decide +kernel, toksAre_sound _ _ (by decide +kernel), by decide +kernel, rIs_sound _ _ (by decide +kernel),
   optIs_sound _ _ (by decide +kernel),
   not_sim_of_key _ _ (strBytes "7") (by decide +kernel) (by decide +kernel)⟩

/-- `1.5 = 4`: ONE float-literal token for rustc, a dotted key `1 . 5` for TOML -/
def f21FloatDoc : List DStmt := [.kv ⟨⟨.num [0x31, 0x2E, 0x35] [] true, []⟩, []⟩ (int [0x34])]

theorem T19_F21_float_key :
    textOf f21FloatDoc = strBytes "1.5 = 4\n" ∧ tokens (textOf f21FloatDoc) = some (spellDoc f21FloatDoc) ∧
    ¬ TextOk f21FloatDoc ∧
    macroDocWith true (spellDoc f21FloatDoc) = .ok (.tbl [(strBytes "1.5", .int 4)]) ∧
    (parseDocument (textOf f21FloatDoc)).map tblM = some (.tbl [(strBytes "1", .tbl [(strBytes "5", .int 4)])]) ∧
    ¬ Sim (.tbl [(strBytes "1.5", .int 4)]) (.tbl [(strBytes "1", .tbl [(strBytes "5", .int 4)])]) :=
  ⟨by decide +kernel, toksAre_sound _ _ (by decide +kernel), by decide +kernel, rIs_sound _ _ (by decide +kernel),
   optIs_sound _ _ (by decide +kernel),
   not_sim_of_key _ _ (strBytes "1.5") (by decide +kernel) (by decide +kernel)⟩

/-- so the end-to-end statement without `TextOk` is false -/
def T19_text_unrestricted : Prop :=
  ∀ ds : List DStmt, ds ≠ [] → ∀ d, parseDocument (textOf ds) = some d →
    ∃ toks m, tokens (textOf ds) = some toks ∧ macroDocWith true toks = .ok m ∧ Sim m (tblM d)

theorem T19_text_unrestricted_false : ¬ T19_text_unrestricted := by
  intro h
  obtain ⟨_, ht, _, hm, hp, hn⟩ := T19_F21_007
  cases hd : parseDocument (textOf f21Doc) with
  | none => rw [hd] at hp; cases hp
  | some d =>
    rw [hd] at hp
    simp only [Option.map_some, Option.some.injEq] at hp
    obtain ⟨toks, m, h1, h2, h3⟩ := h f21Doc (by simp [f21Doc]) d hd
    rw [ht] at h1
    injection h1 with h1
    subst h1
    rw [hm] at h2
    injection h2 with h2
    subst h2
    rw [hp] at h3
    exact hn h3

/-- 1. comments: `#` is outside the token subset of the model, which answers `none` -/
theorem excl_comment :
    (tokens (strBytes "a = 1 # c\n")).isSome = false ∧ (parseDocument (strBytes "a = 1 # c\n")).isSome = true := by
  decide +kernel

/-- 2. `'ab'` is no Rust token; a multi-line string lexes as three string literals and no arm matches -/
theorem excl_literal_multiline :
    (tokens (strBytes "a = 'ab'\n")).isSome = false ∧ Macro.run (strBytes "a = \"\"\"x\"\"\"\n") = .unsupported ∧
    (parseDocument (strBytes "a = 'ab'\n")).isSome = true ∧ (parseDocument (strBytes "a = \"\"\"x\"\"\"\n")).isSome = true :=
  ⟨by decide +kernel, rUnsup_sound _ (by decide +kernel), by decide +kernel, by decide +kernel⟩

/-- 2'. a one-character literal string agrees (`a = 'u'`), an escape in it does not: `a = '\n'` is a line feed for the
    macro (a Rust character literal) and backslash-`n` for TOML (a literal string) -/
theorem excl_char_escape :
    bothTables (strBytes "a = 'u'\n") = some (.tbl [(strBytes "a", .str (strBytes "u"))], .tbl [(strBytes "a", .str (strBytes "u"))]) ∧
    bothTables (strBytes "a = '\\n'\n") =
      some (.tbl [(strBytes "a", .str [0x0A])], .tbl [(strBytes "a", .str [0x5C, 0x6E])]) :=
  ⟨pairIs_sound _ _ _ (by decide +kernel), pairIs_sound _ _ _ (by decide +kernel)⟩

/-- 3. escapes of one language only: `\u00e9` (TOML) is refused by the lexer model, `\0` (Rust) by the parser -/
theorem excl_escapes :
    (tokens (strBytes "a = \"\\u00e9\"\n")).isSome = false ∧ (parseDocument (strBytes "a = \"\\u00e9\"\n")).isSome = true ∧
    (tokens (strBytes "a = \"\\0\"\n")).isSome = true ∧ (parseDocument (strBytes "a = \"\\0\"\n")).isSome = false := by
  decide +kernel

/-- 5. an integer beyond `i32`: valid TOML; the model answers `unsupported` (the expansion does not compile:
    `overflowing_literals`) -/
theorem excl_i32 :
    Macro.run (strBytes "a = 3000000000\n") = .unsupported ∧ (parseDocument (strBytes "a = 3000000000\n")).isSome = true :=
  ⟨rUnsup_sound _ (by decide +kernel), by decide +kernel⟩

/-- 4'/5'/6'. spellings that agree but are not covered by `TextOk`: hexadecimal, `_` separators, an exponent, a
    canonical numeric key component -/
theorem excl_agreeing :
    bothTables (strBytes "a = 0x1F\nb = 1_000\nc = 1e2\ne-1 = 2\n") =
      some (.tbl [(strBytes "a", .int 31), (strBytes "b", .int 1000), (strBytes "c", .float 0x4059000000000000),
                  (strBytes "e-1", .int 2)],
            .tbl [(strBytes "a", .int 31), (strBytes "b", .int 1000), (strBytes "c", .float 0x4059000000000000),
                  (strBytes "e-1", .int 2)]) :=
  pairIs_sound _ _ _ (by simp only [strBytes_eq rfl]; decide +kernel)

/-- 8. a trailing comma in an inline table: the macro builds the table, the TOML 1.0 parser rejects the text -/
theorem excl_inline_trailing :
    Macro.run (strBytes "a = {b = 1,}\n") = .ok (.tbl [(strBytes "a", .tbl [(strBytes "b", .int 1)])]) ∧
    (parseDocument (strBytes "a = {b = 1,}\n")).isSome = false :=
  ⟨rIs_sound _ _ (by decide +kernel), by decide +kernel⟩

end TomlVerif.Props.C19Text
