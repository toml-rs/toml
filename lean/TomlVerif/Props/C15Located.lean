import TomlVerif.Lemmas.DeLocated15Erase
import TomlVerif.Lemmas.DeLocated15Spans
import TomlVerif.Props.C14Doc
import TomlVerif.Props.C15
/-! C15, second sentence: "Errors raised while deserializing a syntactically valid document into a Rust type are located
    too: they carry the offending value's span when the source text is available, and its key path otherwise."

    `decodeLoc` (Model/DeLocated.lean) is `decodeEdit` run on the tree WITH the spans the parser recorded, returning the
    `span` and `keys` of `toml_edit::de::Error`; it is tied to the three deserializer routes by the `c15d` stream
    (tools/props/c15loc.py: verdict, value, span and keys, with and without source).

    What the sentence does NOT give, with counterexamples (all confirmed on the real code; the replay lines are in the
    docstrings of `exDateRoot`, `exVariantDoc`, `exDateVecText`, whose examples follow them):
      * "every error has a span when the source is available": `toml::from_str::<Date>` on a table holding the private
        date-time key — no span, no keys (`exDateRoot`).
      * "the keys are a path of table entries": the variant key of an enum and the index keys of a tuple variant's table are
        passed without `add_key`: for `a = { V = { x = "s" } }` into `struct { a: enum { V { x: i32 } } }` the keys are
        `a.x`, and the document has no `a.x` (`exVariantDoc`). `KeyPath` therefore has the steps `variant` / `index`.
      * "the span is the offending value's": the rule `Loc` allows any node on the way to fill in the span. That the
        innermost one does is stated for sequences only, under `Encl` (`T15_loc_elem_precise` and its companions;
        `ArraySeqAccess::next_element_seed` sets the element's span: `exDateVecText` shows the element's span 17..37 for
        `Vec<Date>` with a date-time element). -/
namespace TomlVerif.Props.C15Located
open TomlVerif TomlVerif.Model TomlVerif.Model.DeTyped TomlVerif.Model.Cst TomlVerif.Model.DeLocated
open TomlVerif.Lemmas.DeLocated15 TomlVerif.Lemmas.Cst03 TomlVerif.Model.ErrorPos

/-- For every target type whose structs have distinct field names, every tree and both map flavours,
`decodeLoc` with the location forgotten is `decodeEdit` (the code as it stands) on the tree without layout: same verdict,
same value. -/
theorem T15_loc_erases (fl : TomlValue.Flavour) (ty : Ty) (it : SItem) (hw : wfTy ty = true) :
    toR (decodeLoc fl ty it) = decodeEdit editAsIs fl ty (eraseItem it) :=
  erase_ty fl ty it hw

theorem T15_loc_erases_ok (fl : TomlValue.Flavour) (ty : Ty) (it : SItem) (hw : wfTy ty = true) (d : Dec) :
    decodeLoc fl ty it = .ok d ↔ decodeEdit editAsIs fl ty (eraseItem it) = .ok d := by
  rw [← T15_loc_erases fl ty it hw]
  cases decodeLoc fl ty it <;> simp [toR, fail]

/-- `KeyPath it ks`: reading the table entries named `ks` in this order leads from `it` to a node of the tree; array
elements, the single entry of a one-entry table (an enum's variant) and entries with a numeric key (a tuple variant's
components) may be passed without being named -/
inductive KeyPath : CItem → List Bytes → Prop where
  | here (it : CItem) : KeyPath it []
  | entry {it : CItem} {es : List (CKey × CItem)} {k : CKey} {v : CItem} {ks : List Bytes} :
      citemEntries it = some es → (k, v) ∈ es → KeyPath v ks → KeyPath it (k.key :: ks)
  | elem {it : CItem} {l : List CItem} {v : CItem} {ks : List Bytes} :
      citemElems it = some l → v ∈ l → KeyPath v ks → KeyPath it ks
  | variant {it : CItem} {k : CKey} {v : CItem} {ks : List Bytes} :
      citemEntries it = some [(k, v)] → KeyPath v ks → KeyPath it ks
  | index {it : CItem} {es : List (CKey × CItem)} {k : CKey} {v : CItem} {ks : List Bytes} :
      citemEntries it = some es → (k, v) ∈ es → (parseUsize k.key).isSome = true → KeyPath v ks → KeyPath it ks

theorem keyPath_of_loc {it : CItem} {ks : List Bytes} {o : Option Span} (h : Loc it ks o) : KeyPath it ks := by
  induction h with
  | pending it => exact .here it
  | key _ _ => exact .here _
  | entry hc hm _ ih => exact .entry hc hm ih
  | elem hl hm _ ih => exact .elem hl hm ih
  | variant hc _ ih => exact .variant hc ih
  | index hc hm hp _ ih => exact .index hc hm hp ih
  | fallback _ ih => exact ih

/-- Every error of the located decoder obeys the rule `Loc` (Lemmas/DeLocated15Loc.lean: the keys are
the entries passed, the span is that of a node on the way, filled in by its `map_err`, or of a key of the node reached),
for ANY tree — with the parser's spans (source) and despanned (no source) alike; in particular its keys are a
`KeyPath` of the tree. -/
theorem T15_loc_keys_is_path (fl : TomlValue.Flavour) (ty : Ty) (it : SItem) (e : LErr)
    (h : decodeLoc fl ty it = .error e) : Loc it e.keys e.span ∧ KeyPath it e.keys :=
  ⟨loc_ty fl ty it e h, keyPath_of_loc (loc_ty fl ty it e h)⟩

/-- The span of an error is one of the spans the parser recorded in the node decoded (`nodeSpans` is
`allSpans` of C14 restricted to the item: the spans of values, keys, tables and arrays of tables, and of their decor). -/
theorem T15_loc_span_is_node (fl : TomlValue.Flavour) (ty : Ty) (it : SItem) (e : LErr) (sp : Span)
    (h : decodeLoc fl ty it = .error e) (hs : e.span = some sp) : sp ∈ nodeSpans it :=
  mem_of_own_or_child (loc_span_child (loc_ty fl ty it e h) sp hs)

/-- If the node decoded has a span (the root of a parsed document has: `0..`), every error has a
span, whatever the target type — except the targets `Date` / `Time` themselves, whose shape test runs outside every
`map_err`. (`hv` is not needed: `DeLocated15.span_present`.) -/
theorem T15_loc_span_present (fl : TomlValue.Flavour) (ty : Ty) (it : SItem) (e : LErr) (s : Span)
    (hsp : it.span = some s) (hd : ty ≠ .date) (ht : ty ≠ .time) (hv : ty ≠ .value)
    (h : decodeLoc fl ty it = .error e) : e.span.isSome = true :=
  (fun _ => span_present fl ty it e s hsp hd ht h) hv

/-- On a parsed document, the span of a deserialization error satisfies `start ≤ end ≤ length` (from
`T14_bounds`) and `Display for TomlError` renders it: `displayIndices` is defined (the statement of `T15_render_total`, for
this span instead of a parser's `char_span`). -/
theorem T15_loc_renders (fl : TomlValue.Flavour) (ty : Ty) (s : Bytes) (d : CDoc) (e : LErr) (a b : Nat)
    (hp : parseCst s = some d) (h : decodeLoc fl ty (.table d.root) = .error e) (hs : e.span = some (a, b)) :
    a ≤ b ∧ b ≤ s.length ∧ (displayIndices s a b).isSome = true := by
  have hm : (a, b) ∈ nodeSpans (.table d.root) := T15_loc_span_is_node fl ty _ e (a, b) h hs
  have hall : (a, b) ∈ allSpans d := by
    unfold allSpans
    exact List.mem_append_left _ hm
  have hb := Props.C14.T14_bounds s d hp (a, b) hall
  exact ⟨hb.1, hb.2, (Props.C15.T15_render_isSome_iff s a b).mpr hb.1⟩

/-- On the despanned tree (what a `Deserializer` made from a `DocumentMut` holds) every error has
`span = none` — the key path (`T15_loc_keys_is_path`) is all that locates it. -/
theorem T15_loc_nosource (fl : TomlValue.Flavour) (ty : Ty) (it : SItem) (e : LErr)
    (h : decodeLoc fl ty (despanItem it) = .error e) : e.span = none := by
  cases hs : e.span with
  | none => rfl
  | some sp =>
    have := T15_loc_span_is_node fl ty (despanItem it) e sp h hs
    rw [despanItem_spans] at this
    cases this

/-- the spans recorded inside a node (values, keys, decor: `childSpans`) lie inside the node's own span. For a value it
follows from `NestV` of C14 (`encl_of_nestV`), which `Spans14.cvalue_spans` gives of every value the parser returns; for
a table it is not derived from the parser here. -/
def Encl (it : CItem) : Prop := ∀ a, it.span = some a → ∀ sp ∈ childSpans it, a.1 ≤ sp.1 ∧ sp.2 ≤ a.2

theorem encl_of_nestV (v : CVal) (h : TomlVerif.Lemmas.Spans14.NestV v) : Encl (.value v) := by
  intro a ha sp hsp
  cases v with
  | scalar x r d => simp [childSpans] at hsp
  | arr items t c d s =>
    simp only [TomlVerif.Lemmas.Spans14.NestV] at h
    simp only [CItem.span, CVal.span] at ha
    have := h.1 a ha sp (List.mem_append_left _ hsp)
    exact ⟨this.1, this.2.2⟩
  | inl items p i dt d s =>
    simp only [TomlVerif.Lemmas.Spans14.NestV] at h
    simp only [CItem.span, CVal.span] at ha
    have := h.2.1 a ha sp (List.mem_append_left _ hsp)
    exact ⟨this.1, this.2.2⟩

theorem mapL_first_error {α β} (f : α → LR β) (x : α) (post : List α) (e : LErr) (hx : f x = .error e) :
    ∀ pre : List α, (∀ y ∈ pre, ∃ d, f y = .ok d) → mapL f (pre ++ x :: post) = .error e
  | [], _ => by simp [mapL, hx, lcons]
  | y :: r, h => by
    obtain ⟨d, hd⟩ := h y (List.mem_cons_self ..)
    have ih := mapL_first_error f x post e hx r fun z hz => h z (List.mem_cons_of_mem _ hz)
    simp [mapL, hd, ih, lcons]

/-- `Vec<T>` read from an array (or an array of tables) whose element `x` — after elements that
decode — fails to decode: the error of the whole is the element's error with the ELEMENT's span filled in if it had none;
it has a span, that span lies inside the span of `x` (never the enclosing array's), and the keys are those of the element's
error. (`Encl x`: for an element of an array, `encl_of_nestV`.) -/
theorem T15_loc_elem_precise (fl : TomlValue.Flavour) (t : Ty) (it x : SItem) (pre post : List SItem) (ex : LErr) (a : Span)
    (hl : citemElems it = some (pre ++ x :: post))
    (hpre : ∀ y ∈ pre, ∃ d, decodeLoc fl t y = .ok d)
    (hx : decodeLoc fl t x = .error ex) (hsp : x.span = some a) (henc : Encl x) :
    ∃ sp, decodeLoc fl (.seq t) it = .error ⟨some sp, ex.keys⟩ ∧ a.1 ≤ sp.1 ∧ sp.2 ≤ a.2 ∧
      (ex.span = none → sp = a) ∧ (∀ s, ex.span = some s → sp = s) := by
  obtain ⟨sp, herr, h1, h2, h3, h4⟩ := elem_error_inside fl t x ex a hx hsp (henc a hsp)
  refine ⟨sp, ?_, h1, h2, h3, h4⟩
  have hm := mapL_first_error (fun i => atSpan i.span (decodeLoc fl t i)) x post _ herr pre (by
    intro y hy
    obtain ⟨d, hd⟩ := hpre y hy
    exact ⟨d, by simp [hd, atSpan]⟩)
  unfold decodeLoc
  rw [hl]
  simp only [hm]
  rfl

def key (s : String) (a b : Nat) : CKey := { key := strBytes s, repr := .spanned a b }
def strV (s : String) (a b : Nat) : CItem := .value (.scalar (.str (strBytes s)) (.spanned a b) {})
def i32 : Ty := .int (-2147483648) 2147483647
def errOf (x : LR Dec) : Option LErr := match x with | .error e => some e | .ok _ => none

/-- `a = "x"` into `struct { a: i32 }`: the value's span, the key `a` — `loc S S(61:i32) 61203d202278220a` -/
def exLeafDoc : CItem := .table (.mk [(key "a" 0 1, strV "x" 4 7)] false false (some 0) {} (some (0, 7)))
example : errOf (decodeLoc .sorted (.struct (.cons (strBytes "a") i32 false .nil)) exLeafDoc) = some ⟨some (4, 7), [strBytes "a"]⟩ := by
  decide +kernel
example : wfTy (.struct (.cons (strBytes "a") i32 false .nil)) = true := by decide
example : exLeafDoc.span = some (0, 7) := rfl

/-- the same despanned: no span, the same key -/
example : errOf (decodeLoc .sorted (.struct (.cons (strBytes "a") i32 false .nil)) (despanItem exLeafDoc)) = some ⟨none, [strBytes "a"]⟩ := by
  decide +kernel

/-- `a = { V = { x = "s" } }` into `struct { a: enum { V { x: i32 } } }`: keys `a.x`, not `a.V.x`
(real code: `loc S S(61:E(56:S(78:i32))) 61203d207b2056203d207b2078203d20227322207d207d0a` → `span=16..19 keys=61.78`) -/
def exVariantDoc : CItem :=
  .table (.mk [(key "a" 0 1, .value (.inl [(key "V" 6 7, .inl [(key "x" 12 13, .scalar (.str (strBytes "s")) (.spanned 16 19) {})]
    .empty false false {} (some (10, 21)))] .empty false false {} (some (4, 23))))] false false (some 0) {} (some (0, 23)))
example : errOf (decodeLoc .sorted (.struct (.cons (strBytes "a")
      (.enum (.cons (strBytes "V") (.struct (.cons (strBytes "x") i32 false .nil)) .nil)) false .nil)) exVariantDoc) =
    some ⟨some (16, 19), [strBytes "a", strBytes "x"]⟩ := by
  decide +kernel

/-- The target `Date` on the root table `"$__toml_private_datetime" = "1979-05-27T07:32:00Z"` (in the model:
any table whose first entry is the private key with a date-time text): the error has NO span and no keys although the root
has a span (real code: `loc S da 22245f5f746f6d6c5f707269766174655f6461746574696d6522203d2022313937392d30352d32375430373a33323a30305a220a`
→ `td=err span=none keys=-`). So `T15_loc_span_present` needs its exception. -/
def exDateRoot : CItem :=
  .table (.mk [({ key := DeRoutes.FIELD, repr := .spanned 0 26 }, strV "1979-05-27T07:32:00Z" 29 51)] false false (some 0) {} (some (0, 51)))
example : errOf (decodeLoc .sorted .date exDateRoot) = some ⟨none, []⟩ := by decide +kernel

/-- `a = [1979-05-27, 1979-05-27T07:32:00Z]` into `struct { a: Vec<Date> }`: the second ELEMENT's span
17..37, not the array's 4..38. Real code:
`loc S S(61:V(da)) 61203d205b313937392d30352d32372c20313937392d30352d32375430373a33323a30305a5d0a` → `span=17..37 keys=61`. -/
def exDateVecText : Bytes :=
  [0x61, 0x20, 0x3d, 0x20, 0x5b, 0x31, 0x39, 0x37, 0x39, 0x2d, 0x30, 0x35, 0x2d, 0x32, 0x37, 0x2c, 0x20, 0x31, 0x39, 0x37, 0x39,
   0x2d, 0x30, 0x35, 0x2d, 0x32, 0x37, 0x54, 0x30, 0x37, 0x3a, 0x33, 0x32, 0x3a, 0x30, 0x30, 0x5a, 0x5d, 0x0a]
example : (parseCst exDateVecText).map (fun d =>
      errOf (decodeLoc .sorted (.struct (.cons [0x61] (.seq .date) false .nil)) (.table d.root))) =
    some (some ⟨some (17, 37), [[0x61]]⟩) := by decide +kernel
/-- the same without source: no span, the key -/
example : (parseCst exDateVecText).map (fun d =>
      errOf (decodeLoc .sorted (.struct (.cons [0x61] (.seq .date) false .nil)) (despanItem (.table d.root)))) =
    some (some ⟨none, [[0x61]]⟩) := by decide +kernel

end TomlVerif.Props.C15Located
