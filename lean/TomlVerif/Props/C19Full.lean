import TomlVerif.Props.C19
import TomlVerif.Props.C09
import TomlVerif.Lemmas.Macro19WF
import TomlVerif.Lemmas.Macro19State
import TomlVerif.Lemmas.Macro19Eq
/-! C19 on token trees — the table `toml!` builds equals the table the parser's state machine builds from the same
    statements. Syntax, over the token trees rustc hands to the macro: `MKey`, `MTree` (leaf `MacroVal` / array /
    inline table), `DStmt` (`key = tree`, `[key]`, `[[key]]`). Meaning for the macro: `MTree.sem`, `docSem` — the
    run-time helpers `insert_toml`, `table_toml`, `push_toml` folded over entries / statements. The parser's side:
    `refV` (a LEAF is the macro's own evaluation of its literal, carried over by `mvalV`: only Props/C19Text.lean ties
    the text of a leaf to the TOML parser; an inline table is assembled by `tableFromPairs` of Model/Value.lean) and
    the table-building state machine of Model/State.lean, read as a `toml::Value` by `valM` / `tblM`.
    The muncher computes exactly `sem` / `docSem`, for every tree and document, failures included; where
    `table_from_pairs` / the state machine accepts, the macro builds the same value / table (documents: up to the
    order of keys, `Sim`); the converse is false. -/
namespace TomlVerif.Props.C19Full
open TomlVerif TomlVerif.Model TomlVerif.Model.Macro TomlVerif.Lemmas.Macro19 TomlVerif.Lemmas.Macro19b
open TomlVerif.Model.State TomlVerif.Lemmas.State09

def bare (s : Bytes) : MKey := ⟨⟨.ident s, []⟩, []⟩
def dottedKey (a : Bytes) (r : List Bytes) : MKey := ⟨⟨.ident a, []⟩, r.map fun s => ⟨.ident s, []⟩⟩
def strKey (s : Bytes) : MKey := ⟨⟨.str ([0x22] ++ s ++ [0x22]) s, []⟩, []⟩
def int (body : Bytes) : MTree := .leaf (.int .none body)

/-- **T19_value.** Every value that is a single token tree — an array or inline table nested to any depth, with or
    without trailing commas, dotted / dashed / quoted keys, or an unsigned scalar — evaluates through `@value` to its
    meaning (a failing literal, date-time or `insert_toml` fails the value the same way). -/
theorem T19_value (a : MTree) (t : TT) (h : a.toks = [t]) : macroValue t = a.sem := by
  have hc := tree_cost_le a
  rw [h] at hc
  obtain ⟨f, hf⟩ : ∃ f, 2 * sizeTTs [t] + 4 = f + 1 := ⟨_, rfl⟩
  have hr := a.reads f (by omega)
  rw [h] at hr
  rw [macroValue, hf, hr.single]

/-- `{ p.q = [1, {r = 2},], "s" = 3 }` -/
def exTbl : MTree :=
  .tbl [(dottedKey [0x70] [[0x71]], .arr [int [0x31], .tbl [(bare [0x72], int [0x32])] false] true),
        (strKey [0x73], int [0x33])] false

/-- non-vacuity: that inline table is one token tree and evaluates to `{p = {q = [1, {r = 2}]}, s = 3}` -/
example : ∃ t, exTbl.toks = [t] ∧
    macroValue t = .ok (.tbl [([0x70], .tbl [([0x71], .arr [.int 1, .tbl [([0x72], .int 2)]])]), ([0x73], .int 3)]) :=
  ⟨_, rfl, by rfl⟩

/-- every value (also the several-token ones: signed numbers, date-times) in an array: `@array` pushes exactly
    its meaning and continues behind the comma -/
theorem T19_value_in_array (a : MTree) (f : Nat) (acc : List MVal) (rest : List TT) (hf : a.cost ≤ f) (hr : RestOk rest) :
    array (f + 2) acc (a.toks ++ commaT :: rest) = R.bind a.sem fun v => array (f + 1) (acc ++ [v]) rest :=
  array_reads (a.reads f hf) acc rest hr

/-- every value as an entry of an inline table: `@table` inserts exactly its meaning at the key's path (the path
    `concat!` computes; `none`: it rejects a token) and continues behind the comma -/
theorem T19_value_in_table (k : MKey) (a : MTree) (f : Nat) (root : MVal) (rest : List TT) (hf : a.cost ≤ f)
    (hr : RestOk rest) :
    table (f + 2) root (k.toks ++ eqT :: (a.toks ++ commaT :: rest)) =
      match k.path with
      | none => .unsupported
      | some p => R.bind a.sem fun v =>
        match insertToml root p v with
        | some root' => table (f + 1) root' rest
        | none => .panic :=
  table_reads (a.reads f hf) k root rest hr

/-- every value at the top level (`key = value` followed by the next statement): `@toplevel` inserts exactly its
    meaning below the current header path and continues with the next statement -/
theorem T19_value_at_toplevel (keep : Bool) (k : MKey) (a : MTree) (f : Nat) (root : MVal) (path : List Bytes)
    (rest : List TT) (hf : a.cost ≤ f) (hr : DocRest rest) :
    toplevel keep (f + 2) root path (k.toks ++ eqT :: a.toks ++ rest) =
      match k.path with
      | none => .unsupported
      | some ks => R.bind a.sem fun x =>
        match insertToml root (path ++ ks) x with
        | some root' => toplevel keep (f + 1) root' path rest
        | none => .panic := toplevel_kv keep f root path k a rest hf hr

example : RestOk [] ∧ DocRest [] ∧ DocRest (spellDoc [.std (bare [0x61])]) ∧ (int [0x31]).cost ≤ 0 :=
  ⟨restOk_nil, docRest_nil, docRest_spellDoc _, by decide⟩

/-- **agreement on values.** Whenever `refV a = some v` (the macro evaluates every literal and `table_from_pairs`
    accepts the entries of every inline table), the macro builds exactly that value, keys in the same order. On
    leaves this says nothing: `refV` takes them from the macro's evaluation; the content is in the inline tables. -/
theorem T19_value_agree (a : MTree) (v : Val) (t : TT) (h : a.toks = [t]) (hv : refV a = some v) :
    macroValue t = .ok (valM v) := by
  rw [T19_value a t h, value_agree a v hv]

/-- non-vacuity: the parser accepts `exTbl` -/
example : exTbl.WF := by unfold MTree.WF; rfl

/-- the same under the syntactic hypothesis `MTree.WFs`: every literal evaluates, `concat!` accepts every key token,
    and within each inline table no full key is a prefix of (or equal to) another one -/
theorem T19_value_wf (a : MTree) (t : TT) (h : a.toks = [t]) (hw : a.WFs) :
    ∃ v, refV a = some v ∧ macroValue t = .ok (valM v) := by
  obtain ⟨v, hv, _⟩ := refV_of_WFs a hw
  exact ⟨v, hv, T19_value_agree a v t h hv⟩

example : exTbl.WFs := by
  simp only [exTbl, MTree.WFs, WFsE, WFsL, int]
  refine ⟨⟨⟨⟨_, rfl⟩, ⟨⟨⟨_, rfl⟩, trivial⟩, ⟨_, rfl, by simp⟩⟩, trivial⟩, ⟨_, rfl⟩, trivial⟩, ⟨_, rfl, ?_⟩⟩
  simp [TomlVerif.Lemmas.InlineKeys01.Incomp]

/-- the converse is false for values: the macro has none of the parser's checks on inline tables.
    `{ x = 1, x = 2 }` (duplicate key): the last entry wins; `{ x = 1, x.y = 2 }` (dotted key through a value): the
    value is replaced by a table; `{ x = {}, x.y = 2 }` (dotted key into a written-out table): extended.
    The parser rejects all three. -/
theorem T19_value_macro_more_permissive :
    (refV (.tbl [(bare [0x78], int [0x31]), (bare [0x78], int [0x32])] false) = none ∧
      (MTree.tbl [(bare [0x78], int [0x31]), (bare [0x78], int [0x32])] false).sem = .ok (.tbl [([0x78], .int 2)])) ∧
    (refV (.tbl [(bare [0x78], int [0x31]), (dottedKey [0x78] [[0x79]], int [0x32])] false) = none ∧
      (MTree.tbl [(bare [0x78], int [0x31]), (dottedKey [0x78] [[0x79]], int [0x32])] false).sem =
        .ok (.tbl [([0x78], .tbl [([0x79], .int 2)])])) ∧
    (refV (.tbl [(bare [0x78], .tbl [] false), (dottedKey [0x78] [[0x79]], int [0x32])] false) = none ∧
      (MTree.tbl [(bare [0x78], .tbl [] false), (dottedKey [0x78] [[0x79]], int [0x32])] false).sem =
        .ok (.tbl [([0x78], .tbl [([0x79], .int 2)])])) :=
  ⟨⟨by rfl, by rfl⟩, ⟨by rfl, by rfl⟩, ⟨by rfl, by rfl⟩⟩

/-- and an inline table can make the expansion panic at run time: `{ x = [], x.y = 2 }` (`traverse` unwraps the
    last element of the empty array) -/
theorem T19_value_panic :
    (MTree.tbl [(bare [0x78], .arr [] false), (dottedKey [0x78] [[0x79]], int [0x32])] false).sem = .panic := by rfl

/-- **T19_doc, the muncher.** For every document — any statements, any keys, any values, valid TOML or not — `toml!`
    computes exactly the fold of its three run-time helpers over the statements: `insert_toml` below the path of
    the last header for `key = value`, `table_toml` (`keep = true`; `insert_toml` of an empty table for
    `keep = false`) for `[key]`, `push_toml` for `[[key]]`. -/
theorem T19_doc_munch (keep : Bool) (ds : List DStmt) (hne : ds ≠ []) :
    macroDocWith keep (spellDoc ds) = docSem keep ds emptyTbl [] := by
  cases ds with
  | nil => exact absurd rfl hne
  | cons s r =>
    have h := spellDoc_ne s r
    unfold macroDocWith
    split
    · rename_i heq; exact absurd heq h
    · exact toplevel_doc keep (s :: r) _ _ _ (by have := docCost_le (s :: r); omega)

/-- `[[a]] x = 1 [a.b] y = {p.q = [1, {r = 2},], "s" = 3} [[a]] [a.b] y = -3 [c.d] z = 1979-05-27 07:32:00Z [c] w = 'u'`:
    an array of tables with sub-tables, and a header (`[c]`) after a longer one (`[c.d]`, the F8 shape) -/
def exText : Bytes := [0x5B,0x5B,0x61,0x5D,0x5D,0x20,0x78,0x20,0x3D,0x20,0x31,0x20,0x5B,0x61,0x2E,0x62,0x5D,0x20,0x79,0x20,0x3D,0x20,0x7B,0x70,0x2E,0x71,0x20,0x3D,0x20,0x5B,0x31,0x2C,0x20,0x7B,0x72,0x20,0x3D,0x20,0x32,0x7D,0x2C,0x5D,0x2C,0x20,0x22,0x73,0x22,0x20,0x3D,0x20,0x33,0x7D,0x20,0x5B,0x5B,0x61,0x5D,0x5D,0x20,0x5B,0x61,0x2E,0x62,0x5D,0x20,0x79,0x20,0x3D,0x20,0x2D,0x33,0x20,0x5B,0x63,0x2E,0x64,0x5D,0x20,0x7A,0x20,0x3D,0x20,0x31,0x39,0x37,0x39,0x2D,0x30,0x35,0x2D,0x32,0x37,0x20,0x30,0x37,0x3A,0x33,0x32,0x3A,0x30,0x30,0x5A,0x20,0x5B,0x63,0x5D,0x20,0x77,0x20,0x3D,0x20,0x27,0x75,0x27]

def exDoc : List DStmt := [
  .arr (bare [0x61]), .kv (bare [0x78]) (int [0x31]),
  .std (dottedKey [0x61] [[0x62]]), .kv (bare [0x79]) exTbl,
  .arr (bare [0x61]), .std (dottedKey [0x61] [[0x62]]), .kv (bare [0x79]) (.leaf (.int .minus [0x33])),
  .std (dottedKey [0x63] [[0x64]]),
  .kv (bare [0x7A]) (.leaf (.dt (.ldtSp ⟨[0x31,0x39,0x37,0x39],[],false⟩ ⟨[0x30,0x35],[],false⟩ ⟨[0x32,0x37],[],false⟩
                                        ⟨[0x30,0x37],[],false⟩ ⟨[0x33,0x32],[],false⟩ ⟨[0x30,0x30],[0x5A],false⟩))),
  .std (bare [0x63]), .kv (bare [0x77]) (.leaf (.chr [0x27,0x75,0x27] [0x75]))]

/-- what both build: `{a = [{x = 1, b = {y = {p = {q = [1, {r = 2}]}, s = 3}}}, {b = {y = -3}}],
    c = {d = {z = 1979-05-27T07:32:00Z}, w = "u"}}` -/
def exTable : MVal :=
  .tbl [([0x61], .arr [.tbl [([0x78], .int 1),
                             ([0x62], .tbl [([0x79], .tbl [([0x70], .tbl [([0x71], .arr [.int 1, .tbl [([0x72], .int 2)]])]),
                                                           ([0x73], .int 3)])])],
                       .tbl [([0x62], .tbl [([0x79], .int (-3))])]]),
        ([0x63], .tbl [([0x64], .tbl [([0x7A], .dt ⟨some ⟨1979, 5, 27⟩, some ⟨7, 32, 0, 0⟩, some .z⟩)]),
                       ([0x77], .str [0x75])])]

theorem exDoc_tokens : tokens exText = some (spellDoc exDoc) :=
  Lemmas.Macro19c.tokens_of_lex _ _ (by decide +kernel)

theorem exDoc_macro : macroDocWith true (spellDoc exDoc) = .ok exTable := rIs_sound _ _ (by decide +kernel)

/-- with `keep = false` (the header arm calling `insert_toml`) the sub-table `c.d` is lost -/
theorem exDoc_macro_f8 : macroDocWith false (spellDoc exDoc) =
    .ok (.tbl [([0x61], .arr [.tbl [([0x78], .int 1),
                             ([0x62], .tbl [([0x79], .tbl [([0x70], .tbl [([0x71], .arr [.int 1, .tbl [([0x72], .int 2)]])]),
                                                           ([0x73], .int 3)])])],
                       .tbl [([0x62], .tbl [([0x79], .int (-3))])]]),
               ([0x63], .tbl [([0x77], .str [0x75])])]) := rIs_sound _ _ (by decide +kernel)

/-- **T19_doc.** Let `ds` be a document with the statement list `ss` (`stmtsOf`: `refV` is defined on every value,
    `concat!` accepts every key token). Whenever the parser's state machine (Model/State.lean, verified against the
    definition rules of TOML in Props/C09Equiv.lean) ACCEPTS `ss` and closes it into the document `d`, `toml!`
    (`keep = true`) yields a table, without `unsupported` or `panic`, and it is the same table: the same keys bound
    to the same values at every depth, arrays equal element by element (`Sim`). Only the order in which a table's
    keys were inserted can differ (`T19_doc_order`), which `toml::Table`, a `BTreeMap`, does not record. -/
theorem T19_doc (ds : List DStmt) (ss : List Stmt) (st : ParseState) (d : Tbl) (hne : ds ≠ [])
    (hs : stmtsOf ds = some ss) (hr : run {} ss = some st) (hd : intoDocument st = some d) :
    ∃ m, macroDocWith true (spellDoc ds) = .ok m ∧ Sim m (tblM d) := by
  obtain ⟨m, hm, hsim⟩ := refRun_agrees ss st d hr hd
  refine ⟨m, ?_, hsim⟩
  rw [T19_doc_munch true ds hne, docSem_ref true ds ss hs]
  unfold refRun at hm
  cases h : refRunFrom true (emptyTbl, []) ss with
  | none => simp [h] at hm
  | some p => simp [h] at hm; simp [liftO, hm]

/-- the same for the macro as /repo has it (`macroDoc`; `headerKeeps = true`, the header arm calling `table_toml`), without
    the hypothesis on `intoDocument` (an accepted statement list can always be closed, `T09_run_document_defined`) -/
theorem T19_doc_repo (ds : List DStmt) (ss : List Stmt) (st : ParseState) (hne : ds ≠ [])
    (hs : stmtsOf ds = some ss) (hr : run {} ss = some st) :
    ∃ d m, intoDocument st = some d ∧ macroDoc (spellDoc ds) = .ok m ∧ Sim m (tblM d) := by
  have hdef := TomlVerif.Props.C09.T09_run_document_defined ss st hr
  cases hd : intoDocument st with
  | none => simp [hd] at hdef
  | some d =>
    obtain ⟨m, hm, hsim⟩ := T19_doc ds ss st d hne hs hr hd
    have hk : headerKeeps = true := by decide
    refine ⟨d, m, rfl, ?_, hsim⟩
    unfold macroDoc
    rw [hk]
    exact hm

/-- the parser accepts `exDoc` and its document, read as a `toml::Value`, is `exTable` — here with the keys in the
    same order as the macro's (`exDoc_macro`) -/
theorem exDoc_parsed : parsedTable exDoc = some exTable := optIs_sound _ _ (by decide +kernel)

/-- non-vacuity of `T19_doc`: `exDoc` meets its hypotheses -/
example : exDoc ≠ [] ∧ ∃ ss st d, stmtsOf exDoc = some ss ∧ run {} ss = some st ∧ intoDocument st = some d ∧
    tblM d = exTable :=
  ⟨by simp [exDoc], parsedTable_some exDoc exTable exDoc_parsed⟩

/-- `[a.b]  [c]  [a]`: a super-table declared after its sub-table, with another table in between -/
def orderDoc : List DStmt := [.std (dottedKey [0x61] [[0x62]]), .std (bare [0x63]), .std (bare [0x61])]

/-- where the two differ for valid TOML: the macro keeps `a` where `[a.b]` created it, the parser's document lists
    `a` where `[a]` declared it (keys `a, c` against `c, a`). As maps the tables are the same (`T19_doc`). -/
theorem T19_doc_order :
    macroDocWith true (spellDoc orderDoc) = .ok (.tbl [([0x61], .tbl [([0x62], .tbl [])]), ([0x63], .tbl [])]) ∧
    parsedTable orderDoc = some (.tbl [([0x63], .tbl []), ([0x61], .tbl [([0x62], .tbl [])])]) :=
  ⟨by rfl, optIs_sound _ _ (by decide +kernel)⟩

/-- `[a.b] x = 1 [a] y = 2`, the F8 witness of Props/C19.lean as a document -/
def f8Doc : List DStmt :=
  [.std (dottedKey [0x61] [[0x62]]), .kv (bare [0x78]) (int [0x31]), .std (bare [0x61]), .kv (bare [0x79]) (int [0x32])]

/-- its spelling is `f8Toks`; the parser accepts it and its document is `f8Parsed`, which the macro builds with
    `keep = true` and not with `keep = false` (`C19.T19_finding_repaired`, `C19.T19_finding`) -/
theorem f8Doc_parsed : spellDoc f8Doc = C19.f8Toks ∧ parsedTable f8Doc = some C19.f8Parsed :=
  ⟨by rfl, optIs_sound _ _ (by decide +kernel)⟩

/-- `a = 1  a = 2` -/
def dupDoc : List DStmt := [.kv (bare [0x61]) (int [0x31]), .kv (bare [0x61]) (int [0x32])]
/-- `a = 1  a.b = 2` -/
def dotValDoc : List DStmt := [.kv (bare [0x61]) (int [0x31]), .kv (dottedKey [0x61] [[0x62]]) (int [0x32])]
/-- `a = 1  [a]  x = 2` -/
def hdrValDoc : List DStmt := [.kv (bare [0x61]) (int [0x31]), .std (bare [0x61]), .kv (bare [0x78]) (int [0x32])]
/-- `[a]  x = 1  [a]  y = 2` -/
def hdrTwiceDoc : List DStmt :=
  [.std (bare [0x61]), .kv (bare [0x78]) (int [0x31]), .std (bare [0x61]), .kv (bare [0x79]) (int [0x32])]
/-- `[a]  x = 1  [[a]]  y = 2` -/
def aotAfterStdDoc : List DStmt :=
  [.std (bare [0x61]), .kv (bare [0x78]) (int [0x31]), .arr (bare [0x61]), .kv (bare [0x79]) (int [0x32])]
/-- `a = []  a.b = 1` -/
def emptyArrDoc : List DStmt := [.kv (bare [0x61]) (.arr [] false), .kv (dottedKey [0x61] [[0x62]]) (int [0x31])]

/-- is the document accepted by the parser's state machine? (`none`: a value or key is already rejected) -/
def parserAccepts (ds : List DStmt) : Option Bool := (stmtsOf ds).map fun ss => (run {} ss).isSome

/-- `toml!` has none of the parser's definition rules. Each of these documents is rejected by the parser
    (`parserAccepts … = some false`: the statements are well-formed, the state machine says no) and compiles:
    a duplicate key — the last value wins; a dotted key through a value — replaced by a table; a header naming a
    value — replaced by a table; the same header twice — merged; `[[a]]` after `[a]` — the table is replaced by an
    array. The last one is rejected by the parser and panics at run time in the macro. -/
theorem T19_macro_more_permissive :
    (parserAccepts dupDoc = some false ∧ macroDocWith true (spellDoc dupDoc) = .ok (.tbl [([0x61], .int 2)])) ∧
    (parserAccepts dotValDoc = some false ∧
      macroDocWith true (spellDoc dotValDoc) = .ok (.tbl [([0x61], .tbl [([0x62], .int 2)])])) ∧
    (parserAccepts hdrValDoc = some false ∧
      macroDocWith true (spellDoc hdrValDoc) = .ok (.tbl [([0x61], .tbl [([0x78], .int 2)])])) ∧
    (parserAccepts hdrTwiceDoc = some false ∧
      macroDocWith true (spellDoc hdrTwiceDoc) = .ok (.tbl [([0x61], .tbl [([0x78], .int 1), ([0x79], .int 2)])])) ∧
    (parserAccepts aotAfterStdDoc = some false ∧
      macroDocWith true (spellDoc aotAfterStdDoc) = .ok (.tbl [([0x61], .arr [.tbl [([0x79], .int 2)]])])) ∧
    (parserAccepts emptyArrDoc = some false ∧ macroDocWith true (spellDoc emptyArrDoc) = .panic) :=
  ⟨⟨by decide +kernel, rIs_sound _ _ (by decide +kernel)⟩, ⟨by decide +kernel, rIs_sound _ _ (by decide +kernel)⟩,
   ⟨by decide +kernel, rIs_sound _ _ (by decide +kernel)⟩, ⟨by decide +kernel, rIs_sound _ _ (by decide +kernel)⟩,
   ⟨by decide +kernel, rIs_sound _ _ (by decide +kernel)⟩, ⟨by decide +kernel, by rfl⟩⟩

/-- the two-sided statement: the macro yields a table exactly when the state machine accepts -/
def T19_doc_iff : Prop :=
  ∀ (ds : List DStmt) (ss : List Stmt), ds ≠ [] → stmtsOf ds = some ss →
    ((∃ m, macroDocWith true (spellDoc ds) = .ok m) ↔ (run {} ss).isSome = true)

/-- it is false (only `←` holds, `T19_doc`): `a = 1  a = 2` compiles and the parser rejects it -/
theorem T19_doc_iff_false : ¬ T19_doc_iff := by
  intro h
  have := (h dupDoc [.kv [] [0x61] (.int 1), .kv [] [0x61] (.int 2)] (by simp [dupDoc]) (by rfl)).1 ⟨_, by rfl⟩
  revert this
  decide

end TomlVerif.Props.C19Full
