import TomlVerif.Lemmas.TypedGapsParsed
import TomlVerif.Props.C13Typed
/-! C13 for typed targets, on parsed documents: the well-formedness hypothesis `WfItem` of `T13_typed_routes_agree`
    splits into a part every tree returned by `parse_document` has (`WfItem'`: in every table at every depth — inline
    tables, tables, every element of every array of tables — the keys are distinct, and every date-time prints and
    re-reads; `T13_parsed_wf`, an invariant of the definition state machine over the statements of a text) and the
    part that stays a hypothesis (`NoPrivateKey`: no table has the private date-time key, which the parser accepts
    like any other key; `T13_F24_needed` shows the routes do return different values without it). -/
namespace TomlVerif.Props.C13TypedParsed
open TomlVerif TomlVerif.Model TomlVerif.Model.TomlValue TomlVerif.Model.DeRoutes TomlVerif.Model.DeTyped
open TomlVerif.Lemmas.DeTyped13 TomlVerif.Lemmas.TypedGapsParsed TomlVerif.Props.C13Typed

export TomlVerif.Lemmas.TypedGapsParsed (WfTV' WfVs' WfPs' NoPrivTV NoPrivVs NoPrivPs noPrivB noPrivB_iff)

/-- what the document parser guarantees: distinct keys in every table at every depth, date-times that print and
re-read (`WfTV'`, `WfVs'`, `WfPs'` are `WfTV`, `WfVs`, `WfPs` without the clause about the private key) -/
def WfItem' (it : Item) : Prop := WfTV' (plainItem it)

/-- what it does not: no table at any depth has the private date-time key -/
def NoPrivateKey (it : Item) : Prop := NoPrivTV (plainItem it)

theorem wfItem_iff (it : Item) : WfItem it ↔ WfItem' it ∧ NoPrivateKey it := wfTV_iff (plainItem it)

theorem noPrivateKey_iff (it : Item) : NoPrivateKey it ↔ noPrivB (plainItem it) = true := (noPrivB_iff _).symm

/-- Every table `parse_document` returns is well formed apart from the private key: a date-time it read has its fields
in range and a four-digit year (so `T12_roundtrip` applies), `table_from_pairs` refuses a key that is present, and every
handler of the definition state machine keeps "keys distinct, values good" in every table, all elements of all arrays
of tables included. -/
theorem T13_parsed_wf (s : Bytes) (T : Tbl) (h : Doc.parseDocument s = some T) : WfItem' (.table T) :=
  (gi_table T).2 (parseDocument_good s T h)

/-- a parsed document without the private key satisfies the hypothesis of `T13_typed_routes_agree` -/
theorem T13_parsed_wfItem (s : Bytes) (T : Tbl) (hp : Doc.parseDocument s = some T) (hk : NoPrivateKey (.table T)) :
    WfItem (.table T) :=
  (wfItem_iff _).2 ⟨T13_parsed_wf s T hp, hk⟩

/-- For every target type, both builds of the map and every accepted document none
of whose tables has the private date-time key, a text route and the route through `toml::Value` return equal results
whenever both succeed. -/
theorem T13_typed_routes_agree_parsed (fl : Flavour) (ty : Ty) (s : Bytes) (T : Tbl) (d d' : Dec)
    (hp : Doc.parseDocument s = some T) (hk : NoPrivateKey (.table T))
    (h1 : editRoute editAsIs fl ty (.table T) = .ok d) (h2 : valueRoute valueAsIs fl ty (.table T) = .ok d') : d = d' :=
  T13_typed_routes_agree fl ty (.table T) (T13_parsed_wfItem s T hp hk) d d' h1 h2

/-- the same through the `toml::de` wrappers (`toml::from_str::<T>` itself) -/
theorem T13_typed_routes_agree_parsed_toml (fl : Flavour) (ty : Ty) (s : Bytes) (T : Tbl) (d d' : Dec)
    (hp : Doc.parseDocument s = some T) (hk : NoPrivateKey (.table T))
    (h1 : tomlRoute editAsIs fl ty (.table T) = .ok d) (h2 : valueRoute valueAsIs fl ty (.table T) = .ok d') : d = d' :=
  T13_typed_routes_agree_toml fl ty (.table T) (T13_parsed_wfItem s T hp hk) d d' h1 h2

/-- the same for the route through `toml::Table` -/
theorem T13_typed_routes_agree_parsed_table (fl : Flavour) (ty : Ty) (s : Bytes) (T : Tbl) (d d' : Dec)
    (hp : Doc.parseDocument s = some T) (hk : NoPrivateKey (.table T))
    (h1 : editRoute editAsIs fl ty (.table T) = .ok d) (h2 : tableRoute valueAsIs fl ty (.table T) = .ok d') : d = d' :=
  T13_typed_routes_agree_table fl ty T (T13_parsed_wfItem s T hp hk) d d' h1 h2

/-- an inline table, a value, an array of tables with a date-time; keys out of order -/
def exText : Bytes := strBytes "b = { y = 1 }\na = 2\n[[t]]\nd = 1979-05-27\n"

/-- `struct { a: i64, b: BTreeMap<String, i64>, t: Vec<struct { d: Datetime }> }` -/
def exTy : Ty :=
  .struct (.cons [97] i64 false (.cons [98] (.map i64) false
    (.cons [116] (.seq (.struct (.cons [100] .datetime false .nil))) false .nil)))

theorem exText_accepted : (Doc.parseDocument exText).isSome = true := by
  rw [exText, strBytes_eq rfl]; decide +kernel

/-- the text is accepted, its table has no private key, and the three routes succeed (so the three theorems above
apply to it with both hypotheses and both premises true) -/
example : ∃ T, Doc.parseDocument exText = some T ∧ NoPrivateKey (.table T) ∧
    isOk (editRoute editAsIs .sorted exTy (.table T)) = true ∧
    isOk (tomlRoute editAsIs .sorted exTy (.table T)) = true ∧
    isOk (valueRoute valueAsIs .sorted exTy (.table T)) = true ∧
    isOk (tableRoute valueAsIs .sorted exTy (.table T)) = true := by
  cases h : Doc.parseDocument exText with
  | none => have := exText_accepted; rw [h] at this; cases this
  | some T =>
    -- `T` is opaque to the kernel; `(parseDocument …).getD Tbl.empty` is the same table as a closed term it evaluates
    have e : (Doc.parseDocument exText).getD Tbl.empty = T := by rw [h]; rfl
    rw [exText, strBytes_eq rfl] at e
    refine ⟨T, rfl, ?_⟩
    rw [noPrivateKey_iff, ← e]
    decide +kernel

/-- `"$__toml_private_datetime" = "1979-05-27"` and `b = 1` -/
def privText : Bytes := strBytes "\"$__toml_private_datetime\" = \"1979-05-27\"\nb = 1\n"

/-- `struct { b: Option<i64> }` -/
def privTy : Ty := .struct (.cons [98] (.option i64) false .nil)

theorem privText_accepted : (Doc.parseDocument privText).isSome = true := by
  rw [privText, strBytes_eq rfl]; decide +kernel

/-- reads off whether the one field of a decoded one-field struct is `Some` (`Dec` has no decidable equality) -/
def fieldIsSome : R Dec → Option Bool
  | .ok (.struct [(_, .some _)]) => some true
  | .ok (.struct [(_, .none)]) => some false
  | _ => none

/-- Without `NoPrivateKey` the conclusion of `T13_typed_routes_agree_parsed` is false. The accepted
text `privText` has the private key at the root (and satisfies `WfItem'`, like every accepted text); both routes
succeed and return different values: `toml_edit`'s deserializer reads `b = Some(1)`, whereas `toml::Value`'s visitor
takes the table for a date-time (dropping `b`), and its deserializer answers `b = None`. -/
theorem T13_F24_needed : ∃ T d d', Doc.parseDocument privText = some T ∧ ¬ NoPrivateKey (.table T) ∧ WfItem' (.table T) ∧
    editRoute editAsIs .sorted privTy (.table T) = .ok d ∧
    valueRoute valueAsIs .sorted privTy (.table T) = .ok d' ∧ d ≠ d' := by
  cases h : Doc.parseDocument privText with
  | none => have := privText_accepted; rw [h] at this; cases this
  | some T =>
    have e : (Doc.parseDocument privText).getD Tbl.empty = T := by rw [h]; rfl
    rw [privText, strBytes_eq rfl] at e
    obtain ⟨h1, h2, h3⟩ : fieldIsSome (editRoute editAsIs .sorted privTy (.table T)) = some true ∧
        fieldIsSome (valueRoute valueAsIs .sorted privTy (.table T)) = some false ∧
        ¬ noPrivB (plainItem (.table T)) = true := by
      rw [← e]; decide +kernel
    cases hE : editRoute editAsIs .sorted privTy (.table T) with
    | error x => rw [hE] at h1; simp [fieldIsSome] at h1
    | ok d =>
      cases hV : valueRoute valueAsIs .sorted privTy (.table T) with
      | error x => rw [hV] at h2; simp [fieldIsSome] at h2
      | ok d' =>
        refine ⟨T, d, d', rfl, ?_, T13_parsed_wf _ T h, hE, hV, ?_⟩
        · rw [noPrivateKey_iff]; exact h3
        · intro hd
          rw [hE] at h1; rw [hV, ← hd, h1] at h2
          cases h2

end TomlVerif.Props.C13TypedParsed
