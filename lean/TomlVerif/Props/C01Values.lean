import TomlVerif.Lemmas.ValueComplete01
import TomlVerif.Lemmas.ScalarTokens01
import TomlVerif.Lemmas.InlineKeys01
import TomlVerif.Lemmas.ValEq
/-! # C01 / C02 for values — every value the grammar generates is accepted and decodes to what it says; which
concrete tokens are scalar tokens

`Spec/AstValue.lean` gives the abstract syntax (`AVal`: scalar tokens, arrays with trivia, optional
trailing comma, inline tables with bare keys), `render` (the bytes) and `sem` (the value denoted).
Scalars are abstract: a `ScalarTok` is any token with `ScalarOK`. -/
namespace TomlVerif.Props.C01Values
open TomlVerif TomlVerif.Spec TomlVerif.Model TomlVerif.Model.Strings TomlVerif.Model.Value
open TomlVerif.Spec.AstValue TomlVerif.Lemmas.Value01 TomlVerif.Lemmas.ValEq TomlVerif.Lemmas.Scalars01
open TomlVerif.Model.Numbers TomlVerif.Lemmas.Numbers11 TomlVerif.Model.Datetime TomlVerif.Props.C12
open TomlVerif.Lemmas.InlineKeys01 TomlVerif.Spec.AstValueQ TomlVerif.Lemmas.Sound01C

/-- trivia (`ws-comment-newline`) is consumed exactly: everything rendered from the trivia pieces and
    nothing more, given enough fuel (the callers pass `input.length + 1`) -/
theorem T01_wcn (w : Wcn) (fuel : Nat) (rest : Bytes) (hw : WcnWF w) (hr : NoTriviaHead rest)
    (hf : (renderWcn w).length < fuel) : wsCommentNewline fuel (renderWcn w ++ rest) = some rest :=
  wcn_exact w fuel rest hw hr hf

/-- non-vacuity: `  # c` CRLF tab LF before `1` -/
example : WcnWF [.ws [0x20, 0x20], .comment [0x20, 0x63] true, .ws [0x09], .nl false] ∧
    NoTriviaHead [0x31] ∧
    renderWcn [.ws [0x20, 0x20], .comment [0x20, 0x63] true, .ws [0x09], .nl false] =
      [0x20, 0x20, 0x23, 0x20, 0x63, 0x0D, 0x0A, 0x09, 0x0A] := by
  refine ⟨?_, by simp [NoTriviaHead]; decide, by decide⟩
  intro p hp
  simp at hp
  rcases hp with rfl | rfl | rfl | rfl <;> simp [Piece.WF, isWschar, isNonEol, inR]

/-- `line_trailing` consumes `ws [comment] newline` exactly -/
theorem T01_lineTrailing (bs : Bytes) (cm : Option Bytes) (crlf : Bool) (rest : Bytes) (hbs : AllWs bs)
    (hcm : ∀ body, cm = some body → ∀ b ∈ body, isNonEol b = true) :
    lineTrailing (bs ++ (commentBytes cm ++ (nlBytes crlf ++ rest))) = .ok () rest :=
  lineTrailing_nl bs cm crlf rest hbs hcm

/-- `line_trailing` accepts `ws [comment]` at the end of the input -/
theorem T01_lineTrailing_eof (bs : Bytes) (cm : Option Bytes) (hbs : AllWs bs)
    (hcm : ∀ body, cm = some body → ∀ b ∈ body, isNonEol b = true) :
    lineTrailing (bs ++ commentBytes cm) = .ok () [] :=
  lineTrailing_eof bs cm hbs hcm

example : lineTrailing ([0x20] ++ (commentBytes (some [0x78]) ++ (nlBytes true ++ [0x61]))) = .ok () [0x61] := by
  decide

example : lineTrailing ([0x09] ++ commentBytes (some [0x78])) = .ok () [] := by decide

/-- **completeness of values**: every well-formed syntax tree (scalar, array or inline table) nested below the limit is
    accepted, consumes exactly its rendering, and decodes to the value it denotes.
    `2 * length` fuel suffices (`parseValue` gives `3 * length + 4`). -/
theorem T01_array_complete (a : AVal) (hwf : WF a) (d fuel : Nat) (rest : Bytes) (hd : d + depth a < LIMIT)
    (hr : ValFollowS rest) (hf : 2 * (render a).length ≤ fuel) :
    value fuel d (render a ++ rest) = .ok (sem a) rest := by
  rw [← ofAVal_depth] at hd
  rw [← ofAVal_render] at hf ⊢
  rw [← ofAVal_sem]
  exact val_okQ _ (ofAVal_wf a hwf) d fuel rest hd hr hf

/-- for arrays and inline tables nothing is needed of what follows -/
theorem T01_container_complete (a : AVal) (hwf : WF a) (hc : ∀ t, a ≠ .scalar t) (d fuel : Nat) (rest : Bytes)
    (hd : d + depth a < LIMIT) (hf : 2 * (render a).length ≤ fuel) :
    value fuel d (render a ++ rest) = .ok (sem a) rest := by
  rw [← ofAVal_depth] at hd
  rw [← ofAVal_render] at hf ⊢
  rw [← ofAVal_sem]
  refine cont_okQ _ (ofAVal_wf a hwf) ?_ d fuel rest hd hf
  intro t e
  cases a with
  | scalar t' => exact hc t' rfl
  | arr items tc tail => rw [ofAVal] at e; cases e
  | inl items tail => rw [ofAVal] at e; cases e

/-- the same for `parseValue` on a whole text: the fuel it gives is enough -/
theorem T01_parseValue_complete (a : AVal) (hwf : WF a) (hd : depth a < LIMIT) :
    parseValue (render a) = some (sem a) := by
  have := T01_array_complete a hwf 0 (3 * (render a).length + 4) [] (by omega) ⟨trivial, by intro b r h; cases h⟩ (by omega)
  rw [List.append_nil] at this
  unfold parseValue
  rw [this]

/-- the decoded array is the list of decoded items -/
theorem T01_sem_arr (items : List (Wcn × AVal × Wcn)) (tc : Bool) (tail : Wcn) :
    sem (.arr items tc tail) = .arr (items.map fun i => sem i.2.1) := by
  simp [sem, semItems_eq_map]

/-- the decoded inline table is its entries `path . key = value`, in source order, assembled by `tableFromPairs`
    (the code's `table_from_pairs`: dotted keys open nested tables, a key defined twice is an error) -/
theorem T01_sem_inl (items : List (DKey × Bytes × AVal × Bytes)) (tail : Bytes) :
    sem (.inl items tail) =
      .inl ((tableFromPairs (items.map fun i => (i.1.path, i.1.last, sem i.2.2.1)) []).getD []) false false := by
  simp [sem, flatPairs_eq_map]

/-- with plain (non-dotted), pairwise distinct keys the well-formedness condition on the entries holds and the
    decoded table is the list of entries in order -/
theorem T01_sem_inl_plain (items : List (DKey × Bytes × AVal × Bytes)) (tail : Bytes)
    (hp : ∀ i ∈ items, i.1.more = []) (hn : (items.map fun i => i.1.first.key).Nodup) :
    (tableFromPairs (flatPairs items) []).isSome = true ∧
    sem (.inl items tail) = .inl (items.map fun i => (i.1.first.key, sem i.2.2.1)) false false := by
  have := tableFromPairs_plain items [] hp hn (by simp)
  simp [sem, this]

/-! non-vacuity: `[ true,# c⏎ [false ,] , {a = true,b={ }},⏎]` (`exampleText` is its UTF-8 encoding) -/
def exampleTree : AVal :=
  .arr [ ([.ws [0x20]], .scalar trueTok, []),
         ([.comment [0x20, 0x63] false, .ws [0x20]], .arr [([], .scalar falseTok, [.ws [0x20]])] true [], [.ws [0x20]]),
         ([.ws [0x20]], .inl [ (⟨⟨[], [0x61], [0x20]⟩, []⟩, [0x20], .scalar trueTok, []),
                               (⟨⟨[], [0x62], []⟩, []⟩, [], .inl [] [0x20], []) ] [], []) ]
       true [.nl false]

def exampleText : Bytes :=
  [91, 32, 116, 114, 117, 101, 44, 35, 32, 99, 10, 32, 91, 102, 97, 108, 115, 101, 32, 44, 93, 32, 44, 32, 123, 97, 32, 61, 32, 116, 114, 117, 101, 44, 98, 61, 123, 32, 125, 125, 44, 10, 93]

theorem exampleTree_render : render exampleTree = exampleText := by decide +kernel

theorem exampleTree_wf : WF exampleTree := by
  simp only [exampleTree, WF, WFItems, WFPairs]
  decide +kernel

example : depth exampleTree = 3 := by decide

example : parseValue exampleText =
    some (.arr [.bool true, .arr [.bool false], .inl [([0x61], .bool true), ([0x62], .inl [] false false)] false false]) := by
  have h := T01_parseValue_complete exampleTree exampleTree_wf (by decide)
  rw [exampleTree_render] at h
  rw [h]
  exact congrArg some (beqV_sound _ _ (by decide +kernel))

/-- non-vacuity of `T01_container_complete`: the same text followed by arbitrary bytes (here `x`) -/
example : value 100 0 (exampleText ++ [0x78]) =
    .ok (.arr [.bool true, .arr [.bool false], .inl [([0x61], .bool true), ([0x62], .inl [] false false)] false false]) [0x78] := by
  have h := T01_container_complete exampleTree exampleTree_wf (by intro t h; cases h) 0 100 [0x78] (by decide)
    (by rw [exampleTree_render]; decide)
  rw [exampleTree_render] at h
  rw [h]
  exact congrArg (Res.ok · [0x78]) (beqV_sound _ _ (by decide +kernel))

/-! non-vacuity with dotted keys: `{a.b = true, a . c={x=false},d=[true]}` -/
def dottedTree : AVal :=
  .inl [ (⟨⟨[], [0x61], []⟩, [⟨[], [0x62], [0x20]⟩]⟩, [0x20], .scalar trueTok, []),
         (⟨⟨[0x20], [0x61], [0x20]⟩, [⟨[0x20], [0x63], []⟩]⟩, [],
            .inl [(⟨⟨[], [0x78], []⟩, []⟩, [], .scalar falseTok, [])] [], []),
         (⟨⟨[], [0x64], []⟩, []⟩, [], .arr [([], .scalar trueTok, [])] false [], []) ] []

def dottedText : Bytes :=
  [123, 97, 46, 98, 32, 61, 32, 116, 114, 117, 101, 44, 32, 97, 32, 46, 32, 99, 61, 123, 120, 61, 102, 97, 108, 115, 101, 125, 44, 100, 61, 91, 116, 114, 117, 101, 93, 125]

theorem dottedTree_render : render dottedTree = dottedText := by decide +kernel

theorem dottedTree_wf : WF dottedTree := by
  simp only [dottedTree, WF, WFItems, WFPairs]
  decide +kernel

example : depth dottedTree = 3 := by decide

example : parseValue dottedText =
    some (.inl [([0x61], .inl [([0x62], .bool true), ([0x63], .inl [([0x78], .bool false)] false false)] true true),
                ([0x64], .arr [.bool true])] false false) := by
  have h := T01_parseValue_complete dottedTree dottedTree_wf (by decide)
  rw [dottedTree_render] at h
  rw [h]
  exact congrArg some (beqV_sound _ _ (by decide +kernel))

/-- **duplicate check of inline tables** (`table_from_pairs`): entries `path . key = v` whose values come from
    the value parser (never an implicit table) can be assembled exactly when no full key is a prefix of, or
    equal to, another one (`Incomp p q := ¬ p <+: q ∧ ¬ q <+: p`) -/
theorem T01_tableFromPairs_iff (l : List (List Bytes × Bytes × Val)) (hv : ∀ e ∈ l, NotImplicit e.2.2) :
    (tableFromPairs l []).isSome = true ↔ (l.map fun e => e.1 ++ [e.2.1]).Pairwise Incomp :=
  tableFromPairs_iff l hv

/-- what `value` returns is never an implicit table, so the hypothesis of `T01_tableFromPairs_iff` holds for
    everything `inlineKeyvals` collects -/
theorem T01_value_notImplicit (fuel d : Nat) (s : Bytes) (v : Val) (rest : Bytes) (h : value fuel d s = .ok v rest) :
    NotImplicit v := value_notImplicit fuel d s v rest h

/-- when it succeeds the assembled table defines exactly the given full keys -/
theorem T01_tableFromPairs_keys (l : List (List Bytes × Bytes × Val)) (hv : ∀ e ∈ l, NotImplicit e.2.2)
    (items : List (Bytes × Val)) (h : tableFromPairs l [] = some items) :
    ∀ p, p ∈ leafKeys items ↔ p ∈ l.map fun e => e.1 ++ [e.2.1] := by
  intro p
  rw [((tableFromPairs_spec l [] inv_nil hv).2 items h).2 p]
  simp [leafKeys, fullKey]

/-- for the syntax tree: the well-formedness condition on an inline table is exactly "the dotted keys are
    pairwise prefix-incomparable" -/
theorem T01_inline_wf_iff (items : List (DKey × Bytes × AVal × Bytes)) (hwf : WFPairs items) :
    (tableFromPairs (flatPairs items) []).isSome = true ↔ (items.map fun i => i.1.keys).Pairwise Incomp :=
  inl_assembles_iff items hwf

/-- non-vacuity: the keys `a.b`, `a.c`, `d` of `dottedTree` are pairwise incomparable -/
example : ([[[0x61], [0x62]], [[0x61], [0x63]], [[0x64]]] : List (List Bytes)).Pairwise Incomp := by
  simp [Incomp, List.cons_prefix_cons]

/-- a key defined twice is not well-formed: `{a.b=true,a=false}` -/
example : (tableFromPairs [([[0x61]], [0x62], .bool true), ([], [0x61], .bool false)] []).isSome = false := by
  decide +kernel

/-- `true` and `false` are scalar tokens -/
theorem T01_scalar_true : ScalarOK ⟨[0x74, 0x72, 0x75, 0x65], .bool true⟩ := scalarOK_true
theorem T01_scalar_false : ScalarOK ⟨[0x66, 0x61, 0x6C, 0x73, 0x65], .bool false⟩ := scalarOK_false

/-- decimal integer literals `[+-]? g0 _ g1 …` in the i64 range (a literal followed by a follow byte is
    neither a date-time nor a float) -/
theorem T01_scalar_dec (sign : Option Bool) (groups : List Bytes) (hg : GoodGroups isDigit groups)
    (hz : NoLeadingZero groups) (hin : inI64 (decValue sign groups) = true) :
    ScalarOK ⟨signBytes sign ++ joinU groups, .int (decValue sign groups)⟩ :=
  scalarOK_dec sign groups hg hz hin

/-- the float writer's token for a finite non-zero value -/
theorem T01_scalar_float (neg negD : Bool) (intDs : Bytes) (frac : Option Bytes)
    (hne : intDs ≠ []) (hi : AllB isDigit intDs) (hz : ∀ t, intDs = 0x30 :: t → t = [])
    (hf : ∀ f, frac = some f → f ≠ [] ∧ AllB isDigit f)
    (hfin : Ieee.isInfBits (FloatLit.bits ⟨negD, intDs, frac.getD [0x30], false, []⟩) = false) :
    ScalarOK ⟨writeFloat neg false false (!(dispBytes negD intDs frac).contains 0x2E) (dispBytes negD intDs frac),
      .float (FloatLit.bits ⟨negD, intDs, frac.getD [0x30], false, []⟩)⟩ :=
  scalarOK_float neg negD intDs frac hne hi hz hf hfin

/-- what `Display` prints for a date-time with fields in range and year at most 9999 is a scalar token -/
theorem T01_scalar_datetime (dt : Datetime) (h : FieldsInRange dt) (hy : ∀ d, dt.date = some d → d.year ≤ 9999) :
    ScalarOK ⟨Std.display dt, .dt dt⟩ :=
  scalarOK_datetime dt h hy

/-- every string token the writer produces, in any style -/
theorem T01_scalar_string (st : Write.VStyle) (s tok : Bytes) (h : Write.writeValue st s = some tok) :
    ScalarOK ⟨tok, .str s⟩ :=
  scalarOK_string st s tok h

/-- `ScalarOK` asks for `ValFollowS` (a space is not followed by a digit), not just `ValFollow`.  With
    `ValFollow` alone the date-time instance is false: `1979-05-27` followed by ` 07:32:00` is read as a
    local date-time. -/
def ScalarOKWeak (t : ScalarTok) : Prop :=
  ∀ fuel d rest, 0 < fuel → ValFollow rest → value fuel d (t.tok ++ rest) = .ok t.v rest

theorem T01_scalar_datetime_weak_false :
    ¬ ScalarOKWeak ⟨Std.display ⟨some ⟨1979, 5, 27⟩, none, none⟩, .dt ⟨some ⟨1979, 5, 27⟩, none, none⟩⟩ := by
  intro h
  obtain ⟨hdt, hfol⟩ := date_then_time
  have h1 := h 1 0 _ (by decide) hfol
  obtain ⟨b, t, e, hd⟩ := Lemmas.Sound01.dateTime_head hdt
  rw [e] at hdt h1
  rw [value_dt 0 0 b t [] _ (digit_start_facts b hd).1 hdt] at h1
  injection h1 with _ h1
  cases h1

/-! non-vacuity of the instances: `[1_000, -2.5,"a", 1979-05-27]` -/
def intTok : ScalarTok := ⟨signBytes none ++ joinU [[0x31], [0x30, 0x30, 0x30]], .int (decValue none [[0x31], [0x30, 0x30, 0x30]])⟩
def fltTok : ScalarTok :=
  ⟨writeFloat true false false (!(dispBytes true [0x32] (some [0x35])).contains 0x2E) (dispBytes true [0x32] (some [0x35])),
    .float (FloatLit.bits ⟨true, [0x32], (some [0x35] : Option Bytes).getD [0x30], false, []⟩)⟩
def strTok : ScalarTok := ⟨[0x22, 0x61, 0x22], .str [0x61]⟩
def dateTok : ScalarTok := ⟨Std.display ⟨some ⟨1979, 5, 27⟩, none, none⟩, .dt ⟨some ⟨1979, 5, 27⟩, none, none⟩⟩

theorem intTok_ok : ScalarOK intTok :=
  T01_scalar_dec none [[0x31], [0x30, 0x30, 0x30]]
    ⟨by simp, by intro g hg; simp at hg; rcases hg with hg | hg <;> subst hg <;> exact ⟨by simp, by decide⟩⟩
    (by intro g0 gs h; injection h with h _; injection h with h _; exact absurd h (by decide)) (by decide +kernel)

theorem fltTok_ok : ScalarOK fltTok :=
  T01_scalar_float true true [0x32] (some [0x35]) (by decide) (by decide) (by intro t h; simp at h)
    (by intro f h; injection h with h; subst h; exact ⟨by decide, by decide⟩) (by decide +kernel)

theorem strTok_ok : ScalarOK strTok := T01_scalar_string .default [0x61] [0x22, 0x61, 0x22] (by decide +kernel)

theorem dateTok_ok : ScalarOK dateTok := by
  refine T01_scalar_datetime ⟨some ⟨1979, 5, 27⟩, none, none⟩ ⟨?_, ?_, ?_, ?_⟩ ?_
  · intro d h; injection h with h; subst h; simp [DateInRange, maxDays]
  · intro t h; cases h
  · intro o h; cases h
  · simp [ShapeOk]
  · intro d h; injection h with h; subst h; decide

def scalarsTree : AVal :=
  .arr [ ([], .scalar intTok, []), ([.ws [0x20]], .scalar fltTok, []), ([], .scalar strTok, []),
         ([.ws [0x20]], .scalar dateTok, []) ] false []

def scalarsText : Bytes :=
  [91, 49, 95, 48, 48, 48, 44, 32, 45, 50, 46, 53, 44, 34, 97, 34, 44, 32, 49, 57, 55, 57, 45, 48, 53, 45, 50, 55, 93]

theorem scalarsTree_render : render scalarsTree = scalarsText := by decide +kernel

theorem scalarsTree_wf : WF scalarsTree := by
  simp [scalarsTree, WF, WFItems, WcnWF, Piece.WF, intTok_ok, fltTok_ok, strTok_ok, dateTok_ok, isWschar]

example : parseValue scalarsText =
    some (.arr [.int 1000, .float 13836183955189006336, .str [0x61], .dt ⟨some ⟨1979, 5, 27⟩, none, none⟩]) := by
  have h := T01_parseValue_complete scalarsTree scalarsTree_wf (by decide)
  rw [scalarsTree_render] at h
  rw [h]
  exact congrArg some (beqV_sound _ _ (by decide +kernel))

end TomlVerif.Props.C01Values
