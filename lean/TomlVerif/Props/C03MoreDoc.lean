import TomlVerif.Props.C03More
/-! C03 — document-level tiling with dotted keys INSIDE inline tables (the dotted-key class of
    `Props/C03Nest.lean` joined with the value class of `Props/C03MoreInline.lean`).

    The class is source-side only: `nestRunV s` (`Lemmas/Tiling03NestV.lean`) is `nestRun true s`
    where the requirement on the VALUE of a key/value line is relaxed from `simpleVal v` (no dotted
    key inside any inline table) to the checked run of the value parser, `okValue`. -/
namespace TomlVerif.Props.C03More
open TomlVerif TomlVerif.Model TomlVerif.Model.Cst TomlVerif.Model.Encode
open TomlVerif.Lemmas.Cst03 TomlVerif.Lemmas.Tiling03 TomlVerif.Lemmas.Tiling03Hdr TomlVerif.Lemmas.Tiling03Nest
open TomlVerif.Lemmas.Tiling03More
open TomlVerif.Props.C03 TomlVerif.Props.C03Doc TomlVerif.Props.C03Hdr TomlVerif.Props.C03Nest

/-- the tree side follows from the source side: the tree a checked run builds has no root
    decor, its tables are met in position order, every header has an explicit prefix decor -/
theorem T03_preorder_of_runV (s : Bytes) (d : CDoc) (h : parseCst s = some d) (hrun : nestRunV s = true) :
    preorderDoc d = true :=
  preorder_of_runV s d h hrun

/-- class inclusion: the class of `T03_doc_tiling_source` is inside `nestRunV` -/
theorem T03_nestRun_nestRunV (s : Bytes) (h : nestRun true s = true) : nestRunV s = true :=
  nestRun_V true s h

theorem nestRunV_tiles {s : Bytes} {d : CDoc} (h : parseCst s = some d) (hrun : nestRunV s = true) : Tiles s d :=
  fun f hf => nest_doc_textV f s d hf h hrun

/-- tiling proper, any source in the class: the recorded pieces concatenated verbatim are the
    source without its BOM, except that the CR LF ending a key/value or header line is written LF,
    plus the final LF -/
theorem T03_doc_verbatim_sourceV (s : Bytes) (d : CDoc) (h : parseCst s = some d) (hrun : nestRunV s = true) :
    ∃ out eol, verbatimDoc s d = out ++ eol ∧ EolRel out (Doc.stripBom s) ∧ EolOk eol (Doc.stripBom s) :=
  (nestRunV_tiles h hrun).verbatim

theorem T03_doc_crlf_sourceV (s : Bytes) (d : CDoc) (h : parseCst s = some d) (hrun : nestRunV s = true) :
    ∃ eol, DropCr (printDoc s d) (Doc.stripBom s ++ eol) ∧
      stripCr (printDoc s d) = stripCr (Doc.stripBom s) ++ eol ∧ EolOk eol (Doc.stripBom s) :=
  (nestRunV_tiles h hrun).crlf

/-- CR-free sources in the class: the source without its BOM plus the final LF -/
theorem T03_doc_norm_sourceV (s : Bytes) (d : CDoc) (h : parseCst s = some d) (hrun : nestRunV s = true)
    (hcr : ∀ b ∈ s, b ≠ 0x0D) : ∃ eol, printDoc s d = Doc.stripBom s ++ eol ∧ EolOk eol (Doc.stripBom s) :=
  (nestRunV_tiles h hrun).norm hcr

/-- a source whose checked run passes (headers as in
    `T03_doc_tiling_source`; dotted keys adjacent and spelled alike, in table bodies AND inside
    inline tables at any depth of the values) without BOM and CR, ending in a newline, prints back
    byte for byte -/
theorem T03_doc_tiling_sourceV (s : Bytes) (d : CDoc) (h : parseCst s = some d) (hrun : nestRunV s = true)
    (hbom : Doc.stripBom s = s) (hcr : ∀ b ∈ s, b ≠ 0x0D) (hnl : s.getLast? = some 0x0A ∨ s = []) :
    printDoc s d = s :=
  (nestRunV_tiles h hrun).tiling h hbom hcr hnl

theorem T03_print_fixpoint_sourceV (s : Bytes) (d : CDoc) (h : parseCst s = some d) (hrun : nestRunV s = true)
    (hbom : Doc.stripBom s = s) (hcr : ∀ b ∈ s, b ≠ 0x0D) (hnl : s.getLast? = some 0x0A ∨ s = []) :
    ∃ d', parseCst (printDoc s d) = some d' ∧ printDoc (printDoc s d) d' = printDoc s d :=
  fixpoint_of_tiling h (T03_doc_tiling_sourceV s d h hrun hbom hcr hnl)

/-- comments are kept: every CR-free piece of the source occurs in the printed text -/
theorem T03_comments_kept_sourceV (s : Bytes) (d : CDoc) (h : parseCst s = some d) (hrun : nestRunV s = true)
    (c : Bytes) (hc : c <:+: Doc.stripBom s) (hcr : ∀ b ∈ c, b ≠ 0x0D) : c <:+: printDoc s d :=
  (nestRunV_tiles h hrun).comments c hc hcr

/-- `T03_preorder_of_runV` and `T03_doc_tiling_sourceV` on a test vector, the hypotheses as
    evaluated on it -/
theorem tilingV_on (s : Bytes) (hs : (parseCst s).isSome = true) (hv : nestRunV s = true)
    (hbom : Doc.stripBom s = s) (hcr : (s.all fun b => b != 0x0D) = true) (hnl : s.getLast? = some 0x0A) :
    (parseCst s).map preorderDoc = some true ∧ (parseCst s).map (printDoc s) = some s := by
  obtain ⟨d, hd⟩ := Option.isSome_iff_exists.1 hs
  rw [hd]
  exact ⟨congrArg some (T03_preorder_of_runV s d hd hv),
    congrArg some (T03_doc_tiling_sourceV s d hd hv hbom
      (fun b hb => by simpa using List.all_eq_true.1 hcr b hb) (.inl hnl))⟩

/-- a manifest with dotted keys inside an inline table and inside an inline table in an array -/
def exCargoInline : Bytes := strBytes
  "[dependencies]\nserde = { version = \"1\", features.default = false, features.full = true }\nx = [ {a.b = 1, a.c = 2} ] # c\n"

/-- the evaluation the example below and the class-inclusion examples of `Props/C03MoreOrd.lean` quote -/
theorem exCargoInline_eval :
    (parseCst exCargoInline).isSome = true ∧ nestRunV exCargoInline = true ∧
    nestRun true exCargoInline = false ∧
    Doc.stripBom exCargoInline = exCargoInline ∧ (exCargoInline.all fun b => b != 0x0D) = true ∧
    exCargoInline.getLast? = some 0x0A := by
  rw [exCargoInline, strBytes_eq rfl]
  decide +kernel

/-- in `nestRunV`, outside `nestRun true`, and printed back exactly -/
example : (parseCst exCargoInline).isSome = true ∧ nestRunV exCargoInline = true ∧
    nestRun true exCargoInline = false ∧
    Doc.stripBom exCargoInline = exCargoInline ∧ (exCargoInline.all fun b => b != 0x0D) = true ∧
    exCargoInline.getLast? = some 0x0A ∧
    (parseCst exCargoInline).map (printDoc exCargoInline) = some exCargoInline := by
  obtain ⟨hs, hv, hn, hbom, hcr, hnl⟩ := exCargoInline_eval
  exact ⟨hs, hv, hn, hbom, hcr, hnl, (tilingV_on _ hs hv hbom hcr hnl).2⟩

/-- dotted keys in the body and inside the value, nested headers, an array of tables -/
def exMixed : Bytes := strBytes
  "# top\nt.u = { p . q = 1, p . r = [ { z.a = 1, z.b = 2 } ] }\nt.v = 2\n\n[a.b]\nk = {x.y.z = 1, x.y.w = 2, x.v = 3}\n[[a.c]]\n[[a.c]]\nm.n = {}\n"

theorem exMixed_eval :
    (parseCst exMixed).isSome = true ∧ nestRunV exMixed = true ∧ nestRun true exMixed = false ∧
    Doc.stripBom exMixed = exMixed ∧ (exMixed.all fun b => b != 0x0D) = true ∧
    exMixed.getLast? = some 0x0A := by
  rw [exMixed, strBytes_eq rfl]
  decide +kernel

example : (parseCst exMixed).isSome = true ∧ nestRunV exMixed = true ∧ nestRun true exMixed = false ∧
    (parseCst exMixed).map preorderDoc = some true ∧
    (parseCst exMixed).map (printDoc exMixed) = some exMixed := by
  obtain ⟨hs, hv, hn, hbom, hcr, hnl⟩ := exMixed_eval
  exact ⟨hs, hv, hn, tilingV_on _ hs hv hbom hcr hnl⟩

/-- the evaluations the example below and the class-inclusion examples of `Props/C03MoreOrd.lean` quote -/
theorem exCargo_nestRunV : nestRunV exCargo = true := by
  simp only [exCargo, strBytes_eq rfl]
  decide +kernel

theorem exNestedCrlf_nestRunV : nestRunV exNestedCrlf = true := by
  simp only [exNestedCrlf, strBytes_eq rfl]
  decide +kernel

/-- the examples of `nestRun true` are in `nestRunV` (`T03_nestRun_nestRunV`) -/
example : nestRun true exCargo = true ∧ nestRunV exCargo = true ∧ nestRunV exNestedCrlf = true :=
  ⟨exCargo_eval.2.1, exCargo_nestRunV, exNestedCrlf_nestRunV⟩

/-- CR LF line ends with a dotted inline table: the normalising variants apply -/
example : nestRunV (strBytes "a = {b.c = 1, b.d = 2}\r\n[t]\r\nx = 1") = true ∧
    (parseCst (strBytes "a = {b.c = 1, b.d = 2}\r\n[t]\r\nx = 1")).map
      (printDoc (strBytes "a = {b.c = 1, b.d = 2}\r\n[t]\r\nx = 1"))
      = some (strBytes "a = {b.c = 1, b.d = 2}\n[t]\nx = 1\n") := by
  simp only [strBytes_eq rfl]
  decide +kernel

/-- a respelled prefix inside an inline table of a key/value line (F15 at the document level):
    accepted, out of the class, printed with the first spelling -/
example : nestRunV (strBytes "v = {a .b=1,a.c=2}\n") = false ∧
    (parseCst (strBytes "v = {a .b=1,a.c=2}\n")).map (printDoc (strBytes "v = {a .b=1,a.c=2}\n"))
      = some (strBytes "v = {a .b=1,a .c=2}\n") := by
  simp only [strBytes_eq rfl]
  decide +kernel

/-- non-adjacent dotted keys inside an inline table: printed regrouped -/
example : nestRunV (strBytes "v = {a.b=1,c=2,a.d=3}\n") = false ∧
    (parseCst (strBytes "v = {a.b=1,c=2,a.d=3}\n")).map (printDoc (strBytes "v = {a.b=1,c=2,a.d=3}\n"))
      = some (strBytes "v = {a.b=1,a.d=3,c=2}\n") := by
  simp only [strBytes_eq rfl]
  decide +kernel

/-- the body-level exclusions of `nestRun` remain -/
example : nestRunV (strBytes "a .b = 1\na.c = 2\n") = false ∧
    nestRunV (strBytes "a.b = 1\nc = 2\na.d = 3\n") = false ∧
    nestRunV (strBytes "[[c]]\n[[ c ]]\n") = false := by
  simp only [strBytes_eq rfl]
  decide +kernel

end TomlVerif.Props.C03More
