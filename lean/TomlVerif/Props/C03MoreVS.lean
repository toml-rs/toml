import TomlVerif.Lemmas.Render03Value
import TomlVerif.Lemmas.Bytes
/-! # C03, weaker clause at VALUE level, for ALL accepted values

A parsed value, printed (`Value::to_string` after `despan`: `printValue`), is valid TOML again and decodes to
the same data.  Byte-exact print-back is false in general (`{a .b=1,a.c=2}` prints `{a .b=1,a .c=2}`,
`{a.b=1,c=2,a.d=3}` prints `{a.b=1,a.d=3,c=2}`; CRs of decor are dropped), so the statement is about the
decoded data (`eraseVal`), through the grammar trees of C01 (`QVal`, `Props/C01Sound.lean`). -/
namespace TomlVerif.Props.C03More
open TomlVerif TomlVerif.Spec TomlVerif.Model TomlVerif.Model.Strings TomlVerif.Model.Value
open TomlVerif.Model.Cst TomlVerif.Model.Encode TomlVerif.Lemmas.Cst03 TomlVerif.Lemmas.Tiling03More
open TomlVerif.Spec.AstValue TomlVerif.Spec.AstValueQ
open TomlVerif.Lemmas.Tiling03More.VS

/-- the printed text of an accepted value is the rendering of a well-formed grammar tree below the
    nesting limit that denotes the same data -/
theorem T03_value_print_grammar (s : Bytes) (v : CVal) (h : parseCstValue s = some v) :
    ∃ q : QVal, WFQ q ∧ renderQ q = printValue s v ∧ semQ q = eraseVal v ∧ depthQ q < LIMIT := by
  unfold parseCstValue at h
  split at h
  · rename_i v' hv
    injection h with h; subst h
    obtain ⟨q, h1, h2, h3, h4⟩ := cvalue_renderable s _ 0 s [] _ (List.suffix_refl s) hv
    refine ⟨q, h1, h2, h3, ?_⟩
    rcases h4 with h4 | h4
    · rw [h4]; decide
    · omega
  · cases h

/-- the semantic parser reads the printed text as the erased value -/
theorem T03_value_same_data_sem (s : Bytes) (v : CVal) (h : parseCstValue s = some v) :
    Value.parseValue (printValue s v) = some (eraseVal v) := by
  obtain ⟨q, h1, h2, h3, h4⟩ := T03_value_print_grammar s v h
  have := TomlVerif.Props.C01Sound.T01_parseValue_completeQ q h1 h4
  rw [h2, h3] at this
  exact this

/-- … which is what the semantic parser reads from the source -/
theorem T03_value_same_data_src (s : Bytes) (v : CVal) (h : parseCstValue s = some v) :
    Value.parseValue (printValue s v) = Value.parseValue s := by
  rw [T03_value_same_data_sem s v h, ← parseCstValue_erase s, h]
  rfl

/-- **C03, weaker clause, value level**: every accepted value, printed, is accepted again and decodes
    to the same data -/
theorem T03_value_same_data (s : Bytes) (v : CVal) (h : parseCstValue s = some v) :
    ∃ v', parseCstValue (printValue s v) = some v' ∧ eraseVal v' = eraseVal v := by
  have h1 := T03_value_same_data_sem s v h
  rw [← parseCstValue_erase] at h1
  cases hp : parseCstValue (printValue s v) with
  | none => rw [hp] at h1; cases h1
  | some v' =>
    rw [hp] at h1
    simp only [Option.map_some] at h1
    injection h1 with h1
    exact ⟨v', rfl, h1⟩

def T03_value_same_data_statement' : Prop :=
  ∀ (s : Bytes) (v : CVal), parseCstValue s = some v →
    ∃ v', parseCstValue (printValue s v) = some v' ∧ eraseVal v' = eraseVal v

theorem T03_value_same_data_holds : T03_value_same_data_statement' := T03_value_same_data

/-! ## non-vacuity: inputs on which byte-exact print-back FAILS meet the hypothesis -/

/-- a respelled path key (`a .b` / `a.c`): the print is `{a .b=1,a .c=2}` -/
def exRespell : Bytes := strBytes "{a .b=1,a.c=2}"
/-- interleaved groups: the print regroups to `{a.b=1,a.d=3,c=2}` -/
def exRegroup : Bytes := strBytes "{a.b=1,c=2,a.d=3}"
/-- CR LF in array trivia, a comment, a quoted key, nested containers -/
def exCr : Bytes := strBytes "[1,\r\n # c\r\n {\"k\" . 'l' = [ ], m = {}} , ]"

/-- the evaluations the examples below quote: each of the three texts parsed and printed, once -/
theorem exRespell_eval : (parseCstValue exRespell).isSome = true ∧
    ((parseCstValue exRespell).map (printValue exRespell)) = some (strBytes "{a .b=1,a .c=2}") := by
  rw [exRespell]
  simp only [strBytes_eq rfl]
  decide +kernel

theorem exRegroup_eval : (parseCstValue exRegroup).isSome = true ∧
    ((parseCstValue exRegroup).map (printValue exRegroup)) = some (strBytes "{a.b=1,a.d=3,c=2}") := by
  rw [exRegroup]
  simp only [strBytes_eq rfl]
  decide +kernel

theorem exCr_eval : (parseCstValue exCr).isSome = true ∧
    ((parseCstValue exCr).map (printValue exCr)) = some (strBytes "[1,\n # c\n {\"k\" . 'l' = [ ], m = {}} , ]") := by
  rw [exCr]
  simp only [strBytes_eq rfl]
  decide +kernel

example : (parseCstValue exRespell).isSome = true := exRespell_eval.1
example : (parseCstValue exRegroup).isSome = true := exRegroup_eval.1
example : (parseCstValue exCr).isSome = true := exCr_eval.1

example : ((parseCstValue exRespell).map (printValue exRespell)) = some (strBytes "{a .b=1,a .c=2}") :=
  exRespell_eval.2
example : ((parseCstValue exRegroup).map (printValue exRegroup)) = some (strBytes "{a.b=1,a.d=3,c=2}") :=
  exRegroup_eval.2
example : ((parseCstValue exCr).map (printValue exCr)) = some (strBytes "[1,\n # c\n {\"k\" . 'l' = [ ], m = {}} , ]") :=
  exCr_eval.2

example : ∃ v, parseCstValue exRegroup = some v ∧ Value.parseValue (printValue exRegroup v) = Value.parseValue exRegroup := by
  cases h : parseCstValue exRegroup with
  | none =>
    have := exRegroup_eval.1
    rw [h] at this; cases this
  | some v => exact ⟨v, rfl, T03_value_same_data_src _ v h⟩

/-- hypotheses of `cvalue_renderable` (a value inside a longer input, at depth 3) -/
example : (cvalue (strBytes "x = {a.b=1}\n").length 40 3 (strBytes "{a.b=1}\n")).isOk = true := by decide +kernel
example : strBytes "{a.b=1}\n" <:+ strBytes "x = {a.b=1}\n" := ⟨strBytes "x = ", by decide +kernel⟩

/-- hypotheses of `ckeyPath_GK` / `ckeyPath_qkeys` -/
example : (ckeyPath (strBytes " a . \"b\"\t= 1").length (strBytes " a . \"b\"\t= 1")).isOk = true := by decide +kernel

#print axioms T03_value_same_data
#print axioms T03_value_same_data_sem
#print axioms T03_value_same_data_src
#print axioms TomlVerif.Lemmas.Tiling03More.VS.cvalue_renderable
#print axioms TomlVerif.Lemmas.Tiling03More.VS.tableFromPairs_rebuild
#print axioms TomlVerif.Lemmas.Tiling03More.VS.ckeyPath_qkeys

end TomlVerif.Props.C03More
