import TomlVerif.Props.C03
import TomlVerif.Lemmas.Tiling03Flat
import TomlVerif.Lemmas.Bytes
/-! C03 — tiling for inline tables with one-segment keys, for documents without headers, and the
    printed text of flat documents. -/
namespace TomlVerif.Props.C03Doc
open TomlVerif TomlVerif.Model TomlVerif.Model.Cst TomlVerif.Model.Encode
open TomlVerif.Lemmas.Cst03 TomlVerif.Lemmas.Tiling03 TomlVerif.Lemmas.Tiling03Hdr TomlVerif.Props.C03

/-- T03_value_tiling (proved part): for values built from scalars, arrays and inline
    tables all of whose keys have one segment (`simpleVal`: no entry of any inline table is an
    implicit/dotted inline table), at any nesting, the recorded pieces tile the source exactly.
    What is missing from `T03_value_tiling_statement`: inline tables with dotted keys, where the
    statement is false (F15, `T03_value_tiling_counterexample`). -/
theorem T03_value_tiling_inline_partial (s : Bytes) (v : CVal) (h : parseCstValue s = some v)
    (hsimple : simpleVal v = true) : verbatimValue s v = s :=
  parseCstValue_tiling id s (FixOn.id s) v h hsimple

/-- the same for the real printer when the source has no CR -/
theorem T03_value_print_inline_partial (s : Bytes) (v : CVal) (h : parseCstValue s = some v)
    (hsimple : simpleVal v = true) (hcr : ∀ b ∈ s, b ≠ 0x0D) : printValue s v = s :=
  parseCstValue_tiling stripCr s (FixOn.stripCr s hcr) v h hsimple

def exInline : Bytes := strBytes "{ a = 1 ,\"b c\"=[ 1, { x = 'y' } ,\r\n # c\n 2.5,\n], d={ } , e = { f = {g=true}} }"

theorem exInline_eval :
    (((parseCstValue exInline).map simpleVal) = some true ∧
      (parseCstValue exInline).map (verbatimValue exInline) = some exInline) ∧
    (parseCstValue exInline).map (fun v => printValue exInline v == exInline) = some false := by
  rw [exInline, strBytes_eq rfl]
  decide +kernel

example : ((parseCstValue exInline).map simpleVal) = some true ∧
    (parseCstValue exInline).map (verbatimValue exInline) = some exInline := exInline_eval.1

/-- the counterexample of `C03` is outside the class -/
example : (parseCstValue exRespelled).map simpleVal = some false := by decide +kernel

/-- the root table holds only `simpleVal` values: the document has no `[t]` / `[[t]]` header, no
    dotted key, and no dotted key inside an inline table -/
def rootOnly (d : CDoc) : Bool := simpleBody d.root.items

/-- BOM and final newline for the class, on CR-free sources: the printed text is the source
    without its BOM, followed by a line feed only if the source does not end with one. -/
theorem T03_doc_norm_root_partial (s : Bytes) (d : CDoc) (h : parseCst s = some d)
    (hroot : rootOnly d = true) (hcr : ∀ b ∈ s, b ≠ 0x0D) :
    ∃ eol, printDoc s d = Doc.stripBom s ++ eol ∧
      (eol = [] ∨ (eol = [0x0A] ∧ (Doc.stripBom s).getLast? ≠ some 0x0A)) :=
  hdr_doc_tiling_noCr stripCr s d (FixOn.stripCr s hcr) hcr h (simple_flat _ hroot).1

/-- the same for the verbatim concatenation of the recorded pieces -/
theorem T03_doc_verbatim_root_partial (s : Bytes) (d : CDoc) (h : parseCst s = some d)
    (hroot : rootOnly d = true) (hcr : ∀ b ∈ s, b ≠ 0x0D) :
    ∃ eol, verbatimDoc s d = Doc.stripBom s ++ eol ∧
      (eol = [] ∨ (eol = [0x0A] ∧ (Doc.stripBom s).getLast? ≠ some 0x0A)) :=
  hdr_doc_tiling_noCr id s d (FixOn.id s) hcr h (simple_flat _ hroot).1

theorem parseCst_nil : parseCst [] = some ⟨.mk [] false false none {} (some (0, 0)), .empty⟩ := rfl

theorem tiling_of_norm {s : Bytes} {d : CDoc} (h : parseCst s = some d)
    (hn : ∃ eol, printDoc s d = Doc.stripBom s ++ eol ∧
      (eol = [] ∨ (eol = [0x0A] ∧ (Doc.stripBom s).getLast? ≠ some 0x0A)))
    (hbom : Doc.stripBom s = s) (hnl : s.getLast? = some 0x0A ∨ s = []) : printDoc s d = s := by
  rcases hnl with hnl | hnl
  · obtain ⟨eol, h1, c1⟩ := hn
    rw [hbom] at h1 c1
    rcases c1 with c1 | ⟨_, c1⟩
    · rw [h1, c1, List.append_nil]
    · exact absurd hnl c1
  · subst hnl
    rw [parseCst_nil] at h
    injection h with h; subst h
    rfl

theorem fixpoint_of_tiling {s : Bytes} {d : CDoc} (h : parseCst s = some d) (hp : printDoc s d = s) :
    ∃ d', parseCst (printDoc s d) = some d' ∧ printDoc (printDoc s d) d' = printDoc s d :=
  ⟨d, by rw [hp]; exact h, by rw [hp]; exact hp⟩

theorem noCr_bom {s : Bytes} (hcr : ∀ b ∈ s, b ≠ 0x0D) : ∀ b ∈ [0xEF, 0xBB, 0xBF] ++ s, b ≠ 0x0D := by
  intro b hb
  rcases List.mem_append.1 hb with hb | hb
  · simp at hb; rcases hb with hb | hb | hb <;> subst hb <;> decide
  · exact hcr b hb

/-- T03_doc_tiling (proved part, documents without headers): `T03_doc_tiling_statement`
    restricted to documents whose root table holds only simple values.  What is missing from the
    full statement: table headers (`C03Hdr.T03_doc_tiling_headers`) and dotted keys, where it is
    false (F15). -/
theorem T03_doc_tiling_root_partial (s : Bytes) (d : CDoc) (h : parseCst s = some d)
    (hroot : rootOnly d = true) (hbom : Doc.stripBom s = s) (hcr : ∀ b ∈ s, b ≠ 0x0D)
    (hnl : s.getLast? = some 0x0A ∨ s = []) : printDoc s d = s :=
  tiling_of_norm h (T03_doc_norm_root_partial s d h hroot hcr) hbom hnl

/-- the BOM form: a source with a BOM prints as the source without it (the BOM is not part of
    any recorded piece); in particular it prints like the same source without the BOM -/
theorem T03_doc_tiling_bom_partial (s : Bytes) (d' : CDoc)
    (h' : parseCst ([0xEF, 0xBB, 0xBF] ++ s) = some d') (hroot' : rootOnly d' = true)
    (hcr : ∀ b ∈ s, b ≠ 0x0D) (hnl : s.getLast? = some 0x0A) :
    printDoc ([0xEF, 0xBB, 0xBF] ++ s) d' = s ∧
    ∀ d, parseCst s = some d → rootOnly d = true → Doc.stripBom s = s →
      printDoc ([0xEF, 0xBB, 0xBF] ++ s) d' = printDoc s d := by
  obtain ⟨eol, h1, c1⟩ := T03_doc_norm_root_partial _ d' h' hroot' (noCr_bom hcr)
  have hs : Doc.stripBom ([0xEF, 0xBB, 0xBF] ++ s) = s := rfl
  rw [hs] at h1 c1
  have hp : printDoc ([0xEF, 0xBB, 0xBF] ++ s) d' = s := by
    rcases c1 with c1 | ⟨_, c1⟩
    · rw [h1, c1, List.append_nil]
    · exact absurd hnl c1
  refine ⟨hp, ?_⟩
  intro d hd hroot hbom
  rw [hp, T03_doc_tiling_root_partial s d hd hroot hbom hcr (Or.inl hnl)]

/-- T03_print_fixpoint (proved part): in the class, printing is a fixed point of
    parse-then-print -/
theorem T03_print_fixpoint_partial (s : Bytes) (d : CDoc) (h : parseCst s = some d)
    (hroot : rootOnly d = true) (hbom : Doc.stripBom s = s) (hcr : ∀ b ∈ s, b ≠ 0x0D)
    (hnl : s.getLast? = some 0x0A ∨ s = []) :
    ∃ d', parseCst (printDoc s d) = some d' ∧ printDoc (printDoc s d) d' = printDoc s d :=
  fixpoint_of_tiling h (T03_doc_tiling_root_partial s d h hroot hbom hcr hnl)

/-- a test vector for a tiling theorem of a class `C`: membership and the side conditions are
    evaluated, the printed text is the theorem's conclusion -/
theorem tiling_vector {C : CDoc → Bool} {s : Bytes}
    (tiling : ∀ d, parseCst s = some d → C d = true → Doc.stripBom s = s → (∀ b ∈ s, b ≠ 0x0D) →
      (s.getLast? = some 0x0A ∨ s = []) → printDoc s d = s)
    (h : (parseCst s).map C = some true ∧ Doc.stripBom s = s ∧ (s.all fun b => b != 0x0D) = true ∧
      s.getLast? = some 0x0A) :
    (parseCst s).map C = some true ∧ Doc.stripBom s = s ∧ (s.all fun b => b != 0x0D) = true ∧
      s.getLast? = some 0x0A ∧ (parseCst s).map (printDoc s) = some s := by
  obtain ⟨hc, hbom, hcr, hnl⟩ := h
  refine ⟨hc, hbom, hcr, hnl, ?_⟩
  cases hp : parseCst s with
  | none => rw [hp] at hc; cases hc
  | some d =>
    rw [hp, Option.map_some, Option.some.injEq] at hc
    rw [Option.map_some, tiling d hp hc hbom (fun b hb => by simpa using List.all_eq_true.1 hcr b hb) (.inl hnl)]

def exRootDoc : Bytes := strBytes
  "# top\n\n  a = 1 # one\n\"b c\"\t= { x = 1, y = [ 1, 2, # two\n 3,\n] }\n\nml = \"\"\"\nline\n\"\"\"\n# end\n"

example : (parseCst exRootDoc).map rootOnly = some true ∧
    (parseCst exRootDoc).map (printDoc exRootDoc) = some exRootDoc ∧
    Doc.stripBom exRootDoc = exRootDoc ∧ (exRootDoc.all fun b => b != 0x0D) = true ∧
    exRootDoc.getLast? = some 0x0A := by
  rw [exRootDoc, strBytes_eq rfl]
  decide +kernel

/-- with a BOM, and without a final newline: the printed text drops the BOM and adds the LF -/
def exRootBom : Bytes := [0xEF, 0xBB, 0xBF] ++ strBytes "a = 1\nb = [ 1, 2, ]"

example : (parseCst exRootBom).map rootOnly = some true ∧
    (parseCst exRootBom).map (printDoc exRootBom) = some (strBytes "a = 1\nb = [ 1, 2, ]\n") := by
  simp only [exRootBom, strBytes_eq rfl]
  decide +kernel

/-- outside the hypotheses: with CRLF line ends the printed text has LF line ends (CRs of decor and
    line ends are dropped; the theorems above assume a CR-free source) -/
example : (parseCst (strBytes "a = 1\r\n# c\r\nb = 2\r\n")).map (printDoc (strBytes "a = 1\r\n# c\r\nb = 2\r\n"))
    = some (strBytes "a = 1\n# c\nb = 2\n") := by
  simp only [strBytes_eq rfl]
  decide +kernel

/-- "flat" documents: the root holds simple values, `[t]` tables and one-element `[[t]]` arrays,
    every such table is explicit, undotted, carries a position and full decor and holds only
    simple values, and the positions increase in the order of the root's item list (so no table
    is re-opened, defined out of order, or named through a dotted path) -/
def flatDoc (d : CDoc) : Bool :=
  match d.root with
  | .mk items _ dot p dec _ =>
    !dot && p.isNone && dec.pre.isNone && dec.suf.isNone && flatItems items && sortedFrom 0 (entriesOf items)

/-- T03_doc_tiling for flat documents, proved as `C03Hdr.T03_doc_tiling_headers_full`.  The next
    theorem describes what the printer writes for a flat tree; the proof of the statement does not go
    through it. -/
def T03_doc_tiling_headers_statement : Prop :=
  ∀ (s : Bytes) (d : CDoc), parseCst s = some d → flatDoc d = true → Doc.stripBom s = s →
    (∀ b ∈ s, b ≠ 0x0D) → (s.getLast? = some 0x0A ∨ s = []) → printDoc s d = s

/-- T03_doc_tiling_headers (proved part, printer half): on a flat document the sort by position
    is the identity and the printer writes the root's values, then one section per root table in
    the order of the item list (header decor, `[`/`[[`, the stored key, `]`/`]]`, trailing, LF,
    body), then the document's trailing text. -/
theorem T03_doc_tiling_headers_partial (f : Bytes → Bytes) (inp : Bytes) (d : CDoc) (h : flatDoc d = true) :
    printDocG f inp d =
      encodeBody f inp (valuesTbl (rootValues d.root.items) []) ++ sectionsText f inp (entriesOf d.root.items)
        ++ encRaw f inp d.trailing := by
  obtain ⟨root, tr⟩ := d
  obtain ⟨items, imp, dot, p, dec, sp⟩ := root
  obtain ⟨pre, suf⟩ := dec
  simp only [flatDoc, Bool.and_eq_true, Bool.not_eq_true', Option.isNone_iff_eq_none] at h
  obtain ⟨⟨⟨⟨⟨hdot, hp⟩, hpre⟩, hsuf⟩, hflat⟩, hsorted⟩ := h
  subst hdot; subst hp; subst hpre; subst hsuf
  exact printDocG_flat f inp items imp sp tr hflat hsorted

def exFlatDoc : Bytes := strBytes "x = 1\n\n[a] # t\ny = { z = 1 }\n\n[[ c ]]\nq = [1,\n2]\n[b]\n"

/-- `flatItems d.root.items` is `C03Hdr.flatRoot d` -/
theorem exFlatDoc_eval :
    ((parseCst exFlatDoc).map flatDoc = some true ∧
      (parseCst exFlatDoc).map (printDoc exFlatDoc) = some exFlatDoc) ∧
    (parseCst exFlatDoc).map (fun d => flatItems d.root.items) = some true ∧
    Doc.stripBom exFlatDoc = exFlatDoc ∧ (exFlatDoc.all fun b => b != 0x0D) = true ∧
    exFlatDoc.getLast? = some 0x0A := by
  rw [exFlatDoc, strBytes_eq rfl]
  decide +kernel

example : (parseCst exFlatDoc).map flatDoc = some true ∧
    (parseCst exFlatDoc).map (printDoc exFlatDoc) = some exFlatDoc := exFlatDoc_eval.1

/-- why `[[t]]` arrays are restricted to one element: a second header of the same array is
    printed with the key recorded for the first (`[[c]]` LF `[[ c ]]` LF prints `[[c]]` twice) -/
example : (parseCst (strBytes "[[c]]\n[[ c ]]\n")).map flatDoc = some false ∧
    (parseCst (strBytes "[[c]]\n[[ c ]]\n")).map (printDoc (strBytes "[[c]]\n[[ c ]]\n"))
      = some (strBytes "[[c]]\n[[c]]\n") := by
  simp only [strBytes_eq rfl]
  decide +kernel

/-- why dotted header paths are excluded: a path segment naming an existing table is printed with
    the spelling of its first occurrence (`[ a .d]` after `[a]` prints `[ a.d]`) -/
example : (parseCst (strBytes "[a]\n[ a .d]\n")).map flatDoc = some false ∧
    (parseCst (strBytes "[a]\n[ a .d]\n")).map (printDoc (strBytes "[a]\n[ a .d]\n"))
      = some (strBytes "[a]\n[ a.d]\n") := by
  simp only [strBytes_eq rfl]
  decide +kernel

/-- why dotted keys are excluded (document level of F15): `a .b = 1` LF `a.c = 2` LF -/
example : (parseCst (strBytes "a .b = 1\na.c = 2\n")).map rootOnly = some false ∧
    (parseCst (strBytes "a .b = 1\na.c = 2\n")).map (printDoc (strBytes "a .b = 1\na.c = 2\n"))
      = some (strBytes "a .b = 1\na .c = 2\n") := by
  simp only [strBytes_eq rfl]
  decide +kernel

end TomlVerif.Props.C03Doc
