import TomlVerif.Lemmas.Numbers11
/-! # C11 — numbers are lossless or rejected, never wrapped, saturated or rounded away -/
namespace TomlVerif.Props.C11
open TomlVerif TomlVerif.Spec TomlVerif.Model.Numbers TomlVerif.Lemmas.Numbers11

/-- every integer the parser returns, in any base, is a signed 64-bit value: nothing is wrapped or saturated -/
theorem T11_integer_in_range (s rest : Bytes) (n : Int) (h : integer s = .ok n rest) : inI64 n = true :=
  (integer_inv s rest n h).1

/-- a decimal literal that rounds to ±infinity is rejected (committed failure), with either sign -/
theorem T11_float_overflow_rejected (s rest : Bytes) (l : FloatLit) (h : floatLit s = .ok l rest)
    (hinf : Ieee.isInfBits l.bits = true) : float s = .cut := by
  unfold float; rw [h]; simp [hinf]

/-- a float the parser returns from a decimal literal is never an infinity -/
theorem T11_float_finite (s rest : Bytes) (l : FloatLit) (b : Nat) (h : floatLit s = .ok l rest)
    (hf : float s = .ok b rest) : Ieee.isInfBits b = false := by
  unfold float at hf; rw [h] at hf
  simp at hf
  split at hf
  · contradiction
  · rename_i hc; injection hf with h1 _; subst h1; simpa using hc

example : integer [0x30, 0x78, 0x37, 0x66] = .ok 127 [] := by decide
example : float [0x2D, 0x31, 0x65, 0x39, 0x39, 0x39] = .cut := by decide +kernel

/-- what may follow an integer literal so that it ends there: end of input, or a byte that is not a digit,
    not `_`, and not one of the radix letters `x` `o` `b` (which after a lone `0` would switch the parser
    to a prefixed literal) -/
def IntFollow : Bytes → Prop
  | [] => True
  | b :: _ => isDigit b = false ∧ b ≠ 0x5F ∧ b ≠ 0x78 ∧ b ≠ 0x6F ∧ b ≠ 0x62

instance : (t : Bytes) → Decidable (IntFollow t)
  | [] => isTrue trivial
  | b :: _ => inferInstanceAs (Decidable (isDigit b = false ∧ b ≠ 0x5F ∧ b ≠ 0x78 ∧ b ≠ 0x6F ∧ b ≠ 0x62))

theorem IntFollow.stops {rest : Bytes} (h : IntFollow rest) : Stops isDigit rest := by
  cases rest with
  | nil => trivial
  | cons b r => exact ⟨h.1, h.2.1⟩

theorem IntFollow.noRadix {rest : Bytes} (h : IntFollow rest) : NoRadix rest := by
  cases rest with
  | nil => trivial
  | cons b r => exact h.2.2

/-- sharp form: the radix letters only matter after the literal `0` -/
theorem T11_int_roundtrip_sharp (n : Int) (hn : inI64 n = true) (rest : Bytes) (hs : Stops isDigit rest)
    (hr : n = 0 → NoRadix rest) : integer (writeInt n ++ rest) = .ok n rest := by
  have hsp := natDigits_spec n.natAbs
  have hg : GoodGroups isDigit [natDigits n.natAbs] := by
    refine ⟨by simp, ?_⟩
    intro g hgm
    simp only [List.mem_singleton] at hgm
    subst hgm
    exact ⟨hsp.1, hsp.2.1⟩
  have hz : NoLeadingZero [natDigits n.natAbs] := by
    intro g0 gs h
    injection h with h1 h2
    exact ⟨(hsp.2.2.2 g0 h1).2, h2.symm⟩
  have := integer_dec_lit (if n < 0 then some true else none) [natDigits n.natAbs] rest hg hz hs
    (by
      intro h1 h2
      apply hr
      split at h1
      · contradiction
      · injection h2 with h2 _
        have := (hsp.2.2.2 [] h2).1
        omega)
  rw [← writeInt_eq, decValue_writeInt, hn] at this
  simpa using this

/-- every i64 prints as a decimal literal that the integer parser reads back exactly, in any context
    that does not extend the literal -/
theorem T11_int_roundtrip_follow (n : Int) (hn : inI64 n = true) (rest : Bytes) (hf : IntFollow rest) :
    integer (writeInt n ++ rest) = .ok n rest :=
  T11_int_roundtrip_sharp n hn rest hf.stops (fun _ => hf.noRadix)

/-- every i64 prints as a decimal literal that the integer parser reads back exactly -/
theorem T11_int_roundtrip (n : Int) (hn : inI64 n = true) : integer (writeInt n) = .ok n [] := by
  have := T11_int_roundtrip_follow n hn [] trivial
  simpa using this

/-- the decimal digits the writer prints: non-empty, all digits, no leading zero, of value `n` -/
theorem T11_natDigits (n : Nat) : natDigits n ≠ [] ∧ AllB isDigit (natDigits n) ∧
    natOfDigitsBase 10 (natDigits n) = n ∧ (∀ t, natDigits n = 0x30 :: t → n = 0 ∧ t = []) :=
  natDigits_spec n

/-- sharp form of `T11_dec_literal`: the radix letters only matter after an unsigned lone `0` -/
theorem T11_dec_literal_sharp (sign : Option Bool) (groups : List Bytes) (rest : Bytes)
    (hg : GoodGroups isDigit groups) (hz : NoLeadingZero groups) (hs : Stops isDigit rest)
    (hr : sign = none → groups = [[0x30]] → NoRadix rest) :
    integer (signBytes sign ++ joinU groups ++ rest) =
      if inI64 (decValue sign groups) then .ok (decValue sign groups) rest else .cut :=
  integer_dec_lit sign groups rest hg hz hs hr

/-- a decimal literal `[+-]? g0 _ g1 _ …` has the signed positional value of its digits (underscores and
    signs never change the value) when that is an i64, and is rejected with a committed error otherwise
    (never wrapped or saturated) -/
theorem T11_dec_literal (sign : Option Bool) (groups : List Bytes) (rest : Bytes)
    (hg : GoodGroups isDigit groups) (hz : NoLeadingZero groups) (hf : IntFollow rest) :
    integer (signBytes sign ++ joinU groups ++ rest) =
      if inI64 (decValue sign groups) then .ok (decValue sign groups) rest else .cut :=
  integer_dec_lit sign groups rest hg hz hf.stops (fun _ _ => hf.noRadix)

/-- `joinU` is `intercalate "_"` -/
theorem T11_joinU_intercalate (groups : List Bytes) : joinU groups = List.intercalate [0x5F] groups := by
  cases groups with
  | nil => rfl
  | cons g gs =>
    simp only [joinU, List.intercalate]
    induction gs generalizing g with
    | nil => simp [tailGroups]
    | cons g2 gs ih =>
      simp [tailGroups, ih g2]

theorem inI64_natCast (v : Nat) : inI64 (v : Int) = decide ((v : Int) ≤ i64Max) := by
  rw [inI64_nat, decide_eq_decide]
  unfold i64Max
  omega

/-- `0x…` literals (both letter cases, underscores): positional value in base 16, or a committed error above `i64::MAX` -/
theorem T11_hex_literal (groups : List Bytes) (rest : Bytes) (hg : GoodGroups isHexdig groups)
    (hs : Stops isHexdig rest) :
    integer (0x30 :: 0x78 :: (joinU groups ++ rest)) =
      if ((natOfDigitsBase 16 groups.flatten : Nat) : Int) ≤ i64Max
      then .ok ((natOfDigitsBase 16 groups.flatten : Nat) : Int) rest else .cut := by
  rw [integer_hex, prefixedInt_lit isHexdig 16 isHexdig_under groups rest hg hs, inI64_natCast]
  simp

theorem T11_oct_literal (groups : List Bytes) (rest : Bytes) (hg : GoodGroups isDigit0_7 groups)
    (hs : Stops isDigit0_7 rest) :
    integer (0x30 :: 0x6F :: (joinU groups ++ rest)) =
      if ((natOfDigitsBase 8 groups.flatten : Nat) : Int) ≤ i64Max
      then .ok ((natOfDigitsBase 8 groups.flatten : Nat) : Int) rest else .cut := by
  rw [integer_oct, prefixedInt_lit isDigit0_7 8 isDigit0_7_under groups rest hg hs, inI64_natCast]
  simp

theorem T11_bin_literal (groups : List Bytes) (rest : Bytes) (hg : GoodGroups isDigit0_1 groups)
    (hs : Stops isDigit0_1 rest) :
    integer (0x30 :: 0x62 :: (joinU groups ++ rest)) =
      if ((natOfDigitsBase 2 groups.flatten : Nat) : Int) ≤ i64Max
      then .ok ((natOfDigitsBase 2 groups.flatten : Nat) : Int) rest else .cut := by
  rw [integer_bin, prefixedInt_lit isDigit0_1 2 isDigit0_1_under groups rest hg hs, inI64_natCast]
  simp

/-- `0x…`, `0o…` and `0b…` literals have the positional value of their digits in base 16, 8 and 2 (underscores never
    change it), or are rejected with a committed error above `i64::MAX` -/
theorem T11_prefixed_literal (groups : List Bytes) (rest : Bytes) :
    (GoodGroups isHexdig groups → Stops isHexdig rest →
      integer ([0x30, 0x78] ++ joinU groups ++ rest) =
        if ((natOfDigitsBase 16 groups.flatten : Nat) : Int) ≤ i64Max
        then .ok ((natOfDigitsBase 16 groups.flatten : Nat) : Int) rest else .cut) ∧
    (GoodGroups isDigit0_7 groups → Stops isDigit0_7 rest →
      integer ([0x30, 0x6F] ++ joinU groups ++ rest) =
        if ((natOfDigitsBase 8 groups.flatten : Nat) : Int) ≤ i64Max
        then .ok ((natOfDigitsBase 8 groups.flatten : Nat) : Int) rest else .cut) ∧
    (GoodGroups isDigit0_1 groups → Stops isDigit0_1 rest →
      integer ([0x30, 0x62] ++ joinU groups ++ rest) =
        if ((natOfDigitsBase 2 groups.flatten : Nat) : Int) ≤ i64Max
        then .ok ((natOfDigitsBase 2 groups.flatten : Nat) : Int) rest else .cut) := by
  refine ⟨fun hg hs => ?_, fun hg hs => ?_, fun hg hs => ?_⟩
  · simpa using T11_hex_literal groups rest hg hs
  · simpa using T11_oct_literal groups rest hg hs
  · simpa using T11_bin_literal groups rest hg hs

/-- hex digits are case-insensitive: an upper-case letter has the value of its lower-case form -/
theorem T11_hex_case : ∀ b : Byte, inR 0x41 0x46 b = true →
    isHexdig (b + 0x20) = true ∧ digitVal (b + 0x20) = digitVal b ∧ digitVal b = b.toNat - 0x41 + 10 :=
  forall_byte (by decide +kernel)

def hexLower (b : Byte) : Byte := if inR 0x41 0x46 b then b + 0x20 else b

theorem digitVal_hexLower (b : Byte) : digitVal (hexLower b) = digitVal b := by
  unfold hexLower
  by_cases h : inR 0x41 0x46 b = true
  · rw [if_pos h]; exact (T11_hex_case b h).2.1
  · rw [if_neg h]

/-- the value of a hex digit string does not depend on letter case -/
theorem T11_hex_case_insensitive (ds : Bytes) :
    natOfDigitsBase 16 (ds.map hexLower) = natOfDigitsBase 16 ds := by
  simp [natOfDigitsBase, List.foldl_map, digitVal_hexLower]

/-- a float literal always has all-digit parts, a non-empty integer part, and a fraction or an exponent -/
theorem T11_float_shape (s rest : Bytes) (l : FloatLit) (h : floatLit s = .ok l rest) :
    l.intDigits ≠ [] ∧ AllB isDigit l.intDigits ∧ AllB isDigit l.fracDigits ∧ AllB isDigit l.expDigits ∧
    (l.fracDigits ≠ [] ∨ l.expDigits ≠ []) :=
  (floatLit_shape s rest l h).2

/-- wherever both `float` and `integer` succeed on the same input, `float` consumes strictly more -/
theorem T11_float_consumes_more (s rest rest' : Bytes) (b : Nat) (n : Int) (hf : float s = .ok b rest)
    (hi : integer s = .ok n rest') : rest.length < rest'.length := by
  rcases integer_cases s with ⟨c, t, e, hc⟩ | hdecarm
  · subst e; rw [float_radix c t hc] at hf; contradiction
  · rw [hdecarm] at hi
    obtain ⟨x, hx⟩ := intOfDec_rest s rest' n hi
    unfold float at hf
    split at hf
    · rename_i l rest0 hl
      simp only [] at hf
      split at hf
      · contradiction
      · injection hf with h1 h2
        subst h2
        obtain ⟨⟨sg, r, hdec, hlen⟩, _⟩ := floatLit_shape s rest0 l hl
        rw [hdec] at hx
        injection hx with _ h3
        subst h3
        exact hlen
    · contradiction
    · have := specialFloat_not_integer s rest b hf
      rw [hdecarm, hi] at this
      contradiction

/-- `integer` and `float` never both succeed consuming the same whole input -/
theorem T11_float_integer_disjoint (s : Bytes) (b : Nat) (n : Int) (hf : float s = .ok b []) :
    integer s ≠ .ok n [] := by
  intro hi
  have := T11_float_consumes_more s [] [] b n hf hi
  simp at this

/-- the float writer's token for a finite non-zero value lexes as a float literal, leaving `rest`, with
    exactly the digits `Display` printed (and fraction `0` appended when there was none) -/
theorem T11_writeFloat_is_float_follow (neg negD : Bool) (intDs : Bytes) (frac : Option Bytes) (rest : Bytes)
    (hne : intDs ≠ []) (hi : AllB isDigit intDs) (hz : ∀ t, intDs = 0x30 :: t → t = [])
    (hf : ∀ f, frac = some f → f ≠ [] ∧ AllB isDigit f) (hs : FloatStops rest) :
    floatLit (writeFloat neg false false (!(dispBytes negD intDs frac).contains 0x2E) (dispBytes negD intDs frac) ++ rest) =
      .ok ⟨negD, intDs, frac.getD [0x30], false, []⟩ rest := by
  have hgi : GoodGroups isDigit [intDs] := by
    refine ⟨by simp, ?_⟩
    intro g hg; simp only [List.mem_singleton] at hg; subst hg; exact ⟨hne, hi⟩
  have hzi : NoLeadingZero [intDs] := by
    intro g0 gs h; injection h with h1 h2; exact ⟨hz g0 h1, h2.symm⟩
  have hgf : GoodGroups isDigit [frac.getD [0x30]] := by
    refine ⟨by simp, ?_⟩
    intro g hg; simp only [List.mem_singleton] at hg; subst hg
    cases frac with
    | none => exact ⟨by simp, by intro b hb; simp at hb; subst hb; decide⟩
    | some f => exact hf f rfl
  have key := floatLit_frac (if negD then some true else none) [intDs] [frac.getD [0x30]] rest hgi hzi hgf hs
  have hw : writeFloat neg false false (!(dispBytes negD intDs frac).contains 0x2E) (dispBytes negD intDs frac) ++ rest
      = signBytes (if negD then some true else none) ++ joinU [intDs] ++ 0x2E :: (joinU [frac.getD [0x30]] ++ rest) := by
    rw [dispBytes_contains_dot negD intDs frac hi]
    unfold writeFloat dispBytes
    cases negD <;> cases frac <;> simp [signBytes, joinU, tailGroups]
  rw [hw, key]
  cases negD <;> simp [isNegSign]

theorem T11_writeFloat_is_float (neg negD : Bool) (intDs : Bytes) (frac : Option Bytes)
    (hne : intDs ≠ []) (hi : AllB isDigit intDs) (hz : ∀ t, intDs = 0x30 :: t → t = [])
    (hf : ∀ f, frac = some f → f ≠ [] ∧ AllB isDigit f) :
    floatLit (writeFloat neg false false (!(dispBytes negD intDs frac).contains 0x2E) (dispBytes negD intDs frac)) =
      .ok ⟨negD, intDs, frac.getD [0x30], false, []⟩ [] := by
  have := T11_writeFloat_is_float_follow neg negD intDs frac [] hne hi hz hf trivial
  simpa using this

/-- … hence `float` returns the correctly rounded value of exactly those digits, or rejects an overflow -/
theorem T11_writeFloat_float (neg negD : Bool) (intDs : Bytes) (frac : Option Bytes)
    (hne : intDs ≠ []) (hi : AllB isDigit intDs) (hz : ∀ t, intDs = 0x30 :: t → t = [])
    (hf : ∀ f, frac = some f → f ≠ [] ∧ AllB isDigit f) :
    float (writeFloat neg false false (!(dispBytes negD intDs frac).contains 0x2E) (dispBytes negD intDs frac)) =
      if Ieee.isInfBits (FloatLit.bits ⟨negD, intDs, frac.getD [0x30], false, []⟩) then .cut
      else .ok (FloatLit.bits ⟨negD, intDs, frac.getD [0x30], false, []⟩) [] := by
  unfold float
  rw [T11_writeFloat_is_float neg negD intDs frac hne hi hz hf]

/-- `int . frac` with underscore groups in both parts lexes with exactly those digits -/
theorem T11_float_frac_literal (sign : Option Bool) (igroups fgroups : List Bytes) (rest : Bytes)
    (hi : GoodGroups isDigit igroups) (hz : NoLeadingZero igroups) (hf : GoodGroups isDigit fgroups)
    (hs : FloatStops rest) :
    floatLit (signBytes sign ++ joinU igroups ++ 0x2E :: (joinU fgroups ++ rest)) =
      .ok ⟨isNegSign sign, igroups.flatten, fgroups.flatten, false, []⟩ rest :=
  floatLit_frac sign igroups fgroups rest hi hz hf hs

/-- `sign? int (. frac)? [eE] sign? exp` lexes as a float with exactly those digits (underscore groups
    everywhere; the exponent may have leading zeros) -/
theorem T11_float_exp_literal (sign : Option Bool) (igroups : List Bytes) (frac : Option (List Bytes)) (e : Byte)
    (esign : Option Bool) (egroups : List Bytes) (rest : Bytes)
    (hi : GoodGroups isDigit igroups) (hz : NoLeadingZero igroups)
    (hf : ∀ fg, frac = some fg → GoodGroups isDigit fg) (he : e = 0x65 ∨ e = 0x45)
    (hg : GoodGroups isDigit egroups) (hs : Stops isDigit rest) :
    floatLit (signBytes sign ++ joinU igroups ++ (fracBytes frac ++ e :: (signBytes esign ++ joinU egroups ++ rest))) =
      .ok ⟨isNegSign sign, igroups.flatten, (frac.map List.flatten).getD [], isNegSign esign, egroups.flatten⟩ rest :=
  floatLit_exp sign igroups frac e esign egroups rest hi hz hf he hg hs

/-- the special arms of the float writer and what `float` makes of them -/
theorem T11_float_special :
    float (writeFloat false true false false []) = .ok Ieee.nanBits [] ∧
    float (writeFloat true true false false []) = .ok (Ieee.signBit + Ieee.nanBits) [] ∧
    float (writeFloat false false true true []) = .ok 0 [] ∧
    float (writeFloat true false true true []) = .ok Ieee.signBit [] ∧
    float (strBytes "nan") = .ok Ieee.nanBits [] ∧
    float (strBytes "-nan") = .ok (Ieee.signBit + Ieee.nanBits) [] ∧
    float (strBytes "0.0") = .ok 0 [] ∧
    float (strBytes "-0.0") = .ok Ieee.signBit [] ∧
    float (strBytes "inf") = .ok Ieee.infBits [] ∧
    float (strBytes "-inf") = .ok (Ieee.signBit + Ieee.infBits) [] ∧
    float (strBytes "+inf") = .ok Ieee.infBits [] := by
  decide +kernel

example : integer [0x2D, 0x31, 0x5F, 0x30] = .ok (-10) [] := by decide
-- T11_int_roundtrip at the extremes
example : writeInt (-9223372036854775808) = strBytes "-9223372036854775808" := by decide +kernel
example : inI64 (-9223372036854775808) = true ∧
    integer (writeInt (-9223372036854775808)) = .ok (-9223372036854775808) [] :=
  ⟨by decide, T11_int_roundtrip _ (by decide)⟩
example : integer (writeInt 0 ++ [0x78, 0x31]) = .ok 1 [] := by decide +kernel  -- why `NoRadix` is needed
example : integer (writeInt 0 ++ [0x2C]) = .ok 0 [0x2C] := T11_int_roundtrip_follow 0 (by decide) _ (by decide)
-- T11_dec_literal: hypotheses are satisfiable, in-range and out-of-range outcomes both occur
example : GoodGroups isDigit [[0x31, 0x32], [0x33]] ∧ NoLeadingZero [[0x31, 0x32], [0x33]] ∧ IntFollow [0x20] :=
  ⟨⟨by simp, by intro g hg; simp at hg; rcases hg with hg | hg <;> subst hg <;> exact ⟨by simp, by decide⟩⟩,
   by intro g0 gs h; injection h with h _; injection h with h _; exact absurd h (by decide), by decide⟩
example : integer (signBytes (some true) ++ joinU [[0x31, 0x32], [0x33]] ++ [0x20]) = .ok (-123) [0x20] := by decide +kernel
example : integer (strBytes "+9223372036854775807") = .ok 9223372036854775807 [] := by decide +kernel
example : integer (strBytes "9223372036854775808") = .cut := by decide +kernel
example : integer (strBytes "-9_223_372_036_854_775_808") = .ok (-9223372036854775808) [] := by decide +kernel
example : integer (strBytes "-9223372036854775809") = .cut := by decide +kernel
example : GoodGroups isHexdig [[0x64, 0x45], [0x41, 0x66]] ∧ Stops isHexdig [0x2C] :=
  ⟨⟨by simp, by intro g hg; simp at hg; rcases hg with hg | hg <;> subst hg <;> exact ⟨by simp, by decide⟩⟩, by decide⟩
example : integer (strBytes "0xdE_Af,") = .ok 0xDEAF [0x2C] := by decide +kernel
example : integer (strBytes "0x7fff_ffff_ffff_ffff") = .ok 9223372036854775807 [] := by decide +kernel
example : integer (strBytes "0x8000_0000_0000_0000") = .cut := by decide +kernel
example : integer (strBytes "0o7_55") = .ok 493 [] := by decide +kernel
example : integer (strBytes "0b1_01") = .ok 5 [] := by decide +kernel
example : floatLit (strBytes "-1_0.2_5e+0_7") = .ok ⟨true, [0x31, 0x30], [0x32, 0x35], false, [0x30, 0x37]⟩ [] := by
  decide +kernel
example : signBytes (some true) ++ joinU [[0x31], [0x30]] ++ (fracBytes (some [[0x32], [0x35]]) ++
    0x65 :: (signBytes (some false) ++ joinU [[0x30], [0x37]] ++ [])) = strBytes "-1_0.2_5e+0_7" := by decide +kernel
example : natOfDigitsBase 16 (strBytes "dEaF") = 0xDEAF ∧ (strBytes "dEaF").map hexLower = strBytes "deaf" := by
  decide +kernel
example : float (strBytes "1.5") = .ok 0x3FF8000000000000 [] ∧ integer (strBytes "1.5") = .ok 1 [0x2E, 0x35] := by
  decide +kernel
example : floatLit (writeFloat false false false true (strBytes "-12")) =
    .ok ⟨true, [0x31, 0x32], [0x30], false, []⟩ [] := by decide +kernel
example : dispBytes true [0x30] (some [0x32, 0x35]) = strBytes "-0.25" ∧
    floatLit (writeFloat false false false false (strBytes "-0.25")) =
      .ok ⟨true, [0x30], [0x32, 0x35], false, []⟩ [] := by decide +kernel

end TomlVerif.Props.C11
