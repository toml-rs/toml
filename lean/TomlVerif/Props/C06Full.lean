import TomlVerif.Lemmas.Built06
import TomlVerif.Props.C04Fuel
/-! # C06, containers and documents — what is built through the API prints as TOML that decodes back

  The two statements of `Props/C06.lean` (`T06_inline_statement`, `T06_doc_statement`), proved. -/
namespace TomlVerif.Props.C06
open TomlVerif TomlVerif.Spec TomlVerif.Model TomlVerif.Model.Encode06 TomlVerif.Model.Value
open TomlVerif.Lemmas.Encode06 TomlVerif.Lemmas.Encode06b TomlVerif.Lemmas.Encode06e TomlVerif.Spec.Encode06

/-- a built value printed inside any context the printer puts a value in is read back as that value, at any
    recursion depth that leaves room for the value's own nesting, for every sufficient fuel -/
theorem T06_inline_context (b : BVal) (hl : LeavesOkV (buildVal b)) (d : Nat) (rest : Bytes)
    (hd : d + depthV (buildVal b) < LIMIT) (hr : LeafFollow rest) :
    ∃ F, ∀ fuel, F ≤ fuel → value fuel d (printValue (buildVal b) ++ rest) = .ok (canonValD (buildVal b)) rest := by
  have e : printValue (buildVal b) = core (buildVal b) := by
    unfold printValue
    rw [encodeValue_eq, decorOf_buildVal]
    simp
  rw [e]
  exact ⟨_, fun fuel hf => val_ok _ (good_build b) hl d fuel rest hd hr.valFollowS hf⟩

/-- **T06_inline**: every value built from in-range leaves with `Array::new/push`, `InlineTable::new/insert`
    or the `FromIterator` impls, nested below the parser's recursion limit, prints as text that
    `str::parse::<Value>` reads back as the same value: same element order, same key order. -/
theorem T06_inline : T06_inline_statement := by
  intro b hl hd
  obtain ⟨F, hF⟩ := T06_inline_context b hl 0 [] (by omega) leafFollow_nil
  rw [Props.C04Fuel.T04_parseValue_fuel _ (F + (3 * (printValue (buildVal b)).length + 4)) (by omega)]
  have := hF (F + (3 * (printValue (buildVal b)).length + 4)) (by omega)
  rw [List.append_nil] at this
  rw [this]

/-- non-vacuity: an array built with `push` holding an inline table with a key that needs quotes, a repeated
    key (the second `insert` replaces the value, the key keeps its place) and a nested array from an iterator -/
def sampleVal : BVal :=
  .arr false [.int 1, .inl false [([0x61, 0x20, 0x62], .arr true [.bool true, .str [0x0A]]), ([0x6B], .int 2),
    ([0x61, 0x20, 0x62], .arr true [])], .str [0x27]]

example : LeavesOkV (buildVal sampleVal) ∧ depthV (buildVal sampleVal) < LIMIT := by
  refine ⟨?_, by decide⟩
  simp [sampleVal, buildVal, buildVals, buildKVs, arrayPush, decorate, aset, alookup, areplace, LeavesOkV, LeavesOkVs,
    LeavesOkPairs]
  exact ⟨LeafOk.int _ _ (by decide), LeafOk.int _ _ (by decide), LeafOk.str _ _⟩

example : printValue (buildVal sampleVal) =
    [0x5B, 0x31, 0x2C, 0x20, 0x7B, 0x20, 0x22, 0x61, 0x20, 0x62, 0x22, 0x20, 0x3D, 0x20, 0x5B, 0x5D, 0x2C, 0x20,
     0x6B, 0x20, 0x3D, 0x20, 0x32, 0x20, 0x7D, 0x2C, 0x20, 0x22, 0x27, 0x22, 0x5D] := by decide +kernel



/-- **T06_doc**: every document built through the API (`Table::new` + `insert`, `Item::Table`,
    `ArrayOfTables::new` + `push`, values as in `T06_inline`) from in-range leaves, nested below the parser's
    limit and without an empty `ArrayOfTables` (known finding F10), prints (`DocumentMut::to_string`) as text
    the document parser accepts, and the parsed tree is the built tree up to the flags the parser sets
    (`implicit`, `dotted`, `doc_position`): in every table the values in build order, then the sub-tables
    and arrays of tables in build order; NaNs reduced to their sign. -/
theorem T06_doc : T06_doc_statement := by
  intro t hl hd hne
  exact doc_roundtrip (buildTbl t) (ok_tbl (buildTbl t) 0 (built_tbl t) hl hne (by omega))

/-- the parser's own decomposition on the printed text: parsing it is running the definition state machine over
    the statements of the preorder walk (one header per table, one key/value statement per value); that the run
    succeeds is `T06_doc` -/
theorem T06_doc_statements (t : BTbl) (hl : LeavesOkT (buildTbl t)) (hd : depthT (buildTbl t) < LIMIT)
    (hne : NoEmptyAotT (buildTbl t)) :
    Doc.parseDocument (printDoc (buildTbl t)) =
      (Lemmas.State09.run {} (Lemmas.Encode06c.stmtsVs (Lemmas.Encode06d.visT (buildTbl t) [] false))).bind
        State.intoDocument := by
  have h := ok_tbl (buildTbl t) 0 (built_tbl t) hl hne (by omega)
  rw [printDoc_eq _ h, Lemmas.Encode06c.parseDocument_visits _ (fun v hv => (visitOk_T _ [] false h v hv).1)]

/-- non-vacuity: `sampleDoc` of `Props/C06.lean` (a value after a sub-table, an array of tables in an array of
    tables, a table holding only sub-tables, a string that needs the multi-line form) meets the hypotheses -/
example : LeavesOkT (buildTbl sampleDoc) ∧ depthT (buildTbl sampleDoc) < LIMIT ∧ NoEmptyAotT (buildTbl sampleDoc) := by
  refine ⟨?_, by decide, ?_⟩
  · simp [sampleDoc, buildTbl, buildItems, buildItem, buildTbls, buildVal, aset, alookup, LeavesOkT, LeavesOkItems,
      LeavesOkI, LeavesOkTs, LeavesOkV]
    exact ⟨LeafOk.str _ _, LeafOk.bool _ _⟩
  · simp [sampleDoc, buildTbl, buildItems, buildItem, buildTbls, buildVal, aset, alookup, NoEmptyAotT,
      NoEmptyAotItems, NoEmptyAotI, NoEmptyAotTs]

/-- a second instance: a sub-table whose key needs quotes (`"a b"`), below it an inline table with a quoted key,
    a key inserted twice (the second `insert` replaces the item in place) and an array of tables with a dotted-looking key -/
def sampleDoc2 : BTbl :=
  .mk [([0x61, 0x20, 0x62], .table (.mk [([0x76], .value (.inl false [([0x2E], .arr false [.int 1, .int 2])]))])),
       ([0x78], .value (.int 1)), ([0x61, 0x2E, 0x62], .aot [.mk [([0x79], .value (.bool false))]]),
       ([0x78], .value (.int 2))]

example : LeavesOkT (buildTbl sampleDoc2) ∧ depthT (buildTbl sampleDoc2) < LIMIT ∧ NoEmptyAotT (buildTbl sampleDoc2) := by
  refine ⟨?_, by decide, ?_⟩
  · simp [sampleDoc2, buildTbl, buildItems, buildItem, buildTbls, buildVal, buildVals, buildKVs, arrayPush, decorate, aset,
      alookup, areplace, LeavesOkT, LeavesOkItems, LeavesOkI, LeavesOkTs, LeavesOkV, LeavesOkVs, LeavesOkPairs]
    exact ⟨⟨LeafOk.int _ _ (by decide), LeafOk.int _ _ (by decide)⟩, LeafOk.int _ _ (by decide), LeafOk.bool _ _⟩
  · simp [sampleDoc2, buildTbl, buildItems, buildItem, buildTbls, buildVal, aset, alookup, areplace, NoEmptyAotT,
      NoEmptyAotItems, NoEmptyAotI, NoEmptyAotTs]

/-- `x = 2`, blank line, `["a b"]`, `v = { "." = [1, 2] }`, blank line, `[["a.b"]]`, `y = false` -/
example : printDoc (buildTbl sampleDoc2) =
    [0x78, 0x20, 0x3D, 0x20, 0x32, 0x0A,
     0x0A, 0x5B, 0x22, 0x61, 0x20, 0x62, 0x22, 0x5D, 0x0A,
     0x76, 0x20, 0x3D, 0x20, 0x7B, 0x20, 0x22, 0x2E, 0x22, 0x20, 0x3D, 0x20, 0x5B, 0x31, 0x2C, 0x20, 0x32, 0x5D, 0x20, 0x7D, 0x0A,
     0x0A, 0x5B, 0x5B, 0x22, 0x61, 0x2E, 0x62, 0x22, 0x5D, 0x5D, 0x0A,
     0x79, 0x20, 0x3D, 0x20, 0x66, 0x61, 0x6C, 0x73, 0x65, 0x0A] := by decide +kernel

/-- the hypothesis `NoEmptyAotT` cannot be dropped: `T06_finding_empty_aot` (F10) -/
example : ¬ NoEmptyAotT (buildTbl witnessF10) := by
  simp [witnessF10, buildTbl, buildItems, buildItem, buildTbls, buildVal, aset, alookup, NoEmptyAotT, NoEmptyAotItems,
    NoEmptyAotI]

end TomlVerif.Props.C06

