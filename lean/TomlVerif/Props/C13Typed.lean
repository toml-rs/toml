import TomlVerif.Lemmas.DeTyped13Sorted
import TomlVerif.Props.C13
/-! C13 for typed targets: for EVERY target type of the grammar `Ty` (Model/DeTyped.lean) and every parsed tree, the
    decoding routes of the two crates agree on their results. On the same data in the same entry order their verdicts
    differ only where one of three checks fires (`T13_typed_verdicts`, one direction; a witness for each check:
    `T13_split_*`); the key order of a `BTreeMap` changes a verdict without any check (`T13_split_entry_order`).

    `decodeEdit` follows `toml_edit::de::ValueDeserializer` (every text route: `toml::from_str`,
    `toml_edit::de::from_str / from_slice / from_document`, the value deserializers), `decodeValue` follows
    `impl Deserializer for toml::Value / toml::Table` (`try_into`). The description of serde they share is the trusted
    part (header of Model/DeTyped.lean); both are tied to the real code by the correspondence run of the check. -/
namespace TomlVerif.Props.C13Typed
open TomlVerif TomlVerif.Model TomlVerif.Model.TomlValue TomlVerif.Model.DeRoutes TomlVerif.Model.DeTyped
open TomlVerif.Lemmas.DeTyped13 TomlVerif.Lemmas.RoundTrip17

/-- `toml::de::Deserializer` / `toml::de::ValueDeserializer` add nothing — whatever the
type, the route through them is the `toml_edit` route. -/
theorem T13_typed_wrappers_thin (c : EditCfg) (fl : Flavour) (ty : Ty) (it : Item) :
    tomlRoute c fl ty it = editRoute c fl ty it := by
  unfold tomlRoute editRoute
  rw [C13.T13_thin]

/-- the entry point is the method the type calls, so the route is `decodeEdit` -/
theorem T13_typed_edit_route (c : EditCfg) (fl : Flavour) (ty : Ty) (it : Item) :
    editRoute c fl ty it = decodeEdit c fl ty it := by
  simp [editRoute, editEntry]

/-- Apart from the three checks (`EditCfg`, `ValueCfg`) the two deserializer families are
the same function of the target type and of the data in document order — verdict and value. -/
theorem T13_typed_lenient_equal (fl : Flavour) (ty : Ty) (it : Item) :
    decodeEdit editLenient fl ty it = decodeValue valueLenient fl ty (plainItem it) :=
  (lenient_all fl).1 ty it

/-- `toml_edit`: key validation in struct variants and serde's `StringDeserializer` under
a date-time only turn successes into errors, they never change a value. -/
theorem T13_typed_checks_only_reject_edit (c : EditCfg) (fl : Flavour) (ty : Ty) (it : Item) (d : Dec)
    (h : decodeEdit c fl ty it = .ok d) : decodeEdit editLenient fl ty it = .ok d :=
  edit_mono c fl ty it d h

/-- `toml::Value`: "fewer elements in array / map" only turns successes into errors. -/
theorem T13_typed_checks_only_reject_value (c : ValueCfg) (fl : Flavour) (ty : Ty) (v : TV) (d : Dec)
    (h : decodeValue c fl ty v = .ok d) : decodeValue valueLenient fl ty v = .ok d :=
  value_mono c fl ty v d h

/-- Whatever the switches (in particular the code as it stands), when
`toml_edit`'s deserializer and `toml::Value`'s deserializer both succeed on the same data in the same entry order,
they return the same value. -/
theorem T13_typed_results_agree_docorder (ce : EditCfg) (cv : ValueCfg) (fl : Flavour) (ty : Ty) (it : Item) (d d' : Dec)
    (h1 : decodeEdit ce fl ty it = .ok d) (h2 : decodeValue cv fl ty (plainItem it) = .ok d') : d = d' := by
  have a := edit_mono ce fl ty it d h1
  have b := value_mono cv fl ty _ d' h2
  rw [T13_typed_lenient_equal] at a
  rw [a] at b
  cases b; rfl

/-- non-vacuity: `struct S { a: i64, b: Option<String> }` from `{ a = 1 }` succeeds on both sides -/
example :
    decodeEdit editAsIs .sorted (.struct (.cons [97] (.int (-9223372036854775808) 9223372036854775807) false
        (.cons [98] (.option .string) false .nil))) (.value (.inl [([97], .int 1)] false false)) =
      .ok (.struct [([97], .int 1), ([98], .none)]) ∧
    decodeValue valueAsIs .sorted (.struct (.cons [97] (.int (-9223372036854775808) 9223372036854775807) false
        (.cons [98] (.option .string) false .nil))) (plainItem (.value (.inl [([97], .int 1)] false false))) =
      .ok (.struct [([97], .int 1), ([98], .none)]) := by
  constructor <;> rfl

/-- On the same data in the same order the two families disagree only where one of the three checks changes the
outcome of its own side. (One direction: both sides can fail as the code stands and succeed without the checks. That a
disagreement is in the verdict only is `T13_typed_results_agree_docorder`.) -/
theorem T13_typed_verdicts (fl : Flavour) (ty : Ty) (it : Item)
    (h : decodeEdit editAsIs fl ty it ≠ decodeValue valueAsIs fl ty (plainItem it)) :
    decodeEdit editAsIs fl ty it ≠ decodeEdit editLenient fl ty it ∨
      decodeValue valueAsIs fl ty (plainItem it) ≠ decodeValue valueLenient fl ty (plainItem it) := by
  by_cases h1 : decodeEdit editAsIs fl ty it = decodeEdit editLenient fl ty it
  · right
    intro h2
    exact h (by rw [h1, h2, T13_typed_lenient_equal])
  · exact Or.inl h1

/-- what the routes ask of a tree: in every table the keys are distinct and none is the private date-time key, and a
date-time prints and re-reads (`C12.T12_roundtrip` for every date-time whose fields are in range). The document parser
guarantees all of it but the absence of the private key (Props/C13TypedParsed.lean: `T13_parsed_wf`, `T13_F24_needed`). -/
def WfItem (it : Item) : Prop := WfTV (plainItem it)

def isOk {α} : R α → Bool
  | .ok _ => true
  | .error _ => false

def i64 : Ty := .int (-9223372036854775808) 9223372036854775807

/-- Reordering the entries of every table into key order (what a `BTreeMap` does) never
changes the value `impl Deserializer for toml::Value` returns — it can only change the verdict (`T13_split_entry_order`). -/
theorem T13_typed_sorted_agree (c c' : ValueCfg) (ty : Ty) (v : TV) (hw : WfTV v) (d d' : Dec)
    (h1 : decodeValue c .sorted ty v = .ok d) (h2 : decodeValue c' .sorted ty (placeTV .sorted v) = .ok d') : d = d' :=
  sorted_ty ty v hw d d' (value_mono c .sorted ty v d h1) (value_mono c' .sorted ty _ d' h2)

/-- The agreement of the routes does not depend on the switches: with any of the three checks on or off on either
side, a text route and the route through `toml::Value` return equal results whenever both succeed. With
`preserve_order` the `Value` keeps the document's order and the two decoders see the same entries
(`T13_typed_results_agree_docorder`); with `BTreeMap` the `Value` is key-sorted, which changes no result
(`T13_typed_sorted_agree`). -/
theorem routes_agree (ce : EditCfg) (cv : ValueCfg) (fl : Flavour) (ty : Ty) (it : Item) (hw : WfItem it) (d d' : Dec)
    (h1 : editRoute ce fl ty it = .ok d) (h2 : valueRoute cv fl ty it = .ok d') : d = d' := by
  rw [T13_typed_edit_route] at h1
  unfold valueRoute at h2
  rw [value_of_item fl it hw] at h2
  cases fl with
  | insertion =>
    rw [place_insertion_id _ (wf_nodup _ hw)] at h2
    exact T13_typed_results_agree_docorder ce cv _ ty it d d' h1 h2
  | sorted =>
    have a := edit_mono ce .sorted ty it d h1
    rw [T13_typed_lenient_equal] at a
    exact T13_typed_sorted_agree valueLenient cv ty (plainItem it) hw d d' a h2

/-- The build with `preserve_order`: for every target type and every well-formed parsed tree,
the text routes and the routes through `toml::Value` / `toml::Table` return equal results whenever they succeed. -/
theorem T13_typed_routes_agree_insertion (ty : Ty) (it : Item) (hw : WfItem it) (d d' : Dec)
    (h1 : editRoute editAsIs .insertion ty it = .ok d) (h2 : valueRoute valueAsIs .insertion ty it = .ok d') : d = d' :=
  routes_agree _ _ _ ty it hw d d' h1 h2

/-- **T13_typed_routes_agree**: for every target type of the grammar, both builds of the map (`BTreeMap`, and
`IndexMap` with `preserve_order`), and every well-formed parsed tree: a text route (`toml::from_str`,
`toml_edit::de::from_str / from_slice / from_document`, the value deserializers) and the route through `toml::Value`
(`from_str::<Value>` then `try_into`) return equal results whenever both succeed. -/
theorem T13_typed_routes_agree (fl : Flavour) (ty : Ty) (it : Item) (hw : WfItem it) (d d' : Dec)
    (h1 : editRoute editAsIs fl ty it = .ok d) (h2 : valueRoute valueAsIs fl ty it = .ok d') : d = d' :=
  routes_agree _ _ fl ty it hw d d' h1 h2

/-- the same through the `toml::de` wrappers (`toml::from_str::<T>` itself) -/
theorem T13_typed_routes_agree_toml (fl : Flavour) (ty : Ty) (it : Item) (hw : WfItem it) (d d' : Dec)
    (h1 : tomlRoute editAsIs fl ty it = .ok d) (h2 : valueRoute valueAsIs fl ty it = .ok d') : d = d' := by
  rw [T13_typed_wrappers_thin] at h1
  exact T13_typed_routes_agree fl ty it hw d d' h1 h2

/-- the route through `toml::Table` (the root of a document) is the route through `toml::Value` of that table
(`impl Deserializer for Table` delegates to `Value::Table`): whenever it succeeds, the `Value` route succeeds with the
same result. Only this direction, and under `WfItem`: `Value`'s visitor tests the first key against the private
date-time key and refuses duplicate keys, `Table`'s visitor does neither. -/
theorem T13_typed_table_route (c : ValueCfg) (fl : Flavour) (ty : Ty) (t : Tbl) (hw : WfItem (.table t)) (d : Dec)
    (h : tableRoute c fl ty (.table t) = .ok d) : valueRoute c fl ty (.table t) = .ok d := by
  unfold tableRoute at h
  unfold valueRoute
  rw [value_of_item fl _ hw]
  rw [presOfItem_eq] at h
  unfold WfItem at hw
  obtain ⟨items, a, b, c⟩ := t
  simp only [plainItem, plainTbl] at h hw ⊢
  rw [WfTV] at hw
  simp only [presEdit, visitTable, visitPairs_presEdit_wf fl false _ hw.1, Option.map_some] at h
  simpa only [placeTV] using h

theorem T13_typed_routes_agree_table (fl : Flavour) (ty : Ty) (t : Tbl) (hw : WfItem (.table t)) (d d' : Dec)
    (h1 : editRoute editAsIs fl ty (.table t) = .ok d) (h2 : tableRoute valueAsIs fl ty (.table t) = .ok d') : d = d' :=
  T13_typed_routes_agree fl ty _ hw d d' h1 (T13_typed_table_route _ fl ty t hw d' h2)

/-- non-vacuity of `T13_typed_routes_agree`: the root table `{ b = { y = 1 }, a = 2 }` (keys out of order) into
`struct { a: i64, b: BTreeMap<String, i64> }` is well formed and both routes succeed -/
example :
    WfItem (.table (.mk [([98], .value (.inl [([121], .int 1)] false false)), ([97], .value (.int 2))] false false none)) ∧
    isOk (editRoute editAsIs .sorted (.struct (.cons [97] i64 false (.cons [98] (.map i64) false .nil)))
      (.table (.mk [([98], .value (.inl [([121], .int 1)] false false)), ([97], .value (.int 2))] false false none))) = true ∧
    isOk (valueRoute valueAsIs .sorted (.struct (.cons [97] i64 false (.cons [98] (.map i64) false .nil)))
      (.table (.mk [([98], .value (.inl [([121], .int 1)] false false)), ([97], .value (.int 2))] false false none))) = true := by
  refine ⟨?_, by rfl, by rfl⟩
  simp [WfItem, plainItem, plainTbl, plainItems, plainVal, plainValPairs, WfTV, WfPs, FIELD]

/-! ### the verdict differences, one witness each (checked against the real code by the fixed cases of the check) -/

/-- trailing elements: `(i64, i64)` from `[1, 2, 3]` — `toml_edit` ignores the third element, `toml::Value` answers
"fewer elements in array". The same for a struct or struct variant read from an array. -/
theorem T13_split_trailing_element :
    decodeEdit editAsIs .sorted (.tuple (.cons i64 (.cons i64 .nil))) (.value (.arr [.int 1, .int 2, .int 3])) =
      .ok (.tuple [.int 1, .int 2]) ∧
    isOk (decodeValue valueAsIs .sorted (.tuple (.cons i64 (.cons i64 .nil))) (.arr [.int 1, .int 2, .int 3])) = false := by
  constructor <;> rfl

/-- unknown key in a struct variant: `enum E { V { a: i64 } }` from `{ V = { a = 1, b = 2 } }` — `toml_edit`
validates the keys of a struct variant (and only there), `toml::Value` reads `b` as an unknown field. -/
theorem T13_split_variant_keys :
    isOk (decodeEdit editAsIs .sorted (.enum (.cons [86] (.struct (.cons [97] i64 false .nil)) .nil))
      (.value (.inl [([86], .inl [([97], .int 1), ([98], .int 2)] false false)] false false))) = false ∧
    decodeValue valueAsIs .sorted (.enum (.cons [86] (.struct (.cons [97] i64 false .nil)) .nil))
      (.tbl [([86], .tbl [([97], .int 1), ([98], .int 2)])]) = .ok (.vStruct [86] [([97], .int 1)]) := by
  constructor <;> rfl

/-- entry order: `enum E { V(i64, i64) }` from `{ V = { 1 = 2, 0 = 1 } }` — `toml_edit` meets the key "1" at index 0,
the `BTreeMap` of `toml::Value` yields "0" first. (With eleven keys it is the other way round: "10" sorts before "2".) -/
theorem T13_split_entry_order :
    isOk (decodeEdit editAsIs .sorted (.enum (.cons [86] (.tuple (.cons i64 (.cons i64 .nil))) .nil))
      (.value (.inl [([86], .inl [([49], .int 2), ([48], .int 1)] false false)] false false))) = false ∧
    decodeValue valueAsIs .sorted (.enum (.cons [86] (.tuple (.cons i64 (.cons i64 .nil))) .nil))
      (.tbl [([86], .tbl [([48], .int 1), ([49], .int 2)])]) = .ok (.vTuple [86] [.int 1, .int 2]) := by
  constructor <;> rfl

/-- a date-time read as a map: `BTreeMap<String, Option<String>>` from `1979-05-27` — `toml_edit` hands the printed
date-time to serde's `StringDeserializer`, whose `deserialize_option` is `visit_string`; `toml::Value` hands over
a `Value::String`, whose `deserialize_option` is `visit_some`. -/
theorem T13_split_datetime_as_map :
    isOk (decodeEdit editAsIs .sorted (.map (.option .string)) (.value (.dt ⟨some ⟨1979, 5, 27⟩, none, none⟩))) = false ∧
    isOk (decodeValue valueAsIs .sorted (.map (.option .string)) (.dt ⟨some ⟨1979, 5, 27⟩, none, none⟩)) = true := by
  constructor <;> rfl

end TomlVerif.Props.C13Typed
