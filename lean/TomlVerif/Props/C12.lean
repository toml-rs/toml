import TomlVerif.Lemmas.Datetime12
/-! # C12 — date-times: the standalone parser, the document parser and the printer agree -/
namespace TomlVerif.Props.C12
open TomlVerif TomlVerif.Spec TomlVerif.Model.Datetime TomlVerif.Lemmas.Datetime12

def DateInRange (d : Date) : Prop := 1 ≤ d.month ∧ d.month ≤ 12 ∧ 1 ≤ d.day ∧ d.day ≤ maxDays d.year d.month
def TimeInRange (t : Time) : Prop := t.hour ≤ 23 ∧ t.minute ≤ 59 ∧ t.second ≤ 60
def OffsetInRange : Offset → Prop
  | .z => True
  | .custom m => -1439 ≤ m ∧ m ≤ 1439

/-- the document parser's date is always a calendar date -/
theorem T12_doc_date_range (s rest : Bytes) (d : Date) (h : Doc.fullDate s = .ok d rest) : DateInRange d := by
  obtain ⟨_, _, _, _, _, hm, hd⟩ := (fullDate_ok_iff s rest d).1 h
  exact ⟨hm.1, hm.2, hd⟩

/-- the standalone parser and the document parser accept exactly the same byte strings and
    produce the same value -/
theorem T12_agree : ∀ s : Bytes, Std.fromStr s = Doc.parseAll s := by
  intro s
  -- `FromStr` looks at the third byte: `:` means a time alone, anything else a date first.  In either branch the
  -- readers are compared one by one (`parseDate_doc`, `parseTime_doc`, `parseOffset_doc`).  They differ only on a dot
  -- without digits, where `Doc.partialTime` stops before the dot: `parseAll` then finds a rest and rejects.
  by_cases hlen : s.length < 3
  · simp [Std.fromStr, hlen, parseAll_short s hlen]
  rcases s with _ | ⟨a, _ | ⟨b, _ | ⟨c, r⟩⟩⟩
  · simp at hlen
  · simp at hlen
  · simp at hlen
  by_cases hc : c = 0x3A
  · subst hc
    have ht := parseTime_doc (a :: b :: 0x3A :: r)
    simp only [Std.fromStr, Doc.parseAll, Doc.dateTime, fullDate_colon]
    simp only [hlen, if_false]
    simp only [List.getElem?_cons_succ, List.getElem?_cons_zero, beq_self_eq_true, if_true]
    generalize (a :: b :: 0x3A :: r) = s at ht ⊢
    rcases hp : Doc.partialTime s with ⟨t, rest⟩ | _ | _
    · rw [hp] at ht
      simp only at ht
      rcases ht with ht | ⟨ht, w, hw⟩
      · rw [ht]
        rcases rest with _ | ⟨x, rest⟩ <;> simp
      · subst hw; simp [ht]
    · rw [hp] at ht; simp only at ht; simp [ht]
    · rw [hp] at ht; simp only at ht; simp [ht]
  · have hpt := partialTime_not_colon a b c r hc
    have hc' : (some c == some (0x3A : UInt8)) = false := by simp [hc]
    simp only [Std.fromStr, Doc.parseAll, Doc.dateTime, hlen, if_false, parseDate_doc,
      List.getElem?_cons_succ, List.getElem?_cons_zero, hc', Bool.false_eq_true]
    generalize (a :: b :: c :: r) = s at hpt ⊢
    rcases hf : Doc.fullDate s with ⟨d, rest⟩ | _ | _
    · simp only
      rcases rest with _ | ⟨x, rest⟩
      · simp
      simp only [Doc.isTimeDelim]
      by_cases hx : (x == 0x54 || x == 0x74 || x == 0x20) = true
      · simp only [hx, if_true]
        have ht := parseTime_doc rest
        rcases hp : Doc.partialTime rest with ⟨t, r2⟩ | _ | _
        · rw [hp] at ht
          simp only at ht
          rcases ht with ht | ⟨ht, w, hw⟩
          · rw [ht]
            simp only [parseOffset_doc]
            rcases ho : Doc.timeOffset r2 with ⟨o, r3⟩ | _ | _
            · rcases r3 with _ | ⟨y, r3⟩ <;> simp
            · rcases r2 with _ | ⟨y, r2⟩ <;> simp
            · simp
          · subst hw
            have : Doc.timeOffset (0x2E :: w) = .bt := by simp [Doc.timeOffset]
            simp [ht, this]
        · rw [hp] at ht; simp only at ht; simp [ht]
        · rw [hp] at ht; simp only at ht; simp [ht]
      · simp [hx]
    · simp [hpt]
    · simp

/-- "1979-05-27T07:32:00.5Z": both sides of `T12_agree` are an actual value -/
example : Std.fromStr [49, 57, 55, 57, 45, 48, 53, 45, 50, 55, 84, 48, 55, 58, 51, 50, 58, 48, 48, 46, 53, 90] =
      some ⟨some ⟨1979, 5, 27⟩, some ⟨7, 32, 0, 500000000⟩, some .z⟩ ∧
    Doc.parseAll [49, 57, 55, 57, 45, 48, 53, 45, 50, 55, 84, 48, 55, 58, 51, 50, 58, 48, 48, 46, 53, 90] =
      some ⟨some ⟨1979, 5, 27⟩, some ⟨7, 32, 0, 500000000⟩, some .z⟩ := by decide
/-- "07:32:00." (a dot without digits): the one place where the two time readers differ internally
    (`Doc.partialTime` succeeds and leaves the dot, `Std.parseTime` fails); both whole-string
    parsers reject it -/
example : Std.parseTime [48, 55, 58, 51, 50, 58, 48, 48, 46] = none ∧
    Doc.partialTime [48, 55, 58, 51, 50, 58, 48, 48, 46] = .ok ⟨7, 32, 0, 0⟩ [46] ∧
    Std.fromStr [48, 55, 58, 51, 50, 58, 48, 48, 46] = none ∧
    Doc.parseAll [48, 55, 58, 51, 50, 58, 48, 48, 46] = none := by decide

def NanosInRange (t : Time) : Prop := t.nanosecond ≤ 999999999

/-- one of the four kinds: offset date-time, local date-time, local date, local time -/
def ShapeOk (dt : Datetime) : Prop :=
  (dt.offset ≠ none → dt.date ≠ none ∧ dt.time ≠ none) ∧
  (dt.date = none → dt.time ≠ none ∧ dt.offset = none)

/-- every present field is in range and the value has one of the four shapes -/
def FieldsInRange (dt : Datetime) : Prop :=
  (∀ d, dt.date = some d → DateInRange d) ∧
  (∀ t, dt.time = some t → TimeInRange t ∧ NanosInRange t) ∧
  (∀ o, dt.offset = some o → OffsetInRange o) ∧
  ShapeOk dt

theorem offsetInRange_of (o : Offset) (h : ∀ m, o = .custom m → -1439 ≤ m ∧ m ≤ 1439) : OffsetInRange o := by
  cases o with
  | z => trivial
  | custom m => exact h m rfl

theorem doc_dateTime_ranges (s rest : Bytes) (dt : Datetime) (h : Doc.dateTime s = .ok dt rest) :
    FieldsInRange dt := by
  cases dateTime_ok h with
  | date hd _ =>
    have hdr := T12_doc_date_range _ _ _ hd
    simp [FieldsInRange, ShapeOk, *]
  | dateTime hd _ ht _ =>
    have hdr := T12_doc_date_range _ _ _ hd
    have htr := partialTime_range _ _ _ ht
    simp [FieldsInRange, ShapeOk, TimeInRange, NanosInRange, *]
  | offset hd _ ht ho =>
    have hdr := T12_doc_date_range _ _ _ hd
    have htr := partialTime_range _ _ _ ht
    have hor := offsetInRange_of _ (timeOffset_range _ _ _ ho)
    simp [FieldsInRange, ShapeOk, TimeInRange, NanosInRange, *]
  | time _ ht =>
    have htr := partialTime_range _ _ _ ht
    simp [FieldsInRange, ShapeOk, TimeInRange, NanosInRange, *]

theorem T12_doc_ranges (s : Bytes) (dt : Datetime) (h : Doc.parseAll s = some dt) : FieldsInRange dt := by
  unfold Doc.parseAll at h
  split at h
  · rename_i d hd
    injection h with h; subst h
    exact doc_dateTime_ranges _ _ _ hd
  · contradiction

theorem T12_std_ranges (s : Bytes) (dt : Datetime) (h : Std.fromStr s = some dt) : FieldsInRange dt :=
  T12_doc_ranges s dt (T12_agree s ▸ h)

/-- non-vacuity of the two range theorems: "2000-02-29 23:59:60.999999999-23:59" is accepted -/
example : Std.fromStr [50, 48, 48, 48, 45, 48, 50, 45, 50, 57, 32, 50, 51, 58, 53, 57, 58, 54, 48, 46,
      57, 57, 57, 57, 57, 57, 57, 57, 57, 45, 50, 51, 58, 53, 57] =
    some ⟨some ⟨2000, 2, 29⟩, some ⟨23, 59, 60, 999999999⟩, some (.custom (-1439))⟩ := by decide
example : Doc.parseAll [50, 48, 48, 48, 45, 48, 50, 45, 50, 57, 32, 50, 51, 58, 53, 57, 58, 54, 48, 46,
      57, 57, 57, 57, 57, 57, 57, 57, 57, 45, 50, 51, 58, 53, 57] =
    some ⟨some ⟨2000, 2, 29⟩, some ⟨23, 59, 60, 999999999⟩, some (.custom (-1439))⟩ := by decide

theorem dateTime_display (dt : Datetime) (h : FieldsInRange dt)
    (hy : ∀ d, dt.date = some d → d.year ≤ 9999) (rest : Bytes) (hr : DtFollow rest) :
    Doc.dateTime (Std.display dt ++ rest) = .ok dt rest := by
  obtain ⟨date, time, offset⟩ := dt
  obtain ⟨hd, ht, ho, hs1, hs2⟩ := h
  obtain ⟨htf, hob, hdel⟩ := hr
  simp only at hd ht ho hs1 hs2 hy
  apply dateTime_of_ok
  cases date with
  | none =>
    obtain ⟨h1, h2⟩ := hs2 rfl
    subst h2
    cases time with
    | none => exact absurd rfl h1
    | some t =>
      obtain ⟨⟨a, b, c⟩, n⟩ := ht t rfl
      have e : Std.display ⟨none, some t, none⟩ = Std.displayTime t := by simp [Std.display]
      rw [e]
      exact .time (fullDate_displayTime t rest a) (partialTime_display t rest a b c n htf)
  | some d =>
    obtain ⟨m1, m2, d1, d2⟩ := hd d rfl
    have hyy := hy d rfl
    cases time with
    | none =>
      cases offset with
      | some o => exact absurd rfl (hs1 (by simp)).2
      | none =>
        have e : Std.display ⟨some d, none, none⟩ = Std.displayDate d := by simp [Std.display]
        rw [e]
        exact .date (fullDate_display d rest hyy m1 m2 d1 d2) hdel
    | some t =>
      obtain ⟨⟨a, b, c⟩, n⟩ := ht t rfl
      cases offset with
      | none =>
        have e : Std.display ⟨some d, some t, none⟩ ++ rest =
            Std.displayDate d ++ (0x54 :: (Std.displayTime t ++ rest)) := by
          simp [Std.display]
        rw [e]
        exact .dateTime (fullDate_display d _ hyy m1 m2 d1 d2) (by decide)
          (partialTime_display t rest a b c n htf) hob
      | some o =>
        have hor' : ∀ m, o = .custom m → -1439 ≤ m ∧ m ≤ 1439 := by
          intro m hm; subst hm; exact ho _ rfl
        have e : Std.display ⟨some d, some t, some o⟩ ++ rest =
            Std.displayDate d ++ (0x54 :: (Std.displayTime t ++ (Std.displayOffset o ++ rest))) := by
          simp [Std.display]
        rw [e]
        exact .offset (fullDate_display d _ hyy m1 m2 d1 d2) (by decide)
          (partialTime_display t _ a b c n (timeFollow_offset o rest)) (timeOffset_display o rest hor')

theorem doc_roundtrip (dt : Datetime) (h : FieldsInRange dt)
    (hy : ∀ d, dt.date = some d → d.year ≤ 9999) : Doc.parseAll (Std.display dt) = some dt := by
  have := dateTime_display dt h hy [] dtFollow_nil
  rw [List.append_nil] at this
  simp [Doc.parseAll, this]

/-- printing an in-range value of one of the four kinds (year at most 9999) and reading the text
    back with either parser gives exactly the same value.  There is no exception for a zero
    offset: `custom 0` is written `+00:00`, which reads back as `custom 0` (the model's offset is an
    `Int`, so the input `-00:00` also reads as `custom 0`; see the examples below).  A value that a parser returned
    meets both hypotheses: `T12_doc_ranges` / `T12_std_ranges` give `FieldsInRange`, and a date that was read has its
    year in four digits (`fullDate_ok_text`, Lemmas/TokenDatetime.lean). -/
theorem T12_roundtrip (dt : Datetime) (h : FieldsInRange dt)
    (hy : ∀ d, dt.date = some d → d.year ≤ 9999) :
    Std.fromStr (Std.display dt) = some dt ∧ Doc.parseAll (Std.display dt) = some dt :=
  ⟨(T12_agree _).trans (doc_roundtrip dt h hy), doc_roundtrip dt h hy⟩

/-- non-vacuity of `T12_roundtrip`: a value with a fraction and a negative offset satisfies the
    hypotheses; it is written "1979-05-27T07:32:00.00012-01:30" -/
example : FieldsInRange ⟨some ⟨1979, 5, 27⟩, some ⟨7, 32, 0, 120000⟩, some (.custom (-90))⟩ ∧
    Std.display ⟨some ⟨1979, 5, 27⟩, some ⟨7, 32, 0, 120000⟩, some (.custom (-90))⟩ =
      [49, 57, 55, 57, 45, 48, 53, 45, 50, 55, 84, 48, 55, 58, 51, 50, 58, 48, 48, 46, 48, 48, 48, 49, 50,
       45, 48, 49, 58, 51, 48] := by
  refine ⟨⟨?_, ?_, ?_, ?_⟩, by decide⟩
  · intro d h; injection h with h; subst h; simp [DateInRange, maxDays]
  · intro t h; injection h with h; subst h; simp [TimeInRange, NanosInRange]
  · intro o h; injection h with h; subst h; simp [OffsetInRange]
  · simp [ShapeOk]
/-- a time-only value satisfies the hypotheses as well -/
example : FieldsInRange ⟨none, some ⟨7, 32, 0, 1⟩, none⟩ := by
  refine ⟨?_, ?_, ?_, ?_⟩
  · intro d h; cases h
  · intro t h; injection h with h; subst h; simp [TimeInRange, NanosInRange]
  · intro o h; cases h
  · simp [ShapeOk]
/-- zero offsets: "1979-05-27T07:32:00-00:00" reads as `custom 0`, which is written back with `+` -/
example : Std.fromStr [49, 57, 55, 57, 45, 48, 53, 45, 50, 55, 84, 48, 55, 58, 51, 50, 58, 48, 48,
      45, 48, 48, 58, 48, 48] = some ⟨some ⟨1979, 5, 27⟩, some ⟨7, 32, 0, 0⟩, some (.custom 0)⟩ ∧
    Std.display ⟨some ⟨1979, 5, 27⟩, some ⟨7, 32, 0, 0⟩, some (.custom 0)⟩ =
      [49, 57, 55, 57, 45, 48, 53, 45, 50, 55, 84, 48, 55, 58, 51, 50, 58, 48, 48,
       43, 48, 48, 58, 48, 48] := by decide

end TomlVerif.Props.C12

