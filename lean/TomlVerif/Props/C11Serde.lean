import TomlVerif.Model.SerdeInt
/-! C11, "serde conversions that cannot be exact fail with an error, never wrapped": the three integer conversions of
    `Model/SerdeInt.lean`, for every width and every value of that width. -/
namespace TomlVerif.Props.C11Serde
open TomlVerif TomlVerif.Model.Numbers TomlVerif.Model.SerdeInt

theorem inI64_iff (n : Int) : inI64 n = true ↔ (-9223372036854775808 ≤ n ∧ n ≤ 9223372036854775807) := by
  unfold inI64 i64Min i64Max
  rw [Bool.and_eq_true, decide_eq_true_iff, decide_eq_true_iff]

theorem fits_iff (k : Kind) (n : Int) : fits k n = true ↔
    (match k with
     | .u8 => 0 ≤ n ∧ n ≤ 255 | .i8 => -128 ≤ n ∧ n ≤ 127 | .u16 => 0 ≤ n ∧ n ≤ 65535 | .i16 => -32768 ≤ n ∧ n ≤ 32767
     | .u32 => 0 ≤ n ∧ n ≤ 4294967295 | .i32 => -2147483648 ≤ n ∧ n ≤ 2147483647
     | .u64 => 0 ≤ n ∧ n ≤ 18446744073709551615 | .i64 => -9223372036854775808 ≤ n ∧ n ≤ 9223372036854775807
     | .u128 => 0 ≤ n ∧ n ≤ 340282366920938463463374607431768211455
     | .i128 => -170141183460469231731687303715884105728 ≤ n ∧ n ≤ 170141183460469231731687303715884105727) := by
  cases k <;> simp only [fits] <;> first | exact inI64_iff n | rw [Bool.and_eq_true, decide_eq_true_iff, decide_eq_true_iff]

/-- serializing: the integer written is the value, and it is a TOML integer (`i64`) -/
theorem T11_ser_exact (k : Kind) (n m : Int) (h : serInt k n = some m) : m = n ∧ inI64 m = true := by
  unfold serInt at h
  split at h
  · cases h
  · split at h
    · cases h; exact ⟨rfl, by assumption⟩
    · cases h

/-- … and every value of a width up to 64 bits that is a TOML integer is written -/
theorem T11_ser_complete (k : Kind) (n : Int) (hk : k.is128 = false) (hn : inI64 n = true) : serInt k n = some n := by
  simp [serInt, hk, hn]

/-- an error exactly for the 128-bit widths and for values outside `i64` -/
theorem T11_ser_error_iff (k : Kind) (n : Int) : serInt k n = none ↔ (k.is128 = true ∨ inI64 n = false) := by
  unfold serInt
  cases hk : k.is128 <;> cases hn : inI64 n <;> simp

/-- … and among the widths up to 64 bits only `u64` has values outside `i64` -/
theorem T11_ser_only_u64_overflows (k : Kind) (n : Int) (hf : fits k n = true) (hk : k.is128 = false)
    (h : serInt k n = none) : k = .u64 ∧ i64Max < n := by
  rcases (T11_ser_error_iff k n).1 h with h1 | h1
  · rw [hk] at h1; cases h1
  · have h2 := mt (inI64_iff n).2 (ne_true_of_eq_false h1)
    have h3 := (fits_iff k n).1 hf
    cases k <;> simp only [Kind.is128] at hk h3
    case u64 => exact ⟨rfl, by unfold i64Max; omega⟩
    case u128 => cases hk
    case i128 => cases hk
    all_goals (exfalso; omega)

/-- reading: the value returned is the TOML integer, and it is a value of the target width (never wrapped or truncated) -/
theorem T11_de_exact (k : Kind) (n m : Int) (h : deInt k n = some m) : m = n ∧ fits k m = true := by
  unfold deInt at h
  split at h
  · cases h
  · split at h
    · rename_i hc
      cases h
      rw [Bool.and_eq_true] at hc
      exact ⟨rfl, hc.2⟩
    · cases h

theorem T11_de_complete (k : Kind) (n : Int) (hk : k.is128 = false) (hn : inI64 n = true) (hf : fits k n = true) :
    deInt k n = some n := by
  simp [deInt, hk, hn, hf]

/-- `toml::Value` from a foreign deserializer: exact, inside `i64`, or an error -/
theorem T11_visit_exact (k : Kind) (n m : Int) (hf : fits k n = true) (h : visitInt k n = some m) :
    m = n ∧ inI64 m = true := by
  have h3 := (fits_iff k n).1 hf
  cases k <;> simp only [visitInt] at h h3
  case u128 => cases h
  case i128 => cases h
  case u64 | u8 | u16 =>
    by_cases hle : n ≤ i64Max
    · rw [if_pos hle] at h
      cases h
      unfold i64Max at hle
      exact ⟨rfl, (inI64_iff n).2 (by omega)⟩
    · rw [if_neg hle] at h
      cases h
  all_goals
    cases h
    exact ⟨rfl, (inI64_iff n).2 (by omega)⟩

/-- the error is exactly: a 128-bit width, or an unsigned value above `i64::MAX` (never a wrapped negative integer) -/
theorem T11_visit_error_iff (k : Kind) (n : Int) (hf : fits k n = true) :
    visitInt k n = none ↔ (k.is128 = true ∨ (k = .u64 ∧ i64Max < n)) := by
  have h3 := (fits_iff k n).1 hf
  cases k <;> simp only [visitInt, Kind.is128] at h3 ⊢
  case u64 | u8 | u16 =>
    unfold i64Max
    by_cases hle : n ≤ 9223372036854775807
    · rw [if_pos hle]
      constructor
      · intro h; cases h
      · intro h
        rcases h with h | ⟨_, h⟩
        · cases h
        · omega
    · rw [if_neg hle]
      constructor
      · intro _; first | (right; exact ⟨trivial, by omega⟩) | (exfalso; omega)
      · intro _; rfl
  all_goals simp

/-- non-vacuity: 2^63 as a `u64` is refused, `i64::MAX` as a `u64` is kept, `-1` as an `i8` is kept -/
example : fits .u64 9223372036854775808 = true ∧ visitInt .u64 9223372036854775808 = none ∧
    visitInt .u64 9223372036854775807 = some 9223372036854775807 ∧ visitInt .i8 (-1) = some (-1) ∧
    serInt .u64 18446744073709551615 = none ∧ deInt .u8 256 = none ∧ deInt .u8 255 = some 255 := by decide

end TomlVerif.Props.C11Serde
