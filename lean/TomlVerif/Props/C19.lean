import TomlVerif.Lemmas.Macro19Reads
import TomlVerif.Lemmas.Macro19TokenTrees
/-! C19 — the table `toml!` builds equals the table the parser builds from the same text.
    Statements over the model of the tt-muncher (Model/Macro.lean), which the compiled-program check
    (tools/props/c19.py) ties to the real macro document by document. Literal evaluation (rustc) and the date-time
    text parser (`toml_datetime`, property C12) are shared between the model and the meaning `sem`, so the theorems
    are about what the muncher itself does: arm order, sign rewriting, date-time arm selection and re-assembly of the
    text, `@trailingcomma`, recursion. This file: scalars, date-times and arrays of them (`MacroVal`), and F8. -/
namespace TomlVerif.Props.C19
open TomlVerif TomlVerif.Model TomlVerif.Model.Macro TomlVerif.Lemmas.Macro19

/-- An inline array of values, with or without trailing comma and nested to any depth,
    evaluates through `@value` to the array of the meanings of its items, in order (a failing item — literal out of
    range, invalid date-time — fails the array the same way). -/
theorem T19_value_partial (items : List MacroVal) (trailing : Bool) :
    macroValue (.group .bracket (joinToks items trailing)) = (MacroVal.arr items trailing).sem := by
  have hc := cost_le (.arr items trailing)
  obtain ⟨f, hf⟩ : ∃ f, 2 * sizeTTs [TT.group .bracket (joinToks items trailing)] + 4 = f + 1 := ⟨_, rfl⟩
  rw [macroValue, hf, ((MacroVal.arr items trailing).reads f (by rw [MacroVal.toks] at hc; omega)).single]

/-- non-vacuity: `[ -1, +2.5, [1979-05-27 07:32:00Z, nan,], "a" ]` is such an array and evaluates to four items -/
example :
    macroValue (.group .bracket (joinToks
      [.int .minus [0x31], .float .plus [0x32, 0x2E, 0x35],
       .arr [.dt (.ldtSp ⟨[0x31,0x39,0x37,0x39],[],false⟩ ⟨[0x30,0x35],[],false⟩ ⟨[0x32,0x37],[],false⟩ ⟨[0x30,0x37],[],false⟩ ⟨[0x33,0x32],[],false⟩ ⟨[0x30,0x30],[0x5A],false⟩),
             .special .none true] true,
       .str [0x22,0x61,0x22] [0x61]] false)) =
    .ok (.arr [.int (-1), .float 0x4004000000000000,
      .arr [.dt ⟨some ⟨1979, 5, 27⟩, some ⟨7, 32, 0, 0⟩, some .z⟩, .float 0x7FF8000000000000], .str [0x61]]) := by rfl

/-- every value, in the position the macro reads it (an element of an inline array, followed by a comma):
    `@array` pushes exactly its meaning and continues with the tokens behind the comma. -/
theorem T19_value_step (a : MacroVal) (fuel : Nat) (acc : List MVal) (rest : List TT)
    (hf : a.cost + 1 ≤ fuel) (hr : RestOk rest) :
    array (fuel + 1) acc (a.toks ++ commaT :: rest) = R.bind a.sem (fun v => array fuel (acc ++ [v]) rest) := by
  obtain ⟨f, rfl⟩ : ∃ f, fuel = f + 1 := ⟨fuel - 1, by omega⟩
  exact array_reads (a.reads f (by omega)) acc rest hr

example : RestOk [] ∧ RestOk (MacroVal.toks (.int .minus [0x31])) :=
  ⟨restOk_nil, by simpa using toks_head_ok (.int .minus [0x31]) []⟩

/-- date-time arm selection at the top level: whichever of the eleven shapes a date-time is written in, the first
    arm of `@toplevel` (in source order) that matches hands exactly its tokens — with `T` in place of a blank — to
    `stringify!`, and leaves the tokens of the next `key = value` pair or header untouched. -/
theorem T19_datetime_top (f : DtForm) (rest : List TT) (h : RestTopOk rest) :
    firstDt [] (f.toks ++ rest) dtArms = some (f.text, rest) := firstDt_form_top f rest h

example : RestTopOk [.tok (.ident [0x61]), .tok (.punct 0x3D), .tok (.num [0x31] [] false)] := by
  constructor
  · intro t r h; cases h; simp
  · intro t u r h; cases h; simp

/-- the same inside inline tables and arrays (arms end in a comma) -/
theorem T19_datetime_comma (f : DtForm) (rest : List TT) (h : RestOk rest) :
    firstDt comma (f.toks ++ commaT :: rest) dtArms = some (f.text, rest) := firstDt_form f rest h

/-- `[a.b] x = 1 [a] y = 2` -/
def f8Text : Bytes :=
  [0x5B,0x61,0x2E,0x62,0x5D,0x20,0x78,0x20,0x3D,0x20,0x31,0x20,0x5B,0x61,0x5D,0x20,0x79,0x20,0x3D,0x20,0x32]

def f8Toks : List TT :=
  [.group .bracket [.tok (.ident [0x61]), .tok (.punct 0x2E), .tok (.ident [0x62])],
   .tok (.ident [0x78]), .tok (.punct 0x3D), .tok (.num [0x31] [] false),
   .group .bracket [.tok (.ident [0x61])],
   .tok (.ident [0x79]), .tok (.punct 0x3D), .tok (.num [0x32] [] false)]

/-- what the parser builds for that text: `{a = {b = {x = 1}, y = 2}}` -/
def f8Parsed : MVal := .tbl [([0x61], .tbl [([0x62], .tbl [([0x78], .int 1)]), ([0x79], .int 2)])]
/-- what the macro builds with `keep = false` (the header arm calling `insert_toml`): `{a = {y = 2}}` -/
def f8Macro : MVal := .tbl [([0x61], .tbl [([0x79], .int 2)])]

theorem T19_finding_tokens : tokens f8Text = some f8Toks :=
  Lemmas.Macro19c.tokens_of_lex _ _ (by decide +kernel)

/-- F8: with `keep = false` (the header arm calling `insert_toml` of an empty table) the witness evaluates to
    `{a = {y = 2}}`, which is not the parsed table: the sub-table `b` is lost. -/
theorem T19_finding : macroDocWith false f8Toks = .ok f8Macro ∧ f8Macro ≠ f8Parsed :=
  ⟨by rfl, by simp [f8Macro, f8Parsed]⟩

/-- with `keep = true` (the header arm calling `table_toml`, which assigns only when the target is not a table; what
    /repo has) the witness evaluates to the parsed table -/
theorem T19_finding_repaired : macroDocWith true f8Toks = .ok f8Parsed := by rfl

end TomlVerif.Props.C19
