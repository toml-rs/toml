import TomlVerif.Model.Doc
import TomlVerif.Lemmas.Visit20
/-! # C20 — the default visitors reach every node of a document exactly once, in document order;
    a visitor overriding the integer hook rewrites every integer and nothing else

`Model.Visit.trace t` / `visitDocumentMut h t` are the transliteration of the default walks of `toml_edit::visit` /
`toml_edit::visit_mut` (tied to the code by the differential run `c20`); `nodeEvents` keeps of a trace the hook calls
that stand for a node and drops the four dispatch hooks (`visit_document`, `visit_item`, `visit_table_like`,
`visit_value`).  "Document order" is the order of the decoded tree (insertion order of keys, element order of arrays). -/
namespace TomlVerif.Props.C20
open TomlVerif TomlVerif.Model TomlVerif.Model.Visit TomlVerif.Spec.Preorder
open TomlVerif.Lemmas.Visit20 TomlVerif.Lemmas.Skeleton20

/-- `[[t]]⏎k = {x = [1, {y.z = 2}]}⏎` : an array inside an inline table inside an array of tables, with a
    dotted key inside -/
def exDoc : Bytes := [91, 91, 116, 93, 93, 10, 107, 32, 61, 32, 123, 120, 32, 61, 32, 91, 49, 44, 32, 123, 121, 46, 122,
  32, 61, 32, 50, 125, 93, 125, 10]

/-- a tree whose walk is that of the tree of `exDoc` (the last example compares the traces, which do not show
    flags and positions) -/
def exTree : Tbl :=
  .mk [([116], .aot [.mk [([107], .value (.inl [([120], .arr [.int 1, .inl [([121], .inl [([122], .int 2)] true true)] false false])]
    false false))] false false (some 1)])] false false none

/-- the complete trace of the default read-only walk: `visit_document`, then for every node of the
    pre-order, in that order, exactly the hook calls of that node -/
theorem T20_visit_full (t : Tbl) : trace t = .doc :: (preorder t).flatMap hooks := by
  simp [trace, visitDocument, preorder, visitTable_eq t]

/-- the node events of the default read-only walk are the pre-order of the document: every key/value
    pair, scalar, array, inline table, table and array-of-tables element exactly once, in document order -/
theorem T20_visit (t : Tbl) : nodeEvents (trace t) = preorder t := by
  rw [T20_visit_full]
  exact nodeEvents_flatMap_hooks (preorder t)  -- `Ev.doc` stands for no node

example : nodeEvents (trace exTree) =
    [.table, .pair [116], .arrayOfTables, .table, .pair [107], .inlineTable, .pair [120], .array, .int 1, .inlineTable,
     .pair [121], .inlineTable, .pair [122], .int 2] := by decide
example : preorder exTree =
    [.table, .pair [116], .arrayOfTables, .table, .pair [107], .inlineTable, .pair [120], .array, .int 1, .inlineTable,
     .pair [121], .inlineTable, .pair [122], .int 2] := by
  simp [preorder, exTree, preTbl, preItem, preVal]

/-- the mutable walk makes the same hook calls as the read-only walk, whatever the integer hook does
    (each hook is called with the node as it was before the hook ran) -/
theorem T20_visit_mut_full (h : Int → Int) (t : Tbl) : (visitDocumentMut h t).2 = trace t := by
  simp [visitDocumentMut, trace, visitDocument, visitTableMut_snd h t]

/-- the node events of the default mutable walk are the pre-order of the document -/
theorem T20_visit_mut (t : Tbl) : nodeEvents (traceMut t) = preorder t := by
  rw [traceMut, T20_visit_mut_full, T20_visit]

/-- the same under any overriding integer hook -/
theorem T20_visit_mut_any (h : Int → Int) (t : Tbl) : nodeEvents (visitDocumentMut h t).2 = preorder t := by
  rw [T20_visit_mut_full, T20_visit]

/-- the default mutable walk (no hook overridden) leaves the document as it is -/
theorem T20_visit_mut_unchanged (t : Tbl) : (visitDocumentMut id t).1 = t := by
  simp [visitDocumentMut, visitTableMut_id t]

example : traceMut exTree = trace exTree ∧ (traceMut exTree).length = 31 := by decide

/-- a `VisitMut` that overrides only `visit_integer_mut` with `n ↦ f n`: the integers of the document
    after the walk are the old ones mapped through `f`, in the same order, and the document with its
    integers erased — keys, key order, arrays, inline tables, tables, flags, positions, every string,
    float, boolean and date-time — is unchanged -/
theorem T20_rewrite (t : Tbl) (f : Int → Int) :
    ints (rewriteInts f t) = (ints t).map f ∧ skeleton (rewriteInts f t) = skeleton t := by
  simp [rewriteInts, visitDocumentMut, ints, skeleton, intsTbl_mut f t, skelTbl_mut f t]

/-- the number of integers is unchanged: none skipped, none visited twice, none created -/
theorem T20_rewrite_count (t : Tbl) (f : Int → Int) : (ints (rewriteInts f t)).length = (ints t).length := by
  rw [(T20_rewrite t f).1, List.length_map]

/-- a document is determined by its skeleton and its integers, so `T20_rewrite` leaves no freedom:
    any tree with the mapped integers and the old skeleton *is* the rewritten document -/
theorem T20_rewrite_unique (t u : Tbl) (f : Int → Int)
    (hi : ints u = (ints t).map f) (hs : skeleton u = skeleton t) : u = rewriteInts f t := by
  have h := T20_rewrite t f
  exact injTbl u (rewriteInts f t) (by simpa [skeleton] using hs.trans h.2.symm) (by simpa [ints] using hi.trans h.1.symm)

/-- non-vacuity of `T20_rewrite_unique`: `exTree` with 1 ↦ 2, 2 ↦ 3 written out by hand meets both hypotheses -/
example :
    let u : Tbl := .mk [([116], .aot [.mk [([107], .value (.inl [([120], .arr [.int 2, .inl [([121], .inl [([122], .int 3)] true true)] false false])]
      false false))] false false (some 1)])] false false none
    ints u = (ints exTree).map incr ∧ skeleton u = skeleton exTree := by
  simp [ints, skeleton, exTree, intsTbl, intsItem, intsVal, skelTbl, skelItem, skelVal, incr]

example : ints exTree = [1, 2] ∧ ints (rewriteInts incr exTree) = [2, 3] := by
  simp [ints, exTree, rewriteInts, visitDocumentMut, visitTableMut, visitTableItemsMut, visitItemMut, visitAotItemsMut,
    visitValueMut, visitInlineItemsMut, visitArrayItemsMut, intsTbl, intsItem, intsVal, incr]

/-- for the tree of any accepted document: the node events of both default walks are the pre-order, the two
    walks make the same hook calls, and the integer rewrite maps the integers and keeps the skeleton (the
    statements above hold of every tree; the parse hypothesis is not needed) -/
theorem T20_documents (s : Bytes) (t : Tbl) (_h : Doc.parseSlice s = some t) (f : Int → Int) :
    nodeEvents (trace t) = preorder t ∧ nodeEvents (traceMut t) = preorder t ∧ traceMut t = trace t ∧
    ints (rewriteInts f t) = (ints t).map f ∧ skeleton (rewriteInts f t) = skeleton t :=
  ⟨T20_visit t, T20_visit_mut t, T20_visit_mut_full id t, T20_rewrite t f⟩

/-- `exDoc` is accepted and its walk has the 31 hook calls / 14 nodes of `exTree` -/
example : (Doc.parseSlice exDoc).map (fun t => (trace t, (nodeEvents (trace t)).length)) = some (trace exTree, 14) := by
  decide +kernel

end TomlVerif.Props.C20
