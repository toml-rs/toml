import TomlVerif.Props.C08
import TomlVerif.Lemmas.SemSort08
import TomlVerif.Lemmas.Arena08
/-! C08, all 17 ops: the refinement, lifted to histories, and the print-level frame.

    `T08_refine_full` (Props/C08.lean) is false as stated: `sort` recurses into the *dotted* sub-tables, a flag
    the plain tree does not have, and `mv` changes the tree at a second path. What holds is `T08_refine_all`:
    every op refines `plainStep op p`, for `sort` at a node with `SortFlat`; on the semantic tree, which has the
    flags, `sort` needs no such condition. "Skipped ops skip on both sides" is false for the plain tree
    (`skip_not_plain`), so the plain fold of `T08_refine_history` runs over the ops the model applied. The
    print-level frame is about the line `encodeItemAt` builds, which is a line of the print when the entry is
    stored directly in a table that is not dotted (`T08_line_in_print`, Props/C08Parsed.lean). -/
namespace TomlVerif.Props.C08
open TomlVerif TomlVerif.Model TomlVerif.Model.Cst TomlVerif.Model.Edit TomlVerif.Model.Encode
open TomlVerif.Lemmas.Edit08 TomlVerif.Lemmas.Refine08 TomlVerif.Lemmas.RefineOps08
open TomlVerif.Lemmas.Refine08b TomlVerif.Lemmas.Refine08bSort TomlVerif.Lemmas.Refine08bSem TomlVerif.Lemmas.Refine08bFrame
open TomlVerif.Lemmas.Refine08bPrint TomlVerif.Lemmas.Refine08bSpans TomlVerif.Lemmas.Cst03 TomlVerif.Spec.OrderedPlain

/-- the plain op at the node the edit path leads to, for the 16 single-path ops (`mv`: see `pMv`) -/
def plainOp1 : Op → Plain → Option Plain
  | .set k v => pSet k (.scalar (leaf v))
  | .del k => pDel k
  | .newt k => pSet k (.tbl [])
  | .viv k1 k2 v => pViv k1 k2 (.scalar (leaf v))
  | .sort => pSort
  | .fmt => pId
  | .push v => pPush (.scalar (leaf v))
  | .ains i v => pInsert i (.scalar (leaf v))
  | .arepl i v => pReplace i (.scalar (leaf v))
  | .adel i => pRemove i
  | .tpush => pTpush
  | .tdel i => pRemove i
  | .inl _ => pId
  | .tbl _ => pId
  | .aot2arr _ => pId
  | .arr2aot _ => pId
  | .mv _ _ => fun _ => none

theorem plainOp1_of_plainOp (op : Op) (f : Plain → Option Plain) (h : plainOp op = some f) : plainOp1 op = f := by
  cases op <;> simp [plainOp] at h <;> simp [plainOp1, h]

/-- one op on the plain ordered tree -/
def plainStep (op : Op) (p : List Seg) : Plain → Option Plain :=
  match op with
  | .mv k p2 => pMv k p p2
  | op => pupd (plainOp1 op) p

/-- the side condition of `sort`: the dotted sub-tables of the sorted node are in order already -/
def SortSide (st : St) (op : Op) (p : List Seg) : Prop :=
  op = .sort → ∀ n, lookupTbl p st.doc.root = some n → SortFlat n

theorem sortSide_of_ne (st : St) (op : Op) (p : List Seg) (h : op ≠ .sort) : SortSide st op p :=
  fun e => absurd e h

/-- **refinement, all 17 ops** (what holds of `T08_refine_full`): whenever a model op applies — for `sort`:
    at a node with `SortFlat` (`SortSide`) — the plain ordered tree of the edited document is `plainStep op p`
    of the plain ordered tree before -/
theorem T08_refine_all (st st' : St) (op : Op) (p : List Seg) (h : applyOp st op p = some st')
    (hs : SortSide st op p) : plainStep op p (plainT st.doc.root) = some (plainT st'.doc.root) := by
  cases op with
  | mv k p2 =>
    cases applyOp_applied h with
    | upd _ hm _ _ => exact absurd rfl (hm k p2)
    | mv hn _ h1 h2 =>
      have e3 := refine_tbl (refines_put k _ _ (nodeItem _)) p2 _ _ h2
      rw [plainI_nodeItem] at e3
      simp only [plainStep, pMv, look_tbl _ _ _ hn, refine_tbl (refines_del k []) p _ _ h1, Option.bind_some, e3]
  | viv k1 k2 v => cases applyOp_applied h with | upd _ _ _ hu => exact refine_tbl (refines_viv k1 k2 v _) p _ _ hu
  | arr2aot k => cases applyOp_applied h with | upd _ _ _ hu => exact refine_tbl (refines_arr2aot k _) p _ _ hu
  | sort => cases applyOp_applied h with | upd _ _ _ hu => exact refine_sort _ p _ _ (hs rfl) hu
  | set k v | del k | newt k | fmt | push v | ains i v | arepl i v | adel i | tpush | tdel i | inl k | tbl k
  | aot2arr k => exact T08_refine st st' _ p _ rfl h

/-- `T08_refine_full` restricted to the ops other than `sort` and `mv` holds as stated: the plain
    op depends on the op alone and is applied at the edit path -/
theorem T08_refine_single (op : Op) (hsort : op ≠ .sort) (hmv : ∀ k p2, op ≠ .mv k p2) :
    ∃ f : Plain → Option Plain, ∀ (st st' : St) (p : List Seg),
      applyOp st op p = some st' → pupd f p (plainT st.doc.root) = some (plainT st'.doc.root) := by
  refine ⟨plainOp1 op, fun st st' p h => ?_⟩
  have := T08_refine_all st st' op p h (sortSide_of_ne st op p hsort)
  cases op with
  | mv k p2 => exact absurd rfl (hmv k p2)
  | _ => exact this

/-- the parsed state of a text (an empty document if it is rejected) -/
def stOf (s : Bytes) : St := (start s).getD ⟨[], ⟨CTbl.empty, .empty⟩⟩

/-- the state after an op (the state itself if it is skipped) -/
def after (st : St) (op : Op) (p : List Seg) : St := (applyOp st op p).getD st

theorem applyOp_after (st : St) (op : Op) (p : List Seg) (h : (applyOp st op p).isSome = true) :
    applyOp st op p = some (after st op p) := by
  unfold after
  cases ha : applyOp st op p with
  | none => simp [ha] at h
  | some x => rfl

/-- `[t]⏎b.z = 1⏎b.a = 2⏎`: `b` is a dotted table -/
def sortDocA : Bytes := strBytes "[t]\nb.z = 1\nb.a = 2\n"
/-- `[t]⏎b = {z = 1, a = 2}⏎`: `b` is an inline table -/
def sortDocB : Bytes := strBytes "[t]\nb = {z = 1, a = 2}\n"

/-- `o = some x` with `plainBeq x y` -/
def isSomeOf (o : Option Plain) (y : Plain) : Bool :=
  match o with
  | some x => plainBeq x y
  | none => false

def nodeInlOKB (root : CTbl) (p : List Seg) : Bool :=
  match lookupTbl p root with
  | some (.val v) => inlOK v
  | _ => true

theorem nodeInlOKB_sound (root : CTbl) (p : List Seg) (h : nodeInlOKB root p = true) :
    ∀ n, lookupTbl p root = some n → NodeInlOK n := by
  intro n hn
  simp only [nodeInlOKB, hn] at h
  cases n with
  | val v => exact h
  | tbl _ => trivial
  | aot _ _ => trivial

/-- the evaluation the three statements below quote: `sortDocA` and `sortDocB` parsed and sorted at `t`, once -/
theorem sortDoc_eval :
    plainBeq (plainT (stOf sortDocA).doc.root) (plainT (stOf sortDocB).doc.root) = true ∧
    (applyOp (stOf sortDocA) .sort [exSeg "t"]).isSome = true ∧
    (applyOp (stOf sortDocB) .sort [exSeg "t"]).isSome = true ∧
    plainBeq (plainT (after (stOf sortDocA) .sort [exSeg "t"]).doc.root)
      (plainT (after (stOf sortDocB) .sort [exSeg "t"]).doc.root) = false ∧
    isSomeOf (pupd pSort [exSeg "t"] (plainT (stOf sortDocA).doc.root))
      (plainT (after (stOf sortDocA) .sort [exSeg "t"]).doc.root) = false ∧
    nodeInlOKB (stOf sortDocA).doc.root [exSeg "t"] = true := by
  decide +kernel

/-- **`sort` is not a function of the plain tree**: the two documents have the same plain ordered
    tree `{t = {b = {z = 1, a = 2}}}`, `sort` applies to both at `t`, and the results differ
    (`{b = {a, z}}` for the dotted table, `{b = {z, a}}` for the inline one) -/
theorem T08_sort_not_plain :
    plainT (stOf sortDocA).doc.root = plainT (stOf sortDocB).doc.root ∧
    (applyOp (stOf sortDocA) .sort [exSeg "t"]).isSome = true ∧
    (applyOp (stOf sortDocB) .sort [exSeg "t"]).isSome = true ∧
    plainT (after (stOf sortDocA) .sort [exSeg "t"]).doc.root ≠
      plainT (after (stOf sortDocB) .sort [exSeg "t"]).doc.root := by
  refine ⟨plainBeq_sound _ _ sortDoc_eval.1, sortDoc_eval.2.1, sortDoc_eval.2.2.1, fun e => ?_⟩
  have h := sortDoc_eval.2.2.2.1
  rw [← e, plainBeq_refl] at h
  cases h

/-- `[a]⏎x = 1⏎[b]⏎y = 2⏎` -/
def mvDoc : Bytes := strBytes "[a]\nx = 1\n[b]\ny = 2\n"

theorem pupd_keeps_other (f : Plain → Option Plain) {a b : Bytes} (hab : a ≠ b) (xa xb y : Plain) {sa sb : Seg}
    (ha : sa.key = some a) (hb : sb.key = some b) (h : pupd f [sa] (.tbl [(a, xa), (b, xb)]) = some y) :
    plook [sb] y = some xb := by
  simp only [pupd, ha, pupdKey, beq_self_eq_true, if_true] at h
  obtain ⟨es, hes, rfl⟩ := Option.map_eq_some_iff.mp h
  obtain ⟨x', _, rfl⟩ := Option.map_eq_some_iff.mp hes
  simp [plook, hb, plookKey, hab]

/-- **`mv` is not an op at its first path**: moving `x` from `[a]` to `[b]` changes the table `b`,
    which no `pupd f [a]` can do -/
theorem T08_mv_not_single_path :
    ¬ ∃ f : Plain → Option Plain, ∀ (st st' : St) (p : List Seg),
      applyOp st (.mv (strBytes "x") [exSeg "b"]) p = some st' →
      pupd f p (plainT st.doc.root) = some (plainT st'.doc.root) := by
  rintro ⟨f, hf⟩
  -- one evaluation: the op applies, the plain tree before, the entry `b` after
  have hev : (applyOp (stOf mvDoc) (.mv (strBytes "x") [exSeg "b"]) [exSeg "a"]).isSome = true ∧
      plainBeq (plainT (stOf mvDoc).doc.root)
        (.tbl [(strBytes "a", .tbl [(strBytes "x", .scalar (.int 1))]),
               (strBytes "b", .tbl [(strBytes "y", .scalar (.int 2))])]) = true ∧
      (match plook [exSeg "b"] (plainT (after (stOf mvDoc) (.mv (strBytes "x") [exSeg "b"]) [exSeg "a"]).doc.root) with
        | some y => plainBeq y (.tbl [(strBytes "y", .scalar (.int 2))])
        | none => false) = false := by decide +kernel
  have h := hf _ _ _ (applyOp_after (stOf mvDoc) (.mv (strBytes "x") [exSeg "b"]) [exSeg "a"] hev.1)
  rw [plainBeq_sound _ _ hev.2.1] at h
  have h3 := hev.2.2
  rw [pupd_keeps_other f (by decide +kernel) _ _ _ rfl rfl h] at h3
  simp [plainBeq_refl] at h3

theorem T08_refine_full_false : ¬ T08_refine_full := by
  intro h
  obtain ⟨f, hf⟩ := h .sort
  obtain ⟨e, ha, hb, hne⟩ := T08_sort_not_plain
  have h1 := hf _ _ _ (applyOp_after _ _ _ ha)
  have h2 := hf _ _ _ (applyOp_after _ _ _ hb)
  rw [e, h2] at h1
  exact hne (Option.some.inj h1).symm

/-- outside the side condition (`sortDocA`: the dotted sub-table `b` is out of order) the one-level
    `pSort` is not what `sort` does -/
theorem T08_sort_side_needed :
    pupd pSort [exSeg "t"] (plainT (stOf sortDocA).doc.root) ≠
      some (plainT (after (stOf sortDocA) .sort [exSeg "t"]).doc.root) := by
  intro h
  have := sortDoc_eval.2.2.2.2.1
  rw [h] at this
  simp only [isSomeOf, plainBeq_refl] at this
  cases this

/-- **`sort` refines `sort_values` on the semantic tree** (`eraseTbl`, Model/Tree.lean): sorted with
    `sortByKey`, dotted sub-tables recursively — at any path and whatever the dotted
    sub-tables look like. (`NodeInlOK`: when the node is an inline table, no `scalar` below it holds
    an inline table as its payload — the type `CVal` allows that, no parse result or op builds it;
    for a table node the condition is `True`.) -/
theorem T08_refine_sort_sem (st st' : St) (p : List Seg) (h : applyOp st .sort p = some st')
    (hok : ∀ n, lookupTbl p st.doc.root = some n → NodeInlOK n) :
    supdTbl sortSU p (eraseTbl st.doc.root) = some (eraseTbl st'.doc.root) := by
  cases applyOp_applied h with
  | upd _ _ _ hu => exact srefine_sort _ p _ _ hok hu

/-- the hypotheses of `T08_refine_sort_sem` hold on the document `T08_sort_not_plain` uses (where
    the plain one-level `pSort` fails, `T08_sort_side_needed`) -/
example : (applyOp (stOf sortDocA) .sort [exSeg "t"]).isSome = true ∧
    ∀ n, lookupTbl [exSeg "t"] (stOf sortDocA).doc.root = some n → NodeInlOK n :=
  ⟨sortDoc_eval.2.1, nodeInlOKB_sound _ _ sortDoc_eval.2.2.2.2.2⟩

def abs (st : St) : Plain := plainT st.doc.root

/-- the ops of a history the model applies, in order (the others are skipped) -/
def applied : St → List (Op × List Seg) → List (Op × List Seg)
  | _, [] => []
  | st, e :: es =>
    match applyOp st e.1 e.2 with
    | some st' => e :: applied st' es
    | none => applied st es

/-- the plain steps in sequence; fails when one of them fails -/
def prun : Plain → List (Op × List Seg) → Option Plain
  | x, [] => some x
  | x, e :: es => (plainStep e.1 e.2 x).bind fun x' => prun x' es

/-- the side condition of `sort` at every step of the history -/
def SortSideAll : St → List (Op × List Seg) → Prop
  | _, [] => True
  | st, e :: es => SortSide st e.1 e.2 ∧ SortSideAll (step st e) es

theorem run_cons (st : St) (e : Op × List Seg) (es : List (Op × List Seg)) :
    run st (e :: es) = run (step st e) es := by simp [run]

/-- skipped ops drop out of the history -/
theorem run_applied : ∀ (es : List (Op × List Seg)) (st : St), run st (applied st es) = run st es := by
  intro es
  induction es with
  | nil => intro st; rfl
  | cons e es ih =>
    intro st
    cases ha : applyOp st e.1 e.2 with
    | none =>
      have hs : step st e = st := by simp [step, ha]
      simp only [applied, ha, run_cons, hs]
      exact ih st
    | some st' =>
      have hs : step st e = st' := by simp [step, ha]
      simp only [applied, ha, run_cons, hs]
      exact ih st'

/-- **refinement, histories**: when every `sort` of the history meets a node with `SortFlat` (`SortSideAll`),
    the plain steps of the ops the model applies, folded over the plain tree of the start state, succeed
    and give the plain tree of the final state -/
theorem T08_refine_history : ∀ (es : List (Op × List Seg)) (st : St), SortSideAll st es →
    prun (abs st) (applied st es) = some (abs (run st es)) := by
  intro es
  induction es with
  | nil => intro st _; rfl
  | cons e es ih =>
    intro st h
    cases ha : applyOp st e.1 e.2 with
    | none =>
      have hs : step st e = st := by simp [step, ha]
      have h2 := h.2
      rw [hs] at h2
      simp only [applied, ha, run_cons, hs]
      exact ih st h2
    | some st' =>
      have hs : step st e = st' := by simp [step, ha]
      have h2 := h.2
      rw [hs] at h2
      have h1 := T08_refine_all st st' e.1 e.2 ha h.1
      simp only [applied, ha, run_cons, hs, prun, abs, h1, Option.bind_some]
      exact ih st' h2

def pstep (x : Plain) (e : Op × List Seg) : Plain := (plainStep e.1 e.2 x).getD x

/-- wherever the model skips an op, the plain step fails too -/
def SkipAgree : St → List (Op × List Seg) → Prop
  | _, [] => True
  | st, e :: es => (applyOp st e.1 e.2 = none → plainStep e.1 e.2 (abs st) = none) ∧ SkipAgree (step st e) es

/-- the skipping fold of the plain steps over the whole history, when the skips agree -/
theorem T08_refine_history_skip : ∀ (es : List (Op × List Seg)) (st : St), SortSideAll st es →
    SkipAgree st es → es.foldl pstep (abs st) = abs (run st es) := by
  intro es
  induction es with
  | nil => intro st _ _; rfl
  | cons e es ih =>
    intro st h hk
    have e1 : pstep (abs st) e = abs (step st e) := by
      cases ha : applyOp st e.1 e.2 with
      | none => simp [pstep, hk.1 ha, step, ha]
      | some st' =>
        have h1 := T08_refine_all st st' e.1 e.2 ha h.1
        simp only [abs] at h1 ⊢
        simp [pstep, h1, step, ha]
    simp only [List.foldl_cons, run_cons, e1]
    exact ih (step st e) h.2 hk.2

/-- `[[t]]⏎x = 1⏎` -/
def skipDoc : Bytes := strBytes "[[t]]\nx = 1\n"

/-- **skips do not agree in general**: `Array::push` at an array of tables is skipped by the model
    (an `ArrayOfTables` is not an `Array`), while the plain tree has one kind of array and `pPush`
    applies -/
theorem skip_not_plain :
    applyOp (stOf skipDoc) (.push (.int 1)) [exSeg "t"] = none ∧
    (plainStep (.push (.int 1)) [exSeg "t"] (abs (stOf skipDoc))).isSome = true := by
  have hev : (applyOp (stOf skipDoc) (.push (.int 1)) [exSeg "t"]).isSome = false ∧
      (plainStep (.push (.int 1)) [exSeg "t"] (abs (stOf skipDoc))).isSome = true := by decide +kernel
  refine ⟨?_, hev.2⟩
  cases h : applyOp (stOf skipDoc) (.push (.int 1)) [exSeg "t"] with
  | none => rfl
  | some x => simp [h] at hev

/-- the key/value entry at path `q`: the stored key of the last segment and the value -/
def entryAt (root : CTbl) (q : List Seg) : Option (CKey × CVal) :=
  match lookupKTbl none q root with
  | some (some k, .val v) => some (k, v)
  | _ => none

theorem entryAt_some (root : CTbl) (q : List Seg) (k : CKey) (v : CVal) (h : entryAt root q = some (k, v)) :
    lookupKTbl none q root = some (some k, .val v) := by
  unfold entryAt at h
  split at h
  · rename_i k' v' hl
    simp only [Option.some.injEq, Prod.mk.injEq] at h
    rw [hl, h.1, h.2]
  · cases h

/-- the value of `entryAt` is the node `lookupTbl` (the lookup of `T08_history`) finds -/
theorem entryAt_lookup (root : CTbl) (q : List Seg) (k : CKey) (v : CVal) (h : entryAt root q = some (k, v)) :
    lookupTbl q root = some (.val v) := by
  rw [← lookupKTbl_snd none q root, entryAt_some root q k v h]
  rfl

/-- the line `visit_table` prints for a key/value pair (`encodeBody`): key path with its decor
    (default `""`, `" "`), `=`, value with its decor (default `" "`, `""`), newline -/
def encodeLine (inp : Bytes) (k : CKey) (v : CVal) : Bytes :=
  encodeKeyPath stripCr inp [k] [] [0x20] ++ [0x3D] ++ encodeValue stripCr inp v [0x20] [] ++ [0x0A]

/-- the line `encodeLine` builds for the key/value entry at path `q`; `none` when `q` does not lead to one. For an
    entry stored directly in a table that is not dotted this is its line in the print (`T08_line_in_print`);
    `entryAt` also answers inside inline tables and dotted tables, where the print has no such line. -/
def encodeItemAt (inp : Bytes) (doc : CDoc) (q : List Seg) : Option Bytes :=
  (entryAt doc.root q).map fun kv => encodeLine inp kv.1 kv.2

/-- every span recorded in the entry at `q` (key repr, key decor, value reprs and decor, nested
    keys) ends inside the arena — what `T14_bounds_statement` says of a parsed document -/
def EntrySpansIn (st : St) (q : List Seg) : Prop :=
  ∀ k v, entryAt st.doc.root q = some (k, v) → EndsIn st.inp.length (keySpans k ++ valSpans v)

/-- **frame with keys, op sequences**: an entry whose path diverges from the path(s) of every op keeps its stored
    key (repr, leaf and dotted decor) and its decorated value -/
theorem T08_history_entry (es : List (Op × List Seg)) : ∀ (st : St) (q : List Seg),
    (∀ e ∈ es, Untouched q e) → entryAt (run st es).doc.root q = entryAt st.doc.root q := by
  intro st q h
  refine untouched_run_rel (fun a b => entryAt b q = entryAt a q) (fun _ => rfl) (fun h1 h2 => h2.trans h1)
    (fun x hx u t t' hu => ?_) es st h
  unfold entryAt
  rw [kframe_tbl u x t t' hu q hx none]

theorem T08_print_untouched_parts (es : List (Op × List Seg)) (st : St) (q : List Seg)
    (hq : ∀ e ∈ es, Untouched q e) (k : CKey) (v : CVal) (he : entryAt st.doc.root q = some (k, v))
    (hs : EndsIn st.inp.length (keySpans k ++ valSpans v)) (f : Bytes → Bytes) (dp ds : Bytes) :
    entryAt (run st es).doc.root q = some (k, v) ∧
    encodeKeyPath f (run st es).inp [k] dp ds = encodeKeyPath f st.inp [k] dp ds ∧
    encodeValue f (run st es).inp v dp ds = encodeValue f st.inp v dp ds := by
  obtain ⟨x, hx⟩ := T08_arena es st
  simp only [endsIn_append] at hs
  refine ⟨(T08_history_entry es st q hq).trans he, ?_, ?_⟩
  · rw [hx]
    exact encodeKeyPath_app f st.inp x [k] dp ds (by simp [keysSpans, hs.1])
  · rw [hx]
    exact encodeValue_app f st.inp x v dp ds hs.2

/-- **print-level frame**: the line `encodeItemAt` builds for a key/value entry whose path diverges from every
    edit path (`Untouched`: not a sibling of an edited key) — key repr, key decor, `=`, value repr, value decor
    with its comment — is the same byte string before and after the history (and the entry is present after
    iff it was before) -/
theorem T08_print_untouched (es : List (Op × List Seg)) (st : St) (q : List Seg)
    (hq : ∀ e ∈ es, Untouched q e) (hs : EntrySpansIn st q) :
    encodeItemAt (run st es).inp (run st es).doc q = encodeItemAt st.inp st.doc q := by
  unfold encodeItemAt
  rw [T08_history_entry es st q hq]
  cases he : entryAt st.doc.root q with
  | none => rfl
  | some kv =>
    obtain ⟨k, v⟩ := kv
    have hb := hs k v he
    obtain ⟨_, h1, _⟩ := T08_print_untouched_parts es st q hq k v he hb stripCr [] [0x20]
    obtain ⟨_, _, h2⟩ := T08_print_untouched_parts es st q hq k v he hb stripCr [0x20] []
    simp only [Option.map_some, encodeLine, h1, h2]

/-- every span recorded in the document ends inside the arena (for a freshly parsed document this
    is `T14_bounds_statement`, Props/C14.lean) -/
def DocSpansIn (st : St) : Prop := EndsIn st.inp.length (tblSpans st.doc.root)

theorem entrySpansIn_of_doc (st : St) (h : DocSpansIn st) (q : List Seg) : EntrySpansIn st q := by
  intro k v he
  have := spansK_tbl none q st.doc.root _ (entryAt_some _ _ k v he) (by simp [okeySpans]) h
  simpa [knodeSpans, okeySpans, nodeSpans] using this

/-- `T08_print_untouched` for a document whose spans are inside its arena -/
theorem T08_print_untouched_doc (es : List (Op × List Seg)) (st : St) (q : List Seg)
    (hq : ∀ e ∈ es, Untouched q e) (hs : DocSpansIn st) :
    encodeItemAt (run st es).inp (run st es).doc q = encodeItemAt st.inp st.doc q :=
  T08_print_untouched es st q hq (entrySpansIn_of_doc st hs q)

def untouchedB (q : List Seg) (e : Op × List Seg) : Bool := (touches e).all fun x => divergeB x q

theorem untouched_all (q : List Seg) (es : List (Op × List Seg)) (h : es.all (untouchedB q) = true) :
    ∀ e ∈ es, Untouched q e := by
  intro e he x hx
  simp only [List.all_eq_true, untouchedB] at h
  exact divergeB_sound x q (h e he x hx)

def docSpansInB (st : St) : Bool := (tblSpans st.doc.root).all fun sp => decide (sp.2 ≤ st.inp.length)

theorem docSpansInB_sound (st : St) (h : docSpansInB st = true) : DocSpansIn st := by
  intro sp hs
  simp only [docSpansInB, List.all_eq_true, decide_eq_true_eq] at h
  exact h sp hs

/-- the node a `sort` works at has no dotted sub-table -/
def sortSideB (st : St) (op : Op) (p : List Seg) : Bool :=
  match op with
  | .sort =>
    match lookupTbl p st.doc.root with
    | some (.tbl t) => noDottedItems t.items
    | some (.val (.inl items _ _ _ _ _)) => noDottedKvs items
    | _ => true
  | _ => true

theorem sortSideB_sound (st : St) (op : Op) (p : List Seg) (h : sortSideB st op p = true) : SortSide st op p := by
  intro e n hn
  subst e
  simp only [sortSideB, hn] at h
  cases n with
  | tbl t => exact sortSub_of_noDotted t.items h
  | val v =>
    cases v with
    | inl items _ _ _ _ _ => exact sortInlSub_of_noDotted items h
    | scalar _ _ _ => trivial
    | arr _ _ _ _ _ => trivial
  | aot _ _ => trivial

def sortSideAllB : St → List (Op × List Seg) → Bool
  | _, [] => true
  | st, e :: es => sortSideB st e.1 e.2 && sortSideAllB (step st e) es

theorem sortSideAllB_sound : ∀ (es : List (Op × List Seg)) (st : St), sortSideAllB st es = true → SortSideAll st es
  | [], _, _ => trivial
  | e :: es, st, h => by
    simp only [sortSideAllB, Bool.and_eq_true] at h
    exact ⟨sortSideB_sound st e.1 e.2 h.1, sortSideAllB_sound es (step st e) h.2⟩

def ixSeg (i : Nat) : Seg := { key := none, idx := some i }

/-- ```
    # config
    name = "n"
    title = "x" # the title

    [srv] # server
    port = 80 # the port
    tags = ["a", "b"]
    pts = [{x = 1}, {x = 2}]

    [[job]]
    id = "j1"
    ``` -/
def exDoc2 : Bytes := strBytes
  "# config\nname = \"n\"\ntitle = \"x\" # the title\n\n[srv] # server\nport = 80 # the port\ntags = [\"a\", \"b\"]\npts = [{x = 1}, {x = 2}]\n\n[[job]]\nid = \"j1\"\n"

/-- `set`, `push`, a skipped `push` (at an array of tables), `viv`, `tpush`, `mv`, `arr2aot`, `sort` -/
def exHist : List (Op × List Seg) :=
  [(.set (strBytes "host") (.str (strBytes "h")), [exSeg "srv"]),
   (.push (.str (strBytes "c")), [exSeg "srv", exSeg "tags"]),
   (.push (.int 1), [exSeg "job"]),
   (.viv (strBytes "meta") (strBytes "ver") (.int 1), [exSeg "srv"]),
   (.tpush, [exSeg "job"]),
   (.mv (strBytes "port") [exSeg "job", ixSeg 0], [exSeg "srv"]),
   (.arr2aot (strBytes "pts"), [exSeg "srv"]),
   (.sort, [exSeg "srv"])]

def skipAgreeB : St → List (Op × List Seg) → Bool
  | _, [] => true
  | st, e :: es =>
    ((applyOp st e.1 e.2).isSome || (plainStep e.1 e.2 (abs st)).isNone) && skipAgreeB (step st e) es

theorem skipAgreeB_sound : ∀ (es : List (Op × List Seg)) (st : St), skipAgreeB st es = true → SkipAgree st es
  | [], _, _ => trivial
  | e :: es, st, h => by
    simp only [skipAgreeB, Bool.and_eq_true, Bool.or_eq_true, Option.isNone_iff_eq_none] at h
    refine ⟨fun hn => ?_, skipAgreeB_sound es (step st e) h.2⟩
    rcases h.1 with h1 | h1
    · simp [hn] at h1
    · exact h1

/-- the applied ops of `exHist` and a `del` of an absent key, which both sides skip -/
def exHistOk : List (Op × List Seg) :=
  (.del (strBytes "zz"), [exSeg "srv"]) :: applied (stOf exDoc2) exHist

/-- the evaluation the examples below quote: `exDoc2` parsed, `exHist` and `exHistOk` run on the model and
    on the plain tree, the result printed, once -/
theorem exDoc2_eval :
    (start exDoc2).isSome = true ∧
    (applied (stOf exDoc2) exHist).length = 7 ∧
    ((applyOp (stOf exDoc2) (.viv (strBytes "meta") (strBytes "ver") (.int 1)) [exSeg "srv"]).isSome = true
      ∧ (applyOp (stOf exDoc2) (.mv (strBytes "port") [exSeg "job", ixSeg 0]) [exSeg "srv"]).isSome = true
      ∧ (applyOp (stOf exDoc2) (.arr2aot (strBytes "pts")) [exSeg "srv"]).isSome = true
      ∧ (applyOp (stOf exDoc2) .sort [exSeg "srv"]).isSome = true) ∧
    sortSideAllB (stOf exDoc2) exHist = true ∧
    isSomeOf (some (exHist.foldl pstep (abs (stOf exDoc2)))) (abs (run (stOf exDoc2) exHist)) = false ∧
    sortSideAllB (stOf exDoc2) exHistOk = true ∧
    skipAgreeB (stOf exDoc2) exHistOk = true ∧
    (applyOp (stOf exDoc2) (.del (strBytes "zz")) [exSeg "srv"]).isSome = false ∧
    docSpansInB (stOf exDoc2) = true ∧
    encodeItemAt (stOf exDoc2).inp (stOf exDoc2).doc [exSeg "title"] = some (strBytes "title = \"x\" # the title\n") ∧
    Edit.print (run (stOf exDoc2) exHist) = strBytes
    "# config\nname = \"n\"\ntitle = \"x\" # the title\n\n[srv] # server\nhost = \"h\"\nmeta = { ver = 1 }\ntags = [\"a\", \"b\", \"c\"]\n\n[[srv.pts ]]\nx = 1\n\n[[srv.pts ]]\nx = 2\n\n[[job]]\nid = \"j1\"\nport = 80 # the port\n\n[[job]]\nn = 1\n" := by
  rw [exHistOk, exDoc2]; simp only [strBytes_eq rfl]; decide +kernel

example : (start exDoc2).isSome = true := exDoc2_eval.1

/-- seven of the eight ops apply (the `push` at `job` is skipped) -/
example : (applied (stOf exDoc2) exHist).length = 7 := exDoc2_eval.2.1

/-- each of the four ops `T08_refine` leaves out applies to the parsed document -/
example : (applyOp (stOf exDoc2) (.viv (strBytes "meta") (strBytes "ver") (.int 1)) [exSeg "srv"]).isSome = true
    ∧ (applyOp (stOf exDoc2) (.mv (strBytes "port") [exSeg "job", ixSeg 0]) [exSeg "srv"]).isSome = true
    ∧ (applyOp (stOf exDoc2) (.arr2aot (strBytes "pts")) [exSeg "srv"]).isSome = true
    ∧ (applyOp (stOf exDoc2) .sort [exSeg "srv"]).isSome = true := exDoc2_eval.2.2.1

theorem exHist_sortSide : SortSideAll (stOf exDoc2) exHist :=
  sortSideAllB_sound _ _ exDoc2_eval.2.2.2.1

example : prun (abs (stOf exDoc2)) (applied (stOf exDoc2) exHist) = some (abs (run (stOf exDoc2) exHist)) :=
  T08_refine_history exHist (stOf exDoc2) exHist_sortSide

/-- the skipping fold does *not* give the plain tree of the final state here (its hypothesis
    `SkipAgree` fails at the skipped `push`) -/
example : isSomeOf (some (exHist.foldl pstep (abs (stOf exDoc2)))) (abs (run (stOf exDoc2) exHist)) = false :=
  exDoc2_eval.2.2.2.2.1

example : exHistOk.foldl pstep (abs (stOf exDoc2)) = abs (run (stOf exDoc2) exHistOk) :=
  T08_refine_history_skip exHistOk (stOf exDoc2) (sortSideAllB_sound _ _ exDoc2_eval.2.2.2.2.2.1)
    (skipAgreeB_sound _ _ exDoc2_eval.2.2.2.2.2.2.1)

example : (applyOp (stOf exDoc2) (.del (strBytes "zz")) [exSeg "srv"]).isSome = false := exDoc2_eval.2.2.2.2.2.2.2.1

theorem exHist_untouched : ∀ e ∈ exHist, Untouched [exSeg "title"] e := untouched_all _ _ (by decide +kernel)

theorem exDoc2_spans : DocSpansIn (stOf exDoc2) := docSpansInB_sound _ exDoc2_eval.2.2.2.2.2.2.2.2.1

example : encodeItemAt (run (stOf exDoc2) exHist).inp (run (stOf exDoc2) exHist).doc [exSeg "title"]
    = encodeItemAt (stOf exDoc2).inp (stOf exDoc2).doc [exSeg "title"] :=
  T08_print_untouched_doc exHist (stOf exDoc2) [exSeg "title"] exHist_untouched exDoc2_spans

example : encodeItemAt (stOf exDoc2).inp (stOf exDoc2).doc [exSeg "title"]
    = some (strBytes "title = \"x\" # the title\n") := exDoc2_eval.2.2.2.2.2.2.2.2.2.1

/-- the whole edited document: comments and untouched lines in place; the moved entry took its
    comment along -/
example : Edit.print (run (stOf exDoc2) exHist) = strBytes
    "# config\nname = \"n\"\ntitle = \"x\" # the title\n\n[srv] # server\nhost = \"h\"\nmeta = { ver = 1 }\ntags = [\"a\", \"b\", \"c\"]\n\n[[srv.pts ]]\nx = 1\n\n[[srv.pts ]]\nx = 2\n\n[[job]]\nid = \"j1\"\nport = 80 # the port\n\n[[job]]\nn = 1\n" :=
  exDoc2_eval.2.2.2.2.2.2.2.2.2.2

/-- the side conditions of `T08_refine_single` hold e.g. for `viv` -/
example : (Op.viv (strBytes "a") (strBytes "b") (.int 1)) ≠ .sort ∧
    ∀ k p2, (Op.viv (strBytes "a") (strBytes "b") (.int 1)) ≠ .mv k p2 := ⟨by simp, by simp⟩

end TomlVerif.Props.C08
