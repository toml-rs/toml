import TomlVerif.Lemmas.SortModel
import TomlVerif.Lemmas.Leaves06
import TomlVerif.Spec.Encode06
/-! # C06 — anything built through the construction API prints as valid TOML that decodes back

  Model: `Model/Encode06.lean` (`build*` : construction calls → decorated tree, `printDoc` /
  `printValue` / `printKey` : the printer of `encode.rs` without source text), parser model:
  `Model/Value.lean`, `Model/Doc.lean`.  The model is tied to the code by the correspondence run of
  tools/props/c06.py (same case → same text, same re-parsed tree, byte for byte).

  Purity ("the same structure always prints the same text") needs no theorem on the model:
  `printDoc`, `printValue`, `printKey` are functions. On the implementation it is observed by
  printing every structure twice and printing a clone (field `twice` of the harness). -/
namespace TomlVerif.Props.C06
open TomlVerif TomlVerif.Spec TomlVerif.Model TomlVerif.Model.Encode06 TomlVerif.Model.Value
open TomlVerif.Model.Numbers TomlVerif.Model.Datetime TomlVerif.Lemmas.Numbers11 TomlVerif.Lemmas.Encode06
open TomlVerif.Props.C12 TomlVerif.Spec.Encode06

/-- a 64-bit pattern together with std's `Display` text of the double it encodes. For a finite
    non-zero double the text is `-`? digits (`.` digits)? and the correctly rounded value of these
    digits is the double (the shortest-round-trip guarantee of std; the driver re-checks it on
    every float it is given: field `fl`). -/
inductive FloatOk : Nat → Bytes → Prop
  | nan (bits : Nat) (disp : Bytes) (he : bits / 2 ^ 52 % 2 ^ 11 = 2047) (hm : bits % 2 ^ 52 ≠ 0) : FloatOk bits disp
  | inf (neg : Bool) :
    FloatOk ((if neg then Ieee.signBit else 0) + Ieee.infBits) ((if neg then [0x2D] else []) ++ [0x69, 0x6E, 0x66])
  | zero (neg : Bool) (disp : Bytes) : FloatOk (if neg then Ieee.signBit else 0) disp
  | fin (bits : Nat) (negD : Bool) (intDs : Bytes) (frac : Option Bytes)
    (hne : intDs ≠ []) (hi : AllB isDigit intDs) (hz : ∀ t, intDs = 0x30 :: t → t = [])
    (hf : ∀ f, frac = some f → f ≠ [] ∧ AllB isDigit f)
    (hb : FloatLit.bits ⟨negD, intDs, frac.getD [0x30], false, []⟩ = bits)
    (hfin : bits / 2 ^ 52 % 2 ^ 11 ≠ 2047) (hnz : bits % 2 ^ 63 ≠ 0) :
    FloatOk bits (dispBytes negD intDs frac)

theorem scalarOK_reprFloat (bits : Nat) (disp : Bytes) (h : FloatOk bits disp) :
    Spec.AstValue.ScalarOK ⟨reprFloat bits disp, .float (canonFloat bits)⟩ := by
  cases h
  case nan he hm =>
    have hm' : (bits % 2 ^ 52 != 0) = true := by simpa using hm
    have he' : (bits / 2 ^ 52 % 2 ^ 11 == 2047) = true := by simpa using he
    have c : canonFloat bits = (if bits / 2 ^ 63 == 1 then Ieee.signBit else 0) + Ieee.nanBits := by
      unfold canonFloat; simp only [he', hm', Bool.and_self, if_true]
    rw [reprFloat_nan bits disp he hm, c]
    exact (scalarOK_special _).1
  case inf neg =>
    have e : reprFloat ((if neg then Ieee.signBit else 0) + Ieee.infBits) ((if neg then [0x2D] else []) ++ [0x69, 0x6E, 0x66]) =
        (if neg then [0x2D] else []) ++ [0x69, 0x6E, 0x66] := by
      cases neg <;> decide +kernel
    have c : canonFloat ((if neg then Ieee.signBit else 0) + Ieee.infBits) = (if neg then Ieee.signBit else 0) + Ieee.infBits := by
      cases neg <;> decide +kernel
    rw [e, c]
    exact (scalarOK_special neg).2
  case zero neg =>
    have e : reprFloat (if neg then Ieee.signBit else 0) disp =
        Lemmas.Scalars01.floatTok false neg [0x30] (some [0x30]) := by
      cases neg
      · simp [reprFloat, writeFloat, strBytes_zero, dispBytes, Lemmas.Scalars01.floatTok]
      · simp [reprFloat, writeFloat, strBytes_mzero, dispBytes, Ieee.signBit, Lemmas.Scalars01.floatTok]
    have hbits : FloatLit.bits ⟨neg, [0x30], [0x30], false, []⟩ = (if neg then Ieee.signBit else 0) := by
      cases neg <;> decide +kernel
    have c : canonFloat (if neg then Ieee.signBit else 0) = (if neg then Ieee.signBit else 0) := by
      cases neg <;> decide +kernel
    have := Lemmas.Scalars01.scalarOK_float false neg [0x30] (some [0x30]) (by simp)
      (by intro b hb; simp at hb; subst hb; decide) (by intro t h; injection h with _ h; exact h.symm)
      (by intro f h; injection h with h; subst h; exact ⟨by simp, by intro b hb; simp at hb; subst hb; decide⟩)
      (by simp only [Option.getD_some]; rw [hbits]; cases neg <;> decide +kernel)
    simp only [Option.getD_some] at this
    rw [e, c, ← hbits]
    exact this
  case fin negD intDs frac hne hi hz hf hb hfin hnz =>
    simp only [Nat.reducePow] at hfin hnz
    have hnan : (bits / 2 ^ 52 % 2 ^ 11 == 2047) = false := by simpa using hfin
    have hzero : (bits / 2 ^ 52 % 2 ^ 11 == 0 && bits % 2 ^ 52 == 0) = false := by
      simp only [Nat.reducePow, Bool.and_eq_false_imp, beq_iff_eq, beq_eq_false_iff_ne, ne_eq]
      intro h1 h2
      omega
    have e : reprFloat bits (dispBytes negD intDs frac) =
        Lemmas.Scalars01.floatTok (bits / 2 ^ 63 == 1) negD intDs frac := by
      unfold reprFloat Lemmas.Scalars01.floatTok
      simp only [hnan, hzero, Bool.false_and, Bool.not_false, Bool.true_and]
    have c : canonFloat bits = bits := by
      unfold canonFloat; simp only [hnan, Bool.false_and, Bool.false_eq_true, if_false]
    have hinf : Ieee.isInfBits (FloatLit.bits ⟨negD, intDs, frac.getD [0x30], false, []⟩) = false := by
      rw [hb]
      unfold Ieee.isInfBits Ieee.signBit Ieee.infBits
      simp only [beq_eq_false_iff_ne, ne_eq]
      omega
    have := Lemmas.Scalars01.scalarOK_float (bits / 2 ^ 63 == 1) negD intDs frac hne hi hz hf hinf
    rw [e, c, ← hb]
    exact this

theorem T06_leaf_float (bits : Nat) (disp rest : Bytes) (fuel d : Nat) (h : FloatOk bits disp) (hr : LeafFollow rest) :
    value (fuel + 1) d (reprFloat bits disp ++ rest) = .ok (.float (canonFloat bits)) rest :=
  (scalarOK_reprFloat bits disp h).leaf rest fuel d hr


/-- non-vacuity of `FloatOk.fin`: 1.5 (`0x3FF8000000000000`, printed "1.5") and 10.0 (printed "10") -/
example : FloatOk 0x3FF8000000000000 [0x31, 0x2E, 0x35] :=
  FloatOk.fin 0x3FF8000000000000 false [0x31] (some [0x35]) (by simp) (by decide) (by intro t h; injection h with h _; exact absurd h (by decide))
    (by intro f h; injection h with h; subst h; exact ⟨by simp, by decide⟩) (by decide +kernel) (by decide) (by decide)
example : FloatOk 0x4024000000000000 [0x31, 0x30] :=
  FloatOk.fin 0x4024000000000000 false [0x31, 0x30] none (by simp) (by decide) (by intro t h; injection h with h _; exact absurd h (by decide))
    (by intro f h; cases h) (by decide +kernel) (by decide) (by decide)
example : reprFloat 0x4024000000000000 [0x31, 0x30] = [0x31, 0x30, 0x2E, 0x30] := by decide +kernel

/-- the leaves the property quantifies over, as the constructors leave them (any decor) -/
inductive LeafOk : DVal → Prop
  | str (s : Bytes) (dec : Decor) : LeafOk (.str s dec)
  | int (n : Int) (dec : Decor) (h : inI64 n = true) : LeafOk (.int n dec)
  | float (bits : Nat) (disp : Bytes) (dec : Decor) (h : FloatOk bits disp) : LeafOk (.float bits disp dec)
  | bool (b : Bool) (dec : Decor) : LeafOk (.bool b dec)
  | dt (d : Datetime) (dec : Decor) (h : FieldsInRange d) (hy : ∀ x, d.date = some x → x.year ≤ 9999) : LeafOk (.dt d dec)

/-- the token `encode_formatted` writes between the decor of a leaf -/
def leafRepr : DVal → Bytes
  | .str s _ => reprString s
  | .int n _ => writeInt n
  | .float b d _ => reprFloat b d
  | .bool b _ => reprBool b
  | .dt d _ => Std.display d
  | _ => []

def decorOf : DVal → Decor
  | .str _ d | .int _ d | .float _ _ d | .bool _ d | .dt _ d | .arr _ d | .inl _ d => d

/-- the decoded leaf a faithful round trip must give back (`valOf` with NaNs reduced to their sign) -/
def canonLeaf : DVal → Val
  | .float b _ _ => .float (canonFloat b)
  | v => valOf v

theorem scalarOK_leaf (v : DVal) (h : LeafOk v) : Spec.AstValue.ScalarOK ⟨leafRepr v, canonLeaf v⟩ := by
  cases h
  case str s dec => exact scalarOK_reprString s
  case int n dec h => exact scalarOK_writeInt n h
  case float bits disp dec h => exact scalarOK_reprFloat bits disp h
  case bool b dec => exact scalarOK_reprBool b
  case dt dt dec h hy => exact Lemmas.Scalars01.scalarOK_datetime dt h hy

/-- **T06_leaf**: for every leaf, in every context the printer puts a value in (`LeafFollow`: end of
    text, newline, `,`, `]`, ` }`), at every recursion depth and with any fuel, the parser's `value`
    reads the default representation back as exactly that leaf and stops exactly behind it. -/
theorem T06_leaf (v : DVal) (h : LeafOk v) (rest : Bytes) (hr : LeafFollow rest) (fuel d : Nat) :
    value (fuel + 1) d (leafRepr v ++ rest) = .ok (canonLeaf v) rest :=
  (scalarOK_leaf v h).leaf rest fuel d hr

/-- what `encode_value` writes for a leaf: its decor (or the default) around the token of `T06_leaf` -/
theorem T06_leaf_encode (v : DVal) (h : LeafOk v) (dflt : Bytes × Bytes) :
    encodeValue v dflt = (decorOf v).pre.getD dflt.1 ++ leafRepr v ++ (decorOf v).suf.getD dflt.2 := by
  cases h <;> simp [encodeValue, withDecor, leafRepr, decorOf]

theorem decorOf_buildVal (b : BVal) : decorOf (buildVal b) = {} := by
  cases b <;> simp only [buildVal] <;> (try split) <;> rfl

/-- the whole text of a printed leaf `Value` parses back (`Value::to_string()` then `str::parse::<Value>()`) -/
theorem T06_leaf_value_roundtrip (b : BVal) (h : LeafOk (buildVal b)) :
    parseValue (printValue (buildVal b)) = some (canonLeaf (buildVal b)) := by
  have e := T06_leaf_encode (buildVal b) h ([], [])
  have hd : decorOf (buildVal b) = {} := decorOf_buildVal b
  unfold parseValue printValue
  rw [e, hd]
  simp only [Option.getD_none, List.nil_append, List.append_nil]
  have := T06_leaf (buildVal b) h [] leafFollow_nil (3 * (leafRepr (buildVal b)).length + 3) 0
  rw [List.append_nil] at this
  rw [this]

/-- non-vacuity: the i64 minimum, a string with a quote, a newline and a control character -/
example : LeafOk (buildVal (.int (-9223372036854775808))) := LeafOk.int _ _ (by decide)
example : LeafOk (buildVal (.str [0x22, 0x0A, 0x01])) := LeafOk.str _ _
example : printValue (buildVal (.str [0x22, 0x0A, 0x01])) =
    [0x22, 0x22, 0x22, 0x0A, 0x22, 0x0A, 0x5C, 0x75, 0x30, 0x30, 0x30, 0x31, 0x22, 0x22, 0x22] := by decide +kernel

/-- **T06_key**: `Key::new(k)` prints (`Display for Key`) as a token that `simple_key` reads back as `k`,
    whenever the next byte is not a bare-key character (the printer writes ` `, `.` or `]` there) -/
theorem T06_key (k rest : Bytes) (hr : Props.C10.KeyFollow rest) :
    Key.simpleKey (printKey k ++ rest) = .ok k rest := by
  unfold printKey reprKey
  have h := Props.C10.T10_key_default_total k
  cases hw : Write.writeKey .default k with
  | none => rw [hw] at h; cases h
  | some tok => exact Props.C10.T10_key .default k tok rest hw hr

example : printKey [] = [0x22, 0x22] ∧ printKey [0x61, 0x2E, 0x62] = [0x22, 0x61, 0x2E, 0x62, 0x22] := by decide +kernel
example : Props.C10.KeyFollow [0x20, 0x3D] := by intro x r h; injection h with h _; subst h; decide

/-- `aot = ArrayOfTables::new()` (no elements), `x = 1` -/
def witnessF10 : BTbl := .mk [([0x61, 0x6F, 0x74], .aot []), ([0x78], .value (.int 1))]

def keysOf (t : Tbl) : List Bytes := t.items.map (·.1)

/-- **T06_finding_empty_aot**: the witness prints as `x = 1\n`; parsing that text gives a table whose
    only key is `x`, while the built table has the keys `aot`, `x`: this is why `T06_doc_statement` carries the
    hypothesis `NoEmptyAotT`. -/
theorem T06_finding_empty_aot :
    printDoc (buildTbl witnessF10) = [0x78, 0x20, 0x3D, 0x20, 0x31, 0x0A] ∧
    (Doc.parseDocument (printDoc (buildTbl witnessF10))).map keysOf = some [[0x78]] ∧
    keysOf (tblOf (buildTbl witnessF10)) = [[0x61, 0x6F, 0x74], [0x78]] := by
  decide +kernel


/-- **T06_sort_identity**: when every entry carries the same position (structures built through the
    API: no table has a `doc_position`, `last_position` stays 0) the stable sort of
    `Display for DocumentMut` leaves the visit order unchanged -/
theorem T06_sort_identity (l : List Visit) (h : ∀ w ∈ l, w.lastPos = 0) : sortByPos l = l :=
  Lemmas.Sort.sortByPos_of_sorted l
    (List.pairwise_of_forall_mem_list fun a ha b hb => by rw [h a ha, h b hb]; exact Nat.lt_irrefl 0)


/-- the witness of F10 and a nested document: every visited table carries position 0 -/
example : ((visitNested (buildTbl witnessF10) [] false 0).1.map (·.lastPos)) = [0] := by decide +kernel
example : ((visitNested (buildTbl (.mk [([0x61], .table (.mk [([0x62], .aot [.mk [], .mk []])])), ([0x63], .table (.mk []))]))
    [] false 0).1.map (fun v => (v.lastPos, v.path, v.isArray))) =
    [(0, [], false), (0, [[0x61]], false), (0, [[0x61], [0x62]], true), (0, [[0x61], [0x62]], true), (0, [[0x63]], false)] := by
  decide +kernel

/-! The differential run of tools/props/c06.py evaluates both sides of the two statements below
  (`T06_inline_statement`, `T06_doc_statement`) on every case (model text = implementation text, model re-parse =
  implementation re-parse = the tree the case describes, values-first). -/

mutual
def LeavesOkV : DVal → Prop
  | .arr items _ => LeavesOkVs items
  | .inl items _ => LeavesOkPairs items
  | v => LeafOk v
def LeavesOkVs : List DVal → Prop
  | [] => True
  | v :: r => LeavesOkV v ∧ LeavesOkVs r
def LeavesOkPairs : List (Bytes × DVal) → Prop
  | [] => True
  | (_, v) :: r => LeavesOkV v ∧ LeavesOkPairs r
end

mutual
def depthV : DVal → Nat
  | .arr items _ => 1 + depthVs items
  | .inl items _ => 1 + depthPairs items
  | _ => 0
def depthVs : List DVal → Nat
  | [] => 0
  | v :: r => max (depthV v) (depthVs r)
def depthPairs : List (Bytes × DVal) → Nat
  | [] => 0
  | (_, v) :: r => max (depthV v) (depthPairs r)
end

/-- **T06_inline** (statement): every value built from in-range leaves with `Array::new/push`,
    `InlineTable::new/insert` (or the `FromIterator` impls), nested below the parser's recursion
    limit, prints (`Value::to_string`) as text that `str::parse::<Value>` reads back as the same value,
    same element order, same key order. -/
def T06_inline_statement : Prop :=
  ∀ b : BVal, LeavesOkV (buildVal b) → depthV (buildVal b) < LIMIT →
    parseValue (printValue (buildVal b)) = some (canonValD (buildVal b))

/-- the leaf instances of `T06_inline_statement` are `T06_leaf_value_roundtrip`; a container instance, and its text: -/
example : beqOptVal (parseValue (printValue (buildVal (.arr false [.int 1, .inl false [([0x6B], .arr false [])], .str [0x0A]]))))
    (some (canonValD (buildVal (.arr false [.int 1, .inl false [([0x6B], .arr false [])], .str [0x0A]])))) = true := by decide +kernel
example : printValue (buildVal (.arr false [.int 1, .inl false [([0x6B], .arr false [])], .str [0x0A]])) =
    [0x5B, 0x31, 0x2C, 0x20, 0x7B, 0x20, 0x6B, 0x20, 0x3D, 0x20, 0x5B, 0x5D, 0x20, 0x7D, 0x2C, 0x20, 0x22, 0x22, 0x22, 0x0A, 0x0A, 0x22, 0x22, 0x22, 0x5D] := by
  decide +kernel

mutual
def LeavesOkI : DItem → Prop
  | .value v => LeavesOkV v
  | .table t => LeavesOkT t
  | .aot ts => LeavesOkTs ts
def LeavesOkT : DTbl → Prop
  | .mk items _ _ => LeavesOkItems items
def LeavesOkTs : List DTbl → Prop
  | [] => True
  | t :: r => LeavesOkT t ∧ LeavesOkTs r
def LeavesOkItems : List (Bytes × DItem) → Prop
  | [] => True
  | (_, i) :: r => LeavesOkI i ∧ LeavesOkItems r
end

mutual
/-- table nesting and value nesting added; a `[[…]]` level counts 2 (the array and its element) -/
def depthI : DItem → Nat
  | .value v => depthV v
  | .table t => depthT t
  | .aot ts => 1 + depthTs ts
def depthT : DTbl → Nat
  | .mk items _ _ => 1 + depthItems items
def depthTs : List DTbl → Nat
  | [] => 0
  | t :: r => max (depthT t) (depthTs r)
def depthItems : List (Bytes × DItem) → Nat
  | [] => 0
  | (_, i) :: r => max (depthI i) (depthItems r)
end

mutual
/-- no `ArrayOfTables` without elements anywhere (known finding F10) -/
def NoEmptyAotI : DItem → Prop
  | .value _ => True
  | .table t => NoEmptyAotT t
  | .aot ts => ts ≠ [] ∧ NoEmptyAotTs ts
def NoEmptyAotT : DTbl → Prop
  | .mk items _ _ => NoEmptyAotItems items
def NoEmptyAotTs : List DTbl → Prop
  | [] => True
  | t :: r => NoEmptyAotT t ∧ NoEmptyAotTs r
def NoEmptyAotItems : List (Bytes × DItem) → Prop
  | [] => True
  | (_, i) :: r => NoEmptyAotI i ∧ NoEmptyAotItems r
end

/-- **T06_doc** (statement, with the hypothesis F10 forces): every document built from in-range
    leaves, nested below the parser's limit and without an empty `ArrayOfTables`, prints as text the
    document parser accepts, and the parsed tree is the built tree: same keys, same values, values in
    build order, sub-tables in build order. -/
def T06_doc_statement : Prop :=
  ∀ t : BTbl, LeavesOkT (buildTbl t) → depthT (buildTbl t) < LIMIT → NoEmptyAotT (buildTbl t) →
    (Doc.parseDocument (printDoc (buildTbl t))).map eraseTbl = some (expectT (buildTbl t))

/-- an instance of `T06_doc_statement` with a value after a sub-table, an array of tables in an array
    of tables and a table holding only sub-tables -/
def sampleDoc : BTbl :=
  .mk [([0x74], .table (.mk [([0x75], .table (.mk []))])), ([0x78], .value (.str [0x27, 0x0A])),
       ([0x61], .aot [.mk [([0x62], .aot [.mk [], .mk [([0x79], .value (.bool true))]])], .mk []])]
example : beqOptTbl ((Doc.parseDocument (printDoc (buildTbl sampleDoc))).map eraseTbl) (some (expectT (buildTbl sampleDoc))) = true := by
  decide +kernel
/-- without `NoEmptyAotT` the statement fails: the F10 witness -/
example : beqOptTbl ((Doc.parseDocument (printDoc (buildTbl witnessF10))).map eraseTbl) (some (expectT (buildTbl witnessF10))) = false := by
  decide +kernel

end TomlVerif.Props.C06
