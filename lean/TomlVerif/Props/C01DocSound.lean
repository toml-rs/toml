import TomlVerif.Props.C01
import TomlVerif.Props.C01Doc
import TomlVerif.Props.C09Equiv
/-! # C01, soundness of the document parser — everything `parse_document` accepts is generated by the grammar

The syntax is `QDoc` (`Lemmas/AstDocQ01.lean`): `Doc` of `Spec/AstDoc.lean` with `QVal` values (quoted keys inside
inline tables) and with grammatical dotted keys (`QDKey`: every component an `unquoted-key`, a `basic-string` or a
`literal-string`).  `QDoc.bom` says whether the text starts with a byte-order mark (`stripBom` removes at most one; a
second one is rejected because no line starts with `0xEF`). -/
namespace TomlVerif.Props.C01DocSound
open TomlVerif TomlVerif.Spec TomlVerif.Model TomlVerif.Model.Strings TomlVerif.Model.Value
open TomlVerif.Model.State TomlVerif.Model.Doc
open TomlVerif.Spec.AstValue TomlVerif.Spec.AstValueQ TomlVerif.Spec.AstDoc TomlVerif.Spec.AstDocQ
open TomlVerif.Lemmas.Value01 TomlVerif.Lemmas.State09
open TomlVerif.Lemmas.Doc01 (LineEnd)
open TomlVerif.Lemmas.SoundDoc01 TomlVerif.Lemmas.SoundDoc01C TomlVerif.Lemmas.SoundDoc01U TomlVerif.Spec.DefRules

/-- the abstract key segments of `Spec/AstDoc.lean` are exactly the keys of the grammar: blanks around an
    `unquoted-key`, `basic-string` or `literal-string` spelling `name` -/
theorem T01_keySegOK_iff (k : KeySeg) :
    KeySegOK k ↔ AllWs k.pre ∧ AllWs k.post ∧ KeyText k.tok k.name :=
  keySegOK_iff k

/-- `QDoc` contains `Doc`: same bytes, same statements, well-formedness preserved -/
theorem T01_QDoc_extends_Doc (d : Doc) (h : d.WF) :
    (ofDoc d).WF ∧ (ofDoc d).render = d.render ∧ (ofDoc d).stmts = d.stmts :=
  ⟨ofDoc_wf d h, ofDoc_render d, ofDoc_stmts d⟩

def missV : Bytes := [0x7B, 0x22, 0x61, 0x22, 0x3D, 0x74, 0x72, 0x75, 0x65, 0x7D]
/-- `a={"a"=true}` -/
def missText : Bytes := 0x61 :: 0x3D :: missV

theorem nl_mem_renderLines (l : Line) (c : Bool) (r : List (Line × Bool)) (X : Bytes) :
    0x0A ∈ renderLines ((l, c) :: r) ++ X := by
  cases c <;> simp [renderLines, nlBytes]

/-- **soundness over `Doc` is false**: `a={"a"=true}` is accepted (and is valid TOML 1.0.0), but no well-formed `Doc`
    renders it, because its `key = value` lines carry an `AVal` -/
theorem T01_Doc_misses_quoted_keys :
    (parseDocument missText).isSome = true ∧ ¬ ∃ d : Doc, d.WF ∧ d.render = missText := by
  refine ⟨by decide +kernel, ?_⟩
  rintro ⟨⟨bom, ls, last⟩, ⟨hls, hl⟩, e⟩
  simp only [Doc.render] at e
  cases bom with
  | true => simp [bomBytes, missText] at e
  | false =>
    simp only [bomBytes, Bool.false_eq_true, if_false, List.nil_append] at e
    cases ls with
    | cons p r =>
      obtain ⟨l, c⟩ := p
      have := nl_mem_renderLines l c r (renderLast last)
      rw [e] at this
      revert this; decide
    | nil =>
      simp only [renderLines, List.nil_append] at e
      cases last with
      | none => simp [renderLast, missText] at e
      | some l =>
        have hwf := hl l rfl
        simp only [renderLast] at e
        cases l with
        | blank ws =>
          have := hwf 0x61 (by rw [show ws = missText from e]; decide)
          revert this; decide
        | comment ws body =>
          have : (0x23 : UInt8) ∈ missText := by rw [← e]; simp [Line.render]
          revert this; decide
        | std ws p w2 cm =>
          have : (0x5B : UInt8) ∈ missText := by rw [← e]; simp [Line.render]
          revert this; decide
        | aot ws p w2 cm =>
          have : (0x5B : UInt8) ∈ missText := by rw [← e]; simp [Line.render]
          revert this; decide
        | keyval p w1 v w2 cm =>
          obtain ⟨hp, hw1, hv, hd, hw2, hc⟩ := hwf
          simp only [Line.render] at e
          have h1 := Props.C01Doc.T01_keypath_complete p (0x3D :: (w1 ++ (render v ++ (w2 ++ commentBytes cm)))) hp
            (Props.C01Doc.T01_pathFollow_eq _)
          rw [e] at h1
          have h2 : keyPath missText = .ok [[0x61]] (0x3D :: missV) := by decide +kernel
          rw [h2] at h1
          injection h1 with _ h1
          injection h1 with _ h1
          have h3 : dropWs (w1 ++ (render v ++ (w2 ++ commentBytes cm))) = render v ++ (w2 ++ commentBytes cm) := by
            rw [dropWs_allws _ _ hw1, ← ofAVal_render]; exact dropWs_stop _ (Lemmas.Sound01C.noTrivia_renderQ _ (ofAVal_wf v hv) _)
          rw [← h1] at h3
          have h4 : dropWs missV = missV := by decide
          rw [h4] at h3
          have hlen : (render v).length ≤ 10 := by
            have := congrArg List.length h3
            simp [missV] at this; omega
          have h5 := Props.C01Values.T01_array_complete v hv 0 100 (w2 ++ commentBytes cm) (by omega)
            (by have := TomlVerif.Lemmas.Doc01.followS_end w2 cm [] [] hw2 .eof; simpa using this) (by omega)
          rw [← h3] at h5
          have h6 : value 100 0 missV = .ok (.inl [([0x61], .bool true)] false false) [] :=
            TomlVerif.Lemmas.ValEq.okIs_sound _ _ _ (by decide +kernel)
          rw [h6] at h5
          injection h5 with _ h5
          rw [← h5, List.append_nil] at h3
          exact Props.C01Sound.T01_AVal_misses_quoted_keys.2 ⟨v, hv, h3.symm⟩

/-- **`line_trailing`, soundness**: what it consumes is `ws [comment]` followed by LF, CRLF or the end of the input -/
theorem T01_lineTrailing_sound (s r : Bytes) (h : lineTrailing s = .ok () r) :
    ∃ (w2 : Bytes) (cm : Option Bytes) (T : Bytes), AllWs w2 ∧ CommentOK cm ∧
      s = w2 ++ (commentBytes cm ++ T) ∧ LineEnd T r :=
  lineTrailing_sound s r h

/-- `line_trailing` accepts exactly blanks, an optional comment, and a line end or the end of the input -/
theorem T01_lineTrailing_iff (s r : Bytes) :
    lineTrailing s = .ok () r ↔ ∃ (w2 : Bytes) (cm : Option Bytes) (T : Bytes), AllWs w2 ∧ CommentOK cm ∧
      s = w2 ++ (commentBytes cm ++ T) ∧ LineEnd T r := by
  constructor
  · exact lineTrailing_sound s r
  · rintro ⟨w2, cm, T, h1, h2, rfl, h4⟩
    exact TomlVerif.Lemmas.Doc01.lineTrailing_end w2 cm T r h1 h2 h4

example : lineTrailing [0x20, 0x23, 0x63, 0x0D, 0x0A, 0x78] = .ok () [0x78] := by decide
/-- a lone CR does not end a line -/
example : lineTrailing [0x20, 0x0D, 0x78] = .bt := by decide

/-- **`key = value` lines, soundness**: an accepted line is a dotted key of the grammar (fewer than `LIMIT` components),
    `=`, blanks, a well-formed value (`WFQ`) with the tables of the key plus its own nesting below the limit, blanks, an
    optional comment, then a line end or the end of the input; the state callback received the decoded key split into
    table path and last component, and the value the tree denotes -/
theorem T01_keyval_line_sound (st st' : ParseState) (s r : Bytes) (h : keyvalLine st s = some (st', r)) :
    ∃ (k : QDKey) (w1 : Bytes) (v : QVal) (w2 : Bytes) (cm : Option Bytes) (T : Bytes),
      (QLine.keyval k w1 v w2 cm).WF ∧ s = (QLine.keyval k w1 v w2 cm).render ++ T ∧ LineEnd T r ∧
      onKeyval st k.path k.last (semQ v) = some st' := by
  rw [keyvalLine_factor] at h
  obtain ⟨x, hx, ho⟩ := step_of_factor st st' _ r h
  obtain ⟨k, w1, v, w2, cm, T, hwf, e, hT, rfl⟩ := keyvalStmt_sound x s r hx
  exact ⟨k, w1, v, w2, cm, T, hwf, e, hT, ho⟩

/-- `T01_keyval_line` for the syntax with quoted keys -/
theorem T01_keyval_line_completeQ (st : ParseState) (k : QDKey) (w1 : Bytes) (v : QVal) (w2 : Bytes) (cm : Option Bytes)
    (T more : Bytes) (hwf : (QLine.keyval k w1 v w2 cm).WF) (hT : LineEnd T more) :
    keyvalLine st ((QLine.keyval k w1 v w2 cm).render ++ T) =
      (onKeyval st k.path k.last (semQ v)).map fun st' => (st', more) :=
  keyvalLine_endQ st k w1 v w2 cm T more hwf hT

/-- `parse_keyval` accepts exactly the rendered `key = value` lines whose entry the state takes -/
theorem T01_keyval_line_iff (st st' : ParseState) (s r : Bytes) :
    keyvalLine st s = some (st', r) ↔
      ∃ (k : QDKey) (w1 : Bytes) (v : QVal) (w2 : Bytes) (cm : Option Bytes) (T : Bytes),
        (QLine.keyval k w1 v w2 cm).WF ∧ s = (QLine.keyval k w1 v w2 cm).render ++ T ∧ LineEnd T r ∧
        onKeyval st k.path k.last (semQ v) = some st' := by
  constructor
  · exact T01_keyval_line_sound st st' s r
  · rintro ⟨k, w1, v, w2, cm, T, hwf, rfl, hT, ho⟩
    rw [keyvalLine_endQ st k w1 v w2 cm T r hwf hT, ho]; rfl

/-- non-vacuity: `"a b".c = {'x' = 1} # c␊z` from the initial state -/
example : (keyvalLine {} (strBytes "\"a b\".c = {'x' = 1} # c\nz")).isSome = true := by
  simp only [strBytes_eq rfl]; decide +kernel

/-- **header lines, soundness**: an accepted header is `[ key ]` or `[[ key ]]` with a dotted key of the grammar, then
    blanks, an optional comment, and a line end or the end of the input; the matching state callback received the
    decoded key -/
theorem T01_header_line_sound (st st' : ParseState) (s r : Bytes) (h : tableLine st s = some (st', r)) :
    ∃ (k : QDKey) (w2 : Bytes) (cm : Option Bytes) (T : Bytes), k.WF ∧ AllWs w2 ∧ CommentOK cm ∧ LineEnd T r ∧
      ((s = (QLine.std [] k w2 cm).render ++ T ∧ onStdHeader st k.keys = some st') ∨
       (s = (QLine.aot [] k w2 cm).render ++ T ∧ onArrayHeader st k.keys = some st')) := by
  rw [tableLine_factor] at h
  obtain ⟨x, hx, ho⟩ := step_of_factor st st' _ r h
  obtain ⟨k, w2, cm, T, hk, hw2, hcm, hT, hor⟩ := tableStmt_sound x s r hx
  refine ⟨k, w2, cm, T, hk, hw2, hcm, hT, ?_⟩
  rcases hor with ⟨e, rfl⟩ | ⟨e, rfl⟩
  · exact Or.inl ⟨e, ho⟩
  · exact Or.inr ⟨e, ho⟩

example : (tableLine {} (strBytes "[ a . \"b c\" ] # c\r\nz")).isSome = true := by
  simp only [strBytes_eq rfl]; decide +kernel
example : (tableLine {} (strBytes "[['a']]")).isSome = true := by decide +kernel
/-- `[[a]` and `[a]]` are rejected -/
example : tableLine {} (strBytes "[[a]\n") = none ∧ tableLine {} (strBytes "[a]]\n") = none := by decide +kernel

/-- **the statement loop, soundness**: if the loop accepts (from any state, with any fuel), the text is the rendering
    of well-formed lines, each ended by LF or CRLF, the last one possibly without line end, and `run` on their statements
    reaches the same state -/
theorem T01_lines_sound (fuel : Nat) (st st' : ParseState) (s : Bytes) (h : lines fuel st (dropWs s) = some st') :
    ∃ (ls : List (QLine × Bool)) (last : Option QLine), (∀ p ∈ ls, p.1.WF) ∧ (∀ l, last = some l → l.WF) ∧
      s = renderLinesQ ls ++ renderLastQ last ∧ run st (stmtsLinesQ ls ++ stmtsLastQ last) = some st' := by
  rw [lines_factor] at h
  cases hl : linesS fuel (dropWs s) with
  | none => rw [hl] at h; cases h
  | some l =>
    rw [hl, Option.bind_some] at h
    obtain ⟨ls, last, h1, h2, h3, h4⟩ := linesS_sound fuel l s hl
    exact ⟨ls, last, h1, h2, h3, by rw [h4]; exact h⟩

/-- `T01_lines_complete` for the syntax with quoted keys -/
theorem T01_lines_completeQ (ls : List (QLine × Bool)) (last : Option QLine) (st : ParseState) (fuel : Nat)
    (hls : ∀ p ∈ ls, p.1.WF) (hl : ∀ l, last = some l → l.WF)
    (hf : (dropWs (renderLinesQ ls ++ renderLastQ last)).length < fuel) :
    lines fuel st (dropWs (renderLinesQ ls ++ renderLastQ last)) = run st (stmtsLinesQ ls ++ stmtsLastQ last) :=
  lines_runQ ls last st fuel hls hl hf

example : (lines 40 {} (dropWs (strBytes "  # c\r\n\n a = 1\n[t]\n\"k\" = {}"))).isSome = true := by
  simp only [strBytes_eq rfl]; decide +kernel

/-- **C01, soundness**: every accepted text is the rendering of a well-formed grammar tree (`QDoc.bom` tells whether
    the text starts with a byte-order mark), and the returned table is what the definition state machine makes of the
    statements of that tree -/
theorem T01_document_sound (s : Bytes) (t : Tbl) (h : parseDocument s = some t) :
    ∃ d : QDoc, d.WF ∧ d.render = s ∧ (run {} d.stmts).bind intoDocument = some t :=
  parseDocument_sound s t h

/-- **C01, completeness over the syntax with quoted keys** -/
theorem T01_document_completeQ (d : QDoc) (hwf : d.WF) :
    parseDocument d.render = (run {} d.stmts).bind intoDocument :=
  parseDocument_renderQ d hwf

/-- the `Doc` version is the special case `ofDoc` -/
example (d : Doc) (hwf : d.WF) : parseDocument d.render = (run {} d.stmts).bind intoDocument := by
  have := T01_document_completeQ (ofDoc d) (ofDoc_wf d hwf)
  rwa [ofDoc_render, ofDoc_stmts] at this

/-- **C01 with the result**: `parse_document` returns `t` exactly when the text is the rendering of a well-formed tree
    whose statements the definition state machine turns into `t` -/
theorem T01_document_result_iff (s : Bytes) (t : Tbl) :
    parseDocument s = some t ↔ ∃ d : QDoc, d.WF ∧ d.render = s ∧ (run {} d.stmts).bind intoDocument = some t := by
  constructor
  · exact T01_document_sound s t
  · rintro ⟨d, hwf, rfl, h⟩
    rw [T01_document_completeQ d hwf]; exact h

/-- **C01, syntactic side**: a text is accepted exactly when it is the rendering of a well-formed tree
    whose statement sequence the definition state machine accepts -/
theorem T01_document_iff (s : Bytes) :
    (∃ t, parseDocument s = some t) ↔
      ∃ d : QDoc, d.WF ∧ d.render = s ∧ ((run {} d.stmts).bind intoDocument).isSome = true := by
  constructor
  · rintro ⟨t, h⟩
    obtain ⟨d, h1, h2, h3⟩ := T01_document_sound s t h
    exact ⟨d, h1, h2, by rw [h3]; rfl⟩
  · rintro ⟨d, h1, h2, h3⟩
    obtain ⟨t, ht⟩ := Option.isSome_iff_exists.1 h3
    exact ⟨t, (T01_document_result_iff s t).2 ⟨d, h1, h2, ht⟩⟩

/-- closing the last table never fails, so acceptance is acceptance by `run` -/
theorem bind_intoDocument_isSome (stmts : List Stmt) :
    ((run {} stmts).bind intoDocument).isSome = true ↔ (run {} stmts).isSome = true := by
  cases h : run {} stmts with
  | none => simp
  | some st => simpa using Props.C09.T09_run_document_defined stmts st h

theorem T01_document_iff_run (s : Bytes) :
    (∃ t, parseDocument s = some t) ↔ ∃ d : QDoc, d.WF ∧ d.render = s ∧ (run {} d.stmts).isSome = true := by
  rw [T01_document_iff]
  constructor
  · rintro ⟨d, h1, h2, h3⟩; exact ⟨d, h1, h2, (bind_intoDocument_isSome _).1 h3⟩
  · rintro ⟨d, h1, h2, h3⟩; exact ⟨d, h1, h2, (bind_intoDocument_isSome _).2 h3⟩

/-- all well-formed trees of one text agree on acceptance: the statement sequence of any of them decides -/
theorem T01_document_accepted_iffQ (d : QDoc) (hwf : d.WF) :
    (∃ t, parseDocument d.render = some t) ↔ (run {} d.stmts).isSome = true := by
  rw [T01_document_completeQ d hwf, ← bind_intoDocument_isSome]
  exact Option.isSome_iff_exists.symm

/-- **`parse` on bytes**: accepted with result `t` exactly when the bytes are well-formed UTF-8 and the rendering of a
    well-formed tree whose statements yield `t` -/
theorem T01_slice_iff (b : Bytes) (t : Tbl) :
    parseSlice b = some t ↔
      Utf8.valid b = true ∧ ∃ d : QDoc, d.WF ∧ d.render = b ∧ (run {} d.stmts).bind intoDocument = some t := by
  rw [Props.C01.T01_slice, ← T01_document_result_iff]
  cases Utf8.valid b <;> simp

theorem T01_slice_accepts_iff (b : Bytes) :
    (∃ t, parseSlice b = some t) ↔
      Utf8.valid b = true ∧ ∃ d : QDoc, d.WF ∧ d.render = b ∧ (run {} d.stmts).isSome = true := by
  rw [← T01_document_iff_run]
  constructor
  · rintro ⟨t, h⟩
    obtain ⟨hu, d, h1, h2, h3⟩ := (T01_slice_iff b t).1 h
    exact ⟨hu, t, (T01_document_result_iff b t).2 ⟨d, h1, h2, h3⟩⟩
  · rintro ⟨hu, t, h⟩
    obtain ⟨d, h1, h2, h3⟩ := (T01_document_result_iff b t).1 h
    exact ⟨t, (T01_slice_iff b t).2 ⟨hu, d, h1, h2, h3⟩⟩

/-- everything accepted is a well-formed tree whose statements the definition rules (`Spec/DefRules.lean`) do not
    judge invalid -/
theorem T01_accepted_not_invalid (s : Bytes) (t : Tbl) (h : parseDocument s = some t) :
    ∃ d : QDoc, d.WF ∧ d.render = s ∧ drun d.stmts ≠ .invalid := by
  obtain ⟨d, h1, h2, h3⟩ := (T01_document_iff_run s).1 ⟨t, h⟩
  exact ⟨d, h1, h2, Props.C09Equiv.T09_equiv_sound d.stmts h3⟩

/-- every well-formed tree whose statements the definition rules judge valid is accepted -/
theorem T01_valid_accepted (d : QDoc) (hwf : d.WF) (h : drun d.stmts = .valid) : ∃ t, parseDocument d.render = some t :=
  (T01_document_accepted_iffQ d hwf).2 (Props.C09Equiv.T09_equiv_complete d.stmts h)

/-- **C01, per tree**: outside class U1 (the rules decide the statement sequence) a well-formed tree is accepted exactly
    when the definition rules judge its statements valid -/
theorem T01_accepts_exactly_tree (d : QDoc) (hwf : d.WF) (hU : drun d.stmts ≠ .undecided) :
    (∃ t, parseDocument d.render = some t) ↔ drun d.stmts = .valid := by
  rw [T01_document_accepted_iffQ d hwf]
  exact Props.C09Equiv.T09_equiv_iff d.stmts hU

/-- **C01, "accepts exactly"**: a text none of whose well-formed trees falls into class U1 is accepted exactly when it
    is the rendering of a well-formed tree (TOML 1.0.0 grammar of lines, keys, arrays and inline tables nested below `LIMIT`; a scalar token is one the
    parser reads whole, `ScalarOK`, not a second grammar of scalars) whose
    statement sequence the definition rules judge valid.  (On U1 the state machine accepts some texts and rejects
    others, `T09_u1_not_always_rejected`; there `T01_accepted_not_invalid` and `T01_document_iff_run` remain.) -/
theorem T01_accepts_exactly (s : Bytes) (hU : ∀ d : QDoc, d.WF → d.render = s → drun d.stmts ≠ .undecided) :
    (∃ t, parseDocument s = some t) ↔ ∃ d : QDoc, d.WF ∧ d.render = s ∧ drun d.stmts = .valid := by
  rw [T01_document_iff_run]
  constructor
  · rintro ⟨d, h1, h2, h3⟩
    exact ⟨d, h1, h2, (Props.C09Equiv.T09_equiv_iff d.stmts (hU d h1 h2)).1 h3⟩
  · rintro ⟨d, h1, h2, h3⟩
    exact ⟨d, h1, h2, Props.C09Equiv.T09_equiv_complete d.stmts h3⟩

/-- the same for the slice entry point -/
theorem T01_slice_accepts_exactly (b : Bytes) (hU : ∀ d : QDoc, d.WF → d.render = b → drun d.stmts ≠ .undecided) :
    (∃ t, parseSlice b = some t) ↔
      Utf8.valid b = true ∧ ∃ d : QDoc, d.WF ∧ d.render = b ∧ drun d.stmts = .valid := by
  rw [T01_slice_accepts_iff, ← T01_document_iff_run, T01_accepts_exactly b hU]

/-! `stmtsOfText` (`Lemmas/DocStmts.lean`) is the line driver of `Model/Doc.lean` with the state callbacks left
out: it only checks the grammar and collects the statements. -/

/-- **the grammar, recognised**: `stmtsOfText` returns `l` exactly when the text is the rendering of a well-formed tree
    with statement sequence `l` -/
theorem T01_stmtsOfText_iff (s : Bytes) (l : List Stmt) :
    stmtsOfText s = some l ↔ ∃ d : QDoc, d.WF ∧ d.render = s ∧ d.stmts = l :=
  stmtsOfText_iff s l

/-- a text is grammatical (the rendering of some well-formed tree) exactly when `stmtsOfText` accepts it -/
theorem T01_grammatical_iff (s : Bytes) : (stmtsOfText s).isSome = true ↔ ∃ d : QDoc, d.WF ∧ d.render = s := by
  constructor
  · intro h
    obtain ⟨l, hl⟩ := Option.isSome_iff_exists.1 h
    obtain ⟨d, h1, h2, _⟩ := (stmtsOfText_iff s l).1 hl
    exact ⟨d, h1, h2⟩
  · rintro ⟨d, h1, h2⟩
    rw [(stmtsOfText_iff s d.stmts).2 ⟨d, h1, h2, rfl⟩]; rfl

/-- **the statement sequence is a function of the text**: all well-formed trees of one text denote the same statements -/
theorem T01_stmts_unique (d d' : QDoc) (h : d.WF) (h' : d'.WF) (e : d.render = d'.render) : d.stmts = d'.stmts := by
  have h1 := stmtsOfText_render d h
  have h2 := stmtsOfText_render d' h'
  rw [e, h2] at h1
  injection h1 with h1
  exact h1.symm

/-- **`parse_document` = grammar, then definition state machine**: the statements of the text are collected
    (`none`: not grammatical), `run` builds the tables (`none`: a statement is refused), `into_document` closes the last
    table -/
theorem T01_document_factor (s : Bytes) :
    parseDocument s = (stmtsOfText s).bind fun l => (run {} l).bind intoDocument :=
  parseDocument_factor s

/-- a text is rejected exactly when it is not grammatical or the state machine refuses its statements -/
theorem T01_rejected_iff (s : Bytes) :
    parseDocument s = none ↔ stmtsOfText s = none ∨ ∃ l, stmtsOfText s = some l ∧ run {} l = none := by
  rw [T01_document_factor]
  cases h : stmtsOfText s with
  | none => simp
  | some l =>
    simp only [Option.bind_some, reduceCtorEq, Option.some.injEq, exists_eq_left', false_or]
    exact Option.not_isSome_iff_eq_none.symm.trans
      ((not_congr (bind_intoDocument_isSome l)).trans Option.not_isSome_iff_eq_none)

/-- **C01, "accepts exactly", by the statements of the text**: a grammatical text whose statement sequence the
    definition rules decide (outside class U1) is accepted exactly when they judge it valid -/
theorem T01_accepts_exactly_stmts (s : Bytes) (l : List Stmt) (h : stmtsOfText s = some l) (hU : drun l ≠ .undecided) :
    (∃ t, parseDocument s = some t) ↔ drun l = .valid := by
  obtain ⟨d, h1, rfl, rfl⟩ := (stmtsOfText_iff s l).1 h
  exact T01_accepts_exactly_tree d h1 hU

/-- by uniqueness of the statements, the U1 hypothesis of `T01_accepts_exactly` has to be checked for one tree only -/
theorem T01_accepts_exactly_one (d : QDoc) (hwf : d.WF) (hU : drun d.stmts ≠ .undecided) :
    (∃ t, parseDocument d.render = some t) ↔ ∃ d' : QDoc, d'.WF ∧ d'.render = d.render ∧ drun d'.stmts = .valid :=
  T01_accepts_exactly d.render fun d' h' e => by rw [T01_stmts_unique d' d h' hwf e]; exact hU

/-- texts that are not grammatical are rejected whatever the rules say -/
theorem T01_ungrammatical_rejected (s : Bytes) (h : ¬ ∃ d : QDoc, d.WF ∧ d.render = s) : parseDocument s = none := by
  rw [T01_rejected_iff]
  left
  cases hs : stmtsOfText s with
  | none => rfl
  | some l => exact absurd ((T01_grammatical_iff s).1 (by rw [hs]; rfl)) h

/-! The text (after a byte-order mark; `␍␊` = CRLF, no line end after the last line)
```
  # top␍␊
"a b".'c' = {"x y" = true} # c␊
␊
[t."q"]␊
k = true␊
␉[[arr]] # c␍␊
z = false
``` -/
def exText : Bytes :=
  [0xEF, 0xBB, 0xBF] ++ strBytes "  # top\r\n\"a b\".'c' = {\"x y\" = true} # c\n\n[t.\"q\"]\nk = true\n\t[[arr]] # c\r\nz = false"

theorem exText_accepted : (parseDocument exText).isSome = true := by
  rw [exText, strBytes_eq rfl]; decide +kernel

example : ∃ d : QDoc, d.WF ∧ d.render = exText ∧ (run {} d.stmts).isSome = true :=
  (T01_document_iff_run exText).1 (Option.isSome_iff_exists.1 exText_accepted)

/-- a larger text with integers, an array and a literal string, through the slice entry point -/
def exText2 : Bytes :=
  [0xEF, 0xBB, 0xBF] ++ strBytes "  # top\r\n\"a b\".'c' = {\"x y\" = 1, z = [1, 2]} # c\n\n[t.\"q\"]\nk = 1979-05-27\n\t[[arr]] # c\r\nz = 'lit'"

example : ∃ t, parseSlice exText2 = some t ∧
    ∃ d : QDoc, d.WF ∧ d.render = exText2 ∧ (run {} d.stmts).bind intoDocument = some t := by
  have h : (parseSlice exText2).isSome = true := by rw [exText2, strBytes_eq rfl]; decide +kernel
  obtain ⟨t, ht⟩ := Option.isSome_iff_exists.1 h
  exact ⟨t, ht, ((T01_slice_iff exText2 t).1 ht).2⟩

def bareQ (pre key post : Bytes) : QKey := ⟨pre, key, key, post⟩

def exInline : QVal :=
  .inl [ (⟨⟨[], strBytes "\"x y\"", strBytes "x y", [0x20]⟩, []⟩, [0x20], .scalar trueTok, []) ] []

/-- the tree of `exText`, written out -/
def exQDoc : QDoc :=
  { bom := true
    lines := [
      (.comment [0x20, 0x20] (strBytes " top"), true),
      (.keyval ⟨⟨[], strBytes "\"a b\"", strBytes "a b", []⟩, [⟨[], strBytes "'c'", strBytes "c", [0x20]⟩]⟩ [0x20]
         exInline [0x20] (some (strBytes " c")), false),
      (.blank [], false),
      (.std [] ⟨bareQ [] (strBytes "t") [], [⟨[], strBytes "\"q\"", strBytes "q", []⟩]⟩ [] none, false),
      (.keyval ⟨bareQ [] (strBytes "k") [0x20], []⟩ [0x20] (.scalar trueTok) [] none, false),
      (.aot [0x09] ⟨bareQ [] (strBytes "arr") [], []⟩ [0x20] (some (strBytes " c")), true) ]
    last := some (.keyval ⟨bareQ [] (strBytes "z") [0x20], []⟩ [0x20] (.scalar falseTok) [] none) }

theorem exQDoc_render : exQDoc.render = exText := by
  simp only [exQDoc, exInline, exText, strBytes_eq rfl]; decide +kernel

theorem bareQ_wf (pre key post : Bytes) (h1 : pre.all isWschar = true) (h2 : post.all isWschar = true)
    (h3 : key ≠ []) (h4 : key.all isUnquotedChar = true) : (bareQ pre key post).WF :=
  ⟨AllWs.of_all _ h1, AllWs.of_all _ h2, Or.inl ⟨rfl, h3, fun b hb => List.all_eq_true.1 h4 b hb⟩⟩

theorem basicQ_wf (pre post : Bytes) (cs : List AstString.BasicChar) (h1 : pre.all isWschar = true)
    (h2 : post.all isWschar = true) (h3 : AstString.wfBasic cs = true) :
    (QKey.mk pre (AstString.renderBasic cs) (AstString.semBasic cs) post).WF :=
  ⟨AllWs.of_all _ h1, AllWs.of_all _ h2, Or.inr (Or.inl ⟨cs, h3, rfl, rfl⟩)⟩

theorem literalQ_wf (pre post key : Bytes) (h1 : pre.all isWschar = true)
    (h2 : post.all isWschar = true) (h3 : AstString.wfLiteral key = true) :
    (QKey.mk pre (AstString.renderLiteral key) key post).WF :=
  ⟨AllWs.of_all _ h1, AllWs.of_all _ h2, Or.inr (Or.inr ⟨h3, rfl⟩)⟩

theorem no_more : ∀ x ∈ ([] : List QKey), x.WF := List.forall_mem_nil _

theorem exInline_wf : WFQ exInline := by
  unfold exInline
  rw [wfQ_inl, wfPairsQ_cons, wfQ_scalar]
  have hk : (QKey.mk [] (strBytes "\"x y\"") (strBytes "x y") [0x20]).WF := by
    have := basicQ_wf [] [0x20] [.raw 0x78, .raw 0x20, .raw 0x79] (by decide) (by decide) (by decide)
    have e1 : AstString.renderBasic [.raw 0x78, .raw 0x20, .raw 0x79] = strBytes "\"x y\"" := by decide +kernel
    have e2 : AstString.semBasic [.raw 0x78, .raw 0x20, .raw 0x79] = strBytes "x y" := by decide +kernel
    rwa [e1, e2] at this
  exact ⟨⟨⟨hk, no_more, by decide⟩, AllWs.of_all _ (by decide), scalarOK_true, AllWs.of_all _ (by decide), trivial⟩,
    AllWs.of_all _ (by decide), by decide +kernel⟩

theorem exQDoc_wf : exQDoc.WF := by
  have hab : (QKey.mk [] (strBytes "\"a b\"") (strBytes "a b") []).WF := by
    have := basicQ_wf [] [] [.raw 0x61, .raw 0x20, .raw 0x62] (by decide) (by decide) (by decide)
    have e1 : AstString.renderBasic [.raw 0x61, .raw 0x20, .raw 0x62] = strBytes "\"a b\"" := by decide +kernel
    have e2 : AstString.semBasic [.raw 0x61, .raw 0x20, .raw 0x62] = strBytes "a b" := by decide +kernel
    rwa [e1, e2] at this
  have hq : (QKey.mk [] (strBytes "\"q\"") (strBytes "q") []).WF := by
    have := basicQ_wf [] [] [.raw 0x71] (by decide) (by decide) (by decide)
    have e1 : AstString.renderBasic [.raw 0x71] = strBytes "\"q\"" := by decide +kernel
    have e2 : AstString.semBasic [.raw 0x71] = strBytes "q" := by decide +kernel
    rwa [e1, e2] at this
  have hc : (QKey.mk [] (strBytes "'c'") (strBytes "c") [0x20]).WF := by
    have := literalQ_wf [] [0x20] (strBytes "c") (by decide) (by decide) (by decide +kernel)
    have e1 : AstString.renderLiteral (strBytes "c") = strBytes "'c'" := by decide +kernel
    rwa [e1] at this
  have hcm : CommentOK (some (strBytes " c")) := commentOK_some _ (by decide +kernel)
  have hn : CommentOK none := commentOK_none
  have hsp : AllWs [0x20] := AllWs.of_all _ (by decide)
  refine ⟨?_, ?_⟩
  · intro p hp
    simp only [exQDoc, List.mem_cons, List.not_mem_nil, or_false] at hp
    rcases hp with rfl | rfl | rfl | rfl | rfl | rfl
    · exact ⟨AllWs.of_all _ (by decide), by decide +kernel⟩
    · refine ⟨⟨hab, ?_, by decide⟩, hsp, exInline_wf, by decide +kernel, hsp, hcm⟩
      intro x hx; simp at hx; subst hx; exact hc
    · exact AllWs.nil
    · refine ⟨AllWs.nil, ⟨bareQ_wf _ _ _ (by decide) (by decide) (by decide +kernel) (by decide +kernel), ?_, by decide⟩,
        AllWs.nil, hn⟩
      intro x hx; simp at hx; subst hx; exact hq
    · exact ⟨⟨bareQ_wf _ _ _ (by decide) (by decide) (by decide +kernel) (by decide +kernel), no_more, by decide⟩,
        hsp, scalarOK_true, by decide, AllWs.nil, hn⟩
    · exact ⟨AllWs.of_all _ (by decide),
        ⟨bareQ_wf _ _ _ (by decide) (by decide) (by decide +kernel) (by decide +kernel), no_more, by decide⟩, hsp, hcm⟩
  · intro l hl
    simp only [exQDoc] at hl
    injection hl with hl
    subst hl
    exact ⟨⟨bareQ_wf _ _ _ (by decide) (by decide) (by decide +kernel) (by decide +kernel), no_more, by decide⟩,
      hsp, scalarOK_false, by decide, AllWs.nil, hn⟩

theorem exQDoc_valid : drun exQDoc.stmts = .valid := by decide +kernel

example : parseDocument exText = (run {} exQDoc.stmts).bind intoDocument := by
  rw [← exQDoc_render]; exact T01_document_completeQ exQDoc exQDoc_wf

/-- "accepts exactly" applies: the tree is outside class U1 -/
example : (∃ t, parseDocument exText = some t) ↔ drun exQDoc.stmts = .valid := by
  rw [← exQDoc_render]
  exact T01_accepts_exactly_tree exQDoc exQDoc_wf (by rw [exQDoc_valid]; decide)

/-- non-vacuity of the rejecting side: `[a]␊[a]` is a well-formed tree, the rules judge it invalid (duplicate table),
    and the parser rejects it -/
def dupDoc : QDoc :=
  { bom := false
    lines := [(.std [] ⟨bareQ [] [0x61] [], []⟩ [] none, false)]
    last := some (.std [] ⟨bareQ [] [0x61] [], []⟩ [] none) }

theorem dupDoc_wf : dupDoc.WF := by
  have h : (QLine.std [] ⟨bareQ [] [0x61] [], []⟩ [] none).WF :=
    ⟨AllWs.nil, ⟨bareQ_wf _ _ _ (by decide) (by decide) (by decide) (by decide), no_more, by decide⟩, AllWs.nil,
      commentOK_none⟩
  refine ⟨?_, ?_⟩
  · intro p hp
    simp only [dupDoc, List.mem_cons, List.not_mem_nil, or_false] at hp
    subst hp; exact h
  · intro l hl
    simp only [dupDoc] at hl
    injection hl with hl
    subst hl; exact h

example : dupDoc.render = strBytes "[a]\n[a]" ∧ drun dupDoc.stmts = .invalid ∧
    ¬ ∃ t, parseDocument dupDoc.render = some t := by
  have hd : drun dupDoc.stmts = .invalid := by decide +kernel
  refine ⟨by decide +kernel, hd, ?_⟩
  rw [T01_accepts_exactly_tree dupDoc dupDoc_wf (by rw [hd]; decide), hd]
  decide

/-- texts that are not renderings of any well-formed tree are rejected: a lone CR, a key without value, text after a
    value, a second byte-order mark -/
example : ¬ ∃ d : QDoc, d.WF ∧ d.render = strBytes "a = 1\rb = 2" ∧ (run {} d.stmts).isSome = true := by
  rw [← T01_document_iff_run]
  have : parseDocument (strBytes "a = 1\rb = 2") = none := by decide +kernel
  rintro ⟨t, h⟩; rw [this] at h; cases h

example : parseDocument (strBytes "a\n") = none ∧ parseDocument (strBytes "a = 1 b = 2\n") = none ∧
    parseDocument ([0xEF, 0xBB, 0xBF, 0xEF, 0xBB, 0xBF] ++ strBytes "a = 1") = none := by decide +kernel

/-- the hypothesis of `T01_accepts_exactly` (no tree of the text in U1) is met by `exText` -/
example : (∃ t, parseDocument exText = some t) ↔ ∃ d : QDoc, d.WF ∧ d.render = exText ∧ drun d.stmts = .valid := by
  have := T01_accepts_exactly_one exQDoc exQDoc_wf (by rw [exQDoc_valid]; decide)
  rwa [exQDoc_render] at this

example : stmtsOfText exText = some exQDoc.stmts :=
  (T01_stmtsOfText_iff _ _).2 ⟨exQDoc, exQDoc_wf, exQDoc_render, rfl⟩

example : (stmtsOfText (strBytes "[a]\n[a]")).isSome = true ∧ parseDocument (strBytes "[a]\n[a]") = none ∧
    stmtsOfText (strBytes "a = 1 b") = none := by decide +kernel

example : ¬ ∃ d : QDoc, d.WF ∧ d.render = strBytes "a = 1 b" := by
  rw [← T01_grammatical_iff]; decide +kernel

end TomlVerif.Props.C01DocSound
