import TomlVerif.Props.C03MoreDoc
import TomlVerif.Lemmas.Verbatim03Ord
import TomlVerif.Lemmas.Bytes
/-! C03 — document-level tiling WITHOUT the pre-order requirement on headers.

    `nestRunV` (`Props/C03MoreDoc.lean`) demands, through `pathOk`, that every header segment
    naming an existing table names the LAST item of its parent, so that the sections of the tree
    are met in position order (`preorderDoc`) and the printer's sort by position is the identity.
    That excludes `"[a]\n[c]\n[a.b]\n"`, or a manifest with `[dependencies]`, `[package]`,
    `[dependencies.serde]` in that order — which print back exactly, because the printer SORTS the
    tables by their recorded position.

    The class here.  `ordRunV s` (`Lemmas/Tiling03MoreOrdDefs.lean`) is `nestRunV s` —
    `parse_document` re-run with a check at every header line and every key/value line, on the
    state the line meets — where the header check `pathOk` is replaced by `pathOkO`:
    for a header `[p1.….pn.key]` / `[[…]]`, on the root after
    `finalize_table`,
      * every table on the way is not a dotted-key table;
      * a segment `pi` that names an existing entry — at ANY place among the items of its parent —
        names a table, or an array of tables with at least one element (the path continues in its
        last element), and is spelled like the stored key (`sameSeg`: key text and the white space
        inside the path);
      * the last key is new, or — for `[[…]]` only — names an array of tables and is spelled like
        the stored key including the white space around the path (`sameLeaf`).
    The check of key/value lines is unchanged (`kvLineOkV`: adjacent dotted keys spelled alike in
    table bodies and inside inline tables).

    Still excluded: respelled header segments, non-adjacent or respelled dotted keys, a header
    through a dotted-key table, and a `[t]` header on a table `t` that exists implicitly (from an
    earlier `[t.u]`): the parser accepts it and moves `t` to the end of its parent — such sources
    are outside `ordRunV` as they are outside `nestRunV` (see the last examples; they do print
    back exactly, which is not proved here). -/
namespace TomlVerif.Props.C03More
open TomlVerif TomlVerif.Model TomlVerif.Model.Cst TomlVerif.Model.Encode
open TomlVerif.Lemmas.Cst03 TomlVerif.Lemmas.Tiling03 TomlVerif.Lemmas.Tiling03Hdr TomlVerif.Lemmas.Tiling03Nest
open TomlVerif.Lemmas.Tiling03More
open TomlVerif.Props.C03 TomlVerif.Props.C03Doc TomlVerif.Props.C03Hdr TomlVerif.Props.C03Nest

/-- the class of `T03_doc_tiling_sourceV` is inside `ordRunV` -/
theorem T03_nestRunV_ordRunV (s : Bytes) (h : nestRunV s = true) : ordRunV s = true :=
  nestRunV_O s h

theorem ordRunV_tiles {s : Bytes} {d : CDoc} (h : parseCst s = some d) (hrun : ordRunV s = true) : Tiles s d :=
  fun f hf => ord_doc_tiling f s d hf h hrun

/-- tiling proper, any source in the class: the recorded pieces concatenated verbatim are the
    source without its BOM, except that some CR LF pairs are written LF (`EolRel`: the parser
    drops the CR of the line end of a key/value or header line), plus the final LF -/
theorem T03_doc_verbatim_ord (s : Bytes) (d : CDoc) (h : parseCst s = some d) (hrun : ordRunV s = true) :
    ∃ out eol, verbatimDoc s d = out ++ eol ∧ EolRel out (Doc.stripBom s) ∧ EolOk eol (Doc.stripBom s) :=
  (ordRunV_tiles h hrun).verbatim

/-- the CRLF normalisation, any source in the class -/
theorem T03_doc_crlf_ord (s : Bytes) (d : CDoc) (h : parseCst s = some d) (hrun : ordRunV s = true) :
    ∃ eol, DropCr (printDoc s d) (Doc.stripBom s ++ eol) ∧
      stripCr (printDoc s d) = stripCr (Doc.stripBom s) ++ eol ∧ EolOk eol (Doc.stripBom s) :=
  (ordRunV_tiles h hrun).crlf

/-- CR-free sources in the class: the source without its BOM plus the final LF -/
theorem T03_doc_norm_ord (s : Bytes) (d : CDoc) (h : parseCst s = some d) (hrun : ordRunV s = true)
    (hcr : ∀ b ∈ s, b ≠ 0x0D) : ∃ eol, printDoc s d = Doc.stripBom s ++ eol ∧ EolOk eol (Doc.stripBom s) :=
  (ordRunV_tiles h hrun).norm hcr

/-- a source whose checked run passes — headers in ANY order, each segment
    spelled like the first time; dotted keys adjacent and spelled alike — without BOM and CR,
    ending in a newline, prints back byte for byte -/
theorem T03_doc_tiling_ord (s : Bytes) (d : CDoc) (h : parseCst s = some d) (hrun : ordRunV s = true)
    (hbom : Doc.stripBom s = s) (hcr : ∀ b ∈ s, b ≠ 0x0D) (hnl : s.getLast? = some 0x0A ∨ s = []) :
    printDoc s d = s :=
  (ordRunV_tiles h hrun).tiling h hbom hcr hnl

theorem T03_print_fixpoint_ord (s : Bytes) (d : CDoc) (h : parseCst s = some d) (hrun : ordRunV s = true)
    (hbom : Doc.stripBom s = s) (hcr : ∀ b ∈ s, b ≠ 0x0D) (hnl : s.getLast? = some 0x0A ∨ s = []) :
    ∃ d', parseCst (printDoc s d) = some d' ∧ printDoc (printDoc s d) d' = printDoc s d :=
  fixpoint_of_tiling h (T03_doc_tiling_ord s d h hrun hbom hcr hnl)

/-- comments are kept: every CR-free piece of the source occurs in the printed text -/
theorem T03_comments_kept_ord (s : Bytes) (d : CDoc) (h : parseCst s = some d) (hrun : ordRunV s = true)
    (c : Bytes) (hc : c <:+: Doc.stripBom s) (hcr : ∀ b ∈ c, b ≠ 0x0D) : c <:+: printDoc s d :=
  (ordRunV_tiles h hrun).comments c hc hcr

/-- a sub-table after an unrelated section: in `ordRunV`, outside `nestRunV` (the tree is
    not in position order), printed back exactly -/
def exOrd1 : Bytes := strBytes "[a]\n[c]\n[a.b]\n"

example : (parseCst exOrd1).isSome = true ∧ ordRunV exOrd1 = true ∧ nestRunV exOrd1 = false ∧
    (parseCst exOrd1).map preorderDoc = some false ∧
    Doc.stripBom exOrd1 = exOrd1 ∧ (exOrd1.all fun b => b != 0x0D) = true ∧ exOrd1.getLast? = some 0x0A ∧
    (parseCst exOrd1).map (printDoc exOrd1) = some exOrd1 := by
  simp only [exOrd1, strBytes_eq rfl]
  decide +kernel

/-- implicit parents, arrays of tables continued after other sections, a sub-table of the last
    array element, dotted keys in a body and inside an inline table, a comment -/
def exOrd2 : Bytes := strBytes
  "[x.y]\nk = 1\n[z]\n[[x.arr]]\n[q] # c\n[[x.arr]]\n[x.arr.sub]\nw.v = {a.b = 1, a.c = 2}\nw.u = 3\n[z.u]\n"

theorem exOrd2_eval : (parseCst exOrd2).isSome = true ∧ ordRunV exOrd2 = true ∧ nestRunV exOrd2 = false ∧
    (parseCst exOrd2).map (printDoc exOrd2) = some exOrd2 := by
  simp only [exOrd2, strBytes_eq rfl]
  decide +kernel

example : (parseCst exOrd2).isSome = true ∧ ordRunV exOrd2 = true ∧ nestRunV exOrd2 = false ∧
    (parseCst exOrd2).map (printDoc exOrd2) = some exOrd2 := exOrd2_eval

/-- an explicit table first, its sub-tables and array elements later, between other sections -/
def exOrd3 : Bytes := strBytes
  "[x]\nj = 2\n[z]\n[x.y]\nk = 1\n[[x.arr]]\n[q]\n[[x.arr]]\n[x.arr.sub]\n"

example : (parseCst exOrd3).isSome = true ∧ ordRunV exOrd3 = true ∧ nestRunV exOrd3 = false ∧
    (parseCst exOrd3).map (printDoc exOrd3) = some exOrd3 := by
  simp only [exOrd3, strBytes_eq rfl]
  decide +kernel

/-- a manifest with `[dependencies]`, `[package]`, `[dependencies.serde]` in that order -/
def exCargoOrd : Bytes := strBytes
  "[dependencies]\nfoo = \"1\"\n\n[package]\nname = \"x\" # c\n\n[dependencies.serde]\nversion = \"1\"\nfeatures = [\"derive\"]\n"

theorem exCargoOrd_eval :
    (parseCst exCargoOrd).isSome = true ∧ ordRunV exCargoOrd = true ∧ nestRunV exCargoOrd = false ∧
    Doc.stripBom exCargoOrd = exCargoOrd ∧ (exCargoOrd.all fun b => b != 0x0D) = true ∧
    exCargoOrd.getLast? = some 0x0A ∧
    (parseCst exCargoOrd).map (printDoc exCargoOrd) = some exCargoOrd := by
  simp only [exCargoOrd, strBytes_eq rfl]
  decide +kernel

example : (parseCst exCargoOrd).isSome = true ∧ ordRunV exCargoOrd = true ∧ nestRunV exCargoOrd = false ∧
    Doc.stripBom exCargoOrd = exCargoOrd ∧ (exCargoOrd.all fun b => b != 0x0D) = true ∧
    exCargoOrd.getLast? = some 0x0A ∧
    (parseCst exCargoOrd).map (printDoc exCargoOrd) = some exCargoOrd := exCargoOrd_eval

/-- each test document in the smallest of the classes `nestRunV ⊆ ordRunV ⊆ adjRun ⊆ …` that
    holds it -/
theorem exOrd2_ordRunV : ordRunV exOrd2 = true := exOrd2_eval.2.1

theorem exCargoOrd_ordRunV : ordRunV exCargoOrd = true := exCargoOrd_eval.2.1

theorem exCargoInline_nestRunV : nestRunV exCargoInline = true := exCargoInline_eval.2.1

theorem exMixed_nestRunV : nestRunV exMixed = true := exMixed_eval.2.1

/-- the examples of the smaller classes are in `ordRunV` (`T03_nestRunV_ordRunV`) -/
example : nestRunV exCargoInline = true ∧ ordRunV exCargoInline = true ∧ ordRunV exMixed = true ∧
    ordRunV exCargo = true ∧ ordRunV exNestedCrlf = true :=
  ⟨exCargoInline_nestRunV, T03_nestRunV_ordRunV _ exCargoInline_nestRunV, T03_nestRunV_ordRunV _ exMixed_nestRunV,
    T03_nestRunV_ordRunV _ exCargo_nestRunV, T03_nestRunV_ordRunV _ exNestedCrlf_nestRunV⟩

/-- CR LF line ends, no final newline: the normalising variants apply -/
example : ordRunV (strBytes "[a]\r\n[c]\r\n[a.b]\r\nx = 1") = true ∧
    (parseCst (strBytes "[a]\r\n[c]\r\n[a.b]\r\nx = 1")).map (printDoc (strBytes "[a]\r\n[c]\r\n[a.b]\r\nx = 1"))
      = some (strBytes "[a]\n[c]\n[a.b]\nx = 1\n") := by
  simp only [strBytes_eq rfl]
  decide +kernel

/-- a respelled header segment (only the first spelling of `a`, without the space after it, is
    kept): accepted, out of the class, not printed back -/
example : ordRunV (strBytes "[a]\n[c]\n[ a .b]\n") = false ∧
    (parseCst (strBytes "[a]\n[c]\n[ a .b]\n")).map (printDoc (strBytes "[a]\n[c]\n[ a .b]\n"))
      = some (strBytes "[a]\n[c]\n[ a.b]\n") := by
  simp only [strBytes_eq rfl]
  decide +kernel

/-- a respelled `[[ a ]]` after another section -/
example : ordRunV (strBytes "[[a]]\n[c]\n[[ a ]]\n") = false ∧
    (parseCst (strBytes "[[a]]\n[c]\n[[ a ]]\n")).map (printDoc (strBytes "[[a]]\n[c]\n[[ a ]]\n"))
      = some (strBytes "[[a]]\n[c]\n[[a]]\n") := by
  simp only [strBytes_eq rfl]
  decide +kernel

/-- non-adjacent dotted keys in a body (printed regrouped), with sections out of order -/
example : ordRunV (strBytes "[a]\nx.y = 1\nz = 2\nx.w = 3\n[c]\n[a.b]\n") = false ∧
    (parseCst (strBytes "[a]\nx.y = 1\nz = 2\nx.w = 3\n[c]\n[a.b]\n")).map
      (printDoc (strBytes "[a]\nx.y = 1\nz = 2\nx.w = 3\n[c]\n[a.b]\n"))
      = some (strBytes "[a]\nx.y = 1\nx.w = 3\nz = 2\n[c]\n[a.b]\n") := by
  simp only [strBytes_eq rfl]
  decide +kernel

/-- the exclusions of `nestRunV` on key/value lines remain -/
example : ordRunV (strBytes "v = {a .b=1,a.c=2}\n") = false ∧
    ordRunV (strBytes "a .b = 1\na.c = 2\n") = false ∧
    ordRunV (strBytes "a.b = 1\nc = 2\na.d = 3\n") = false := by
  simp only [strBytes_eq rfl]
  decide +kernel

/-- a `[t]` header on a table that exists implicitly: the parser takes the table over and moves
    it to the end of its parent; outside the class (as outside `nestRunV`), though printed back
    exactly — not covered by the theorems -/
example : ordRunV (strBytes "[x.y]\n[z]\n[x]\n") = false ∧
    (parseCst (strBytes "[x.y]\n[z]\n[x]\n")).map (printDoc (strBytes "[x.y]\n[z]\n[x]\n"))
      = some (strBytes "[x.y]\n[z]\n[x]\n") ∧
    ordRunV (strBytes "[x.y]\nk = 1\n[z]\n[x]\nj = 2\n[[x.arr]]\n[q]\n[[x.arr]]\n[x.arr.sub]\n") = false := by
  simp only [strBytes_eq rfl]
  decide +kernel

end TomlVerif.Props.C03More
