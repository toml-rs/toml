import TomlVerif.Lemmas.DefRules09
/-! # C09 (equivalence) — the table-building state machine accepts exactly what the definition rules permit

`Spec/DefRules.lean` is an independent formulation of the definition rules of TOML 1.0.0 (a flat map
from effective paths to kinds, judged per statement as `valid | invalid | undecided`, the last being
class U1). `Model/State.lean` is the transliteration of the parser's state machine (a tree with
`implicit` / `dotted` flags, the open section kept apart from the finalized part).

For every list of statements (`kv` with dotted keys of any length, `[table]` and `[[array]]` headers)
what the state machine accepts is not `invalid` under the rules, and what the rules judge `valid` is
accepted: outside U1 the two agree exactly.

On U1 (a dotted key passing through a table that exists only as the by-product of a longer header) the
state machine does **not** always reject, see `T09_u1_not_always_rejected`. -/
namespace TomlVerif.Props.C09Equiv
open TomlVerif TomlVerif.Model TomlVerif.Model.State TomlVerif.Lemmas.State09 TomlVerif.Spec.DefRules
open TomlVerif.Lemmas.DefRules09

def ka : Bytes := [97]
def kb : Bytes := [98]
def kc : Bytes := [99]
def kx : Bytes := [120]
def ky : Bytes := [121]

/-- `x = 1`, `[a.b]`, `x = 1`, `p.q.x = 1`, `p.q.y = 2`, `[[c]]`, `y = 2`, `[a]`, `y = 2`, `[[c]]`, `y = 3`, `[c.b]`, `[a.b.p.z]` -/
def exDoc : List Stmt :=
  [.kv [] kx (.int 1), .std [ka, kb], .kv [] kx (.int 1), .kv [[112], [113]] kx (.int 1), .kv [[112], [113]] ky (.int 2),
   .arr [kc], .kv [] ky (.int 2), .std [ka], .kv [] ky (.int 2), .arr [kc], .kv [] ky (.int 3), .std [kc, kb],
   .std [ka, kb, [112], [122]]]

theorem T09_equiv_init : R {} {} :=
  { inv := inv_init
    cur := by
      intro r hr _
      rw [kindI_empty _ rfl r hr]
      rfl
    curI := rfl
    curD := rfl
    shape := .root rfl rfl rfl
    dj := ⟨fun p c s h => by simp [kget] at h, fun c s h => by simp [kget] at h⟩
    cpos := fun q h => by simp [kget] at h
    elemExp := fun p i k h => by simp [kget] at h }

theorem T09_equiv_step (st : ParseState) (ds : DState) (s : Stmt) (h : R st ds) :
    (∀ ds', dstep ds s = (.valid, ds') → ∃ st1, step st s = some st1 ∧ R st1 ds') ∧
    (∀ ds', dstep ds s = (.invalid, ds') → step st s = none) :=
  step_sim st ds s h

/-- non-vacuity: both kinds of verdict occur from the initial state -/
example : (dstep {} (.kv [ka] kx (.int 1))).1 = .valid ∧ (dstep {} (.std [])).1 = .invalid := by decide

/-- everything the state machine accepts is permitted by the rules, or left undecided by them -/
theorem T09_equiv_sound (stmts : List Stmt) (h : (run {} stmts).isSome) : drun stmts ≠ .invalid :=
  (run_sim stmts {} {} T09_equiv_init).2 h

/-- the evaluation the three examples on `exDoc` below quote -/
theorem exDoc_eval : (run {} exDoc).isSome = true ∧ drun exDoc = .valid := by decide

example : (run {} exDoc).isSome = true ∧ drun exDoc = .valid := exDoc_eval

/-- every combination of statements the rules permit is accepted by the state machine -/
theorem T09_equiv_complete (stmts : List Stmt) (h : drun stmts = .valid) : (run {} stmts).isSome :=
  (run_sim stmts {} {} T09_equiv_init).1 h

example : drun exDoc = .valid := exDoc_eval.2

/-- outside class U1 the state machine accepts exactly the statement lists the rules judge valid -/
theorem T09_equiv_iff (stmts : List Stmt) (h : drun stmts ≠ .undecided) :
    (run {} stmts).isSome ↔ drun stmts = .valid := by
  refine ⟨fun ha => ?_, T09_equiv_complete stmts⟩
  have := T09_equiv_sound stmts ha
  cases hd : drun stmts with
  | valid => rfl
  | invalid => exact absurd hd this
  | undecided => exact absurd hd h

/-- non-vacuity: decided both ways -/
example : drun exDoc ≠ .undecided ∧ drun [.std [ka], .std [ka]] = .invalid ∧
    (run {} [.std [ka], .std [ka]]).isSome = false :=
  ⟨by rw [exDoc_eval.2]; decide, by decide, by decide⟩

/-- every rejection by the state machine is either `invalid` under the rules or in U1 -/
theorem T09_equiv_rejected (stmts : List Stmt) (h : (run {} stmts).isSome = false) :
    drun stmts = .invalid ∨ drun stmts = .undecided := by
  cases hd : drun stmts with
  | valid => have := T09_equiv_complete stmts hd; rw [h] at this; cases this
  | invalid => exact Or.inl rfl
  | undecided => exact Or.inr rfl

example : (run {} [.arr [ka], .kv [ka] kx (.int 1), .std [ka, kb], .std [ka]]).isSome = false := by decide

/-- `stage1`, `noAot`: the classes of statement lists for which the equivalence was first stated;
    `T09_equiv_stage1/2` restate it for them and do not need the hypothesis -/
def stage1 : List Stmt → Bool
  | [] => true
  | .kv p _ _ :: r => p.isEmpty && stage1 r
  | .std _ :: r => stage1 r
  | .arr _ :: _ => false

def noAot : List Stmt → Bool
  | [] => true
  | .arr _ :: _ => false
  | _ :: r => noAot r

theorem T09_equiv_stage1 (stmts : List Stmt) (_ : stage1 stmts) :
    ((run {} stmts).isSome → drun stmts ≠ .invalid) ∧ (drun stmts = .valid → (run {} stmts).isSome) :=
  ⟨T09_equiv_sound stmts, T09_equiv_complete stmts⟩

theorem T09_equiv_stage2 (stmts : List Stmt) (_ : noAot stmts) :
    ((run {} stmts).isSome → drun stmts ≠ .invalid) ∧ (drun stmts = .valid → (run {} stmts).isSome) :=
  ⟨T09_equiv_sound stmts, T09_equiv_complete stmts⟩

example : stage1 [.std [ka, kb], .kv [] kx (.int 1), .std [ka]] = true ∧
    noAot [.std [ka, kb], .kv [kc] kx (.int 1), .std [ka]] = true := by decide

/-- the statement one might expect: the state machine rejects every U1 list -/
def U1Rejected : Prop := ∀ stmts : List Stmt, drun stmts = .undecided → (run {} stmts).isSome = false

/-- `[a.a.a]`, `[a]`, `a.b.x = 1`: the dotted key passes through `a.a`, which exists only because of
    the header `[a.a.a]` (U1), and defines the new dotted table `a.a.b`. The state machine accepts:
    it only refuses a dotted key whose *last* table is a header-implicit one. -/
def exU1Accepted : List Stmt := [.std [ka, ka, ka], .std [ka], .kv [ka, kb] kx (.int 1)]

/-- `[a.a.a]`, `[a]`, `a.x = 1`: the dotted key adds a value directly to the header-implicit `a.a`. -/
def exU1Rejected : List Stmt := [.std [ka, ka, ka], .std [ka], .kv [ka] kx (.int 1)]

/-- the state machine does not reject all of U1 -/
theorem T09_u1_not_always_rejected : ¬ U1Rejected := by
  intro h
  have := h exU1Accepted (by decide)
  revert this
  decide

example : drun exU1Accepted = .undecided ∧ (run {} exU1Accepted).isSome = true ∧
    drun exU1Rejected = .undecided ∧ (run {} exU1Rejected).isSome = false := by decide


/-- what the state machine does refuse in U1: after any prefix `s1` judged valid, a dotted key
    `p.k.key = v` whose prefix `p` is fine (absent tables, or dotted tables of the current section) and
    whose last table `p.k` exists only as the by-product of a longer header. The rules leave it
    undecided, the state machine rejects it. -/
theorem T09_u1_direct_rejected (s1 : List Stmt) (ds : DState) (p : List Bytes) (k key : Bytes) (v : Val)
    (K' : KMap) (e : EPath) (hs : dstateFrom {} s1 = some ds)
    (hw : kwalk ds.sid ds.kinds ds.sect p = (.valid, K', e))
    (hk : kget K' (e ++ [.name k]) = some .implicit) :
    drun (s1 ++ [.kv (p ++ [k]) key v]) = .undecided ∧ (run {} (s1 ++ [.kv (p ++ [k]) key v])).isSome = false := by
  obtain ⟨st, hr, hR⟩ := run_R s1 {} {} ds T09_equiv_init hs
  obtain ⟨h1, h2⟩ := u1_direct st ds p k key v hR K' e hw hk
  refine ⟨?_, ?_⟩
  · unfold drun
    rw [drunFrom_append s1 _ {} ds hs]
    simp only [drunFrom, h1]
  · rw [run_append, hr]
    simp only [Option.bind_some, run, step, h2]
    rfl

/-- non-vacuity: `[a.a.a]`, `[a]`, then `a.x = 1` (`p = []`, `k = a`) -/
example : ∃ ds K' e, dstateFrom {} [.std [ka, ka, ka], .std [ka]] = some ds ∧
    kwalk ds.sid ds.kinds ds.sect [] = (.valid, K', e) ∧ kget K' (e ++ [.name ka]) = some .implicit :=
  ⟨_, _, _, rfl, rfl, by decide⟩


/-- a consequence of accepting part of U1: `[a.a.a]`, `[a]`, `a.b.x = 1` (U1, accepted: defines the
    dotted table `a.a.b` inside section `[a]`), `[a.a]` (takes over the header-implicit `a.a` together
    with its dotted child `b`), `b.y = 2` — the dotted table `a.a.b` defined in section `[a]` is extended
    from section `[a.a]`. Outside U1 this cannot happen (`T09_equiv_sound`: the rules judge a dotted key
    reaching a dotted table of another section `invalid`). -/
def exU1Merge : List Stmt :=
  [.std [ka, ka, ka], .std [ka], .kv [ka, kb] kx (.int 1), .std [ka, ka], .kv [kb] ky (.int 2)]

example : drun exU1Merge = .undecided ∧ (run {} exU1Merge).isSome = true ∧
    (match ((run {} exU1Merge).bind intoDocument).bind fun d => lookupVal d [ka, ka, kb] kx with
      | some (.int 1) => true | _ => false) = true ∧
    (match ((run {} exU1Merge).bind intoDocument).bind fun d => lookupVal d [ka, ka, kb] ky with
      | some (.int 2) => true | _ => false) = true := by decide

end TomlVerif.Props.C09Equiv
