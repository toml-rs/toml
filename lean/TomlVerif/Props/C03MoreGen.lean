import TomlVerif.Props.C03MoreNad
import TomlVerif.Lemmas.Same03Main
import TomlVerif.Lemmas.Bytes
/-! C03 — the weaker clause (valid, SAME DATA) for the JOIN of the take-over class
    (`tkoRun`, `Props/C03MoreTko.lean`) and the non-adjacent class (`nadRun`,
    `Props/C03MoreNad.lean`), which are incomparable.

    The class.  `genRun s` (`Lemmas/Tiling03MoreGenDefs.lean`): along the run of `parse_document`,
    header lines pass `hdrLineOkT` (`pathOkT`: as `pathOkA`, and a `[t]` header may take over an
    implicit, non-dotted table spelled like the stored key and holding sub-tables only) and
    key/value lines pass `kvLineOkN` (`dottedOkN`: a prefix segment naming an existing entry names
    a dotted-key table, anywhere in its table).  Still excluded: a dotted key through a table that
    a header made implicitly (statement false: `T03_same_data_counterexample`), a take-over under
    a respelled name, a header through a dotted-key table.

    The class is inside `genRun2` (`Props/C03MoreGen3.lean`). -/
namespace TomlVerif.Props.C03More
open TomlVerif TomlVerif.Model TomlVerif.Model.Cst TomlVerif.Model.Encode
open TomlVerif.Lemmas.Cst03 TomlVerif.Lemmas.Tiling03 TomlVerif.Lemmas.Tiling03Hdr TomlVerif.Lemmas.Tiling03Nest
open TomlVerif.Lemmas.Tiling03More TomlVerif.Lemmas.Tiling03More.Tko TomlVerif.Lemmas.Tiling03More.Gen
open TomlVerif.Props.C03 TomlVerif.Props.C03Doc TomlVerif.Props.C03Hdr TomlVerif.Props.C03Nest

theorem T03_nadRun_genRun (s : Bytes) (h : nadRun s = true) : genRun s = true := nadRun_G s h
theorem T03_tkoRun_genRun (s : Bytes) (h : tkoRun s = true) : genRun s = true := tkoRun_G s h

/-- for every source in the join class the printed text decodes
    (semantic parser) to the same table, flags and positions included -/
theorem T03_same_data_general_class (s : Bytes) (d : CDoc) (h : parseCst s = some d) (hrun : genRun s = true) :
    Doc.parseDocument (printDoc s d) = Doc.parseDocument s := by
  rw [same_data_gen s d h hrun, ← T03_cst_erases_to_doc s, h]; rfl

/-- … and is accepted by the format-preserving parser, with the same data -/
theorem T03_same_data_general_class_cst (s : Bytes) (d : CDoc) (h : parseCst s = some d) (hrun : genRun s = true) :
    ∃ d', parseCst (printDoc s d) = some d' ∧ eraseTbl d'.root = eraseTbl d.root :=
  (T03_reparse_iff_doc (printDoc s d) (fun t => t = eraseTbl d.root)).2 ⟨_, same_data_gen s d h hrun, rfl⟩

theorem T03_same_data_general_class_tbl (s : Bytes) (d : CDoc) (h : parseCst s = some d) (hrun : genRun s = true) :
    Doc.parseDocument (printDoc s d) = some (eraseTbl d.root) :=
  same_data_gen s d h hrun

/-- a take-over (`[x]` after `[x.y]`) AND non-adjacent dotted keys -/
def exGen1 : Bytes := strBytes "[x.y]\n[z]\n[x]\na.b = 1\nc = 2\na.d = 3\n"

theorem exGen1_eval : genRun exGen1 = true ∧ nadRun exGen1 = false ∧ tkoRun exGen1 = false ∧
    (parseCst exGen1).map (printDoc exGen1) = some (strBytes "[x.y]\n[z]\n[x]\na.b = 1\na.d = 3\nc = 2\n") ∧
    sameData exGen1 = some true := by
  simp only [exGen1, strBytes_eq rfl]
  decide +kernel

example : genRun exGen1 = true ∧ nadRun exGen1 = false ∧ tkoRun exGen1 = false ∧
    (parseCst exGen1).map (printDoc exGen1) = some (strBytes "[x.y]\n[z]\n[x]\na.b = 1\na.d = 3\nc = 2\n") ∧
    sameData exGen1 = some true := exGen1_eval

/-- a BOM, CR LF, respelled names, sections out of order, a take-over (`[ a]` after `[a.q]`),
    non-adjacent dotted keys at two levels in the taken-over table, an inline table with
    non-adjacent dotted keys, comments, no final newline -/
def exGenAll : Bytes :=
  [0xEF, 0xBB, 0xBF] ++ strBytes ("[a.q]\r\nk.x = 1\r\nm = 2\r\nk . y = 3\r\n# c\r\n[c]\r\n[ a]\r\nu.v.w = 1\r\n" ++
    "z = {p.q = 1, r = 2, p.s = 3}\r\nu.v.x = 2\r\nu.y = 3 # e\r\nu.v.z = 4\r\n[[a.c]]\r\n[[a . c]] # z")

theorem exGenAll_eval : genRun exGenAll = true ∧ nadRun exGenAll = false ∧ tkoRun exGenAll = false ∧
    (parseCst exGenAll).map (printDoc exGenAll)
      = some (strBytes ("[a.q]\nk.x = 1\nk. y = 3\nm = 2\n# c\n[c]\n[ a]\nu.v.w = 1\nu.v.x = 2\nu.v.z = 4\nu.y = 3 # e\n" ++
          "z = {p.q = 1, p.s = 3, r = 2}\n[[a.c]]\n[[a.c]] # z\n")) ∧
    sameData exGenAll = some true := by
  simp only [exGenAll, strBytes_append, strBytes_eq rfl]
  decide +kernel

example : genRun exGenAll = true ∧ nadRun exGenAll = false ∧ tkoRun exGenAll = false ∧
    (parseCst exGenAll).map (printDoc exGenAll)
      = some (strBytes ("[a.q]\nk.x = 1\nk. y = 3\nm = 2\n# c\n[c]\n[ a]\nu.v.w = 1\nu.v.x = 2\nu.v.z = 4\nu.y = 3 # e\n" ++
          "z = {p.q = 1, p.s = 3, r = 2}\n[[a.c]]\n[[a.c]] # z\n")) ∧
    sameData exGenAll = some true := exGenAll_eval

theorem exGen1_genRun : genRun exGen1 = true := exGen1_eval.1

theorem exGenAll_genRun : genRun exGenAll = true := exGenAll_eval.1

/-- the examples of the two classes -/
example : genRun exNadAll = true ∧ genRun exSemAll = true ∧ genRun (strBytes "[x.y]\n[z]\n[x]\n") = true ∧
    genRun (strBytes "a.b = 1\nc = 2\na.d = 3\n") = true := by
  refine ⟨T03_nadRun_genRun _ exNadAll_nadRun, T03_nadRun_genRun _ (T03_adjRun_nadRun _ exSemAll_adjRun), ?_⟩
  simp only [strBytes_eq rfl]
  decide +kernel

/-- a dotted key through a table made by a header: outside the class, and the data DIFFERS -/
example : genRun (strBytes "[a.b.d]\n[a]\nb.c.e = 3\n") = false ∧
    sameData (strBytes "[a.b.d]\n[a]\nb.c.e = 3\n") = some false :=
  ⟨by simp only [strBytes_eq rfl]; decide +kernel, sameData_implicitDotted⟩

/-- a take-over under a respelled name; a header through a dotted-key table (same data in both) -/
example : genRun (strBytes "[x .y]\n[x]\n") = false ∧ sameData (strBytes "[x .y]\n[x]\n") = some true ∧
    genRun (strBytes "[t]\na.b = 1\n[t.a.c]\n") = false ∧
    sameData (strBytes "[t]\na.b = 1\n[t.a.c]\n") = some true :=
  ⟨by simp only [strBytes_eq rfl]; decide +kernel, sameData_reopened_respelled, by simp only [strBytes_eq rfl]; decide +kernel, sameData_through_dotted⟩

end TomlVerif.Props.C03More

#print axioms TomlVerif.Props.C03More.T03_same_data_general_class
#print axioms TomlVerif.Props.C03More.T03_same_data_general_class_cst
#print axioms TomlVerif.Props.C03More.T03_nadRun_genRun
#print axioms TomlVerif.Props.C03More.T03_tkoRun_genRun
