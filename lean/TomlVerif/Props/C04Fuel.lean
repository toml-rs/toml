import TomlVerif.Lemmas.FuelValue04
import TomlVerif.Lemmas.ValEq
/-! # C04 — fuel is never the reason for a rejection

The loops of the model take a fuel argument so that Lean accepts them as structurally recursive; the code
they model loops on the input.  The model's callers pass `length + 1` (string bodies, trivia, dotted keys,
the statement loop) or `3 * length + 4` (values).  The theorems below say that **beyond those bounds the
result does not depend on the fuel**: any two amounts of fuel above the bound give the same result, so
no `.cut` / `.bt` / `none` the entry points return is due to fuel. -/
namespace TomlVerif.Props.C04Fuel
open TomlVerif TomlVerif.Spec TomlVerif.Model TomlVerif.Model.Strings TomlVerif.Model.Value
open TomlVerif.Model.State TomlVerif.Model.Doc
open TomlVerif.Lemmas.Fuel04 TomlVerif.Lemmas.FuelValue04
open TomlVerif.Lemmas.ValEq (okIs okIs_sound)

/-- for the examples: `r` is `.cut` (`Val` has no derived `DecidableEq`) -/
def isCut {α} : Res α → Bool
  | .cut => true
  | _ => false
theorem isCut_sound {α} (r : Res α) (h : isCut r = true) : r = .cut := by
  cases r <;> simp [isCut] at h ⊢

/-- the three string-body loops; the callers `basicString`, `mlBasicString`, `mlLiteralString` pass
    `length + 1` -/
theorem T04_fuel_strings (f₁ f₂ : Nat) (s acc : Bytes) (h1 : s.length < f₁) (h2 : s.length < f₂) :
    basicBody f₁ s acc = basicBody f₂ s acc ∧
    mlBasicBody f₁ s acc = mlBasicBody f₂ s acc ∧
    mlLiteralBody f₁ s acc = mlLiteralBody f₂ s acc :=
  ⟨basicBody_fuel f₁ f₂ s acc h1 h2, mlBasicBody_fuel f₁ f₂ s acc h1 h2, mlLiteralBody_fuel f₁ f₂ s acc h1 h2⟩

/-- non-vacuity: `a"` with fuel 3 and fuel 100. Below the bound the fuel matters (next example): on `a"b` fuel 2
    still reads the string, fuel 1 runs out -/
example : basicBody 3 [0x61, 0x22] [] = basicBody 100 [0x61, 0x22] [] :=
  (T04_fuel_strings 3 100 [0x61, 0x22] [] (by decide) (by decide)).1
example : basicBody 2 [0x61, 0x22, 0x62] [] = .ok [0x61] [0x62] ∧ basicBody 1 [0x61, 0x22, 0x62] [] = .cut := by decide

theorem T04_basicString_fuel (r : Bytes) (f : Nat) (h : r.length < f) :
    basicString (0x22 :: r) = basicBody f r [] := by
  unfold basicString
  exact basicBody_fuel _ _ r [] (by omega) h

/-- the `ws newline *(wschar / newline)` loop after a line-ending backslash (called with `length + 1`) -/
theorem T04_fuel_escapedNl (f₁ f₂ : Nat) (s : Bytes) (h1 : s.length < f₁) (h2 : s.length < f₂) :
    dropWsNewline f₁ s = dropWsNewline f₂ s ∧ mlbEscapedNl f₁ s = mlbEscapedNl f₂ s :=
  ⟨dropWsNewline_fuel f₁ f₂ s h1 h2, mlbEscapedNl_fuel f₁ f₂ s (by omega) (by omega)⟩

example : mlbEscapedNl 4 [0x20, 0x0A, 0x20] = mlbEscapedNl 50 [0x20, 0x0A, 0x20] :=
  (T04_fuel_escapedNl 4 50 [0x20, 0x0A, 0x20] (by decide) (by decide)).2

/-- `ws_comment_newline`; all callers pass `length + 1` -/
theorem T04_fuel_wcn (f₁ f₂ : Nat) (s : Bytes) (h1 : s.length < f₁) (h2 : s.length < f₂) :
    wsCommentNewline f₁ s = wsCommentNewline f₂ s := by
  refine fuel_irrelevant (F := fun f s (_ : Unit) => wsCommentNewline f s) (fun g g' s _ ih => ?_) f₁ f₂ s () h1 h2
  unfold wsCommentNewline
  simp only []
  have hd := dropWs_len s
  cases hs : dropWs s with
  | nil => rfl
  | cons b r =>
    rw [hs] at hd
    simp only [List.length_cons] at hd
    simp only []
    split
    · cases hn : newline? (dropComment r) with
      | none => rfl
      | some r' =>
        have := (Lemmas.Suffix03.newline?_adv hn).length_lt
        have := dropComment_len r
        exact ih r' () (by omega)
    · split
      · cases hn : newline? (b :: r) with
        | none => rfl
        | some r' =>
          have := (Lemmas.Suffix03.newline?_adv hn).length_lt
          simp only [List.length_cons] at this
          exact ih r' () (by omega)
      · rfl

/-- non-vacuity: ` #c␊␊x`; with too little fuel the loop stops early (and still returns `some`) -/
example : wsCommentNewline 7 [0x20, 0x23, 0x63, 0x0A, 0x0A, 0x78] = wsCommentNewline 60 [0x20, 0x23, 0x63, 0x0A, 0x0A, 0x78] :=
  T04_fuel_wcn 7 60 _ (by decide) (by decide)
example : wsCommentNewline 7 [0x20, 0x23, 0x63, 0x0A, 0x0A, 0x78] = some [0x78] ∧
    wsCommentNewline 1 [0x20, 0x23, 0x63, 0x0A, 0x0A, 0x78] = some [0x0A, 0x78] := by decide

/-- `key`; `keyPath` passes `length + 1` -/
theorem T04_fuel_keypath (f₁ f₂ : Nat) (s : Bytes) (acc : List Bytes) (h1 : s.length < f₁) (h2 : s.length < f₂) :
    keyPathAux f₁ s acc = keyPathAux f₂ s acc := by
  refine fuel_irrelevant (fun g g' s acc ih => ?_) f₁ f₂ s acc h1 h2
  unfold keyPathAux
  cases hk : Key.simpleKey (dropWs s) with
  | bt => rfl
  | cut => rfl
  | ok k r =>
    have := (Lemmas.Suffix03.simpleKey_adv _ _ _ hk).length_lt
    have := dropWs_len s
    have hd := dropWs_len r
    simp only []
    split
    · rename_i r2 heq
      rw [heq] at hd
      simp only [List.length_cons] at hd
      rw [ih r2 _ (by omega)]
    · rfl

theorem T04_keyPath_fuel (s : Bytes) (f : Nat) (h : s.length < f) :
    keyPath s = match keyPathAux f s [] with
      | .ok ks r => if LIMIT ≤ ks.length then .bt else .ok ks r
      | other => other := by
  unfold keyPath
  rw [T04_fuel_keypath _ f s [] (by omega) h]
  cases keyPathAux f s [] <;> rfl

/-- non-vacuity: `a.b=` -/
example : keyPathAux 5 [0x61, 0x2E, 0x62, 0x3D] [] = keyPathAux 50 [0x61, 0x2E, 0x62, 0x3D] [] :=
  T04_fuel_keypath 5 50 _ [] (by decide) (by decide)
example : keyPathAux 5 [0x61, 0x2E, 0x62, 0x3D] [] = .ok [[0x61], [0x62]] [0x3D] ∧
    keyPathAux 1 [0x61, 0x2E, 0x62, 0x3D] [] = .ok [[0x61]] [0x2E, 0x62, 0x3D] := by decide

/-- a *definite* result: the model returns `.cut` both for a committed failure and when it runs out of fuel;
    every other result (`.ok`, `.bt`) is definite, because running out of fuel anywhere inside surfaces as `.cut` -/
def Definite {α} (r : Res α) : Prop := r ≠ .cut

theorem T04_fuel_mono (fuel d : Nat) (s : Bytes) (r : Res Val) (h : value fuel d s = r) (hd : Definite r)
    (fuel' : Nat) (hf : fuel ≤ fuel') : value fuel' d s = r := by
  subst h
  exact (monoGoal fuel).1 fuel' d s hf hd

theorem T04_fuel_mono_inner (fuel fuel' d : Nat) (s : Bytes) (hf : fuel ≤ fuel') :
    (Definite (arrayValues fuel d s) → arrayValues fuel' d s = arrayValues fuel d s) ∧
    (∀ acc, Definite (arrayElems fuel d s acc) → arrayElems fuel' d s acc = arrayElems fuel d s acc) ∧
    (∀ acc, Definite (inlineKeyvals fuel d s acc) → inlineKeyvals fuel' d s acc = inlineKeyvals fuel d s acc) :=
  ⟨(monoGoal fuel).2.1 fuel' d s hf, fun acc => (monoGoal fuel).2.2.1 fuel' d s acc hf,
   fun acc => (monoGoal fuel).2.2.2 fuel' d s acc hf⟩

/-- non-vacuity: `[]` is read with fuel 2 and hence with any larger fuel; "definite" is needed: with fuel 1
    the result is `.cut`, which more fuel changes -/
example : value 2 0 [0x5B, 0x5D] = .ok (.arr []) [] ∧ Definite (value 2 0 [0x5B, 0x5D]) ∧ value 1 0 [0x5B, 0x5D] = .cut := by
  have : value 2 0 [0x5B, 0x5D] = .ok (.arr []) [] := okIs_sound _ _ _ (by decide +kernel)
  refine ⟨this, ?_, isCut_sound _ (by decide +kernel)⟩
  rw [this]; intro c; cases c

/-- with at least `3 * length + 4` fuel — what `parseValue` and `keyvalLine` pass — every result, `.cut`
    included, is the same as with any larger fuel, so no rejection is due to fuel -/
theorem T04_fuel_enough (d : Nat) (s : Bytes) (f₁ f₂ : Nat) (h1 : 3 * s.length + 4 ≤ f₁) (h2 : f₁ ≤ f₂) :
    value f₁ d s = value f₂ d s :=
  (fuelGoal f₁).1 f₂ d s (by omega) (by omega)

/-- the bounds the induction uses -/
theorem T04_fuel_enough_sharp (d : Nat) (s : Bytes) (f₁ f₂ : Nat) :
    (3 * s.length + 1 ≤ f₁ → 3 * s.length + 1 ≤ f₂ → value f₁ d s = value f₂ d s) ∧
    (3 * s.length + 3 ≤ f₁ → 3 * s.length + 3 ≤ f₂ → arrayValues f₁ d s = arrayValues f₂ d s) ∧
    (∀ acc, 3 * s.length + 2 ≤ f₁ → 3 * s.length + 2 ≤ f₂ → arrayElems f₁ d s acc = arrayElems f₂ d s acc) ∧
    (∀ acc, 3 * s.length + 3 ≤ f₁ → 3 * s.length + 3 ≤ f₂ → inlineKeyvals f₁ d s acc = inlineKeyvals f₂ d s acc) :=
  ⟨(fuelGoal f₁).1 f₂ d s, (fuelGoal f₁).2.1 f₂ d s, fun acc => (fuelGoal f₁).2.2.1 f₂ d s acc,
   fun acc => (fuelGoal f₁).2.2.2 f₂ d s acc⟩

theorem T04_rejection_not_fuel (d : Nat) (s : Bytes) (h : value (3 * s.length + 4) d s = .cut) (f : Nat)
    (hf : 3 * s.length + 4 ≤ f) : value f d s = .cut := by
  rw [← T04_fuel_enough d s _ f (Nat.le_refl _) hf, h]

theorem T04_parseValue_fuel (s : Bytes) (f : Nat) (hf : 3 * s.length + 4 ≤ f) :
    parseValue s = match value f 0 s with
      | .ok v [] => some v
      | _ => none := by
  unfold parseValue
  rw [T04_fuel_enough 0 s _ f (Nat.le_refl _) hf]
  cases value f 0 s with
  | ok v r => cases r <;> rfl
  | bt => rfl
  | cut => rfl

/-- the call in `keyvalLine` (fuel `3 * r1.length + 4` on the input `dropWs r1`) is above the bound too -/
theorem T04_keyvalLine_value_fuel (d : Nat) (r1 : Bytes) (f : Nat) (hf : 3 * r1.length + 4 ≤ f) :
    value (3 * r1.length + 4) d (dropWs r1) = value f d (dropWs r1) := by
  have := dropWs_len r1
  exact (fuelGoal _).1 f d (dropWs r1) (by omega) (by omega)

/-- `value` returns no more input than it was given (what makes the bounds work) -/
theorem T04_value_rest_le (f d : Nat) (s : Bytes) (v : Val) (r : Bytes) (h : value f d s = .ok v r) :
    r.length ≤ s.length := value_len f d s v r h

/-- non-vacuity: `[[],{a=[]}]x` (12 bytes, bound 40): fuel 40 and fuel 1000 agree; it is a genuine result -/
example : value 40 0 [0x5B, 0x5B, 0x5D, 0x2C, 0x7B, 0x61, 0x3D, 0x5B, 0x5D, 0x7D, 0x5D, 0x78] =
    value 1000 0 [0x5B, 0x5B, 0x5D, 0x2C, 0x7B, 0x61, 0x3D, 0x5B, 0x5D, 0x7D, 0x5D, 0x78] :=
  T04_fuel_enough 0 _ 40 1000 (by decide) (by decide)
example : (value 40 0 [0x5B, 0x5B, 0x5D, 0x2C, 0x7B, 0x61, 0x3D, 0x5B, 0x5D, 0x7D, 0x5D, 0x78]).isOk = true := by decide +kernel
/-- a genuine `.cut` (an unclosed array) stays `.cut` whatever the fuel -/
example (f : Nat) (hf : 7 ≤ f) : value f 0 [0x5B] = .cut :=
  T04_rejection_not_fuel 0 [0x5B] (isCut_sound _ (by decide +kernel)) f hf

/-- `lines`; `parseDocument` passes `length + 1` -/
theorem T04_fuel_lines (f₁ f₂ : Nat) (st : ParseState) (s : Bytes) (h1 : s.length < f₁) (h2 : s.length < f₂) :
    lines f₁ st s = lines f₂ st s := by
  refine fuel_irrelevant (F := fun f s st => lines f st s) (fun g g' s st ih => ?_) f₁ f₂ s st h1 h2
  cases s with
  | nil => simp [lines]
  | cons b r =>
    unfold lines
    simp only []
    split
    · have l1 := dropComment_len r
      split
      · rfl
      · cases hn : newline? (dropComment r) with
        | none => rfl
        | some r2 =>
          have l2 := (Lemmas.Suffix03.newline?_adv hn).length_lt
          have l3 := dropWs_len r2
          exact ih _ st (by simp only [List.length_cons]; omega)
    · split
      · cases ht : tableLine st (b :: r) with
        | none => rfl
        | some p =>
          obtain ⟨st', r1⟩ := p
          have l1 := tableLine_len _ _ _ _ ht
          have l2 := dropWs_len r1
          exact ih _ st' (by omega)
      · split
        · cases hn : newline? (b :: r) with
          | none => rfl
          | some r1 =>
            have l1 := (Lemmas.Suffix03.newline?_adv hn).length_lt
            have l2 := dropWs_len r1
            exact ih _ st (by omega)
        · cases hk : keyvalLine st (b :: r) with
          | none => rfl
          | some p =>
            obtain ⟨st', r1⟩ := p
            have l1 := keyvalLine_len _ _ _ _ hk
            have l2 := dropWs_len r1
            exact ih _ st' (by omega)

theorem T04_line_progress (st st' : ParseState) (s r : Bytes) :
    (keyvalLine st s = some (st', r) → r.length < s.length) ∧ (tableLine st s = some (st', r) → r.length < s.length) :=
  ⟨keyvalLine_len st st' s r, tableLine_len st st' s r⟩

/-- a rejected document is rejected whatever the fuel -/
theorem T04_parseDocument_fuel (s : Bytes) (f : Nat) (hf : s.length < f) :
    parseDocument s = match lines f {} (dropWs (stripBom s)) with
      | some st => intoDocument st
      | none => none := by
  have h1 : (stripBom s).length ≤ s.length := by
    unfold stripBom; split <;> simp; omega
  have h2 := dropWs_len (stripBom s)
  unfold parseDocument
  simp only []
  rw [T04_fuel_lines _ f {} (dropWs (stripBom s)) (by omega) (by omega)]
  cases lines f {} (dropWs (stripBom s)) <;> rfl

/-- non-vacuity: `a=1␊` -/
example : lines 5 {} [0x61, 0x3D, 0x31, 0x0A] = lines 500 {} [0x61, 0x3D, 0x31, 0x0A] :=
  T04_fuel_lines 5 500 {} _ (by decide) (by decide)
example : (lines 5 {} [0x61, 0x3D, 0x31, 0x0A]).isSome = true ∧ (lines 1 {} [0x61, 0x3D, 0x31, 0x0A]).isSome = false := by
  decide +kernel

end TomlVerif.Props.C04Fuel
