import TomlVerif.Props.C03MoreDoc
import TomlVerif.Props.C03MoreCmt
import TomlVerif.Props.C03MoreOrd
import TomlVerif.Props.C03MoreInline
import TomlVerif.Lemmas.Bytes
/-! C03 — the weaker clause (valid, same data) without hypotheses on BOM or final newline, for the
    class `nestRunV` (`Props/C03MoreDoc.lean`) and the wider `ordRunV` (`Props/C03MoreOrd.lean`); and the
    comments clause, where the general theorem (`T03_comments_kept`, `Props/C03MoreCmt.lean`: every
    comment RECORDED in the tree is printed, for every accepted document) meets the class theorem
    (`T03_comments_kept_sourceV`: every CR-free piece of the SOURCE is printed). -/
namespace TomlVerif.Props.C03More
open TomlVerif TomlVerif.Model TomlVerif.Model.Cst TomlVerif.Model.Encode
open TomlVerif.Lemmas.Cst03 TomlVerif.Lemmas.Tiling03 TomlVerif.Lemmas.Tiling03Hdr TomlVerif.Lemmas.Tiling03Nest
open TomlVerif.Lemmas.Tiling03More
open TomlVerif.Props.C03 TomlVerif.Props.C03Doc TomlVerif.Props.C03Hdr TomlVerif.Props.C03Nest

/-- for a CR-free source in the class `nestRunV` — with or without
    BOM, with or without final newline — the printed text is accepted by the format-preserving
    parser (and by the semantic one) and decodes to the very same tree, flags and positions
    included -/
theorem T03_same_data_norm_sourceV (s : Bytes) (d : CDoc) (h : parseCst s = some d) (hrun : nestRunV s = true)
    (hcr : ∀ b ∈ s, b ≠ 0x0D) :
    (∃ d', parseCst (printDoc s d) = some d' ∧ eraseTbl d'.root = eraseTbl d.root) ∧
    Doc.parseDocument (printDoc s d) = Doc.parseDocument s :=
  (nestRunV_tiles h hrun).same_data h hcr

/-- a BOM, dotted keys inside an inline table, no final newline -/
def exBomInlineNoNl : Bytes :=
  [0xEF, 0xBB, 0xBF] ++ strBytes "[a]\nk = {x.y = 1, x.z = 2}\n# c\n[a.b]\n[[a.c]]\nq.r = 1"

example : (parseCst exBomInlineNoNl).isSome = true ∧ nestRunV exBomInlineNoNl = true ∧
    nestRun true exBomInlineNoNl = false ∧
    (exBomInlineNoNl.all fun b => b != 0x0D) = true ∧ Doc.stripBom exBomInlineNoNl ≠ exBomInlineNoNl ∧
    exBomInlineNoNl.getLast? ≠ some 0x0A := by
  simp only [exBomInlineNoNl, strBytes_eq rfl]
  decide +kernel

/-- the same for the class `ordRunV` (sections in any order): `Props/C03MoreOrd.lean` -/
theorem T03_same_data_norm_ord (s : Bytes) (d : CDoc) (h : parseCst s = some d) (hrun : ordRunV s = true)
    (hcr : ∀ b ∈ s, b ≠ 0x0D) :
    (∃ d', parseCst (printDoc s d) = some d' ∧ eraseTbl d'.root = eraseTbl d.root) ∧
    Doc.parseDocument (printDoc s d) = Doc.parseDocument s :=
  (ordRunV_tiles h hrun).same_data h hcr

example : (parseCst (strBytes "[a]\n[c]\n[a.b]\nk = 1")).isSome = true ∧
    ordRunV (strBytes "[a]\n[c]\n[a.b]\nk = 1") = true ∧ nestRunV (strBytes "[a]\n[c]\n[a.b]\nk = 1") = false := by
  simp only [strBytes_eq rfl]
  decide +kernel

/-- for every accepted document each recorded comment is a CR-free contiguous piece of the source
    (`T03_comments_in_source`) and of the printed text (`T03_comments_kept`); in the class every
    CR-free piece of the source is printed.  What is not proved in general
    is that EVERY comment of the source is recorded in some decor piece (in the class this is the
    tiling theorem); it needs a source-side definition of "comment" (the grammar trees of C01:
    `QLine.comment`, the `cm` fields, the `Wcn` trivia of arrays) and a correspondence between the
    line driver's recorded spans and those trees. -/
theorem T03_comments_summaryV (s : Bytes) (d : CDoc) (h : parseCst s = some d) :
    (∀ c ∈ recordedComments s d, c <:+: s ∧ (∀ b ∈ c, b ≠ 0x0D) ∧ c <:+: printDoc s d) ∧
    (nestRunV s = true → ∀ c, c <:+: Doc.stripBom s → (∀ b ∈ c, b ≠ 0x0D) → c <:+: printDoc s d) :=
  ⟨fun c hc => ⟨(T03_comments_in_source s d c hc).1, (T03_comments_in_source s d c hc).2, T03_comments_kept s d h c hc⟩,
   fun hrun c hc hcr => T03_comments_kept_sourceV s d h hrun c hc hcr⟩

/-- the weaker clause at value level with the fixed point.  The first two conjuncts — the
    printed value is accepted and decodes to the same value, flags included — are PROVED for every
    accepted value: `T03_value_same_data` (`Props/C03MoreVS.lean`).  The fixed point is proved in
    the class only (below); in general it needs that the printed text passes the check
    `dottedInlRun` (it does by construction: the printer writes the flattened pairs grouped and
    with the stored spelling), i.e. a completeness lemma for the format-preserving value parser on
    the grammar tree `T03_value_print_grammar` exhibits. -/
def T03_value_same_data_statement : Prop :=
  ∀ (s : Bytes) (v : CVal), parseCstValue s = some v →
    ∃ v', parseCstValue (printValue s v) = some v' ∧ eraseVal v' = eraseVal v ∧
      printValue (printValue s v) v' = printValue s v

/-- proved part: the class of `T03_value_tiling_dotted_inline` on CR-free sources -/
theorem T03_value_same_data_partial (s : Bytes) (v : CVal) (h : parseCstValue s = some v)
    (hc : dottedInlRun s = true) (hcr : ∀ b ∈ s, b ≠ 0x0D) :
    ∃ v', parseCstValue (printValue s v) = some v' ∧ eraseVal v' = eraseVal v ∧
      printValue (printValue s v) v' = printValue s v := by
  have hp := T03_value_print_dotted_inline s v h hc hcr
  exact ⟨v, by rw [hp]; exact h, rfl, by rw [hp]; exact hp⟩

example : (parseCstValue (strBytes "{ x = 1, a . b = {u.v = 1, u.w = 2}, a . c = [ {p.q=1} ] }")).isSome = true ∧
    dottedInlRun (strBytes "{ x = 1, a . b = {u.v = 1, u.w = 2}, a . c = [ {p.q=1} ] }") = true := by
  simp only [strBytes_eq rfl]
  decide +kernel

end TomlVerif.Props.C03More
