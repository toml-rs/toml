import TomlVerif.Lemmas.TomlValue17
/-! C17 — "the output lists each table's own values before its sub-tables and arrays of tables", whatever
order the map yields its keys in. Stated on the statement list `emitDoc` that `toText` / `toTextTable`
render (Model/TomlValue.lean). -/
namespace TomlVerif.Props.C17
open TomlVerif TomlVerif.Model TomlVerif.Model.TomlValue TomlVerif.Lemmas.TomlValue17

/-- Every entry of a table falls in exactly one of the three loops of `impl Serialize for Value`. -/
theorem T17_passes_partition (v : TV) :
    (pass1 v = true ∧ pass2 v = false ∧ pass3 v = false) ∨
    (pass1 v = false ∧ pass2 v = true ∧ pass3 v = false) ∨
    (pass1 v = false ∧ pass2 v = false ∧ pass3 v = true) :=
  pass_exactly_one v

/-- The three loops hand every entry to the serializer exactly once: their order is a permutation of the map's. -/
theorem T17_serOrder_perm (items : List (Bytes × TV)) : (serOrder items).Perm items :=
  serOrder_perm items

/-- In that order no table precedes a non-table. -/
theorem T17_tables_last (items : List (Bytes × TV)) :
    ∃ a b, serOrder items = a ++ b ∧ (∀ e ∈ a, e.2.isTable = false) ∧ (∀ e ∈ b, e.2.isTable = true) := by
  refine ⟨items.filter (fun e => pass1 e.2) ++ items.filter (fun e => pass2 e.2), items.filter (fun e => pass3 e.2), rfl, ?_, ?_⟩
  · intro e he
    rcases List.mem_append.mp he with h | h
    · have h1 : pass1 e.2 = true := by simpa using (List.mem_filter.mp h).2
      rcases pass_exactly_one e.2 with ⟨_, _, h3⟩ | ⟨c, _, _⟩ | ⟨c, _, _⟩
      · exact h3
      · simp [h1] at c
      · simp [h1] at c
    · have h2 : pass2 e.2 = true := by simpa using (List.mem_filter.mp h).2
      rcases pass_exactly_one e.2 with ⟨_, c, _⟩ | ⟨_, _, h3⟩ | ⟨_, c, _⟩
      · simp [h2] at c
      · exact h3
      · simp [h2] at c
  · intro e he
    simpa [pass3] using (List.mem_filter.mp he).2

/-- For every list of root entries — any key order, scalars, arrays, arrays of tables and tables interleaved
arbitrarily — the printed statement list is a `Block`: (no root header,) key/value lines, then blocks each beginning
with a header. `Block` holds of every statement list (`block_all`); what is proved about the order of lines is
`T17_root_values_first` and the `headerFirst` half of `T17_order_nested`. -/
theorem T17_order (items : List (Bytes × TV)) : Block (emitDoc items) :=
  block_all _

/-- the same for every table below the root, whether printed as `[path]` or as an element `[[path]]` -/
theorem T17_order_nested (path : List Bytes) (hp : path ≠ []) (isAot : Bool) (items : List (Bytes × TV)) :
    Block (tableStmts path isAot items (emitSubs path items)) ∧
    headerFirst (tableStmts path isAot items (emitSubs path items)) :=
  ⟨block_all _,
   tableStmts_headerFirst path hp isAot items (emitSubs_blocks path items)⟩

/-- `T17_order` for a permuted entry list; the hypothesis is not used -/
theorem T17_order_perm (items items' : List (Bytes × TV)) (_h : items'.Perm items) : Block (emitDoc items') :=
  T17_order items'

/-- the root's own values are exactly the entries that stay values, in map order, and they come first -/
theorem T17_root_values_first (items : List (Bytes × TV)) :
    emitDoc items = ownKvs items ++ emitSubs [] items :=
  emitDoc_eq items

/-- non-vacuity: `{ t = { x = 1 }, s = 2, a = [{ y = 3 }] }` in this (insertion) order prints `s` first,
then `[t]`, `x`, then `[[a]]`, `y` -/
example :
    emitDoc [([116], .tbl [([120], .int 1)]), ([115], .int 2), ([97], .arr [.tbl [([121], .int 3)]])] =
      [.kv [115] (.int 2), .header [[116]], .kv [120] (.int 1), .aotHeader [[97]], .kv [121] (.int 3)] := by
  rfl

example : (serOrder [([116], .tbl []), ([115], .int 2), ([97], .arr [.tbl []])]).map (·.1) = [[115], [97], [116]] := by
  rfl

end TomlVerif.Props.C17
