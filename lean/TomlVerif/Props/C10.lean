import TomlVerif.Lemmas.Written10
import TomlVerif.Props.C02Strings
/-! # C10 — string and key quoting is exact for every string in every offered style

Model: `Model/Write.lean` (toml_write/src/string.rs), `Model/Strings.lean`, `Model/Key.lean`
(toml_edit/src/parser/{strings,key}.rs).  Every theorem quantifies over **all** byte strings `s`
(no length bound; not even UTF-8 validity is needed) and over every continuation `rest` whose first
byte cannot extend the token. -/
namespace TomlVerif.Props.C10
open TomlVerif TomlVerif.Spec TomlVerif.Spec.AstString TomlVerif.Model.Write TomlVerif.Model.Strings TomlVerif.Model.Key
open TomlVerif.Lemmas TomlVerif.Lemmas.S02 TomlVerif.Props.C02Strings

/-- what may follow a string token: not another quote character
    (in a document: ws, newline, `,`, `]`, `}`, `#` or end of input) -/
def ValueFollow (rest : Bytes) : Prop := rest.head? ≠ some 0x22 ∧ rest.head? ≠ some 0x27
/-- what may follow a key token: not a bare-key character (in a document: ws, `.`, `=`, `]`) -/
def KeyFollow (rest : Bytes) : Prop := ∀ x r, rest = x :: r → isUnquotedChar x = false

/-- **Basic strings** (also what `as_basic_pretty` emits): every byte string, for either value of `nl`. -/
theorem T10_basic (s rest : Bytes) (nl : Bool) (hr : rest.head? ≠ some 0x22) :
    string (writeTomlValue s (some .basic) nl ++ rest) = .ok s rest := by
  obtain ⟨cs, hw, e, hs⟩ := writeBasic_ast s nl
  rw [e, ← hs]
  exact T02_string_dispatch (.basic cs) rest hw (Or.inr hr)

/-- what `TomlStringBuilder::as_literal` emits, whenever it offers the style -/
theorem T10_literal (s rest : Bytes) (e : Encoding) (h : vAsLiteral (valueMetrics s) = some e)
    (hr : rest.head? ≠ some 0x27) :
    string (writeTomlValue s (some e) (valueMetrics s).newline ++ rest) = .ok s rest := by
  obtain ⟨rfl, hall⟩ := literal_offered s e h
  rw [writeLiteral_ast]
  exact T02_string_dispatch (.literal s) rest hall (Or.inr hr)

/-- **Multi-line basic strings** (also what `as_ml_basic_pretty` emits): every byte string. -/
theorem T10_ml_basic (s rest : Bytes) (hr : rest.head? ≠ some 0x22) :
    string (writeTomlValue s (some .mlBasic) (valueMetrics s).newline ++ rest) = .ok s rest := by
  obtain ⟨a, hw, hf, e, hs⟩ := writeMlBasic_ast s rest _ hr (newline_head s)
  rw [e, ← hs]
  exact T02_string_dispatch (.mlBasic a) rest hw hf

/-- what `as_ml_literal` emits, whenever it offers the style -/
theorem T10_ml_literal (s rest : Bytes) (e : Encoding) (h : vAsMlLiteral (valueMetrics s) = some e)
    (hr : rest.head? ≠ some 0x27) :
    string (writeTomlValue s (some e) (valueMetrics s).newline ++ rest) = .ok s rest := by
  obtain ⟨rfl, hnt, hall⟩ := mlLiteral_offered s e h
  obtain ⟨a, hw, hf, e, hs⟩ := writeMlLiteral_ast s rest _ hr hnt hall (newline_head s)
  rw [e, ← hs]
  exact T02_string_dispatch (.mlLiteral a) rest hw hf

/-- **C10, values**: whatever `TomlStringBuilder` writes for a string, in any style it offers, `toml_edit`'s
    `string` parser reads back as exactly that string -/
theorem T10_value (st : VStyle) (s tok rest : Bytes) (h : writeValue st s = some tok) (hr : ValueFollow rest) :
    string (tok ++ rest) = .ok s rest := by
  unfold writeValue at h
  simp only [Option.map_eq_some_iff] at h
  obtain ⟨e, he, htok⟩ := h
  subst htok
  have basic := T10_basic s rest (valueMetrics s).newline hr.1
  have mlb := T10_ml_basic s rest hr.1
  cases st with
  | literal => exact T10_literal s rest e he hr.2
  | mlLiteral => exact T10_ml_literal s rest e he hr.2
  | basicPretty => rw [vAsBasicPretty_some _ _ he]; exact basic
  | mlBasicPretty => rw [vAsMlBasicPretty_some _ _ he]; exact mlb
  | basic => simp [valueEncoding] at he; subst he; exact basic
  | mlBasic => simp [valueEncoding] at he; subst he; exact mlb
  | default =>
    simp only [valueEncoding, Option.some.injEq] at he
    subst he
    unfold vAsDefault
    cases h1 : vAsBasicPretty (valueMetrics s) with
    | some e1 => simp [Option.orElse]; rw [vAsBasicPretty_some _ _ h1]; exact basic
    | none =>
      cases h2 : vAsLiteral (valueMetrics s) with
      | some e2 => simp [Option.orElse]; exact T10_literal s rest e2 h2 hr.2
      | none =>
        cases h3 : vAsMlBasicPretty (valueMetrics s) with
        | some e3 => simp [Option.orElse]; rw [vAsMlBasicPretty_some _ _ h3]; exact mlb
        | none =>
          cases h4 : vAsMlLiteral (valueMetrics s) with
          | some e4 => simp [Option.orElse]; exact T10_ml_literal s rest e4 h4 hr.2
          | none =>
            simp [Option.orElse]
            split
            · exact mlb
            · exact basic

/-- a default value style exists for every string (and, by `T10_value`, it round-trips) -/
theorem T10_value_default_total (s : Bytes) : (writeValue .default s).isSome = true := by
  simp [writeValue, valueEncoding]

/-- **C10, keys**: the same for `TomlKeyBuilder` and `simple_key` -/
theorem T10_key (st : KStyle) (s tok rest : Bytes) (h : writeKey st s = some tok) (hr : KeyFollow rest) :
    simpleKey (tok ++ rest) = .ok s rest := by
  unfold writeKey at h
  simp only [Option.map_eq_some_iff] at h
  obtain ⟨e, he, htok⟩ := h
  subst htok
  have basic : simpleKey (writeTomlValue s (some .basic) false ++ rest) = .ok s rest := by
    obtain ⟨cs, hw, e, hs⟩ := writeBasic_ast s false
    -- on a leading `"`, `simpleKey` is `basicString` by computation
    rw [e, ← hs, ← T02_basic_general cs rest hw]
    rfl
  have literal : ∀ e', kAsLiteral (keyMetrics s) = some e' → simpleKey (writeTomlValue s e' false ++ rest) = .ok s rest := by
    intro e' h'
    obtain ⟨rfl, hall⟩ := kLiteral_offered s e' h'
    rw [writeLiteral_ast]
    exact T02_literal_general s rest hall
  have bare : ∀ e', kAsUnquoted (keyMetrics s) = some e' → simpleKey (writeTomlValue s e' false ++ rest) = .ok s rest := by
    intro e' h'
    obtain ⟨rfl, hne, hall⟩ := unquoted_offered s e' h'
    rw [writeTomlValue_bare]
    exact Value01.simpleKey_bare s rest hne (List.all_eq_true.1 hall) hr
  cases st with
  | basic => simp [keyEncoding] at he; subst he; exact basic
  | basicPretty => rw [kAsBasicPretty_some _ _ he]; exact basic
  | literal => exact literal e he
  | unquoted => exact bare e he
  | default =>
    simp only [keyEncoding, Option.some.injEq] at he
    subst he
    unfold kAsDefault
    cases h1 : kAsUnquoted (keyMetrics s) with
    | some e1 => simp [Option.orElse]; exact bare e1 h1
    | none =>
      cases h2 : kAsBasicPretty (keyMetrics s) with
      | some e2 => simp [Option.orElse]; rw [kAsBasicPretty_some _ _ h2]; exact basic
      | none =>
        cases h3 : kAsLiteral (keyMetrics s) with
        | some e3 => simp [Option.orElse]; exact literal e3 h3
        | none => simp [Option.orElse]; exact basic

theorem T10_key_default_total (s : Bytes) : (writeKey .default s).isSome = true := by
  simp [writeKey, keyEncoding]

example : writeValue .mlLiteral [0x27, 0x27, 0x0A, 0x5C] = some [0x27,0x27,0x27,0x0A,0x27,0x27,0x0A,0x5C,0x27,0x27,0x27] := by decide
example : writeValue .literal [0x61, 0x22, 0x5C] = some [0x27, 0x61, 0x22, 0x5C, 0x27] := by decide
example : writeValue .literal [0x27] = none := by decide
example : writeValue .mlBasic [0x22, 0x22, 0x22, 0x01] =
    some [0x22,0x22,0x22, 0x22,0x22,0x5C,0x22, 0x5C,0x75,0x30,0x30,0x30,0x31, 0x22,0x22,0x22] := by decide
example : writeKey .unquoted [0x61, 0x2D] = some [0x61, 0x2D] := by decide
example : writeKey .default [] = some [0x22, 0x22] := by decide
example : ValueFollow [0x0A] ∧ KeyFollow [0x20, 0x3D] := by
  refine ⟨⟨by decide, by decide⟩, ?_⟩
  intro x r h; injection h with h _; subst h; decide

end TomlVerif.Props.C10
