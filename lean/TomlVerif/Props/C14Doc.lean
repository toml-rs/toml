import TomlVerif.Props.C14
import TomlVerif.Lemmas.Spans14Doc
/-! C14, document level — every span the format-preserving parser records is well-formed and lies
    inside the input; containers enclose what they contain.

    `allSpans` (Props/C14.lean; `Cst03.allSpans`, Lemmas/CstSpans.lean) follows the `CDoc` type field by field
    (key `repr`, `leaf_decor` and `dotted_decor` of table keys and inline-table keys; `repr` and decor of scalars;
    `trailing` / `preamble`, decor and `span` of arrays and inline tables; header decor and `span` of tables; the
    `span` of arrays of tables; the document `trailing`): nothing the model records is left out.

    BOM: `parseCst` computes offsets with `n = s.length` for the WHOLE input (the BOM is stripped from
    the remaining text only), so offsets count the three BOM bytes and the bound is `s.length`. -/
namespace TomlVerif.Props.C14
open TomlVerif TomlVerif.Model TomlVerif.Model.Cst TomlVerif.Model.Encode TomlVerif.Lemmas.Cst03
open TomlVerif.Lemmas.Spans14

/-- T14_bounds (document level): for every accepted document, every span recorded
    anywhere in the tree has `start ≤ end ≤ input length` -/
theorem T14_bounds : T14_bounds_statement := by
  intro s d h sp hm
  obtain ⟨hroot, htr⟩ := parseCst_spans s d h
  have := AllW.append (TblOK.spans _ hroot) htr sp hm
  exact ⟨this.2.1, this.2.2⟩

/-- the same through the slice entry point (UTF-8 validation first) -/
theorem T14_bounds_slice (b : Bytes) (d : CDoc) (h : parseCstSlice b = some d) :
    ∀ sp ∈ allSpans d, sp.1 ≤ sp.2 ∧ sp.2 ≤ b.length := by
  unfold parseCstSlice at h
  split at h
  · exact T14_bounds b d h
  · cases h

/-- T14_bounds at value level for every value (inline tables included; `T14_bounds_partial` carries an unneeded
    `flatVal`): the spans of a value parsed at suffix `s` lie between the offsets of `s` and of the rest -/
theorem T14_value_bounds (n fuel d : Nat) (s r : Bytes) (v : CVal) (h : cvalue n fuel d s = .ok v r) :
    ∀ sp ∈ valSpans v, pos n s ≤ sp.1 ∧ sp.1 ≤ sp.2 ∧ sp.2 ≤ pos n r :=
  (cvalue_spans n fuel d s r v h).2.2.1

theorem T14_value_bounds_whole (s : Bytes) (v : CVal) (h : parseCstValue s = some v) :
    ∀ sp ∈ valSpans v, sp.1 ≤ sp.2 ∧ sp.2 ≤ s.length := by
  unfold parseCstValue at h
  split at h
  · rename_i v0 hv
    injection h with h; subst h
    intro sp hm
    have := T14_value_bounds _ _ _ _ _ _ hv sp hm
    simp [pos] at this
    omega
  · cases h

/-- the values directly contained in a value -/
def children : CVal → List CVal
  | .scalar _ _ _ => []
  | .arr items _ _ _ _ => items
  | .inl items _ _ _ _ _ => items.map (·.2)

/-- `Sub v w`: `w` is `v` or a value nested (at any depth) inside `v` -/
inductive Sub (v : CVal) : CVal → Prop where
  | refl : Sub v v
  | child {w c : CVal} : Sub v w → c ∈ children w → Sub v c

theorem NestV_children {w c : CVal} (hw : NestV w) (hc : c ∈ children w) : NestV c := by
  cases w with
  | scalar x r d => cases hc
  | arr items t cm d sp =>
    simp only [NestV] at hw
    exact (NestVs_iff _).1 hw.2 c hc
  | inl items p im dt d sp =>
    simp only [NestV] at hw
    simp only [children, List.mem_map] at hc
    obtain ⟨kv, hkv, rfl⟩ := hc
    exact ((NestKvs_iff _).1 hw.2.2 kv hkv).2

theorem NestV_sub {v w : CVal} (hv : NestV v) (h : Sub v w) : NestV w := by
  induction h with
  | refl => exact hv
  | child _ hc ih => exact NestV_children ih hc

theorem NestV_child_spans {w c : CVal} (hw : NestV w) (hc : c ∈ children w) {a : Span} (ha : w.span = some a) :
    ∀ sp ∈ valSpans c, a.1 ≤ sp.1 ∧ sp.1 ≤ sp.2 ∧ sp.2 ≤ a.2 := by
  intro sp hs
  cases w with
  | scalar x r d => cases hc
  | arr items t cm d sp0 =>
    simp only [NestV] at hw
    exact hw.1 a ha sp (List.mem_append_left _ (mem_elemsSpans hc hs))
  | inl items p im dt d sp0 =>
    simp only [NestV] at hw
    obtain ⟨kv, hkv, rfl⟩ := List.mem_map.1 hc
    exact hw.2.1 a ha sp (List.mem_append_left _ (mem_kvsSpans (k := kv.1) hkv (Or.inr hs)))

theorem NestV_child_span {w c : CVal} (hw : NestV w) (hc : c ∈ children w) {a b : Span}
    (ha : w.span = some a) (hb : c.span = some b) : a.1 ≤ b.1 ∧ b.2 ≤ a.2 := by
  have := NestV_child_spans hw hc ha b (span_mem_valSpans c b hb)
  exact ⟨this.1, this.2.2⟩

/-- T14_value_nesting (value level, every value, any depth): in whatever `cvalue` builds, the span of
    every element of an array lies inside the array's span and the span of every value of an inline
    table lies inside the inline table's span, whenever both spans exist (tables created for dotted
    keys inside an inline table have no span) -/
theorem T14_value_nesting (n fuel d : Nat) (s r : Bytes) (v : CVal) (h : cvalue n fuel d s = .ok v r) :
    ∀ w, Sub v w → ∀ c ∈ children w, ∀ a b, w.span = some a → c.span = some b → a.1 ≤ b.1 ∧ b.2 ≤ a.2 := by
  intro w hw c hc a b ha hb
  exact NestV_child_span (NestV_sub (cvalue_spans n fuel d s r v h).2.2.2 hw) hc ha hb

/-- the stronger enclosure: not only the child's `span` but every span recorded for the child (decor
    included), and for an inline table every key span, lies inside the parent's span -/
theorem T14_value_enclosure (n fuel d : Nat) (s r : Bytes) (v : CVal) (h : cvalue n fuel d s = .ok v r) :
    NestV v ∧ ∀ w, Sub v w → ∀ c ∈ children w, ∀ a, w.span = some a →
      ∀ sp ∈ valSpans c, a.1 ≤ sp.1 ∧ sp.1 ≤ sp.2 ∧ sp.2 ≤ a.2 := by
  have hn := (cvalue_spans n fuel d s r v h).2.2.2
  exact ⟨hn, fun w hw c hc a ha => NestV_child_spans (NestV_sub hn hw) hc ha⟩

/-- T14_value_nesting for a value parsed alone -/
theorem T14_value_nesting_whole (s : Bytes) (v : CVal) (h : parseCstValue s = some v) :
    ∀ w, Sub v w → ∀ c ∈ children w, ∀ a b, w.span = some a → c.span = some b → a.1 ≤ b.1 ∧ b.2 ≤ a.2 := by
  unfold parseCstValue at h
  split at h
  · rename_i v0 hv
    injection h with h; subst h
    exact T14_value_nesting _ _ _ _ _ _ hv
  · cases h

/-- T14 nesting at document level: for every value stored anywhere in a parsed document (through
    sub-tables and arrays of tables) and every value `w` inside it, the children of `w` lie inside `w` -/
theorem T14_doc_nesting (s : Bytes) (d : CDoc) (h : parseCst s = some d) :
    ∀ v ∈ tblVals d.root, ∀ w, Sub v w → ∀ c ∈ children w, ∀ a b,
      w.span = some a → c.span = some b → a.1 ≤ b.1 ∧ b.2 ≤ a.2 := by
  intro v hv w hw c hc a b ha hb
  have hn := (TblOK.vals _ (parseCst_spans s d h).1 v hv).2
  exact NestV_child_span (NestV_sub hn hw) hc ha hb

/-- ```
    a.b = {x = 1, y.z = [2, 3]} # c
    [t]
    k = "s"
    [[arr]]
    v = 2
    [[arr]]
    ```
    a dotted key, an inline table (with a dotted key and an array inside), a header, an array of tables -/
def exDoc : Bytes := [0x61, 0x2E, 0x62, 0x20, 0x3D, 0x20, 0x7B, 0x78, 0x20, 0x3D, 0x20, 0x31, 0x2C, 0x20, 0x79, 0x2E,
  0x7A, 0x20, 0x3D, 0x20, 0x5B, 0x32, 0x2C, 0x20, 0x33, 0x5D, 0x7D, 0x20, 0x23, 0x20, 0x63, 0x0A, 0x5B, 0x74, 0x5D, 0x0A,
  0x6B, 0x20, 0x3D, 0x20, 0x22, 0x73, 0x22, 0x0A, 0x5B, 0x5B, 0x61, 0x72, 0x72, 0x5D, 0x5D, 0x0A, 0x76, 0x20, 0x3D, 0x20,
  0x32, 0x0A, 0x5B, 0x5B, 0x61, 0x72, 0x72, 0x5D, 0x5D, 0x0A]

/-- the document is accepted and records 34 spans: keys `a` `b` (with `b`'s leaf decor `3..4`), the
    inline table `6..27` with its keys, the nested array `20..26`, the comment `27..31`, the table
    `[t]` (`32..43`), the two `[[arr]]` tables `44..57`, `58..65`, the array of tables `44..65` and
    the root table `0..27` -/
example : (parseCst exDoc).map allSpans = some
    [(0, 1), (2, 3), (3, 4), (7, 8), (8, 9), (11, 12), (10, 11), (14, 15), (16, 17), (13, 14), (17, 18), (21, 22),
     (24, 25), (23, 24), (19, 20), (20, 26), (5, 6), (27, 31), (6, 27), (33, 34), (36, 37), (37, 38), (40, 43), (39, 40),
     (32, 43), (46, 49), (52, 53), (53, 54), (56, 57), (55, 56), (44, 57), (58, 65), (44, 65), (0, 27)] := by
  decide +kernel

/-- the hypothesis of `T14_bounds` is met by `exDoc`, and its conclusion read off the computed spans -/
example : ∃ d, parseCst exDoc = some d ∧ (allSpans d).length = 34 ∧
    (allSpans d).all (fun sp => sp.1 ≤ sp.2 && sp.2 ≤ exDoc.length) = true := by
  decide +kernel

/-- with a BOM the offsets count the three BOM bytes (every span moves by 3; the root span `0..27` still starts
    at 0 and becomes `0..30`) and the bound is the length of the whole input -/
example : (parseCst ([0xEF, 0xBB, 0xBF] ++ exDoc)).map allSpans =
    (parseCst exDoc).map (fun d => (allSpans d).map (fun sp => if sp = (0, 27) then (0, 30) else (sp.1 + 3, sp.2 + 3))) := by
  decide +kernel

def kids (l : List CVal) : List CVal := l.flatMap children

/-- the hypotheses of the nesting theorems are met: the inline table `{x = 1, y.z = [2, 3]}` is a
    stored value of `exDoc` (`6..27`); its children are `1` (`11..12`) and the span-less dotted table
    `y`, whose child is the array `20..26` with children `21..22`, `24..25` -/
example : ∃ d, parseCst exDoc = some d ∧
    (tblVals d.root).map CVal.span = [some (6, 27), some (40, 43), some (56, 57)] ∧
    (kids (tblVals d.root)).map CVal.span = [some (11, 12), none] ∧
    (kids (kids (tblVals d.root))).map CVal.span = [some (20, 26)] ∧
    (kids (kids (kids (tblVals d.root)))).map CVal.span = [some (21, 22), some (24, 25)] := by
  decide +kernel

/-- value level: `{a = [1, {b = 2}]}` is accepted by `parseCstValue`, is not `flatVal`, and its
    spans nest: `0..18` ⊇ `5..17` ⊇ `6..7`, `9..16` ⊇ `14..15` -/
def exInl : Bytes := [0x7B, 0x61, 0x20, 0x3D, 0x20, 0x5B, 0x31, 0x2C, 0x20, 0x7B, 0x62, 0x20, 0x3D, 0x20, 0x32, 0x7D,
  0x5D, 0x7D]

example : ∃ v, parseCstValue exInl = some v ∧ flatVal v = false ∧ v.span = some (0, 18) ∧
    (kids [v]).map CVal.span = [some (5, 17)] ∧
    (kids (kids [v])).map CVal.span = [some (6, 7), some (9, 16)] ∧
    (kids (kids (kids [v]))).map CVal.span = [some (14, 15)] := by
  decide +kernel

end TomlVerif.Props.C14
