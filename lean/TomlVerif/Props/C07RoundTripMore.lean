import TomlVerif.Lemmas.TypedGapsF32Norm
import TomlVerif.Lemmas.TypedGapsInsertionA
import TomlVerif.Props.C07RoundTrip
import TomlVerif.Props.C17Fix
/-! # C07, the reading-back half, continued: `toml::Value` INSIDE a typed value

`Props/C07RoundTrip.lean` states the round trip under `hasValue ty = false`. Here that hypothesis is discharged for the
default build of the map (`BTreeMap`, `Flavour.sorted` — the build whose `toml::Value`s `WellTyped` describes: `valueOk`
asks for ascending keys, no private date-time key (F24), date-times that print and re-read).

A field of type `toml::Value` holding `v` is serialized by `impl Serialize for Value` (three passes over every table:
`serCalls`) and read back by `Value`'s visitor (`visitValue`), whatever the order in which the document presents the
entries (the `BTreeMap` sorts). What comes back is `normDecV (leafF cf) (f32F cf) (leafS cf) ty d`: `normDec cf ty d` with
a `toml::Value` leaf `v` ↦ `mapF (leafF cf) v` — `v` itself, every double of it after the serializer's `copysign(1.0)` on a
NaN and after the transport (`cf = id` for a tree, `canonFloat` for a text). No restriction on doubles.

For the flavour `preserve_order` (`IndexMap`) the leaf comes back in the order the document presents its entries. Covered
there: the routes that present the entries in the serializer's order — the document tree, `toml_edit::ser::to_string`,
`Value::try_from`. A leaf `v` comes back as `mapF (leafF cf) (normTV v)`: the
three passes of `impl Serialize for Value` reorder the entries of every table (values, then arrays of tables, then
tables) — for `toml::Value` alone this is `C17RoundTrip.canonTV .insertion` without the document layout. NOT covered for
`preserve_order`: `toml::to_string(_pretty)` and `toml_edit::ser::to_string_pretty` (they move tables behind values,
`docOrder`, so the leaf would come back in yet another order). The `_final_insertion` theorems keep `hwt`, and `valueOk`
asks ascending keys in every table of a leaf: an `IndexMap` leaf with keys in another order is outside them. -/
namespace TomlVerif.Props.C07RoundTripMore
open TomlVerif TomlVerif.Model TomlVerif.Model.TomlValue TomlVerif.Model.DeRoutes TomlVerif.Model.DeTyped
open TomlVerif.Model.SerTyped TomlVerif.Model.Ser TomlVerif.Spec TomlVerif.Spec.Serde
open TomlVerif.Spec.Encode06 (canonFloat)
open TomlVerif.Lemmas.SerTyped07 TomlVerif.Lemmas.Ser07Text TomlVerif.Lemmas.Ser07 TomlVerif.Lemmas.DeTyped13
open TomlVerif.Lemmas.RoundTrip17 (PermTV valOf docTbl perm_docTbl NodupTV placeTV perm_placeTV)
open TomlVerif.Props.C07 TomlVerif.Props.C07Text TomlVerif.Props.C07RoundTrip
open TomlVerif.Lemmas.TypedGaps
open TomlVerif.Model.Value (LIMIT)

/-- **T07_roundtrip_tree_value_leaves** — `T07_roundtrip_tree` without `hasValue ty = false`:
`toml_edit::ser::to_document(&d)` then `toml_edit`'s deserializer (`decodeEdit`, any setting of the switches) on ANY item holding
that table's data returns `normDecV (leafF id) (f32F id) (leafS id) ty d`; a `toml::Value` leaf `v` comes back as `mapF clearNanSign v`. -/
theorem T07_roundtrip_tree_value_leaves (nm : Bytes) (hnm : (nm == dtName) = false) (ty : Ty) (d : Dec) (v : SVal)
    (kvs : List (Bytes × V)) (hwf : WfTy ty = true) (hwt : WellTyped ty d = true)
    (hs : serOf nm ty d = some v) (hdoc : serDocument v = .ok kvs) :
    ∀ (c : EditCfg) (it : Item), plainItem it = tvOf (.inl kvs) → decodeEdit c .sorted ty it = .ok (normDecV (leafF id) (f32F id) (leafS id) ty d) :=
  fun c it hit =>
    (coreV nm hnm id ty hwf d v (.inl kvs) _ hwt hs (serDocument_value v kvs hdoc) (sim_tvOf (.inl kvs))).1 c it hit

/-- the same up to the ORDER of the entries of every table of the item (`PermTV`), at any depth — the leaf sorts -/
theorem T07_roundtrip_tree_value_leaves_perm (nm : Bytes) (hnm : (nm == dtName) = false) (ty : Ty) (d : Dec) (v : SVal)
    (kvs : List (Bytes × V)) (hwf : WfTy ty = true) (hwt : WellTyped ty d = true)
    (hs : serOf nm ty d = some v) (hdoc : serDocument v = .ok kvs) :
    ∀ (c : EditCfg) (it : Item), PermTV (tvOf (.inl kvs)) (plainItem it) →
      decodeEdit c .sorted ty it = .ok (normDecV (leafF id) (f32F id) (leafS id) ty d) :=
  fun c it hp =>
    (coreV nm hnm id ty hwf d v (.inl kvs) _ hwt hs (serDocument_value v kvs hdoc)
      ((sim_permTV id hp _).1 (sim_tvOf (.inl kvs)))).1 c it rfl

/-- the code as it stands, on the document `to_document` built -/
theorem T07_roundtrip_tree_value_leaves_doc (nm : Bytes) (hnm : (nm == dtName) = false) (ty : Ty) (d : Dec) (v : SVal)
    (kvs : List (Bytes × V)) (hwf : WfTy ty = true) (hwt : WellTyped ty d = true)
    (hs : serOf nm ty d = some v) (hdoc : serDocument v = .ok kvs) :
    decodeEdit editAsIs .sorted ty (rootItem kvs) = .ok (normDecV (leafF id) (f32F id) (leafS id) ty d) ∧
    editRoute editAsIs .sorted ty (rootItem kvs) = .ok (normDecV (leafF id) (f32F id) (leafS id) ty d) ∧
    tomlRoute editAsIs .sorted ty (rootItem kvs) = .ok (normDecV (leafF id) (f32F id) (leafS id) ty d) := by
  have h := T07_roundtrip_tree_value_leaves nm hnm ty d v kvs hwf hwt hs hdoc editAsIs _ (plainItem_rootItem kvs)
  exact ⟨h, by rw [C13Typed.T13_typed_edit_route]; exact h,
    by rw [C13Typed.T13_typed_wrappers_thin, C13Typed.T13_typed_edit_route]; exact h⟩

/-- for a type without `toml::Value` what the theorems of this file return is the `normDec cf ty d` of `T07_roundtrip_*` -/
theorem normDecV_extends (cf : Nat → Nat) (ty : Ty) (hv : hasValue ty = false) (d : Dec) :
    normDecV (leafF cf) (f32F cf) (leafS cf) ty d = normDec cf ty d :=
  normDecV_eq cf (leafS cf) ty hv d

/-- `mapF` with the identity on doubles changes nothing -/
theorem mapF_id_leaf (v : TV) : mapF id v = v := mapF_id v

/-- the text round trip with `toml::Value` leaves (`toml_edit::ser::to_string`): the text, parsed, deserialized into the same
type; a `toml::Value` leaf `v` comes back as `mapF (canonFloat ∘ clearNanSign) v` -/
theorem T07_roundtrip_text_edit_value_leaves (nm : Bytes) (hnm : (nm == dtName) = false) (ty : Ty) (d : Dec) (v : SVal)
    (disp : FloatDisp) (t : Bytes) (hwf : WfTy ty = true) (hwt : WellTyped ty d = true)
    (hs : serOf nm ty d = some v) (ht : textEdit disp v = .ok t) :
    ∃ kvs, serDocument v = .ok kvs ∧
      (LeavesOkSKVs disp kvs → depthSKVs kvs < LIMIT →
        ∃ T, Doc.parseDocument t = some T ∧
          ∀ c : EditCfg, decodeEdit c .sorted ty (.table T) = .ok (normDecV (leafF canonFloat) (f32F canonFloat) (leafS canonFloat) ty d)) :=
  roundtrip_text editRoute sim_canonKVs .sorted ty _ v disp t
    (fun kvs w hx hsim => coreV nm hnm canonFloat ty hwf d v (.inl kvs) w hwt hs hx hsim)
    (serDocument_value v) (by rw [← ht, textEdit_eq]; rfl)

/-- the text round trip with `toml::Value` leaves (`toml::to_string` / `toml::to_string_pretty`; `byName = true`: /repo, `false`:
the upstream code): for every value whose serde calls do not start with the private date-time struct (F31,
`T07_finding_toml_root_datetime`; `datetimeRoot v = false` is decidable on the calls) -/
theorem T07_roundtrip_text_toml_value_leaves (pretty byName : Bool) (nm : Bytes) (hnm : (nm == dtName) = false)
    (ty : Ty) (d : Dec) (v : SVal) (disp : FloatDisp) (t : Bytes) (hwf : WfTy ty = true)
    (hroot : datetimeRoot v = false) (hwt : WellTyped ty d = true) (hs : serOf nm ty d = some v)
    (ht : (if pretty then textTomlPretty byName disp v else textToml byName disp v) = .ok t) :
    ∃ kvs, serDocument v = .ok kvs ∧
      (LeavesOkSKVs disp kvs → depthSKVs kvs < LIMIT →
        ∃ T, Doc.parseDocument t = some T ∧
          ∀ c : EditCfg, decodeEdit c .sorted ty (.table T) = .ok (normDecV (leafF canonFloat) (f32F canonFloat) (leafS canonFloat) ty d)) := by
  refine roundtrip_text (fmtRoute pretty _ (tomlDocument_nodup byName)) sim_docOrder .sorted ty _ v disp t
    (fun kvs w hx hsim => coreV nm hnm canonFloat ty hwf d v (.inl kvs) w hwt hs hx hsim)
    (tomlDocument_value byName v (.inr hroot)) ?_
  cases pretty
  · rw [← ht, textToml_eq]; rfl
  · rw [← ht, textTomlPretty_eq]; rfl

/-- the text round trip with `toml::Value` leaves (`toml_edit::ser::to_string_pretty` with the `is_value` guard: /repo) -/
theorem T07_roundtrip_text_edit_pretty_value_leaves (nm : Bytes) (hnm : (nm == dtName) = false)
    (ty : Ty) (d : Dec) (v : SVal) (disp : FloatDisp) (t : Bytes) (hwf : WfTy ty = true)
    (hwt : WellTyped ty d = true) (hs : serOf nm ty d = some v) (ht : textEditPretty disp v = .ok t) :
    ∃ kvs, serDocument v = .ok kvs ∧
      (LeavesOkSKVs disp kvs → depthSKVs kvs < LIMIT →
        ∃ T, Doc.parseDocument t = some T ∧
          ∀ c : EditCfg, decodeEdit c .sorted ty (.table T) = .ok (normDecV (leafF canonFloat) (f32F canonFloat) (leafS canonFloat) ty d)) :=
  roundtrip_text (fmtRoute true _ serDocument_nodup) sim_docOrder .sorted ty _ v disp t
    (fun kvs w hx hsim => coreV nm hnm canonFloat ty hwf d v (.inl kvs) w hwt hs hx hsim)
    (serDocument_value v) (by rw [← ht, textEditPretty_eq]; rfl)

/-- the serde calls of a typed value hold the private date-time struct only as `toml_datetime` produces it, `toml::Value`
leaves included -/
theorem T07_calls_wfDatetime (nm : Bytes) (hnm : (nm == dtName) = false) (ty : Ty) (d : Dec) (v : SVal)
    (hs : serOf nm ty d = some v) : wfDatetime v = true :=
  serOf_wfDatetimeV nm hnm ty d v hs

/-- **T07_roundtrip_value_value_leaves** — `Value::try_from(&d)?.try_into::<T>()` (`T07_roundtrip_value` without
`hasValue ty = false`), default build of the map -/
theorem T07_roundtrip_value_value_leaves (strictNone : Bool) (nm : Bytes) (hnm : (nm == dtName) = false) (ty : Ty)
    (d : Dec) (v : SVal) (x : V) (hwf : WfTy ty = true) (hwt : WellTyped ty d = true)
    (hs : serOf nm ty d = some v) (hun : unsupported v = false) (hval : valSer ⟨strictNone, true⟩ v = .ok x) :
    ∀ cv : ValueCfg, decodeValue cv .sorted ty (placeTV .sorted (tvOf x)) = .ok (normDecV (leafF id) (f32F id) (leafS id) ty d) := by
  intro cv
  obtain ⟨hx, hn⟩ := valSer_tree strictNone v x (serOf_wfDatetimeV nm hnm ty d v hs) hun hval
  have hsim : Sim id x (placeTV .sorted (tvOf x)) := (sim_permTV id (perm_placeTV _ hn) x).2 (sim_tvOf x)
  exact (coreV nm hnm id ty hwf d v x _ hwt hs hx hsim).2 cv

/-- `struct Plugin { name: String, extra: toml::Value, opt: Option<i64>, more: Vec<toml::Value> }` -/
def pluginT : Ty := .struct (
  .cons (sb "name") .string false (
  .cons (sb "extra") .value false (
  .cons (sb "opt") (.option i64T) false (
  .cons (sb "more") (.seq .value) false .nil))))

/-- `extra = { a = 1, f = -nan, t = { x = 1.5, y = [1, 2] }, w = 1979-05-27T07:32:00Z }` (keys ascending: a value of
the `BTreeMap` build), `more = [true, { k = "v" }]` -/
def pluginV : Dec := .struct [
  (sb "name", .str (sb "p")),
  (sb "extra", .value (.tbl [
    (sb "a", .int 1), (sb "f", .float 0xFFF8000000000000),
    (sb "t", .tbl [(sb "x", .float 0x3FF8000000000000), (sb "y", .arr [.int 1, .int 2])]),
    (sb "w", .dt dt1)])),
  (sb "opt", .none),
  (sb "more", .seq [.value (.bool true), .value (.tbl [(sb "k", .str (sb "v"))])])]

def pluginS : SVal := getSome (serOf nmS pluginT pluginV)
def pluginKVs : List (Bytes × V) := getOk (serDocument pluginS)

theorem plugin_hyps :
    WfTy pluginT = true ∧ hasValue pluginT = true ∧ WellTyped pluginT pluginV = true ∧
    serOf nmS pluginT pluginV = some pluginS ∧ serDocument pluginS = .ok pluginKVs ∧ unsupported pluginS = false ∧
    datetimeRoot pluginS = false := by
  have h : WfTy pluginT = true ∧ hasValue pluginT = true ∧ WellTyped pluginT pluginV = true ∧
      (serOf nmS pluginT pluginV).isSome = true ∧ Except.isOk (serDocument pluginS) = true ∧ unsupported pluginS = false ∧
      datetimeRoot pluginS = false := by decide +kernel
  exact ⟨h.1, h.2.1, h.2.2.1, getSome_spec _ h.2.2.2.1, getOk_spec _ h.2.2.2.2.1, h.2.2.2.2.2⟩

/-- what comes back: the value itself, the `-nan` of the embedded `toml::Value` with its sign cleared -/
def pluginBack : Dec := .struct [
  (sb "name", .str (sb "p")),
  (sb "extra", .value (.tbl [
    (sb "a", .int 1), (sb "f", .float 0x7FF8000000000000),
    (sb "t", .tbl [(sb "x", .float 0x3FF8000000000000), (sb "y", .arr [.int 1, .int 2])]),
    (sb "w", .dt dt1)])),
  (sb "opt", .none),
  (sb "more", .seq [.value (.bool true), .value (.tbl [(sb "k", .str (sb "v"))])])]

theorem plugin_norm : normDecV (leafF id) (f32F id) (leafS id) pluginT pluginV = pluginBack := by with_unfolding_all rfl

/-- `T07_roundtrip_tree_value_leaves` on `Plugin`: document out, document in -/
theorem plugin_tree_roundtrip :
    decodeEdit editAsIs .sorted pluginT (rootItem pluginKVs) = .ok pluginBack ∧
    tomlRoute editAsIs .sorted pluginT (rootItem pluginKVs) = .ok pluginBack := by
  obtain ⟨h1, _, h3, h4, h5, _, _⟩ := plugin_hyps
  have a := T07_roundtrip_tree_value_leaves_doc nmS nmS_ok pluginT pluginV pluginS pluginKVs h1 h3 h4 h5
  rw [plugin_norm] at a
  exact ⟨a.1, a.2.2⟩

/-- `T07_roundtrip_value_value_leaves` on `Plugin` -/
theorem plugin_value_roundtrip :
    ∃ x, valSer .current pluginS = .ok x ∧
      decodeValue valueAsIs .sorted pluginT (placeTV .sorted (tvOf x)) = .ok pluginBack := by
  obtain ⟨h1, _, h3, h4, _, h6, _⟩ := plugin_hyps
  have hx : valSer .current pluginS = .ok (getOk (valSer .current pluginS)) := getOk_spec _ (by decide +kernel)
  refine ⟨_, hx, ?_⟩
  have := T07_roundtrip_value_value_leaves false nmS nmS_ok pluginT pluginV pluginS _ h1 h3 h4 h6 hx valueAsIs
  rw [plugin_norm] at this
  exact this

/-- the model computes the same on this value (a check of the theorem against `decodeEdit` itself) -/
example : treeTrip pluginT pluginV = some (.ok (.ok pluginBack)) := by with_unfolding_all rfl

/-! ## the `f32` identification in closed form

`normDec` (and `normDecV … (f32F cf) …`) says an `f32` comes back as `f64ToF32 (cf (clearNanSign (f32to64 b)))`. By
`T07_f32_widen_narrow` that is `normF32 b`: `b` itself unless `b` is a NaN, and then `0x7FC00000`. `normDecS cf` is what
comes back with this written in: the ONLY things that differ from the value that was serialized are NaNs (`f64`: sign,
and payload through a text; `f32`: sign and payload; inside a `toml::Value`: like `f64`), map entries whose value is
`None` (F33), and `None` in a `#[serde(default)]` field (`Dec.dflt`, the same Rust value). -/

open TomlVerif.Lemmas.TypedGapsF32 (isNaN32 T07_f32_widen_narrow)

/-- what comes back, with `normF32` for an `f32` -/
def normDecS (cf : Nat → Nat) : Ty → Dec → Dec := normDecV (leafF cf) normF32 (leafS cf)

/-- `T07_f32_widen_narrow` of Lemmas/TypedGapsF32.lean: `(x as f64) as f32 == x` on the bit patterns of the model, for
every `f32` that is not a NaN -/
theorem T07_f32_exact (b : Nat) (hb : b < 2 ^ 32) (hn : isNaN32 b = false) : f64ToF32 (f32to64 b) = b :=
  T07_f32_widen_narrow b hb hn

theorem normF32_of_not_nan (b : Nat) (hn : isNaN32 b = false) : normF32 b = b := by simp [normF32, hn]
theorem normF32_of_nan (b : Nat) (hn : isNaN32 b = true) : normF32 b = 0x7FC00000 := by simp [normF32, hn]

theorem normDecS_id (ty : Ty) (d : Dec) (hwt : WellTyped ty d = true) :
    normDecV (leafF id) (f32F id) (leafS id) ty d = normDecS id ty d :=
  normDecV_congr32 _ _ _ _ (fun b hb => f32F_id b hb) ty d hwt

theorem normDecS_canon (ty : Ty) (d : Dec) (hwt : WellTyped ty d = true) :
    normDecV (leafF canonFloat) (f32F canonFloat) (leafS canonFloat) ty d = normDecS canonFloat ty d :=
  normDecV_congr32 _ _ _ _ (fun b hb => f32F_canon b hb) ty d hwt

theorem normDec_eq_normDecS_id (ty : Ty) (d : Dec) (hv : hasValue ty = false) (hwt : WellTyped ty d = true) :
    normDec id ty d = normDecS id ty d := by
  rw [← normDecV_eq id (leafS id) ty hv d]; exact normDecS_id ty d hwt

theorem normDec_eq_normDecS_canon (ty : Ty) (d : Dec) (hv : hasValue ty = false) (hwt : WellTyped ty d = true) :
    normDec canonFloat ty d = normDecS canonFloat ty d := by
  rw [← normDecV_eq canonFloat (leafS canonFloat) ty hv d]; exact normDecS_canon ty d hwt

/-! ### `T07_roundtrip_*` of Props/C07RoundTrip.lean (no `toml::Value` inside, both builds of the map) with `normDecS` -/

theorem T07_roundtrip_tree_f32 (nm : Bytes) (hnm : (nm == dtName) = false) (fl : Flavour) (ty : Ty) (d : Dec) (v : SVal)
    (kvs : List (Bytes × V)) (hwf : WfTy ty = true) (hv : hasValue ty = false) (hwt : WellTyped ty d = true)
    (hs : serOf nm ty d = some v) (hdoc : serDocument v = .ok kvs) :
    ∀ (c : EditCfg) (it : Item), plainItem it = tvOf (.inl kvs) → decodeEdit c fl ty it = .ok (normDecS id ty d) := by
  rw [← normDec_eq_normDecS_id ty d hv hwt]
  exact T07_roundtrip_tree nm hnm fl ty d v kvs hwf hv hwt hs hdoc

theorem T07_roundtrip_text_edit_f32 (nm : Bytes) (hnm : (nm == dtName) = false) (fl : Flavour) (ty : Ty) (d : Dec)
    (v : SVal) (disp : FloatDisp) (t : Bytes) (hwf : WfTy ty = true) (hv : hasValue ty = false)
    (hwt : WellTyped ty d = true) (hs : serOf nm ty d = some v) (ht : textEdit disp v = .ok t) :
    ∃ kvs, serDocument v = .ok kvs ∧
      (LeavesOkSKVs disp kvs → depthSKVs kvs < LIMIT →
        ∃ T, Doc.parseDocument t = some T ∧
          ∀ c : EditCfg, decodeEdit c fl ty (.table T) = .ok (normDecS canonFloat ty d)) := by
  rw [← normDec_eq_normDecS_canon ty d hv hwt]
  exact T07_roundtrip_text_edit nm hnm fl ty d v disp t hwf hv hwt hs ht

theorem T07_roundtrip_text_toml_f32 (pretty byName : Bool) (nm : Bytes) (hnm : (nm == dtName) = false) (fl : Flavour)
    (ty : Ty) (d : Dec) (v : SVal) (disp : FloatDisp) (t : Bytes) (hwf : WfTy ty = true) (hv : hasValue ty = false)
    (hdt : isDtTy ty = false) (hwt : WellTyped ty d = true) (hs : serOf nm ty d = some v)
    (ht : (if pretty then textTomlPretty byName disp v else textToml byName disp v) = .ok t) :
    ∃ kvs, serDocument v = .ok kvs ∧
      (LeavesOkSKVs disp kvs → depthSKVs kvs < LIMIT →
        ∃ T, Doc.parseDocument t = some T ∧
          ∀ c : EditCfg, decodeEdit c fl ty (.table T) = .ok (normDecS canonFloat ty d)) := by
  rw [← normDec_eq_normDecS_canon ty d hv hwt]
  exact T07_roundtrip_text_toml pretty byName nm hnm fl ty d v disp t hwf hv hdt hwt hs ht

theorem T07_roundtrip_text_edit_pretty_f32 (nm : Bytes) (hnm : (nm == dtName) = false) (fl : Flavour)
    (ty : Ty) (d : Dec) (v : SVal) (disp : FloatDisp) (t : Bytes) (hwf : WfTy ty = true) (hv : hasValue ty = false)
    (hwt : WellTyped ty d = true) (hs : serOf nm ty d = some v) (ht : textEditPretty disp v = .ok t) :
    ∃ kvs, serDocument v = .ok kvs ∧
      (LeavesOkSKVs disp kvs → depthSKVs kvs < LIMIT →
        ∃ T, Doc.parseDocument t = some T ∧
          ∀ c : EditCfg, decodeEdit c fl ty (.table T) = .ok (normDecS canonFloat ty d)) := by
  rw [← normDec_eq_normDecS_canon ty d hv hwt]
  exact T07_roundtrip_text_edit_pretty nm hnm fl ty d v disp t hwf hv hwt hs ht

theorem T07_roundtrip_value_f32 (strictNone : Bool) (nm : Bytes) (hnm : (nm == dtName) = false) (fl : Flavour) (ty : Ty)
    (d : Dec) (v : SVal) (x : V) (hwf : WfTy ty = true) (hv : hasValue ty = false) (hwt : WellTyped ty d = true)
    (hs : serOf nm ty d = some v) (hun : unsupported v = false) (hval : valSer ⟨strictNone, true⟩ v = .ok x) :
    ∀ cv : ValueCfg, decodeValue cv fl ty (placeTV fl (tvOf x)) = .ok (normDecS id ty d) := by
  rw [← normDec_eq_normDecS_id ty d hv hwt]
  exact T07_roundtrip_value strictNone nm hnm fl ty d v x hwf hv hwt hs hun hval

/-- the tree round trip, every type of the grammar, default build -/
theorem T07_roundtrip_tree_final (nm : Bytes) (hnm : (nm == dtName) = false) (ty : Ty) (d : Dec) (v : SVal)
    (kvs : List (Bytes × V)) (hwf : WfTy ty = true) (hwt : WellTyped ty d = true)
    (hs : serOf nm ty d = some v) (hdoc : serDocument v = .ok kvs) :
    ∀ (c : EditCfg) (it : Item), plainItem it = tvOf (.inl kvs) → decodeEdit c .sorted ty it = .ok (normDecS id ty d) := by
  rw [← normDecS_id ty d hwt]
  exact T07_roundtrip_tree_value_leaves nm hnm ty d v kvs hwf hwt hs hdoc

/-- the text round trip (`toml_edit::ser::to_string`), every type of the grammar, default build -/
theorem T07_roundtrip_text_edit_final (nm : Bytes) (hnm : (nm == dtName) = false) (ty : Ty) (d : Dec) (v : SVal)
    (disp : FloatDisp) (t : Bytes) (hwf : WfTy ty = true) (hwt : WellTyped ty d = true)
    (hs : serOf nm ty d = some v) (ht : textEdit disp v = .ok t) :
    ∃ kvs, serDocument v = .ok kvs ∧
      (LeavesOkSKVs disp kvs → depthSKVs kvs < LIMIT →
        ∃ T, Doc.parseDocument t = some T ∧
          ∀ c : EditCfg, decodeEdit c .sorted ty (.table T) = .ok (normDecS canonFloat ty d)) := by
  rw [← normDecS_canon ty d hwt]
  exact T07_roundtrip_text_edit_value_leaves nm hnm ty d v disp t hwf hwt hs ht

/-- the text round trip (`toml::to_string` / `to_string_pretty`), every type of the grammar, default build -/
theorem T07_roundtrip_text_toml_final (pretty byName : Bool) (nm : Bytes) (hnm : (nm == dtName) = false)
    (ty : Ty) (d : Dec) (v : SVal) (disp : FloatDisp) (t : Bytes) (hwf : WfTy ty = true)
    (hroot : datetimeRoot v = false) (hwt : WellTyped ty d = true) (hs : serOf nm ty d = some v)
    (ht : (if pretty then textTomlPretty byName disp v else textToml byName disp v) = .ok t) :
    ∃ kvs, serDocument v = .ok kvs ∧
      (LeavesOkSKVs disp kvs → depthSKVs kvs < LIMIT →
        ∃ T, Doc.parseDocument t = some T ∧
          ∀ c : EditCfg, decodeEdit c .sorted ty (.table T) = .ok (normDecS canonFloat ty d)) := by
  rw [← normDecS_canon ty d hwt]
  exact T07_roundtrip_text_toml_value_leaves pretty byName nm hnm ty d v disp t hwf hroot hwt hs ht

/-- the text round trip (`toml_edit::ser::to_string_pretty` with the `is_value` guard), every type, default build -/
theorem T07_roundtrip_text_edit_pretty_final (nm : Bytes) (hnm : (nm == dtName) = false)
    (ty : Ty) (d : Dec) (v : SVal) (disp : FloatDisp) (t : Bytes) (hwf : WfTy ty = true)
    (hwt : WellTyped ty d = true) (hs : serOf nm ty d = some v) (ht : textEditPretty disp v = .ok t) :
    ∃ kvs, serDocument v = .ok kvs ∧
      (LeavesOkSKVs disp kvs → depthSKVs kvs < LIMIT →
        ∃ T, Doc.parseDocument t = some T ∧
          ∀ c : EditCfg, decodeEdit c .sorted ty (.table T) = .ok (normDecS canonFloat ty d)) := by
  rw [← normDecS_canon ty d hwt]
  exact T07_roundtrip_text_edit_pretty_value_leaves nm hnm ty d v disp t hwf hwt hs ht

/-- the round trip through `toml::Value`, every type of the grammar, default build -/
theorem T07_roundtrip_value_final (strictNone : Bool) (nm : Bytes) (hnm : (nm == dtName) = false) (ty : Ty)
    (d : Dec) (v : SVal) (x : V) (hwf : WfTy ty = true) (hwt : WellTyped ty d = true)
    (hs : serOf nm ty d = some v) (hun : unsupported v = false) (hval : valSer ⟨strictNone, true⟩ v = .ok x) :
    ∀ cv : ValueCfg, decodeValue cv .sorted ty (placeTV .sorted (tvOf x)) = .ok (normDecS id ty d) := by
  rw [← normDecS_id ty d hwt]
  exact T07_roundtrip_value_value_leaves strictNone nm hnm ty d v x hwf hwt hs hun hval

/-- non-vacuity of the `f32` statements: `struct Q { x: f32 }` with `x = 0.1f32` comes back exactly, with
`x = f32::from_bits(0x7FA00001)` (a NaN) as the default quiet NaN -/
example : WellTyped f32T (.struct [(sb "x", .f32 0x3DCCCCCD)]) = true ∧ isNaN32 0x3DCCCCCD = false ∧
    normDecS id f32T (.struct [(sb "x", .f32 0x3DCCCCCD)]) = .struct [(sb "x", .f32 0x3DCCCCCD)] ∧
    normDecS canonFloat f32T (.struct [(sb "x", .f32 0x3DCCCCCD)]) = .struct [(sb "x", .f32 0x3DCCCCCD)] ∧
    normDecS id f32T (.struct [(sb "x", .f32 0x7FA00001)]) = .struct [(sb "x", .f32 0x7FC00000)] := by
  refine ⟨by decide +kernel, by decide +kernel, ?_, ?_, ?_⟩ <;>
    simp [normDecS, f32T, normDecV, normFieldsV, normF32, isNaN32, isNoneDec]

open TomlVerif.Lemmas.RoundTrip17 (SortedTV SortedVs SortedPs) in
mutual
theorem valueOk_sorted : ∀ v : TV, valueOk v = true → SortedTV v
  | .str _, _ | .int _, _ | .float _, _ | .bool _, _ | .dt _, _ => by simp [SortedTV]
  | .arr l, h => by simp only [valueOk] at h; simp only [SortedTV]; exact valueOkList_sorted l h
  | .tbl items, h => by
    simp only [valueOk, Bool.and_eq_true] at h
    simp only [SortedTV]
    exact ⟨ascending_ksorted items h.1.1, valueOkPairs_sorted items h.2⟩
theorem valueOkList_sorted : ∀ l : List TV, valueOkList l = true → SortedVs l
  | [], _ => by simp [SortedVs]
  | v :: r, h => by
    simp only [valueOkList, Bool.and_eq_true] at h
    simp only [SortedVs]
    exact ⟨valueOk_sorted v h.1, valueOkList_sorted r h.2⟩
theorem valueOkPairs_sorted : ∀ l : List (Bytes × TV), valueOkPairs l = true → SortedPs l
  | [], _ => by simp [SortedPs]
  | (k, v) :: r, h => by
    simp only [valueOkPairs, Bool.and_eq_true] at h
    simp only [SortedPs]
    exact ⟨valueOk_sorted v h.1, valueOkPairs_sorted r h.2⟩
end

/-- for the default build the leaf rule says: `v` comes back as `C17RoundTrip.canonTV .sorted v` (which is `v`,
`C17Fix.T17_canon_sorted`), doubles after `leafF cf` — the round trip of `toml::Value` on its own (C17) and inside a typed
value agree -/
theorem leafS_canonTV (cf : Nat → Nat) (v : TV) (h : valueOk v = true) :
    leafS cf v = mapF (leafF cf) (C17RoundTrip.canonTV .sorted v) := by
  rw [C17Fix.T17_canon_sorted v (valueOk_sorted v h)]; rfl

/-! ## the build with `preserve_order`

`hwt : WellTyped ty d` still asks `valueOk` of every `toml::Value` leaf, so the leaves covered are the `IndexMap` values
whose keys ascend (what a `BTreeMap` build would hold); a leaf with keys in another order is outside these theorems. -/

/-- what comes back with `preserve_order`: a `toml::Value` leaf in three-pass order -/
def normDecI (cf : Nat → Nat) : Ty → Dec → Dec := normDecV (leafF cf) normF32 (leafI cf)

theorem normDecI_id (ty : Ty) (d : Dec) (hwt : WellTyped ty d = true) :
    normDecV (leafF id) (f32F id) (leafI id) ty d = normDecI id ty d :=
  normDecV_congr32 _ _ _ _ (fun b hb => f32F_id b hb) ty d hwt

theorem normDecI_canon (ty : Ty) (d : Dec) (hwt : WellTyped ty d = true) :
    normDecV (leafF canonFloat) (f32F canonFloat) (leafI canonFloat) ty d = normDecI canonFloat ty d :=
  normDecV_congr32 _ _ _ _ (fun b hb => f32F_canon b hb) ty d hwt

/-- the tree round trip, `preserve_order`: `to_document` then `toml_edit::de` on an item holding that
table's data, entries in the serializer's order -/
theorem T07_roundtrip_tree_final_insertion (nm : Bytes) (hnm : (nm == dtName) = false) (ty : Ty) (d : Dec) (v : SVal)
    (kvs : List (Bytes × V)) (hwf : WfTy ty = true) (hwt : WellTyped ty d = true)
    (hs : serOf nm ty d = some v) (hdoc : serDocument v = .ok kvs) :
    ∀ (c : EditCfg) (it : Item), plainItem it = tvOf (.inl kvs) →
      decodeEdit c .insertion ty it = .ok (normDecI id ty d) := by
  rw [← normDecI_id ty d hwt]
  exact fun c it hit =>
    (coreX nm hnm id ty hwf d v (.inl kvs) _ hwt hs (serDocument_value v kvs hdoc) (simX_tvOf (.inl kvs))).1 c it hit

/-- the text round trip (`toml_edit::ser::to_string`), `preserve_order` -/
theorem T07_roundtrip_text_edit_final_insertion (nm : Bytes) (hnm : (nm == dtName) = false) (ty : Ty) (d : Dec)
    (v : SVal) (disp : FloatDisp) (t : Bytes) (hwf : WfTy ty = true) (hwt : WellTyped ty d = true)
    (hs : serOf nm ty d = some v) (ht : textEdit disp v = .ok t) :
    ∃ kvs, serDocument v = .ok kvs ∧
      (LeavesOkSKVs disp kvs → depthSKVs kvs < LIMIT →
        ∃ T, Doc.parseDocument t = some T ∧
          ∀ c : EditCfg, decodeEdit c .insertion ty (.table T) = .ok (normDecI canonFloat ty d)) := by
  rw [← normDecI_canon ty d hwt]
  have hsim : ∀ kvs, SimX canonFloat (.inl kvs) (.tbl (tvKVs (canonKVs kvs))) := fun kvs => by
    simpa only [canonV, tvOf] using simX_canon (.inl kvs)
  exact roundtrip_text editRoute hsim .insertion ty _ v disp t
    (fun kvs w hx hsim => coreX nm hnm canonFloat ty hwf d v (.inl kvs) w hwt hs hx hsim)
    (serDocument_value v) (by rw [← ht, textEdit_eq]; rfl)

/-- the round trip through `toml::Value`, `preserve_order` -/
theorem T07_roundtrip_value_final_insertion (strictNone : Bool) (nm : Bytes) (hnm : (nm == dtName) = false) (ty : Ty)
    (d : Dec) (v : SVal) (x : V) (hwf : WfTy ty = true) (hwt : WellTyped ty d = true)
    (hs : serOf nm ty d = some v) (hun : unsupported v = false) (hval : valSer ⟨strictNone, true⟩ v = .ok x) :
    ∀ cv : ValueCfg, decodeValue cv .insertion ty (placeTV .insertion (tvOf x)) = .ok (normDecI id ty d) := by
  rw [← normDecI_id ty d hwt]
  intro cv
  obtain ⟨hx, hn⟩ := valSer_tree strictNone v x (serOf_wfDatetimeV nm hnm ty d v hs) hun hval
  rw [place_insertion_id _ hn]
  exact (coreX nm hnm id ty hwf d v x _ hwt hs hx (simX_tvOf x)).2 cv

/-- what the three passes do to the leaf of the example: `t` (a table) moves behind `w` (a date-time) -/
def pluginBackI : Dec := .struct [
  (sb "name", .str (sb "p")),
  (sb "extra", .value (.tbl [
    (sb "a", .int 1), (sb "f", .float 0x7FF8000000000000), (sb "w", .dt dt1),
    (sb "t", .tbl [(sb "x", .float 0x3FF8000000000000), (sb "y", .arr [.int 1, .int 2])])])),
  (sb "opt", .none),
  (sb "more", .seq [.value (.bool true), .value (.tbl [(sb "k", .str (sb "v"))])])]

theorem plugin_normI : normDecI id pluginT pluginV = pluginBackI := by with_unfolding_all rfl

/-- `T07_roundtrip_tree_final_insertion` on `Plugin`: with `preserve_order` the embedded table comes back REORDERED
(`pluginBackI ≠ pluginBack`): `impl Serialize for Value` writes tables last -/
theorem plugin_tree_roundtrip_insertion :
    decodeEdit editAsIs .insertion pluginT (rootItem pluginKVs) = .ok pluginBackI := by
  obtain ⟨h1, _, h3, h4, h5, _, _⟩ := plugin_hyps
  have a := T07_roundtrip_tree_final_insertion nmS nmS_ok pluginT pluginV pluginS pluginKVs h1 h3 h4 h5 editAsIs _
    (plainItem_rootItem pluginKVs)
  rw [plugin_normI] at a
  exact a

end TomlVerif.Props.C07RoundTripMore
