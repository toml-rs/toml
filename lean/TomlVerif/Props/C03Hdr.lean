import TomlVerif.Lemmas.Tiling03StripCr
import TomlVerif.Props.C03Doc
/-! C03 — flat documents with table headers (`C03Doc.T03_doc_tiling_headers_statement`): tiling and
    the normalisations, for any source, CR included.

    Formulation of "normalised input" used here.  `printDoc s d = printDocG stripCr s d` and
    `verbatimDoc s d = printDocG id s d` are the same concatenation of recorded pieces, the first
    with every decor piece passed through `stripCr`, reprs of keys and scalars verbatim.  Two
    byte-level relations state what happens to the source:
      * `EolRel o s`: `o` is `s` with some CR LF pairs replaced by LF;
      * `DropCr o s`: `o` is `s` with some CR bytes deleted.
    Tiling proper is `verbatimDoc s d = out ++ eol` with `EolRel out (stripBom s)` — NOT
    `out = stripBom s`: the terminator of a key/value or header line is not a recorded piece, the
    printer re-issues it as LF, so `verbatimDoc` already loses the CR of those line ends
    (`verbatim_not_source` below). -/
namespace TomlVerif.Props.C03Hdr
open TomlVerif TomlVerif.Model TomlVerif.Model.Cst TomlVerif.Model.Encode
open TomlVerif.Lemmas.Cst03 TomlVerif.Lemmas.Tiling03 TomlVerif.Lemmas.Tiling03Hdr
open TomlVerif.Props.C03 TomlVerif.Props.C03Doc

/-- the class: the root's items are simple values, `[t]` tables written by one header (explicit,
    undotted, positioned, holding simple values) and one-element `[[t]]` arrays of such tables.
    This is `C03Doc.flatDoc` without its conditions on the root's own flags and on the order of the
    positions (`flatDoc_flatRoot`). -/
def flatRoot (d : CDoc) : Bool := flatItems d.root.items

theorem flatDoc_flatRoot (d : CDoc) (h : flatDoc d = true) : flatRoot d = true := by
  obtain ⟨root, tr⟩ := d
  obtain ⟨items, imp, dot, p, dec, sp⟩ := root
  simp only [flatDoc, Bool.and_eq_true] at h
  exact h.1.2

theorem rootOnly_flatRoot (d : CDoc) (h : rootOnly d = true) : flatRoot d = true :=
  (simple_flat _ h).1

/-- the end-of-input clause shared by the statements: if a final LF is added, the source did not end
    in LF (when it is added is not stated) -/
def EolOk (eol src : Bytes) : Prop := eol = [] ∨ (eol = [0x0A] ∧ src.getLast? ≠ some 0x0A)

/-- T03_print_dropCr_verbatim (every tree, every input): the printed text is the verbatim
    concatenation of the recorded pieces with some CRs deleted (those of the decor pieces) -/
theorem T03_print_dropCr_verbatim (s : Bytes) (d : CDoc) : DropCr (printDoc s d) (verbatimDoc s d) :=
  printDocG_dropCr s d

theorem T03_value_dropCr_verbatim (s : Bytes) (v : CVal) : DropCr (printValue s v) (verbatimValue s v) :=
  encodeValue_dropCr s v [] []

/-- T03_doc_verbatim_headers (tiling proper, any source): for a flat document the recorded
    pieces concatenated verbatim are the source without its BOM with some CR LF pairs written LF
    (`EolRel`; which pairs is not stated), plus a final LF (`EolOk`) -/
theorem T03_doc_verbatim_headers (s : Bytes) (d : CDoc) (h : parseCst s = some d) (hflat : flatRoot d = true) :
    ∃ out eol, verbatimDoc s d = out ++ eol ∧ EolRel out (Doc.stripBom s) ∧ EolOk eol (Doc.stripBom s) :=
  hdr_doc_tiling id s d (FixOn.id s) h hflat

theorem crlf_of_verbatim {s : Bytes} {d : CDoc}
    (hv : ∃ out eol, verbatimDoc s d = out ++ eol ∧ EolRel out (Doc.stripBom s) ∧ EolOk eol (Doc.stripBom s)) :
    ∃ eol, DropCr (printDoc s d) (Doc.stripBom s ++ eol) ∧
      stripCr (printDoc s d) = stripCr (Doc.stripBom s) ++ eol ∧ EolOk eol (Doc.stripBom s) := by
  obtain ⟨out, eol, h1, h2, h3⟩ := hv
  have hd : DropCr (printDoc s d) (Doc.stripBom s ++ eol) := by
    have := T03_print_dropCr_verbatim s d
    rw [h1] at this
    exact this.trans (h2.toDropCr.append (DropCr.refl eol))
  refine ⟨eol, hd, ?_, h3⟩
  rw [hd.stripCr_eq, stripCr_append]
  rcases h3 with h3 | ⟨h3, _⟩ <;> subst h3 <;> rfl

/-- T03_doc_crlf_headers (the CRLF normalisation, any source): for a flat document the
    printed text is the source without its BOM with some CRs deleted, plus the final LF; in
    particular source and print agree after deleting every CR -/
theorem T03_doc_crlf_headers (s : Bytes) (d : CDoc) (h : parseCst s = some d) (hflat : flatRoot d = true) :
    ∃ eol, DropCr (printDoc s d) (Doc.stripBom s ++ eol) ∧
      stripCr (printDoc s d) = stripCr (Doc.stripBom s) ++ eol ∧ EolOk eol (Doc.stripBom s) :=
  crlf_of_verbatim (T03_doc_verbatim_headers s d h hflat)

/-- the explicit byte-level normal form when no CR survives (no key or scalar repr holds a CR,
    i.e. no CR LF inside a multi-line string): the printed text is the source without its BOM and
    without its CRs, plus the final LF -/
theorem T03_doc_crlf_headers_explicit (s : Bytes) (d : CDoc) (h : parseCst s = some d) (hflat : flatRoot d = true)
    (hp : ∀ b ∈ printDoc s d, b ≠ 0x0D) :
    ∃ eol, printDoc s d = stripCr (Doc.stripBom s) ++ eol ∧ EolOk eol (Doc.stripBom s) := by
  obtain ⟨eol, _, h2, h3⟩ := T03_doc_crlf_headers s d h hflat
  exact ⟨eol, by rw [← h2, stripCr_of_noCr _ hp], h3⟩

/-- CRLF line ends, comments, a header, an array over two lines: every CR goes -/
def exCrlfPlain : Bytes := strBytes "a = 1\r\n# c\r\n\r\n[t] # x\r\nc = [ 1,\r\n 2 ]\r\n"

example : (parseCst exCrlfPlain).map flatRoot = some true ∧
    (parseCst exCrlfPlain).map (fun d => (printDoc exCrlfPlain d).all (fun b => b != 0x0D)) = some true ∧
    (parseCst exCrlfPlain).map (printDoc exCrlfPlain) = some (stripCr exCrlfPlain) := by
  rw [exCrlfPlain, strBytes_eq rfl]
  decide +kernel

/-- T03_doc_norm_headers: on CR-free sources the printed text is the source without its BOM plus
    a final LF (`EolOk`) -/
theorem T03_doc_norm_headers (s : Bytes) (d : CDoc) (h : parseCst s = some d) (hflat : flatRoot d = true)
    (hcr : ∀ b ∈ s, b ≠ 0x0D) :
    ∃ eol, printDoc s d = Doc.stripBom s ++ eol ∧ EolOk eol (Doc.stripBom s) :=
  hdr_doc_tiling_noCr stripCr s d (FixOn.stripCr s hcr) hcr h hflat

/-- T03_doc_tiling_headers: `C03Doc.T03_doc_tiling_headers_statement` for the class `flatRoot`
    (weaker than `flatDoc`) -/
theorem T03_doc_tiling_headers (s : Bytes) (d : CDoc) (h : parseCst s = some d) (hflat : flatRoot d = true)
    (hbom : Doc.stripBom s = s) (hcr : ∀ b ∈ s, b ≠ 0x0D) (hnl : s.getLast? = some 0x0A ∨ s = []) :
    printDoc s d = s :=
  tiling_of_norm h (T03_doc_norm_headers s d h hflat hcr) hbom hnl

theorem T03_doc_tiling_headers_full : T03_doc_tiling_headers_statement :=
  fun s d h hflat hbom hcr hnl => T03_doc_tiling_headers s d h (flatDoc_flatRoot d hflat) hbom hcr hnl

theorem T03_doc_tiling_bom_headers (s : Bytes) (d' : CDoc)
    (h' : parseCst ([0xEF, 0xBB, 0xBF] ++ s) = some d') (hflat' : flatRoot d' = true)
    (hcr : ∀ b ∈ s, b ≠ 0x0D) (hnl : s.getLast? = some 0x0A) :
    printDoc ([0xEF, 0xBB, 0xBF] ++ s) d' = s := by
  obtain ⟨eol, h1, c1⟩ := T03_doc_norm_headers _ d' h' hflat' (noCr_bom hcr)
  have hs : Doc.stripBom ([0xEF, 0xBB, 0xBF] ++ s) = s := rfl
  rw [hs] at h1 c1
  rcases c1 with c1 | ⟨_, c1⟩
  · rw [h1, c1, List.append_nil]
  · exact absurd hnl c1

theorem T03_print_fixpoint_headers (s : Bytes) (d : CDoc) (h : parseCst s = some d) (hflat : flatRoot d = true)
    (hbom : Doc.stripBom s = s) (hcr : ∀ b ∈ s, b ≠ 0x0D) (hnl : s.getLast? = some 0x0A ∨ s = []) :
    ∃ d', parseCst (printDoc s d) = some d' ∧ printDoc (printDoc s d) d' = printDoc s d :=
  fixpoint_of_tiling h (T03_doc_tiling_headers s d h hflat hbom hcr hnl)

theorem T03_doc_verbatim_root (s : Bytes) (d : CDoc) (h : parseCst s = some d) (hroot : rootOnly d = true) :
    ∃ out eol, verbatimDoc s d = out ++ eol ∧ EolRel out (Doc.stripBom s) ∧ EolOk eol (Doc.stripBom s) :=
  T03_doc_verbatim_headers s d h (rootOnly_flatRoot d hroot)

theorem T03_doc_crlf_root (s : Bytes) (d : CDoc) (h : parseCst s = some d) (hroot : rootOnly d = true) :
    ∃ eol, DropCr (printDoc s d) (Doc.stripBom s ++ eol) ∧
      stripCr (printDoc s d) = stripCr (Doc.stripBom s) ++ eol ∧ EolOk eol (Doc.stripBom s) :=
  T03_doc_crlf_headers s d h (rootOnly_flatRoot d hroot)


/-- for a value of the class of `C03Doc.T03_value_tiling_inline_partial` the printed text is the
    source with some CRs deleted (those of decor: inside arrays and inline tables; the CRs inside
    multi-line strings are kept, `exCrlf` below) -/
theorem T03_value_crlf (s : Bytes) (v : CVal) (h : parseCstValue s = some v) (hsimple : simpleVal v = true) :
    DropCr (printValue s v) s ∧ stripCr (printValue s v) = stripCr s := by
  have h1 := T03_value_dropCr_verbatim s v
  rw [T03_value_tiling_inline_partial s v h hsimple] at h1
  exact ⟨h1, h1.stripCr_eq⟩

example : (parseCstValue exInline).map simpleVal = some true ∧
    (parseCstValue exInline).map (fun v => printValue exInline v == exInline) = some false :=
  ⟨exInline_eval.1.1, exInline_eval.2⟩


/-- T03_keypath_tiling: what `key` (`ws k1 ws . ws k2 ws …`) consumed is what the printer writes for
    the recorded path (`fixLeaf` moves the outer white space into the last key's leaf decor, the
    inner white space stays in each segment's dotted decor), for any number of segments and any
    default decor; `f = id` always, `f = stripCr` on CR-free input -/
theorem T03_keypath_tiling (f : Bytes → Bytes) (inp s r : Bytes) (ks : List CKey) (hf : FixOn f inp)
    (hs : s <:+ inp) (h : ckeyPath inp.length s = .ok ks r) (dp ds : Bytes) :
    s = encodeKeyPath f inp ks dp ds ++ r :=
  ckeyPath_tiling f inp hf s r ks hs h dp ds

def exKeyPath : Bytes := strBytes " a . \"b c\" .d = 1"

example : (match ckeyPath exKeyPath.length exKeyPath with
    | .ok ks r => some (ks.length, encodeKeyPath id exKeyPath ks [] [] ++ r == exKeyPath)
    | _ => none) = some (3, true) := by
  rw [exKeyPath, strBytes_eq rfl]
  decide +kernel

example : (parseCst exFlatDoc).map flatRoot = some true ∧ (parseCst exFlatDoc).map flatDoc = some true ∧
    Doc.stripBom exFlatDoc = exFlatDoc ∧ (exFlatDoc.all fun b => b != 0x0D) = true ∧
    exFlatDoc.getLast? = some 0x0A ∧
    (parseCst exFlatDoc).map (printDoc exFlatDoc) = some exFlatDoc :=
  ⟨exFlatDoc_eval.2.1, exFlatDoc_eval.1.1, exFlatDoc_eval.2.2.1, exFlatDoc_eval.2.2.2.1, exFlatDoc_eval.2.2.2.2,
    exFlatDoc_eval.1.2⟩

def exRealistic : Bytes := strBytes
  "# config\ntitle = \"x\"\n\n[owner] # who\nname = 'Tom'\ndob = 1979-05-27T07:32:00Z\n\n# servers\n[ \"servers\" ]\nports = [ 8001, 8001,\n  8002 ]\nalpha = { ip = \"10.0.0.1\" }\n\n[[products]]\nsku = 738594937\n\n[clients]\n"

example : (parseCst exRealistic).map flatRoot = some true ∧
    Doc.stripBom exRealistic = exRealistic ∧ (exRealistic.all fun b => b != 0x0D) = true ∧
    exRealistic.getLast? = some 0x0A ∧
    (parseCst exRealistic).map (printDoc exRealistic) = some exRealistic := by
  rw [exRealistic, strBytes_eq rfl]
  exact tiling_vector (T03_doc_tiling_headers _) (by decide +kernel)

def exCrlf : Bytes := [0xEF, 0xBB, 0xBF] ++ strBytes
  "a = 1\r\n# c\r\n[t] # x\r\n\r\nb = \"\"\"x\r\ny\"\"\"\r\nc = [ 1,\r\n 2 ]\r\n[[u]]"

/-- `exCrlf` is in the class; the CRs of decor and of line ends go, the one inside the string stays -/
example : (parseCst exCrlf).map flatRoot = some true ∧
    (parseCst exCrlf).map (printDoc exCrlf)
      = some (strBytes "a = 1\n# c\n[t] # x\n\nb = \"\"\"x\r\ny\"\"\"\nc = [ 1,\n 2 ]\n[[u]]\n") := by
  simp only [exCrlf, strBytes_eq rfl]
  decide +kernel

/-- `verbatimDoc s d = stripBom s ++ eol` is FALSE for sources with CR LF line ends: the
    terminator of a key/value or header line is not recorded, `verbatimDoc` writes LF for it, while
    the CR LF of comment and blank lines (recorded as decor) is kept -/
theorem verbatim_not_source :
    ¬ ∀ (s : Bytes) (d : CDoc), parseCst s = some d → rootOnly d = true →
        ∃ eol, verbatimDoc s d = Doc.stripBom s ++ eol := by
  intro hall
  have hv : (parseCst (strBytes "a = 1\r\n# c\r\n")).map (fun d => (rootOnly d, verbatimDoc (strBytes "a = 1\r\n# c\r\n") d))
      = some (true, strBytes "a = 1\n# c\r\n") := by decide +kernel
  cases hp : parseCst (strBytes "a = 1\r\n# c\r\n") with
  | none => rw [hp] at hv; cases hv
  | some d =>
    rw [hp] at hv
    simp only [Option.map_some, Option.some.injEq, Prod.mk.injEq] at hv
    obtain ⟨eol, he⟩ := hall _ d hp hv.1
    rw [hv.2] at he
    have h0 : Doc.stripBom (strBytes "a = 1\r\n# c\r\n") = strBytes "a = 1\r\n# c\r\n" := by decide +kernel
    rw [h0] at he
    have := congrArg (fun l => l.take 6) he
    rw [List.take_append_of_le_length (by decide +kernel)] at this
    revert this
    decide +kernel

/-- `a = 1` LF `# c` CR LF  is related to  `a = 1` CR LF `# c` CR LF -/
example : EolRel [0x61, 0x20, 0x3D, 0x20, 0x31, 0x0A, 0x23, 0x20, 0x63, 0x0D, 0x0A]
    [0x61, 0x20, 0x3D, 0x20, 0x31, 0x0D, 0x0A, 0x23, 0x20, 0x63, 0x0D, 0x0A] := by
  repeat (first | exact .nil | apply EolRel.crlf | apply EolRel.keep)


/-! ### outside the class (NOT covered; the class is sufficient, not necessary)

    Documents with a repeated `[[t]]`, dotted header names or dotted keys are outside `flatRoot`
    even when they print back exactly.  For them a predicate on `d` alone cannot work in general:
    `d` keeps one `Key` per table entry, so the spelling of a later `[[ t ]]`, of the `a` in a
    later `[a.b]`, or of the `a` in a later `a.c = 2` is not in `d` (counterexamples in `C03Doc`);
    the classes of `Props/C03Nest.lean` put a check on the source. -/

example : (parseCst (strBytes "[[c]]\nx = 1\n[[c]]\n")).map flatRoot = some false ∧
    (parseCst (strBytes "[[c]]\nx = 1\n[[c]]\n")).map (printDoc (strBytes "[[c]]\nx = 1\n[[c]]\n"))
      = some (strBytes "[[c]]\nx = 1\n[[c]]\n") := by
  simp only [strBytes_eq rfl]
  decide +kernel

example : (parseCst (strBytes "[a]\n[a.b]\nx = 1\n")).map flatRoot = some false ∧
    (parseCst (strBytes "[a]\n[a.b]\nx = 1\n")).map (printDoc (strBytes "[a]\n[a.b]\nx = 1\n"))
      = some (strBytes "[a]\n[a.b]\nx = 1\n") := by
  simp only [strBytes_eq rfl]
  decide +kernel

example : (parseCst (strBytes "[t]\na.b = 1\na.c = 2\n")).map flatRoot = some false ∧
    (parseCst (strBytes "[t]\na.b = 1\na.c = 2\n")).map (printDoc (strBytes "[t]\na.b = 1\na.c = 2\n"))
      = some (strBytes "[t]\na.b = 1\na.c = 2\n") := by
  simp only [strBytes_eq rfl]
  decide +kernel

end TomlVerif.Props.C03Hdr
