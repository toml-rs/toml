import TomlVerif.Lemmas.Ser07
/-! C07 — serializing a serde value either returns an error or yields TOML data equal to the
    documented image of the value; an error is returned only for the documented unsupported
    shapes; nothing is dropped or altered.

    Here: the serialization half, on the model of `toml_edit::ser` / `toml::ser` / the two formatting visitors /
    `Display for DocumentMut` (`Model/Ser.lean`), against the documented mapping `Spec.Serde.expected`; the text level
    is `Props/C07Text.lean`, reading back into the same Rust type `Props/C07RoundTrip.lean` / `C07RoundTripMore.lean`.

    The switches of the model (`guard`, `byName`, `refuseDt`, `ValFix`) have the upstream code at one value and /repo,
    which repairs it, at the other. Where the upstream code does NOT satisfy the statement this is recorded as a
    `T07_finding_*` theorem with its concrete witness (F5, F31, F32, F7: repaired in /repo; F30: open). -/
namespace TomlVerif.Props.C07
open TomlVerif TomlVerif.Model TomlVerif.Model.Ser TomlVerif.Spec TomlVerif.Spec.Serde
open TomlVerif.Lemmas.Ser07

/-- nothing dropped or altered at the tree level: what `ValueSerializer` returns is the
    documented image -/
theorem T07_tree (v : SVal) (t : V) (h : serValue v = .ok t) : expected v = some t := by
  rw [← serValue_opt v, h]; rfl

/-- and every value that has an image is serialized to it -/
theorem T07_tree_complete (v : SVal) (t : V) (h : expected v = some t) : serValue v = .ok t := by
  have := serValue_opt v
  rw [h] at this
  cases hs : serValue v with
  | error e => rw [hs] at this; cases this
  | ok x => rw [hs] at this; simp only [Except.toOption, Option.some.injEq] at this; rw [this]

/-- an error exactly for the documented unsupported shapes -/
theorem T07_errors (v : SVal) : (∃ e, serValue v = .error e) ↔ unsupported v = true := by
  rw [← expected_none v, ← serValue_opt v]
  cases serValue v with
  | error e => simp [Except.toOption]
  | ok x => simp [Except.toOption]

/-- the image is undefined exactly on the documented unsupported shapes -/
theorem T07_expected_defined (v : SVal) : (∃ t, expected v = some t) ↔ unsupported v = false := by
  rw [← expected_none v]
  cases expected v <;> simp

/-- `to_string` (no visitor): the printed document reads back as the serialized tree -/
theorem T07_format_plain (kvs : List (Bytes × V)) : shownRoot (embedKVs kvs) = kvs :=
  (shown_embed.2.2 kvs).2

/-- `toml::fmt::DocumentFormatter` (plain and pretty differ only in array layout): turning
    inline tables into `[tables]` and arrays of them into `[[arrays of tables]]`, stopping below
    values, leaves the printed data unchanged -/
theorem T07_format_toml (kvs : List (Bytes × V)) : shownRoot (visitRoot true kvs) = kvs :=
  (shown_visit.2.2 kvs).2

/-- the statement for `toml_edit::ser::pretty::Pretty`, with the `is_value` guard (`guard = true`: /repo, its fix
    0887a5a) or without it (`guard = false`: the upstream code) -/
def T07_format_pretty (guard : Bool) : Prop :=
  ∀ kvs : List (Bytes × V), shownRoot (visitRoot guard kvs) = kvs

/-- holds with the guard of `DocumentFormatter` in `Pretty` (/repo) -/
theorem T07_format_pretty_guarded : T07_format_pretty true := T07_format_toml

/-- smallest witness of F5: `v = [1, { k = {} }]` -/
def f5Tree : List (Bytes × V) := [([0x76], .arr [.sc (.int 1), .inl [([0x6b], .inl [])]])]

/-- F5: without the guard the table below the array value is converted to a standard table
    inside an inline table, which `encode_table` does not print: `v = [1, {}]` -/
theorem T07_finding_pretty_shown :
    shownRoot (visitRoot false f5Tree) = [([0x76], .arr [.sc (.int 1), .inl []])] := by
  simp [f5Tree, shownRoot, visitRoot, visitKVs, visitItem, visitArr, visitValue, allInl, isInl,
    shownTbl, shownArr, shownInl]

/-- F5: `T07_format_pretty` is false for the upstream code -/
theorem T07_finding_pretty : ¬ T07_format_pretty false := by
  intro h
  have h1 := h f5Tree
  rw [T07_finding_pretty_shown] at h1
  simp [f5Tree] at h1

/-- every route: a table `doc` that is `to_document`'s whenever it exists, a visitor (`vis`) the text does not show -/
theorem route_image (doc : SVal → Except SerErr (List (Bytes × V))) (vis : List (Bytes × V) → List (Bytes × Node))
    (v : SVal) (kvs : List (Bytes × V)) (hvis : ∀ l, shownRoot (vis l) = l)
    (hdoc : ∀ l, doc v = .ok l → serDocument v = .ok l)
    (h : (match doc v with | .ok l => .ok (shownRoot (vis l)) | .error e => .error e) = Except.ok kvs) :
    expected v = some (.inl kvs) := by
  cases hs : doc v with
  | error e => rw [hs] at h; cases h
  | ok l =>
    rw [hs] at h
    cases h
    rw [hvis]
    exact T07_tree v _ (serDocument_value v l (hdoc l hs))

/-- `toml_edit::ser::to_string`: what is printed is the image of the value -/
theorem T07_route_edit (v : SVal) (kvs : List (Bytes × V)) (h : routeEdit v = .ok kvs) :
    expected v = some (.inl kvs) :=
  route_image serDocument embedKVs v kvs T07_format_plain (fun _ h => h) h

/-- the root is not a table: the image exists but is a scalar or an array -/
def nonTableRoot (v : SVal) : Prop := ∃ t, expected v = some t ∧ isInl t = false

/-- `toml_edit::ser::to_string` fails only on an unsupported shape or a non-table root -/
theorem T07_route_edit_errors (v : SVal) (e : SerErr) (h : routeEdit v = .error e) :
    unsupported v = true ∨ nonTableRoot v := by
  unfold routeEdit serDocument at h
  cases hs : serValue v with
  | error e' => exact .inl ((T07_errors v).1 ⟨e', hs⟩)
  | ok t =>
    rw [hs] at h
    cases t with
    | sc s => exact .inr ⟨_, T07_tree v _ hs, rfl⟩
    | arr xs => exact .inr ⟨_, T07_tree v _ hs, rfl⟩
    | inl l => cases h

/-- `toml_edit::ser::to_string_pretty` with the guard (/repo) -/
theorem T07_route_edit_pretty_guarded (v : SVal) (kvs : List (Bytes × V))
    (h : routeEditPretty true v = .ok kvs) : expected v = some (.inl kvs) :=
  route_image serDocument (visitRoot true) v kvs T07_format_toml (fun _ h => h) h

/-- F5 as a serde value: `struct W { v: (i64, BTreeMap<String, BTreeMap<String, i64>>) }`,
    `W { v: (1, {"k": {}}) }` -/
def f5Value : SVal :=
  .struct [0x57] [([0x76], .tuple [.int .i64 1, .map [(.str [0x6b], .map [])]])]

/-- F5, the upstream code (`guard = false`): `to_string_pretty` returns a document that lost the entry `k`, while the
    value has the image `v = [1, { k = {} }]` -/
theorem T07_finding_pretty_route :
    routeEditPretty false f5Value = .ok [([0x76], .arr [.sc (.int 1), .inl []])] ∧
    expected f5Value = some (.inl f5Tree) := by
  constructor
  · with_unfolding_all rfl
  · with_unfolding_all rfl

/-- `toml::to_string` / `toml::to_string_pretty`: what is printed is the image of the value,
    unless the root is the date-time struct (see `T07_finding_toml_root_datetime`);
    `byName = true` is /repo (its fix ff4912f: `serialize_struct` passes the name on), `false` the upstream code -/
theorem T07_route_toml (byName : Bool) (v : SVal) (kvs : List (Bytes × V))
    (hd : byName = true ∨ datetimeRoot v = false)
    (h : routeToml byName v = .ok kvs) : expected v = some (.inl kvs) :=
  route_image (tomlDocument byName) (visitRoot true) v kvs T07_format_toml (fun l => tomlDocument_ok byName v l hd) h

/-- once `serialize_struct` passes the struct name on, without exception -/
theorem T07_route_toml_repaired (v : SVal) (kvs : List (Bytes × V))
    (h : routeToml true v = .ok kvs) : expected v = some (.inl kvs) :=
  T07_route_toml true v kvs (.inl rfl) h

/-- `toml::to_string` fails only on an unsupported shape, a non-table root, or a struct / tuple
    variant at the root -/
theorem T07_route_toml_errors (byName : Bool) (v : SVal) (e : SerErr) (h : routeToml byName v = .error e) :
    unsupported v = true ∨ nonTableRoot v ∨ variantRoot v = true := by
  have generic : tomlDocument byName v = serDocument v →
      unsupported v = true ∨ nonTableRoot v ∨ variantRoot v = true := by
    intro heq
    unfold routeToml at h
    rw [heq] at h
    have h' : routeEdit v = .error e := by
      unfold routeEdit; revert h; cases serDocument v <;> simp
    exact (T07_route_edit_errors v e h').elim .inl (fun x => .inr (.inl x))
  by_cases hv : variantRoot v = true
  · exact .inr (.inr hv)
  · have hv' : variantRoot v = false := by simpa using hv
    cases byName with
    | true => exact generic (tomlDocument_eq true v hv' (.inl rfl))
    | false =>
      by_cases hs : ∃ n fs, v = .struct n fs
      · obtain ⟨name, fs, rfl⟩ := hs
        by_cases hn : (name == dtName) = true
        · -- the date-time struct: either it has no image, or its image is a scalar
          cases hx : expected (.struct name fs) with
          | none =>
            have := expected_none (.struct name fs)
            rw [hx] at this
            exact .inl this.symm
          | some t =>
            refine .inr (.inl ⟨t, hx, ?_⟩)
            simp only [expected, hn, if_true] at hx
            cases hdt : expectedDatetime fs none with
            | none => rw [hdt] at hx; cases hx
            | some d => rw [hdt] at hx; cases hx; rfl
        · have hn' : (name == dtName) = false := by simpa using hn
          unfold routeToml at h
          simp only [tomlDocument, Bool.false_eq_true, if_false] at h
          cases hq : serFields fs [] with
          | ok l => rw [hq] at h; cases h
          | error e' =>
            refine .inl ((T07_errors _).1 ⟨e', ?_⟩)
            simp only [serValue, hn', Bool.false_eq_true, if_false, hq]
      · exact generic (tomlDocument_eq false v hv' (.inr (by intro n fs e; exact hs ⟨n, fs, e⟩)))

/-- "1979-05-27" -/
def dateText : Bytes := [0x31, 0x39, 0x37, 0x39, 0x2d, 0x30, 0x35, 0x2d, 0x32, 0x37]
def dateValue : Datetime.Datetime := ⟨some ⟨1979, 5, 27⟩, none, none⟩
/-- what `toml_datetime::Datetime` hands to a serializer -/
def datetimeStruct : SVal := .struct dtName [(dtField, .str dateText)]

/-- F31, the upstream code (`byName = false`): `toml::to_string(&datetime)` does not report the non-table root:
    `serialize_struct` ignores the struct name, so the private field name is printed as a key; /repo (`true`) refuses -/
theorem T07_finding_toml_root_datetime :
    routeToml false datetimeStruct = .ok [(dtField, .sc (.str dateText))] ∧
    expected datetimeStruct = some (.sc (.dt dateValue)) ∧
    routeEdit datetimeStruct = .error .unsupportedType ∧
    routeToml true datetimeStruct = .error .unsupportedType := by
  refine ⟨?_, ?_, ?_, ?_⟩ <;> with_unfolding_all rfl

/-- `S { v: vec![None], a: 1 }` -/
def noneInSeq : SVal := .struct [0x53] [([0x76], .seq [.none]), ([0x61], .int .i64 1)]

/-- F30 (open in /repo): `toml::Value::try_from` / `toml::Table::try_from` drop a field whose value fails with
    `UnsupportedNone` anywhere below it (here `None` inside a sequence), where every other
    route reports the error -/
theorem T07_finding_value_none :
    valSer .current noneInSeq = .ok (.inl [([0x61], .sc (.int 1))]) ∧
    tableSer .current false noneInSeq = .ok [([0x61], .sc (.int 1))] ∧
    valSer ⟨true, true⟩ noneInSeq = .error .unsupportedNone ∧
    unsupported noneInSeq = true ∧
    serValue noneInSeq = .error .unsupportedNone := by
  refine ⟨?_, ?_, ?_, ?_, ?_⟩ <;> with_unfolding_all rfl

/-- `S { w: Datetime }` -/
def datetimeField : SVal := .struct [0x53] [([0x77], datetimeStruct)]

/-- F7: `toml::Value::try_from` of the upstream code (`.original`) keeps a date-time as the private one-field table,
    where the document routes produce a date-time; /repo (`.current`, its fix 6209b98) produces the date-time -/
theorem T07_finding_value_datetime :
    valSer .original datetimeField = .ok (.inl [([0x77], .inl [(dtField, .sc (.str dateText))])]) ∧
    valSer .current datetimeField = .ok (.inl [([0x77], .sc (.dt dateValue))]) ∧
    expected datetimeField = some (.inl [([0x77], .sc (.dt dateValue))]) ∧
    serValue datetimeField = .ok (.inl [([0x77], .sc (.dt dateValue))]) := by
  refine ⟨?_, ?_, ?_, ?_⟩ <;> with_unfolding_all rfl

/-- every value that has an image, with date-times as `toml_datetime::Datetime` produces them, is
    converted to its image; `fx` = which of the two departures of `toml/src/value.rs` from
    `toml_edit::ser` are repaired -/
def T07_value_tree (fx : ValFix) : Prop :=
  ∀ (v : SVal) (t : V), expected v = some t → wfDatetime v = true → valSer fx v = .ok t

/-- /repo (`dtAware = true`), with F30 open or repaired (`strictNone`) -/
theorem T07_value_tree_current (strictNone : Bool) : T07_value_tree ⟨strictNone, true⟩ :=
  fun v t h hd => valSer_image ⟨strictNone, true⟩ v t h hd

/-- the upstream code (`.original`): only for values that hold no date-time -/
theorem T07_value_tree_partial (v : SVal) (t : V) (h : expected v = some t)
    (hd : noDatetime v = true) : valSer .original v = .ok t :=
  valSer_image .original v t h hd

/-- F7: `T07_value_tree` is false for the upstream code -/
theorem T07_finding_value_tree : ¬ T07_value_tree .original := by
  intro h
  have h1 := h datetimeField _ T07_finding_value_datetime.2.2.1 (by with_unfolding_all rfl)
  rw [T07_finding_value_datetime.1] at h1
  simp at h1

/-- F32: `toml::Table::try_from(&datetime)` of the upstream code (`refuseDt = false`) answers with the private
    one-field table instead of refusing the non-table root; /repo (`true`, its fix ad8b6c7) refuses -/
theorem T07_finding_table_root_datetime :
    tableSer .current false datetimeStruct = .ok [(dtField, .sc (.str dateText))] ∧
    valSer .current datetimeStruct = .ok (.sc (.dt dateValue)) ∧
    tableSer .current true datetimeStruct = .error .unsupportedType := by
  refine ⟨?_, ?_, ?_⟩ <;> with_unfolding_all rfl

/-- `Config { name: "a", tags: ["x"], kind: Kind::S { n: 1 }, opt: None }` -/
def sample : SVal :=
  .struct [0x43] [([0x6e], .str [0x61]), ([0x74], .seq [.str [0x78]]),
    ([0x6b], .structVariant [0x4b] [0x53] [([0x6e], .int .u8 1)]), ([0x6f], .none)]
def sampleTree : List (Bytes × V) :=
  [([0x6e], .sc (.str [0x61])), ([0x74], .arr [.sc (.str [0x78])]),
   ([0x6b], .inl [([0x53], .inl [([0x6e], .sc (.int 1))])])]

example : serValue sample = .ok (.inl sampleTree) := by with_unfolding_all rfl
example : routeEdit sample = .ok sampleTree := by with_unfolding_all rfl
example : routeToml false sample = .ok sampleTree := by with_unfolding_all rfl
example : datetimeRoot sample = false := by with_unfolding_all rfl
example : routeEditPretty true sample = .ok sampleTree := by with_unfolding_all rfl
example : routeEditPretty true f5Value = .ok f5Tree := by with_unfolding_all rfl
example : expected sample = some (.inl sampleTree) := by with_unfolding_all rfl
example : serValue (.seq [.none]) = .error .unsupportedNone ∧ unsupported (.seq [.none]) = true := by
  constructor <;> with_unfolding_all rfl
example : routeEdit (.seq [.int .i64 1]) = .error .unsupportedType ∧ nonTableRoot (.seq [.int .i64 1]) := by
  refine ⟨by with_unfolding_all rfl, _, by with_unfolding_all rfl, by with_unfolding_all rfl⟩
example : routeToml false (.structVariant [0x45] [0x53] []) = .error .unsupportedType ∧
    variantRoot (.structVariant [0x45] [0x53] []) = true := by
  constructor <;> with_unfolding_all rfl
example : unsupported (.map [(.int .i64 1, .bool true)]) = true ∧
    serValue (.map [(.int .i64 1, .bool true)]) = .error .keyNotString := by
  constructor <;> with_unfolding_all rfl
example : unsupported (.int .u64 9223372036854775808) = true ∧
    serValue (.int .u64 9223372036854775808) = .error .outOfRange := by
  constructor <;> with_unfolding_all rfl
example : valSer .current sample = .ok (.inl sampleTree) ∧ wfDatetime sample = true ∧ wfDatetime datetimeField = true := by
  refine ⟨?_, ?_, ?_⟩ <;> with_unfolding_all rfl
-- the visitors really convert: the guarded visitor turns the nested struct into a `[table]`
example : visitRoot true [([0x61], .inl [([0x62], .sc (.int 1))])] =
    [([0x61], .tbl [([0x62], .sc (.int 1))] true)] := by with_unfolding_all rfl

end TomlVerif.Props.C07
