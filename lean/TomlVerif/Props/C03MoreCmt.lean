import TomlVerif.Lemmas.Comments03Check
import TomlVerif.Lemmas.Bytes
/-! C03, clause "an unedited document, printed, keeps every comment" — for ALL accepted documents.

    `recordedComments s d` (`Lemmas/Tiling03MoreComments.lean`) lists the comments inside the decor
    pieces the parser records (table decor, value decor, array `trailing`, inline-table `preamble`,
    leaf decor of the key of every value entry, document `trailing`).  `T03_comments_kept`: every one
    of them is a contiguous piece of the printed text, and (`T03_comments_in_source`) a CR-free
    contiguous piece of the source.

    A comment is a CR-free piece of its decor text, so it survives the deletion of CRs the printer
    applies; every decor piece is written by the printer because the only pieces the printer skips —
    the decor of invisible (implicit, dotted) tables, and decor / preamble / key leaf decor of the
    inline tables made for dotted keys — are never set by the parser (`T03_parsed_tree_inv`). -/
namespace TomlVerif.Props.C03More
open TomlVerif TomlVerif.Model TomlVerif.Model.Cst TomlVerif.Model.Encode
open TomlVerif.Lemmas.Cst03 TomlVerif.Lemmas.Tiling03More

/-- every recorded decor piece is written by the printer, whatever it does to the pieces (`f`, which
    keeps the empty one), for any tree in which invisible tables carry no decor and dotted inline
    tables are bare (`TDc`) -/
theorem decorTexts_printed (f : Bytes → Bytes) (hf0 : f [] = []) (inp : Bytes) (d : CDoc) (hroot : TDc d.root)
    (hnd : d.root.dotted = false) : ∀ p ∈ decorTexts inp d, f p <:+: printDocG f inp d := by
  intro p hp
  unfold decorTexts at hp
  rcases List.mem_append.1 hp with hp | hp
  · exact tblPieces_printed f hf0 inp d hroot hnd p hp
  · simp only [List.mem_singleton] at hp
    subst hp
    unfold printDocG
    exact List.infix_append_of_infix_right (List.infix_refl _)

/-- the tree of a parsed document passes the invariant behind the check: an invisible table has no
    decor to lose, dotted inline tables are bare and occur only inside inline tables, elements of
    arrays of tables and the root are not dotted -/
theorem T03_parsed_tree_inv (s : Bytes) (d : CDoc) (h : parseCst s = some d) :
    TDc d.root ∧ d.root.dotted = false :=
  dcTree.parseCst_root (R := Lemmas.Refine08c.NotDot) (fun _ _ _ h => h) (fun _ => rfl)
    (fun n fuel d s r v hv => ⟨Lemmas.Refine08c.cvalue_notDotted n fuel d s r v hv, cvalue_VD n fuel d s r v hv⟩) h

/-- **every recorded decor piece is written by the printer** (with its CRs dropped) -/
theorem T03_decor_printed (s : Bytes) (d : CDoc) (h : parseCst s = some d) :
    ∀ p ∈ decorTexts s d, stripCr p <:+: printDoc s d :=
  decorTexts_printed stripCr rfl s d (T03_parsed_tree_inv s d h).1 (T03_parsed_tree_inv s d h).2

/-- the same for the verbatim concatenation (`f = id`): every recorded decor piece occurs in it -/
theorem T03_decor_verbatim (s : Bytes) (d : CDoc) (h : parseCst s = some d) :
    ∀ p ∈ decorTexts s d, p <:+: verbatimDoc s d :=
  decorTexts_printed id rfl s d (T03_parsed_tree_inv s d h).1 (T03_parsed_tree_inv s d h).2

/-- **C03, comments**: every comment RECORDED in the tree of an unedited document (the comments found
    in its decor pieces, `recordedComments`) occurs in the printed text.  That every comment of the
    source is recorded is not part of the statement. -/
theorem T03_comments_kept (s : Bytes) (d : CDoc) (h : parseCst s = some d) :
    ∀ c ∈ recordedComments s d, c <:+: printDoc s d := by
  intro c hc
  unfold recordedComments at hc
  obtain ⟨p, hp, hcp⟩ := List.mem_flatMap.1 hc
  exact List.IsInfix.trans (commentsIn_stripCr p c hcp) (T03_decor_printed s d h p hp)

/-- the printer half alone, for ANY tree (parsed, hand-made or edited) that passes the decidable
    check `cmtDocOk`: invisible tables carry no decor, dotted inline tables are bare and occur only
    inside inline tables, elements of arrays of tables and the root are not dotted -/
theorem T03_comments_kept_of_check (s : Bytes) (d : CDoc) (h : cmtDocOk d = true) :
    ∀ c ∈ recordedComments s d, c <:+: printDoc s d := by
  intro c hc
  obtain ⟨hroot, hnd⟩ := cmtDocOk_sound d h
  unfold recordedComments at hc
  obtain ⟨p, hp, hcp⟩ := List.mem_flatMap.1 hc
  exact List.IsInfix.trans (commentsIn_stripCr p c hcp) (decorTexts_printed stripCr rfl s d hroot hnd p hp)

theorem elemsPieces_infix (inp : Bytes) : ∀ (items : List CVal) (p : Bytes), p ∈ elemsPieces inp items → p <:+: inp :=
  (valPieces_infix_all inp).2.1
theorem kvsPieces_infix (inp : Bytes) : ∀ (items : List (CKey × CVal)) (p : Bytes), p ∈ kvsPieces inp items → p <:+: inp :=
  (valPieces_infix_all inp).2.2

theorem itemsPieces_infix (inp : Bytes) : ∀ (items : List (CKey × CItem)) (p : Bytes), p ∈ itemsPieces inp items → p <:+: inp :=
  (tblPieces_infix_all inp).1
theorem tblsPieces_infix (inp : Bytes) : ∀ (ts : List CTbl) (p : Bytes), p ∈ tblsPieces inp ts → p <:+: inp :=
  (tblPieces_infix_all inp).2.2

/-- every recorded decor piece is a contiguous piece of the source (any tree, any input) -/
theorem T03_decor_in_source (s : Bytes) (d : CDoc) : ∀ p ∈ decorTexts s d, p <:+: s := by
  intro p hp
  unfold decorTexts at hp
  rcases List.mem_append.1 hp with hp | hp
  · exact tblPieces_infix s d.root p hp
  · simp only [List.mem_singleton] at hp; subst hp; exact rawText_infix s d.trailing

/-- every recorded comment is a CR-free contiguous piece of the source -/
theorem T03_comments_in_source (s : Bytes) (d : CDoc) :
    ∀ c ∈ recordedComments s d, c <:+: s ∧ (∀ b ∈ c, b ≠ 0x0D) := by
  intro c hc
  unfold recordedComments at hc
  obtain ⟨p, hp, hcp⟩ := List.mem_flatMap.1 hc
  obtain ⟨hi, hcr⟩ := commentsIn_infix p c hcp
  exact ⟨List.IsInfix.trans hi (T03_decor_in_source s d p hp), hcr⟩

/-- comments in every kind of decor piece: before and after a header, after a value, inside an
    array, before an array-of-tables header (CR LF line ends), at the end of the document; with an
    implicit table (`a` of `[a.b]`), a dotted table (`x.y`) and a dotted key inside `{…}` -/
def exCmt : Bytes :=
  strBytes "# top\r\nk = 1 # one\n[a.b] # hdr\nx.y = [ # in\n 1, # el\n] # arr\nz = { p.q = 2 } # inl\n# pre\r\n[[c]] # aot\nw = 3\n# end"

example : (parseCst exCmt).isSome = true ∧
    (parseCst exCmt).map (recordedComments exCmt) = some
      [strBytes "# top", strBytes "# one", strBytes "# hdr", strBytes "# arr", strBytes "# in",
       strBytes "# el", strBytes "# inl", strBytes "# pre", strBytes "# aot", strBytes "# end"] ∧
    (parseCst exCmt).map cmtDocOk = some true ∧
    (parseCst exCmt).map (fun d => (recordedComments exCmt d).all (fun c => isInfix c (printDoc exCmt d))) = some true := by
  rw [exCmt, strBytes_eq rfl]
  decide +kernel

#print axioms T03_comments_kept
#print axioms T03_decor_printed
#print axioms T03_decor_verbatim
#print axioms T03_comments_kept_of_check
#print axioms T03_comments_in_source

end TomlVerif.Props.C03More
