import TomlVerif.Lemmas.Tiling03Doc
/-! C03 — unedited documents print back byte-for-byte, apart from dropping a BOM, CRLF→LF
    outside multi-line string bodies and adding a final newline.

    The printer model (`Model/Encode.lean`) is written over a transformation `f` applied to every
    decor text; `printDoc = printDocG stripCr` is the real printer (`RawString::encode_with_default` drops
    every CR of decor, reprs are written verbatim) and `verbatimDoc = printDocG id` concatenates the
    recorded pieces unchanged.  The printed text is the verbatim text with the CRs of its decor
    dropped, and *tiling* says the verbatim text is the source; `normalize` / `normalizeValue` name
    the printed text as the normal form of the source (they are `printDoc` / `printValue`). -/
namespace TomlVerif.Props.C03
open TomlVerif TomlVerif.Model TomlVerif.Model.Cst TomlVerif.Model.Encode TomlVerif.Lemmas.Cst03

/-- the normal form of a value parsed from `inp`: decor with CRs dropped, reprs verbatim -/
def normalizeValue (inp : Bytes) (v : CVal) : Bytes := encodeValue stripCr inp v [] []

/-- the normal form of a document parsed from `inp`: decor with CRs dropped, reprs verbatim; the
    BOM is not part of any recorded piece and a line's terminator is re-issued as a single LF -/
def normalize (inp : Bytes) (d : CDoc) : Bytes := printDocG stripCr inp d

/-- T03_strip_cr: the model of `RawString::encode_with_default` is idempotent, is the identity on CR-free text,
    produces CR-free text and distributes over concatenation -/
theorem T03_strip_cr (s t : Bytes) :
    stripCr (stripCr s) = stripCr s ∧
    ((∀ b ∈ s, b ≠ 0x0D) → stripCr s = s) ∧
    (∀ b ∈ stripCr s, b ≠ 0x0D) ∧
    stripCr (s ++ t) = stripCr s ++ stripCr t :=
  ⟨stripCr_idem s, stripCr_of_noCr s, stripCr_noCr s, stripCr_append s t⟩

example : stripCr [0x61, 0x0D, 0x0A, 0x0D, 0x62] = [0x61, 0x0A, 0x62] := by decide +kernel

/-- T03_value_tiling, full strength: the pieces recorded for an accepted value, concatenated
    verbatim, are the source text.  FALSE as stated: inline tables keep one `Key` per table entry,
    so a dotted key whose prefix names an existing dotted table prints with the spelling and inner
    whitespace of the first occurrence (counterexample below; known finding F15). -/
def T03_value_tiling_statement : Prop :=
  ∀ (s : Bytes) (v : CVal), parseCstValue s = some v → verbatimValue s v = s

/-- `{a .b=1,a.c=2}` is accepted and prints as `{a .b=1,a .c=2}` -/
def exRespelled : Bytes := [0x7B, 0x61, 0x20, 0x2E, 0x62, 0x3D, 0x31, 0x2C, 0x61, 0x2E, 0x63, 0x3D, 0x32, 0x7D]

theorem T03_value_tiling_counterexample : ¬ T03_value_tiling_statement := by
  intro h
  have : (parseCstValue exRespelled).map (verbatimValue exRespelled) = some exRespelled := by
    cases hp : parseCstValue exRespelled with
    | none => exact absurd hp (by decide +kernel)
    | some v => simp [h _ _ hp]
  exact absurd this (by decide +kernel)

/-- T03_value_tiling (proved part): for values built from scalars and arrays (any nesting, element
    decor, trailing comma, trailing trivia) the recorded pieces tile the source exactly. -/
theorem T03_value_tiling_partial (s : Bytes) (v : CVal) (h : parseCstValue s = some v)
    (hflat : flatVal v = true) : verbatimValue s v = s :=
  Lemmas.Tiling03.parseCstValue_tiling id s (Lemmas.Tiling03.FixOn.id s) v h (flatVal_simpleVal.1 v hflat)

/-- `[ 1, 'a' ,\r\n # c\n 2.5,\n]` -/
def exArray : Bytes :=
  [0x5B, 0x20, 0x31, 0x2C, 0x20, 0x27, 0x61, 0x27, 0x20, 0x2C, 0x0D, 0x0A, 0x20, 0x23, 0x20, 0x63, 0x0A,
   0x20, 0x32, 0x2E, 0x35, 0x2C, 0x0A, 0x5D]

example : ((parseCstValue exArray).map flatVal) = some true ∧
    (parseCstValue exArray).map (verbatimValue exArray) = some exArray := by decide +kernel

/-- the printed form of the same value: the CR of the element decor is dropped -/
example : (parseCstValue exArray).map (printValue exArray) =
    some [0x5B, 0x20, 0x31, 0x2C, 0x20, 0x27, 0x61, 0x27, 0x20, 0x2C, 0x0A, 0x20, 0x23, 0x20, 0x63, 0x0A,
          0x20, 0x32, 0x2E, 0x35, 0x2C, 0x0A, 0x5D] := by decide +kernel

/-- T03_doc_tiling, full strength at the document level.  It does not hold of every document: it
    needs the table-naming key segments spelled once and dotted keys adjacent (F15; `a .b = 1` LF
    `a.c = 2` LF, an `example` of `Props/C03Doc.lean`, meets the hypotheses and prints differently;
    no theorem states the negation).  It is proved for classes of documents in `Props/C03Doc.lean`,
    `C03Hdr.lean`, `C03Nest.lean` and `C03More*.lean`. -/
def T03_doc_tiling_statement : Prop :=
  ∀ (s : Bytes) (d : CDoc), parseCst s = some d → Doc.stripBom s = s →
    (∀ b ∈ s, b ≠ 0x0D) → (s.getLast? = some 0x0A ∨ s = []) → printDoc s d = s

/-- a document-level instance of the three normalisations: BOM `a = 1` CRLF `[t] # c` CRLF `b = 2`
    (no final newline) prints as `a = 1` LF `[t] # c` LF `b = 2` LF -/
def exDoc : Bytes := [0xEF, 0xBB, 0xBF, 0x61, 0x20, 0x3D, 0x20, 0x31, 0x0D, 0x0A, 0x5B, 0x74, 0x5D, 0x20, 0x23, 0x20, 0x63, 0x0D, 0x0A, 0x62, 0x20, 0x3D, 0x20, 0x32]

example : (parseCst exDoc).map (printDoc exDoc) = some [0x61, 0x20, 0x3D, 0x20, 0x31, 0x0A, 0x5B, 0x74, 0x5D, 0x20, 0x23, 0x20, 0x63, 0x0A, 0x62, 0x20, 0x3D, 0x20, 0x32, 0x0A] := by decide +kernel

end TomlVerif.Props.C03
