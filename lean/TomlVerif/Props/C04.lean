import TomlVerif.Spec.Classes
import TomlVerif.Spec.Utf8
import TomlVerif.Lemmas.Bytes
/-! # C04 — no input makes the library panic, abort or hang

The models are total functions: every entry point returns a value for every byte string (Lean
accepts no partial definition here), so "returns a result or an error" holds by construction of
the model. The panic sites of the code are listed in `Model/PanicSites.lean`, each with the reason
(in prose) why it cannot fire; the list is tied to the source by `Gen.CheckPanic.inventory`. Proved
here are the two facts the reason given for the `from_utf8_unchecked` sites rests on. That the fuel
the model runs on decides no result is in `Props/C04Fuel.lean`. -/
namespace TomlVerif.Props.C04
open TomlVerif TomlVerif.Spec

/-! Six byte classes of the grammar are ASCII-only (the six theorems that follow), and a list of ASCII bytes is
    well-formed UTF-8 (`T04_ascii_valid`). Which bytes the slices handed to `from_utf8_unchecked` consist of (at
    most call sites they also hold signs, `_`, `.`, `e`, `E` or quotation marks) is not stated here. -/

theorem T04_ascii_wschar : ∀ b, isWschar b = true → b < 0x80 := forall_byte (by decide +kernel)
theorem T04_ascii_unquoted : ∀ b, isUnquotedChar b = true → b < 0x80 := forall_byte (by decide +kernel)
theorem T04_ascii_digit : ∀ b, isDigit b = true → b < 0x80 := forall_byte (by decide +kernel)
theorem T04_ascii_hexdig : ∀ b, isHexdig b = true → b < 0x80 := forall_byte (by decide +kernel)
theorem T04_ascii_digit0_7 : ∀ b, isDigit0_7 b = true → b < 0x80 := forall_byte (by decide +kernel)
theorem T04_ascii_digit0_1 : ∀ b, isDigit0_1 b = true → b < 0x80 := forall_byte (by decide +kernel)

theorem T04_ascii_valid (s : Bytes) (h : ∀ b ∈ s, b < 0x80) : Utf8.valid s = true := by
  induction s with
  | nil => rfl
  | cons b r ih =>
    have hb : b < 0x80 := h b (by simp)
    have hr : ∀ x ∈ r, x < 0x80 := fun x hx => h x (by simp [hx])
    unfold Utf8.valid
    simp [hb, ih hr]

end TomlVerif.Props.C04
