import TomlVerif.Lemmas.TypedGapsDt
import TomlVerif.Lemmas.Sim07Holds
import TomlVerif.Lemmas.StrictValSer07
import TomlVerif.Props.C07Text
import TomlVerif.Props.C13Typed
/-! # C07, the READING-BACK half: what a serializer accepts comes back unchanged when the produced TOML is
deserialized into the same Rust type

`Props/C07.lean` / `Props/C07Text.lean`: serde calls ↦ document tree ↦ text ↦ parsed data = the documented image.
`Props/C13Typed.lean`: what the deserializers do for a target type of the grammar `Ty`.
Here the two are joined by a Rust VALUE: `d : Dec` of type `ty` (`WellTyped ty d`, for a declarable type `WfTy ty`),
its serde calls `serOf nm ty d` (Model/SerTyped.lean, the trusted mirror of the description of serde in Model/DeTyped.lean),
any serializer route, any deserializer route with any setting of its switches, and the result `normDec cf ty d`: `d` up
to the identifications listed below (`cf`: what the transport does to a double, `id` for a tree, `canonFloat` for a text).

## the identifications (`normDec`), each with its counterexample below
 1. `f64` NaN: the SIGN is dropped by `toml_edit::ser` (`copysign(1.0)`, deliberate, commented in the code) — at the
    tree level already (`T07_ident_nan_sign`); through a text the PAYLOAD goes too (`cf = canonFloat`; a text says `nan`).
    Not a loss in the sense of the property as long as NaNs are compared as NaNs.
 2. `f32`: travels as `f64` and returns through `as f32`, which the model (`f64ToF32`) lets keep only the sign of a NaN:
    an `f32` NaN payload is gone at the tree level (`T07_ident_f32_nan`). For every other `f32` the composition
    `f64ToF32 ∘ f32to64` is the identity (`C07RoundTripMore.T07_f32_exact`).
 3. **a map entry whose value is `None` is dropped silently** (`T07_ident_map_none`): `BTreeMap<String, Option<T>>`
    `{"a": None}` serializes without error to an empty table and comes back as `{}` — the KEY is lost. This is the one
    identification that IS a loss of data in the sense of the property (the documented mapping
    `expected` says the same, `expectedMap`, so C07's serialization half does not see it).
 4. `#[serde(default)]` on an `Option` field holding `None`: comes back as `Default::default()` = `None` (`Dec.dflt` is
    how the model writes it; same Rust value; `T07_ident_default_field`).
Not needed (all come back exactly): `None` in a struct field (skipped, `missing_field` gives `None`), `Some(x)`,
`Option<Option<T>>` (`Some(None)` is refused by the serializer: `T07_excluded`), unit variants (a string), newtype /
tuple / struct variants, empty `Vec`, empty map, empty struct, newtype structs, tuples, `char`, every integer width
(`u64` beyond `i64::MAX`, `()` are refused: `T07_excluded`).

`hasValue ty = false` is a hypothesis in this file: `toml::Value` INSIDE a typed value is `Props/C07RoundTripMore.lean`. -/
namespace TomlVerif.Props.C07RoundTrip
open TomlVerif TomlVerif.Model TomlVerif.Model.TomlValue TomlVerif.Model.DeRoutes TomlVerif.Model.DeTyped
open TomlVerif.Model.SerTyped TomlVerif.Model.Ser TomlVerif.Spec TomlVerif.Spec.Serde
open TomlVerif.Spec.Encode06 (canonFloat)
open TomlVerif.Lemmas.SerTyped07 TomlVerif.Lemmas.Ser07Text TomlVerif.Lemmas.Ser07 TomlVerif.Lemmas.DeTyped13
open TomlVerif.Lemmas.RoundTrip17 (PermTV valOf docTbl perm_docTbl NodupTV placeTV perm_placeTV)
open TomlVerif.Props.C07 TomlVerif.Props.C07Text
open TomlVerif.Model.Value (LIMIT)

/-- the root `Table` of `toml_edit::ser::to_document`: every entry an `Item::Value` -/
def rootItem (kvs : List (Bytes × V)) : Item :=
  .table (.mk (kvs.map fun kv => (kv.1, Item.value (valOf (tvOf kv.2)))) false false none)

theorem plainItem_rootItem (kvs : List (Bytes × V)) : plainItem (rootItem kvs) = tvOf (.inl kvs) := by
  simp only [rootItem, plainItem, plainTbl, tvOf, TV.tbl.injEq]
  induction kvs with
  | nil => rfl
  | cons x r ih => obtain ⟨k, v⟩ := x; simp [plainItems, plainItem, plainVal_valOf, tvKVs, ih]

/-- every date-time with fields in range and a year ≤ 9999 is accepted by `WellTyped` (`C12.T12_roundtrip`) -/
theorem dtOk_of_inRange (d : Datetime.Datetime) (h : C12.FieldsInRange d) (hy : ∀ x, d.date = some x → x.year ≤ 9999) :
    dtOk d = true := by
  simp [dtOk, (C12.T12_roundtrip d h hy).1]

/-- **T07_roundtrip_tree** — `toml_edit::ser::to_document(&d)` then `toml_edit`'s deserializer (`decodeEdit`, any setting
of the switches, in particular `editAsIs`) on the document — on ANY item holding that table's data, e.g. the same document
with its inline tables written as `[header]` tables — returns `normDec id ty d`. -/
theorem T07_roundtrip_tree (nm : Bytes) (hnm : (nm == dtName) = false) (fl : Flavour) (ty : Ty) (d : Dec) (v : SVal)
    (kvs : List (Bytes × V)) (hwf : WfTy ty = true) (hv : hasValue ty = false) (hwt : WellTyped ty d = true)
    (hs : serOf nm ty d = some v) (hdoc : serDocument v = .ok kvs) :
    ∀ (c : EditCfg) (it : Item), plainItem it = tvOf (.inl kvs) → decodeEdit c fl ty it = .ok (normDec id ty d) :=
  fun c it hit =>
    (core nm hnm id fl ty hwf hv d v (.inl kvs) _ hwt hs (serDocument_value v kvs hdoc) (sim_tvOf (.inl kvs))).1 c it hit

/-- the code as it stands, on the document `to_document` built -/
theorem T07_roundtrip_tree_doc (nm : Bytes) (hnm : (nm == dtName) = false) (fl : Flavour) (ty : Ty) (d : Dec) (v : SVal)
    (kvs : List (Bytes × V)) (hwf : WfTy ty = true) (hv : hasValue ty = false) (hwt : WellTyped ty d = true)
    (hs : serOf nm ty d = some v) (hdoc : serDocument v = .ok kvs) :
    decodeEdit editAsIs fl ty (rootItem kvs) = .ok (normDec id ty d) ∧
    editRoute editAsIs fl ty (rootItem kvs) = .ok (normDec id ty d) ∧
    tomlRoute editAsIs fl ty (rootItem kvs) = .ok (normDec id ty d) := by
  have h := T07_roundtrip_tree nm hnm fl ty d v kvs hwf hv hwt hs hdoc editAsIs _ (plainItem_rootItem kvs)
  exact ⟨h, by rw [C13Typed.T13_typed_edit_route]; exact h,
    by rw [C13Typed.T13_typed_wrappers_thin, C13Typed.T13_typed_edit_route]; exact h⟩

theorem plainItem_table (T : Tbl) : plainItem (.table T) = .tbl (tvKVs (dataTbl T)) := by
  rw [tvKVs_dataTbl]; rfl

theorem sim_canonKVs (kvs : List (Bytes × V)) : Sim canonFloat (.inl kvs) (.tbl (tvKVs (canonKVs kvs))) := by
  simpa only [canonV, tvOf] using sim_canon (.inl kvs)

/-- DOCUMENT order (`docOrder`) is not seen: a derive-generated visitor looks its fields up by name, a `BTreeMap` sorts, a
variant table has one entry -/
theorem sim_docOrder (kvs : List (Bytes × V)) :
    Sim canonFloat (.inl kvs) (.tbl (tvKVs (docOrder (canonKVs kvs)))) := by
  rw [docOrder, tvKVs_vOfPs]
  exact (sim_permTV canonFloat (perm_docTbl _) _).2 (sim_canonKVs kvs)

theorem parsed_decodes {fl : Flavour} {ty : Ty} {r : Dec} {t : Bytes} {data : List (Bytes × V)}
    (hp : (Doc.parseDocument t).map dataTbl = some data)
    (hdec : ∀ (c : EditCfg) (it : Item), plainItem it = .tbl (tvKVs data) → decodeEdit c fl ty it = .ok r) :
    ∃ T, Doc.parseDocument t = some T ∧ ∀ c : EditCfg, decodeEdit c fl ty (.table T) = .ok r := by
  cases hq : Doc.parseDocument t with
  | none => rw [hq] at hp; cases hp
  | some T =>
    rw [hq] at hp
    simp only [Option.map_some, Option.some.injEq] at hp
    exact ⟨T, rfl, fun c => hdec c _ (by rw [plainItem_table, hp])⟩

theorem tomlDocument_value (byName : Bool) (v : SVal) (hd : byName = true ∨ datetimeRoot v = false)
    (kvs : List (Bytes × V)) (h : tomlDocument byName v = .ok kvs) : serValue v = .ok (.inl kvs) :=
  serDocument_value v kvs (tomlDocument_ok byName v kvs hd h)

/-- every text round trip. The route (`R`) says what the parsed document holds; `S` is the relation up to which that holds
the serializer's table (`hsim`) and for which the induction over the type gives the result (`hcore`); `himg`: the table
the route starts from is the image of the value -/
theorem roundtrip_text (R : TextRoute) {S : V → TV → Prop}
    (hsim : ∀ kvs, S (.inl kvs) (.tbl (tvKVs (R.order (canonKVs kvs)))))
    (fl : Flavour) (ty : Ty) (r : Dec) (v : SVal) (disp : FloatDisp) (t : Bytes)
    (hcore : ∀ kvs w, serValue v = .ok (.inl kvs) → S (.inl kvs) w → Good fl ty w r)
    (himg : ∀ kvs, R.doc v = .ok kvs → serValue v = .ok (.inl kvs)) (ht : R.text disp v = .ok t) :
    ∃ kvs, serDocument v = .ok kvs ∧
      (LeavesOkSKVs disp kvs → depthSKVs kvs < LIMIT →
        ∃ T, Doc.parseDocument t = some T ∧ ∀ c : EditCfg, decodeEdit c fl ty (.table T) = .ok r) := by
  obtain ⟨kvs, hd, hp⟩ := R.parses disp v t ht
  have hx := himg kvs hd
  exact ⟨kvs, by unfold serDocument; rw [hx], fun hl hdp => parsed_decodes (hp hl hdp) (hcore kvs _ hx (hsim kvs)).1⟩

/-- the text round trip (`toml_edit::ser::to_string`): the text, parsed, deserialized into the same type -/
theorem T07_roundtrip_text_edit (nm : Bytes) (hnm : (nm == dtName) = false) (fl : Flavour) (ty : Ty) (d : Dec) (v : SVal)
    (disp : FloatDisp) (t : Bytes) (hwf : WfTy ty = true) (hv : hasValue ty = false) (hwt : WellTyped ty d = true)
    (hs : serOf nm ty d = some v) (ht : textEdit disp v = .ok t) :
    ∃ kvs, serDocument v = .ok kvs ∧
      (LeavesOkSKVs disp kvs → depthSKVs kvs < LIMIT →
        ∃ T, Doc.parseDocument t = some T ∧
          ∀ c : EditCfg, decodeEdit c fl ty (.table T) = .ok (normDec canonFloat ty d)) :=
  roundtrip_text editRoute sim_canonKVs fl ty _ v disp t
    (fun kvs w hx hsim => core nm hnm canonFloat fl ty hwf hv d v (.inl kvs) w hwt hs hx hsim)
    (serDocument_value v) (by rw [← ht, textEdit_eq]; rfl)

/-- the text round trip (`toml::to_string` / `toml::to_string_pretty`; `byName = true`: /repo, `serialize_struct`
passes the name on; `false`: the upstream code): for every type but a bare `Datetime` / `Date` / `Time` at the root
(F31, `T07_finding_toml_root_datetime`; with `byName = true` the serializer refuses that root) -/
theorem T07_roundtrip_text_toml (pretty byName : Bool) (nm : Bytes) (hnm : (nm == dtName) = false) (fl : Flavour)
    (ty : Ty) (d : Dec) (v : SVal) (disp : FloatDisp) (t : Bytes) (hwf : WfTy ty = true) (hv : hasValue ty = false)
    (hdt : isDtTy ty = false) (hwt : WellTyped ty d = true) (hs : serOf nm ty d = some v)
    (ht : (if pretty then textTomlPretty byName disp v else textToml byName disp v) = .ok t) :
    ∃ kvs, serDocument v = .ok kvs ∧
      (LeavesOkSKVs disp kvs → depthSKVs kvs < LIMIT →
        ∃ T, Doc.parseDocument t = some T ∧
          ∀ c : EditCfg, decodeEdit c fl ty (.table T) = .ok (normDec canonFloat ty d)) := by
  refine roundtrip_text (fmtRoute pretty _ (tomlDocument_nodup byName)) sim_docOrder fl ty _ v disp t
    (fun kvs w hx hsim => core nm hnm canonFloat fl ty hwf hv d v (.inl kvs) w hwt hs hx hsim)
    (tomlDocument_value byName v (.inr (serOf_datetimeRoot nm hnm ty d v hv hdt hs))) ?_
  cases pretty
  · rw [← ht, textToml_eq]; rfl
  · rw [← ht, textTomlPretty_eq]; rfl

/-- the text round trip (`toml_edit::ser::to_string_pretty` with the `is_value` guard: /repo, its fix of F5) -/
theorem T07_roundtrip_text_edit_pretty (nm : Bytes) (hnm : (nm == dtName) = false) (fl : Flavour)
    (ty : Ty) (d : Dec) (v : SVal) (disp : FloatDisp) (t : Bytes) (hwf : WfTy ty = true) (hv : hasValue ty = false)
    (hwt : WellTyped ty d = true) (hs : serOf nm ty d = some v) (ht : textEditPretty disp v = .ok t) :
    ∃ kvs, serDocument v = .ok kvs ∧
      (LeavesOkSKVs disp kvs → depthSKVs kvs < LIMIT →
        ∃ T, Doc.parseDocument t = some T ∧
          ∀ c : EditCfg, decodeEdit c fl ty (.table T) = .ok (normDec canonFloat ty d)) :=
  roundtrip_text (fmtRoute true _ serDocument_nodup) sim_docOrder fl ty _ v disp t
    (fun kvs w hx hsim => core nm hnm canonFloat fl ty hwf hv d v (.inl kvs) w hwt hs hx hsim)
    (serDocument_value v) (by rw [← ht, textEditPretty_eq]; rfl)

/-- the order of the entries is not seen, as a statement about two trees: ANY two items whose data differ only by the
order of the entries of their tables (at any depth: `PermTV`) and by nothing else decode alike, when one of them holds
the serializer's tree -/
theorem T07_order_not_seen (nm : Bytes) (hnm : (nm == dtName) = false) (cf : Nat → Nat) (fl : Flavour) (ty : Ty) (d : Dec)
    (v : SVal) (x : V) (hwf : WfTy ty = true) (hv : hasValue ty = false) (hwt : WellTyped ty d = true)
    (hs : serOf nm ty d = some v) (hx : serValue v = .ok x) (it it' : Item)
    (h1 : Sim cf x (plainItem it)) (hp : PermTV (plainItem it) (plainItem it')) (c c' : EditCfg) :
    decodeEdit c fl ty it = decodeEdit c' fl ty it' := by
  have a := (core nm hnm cf fl ty hwf hv d v x _ hwt hs hx h1).1 c it rfl
  have b := (core nm hnm cf fl ty hwf hv d v x _ hwt hs hx ((sim_permTV cf hp x).1 h1)).1 c' it' rfl
  rw [a, b]

theorem decodeEditFields_perm (c : EditCfg) (fl : Flavour) : ∀ (fs : Fields) (es es' : List (Bytes × ESrc)),
    es.Perm es' → (es.map Prod.fst).Nodup → decodeEditFields c fl fs es = decodeEditFields c fl fs es'
  | .nil, _, _, _, _ => by rw [decodeEditFields, decodeEditFields]
  | .cons name t dflt r, es, es', hp, hn => by
    rw [decodeEditFields, decodeEditFields, decodeEditFields_perm c fl r es es' hp hn,
      TomlVerif.Lemmas.Order18.alookup_perm name hp (TomlVerif.Lemmas.Order18.keysDistinct_of_nodup es hn)]

/-- **struct targets do not see the order of the entries of their table** — for ANY table (not only one a serializer
produced), whatever the field types: the same entries in another order, with other flags and another position, decode to
the same result. (A `BTreeMap` target sorts, and `Dec.map` is the sorted list, so no `Dec` of a map target records an
order either; the one order-sensitive `Dec` is `toml::Value` under `preserve_order`, outside `hasValue ty = false`.) -/
theorem T07_struct_fields_by_name (c : EditCfg) (fl : Flavour) (fs : Fields) (es es' : List (Bytes × Item))
    (hp : es.Perm es') (hn : (es.map Prod.fst).Nodup) (a b a' b' : Bool) (p p' : Option Nat) :
    decodeEdit c fl (.struct fs) (.table (.mk es a b p)) = decodeEdit c fl (.struct fs) (.table (.mk es' a' b' p')) := by
  have hn' : (es'.map Prod.fst).Nodup := ((hp.map Prod.fst).nodup_iff).1 hn
  unfold decodeEdit
  simp only [editMapEntries, itemEntries, Tbl.items, Option.map_some, srcKeys, dupField_nodup fs _ hn,
    dupField_nodup fs _ hn', Bool.false_eq_true, if_false]
  rw [decodeEditFields_perm c fl fs _ _ (hp.map _) (by rw [srcKeys]; exact hn)]

example : ([([97], Item.value (.int 1)), ([98], Item.value (.int 2))] : List (Bytes × Item)).Perm
    [([98], .value (.int 2)), ([97], .value (.int 1))] ∧
    (([([97], Item.value (.int 1)), ([98], Item.value (.int 2))] : List (Bytes × Item)).map Prod.fst).Nodup :=
  ⟨List.Perm.swap _ _ _, by decide⟩

theorem valSer_tree (strictNone : Bool) (v : SVal) (x : V) (hdt : wfDatetime v = true) (hun : unsupported v = false)
    (hval : valSer ⟨strictNone, true⟩ v = .ok x) : serValue v = .ok x ∧ NodupTV (tvOf x) := by
  obtain ⟨t, ht⟩ := (T07_expected_defined v).2 hun
  have hx : serValue v = .ok t := T07_tree_complete v t ht
  have hval' := T07_value_tree_current strictNone v t ht hdt
  rw [hval] at hval'
  injection hval' with hval'
  subst hval'
  exact ⟨hx, nodupTV_tvOf _ (serValue_nodup v _ hx)⟩

/-- **T07_roundtrip_value** — `Value::try_from(&d)?.try_into::<T>()`: `valSer ⟨strictNone, true⟩` is
`toml::value::ValueSerializer` (as it stands: `strictNone = false`, F30 open; repaired: `true`), `placeTV fl` builds the
maps of the build (`BTreeMap` / `IndexMap`), `decodeValue valueAsIs` is `impl Deserializer for Value` as it stands.
The exclusion `unsupported v = false` (decidable; the documented unsupported shapes, `T07_errors`) removes exactly the
values on which the document serializer reports an error — among them the F30 shape, a `None` below a field that is not
the field's own value, which `Value::try_from` as it stands swallows (`T07_roundtrip_value_F30`). -/
theorem T07_roundtrip_value (strictNone : Bool) (nm : Bytes) (hnm : (nm == dtName) = false) (fl : Flavour) (ty : Ty)
    (d : Dec) (v : SVal) (x : V) (hwf : WfTy ty = true) (hv : hasValue ty = false) (hwt : WellTyped ty d = true)
    (hs : serOf nm ty d = some v) (hun : unsupported v = false) (hval : valSer ⟨strictNone, true⟩ v = .ok x) :
    ∀ cv : ValueCfg, decodeValue cv fl ty (placeTV fl (tvOf x)) = .ok (normDec id ty d) := by
  intro cv
  obtain ⟨hx, hn⟩ := valSer_tree strictNone v x (Lemmas.TypedGaps.serOf_wfDatetimeV nm hnm ty d v hs) hun hval
  have hsim : Sim id x (placeTV fl (tvOf x)) := by
    cases fl with
    | insertion => rw [place_insertion_id _ hn]; exact sim_tvOf x
    | sorted => exact (sim_permTV id (perm_placeTV _ hn) x).2 (sim_tvOf x)
  exact (core nm hnm id fl ty hwf hv d v x _ hwt hs hx hsim).2 cv

/-- **T07_roundtrip_value_repaired** — with F30 repaired (`strictNone = true`) no exclusion is needed: whatever the
repaired `Value::try_from` accepts comes back (on typed values it refuses what the document serializer refuses) -/
theorem T07_roundtrip_value_repaired (nm : Bytes) (fl : Flavour) (ty : Ty) (d : Dec) (v : SVal) (x : V)
    (hnm : (nm == dtName) = false) (hwf : WfTy ty = true) (hv : hasValue ty = false) (hwt : WellTyped ty d = true)
    (hs : serOf nm ty d = some v) (hval : valSer ⟨true, true⟩ v = .ok x) :
    decodeValue valueAsIs fl ty (placeTV fl (tvOf x)) = .ok (normDec id ty d) :=
  T07_roundtrip_value true nm hnm fl ty d v x hwf hv hwt hs (valSer_strict_ok nm hnm ty d v x hv hs hval) hval valueAsIs

def sb := strBytes
/-- the Rust name of the structs and enums of the examples -/
def nmS : Bytes := sb "S"
theorem nmS_ok : (nmS == dtName) = false := by decide +kernel

def i64T : Ty := .int (-9223372036854775808) 9223372036854775807
def u64T : Ty := .int 0 9223372036854775807
def u16T : Ty := .int 0 65535
def u8T : Ty := .int 0 255

def getSome {α} [Inhabited α] : Option α → α
  | some a => a
  | none => default
theorem getSome_spec {α} [Inhabited α] (o : Option α) (h : o.isSome = true) : o = some (getSome o) := by
  cases o <;> simp_all [getSome]

def getOk {ε α} [Inhabited α] : Except ε α → α
  | .ok a => a
  | .error _ => default
theorem getOk_spec {ε α} [Inhabited α] (e : Except ε α) (h : e.isOk = true) : e = .ok (getOk e) := by
  cases e <;> simp_all [getOk, Except.isOk, Except.toBool]

instance : Inhabited SVal := ⟨.unit⟩
instance : Inhabited V := ⟨.arr []⟩

/-- the whole route on the model: serde calls, `to_document`, `toml_edit::de` as it stands on that document -/
def treeTrip (ty : Ty) (d : Dec) : Option (Except SerErr (R Dec)) :=
  (serOf nmS ty d).map fun v => (serDocument v).map fun kvs => decodeEdit editAsIs .sorted ty (rootItem kvs)

/-- `struct W { m: BTreeMap<String, Option<i64>> }`, `W { m: {"a": None, "b": Some(1)} }` -/
def mapNoneT : Ty := .struct (.cons (sb "m") (.map (.option i64T)) false .nil)
def mapNoneV : Dec := .struct [(sb "m", .map [(sb "a", .none), (sb "b", .some (.int 1))])]

/-- identification 3 — A LOSS OF DATA: the serializer accepts the map, the entry `"a"` does not come back -/
theorem T07_ident_map_none :
    WfTy mapNoneT = true ∧ WellTyped mapNoneT mapNoneV = true ∧
    treeTrip mapNoneT mapNoneV = some (.ok (.ok (.struct [(sb "m", .map [(sb "b", .some (.int 1))])]))) ∧
    Dec.struct [(sb "m", .map [(sb "b", .some (.int 1))])] ≠ mapNoneV := by
  refine ⟨by decide +kernel, by decide +kernel, by with_unfolding_all rfl, by simp [mapNoneV]⟩

/-- `struct P { x: f64 }` -/
def f64T : Ty := .struct (.cons (sb "x") .f64 false .nil)
/-- `struct Q { x: f32 }` -/
def f32T : Ty := .struct (.cons (sb "x") .f32 false .nil)

/-- identification 1 — `P { x: -NaN }` comes back as `P { x: NaN }` already at the tree level (`copysign(1.0)`) -/
theorem T07_ident_nan_sign :
    WellTyped f64T (.struct [(sb "x", .f64 0xFFF8000000000000)]) = true ∧
    treeTrip f64T (.struct [(sb "x", .f64 0xFFF8000000000000)]) =
      some (.ok (.ok (.struct [(sb "x", .f64 0x7FF8000000000000)]))) := by
  refine ⟨by decide +kernel, by with_unfolding_all rfl⟩

/-- identification 1, through a text — a NaN payload survives the tree (`normDec id`) and not the text (`normDec canonFloat`) -/
theorem T07_ident_nan_payload :
    normDec id f64T (.struct [(sb "x", .f64 0x7FF0000000000001)]) = .struct [(sb "x", .f64 0x7FF0000000000001)] ∧
    normDec canonFloat f64T (.struct [(sb "x", .f64 0x7FF0000000000001)]) = .struct [(sb "x", .f64 0x7FF8000000000000)] := by
  constructor <;> with_unfolding_all rfl

/-- identification 2 — `Q { x: f32::from_bits(0x7FA00001) }` (a NaN with a payload) comes back as the default quiet NaN
at the tree level: the value travels as a double and returns through `as f32`; an ordinary `f32` (here 0.1f32, 1.5f32,
the smallest subnormal, `f32::MAX`, `-inf`) comes back as itself -/
theorem T07_ident_f32_nan :
    treeTrip f32T (.struct [(sb "x", .f32 0x7FA00001)]) = some (.ok (.ok (.struct [(sb "x", .f32 0x7FC00000)]))) ∧
    (∀ b ∈ [0x3DCCCCCD, 0x3FC00000, 0x00000001, 0x7F7FFFFF, 0xFF800000, 0x80000000],
      f64ToF32 (clearNanSign (f32to64 b)) = b) := by
  refine ⟨by with_unfolding_all rfl, by decide +kernel⟩

/-- `struct D { #[serde(default)] o: Option<i64>, a: i64 }` -/
def dfltT : Ty := .struct (.cons (sb "o") (.option i64T) true (.cons (sb "a") i64T false .nil))

/-- identification 4 — `D { o: None, a: 1 }`: the skipped field comes back as `Default::default()` (= `None`; the model
writes `Dec.dflt`); not a loss -/
theorem T07_ident_default_field :
    WellTyped dfltT (.struct [(sb "o", .none), (sb "a", .int 1)]) = true ∧
    treeTrip dfltT (.struct [(sb "o", .none), (sb "a", .int 1)]) =
      some (.ok (.ok (.struct [(sb "o", .dflt), (sb "a", .int 1)]))) := by
  refine ⟨by decide +kernel, by with_unfolding_all rfl⟩

/-- `enum K { A, B(i64) }` -/
def kT : Ty := .enum (.cons (sb "A") .unit (.cons (sb "B") (.newtype i64T) .nil))

/-- `struct X { o: Option<i64>, oo: Option<Option<i64>>, e: K, v: Vec<X0>, m: BTreeMap<String, i64>, u: X0, c: char,
t: (i64, String), n: N, big: u64 }` with `struct X0 {}`, `struct N(i64)` -/
def exactT : Ty := .struct (
  .cons (sb "o") (.option i64T) false (
  .cons (sb "oo") (.option (.option i64T)) false (
  .cons (sb "e") kT false (
  .cons (sb "v") (.seq (.struct .nil)) false (
  .cons (sb "m") (.map i64T) false (
  .cons (sb "u") (.struct .nil) false (
  .cons (sb "c") .char false (
  .cons (sb "t") (.tuple (.cons i64T (.cons .string .nil))) false (
  .cons (sb "n") (.newtype i64T) false (
  .cons (sb "big") u64T false .nil))))))))))

/-- `X { o: None, oo: Some(Some(1)), e: K::A, v: vec![], m: {}, u: X0 {}, c: 'é', t: (2, "s"), n: N(3), big: i64::MAX as u64 }` -/
def exactV : Dec := .struct [
  (sb "o", .none), (sb "oo", .some (.some (.int 1))), (sb "e", .vUnit (sb "A")), (sb "v", .seq []), (sb "m", .map []),
  (sb "u", .struct []), (sb "c", .char (sb "é")), (sb "t", .tuple [.int 2, .str (sb "s")]), (sb "n", .newtype (.int 3)),
  (sb "big", .int 9223372036854775807)]

/-- a `None` field, `Some(Some(_))`, a unit variant (a string in TOML), an empty `Vec` of structs, an empty map, an empty
struct, a non-ASCII `char`, a tuple, a newtype struct, the largest `u64` the format holds: all exact -/
theorem T07_exact_samples :
    WfTy exactT = true ∧ WellTyped exactT exactV = true ∧ treeTrip exactT exactV = some (.ok (.ok exactV)) ∧
    normDec id exactT exactV = exactV := by
  have h : WfTy exactT = true ∧ hasValue exactT = false ∧ WellTyped exactT exactV = true ∧
      (serOf nmS exactT exactV).isSome = true ∧
      Except.isOk (serDocument (getSome (serOf nmS exactT exactV))) = true := by decide +kernel
  have hn : normDec id exactT exactV = exactV := by with_unfolding_all rfl
  have hs := getSome_spec _ h.2.2.2.1
  have hd := getOk_spec _ h.2.2.2.2
  -- the route of `treeTrip` is the one `T07_roundtrip_tree_doc` speaks of
  have ht := (T07_roundtrip_tree_doc nmS nmS_ok .sorted exactT exactV _ _ h.1 h.2.1 h.2.2.1 hs hd).1
  rw [hn] at ht
  refine ⟨h.1, h.2.2.1, ?_, hn⟩
  rw [treeTrip, hs, Option.map_some, hd]
  exact congrArg (some ∘ Except.ok) ht

def optOptT : Ty := .struct (.cons (sb "oo") (.option (.option i64T)) false .nil)
def unitT : Ty := .struct (.cons (sb "u") .unit false .nil)
def bigT : Ty := .struct (.cons (sb "big") u64T false .nil)
def vecOptT : Ty := .struct (.cons (sb "v") (.seq (.option i64T)) false .nil)

/-- `Some(None)`, `()`, a `u64` beyond `i64::MAX`, `vec![None]`: well-typed values, refused with the documented errors -/
theorem T07_excluded :
    WellTyped optOptT (.struct [(sb "oo", .some .none)]) = true ∧
    treeTrip optOptT (.struct [(sb "oo", .some .none)]) = some (.error .unsupportedNone) ∧
    WellTyped unitT (.struct [(sb "u", .unit)]) = true ∧
    treeTrip unitT (.struct [(sb "u", .unit)]) = some (.error .unsupportedType) ∧
    WellTyped bigT (.struct [(sb "big", .int 9223372036854775808)]) = true ∧
    treeTrip bigT (.struct [(sb "big", .int 9223372036854775808)]) = some (.error .outOfRange) ∧
    WellTyped vecOptT (.struct [(sb "v", .seq [.none])]) = true ∧
    treeTrip vecOptT (.struct [(sb "v", .seq [.none])]) = some (.error .unsupportedNone) := by
  refine ⟨by decide +kernel, by with_unfolding_all rfl, by decide +kernel, by with_unfolding_all rfl,
    by decide +kernel, by with_unfolding_all rfl, by decide +kernel, by with_unfolding_all rfl⟩

/-- `struct F { oo: Option<Option<i64>>, a: i64 }` -/
def f30T : Ty := .struct (.cons (sb "oo") (.option (.option i64T)) false (.cons (sb "a") i64T false .nil))
/-- `F { oo: Some(None), a: 1 }` -/
def f30V : Dec := .struct [(sb "oo", .some .none), (sb "a", .int 1)]
/-- `struct G { v: Vec<Option<i64>>, a: i64 }` -/
def f30T' : Ty := .struct (.cons (sb "v") (.seq (.option i64T)) false (.cons (sb "a") i64T false .nil))

/-- `Value::try_from(&d)?.try_into::<T>()` on the model -/
def valueTrip (strictNone : Bool) (ty : Ty) (d : Dec) : Option (Except SerErr (R Dec)) :=
  (serOf nmS ty d).map fun v => (valSer ⟨strictNone, true⟩ v).map fun x =>
    decodeValue valueAsIs .sorted ty (placeTV .sorted (tvOf x))

/-- **F30 on a typed value**: `Value::try_from(&F { oo: Some(None), a: 1 })` as it stands succeeds (the field is
swallowed) and `try_into::<F>()` returns `F { oo: None, a: 1 }` — a different value, no error anywhere; with a `Vec`
holding a `None` the field is swallowed too and `try_into` then fails with a missing field. The repaired serializer
(`strictNone = true`) reports `UnsupportedNone` like the document serializers. Both values are `unsupported`. -/
theorem T07_roundtrip_value_F30 :
    WellTyped f30T f30V = true ∧
    valueTrip false f30T f30V = some (.ok (.ok (.struct [(sb "oo", .none), (sb "a", .int 1)]))) ∧
    Dec.struct [(sb "oo", .none), (sb "a", .int 1)] ≠ normDec id f30T f30V ∧
    valueTrip true f30T f30V = some (.error .unsupportedNone) ∧
    treeTrip f30T f30V = some (.error .unsupportedNone) ∧
    (serOf nmS f30T f30V).map unsupported = some true ∧
    valueTrip false f30T' (.struct [(sb "v", .seq [.none]), (sb "a", .int 1)]) = some (.ok (.error .fail)) := by
  refine ⟨by decide +kernel, by with_unfolding_all rfl, ?_, by with_unfolding_all rfl, by with_unfolding_all rfl,
    by with_unfolding_all rfl, by with_unfolding_all rfl⟩
  have : normDec id f30T f30V = f30V := by with_unfolding_all rfl
  rw [this]; simp [f30V]

/-- `struct Owner { name: String, dob: Option<Date> }` -/
def ownerT : Ty := .struct (.cons (sb "name") .string false (.cons (sb "dob") (.option .date) false .nil))
/-- `struct Server { ip: String, port: u16, role: Option<String> }` -/
def serverT : Ty :=
  .struct (.cons (sb "ip") .string false (.cons (sb "port") u16T false (.cons (sb "role") (.option .string) false .nil)))
/-- `enum Mode { Fast, Custom(i64), Tuned { level: u8, label: String }, Pair(i64, String) }` -/
def modeT : Ty := .enum (.cons (sb "Fast") .unit (.cons (sb "Custom") (.newtype i64T)
  (.cons (sb "Tuned") (.struct (.cons (sb "level") u8T false (.cons (sb "label") .string false .nil)))
  (.cons (sb "Pair") (.tuple (.cons i64T (.cons .string .nil))) .nil))))
/-- `struct Config { title: String, n: i64, when: Datetime, tags: Vec<String>, owner: Owner,
servers: BTreeMap<String, Server>, mode: Mode, alt: Mode, third: Mode, fourth: Mode, opt: Option<i64> }` -/
def configT : Ty := .struct (
  .cons (sb "title") .string false (
  .cons (sb "n") i64T false (
  .cons (sb "when") .datetime false (
  .cons (sb "tags") (.seq .string) false (
  .cons (sb "owner") ownerT false (
  .cons (sb "servers") (.map serverT) false (
  .cons (sb "mode") modeT false (
  .cons (sb "alt") modeT false (
  .cons (sb "third") modeT false (
  .cons (sb "fourth") modeT false (
  .cons (sb "opt") (.option i64T) false .nil)))))))))))

/-- 1979-05-27T07:32:00Z -/
def dt1 : Datetime.Datetime := ⟨some ⟨1979, 5, 27⟩, some ⟨7, 32, 0, 0⟩, some .z⟩

def configV : Dec := .struct [
  (sb "title", .str (sb "TOML")), (sb "n", .int 42), (sb "when", .dt dt1),
  (sb "tags", .seq [.str (sb "a"), .str (sb "b")]),
  (sb "owner", .struct [(sb "name", .str (sb "Tom")), (sb "dob", .some (.dt ⟨some ⟨1979, 5, 27⟩, none, none⟩))]),
  (sb "servers", .map [
    (sb "alpha", .struct [(sb "ip", .str (sb "10.0.0.1")), (sb "port", .int 8001), (sb "role", .some (.str (sb "fe")))]),
    (sb "beta", .struct [(sb "ip", .str (sb "10.0.0.2")), (sb "port", .int 8002), (sb "role", .none)])]),
  (sb "mode", .vStruct (sb "Tuned") [(sb "level", .int 3), (sb "label", .str (sb "x"))]),
  (sb "alt", .vUnit (sb "Fast")),
  (sb "third", .vNewtype (sb "Custom") (.int (-7))),
  (sb "fourth", .vTuple (sb "Pair") [.int 5, .str (sb "q")]),
  (sb "opt", .none)]

def configS : SVal := getSome (serOf nmS configT configV)
def configKVs : List (Bytes × V) := getOk (serDocument configS)

theorem config_hyps :
    WfTy configT = true ∧ hasValue configT = false ∧ WellTyped configT configV = true ∧
    serOf nmS configT configV = some configS ∧ serDocument configS = .ok configKVs ∧ unsupported configS = false ∧
    isDtTy configT = false := by
  -- one evaluation, so that the serde calls of the value are computed once
  have h : WfTy configT = true ∧ hasValue configT = false ∧ WellTyped configT configV = true ∧
      (serOf nmS configT configV).isSome = true ∧ Except.isOk (serDocument configS) = true ∧ unsupported configS = false ∧
      isDtTy configT = false := by decide +kernel
  exact ⟨h.1, h.2.1, h.2.2.1, getSome_spec _ h.2.2.2.1, getOk_spec _ h.2.2.2.2.1, h.2.2.2.2.2⟩

theorem config_norm : normDec id configT configV = configV ∧ normDec canonFloat configT configV = configV := by
  constructor <;> with_unfolding_all rfl

/-- `T07_roundtrip_tree` on `Config`: document out, document in, the same value -/
theorem config_tree_roundtrip :
    decodeEdit editAsIs .sorted configT (rootItem configKVs) = .ok configV ∧
    tomlRoute editAsIs .insertion configT (rootItem configKVs) = .ok configV := by
  obtain ⟨h1, h2, h3, h4, h5, _, _⟩ := config_hyps
  have a := T07_roundtrip_tree_doc nmS nmS_ok .sorted configT configV configS configKVs h1 h2 h3 h4 h5
  have b := T07_roundtrip_tree_doc nmS nmS_ok .insertion configT configV configS configKVs h1 h2 h3 h4 h5
  rw [config_norm.1] at a b
  exact ⟨a.1, b.2.2⟩

/-- `T07_roundtrip_value` on `Config`: `Value::try_from` as it stands, then `try_into`, both builds of the map -/
theorem config_value_roundtrip (fl : Flavour) :
    ∃ x, valSer .current configS = .ok x ∧ decodeValue valueAsIs fl configT (placeTV fl (tvOf x)) = .ok configV := by
  obtain ⟨h1, h2, h3, h4, _, h6, _⟩ := config_hyps
  have hx : valSer .current configS = .ok (getOk (valSer .current configS)) := getOk_spec _ (by decide +kernel)
  refine ⟨_, hx, ?_⟩
  have := T07_roundtrip_value false nmS nmS_ok fl configT configV configS _ h1 h2 h3 h4 h6 hx valueAsIs
  rw [config_norm.1] at this
  exact this

mutual
/-- a decidable sufficient condition for `LeavesOkS`: integers in range, no double, date-times the crate prints and
re-reads with a year ≤ 9999 -/
def leafCheck : V → Bool
  | .sc (.int n) => Numbers.inI64 n
  | .sc (.float _) => false
  | .sc (.dt d) => dtOk d && (match d.date with | some x => decide (x.year ≤ 9999) | none => true)
  | .sc (.str _) => true
  | .sc (.bool _) => true
  | .arr xs => leafCheckList xs
  | .inl kvs => leafCheckKVs kvs
def leafCheckList : List V → Bool
  | [] => true
  | x :: r => leafCheck x && leafCheckList r
def leafCheckKVs : List (Bytes × V) → Bool
  | [] => true
  | (_, x) :: r => leafCheck x && leafCheckKVs r
end

mutual
theorem leavesOk_of_check (disp : FloatDisp) : ∀ v : V, leafCheck v = true → LeavesOkS disp v
  | .sc (.int n), h => by simpa [leafCheck, LeavesOkS, ScalarOkS] using h
  | .sc (.float _), h => by simp [leafCheck] at h
  | .sc (.dt d), h => by
    simp only [leafCheck, Bool.and_eq_true] at h
    simp only [LeavesOkS, ScalarOkS]
    have hd : Datetime.Std.fromStr (Datetime.Std.display d) = some d := by simpa [dtOk] using h.1
    refine ⟨C12.T12_std_ranges _ d hd, ?_⟩
    intro x hx
    rw [hx] at h
    simpa using h.2
  | .sc (.str _), _ => by simp [LeavesOkS, ScalarOkS]
  | .sc (.bool _), _ => by simp [LeavesOkS, ScalarOkS]
  | .arr xs, h => by simp only [leafCheck] at h; simp only [LeavesOkS]; exact leavesOk_of_checkList disp xs h
  | .inl kvs, h => by simp only [leafCheck] at h; simp only [LeavesOkS]; exact leavesOk_of_checkKVs disp kvs h
theorem leavesOk_of_checkList (disp : FloatDisp) : ∀ xs : List V, leafCheckList xs = true → LeavesOkSs disp xs
  | [], _ => by simp [LeavesOkSs]
  | x :: r, h => by
    simp only [leafCheckList, Bool.and_eq_true] at h
    simp only [LeavesOkSs]
    exact ⟨leavesOk_of_check disp x h.1, leavesOk_of_checkList disp r h.2⟩
theorem leavesOk_of_checkKVs (disp : FloatDisp) : ∀ kvs : List (Bytes × V), leafCheckKVs kvs = true → LeavesOkSKVs disp kvs
  | [], _ => by simp [LeavesOkSKVs]
  | (k, x) :: r, h => by
    simp only [leafCheckKVs, Bool.and_eq_true] at h
    simp only [LeavesOkSKVs]
    exact ⟨leavesOk_of_check disp x h.1, leavesOk_of_checkKVs disp r h.2⟩
end

theorem config_text_hyps : LeavesOkSKVs noDisp configKVs ∧ depthSKVs configKVs < LIMIT := by
  have h : leafCheckKVs configKVs = true ∧ depthSKVs configKVs < LIMIT := by decide +kernel
  exact ⟨leavesOk_of_checkKVs noDisp configKVs h.1, h.2⟩

def configEditText : Bytes := getOk (textEdit noDisp configS)
def configTomlText : Bytes := getOk (textToml false noDisp configS)
def configPrettyText : Bytes := getOk (textTomlPretty false noDisp configS)

/-- `T07_roundtrip_text_edit` / `_toml` on `Config`: the three texts (`toml_edit::ser::to_string`, `toml::to_string`,
`toml::to_string_pretty` with `byName = false`) parse, and every one deserializes to the value that was serialized -/
theorem config_text_roundtrip :
    (∃ T, Doc.parseDocument configEditText = some T ∧ decodeEdit editAsIs .sorted configT (.table T) = .ok configV) ∧
    (∃ T, Doc.parseDocument configTomlText = some T ∧ decodeEdit editAsIs .sorted configT (.table T) = .ok configV) ∧
    (∃ T, Doc.parseDocument configPrettyText = some T ∧ decodeEdit editAsIs .sorted configT (.table T) = .ok configV) := by
  obtain ⟨h1, h2, h3, h4, h5, _, h7⟩ := config_hyps
  obtain ⟨hl, hd⟩ := config_text_hyps
  have hok : Except.isOk (textEdit noDisp configS) = true ∧ Except.isOk (textToml false noDisp configS) = true ∧
      Except.isOk (textTomlPretty false noDisp configS) = true := by decide +kernel
  refine ⟨?_, ?_, ?_⟩
  · have ht : textEdit noDisp configS = .ok configEditText := getOk_spec _ hok.1
    obtain ⟨kvs, hk, hp⟩ := T07_roundtrip_text_edit nmS nmS_ok .sorted configT configV configS noDisp _ h1 h2 h3 h4 ht
    rw [h5] at hk; injection hk with hk; subst hk
    obtain ⟨T, hT, hdec⟩ := hp hl hd
    exact ⟨T, hT, by rw [← config_norm.2]; exact hdec editAsIs⟩
  · have ht : textToml false noDisp configS = .ok configTomlText := getOk_spec _ hok.2.1
    obtain ⟨kvs, hk, hp⟩ := T07_roundtrip_text_toml false false nmS nmS_ok .sorted configT configV configS noDisp _
      h1 h2 h7 h3 h4 ht
    rw [h5] at hk; injection hk with hk; subst hk
    obtain ⟨T, hT, hdec⟩ := hp hl hd
    exact ⟨T, hT, by rw [← config_norm.2]; exact hdec editAsIs⟩
  · have ht : textTomlPretty false noDisp configS = .ok configPrettyText := getOk_spec _ hok.2.2
    obtain ⟨kvs, hk, hp⟩ := T07_roundtrip_text_toml true false nmS nmS_ok .sorted configT configV configS noDisp _
      h1 h2 h7 h3 h4 ht
    rw [h5] at hk; injection hk with hk; subst hk
    obtain ⟨T, hT, hdec⟩ := hp hl hd
    exact ⟨T, hT, by rw [← config_norm.2]; exact hdec editAsIs⟩

/-- the texts really are TOML documents of the expected layout: `toml::to_string` starts with the values of the root -/
example : configTomlText.take 15 = strBytes "title = \"TOML\"\n" := by decide +kernel

end TomlVerif.Props.C07RoundTrip
