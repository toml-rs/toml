import TomlVerif.Props.C17RoundTrip
import TomlVerif.Lemmas.RoundTrip17Pieces
import TomlVerif.Lemmas.RoundTrip17Fixpoint
/-! # C17 — serialization of `toml::Value` is canonical and insensitive to map order

**Fixed point** `serialize ∘ parse ∘ serialize = serialize`: for `preserve_order` on every well-formed tree
(`T17_fixpoint`); for `BTreeMap` the statement is false on association lists that are not key-sorted
(`T17_fixpoint_statement_sorted_false`) — those are not values of that build — and holds with `SortedTV v`
(`T17_fixpoint_sorted`, `T17_roundtrip_id_sorted`). **Order insensitivity**: the `BTreeMap` values built from the same
entries in any insertion order, at any depth (`PermTV`), are one value and print byte-identically
(`T17_order_insensitive_deep`, `T17_text_deterministic`).

`toText` / `toTextTable` are Lean functions, so "the same value always serializes to the same text" is `rfl` in the
model and says nothing. At text level: the text is one piece per statement, header pieces are exactly those starting
with `[` or with a blank line and `[` (`T17_values_before_tables`, whose last conjunct `SegBlock` holds of every list of pieces), and the root's
key/value lines come first (`T17_root_values_first_text`). -/
namespace TomlVerif.Props.C17Fix
open TomlVerif.Model.DeText
open TomlVerif TomlVerif.Spec TomlVerif.Model TomlVerif.Model.TomlValue TomlVerif.Model.DeRoutes
open TomlVerif.Model.Value (LIMIT)
open TomlVerif.Lemmas.RoundTrip17
open TomlVerif.Props.C17RoundTrip

theorem toText_normTV (f : FloatText) (p : Bool) (v : TV) (h : OkV v) : toText f p (normTV v) = toText f p v :=
  toText_congr f p _ _ (ok_normTV v h).1 h (normTV_of_nrm _ (nrm_normTV v))

theorem docRoot_of_not_table (w : TV) (h : w.isTable = false) : docRoot w = w := by
  cases w with
  | tbl items => cases h
  | _ => rfl

/-- `preserve_order`: what the text of a well-formed tree decodes to prints like the tree -/
theorem T17_toText_canon_insertion (f : FloatText) (p : Bool) (v : TV) (h : OkV v) :
    toText f p (canonTV .insertion v) = toText f p v := by
  have hn := (ok_normTV v h).1
  cases ht : (normTV v).isTable with
  | false =>
    unfold canonTV
    rw [docRoot_of_not_table _ ht, placeTV_insertion _ hn, toText_normTV f p v h]
  | true =>
    obtain ⟨items, hnv⟩ : ∃ items, normTV v = .tbl items := by
      cases hv : normTV v with
      | tbl items => exact ⟨items, rfl⟩
      | _ => rw [hv] at ht; cases ht
    rw [T17_canon_insertion v items h hnv]
    rw [hnv] at hn
    have hnrm : NrmV (.tbl items) := hnv ▸ nrm_normTV v
    obtain ⟨e1, e2⟩ := emitDoc_fix items hnrm
    rw [toText_tbl f p _ _ (ok_docTbl items hn) (reV_tbl items), toText_tbl f p v items h hnv, e1, e2]

/-- `preserve_order`: `serialize ∘ parse ∘ serialize = serialize` on every well-formed tree,
    both layouts -/
theorem T17_fixpoint : T17_fixpoint_statement .insertion := by
  intro f p v t w h ht hw
  exact (T17_fixpoint_partial .insertion f p v t w h ht hw).2 (T17_toText_canon_insertion f p v h.1)

example (t : Bytes) (w : TV) (ht : toText noFloat true sample = .ok t) (hw : decodeValue .insertion t = some w) :
    toText noFloat true w = .ok t := T17_fixpoint noFloat true sample t w sample_ok ht hw
example : toText noFloat true sample = .ok samplePretty ∧ decodeValue .insertion samplePretty = some sampleInsertion :=
  ⟨sample_pretty, sample_canon_insertion ▸ T17_roundtrip .insertion noFloat true sample _ sample_ok sample_pretty⟩

theorem perm_docRoot_normTV (v : TV) : PermTV (docRoot (normTV v)) v := by
  refine .trans ?_ (perm_normTV v)
  cases normTV v with
  | tbl items => exact perm_docTbl items
  | _ => exact .refl _

/-- with duplicate-free keys the result of the round trip into `BTreeMap`s is the tree with every table sorted:
    the passes and the document order leave no trace -/
theorem T17_canon_sorted_place (v : TV) (h : NodupTV v) : canonTV .sorted v = placeTV .sorted v :=
  (permTV_place (perm_docRoot_normTV v)).2 h

theorem T17_canon_sorted (v : TV) (h : SortedTV v) : canonTV .sorted v = v := by
  rw [T17_canon_sorted_place v (sorted_nodup v h), place_sorted_id v h]

/-- a well-formed `BTreeMap`-backed value comes back as it is -/
theorem T17_roundtrip_id_sorted (f : FloatText) (p : Bool) (v : TV) (t : Bytes) (h : TVOk v) (hs : SortedTV v)
    (ht : toText f p v = .ok t) : decodeValue .sorted t = some v := by
  rw [T17_roundtrip .sorted f p v t h ht, T17_canon_sorted v hs]

/-- `T17_fixpoint_statement .sorted` with the hypothesis it lacks -/
def T17_fixpoint_sorted_statement : Prop :=
  ∀ (f : FloatText) (pretty : Bool) (v : TV) (t : Bytes) (w : TV), TVOk v → SortedTV v →
    toText f pretty v = .ok t → decodeValue .sorted t = some w → toText f pretty w = .ok t

theorem T17_fixpoint_sorted : T17_fixpoint_sorted_statement := by
  intro f p v t w h hs ht hw
  exact T17_fixpoint_canonical .sorted f p v t w h (T17_canon_sorted v hs) ht hw

theorem ba_ok : TVOk (.tbl [(strBytes "b", .int 1), (strBytes "a", .int 2)]) := by
  refine ⟨?_, by decide +kernel⟩
  simp only [OkV, OkPs, and_true]
  decide +kernel

/-- `b = 1, a = 2` (`T17_fixpoint_sorted_needs_order`)
    is well formed, prints as `b = 1\na = 2\n`, decodes to `{a = 2, b = 1}`, which prints as `a = 2\nb = 1\n` -/
theorem T17_fixpoint_statement_sorted_false : ¬ T17_fixpoint_statement .sorted := by
  intro H
  obtain ⟨h1, h2, h3⟩ := T17_fixpoint_sorted_needs_order
  have := H noFloat false _ _ _ ba_ok h1 h2
  rw [h3] at this
  injection this with this
  revert this
  decide +kernel

theorem sampleSorted_sorted : SortedTV sampleSorted := by
  simp only [sampleSorted, SortedTV, SortedPs, SortedVs, KSorted, and_true, true_and]
  decide +kernel

example (p : Bool) (t : Bytes) (ht : toText noFloat p sampleSorted = .ok t) : decodeValue .sorted t = some sampleSorted :=
  T17_roundtrip_id_sorted noFloat p sampleSorted t sampleSorted_ok sampleSorted_sorted ht
example : ∃ t, toText noFloat true sampleSorted = .ok t := by
  have h := sampleSorted_ok.1
  rw [sampleSorted] at h ⊢
  exact T17_toText_ok noFloat true _ h

/-- trees with duplicate-free keys that differ only by the order of table entries, at
    any depth, have the same canonical form for `BTreeMap` -/
theorem T17_order_insensitive_deep (v v' : TV) (hp : PermTV v' v) (hn : NodupTV v) :
    canonTV .sorted v' = canonTV .sorted v := by
  have hn' : NodupTV v' := (permTV_place hp).1.2 hn
  rw [T17_canon_sorted_place v hn, T17_canon_sorted_place v' hn']
  exact (permTV_place hp).2 hn

theorem T17_order_insensitive : T17_order_insensitive_statement := by
  intro items items' h hp
  exact T17_order_insensitive_deep _ _ (.perm hp) (okV_nodup _ h)

theorem TVOk_perm (v v' : TV) (hp : PermTV v' v) (h : TVOk v) : TVOk v' := by
  obtain ⟨h1, h2⟩ := permTV_ok hp
  exact ⟨h1.2 h.1, by rw [h2]; exact h.2⟩

/-- the texts of two trees that differ only by the order of table entries — whatever the layouts — decode, for `BTreeMap`, to the same value -/
theorem T17_decode_order_insensitive (f f' : FloatText) (p p' : Bool) (v v' : TV) (t t' : Bytes) (h : TVOk v)
    (hp : PermTV v' v) (ht : toText f p v = .ok t) (ht' : toText f' p' v' = .ok t') :
    decodeValue .sorted t' = decodeValue .sorted t := by
  rw [T17_roundtrip .sorted f p v t h ht, T17_roundtrip .sorted f' p' v' t' (TVOk_perm v v' hp h) ht',
    T17_order_insensitive_deep v v' hp (okV_nodup v h.1)]

theorem T17_sorted_unique (v v' : TV) (hs : SortedTV v) (hs' : SortedTV v') (hp : PermTV v' v) : v' = v := by
  rw [← place_sorted_id v hs, ← place_sorted_id v' hs']
  exact (permTV_place hp).2 (sorted_nodup v hs)

/-- collect the same entries (at every level, in any order: `PermTV u' u`, keys
    duplicate-free) into `BTreeMap`-backed values — `placeTV .sorted`, which does return key-sorted trees — : the two
    values are equal, so their texts are byte-identical, in either layout -/
theorem T17_text_deterministic (f : FloatText) (p : Bool) (u u' : TV) (hp : PermTV u' u) (hn : NodupTV u) :
    SortedTV (placeTV .sorted u) ∧ SortedTV (placeTV .sorted u') ∧
    placeTV .sorted u' = placeTV .sorted u ∧
    toText f p (placeTV .sorted u') = toText f p (placeTV .sorted u) := by
  have hn' : NodupTV u' := (permTV_place hp).1.2 hn
  have e := (permTV_place hp).2 hn
  exact ⟨place_is_sorted u hn, place_is_sorted u' hn', e, by rw [e]⟩

theorem T17_text_deterministic_values (f : FloatText) (p : Bool) (v v' : TV) (hs : SortedTV v) (hs' : SortedTV v')
    (hp : PermTV v' v) : toText f p v' = toText f p v := by
  rw [T17_sorted_unique v v' hs hs' hp]

/-- association lists in any order (not necessarily `BTreeMap` values): after one round trip through `BTreeMap`s
    the decoded values are equal and print byte-identically -/
theorem T17_reserialize_order_insensitive (f : FloatText) (p : Bool) (v v' : TV) (t t' : Bytes) (w w' : TV)
    (h : TVOk v) (hp : PermTV v' v) (ht : toText f p v = .ok t) (ht' : toText f p v' = .ok t')
    (hw : decodeValue .sorted t = some w) (hw' : decodeValue .sorted t' = some w') :
    w' = w ∧ toText f p w' = toText f p w := by
  have := T17_decode_order_insensitive f f p p v v' t t' h hp ht ht'
  rw [hw, hw'] at this
  injection this with this
  exact ⟨this, by rw [this]⟩

/-- `BTreeMap`, for association lists in ANY order: the decoded value `w` is
    well formed, key-sorted and a reordering of `v`; from then on the round trip is the identity and the text a
    fixed point -/
theorem T17_sorted_after_one_roundtrip (f : FloatText) (p : Bool) (v : TV) (t : Bytes) (w : TV) (h : TVOk v)
    (ht : toText f p v = .ok t) (hw : decodeValue .sorted t = some w) :
    TVOk w ∧ SortedTV w ∧ PermTV w v ∧ w = placeTV .sorted v ∧
      ∀ t2, toText f p w = .ok t2 → decodeValue .sorted t2 = some w := by
  have hn := okV_nodup v h.1
  rw [T17_roundtrip .sorted f p v t h ht, T17_canon_sorted_place v hn] at hw
  injection hw with hw
  subst hw
  have hp := perm_placeTV v hn
  have hok := TVOk_perm v _ hp h
  have hs := place_is_sorted v hn
  exact ⟨hok, hs, hp, rfl, fun t2 ht2 => T17_roundtrip_id_sorted f p _ t2 hok hs ht2⟩

example : PermTV (.tbl [(strBytes "b", .tbl [(strBytes "d", .int 2), (strBytes "c", .int 1)]), (strBytes "a", .int 0)])
    (.tbl [(strBytes "a", .int 0), (strBytes "b", .tbl [(strBytes "c", .int 1), (strBytes "d", .int 2)])]) :=
  .trans (.perm (List.Perm.swap _ _ _)) (.tbl (.cons (.refl _) (.cons (.perm (List.Perm.swap _ _ _)) .nil)))

example (items : List (Bytes × TV)) (hs : sample = .tbl items) :
    canonTV .sorted (.tbl items.reverse) = canonTV .sorted (.tbl items) :=
  T17_order_insensitive items items.reverse (hs ▸ sample_ok.1) (List.reverse_perm _)

theorem sample_nodup : NodupTV sample := okV_nodup _ sample_ok.1

/-- `sampleSorted` is the `BTreeMap` value built from the entries of `sample` -/
example : placeTV .sorted sample = sampleSorted := by
  rw [← T17_canon_sorted_place sample sample_nodup]; exact sample_canon_sorted

/-- whenever `to_string` / `to_string_pretty` succeeds, the text is the concatenation
    of the pieces `stmtTexts` (one per statement of `emitDoc`: a header `[path]\n` / `[[path]]\n`, preceded by a
    blank line unless it is the first line, or a key/value line `key = value\n`); a piece begins with `[` or
    `\n[` exactly when its statement is a header; and the pieces form a `SegBlock`. `SegBlock` holds of every list of
    pieces (`segBlock_all`); the order of lines is in `T17_root_values_first_text`. -/
theorem T17_values_before_tables (f : FloatText) (p : Bool) (v : TV) (t : Bytes) (ht : toText f p v = .ok t) :
    ∃ items : List (Bytes × TV), norm v = some (.tbl items) ∧
      t = (stmtTexts f p (ownValues items).isEmpty (emitDoc items)).flatten ∧
      (stmtTexts f p (ownValues items).isEmpty (emitDoc items)).map startsHeader =
        (emitDoc items).map TomlValue.Stmt.isHeader ∧
      SegBlock (stmtTexts f p (ownValues items).isEmpty (emitDoc items)) := by
  obtain ⟨items, hn, rfl⟩ := (Lemmas.TomlValue17.toText_ok_iff f p v t).1 ht
  exact ⟨items, hn, renderStmts_flatten f p _ _, stmtTexts_class f p _ _, segBlock_all _⟩

theorem stmtTexts_kvs (f : FloatText) (p : Bool) (first : Bool) (l : List (Bytes × TV)) :
    stmtTexts f p first (l.map fun e => TomlValue.Stmt.kv e.1 e.2) =
      l.map fun e => stmtText f p false (.kv e.1 e.2) := by
  induction l with
  | nil => rfl
  | cons x r ih => simp [stmtTexts, ih]

/-- the root section: the first `(ownValues items).length` pieces are the root's key/value lines, in the order of
    `items` (for `toText`: the order after the three passes); what follows is empty or begins with a header piece -/
theorem T17_root_values_first_text (f : FloatText) (p first : Bool) (items : List (Bytes × TV)) :
    ∃ rest, stmtTexts f p first (emitDoc items) =
        (ownValues items).map (fun e => stmtText f p false (.kv e.1 e.2)) ++ rest ∧ segHeaderFirst rest := by
  rw [Lemmas.TomlValue17.emitDoc_eq, stmtTexts_append]
  refine ⟨_, by rw [ownKvs, stmtTexts_kvs], ?_⟩
  exact segHeaderFirst_of f p _ _
    (TomlVerif.Lemmas.TomlValue17.blocks_headerFirst (TomlVerif.Lemmas.TomlValue17.emitSubs_blocks [] items))

example : ∃ items, norm sample = some (.tbl items) ∧
    (stmtTexts noFloat false (ownValues items).isEmpty (emitDoc items)).map startsHeader =
      [false, false, true, false, true, false, true, false, true, false, true, false, true, false] := by
  refine ⟨_, norm_eq sample sample_ok.1, ?_⟩
  decide +kernel

end TomlVerif.Props.C17Fix
