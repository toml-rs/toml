import TomlVerif.Props.C03Doc
import TomlVerif.Lemmas.Tiling03InlineRun
import TomlVerif.Lemmas.Bytes
/-! C03, dotted keys inside inline tables — value tiling for inline tables with ADJACENT dotted keys
    spelled consistently (`{a.b = 1, a.c = 2}`), at any nesting.

    `T03_value_tiling_statement` is false (F15: `{a .b=1,a.c=2}` prints `{a .b=1,a .c=2}`) because an
    inline table keeps one `Key` per entry.  The class here is SOURCE-side, like `nestRun` for
    documents: `dottedInlRun s` (`Lemmas/Tiling03InlineRun.lean`) re-runs the value parser on
    `s` and, for each inline table met, re-runs `table_from_pairs` over its pairs with the check
    `insOk` before each `cinlInsert` step (`pairsOk`, `Lemmas/Tiling03Inline.lean`).
    The last key of a pair is always new (`cinlInsert` rejects duplicates), and a segment that
    names no existing entry creates a fresh dotted table appended at the end, so nothing is
    required of those. -/
namespace TomlVerif.Props.C03More
open TomlVerif TomlVerif.Model TomlVerif.Model.Cst TomlVerif.Model.Encode
open TomlVerif.Lemmas.Cst03 TomlVerif.Lemmas.Tiling03 TomlVerif.Lemmas.Tiling03More TomlVerif.Props.C03

/-- for any decor transformation fixing the pieces of the
    source, an accepted value whose run passes the adjacency/spelling check prints as its source -/
theorem value_tiling_dotted_inline_gen (f : Bytes → Bytes) (s : Bytes) (hf : FixOn f s) (v : CVal)
    (h : parseCstValue s = some v) (hc : dottedInlRun s = true) : encodeValue f s v [] [] = s := by
  unfold parseCstValue at h
  split at h
  · rename_i v0 hv
    injection h with h; subst h
    obtain ⟨t, ht, htile⟩ := cvalue_tiling_dotted f s hf _ 0 s [] v0 (List.suffix_refl s) hv
    rw [List.append_nil] at ht
    rw [htile hc [] [], ← ht]
  · cases h

/-- scalars, arrays and inline tables at any nesting, where inside every inline table the dotted keys with
    a common prefix are adjacent and spell the shared prefix segments alike (`dottedInlRun`):
    the recorded pieces tile the source exactly. -/
theorem T03_value_tiling_dotted_inline (s : Bytes) (v : CVal) (h : parseCstValue s = some v)
    (hc : dottedInlRun s = true) : verbatimValue s v = s :=
  value_tiling_dotted_inline_gen id s (FixOn.id s) v h hc

/-- the same for the real printer when the source has no CR -/
theorem T03_value_print_dotted_inline (s : Bytes) (v : CVal) (h : parseCstValue s = some v)
    (hc : dottedInlRun s = true) (hcr : ∀ b ∈ s, b ≠ 0x0D) : printValue s v = s :=
  value_tiling_dotted_inline_gen stripCr s (FixOn.stripCr s hcr) v h hc

/-- the class extends `simpleVal` (the class of `T03_value_tiling_inline_partial`): a value whose
    inline tables have only one-segment keys passes the check -/
theorem dottedInlRun_of_simple (s : Bytes) (v : CVal) (h : parseCstValue s = some v)
    (hsimple : simpleVal v = true) : dottedInlRun s = true := by
  unfold parseCstValue at h
  split at h
  · rename_i v0 hv
    injection h with h; subst h
    exact (okValue_of_simple s _).1 _ _ _ _ hv hsimple
  · cases h

/-- so `T03_value_tiling_inline_partial` is an instance of `T03_value_tiling_dotted_inline` -/
theorem T03_value_tiling_inline_partial' (s : Bytes) (v : CVal) (h : parseCstValue s = some v)
    (hsimple : simpleVal v = true) : verbatimValue s v = s :=
  T03_value_tiling_dotted_inline s v h (dottedInlRun_of_simple s v h hsimple)

def exAdjacent : Bytes := strBytes "{a.b = 1, a.c = 2}"

example : (parseCstValue exAdjacent).isSome = true ∧ dottedInlRun exAdjacent = true ∧
    (parseCstValue exAdjacent).map simpleVal = some false ∧
    (parseCstValue exAdjacent).map (verbatimValue exAdjacent) = some exAdjacent := by
  rw [exAdjacent, strBytes_eq rfl]
  decide +kernel

/-- nested: dotted keys with inner spaces, a dotted inline table as a value, an inline table with
    a dotted key inside an array -/
def exNestedDotted : Bytes := strBytes "{ x = 1, a . b = {u.v = 1, u.w = 2}, a . c = [ {p.q=1} ] }"

example : (parseCstValue exNestedDotted).isSome = true ∧ dottedInlRun exNestedDotted = true ∧
    (parseCstValue exNestedDotted).map simpleVal = some false ∧
    (parseCstValue exNestedDotted).map (verbatimValue exNestedDotted) = some exNestedDotted ∧
    (exNestedDotted.all fun b => b != 0x0D) = true ∧
    (parseCstValue exNestedDotted).map (printValue exNestedDotted) = some exNestedDotted := by
  rw [exNestedDotted, strBytes_eq rfl]
  decide +kernel

/-- three levels, a quoted segment, a comment and a line break inside a nested array -/
def exDeep : Bytes := strBytes "[ {a.\"b c\".d=1,a.\"b c\".e=2,a.f=3, g = [1, # c\n {h . i = 1, h . j = 2}]} ]"

example : (parseCstValue exDeep).isSome = true ∧ dottedInlRun exDeep = true ∧
    (parseCstValue exDeep).map (verbatimValue exDeep) = some exDeep := by
  rw [exDeep, strBytes_eq rfl]
  decide +kernel

/-- `dottedInlRun_of_simple` on `C03Doc.exInline`, a `simpleVal` value -/
example : (parseCstValue C03Doc.exInline).map simpleVal = some true ∧
    dottedInlRun C03Doc.exInline = true := by
  rw [C03Doc.exInline, strBytes_eq rfl]
  decide +kernel

/-- respelled prefix (F15): `{a .b=1,a.c=2}` is accepted, fails the check, and is printed
    `{a .b=1,a .c=2}` -/
example : (parseCstValue exRespelled).isSome = true ∧ dottedInlRun exRespelled = false ∧
    (parseCstValue exRespelled).map (verbatimValue exRespelled) = some (strBytes "{a .b=1,a .c=2}") := by
  decide +kernel

def exNonAdjacent : Bytes := strBytes "{a.b=1,c=2,a.d=3}"

/-- non-adjacent dotted keys: accepted, fails the check, and is printed regrouped -/
example : (parseCstValue exNonAdjacent).isSome = true ∧ dottedInlRun exNonAdjacent = false ∧
    (parseCstValue exNonAdjacent).map (verbatimValue exNonAdjacent) = some (strBytes "{a.b=1,a.d=3,c=2}") := by
  rw [exNonAdjacent]
  simp only [strBytes_eq rfl]
  decide +kernel

/-- the same one level down: `a.b` is re-entered after `a.e` -/
example : dottedInlRun (strBytes "{a.b.c=1,a.e=3,a.b.d=2}") = false ∧
    (parseCstValue (strBytes "{a.b.c=1,a.e=3,a.b.d=2}")).map (verbatimValue (strBytes "{a.b.c=1,a.e=3,a.b.d=2}"))
      = some (strBytes "{a.b.c=1,a.b.d=2,a.e=3}") := by
  simp only [strBytes_eq rfl]
  decide +kernel

/-- a prefix respelled with quotes: `{a.b=1,"a".c=2}` prints `{a.b=1,a.c=2}` -/
example : dottedInlRun (strBytes "{a.b=1,\"a\".c=2}") = false ∧
    (parseCstValue (strBytes "{a.b=1,\"a\".c=2}")).map (verbatimValue (strBytes "{a.b=1,\"a\".c=2}"))
      = some (strBytes "{a.b=1,a.c=2}") := by
  simp only [strBytes_eq rfl]
  decide +kernel

/-- the check is per table: one bad table anywhere fails the run -/
example : dottedInlRun (strBytes "[{a.b=1,a.c=2}, {a .b=1,a.c=2}]") = false := by
  rw [strBytes_eq rfl]
  decide +kernel

end TomlVerif.Props.C03More
