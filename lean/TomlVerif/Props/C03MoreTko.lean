import TomlVerif.Props.C03MoreSem
import TomlVerif.Lemmas.Same03Main
import TomlVerif.Lemmas.Bytes
/-! C03 — same data when a `[t]` header TAKES OVER an implicit table.

    `adjRun` (`Props/C03MoreSem.lean`) excludes a `[t]` header on a table `t` that exists
    implicitly (made by an earlier `[t.u]` / `[[t.u]]`): the parser erases `t` from its parent,
    makes its items the items of the new current table and re-inserts it at `finalize_table`, at
    the END of its parent.

    The class.  `tkoRun s` (`Lemmas/Tiling03MoreTkoDefs.lean`) is `adjRun s` where the header
    check `pathOkA` is relaxed to `pathOkT` at the LAST key of a `[…]` header: it may name an
    existing table `t'` with `t'.implicit && !t'.dotted` (the parser's own condition) provided
      * the key is spelled like the stored key as a path segment (`sameSeg`: key text and the
        blanks around it) — the stored key is replaced by the header's, so the headers of the
        sub-tables of `t'` are printed under the new spelling; with `sameSeg` their text is
        unchanged (without it the data is still the same, but that is not proved here);
      * `t'` holds only non-dotted sub-tables and arrays of tables (`onlySubs`).  In general an
        implicit table can hold more (`[a.b.d]`, `[a]`, `b.c.e = 3` puts a dotted-key table into
        the implicit `a.b`), but `kvLineOkA` rejects such a key/value line; the check is made
        again at the header so that the proof does not need that fact.
    Everything else is as in `adjRun`: no header through a dotted-key table or a value, dotted
    keys adjacent (`kvLineOkA` unchanged).  Headers THROUGH dotted-key tables are not admitted.

    The class is inside `genRun2` (`Props/C03MoreGen3.lean`).  A take-over moves the sub-tables
    of the table taken over to the end of the parent; the printed text does not change, because
    the printer sorts by recorded position, positions are distinct, and the current table still
    has the largest one. -/
namespace TomlVerif.Props.C03More
open TomlVerif TomlVerif.Model TomlVerif.Model.Cst TomlVerif.Model.Encode
open TomlVerif.Lemmas.Tiling03More TomlVerif.Lemmas.Tiling03More.Tko

theorem T03_adjRun_tkoRun (s : Bytes) (h : adjRun s = true) : tkoRun s = true :=
  adjRun_T s h

/-- for every source in the class — no hypothesis on BOM, CR, final
    newline, spelling of other names or values — the printed text decodes to the same table -/
theorem T03_same_data_takeover (s : Bytes) (d : CDoc) (h : parseCst s = some d) (hrun : tkoRun s = true) :
    Doc.parseDocument (printDoc s d) = Doc.parseDocument s := by
  rw [same_data_tko s d h hrun, ← T03_cst_erases_to_doc s, h]; rfl

/-- … and is accepted by the format-preserving parser, with the same data -/
theorem T03_same_data_takeover_cst (s : Bytes) (d : CDoc) (h : parseCst s = some d) (hrun : tkoRun s = true) :
    ∃ d', parseCst (printDoc s d) = some d' ∧ eraseTbl d'.root = eraseTbl d.root :=
  (T03_reparse_iff_doc (printDoc s d) (fun t => t = eraseTbl d.root)).2 ⟨_, same_data_tko s d h hrun, rfl⟩

example : tkoRun (strBytes "[x.y]\n[z]\n[x]\nk = 1\n") = true ∧ adjRun (strBytes "[x.y]\n[z]\n[x]\nk = 1\n") = false ∧
    sameData (strBytes "[x.y]\n[z]\n[x]\nk = 1\n") = some true ∧
    (parseCst (strBytes "[x.y]\n[z]\n[x]\nk = 1\n")).map (printDoc (strBytes "[x.y]\n[z]\n[x]\nk = 1\n"))
      = some (strBytes "[x.y]\n[z]\n[x]\nk = 1\n") := by
  simp only [strBytes_eq rfl]
  decide +kernel

example : tkoRun (strBytes "[x.y]\nq = 1\n[x]\nk = 1\n[x.w]\n") = true ∧
    adjRun (strBytes "[x.y]\nq = 1\n[x]\nk = 1\n[x.w]\n") = false ∧
    sameData (strBytes "[x.y]\nq = 1\n[x]\nk = 1\n[x.w]\n") = some true := by
  simp only [strBytes_eq rfl]
  decide +kernel

example : tkoRun (strBytes "[[a.b]]\n[a]\nk = 1\n") = true ∧ adjRun (strBytes "[[a.b]]\n[a]\nk = 1\n") = false ∧
    sameData (strBytes "[[a.b]]\n[a]\nk = 1\n") = some true := by
  simp only [strBytes_eq rfl]
  decide +kernel

/-- a take-over followed by dotted keys (respelled), deeper sub-tables, an array of tables, CR LF,
    no final newline -/
def exTko : Bytes := strBytes "[x.y]\r\n[x]\r\na.b = 1\r\na . c = 2\r\n[x.y.z]\r\n[[x.q]]\r\n[x.y.z.w] # c"

example : tkoRun exTko = true ∧ adjRun exTko = false ∧ sameData exTko = some true := by
  simp only [exTko, strBytes_eq rfl]
  decide +kernel

/-- the smaller classes are inside (`T03_adjRun_tkoRun`) -/
example : tkoRun exSemAll = true ∧ tkoRun exOrd2 = true ∧ tkoRun exCargoOrd = true :=
  ⟨T03_adjRun_tkoRun _ exSemAll_adjRun, T03_adjRun_tkoRun _ (T03_ordRunV_adjRun _ exOrd2_ordRunV),
    T03_adjRun_tkoRun _ (T03_ordRunV_adjRun _ exCargoOrd_ordRunV)⟩

/-- a take-over under another spelling of the key (the headers of the sub-tables are then printed
    with the new spelling): outside the class; the data is the same -/
example : tkoRun (strBytes "[x .y]\n[x]\n") = false ∧ sameData (strBytes "[x .y]\n[x]\n") = some true ∧
    (parseCst (strBytes "[x .y]\n[x]\n")).map (printDoc (strBytes "[x .y]\n[x]\n"))
      = some (strBytes "[x.y]\n[x]\n") :=
  ⟨by simp only [strBytes_eq rfl]; decide +kernel, sameData_reopened_respelled, by simp only [strBytes_eq rfl]; decide +kernel⟩

/-- headers through dotted-key tables: outside the class; the data is the same -/
example : tkoRun (strBytes "[t]\na.b = 1\n[t.a.c]\n") = false ∧ sameData (strBytes "[t]\na.b = 1\n[t.a.c]\n") = some true ∧
    tkoRun (strBytes "a.b = 1\n[a.c]\n") = false :=
  ⟨by simp only [strBytes_eq rfl]; decide +kernel, sameData_through_dotted, by simp only [strBytes_eq rfl]; decide +kernel⟩

/-- non-adjacent dotted keys, and the counterexample of `T03_same_data_counterexample` -/
example : tkoRun (strBytes "a.b = 1\nc = 2\na.d = 3\n") = false ∧
    tkoRun (strBytes "[a.b.d]\n[a]\nb.c.e = 3\n") = false ∧
    sameData (strBytes "[a.b.d]\n[a]\nb.c.e = 3\n") = some false :=
  ⟨by simp only [strBytes_eq rfl]; decide +kernel, by simp only [strBytes_eq rfl]; decide +kernel, sameData_implicitDotted⟩

end TomlVerif.Props.C03More
