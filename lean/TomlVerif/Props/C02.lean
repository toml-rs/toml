import TomlVerif.Props.C10
/-! # C02 — the strings the writer produces decode to exactly the string: C10's round trip under the name of C02 -/
namespace TomlVerif.Props.C02
open TomlVerif TomlVerif.Spec TomlVerif.Model TomlVerif.Model.Strings TomlVerif.Model.Write

theorem T02_string_written (st : VStyle) (s tok rest : Bytes) (h : writeValue st s = some tok)
    (hr : TomlVerif.Props.C10.ValueFollow rest) : Strings.string (tok ++ rest) = .ok s rest :=
  TomlVerif.Props.C10.T10_value st s tok rest h hr

end TomlVerif.Props.C02
