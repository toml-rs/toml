import TomlVerif.Props.C03Nest
import TomlVerif.Lemmas.Tiling03BomLf
import TomlVerif.Lemmas.CstEraseDoc
import TomlVerif.Spec.OrderedPlain
import TomlVerif.Spec.Encode06
import TomlVerif.Lemmas.Bytes
/-! C03 — the classes `nestRun dot` of `Props/C03Nest.lean` from the source side alone, what a class
    of exactly tiled documents proves (`Tiles`), the same-data clause and its counterexamples, the
    erasure.  `preorderDoc d` is not a hypothesis: it FOLLOWS from the checked run, so the theorems of
    the classes have the single source-side hypothesis `nestRun dot s = true`. -/
namespace TomlVerif.Props.C03More
open TomlVerif TomlVerif.Model TomlVerif.Model.Cst TomlVerif.Model.Encode
open TomlVerif.Lemmas.Cst03 TomlVerif.Lemmas.Tiling03 TomlVerif.Lemmas.Tiling03Hdr TomlVerif.Lemmas.Tiling03Nest
open TomlVerif.Lemmas.Tiling03More
open TomlVerif.Props.C03 TomlVerif.Props.C03Doc TomlVerif.Props.C03Hdr TomlVerif.Props.C03Nest
open TomlVerif.Spec.OrderedPlain

/-- the tree a checked run builds has no root decor, its tables are met by
    `visit_nested_tables` in position order, every header has an explicit prefix decor -/
theorem T03_preorder_of_run (dot : Bool) (s : Bytes) (d : CDoc) (h : parseCst s = some d)
    (hrun : nestRun dot s = true) : preorderDoc d = true :=
  preorder_of_runV s d h (nestRun_V dot s hrun)

/-- for an accepted source the classes are their source sides -/
theorem dottedDoc_iff_run (s : Bytes) (d : CDoc) (h : parseCst s = some d) :
    dottedDoc s d = true ↔ nestRun true s = true := by
  rw [dottedDoc_iff]
  exact ⟨fun h' => h'.1, fun h' => ⟨h', T03_preorder_of_run true s d h h'⟩⟩

theorem nestedDoc_iff_run (s : Bytes) (d : CDoc) (h : parseCst s = some d) :
    nestedDoc s d = true ↔ nestRun false s = true := by
  rw [nestedDoc_iff]
  exact ⟨fun h' => h'.1, fun h' => ⟨h', T03_preorder_of_run false s d h h'⟩⟩

/-- a source whose checked run passes (adjacent dotted keys, every
    repeated key segment spelled like its first occurrence and naming the last item of its parent,
    simple values) without BOM and CR, ending in a newline, prints back byte for byte -/
theorem T03_doc_tiling_source (s : Bytes) (d : CDoc) (h : parseCst s = some d) (hrun : nestRun true s = true)
    (hbom : Doc.stripBom s = s) (hcr : ∀ b ∈ s, b ≠ 0x0D) (hnl : s.getLast? = some 0x0A ∨ s = []) :
    printDoc s d = s :=
  T03_doc_tiling_run true s d h hrun hbom hcr hnl

theorem T03_doc_verbatim_source (s : Bytes) (d : CDoc) (h : parseCst s = some d) (hrun : nestRun true s = true) :
    ∃ out eol, verbatimDoc s d = out ++ eol ∧ EolRel out (Doc.stripBom s) ∧ EolOk eol (Doc.stripBom s) :=
  T03_doc_verbatim_run true s d h hrun

theorem T03_doc_crlf_source (s : Bytes) (d : CDoc) (h : parseCst s = some d) (hrun : nestRun true s = true) :
    ∃ eol, DropCr (printDoc s d) (Doc.stripBom s ++ eol) ∧
      stripCr (printDoc s d) = stripCr (Doc.stripBom s) ++ eol ∧ EolOk eol (Doc.stripBom s) :=
  T03_doc_crlf_run true s d h hrun

theorem T03_doc_norm_source (s : Bytes) (d : CDoc) (h : parseCst s = some d) (hrun : nestRun true s = true)
    (hcr : ∀ b ∈ s, b ≠ 0x0D) : ∃ eol, printDoc s d = Doc.stripBom s ++ eol ∧ EolOk eol (Doc.stripBom s) :=
  T03_doc_norm_run true s d h hrun hcr

theorem T03_print_fixpoint_source (s : Bytes) (d : CDoc) (h : parseCst s = some d) (hrun : nestRun true s = true)
    (hbom : Doc.stripBom s = s) (hcr : ∀ b ∈ s, b ≠ 0x0D) (hnl : s.getLast? = some 0x0A ∨ s = []) :
    ∃ d', parseCst (printDoc s d) = some d' ∧ printDoc (printDoc s d) d' = printDoc s d :=
  fixpoint_of_tiling h (T03_doc_tiling_source s d h hrun hbom hcr hnl)

theorem T03_same_data_source (s : Bytes) (d : CDoc) (h : parseCst s = some d) (hrun : nestRun true s = true)
    (hbom : Doc.stripBom s = s) (hcr : ∀ b ∈ s, b ≠ 0x0D) (hnl : s.getLast? = some 0x0A ∨ s = []) :
    ∃ d', parseCst (printDoc s d) = some d' ∧ eraseTbl d'.root = eraseTbl d.root := by
  rw [T03_doc_tiling_source s d h hrun hbom hcr hnl]
  exact ⟨d, h, rfl⟩

/-- non-vacuity: the `Cargo.toml`-like example, the nested example and the CR LF example of
    `C03Nest` pass the source-side check alone -/
example : nestRun true exCargo = true ∧ (parseCst exCargo).isSome = true ∧
    Doc.stripBom exCargo = exCargo ∧ (exCargo.all fun b => b != 0x0D) = true ∧
    exCargo.getLast? = some 0x0A :=
  ⟨exCargo_eval.2.1, exCargo_eval.2.2.1, exCargo_eval.1.2⟩

example : nestRun false exNested = true ∧ (parseCst exNested).isSome = true := exNested_eval.2

example : nestRun true exNestedCrlf = true ∧ (parseCst exNestedCrlf).isSome = true :=
  ⟨exNestedCrlf_eval.2.1, exNestedCrlf_eval.2.2.1⟩

/-- the converse fails: `preorderDoc` does not imply the run check (a respelled `[[ c ]]`) -/
example : nestRun true (strBytes "[[c]]\n[[ c ]]\n") = false ∧
    (parseCst (strBytes "[[c]]\n[[ c ]]\n")).map preorderDoc = some true := by decide +kernel

/-- Over any decor transformation that fixes the pieces of the source, the printer writes the
    source without its BOM, up to the CR of line ends and a final LF.  Each class of documents
    proves this of its members; the statements of a class are read off it below. -/
def Tiles (s : Bytes) (d : CDoc) : Prop :=
  ∀ f, FixOn f s →
    ∃ out eol, printDocG f s d = out ++ eol ∧ EolRel out (Doc.stripBom s) ∧ EolOk eol (Doc.stripBom s)

theorem Tiles.verbatim {s : Bytes} {d : CDoc} (H : Tiles s d) :
    ∃ out eol, verbatimDoc s d = out ++ eol ∧ EolRel out (Doc.stripBom s) ∧ EolOk eol (Doc.stripBom s) :=
  H id (FixOn.id s)

theorem Tiles.crlf {s : Bytes} {d : CDoc} (H : Tiles s d) :
    ∃ eol, DropCr (printDoc s d) (Doc.stripBom s ++ eol) ∧
      stripCr (printDoc s d) = stripCr (Doc.stripBom s) ++ eol ∧ EolOk eol (Doc.stripBom s) :=
  crlf_of_verbatim H.verbatim

theorem Tiles.norm {s : Bytes} {d : CDoc} (H : Tiles s d) (hcr : ∀ b ∈ s, b ≠ 0x0D) :
    ∃ eol, printDoc s d = Doc.stripBom s ++ eol ∧ EolOk eol (Doc.stripBom s) :=
  eolRel_noCr (H stripCr (FixOn.stripCr s hcr)) hcr

theorem Tiles.tiling {s : Bytes} {d : CDoc} (H : Tiles s d) (h : parseCst s = some d)
    (hbom : Doc.stripBom s = s) (hcr : ∀ b ∈ s, b ≠ 0x0D) (hnl : s.getLast? = some 0x0A ∨ s = []) :
    printDoc s d = s :=
  tiling_of_norm h (H.norm hcr) hbom hnl

theorem Tiles.comments {s : Bytes} {d : CDoc} (H : Tiles s d) (c : Bytes) (hc : c <:+: Doc.stripBom s)
    (hcr : ∀ b ∈ c, b ≠ 0x0D) : c <:+: printDoc s d := by
  obtain ⟨eol, hd, _, _⟩ := H.crlf
  exact DropCr.infix_noCr hd (List.infix_append_of_infix_left hc) hcr

theorem nestRun_tiles {dot : Bool} {s : Bytes} {d : CDoc} (h : parseCst s = some d)
    (hrun : nestRun dot s = true) : Tiles s d :=
  fun f hf => nest_doc_textV f s d hf h (nestRun_V dot s hrun)

/-- in the class, every piece of the source (after the BOM) that
    contains no CR — in particular every comment, from its `#` to the end of its line — occurs in
    the printed text, whatever the line ends, BOM or final newline of the source -/
theorem T03_comments_kept_source (s : Bytes) (d : CDoc) (h : parseCst s = some d) (hrun : nestRun true s = true)
    (c : Bytes) (hc : c <:+: Doc.stripBom s) (hcr : ∀ b ∈ c, b ≠ 0x0D) : c <:+: printDoc s d :=
  (nestRun_tiles h hrun).comments c hc hcr

/-- with CR LF line ends: the two comments survive, their CRs do not belong to them -/
example : (parseCst exNestedCrlf).isSome = true ∧ nestRun true exNestedCrlf = true ∧
    strBytes "# c" <:+: Doc.stripBom exNestedCrlf ∧
    (parseCst exNestedCrlf).map (fun d => decide (strBytes "# c" <:+: printDoc exNestedCrlf d)) = some true :=
  ⟨exNestedCrlf_eval.2.2.1, exNestedCrlf_eval.2.1, exNestedCrlf_eval.2.2.2⟩

/-- outside the class the statement "every CR-free piece is kept" fails (a respelled key loses
    its white space), so the general clause must speak about comments proper: texts from a `#`
    outside strings to the end of the line.  They live in decor pieces that belong to NEW entries
    (key prefix, value suffix, header decor, array decor, document trailing), never in the key
    decor a respelling drops. -/
example : (parseCst (strBytes "[a]\n[ a .d]\n")).map
    (fun d => decide (strBytes "[ a ." <:+: printDoc (strBytes "[a]\n[ a .d]\n") d)) = some false := by
  decide +kernel

/-- T03_same_data_statement is FALSE.  `[a.b.d]` makes `a.b` implicitly; `[a]` followed by the
    dotted key `b.c.e = 3` adds a dotted-key table `c` below the implicit `a.b`.  The printer
    cannot write `b.c.e = 3` under `[a]` (`a.b` is not a dotted-key table), so it writes a header
    `[a.b]` — after which `a.b` is an explicit table with a position of its own. -/
def exImplicitDotted : Bytes := strBytes "[a.b.d]\n[a]\nb.c.e = 3\n"

/-- the `implicit` flag of the table `a.b` -/
def probeAB (t : Tbl) : Option Bool :=
  match alookup (strBytes "a") t.items with
  | some (.table a) =>
    (match alookup (strBytes "b") a.items with
     | some (.table b) => some b.implicit
     | _ => none)
  | _ => none

/-- a probe that tells the data `F` of a source from that of its printed text refutes
    "printing keeps `F`" -/
theorem reparse_probe {α β : Type} (F : CDoc → α) (probe : α → β) (s : Bytes) (a b : β) (hab : a ≠ b)
    (h1 : (parseCst s).map (fun d => probe (F d)) = some a)
    (h2 : (parseCst s).bind (fun d => (parseCst (printDoc s d)).map fun d' => probe (F d')) = some b) :
    ¬ ∀ (s : Bytes) (d : CDoc), parseCst s = some d → ∃ d', parseCst (printDoc s d) = some d' ∧ F d' = F d := by
  intro h
  cases hd : parseCst s with
  | none => rw [hd] at h1; cases h1
  | some d =>
    obtain ⟨d', e1, e2⟩ := h s d hd
    rw [hd] at h1 h2
    simp only [Option.map_some, Option.bind_some, e1, Option.some.injEq] at h1 h2
    rw [e2, h1] at h2
    exact hab h2

/-- the evaluation the counterexample and the two examples below quote: `exImplicitDotted` parsed, printed and
    parsed again, once -/
theorem exImplicitDotted_eval :
    (parseCst exImplicitDotted).map (fun d => probeAB (eraseTbl d.root)) = some (some true) ∧
    (parseCst exImplicitDotted).bind (fun d =>
      (parseCst (printDoc exImplicitDotted d)).map fun d' => probeAB (eraseTbl d'.root)) = some (some false) ∧
    (parseCst exImplicitDotted).map (printDoc exImplicitDotted)
      = some (strBytes "[a.b.d]\n[a]\n\n[a.b]\nc.e = 3\n") ∧
    (parseCst exImplicitDotted).bind (fun d =>
      (parseCst (printDoc exImplicitDotted d)).map fun d' =>
        probeAB (eraseTbl d'.root) != probeAB (eraseTbl d.root)) = some true := by
  rw [exImplicitDotted]
  simp only [strBytes_eq rfl]
  decide +kernel

theorem T03_same_data_counterexample : ¬ T03_same_data_statement :=
  reparse_probe (fun d => eraseTbl d.root) probeAB exImplicitDotted (some true) (some false) (by decide)
    exImplicitDotted_eval.1 exImplicitDotted_eval.2.1

example : (parseCst exImplicitDotted).map (printDoc exImplicitDotted)
    = some (strBytes "[a.b.d]\n[a]\n\n[a.b]\nc.e = 3\n") := exImplicitDotted_eval.2.2.1

example : (parseCst exImplicitDotted).bind (fun d =>
      (parseCst (printDoc exImplicitDotted d)).map fun d' =>
        probeAB (eraseTbl d'.root) != probeAB (eraseTbl d.root)) = some true := exImplicitDotted_eval.2.2.2

/-- keeping the ORDER of the entries is still too much: with one more key/value after the dotted
    key, `[a]` holds `b` before `k` in the source tree, `k` before `b` after re-parsing the print
    (`start_table` takes the implicit `a.b` out of `a` and `finalize_table` appends it again) -/
def exImplicitDotted2 : Bytes := strBytes "[a.b.d]\n[a]\nb.c.e = 3\nk = 1\n"

def T03_same_plain_ordered_statement : Prop :=
  ∀ (s : Bytes) (d : CDoc), parseCst s = some d →
    ∃ d', parseCst (printDoc s d) = some d' ∧ toPlain (eraseTbl d'.root) = toPlain (eraseTbl d.root)

/-- the keys of the table `a`, in order -/
def probeKeysA : Plain → Option (List Bytes)
  | .tbl es =>
    (match alookup (strBytes "a") es with
     | some (.tbl fs) => some (fs.map (·.1))
     | _ => none)
  | _ => none

theorem exImplicitDotted2_eval :
    (parseCst exImplicitDotted2).map (fun d => probeKeysA (toPlain (eraseTbl d.root)))
      = some (some [strBytes "b", strBytes "k"]) ∧
    (parseCst exImplicitDotted2).bind (fun d =>
      (parseCst (printDoc exImplicitDotted2 d)).map fun d' => probeKeysA (toPlain (eraseTbl d'.root)))
      = some (some [strBytes "k", strBytes "b"]) ∧
    (parseCst exImplicitDotted2).map (printDoc exImplicitDotted2)
      = some (strBytes "[a.b.d]\n[a]\nk = 1\n\n[a.b]\nc.e = 3\n") := by
  rw [exImplicitDotted2]
  simp only [strBytes_eq rfl]
  decide +kernel

theorem T03_same_plain_ordered_counterexample : ¬ T03_same_plain_ordered_statement :=
  reparse_probe (fun d => toPlain (eraseTbl d.root)) probeKeysA exImplicitDotted2
    (some [strBytes "b", strBytes "k"]) (some [strBytes "k", strBytes "b"]) (by decide +kernel)
    exImplicitDotted2_eval.1 exImplicitDotted2_eval.2.1

example : (parseCst exImplicitDotted2).map (printDoc exImplicitDotted2)
    = some (strBytes "[a.b.d]\n[a]\nk = 1\n\n[a.b]\nc.e = 3\n") := exImplicitDotted2_eval.2.2

/-- the same-data clause in the form the counterexamples above leave, NOT PROVED for every document:
    for every accepted document the printed text is accepted, it holds the same plain data up to the
    order of table entries (`sortPlain` sorts every table by key), and it is a fixed point of
    parse-then-print.

    PROVED PARTS: validity + the very same tree (flags and positions) for every document whose dotted
    keys are adjacent (`T03_same_data_adjacent` and its extensions); the fixed point in the
    exact-tiling classes (`T03_print_fixpoint_ord`); at value level validity + same data for EVERY
    value (`T03_value_same_data`).

    What is left outside the proved classes: a dotted key below a table that a header made
    implicitly (the counterexamples above — there only the plain data up to order agree), and
    the fixed point outside the exact-tiling classes. -/
def T03_same_plain_statement : Prop :=
  ∀ (s : Bytes) (d : CDoc), parseCst s = some d →
    ∃ d', parseCst (printDoc s d) = some d' ∧
      sortPlain (toPlain (eraseTbl d'.root)) = sortPlain (toPlain (eraseTbl d.root)) ∧
      printDoc (printDoc s d) d' = printDoc s d

/-- `parse_document` keeping the layout, with the layout erased, is
    `parse_document` of the semantic model (`Model/Doc.lean`) — same acceptance, same tree with
    flags and positions.  Every theorem about `Doc.parseDocument` (C01 grammar, C09 definition
    rules) therefore speaks about `parseCst` -/
theorem T03_cst_erases_to_doc (s : Bytes) :
    (parseCst s).map (fun d => eraseTbl d.root) = Doc.parseDocument s :=
  cst_erases_to_doc s

theorem T03_cst_accepts_iff_doc (s : Bytes) : (parseCst s).isSome = (Doc.parseDocument s).isSome := by
  rw [← cst_erases_to_doc]; simp

/-- re-parsing a text with the format-preserving parser and looking at the data is re-parsing it
    with the semantic parser -/
theorem T03_reparse_iff_doc (p : Bytes) (X : Tbl → Prop) :
    (∃ d', parseCst p = some d' ∧ X (eraseTbl d'.root)) ↔ ∃ t', Doc.parseDocument p = some t' ∧ X t' := by
  rw [← T03_cst_erases_to_doc p]
  cases parseCst p with
  | none => simp
  | some d' => simp

example : (parseCst exCargo).map (fun d => Spec.Encode06.beqOptTbl (some (eraseTbl d.root)) (Doc.parseDocument exCargo))
    = some true := exCargo_eval.2.2.2

/-- the semantic parser sees neither the BOM nor the final LF -/
theorem Tiles.same_data {s : Bytes} {d : CDoc} (H : Tiles s d) (h : parseCst s = some d)
    (hcr : ∀ b ∈ s, b ≠ 0x0D) :
    (∃ d', parseCst (printDoc s d) = some d' ∧ eraseTbl d'.root = eraseTbl d.root) ∧
    Doc.parseDocument (printDoc s d) = Doc.parseDocument s := by
  obtain ⟨eol, hp, heol⟩ := H.norm hcr
  have hdoc : Doc.parseDocument s = some (eraseTbl d.root) := by
    rw [← T03_cst_erases_to_doc s, h]; rfl
  have hpd : Doc.parseDocument (printDoc s d) = some (eraseTbl d.root) := by
    rw [hp]
    rcases heol with e | ⟨e, _⟩
    · subst e; rw [List.append_nil]; exact parseDocument_stripBom s _ hdoc
    · subst e; exact parseDocument_stripBom_lf s _ hdoc
  exact ⟨(T03_reparse_iff_doc (printDoc s d) (fun t => t = eraseTbl d.root)).2 ⟨_, hpd, rfl⟩, by rw [hpd, hdoc]⟩

/-- for a CR-free source in the class — with or without BOM, with or
    without final newline — the printed text is accepted and decodes to the very same tree
    (flags and positions included) -/
theorem T03_same_data_norm_source (s : Bytes) (d : CDoc) (h : parseCst s = some d) (hrun : nestRun true s = true)
    (hcr : ∀ b ∈ s, b ≠ 0x0D) :
    ∃ d', parseCst (printDoc s d) = some d' ∧ eraseTbl d'.root = eraseTbl d.root :=
  ((nestRun_tiles h hrun).same_data h hcr).1

/-- a BOM, no final newline -/
def exBomNoNl : Bytes := [0xEF, 0xBB, 0xBF] ++ strBytes "[a]\nk.x = 1\nk.y = 2\n# c\n[a.b]\n[[a.c]]\n[[a.c]]"

example : (parseCst exBomNoNl).isSome = true ∧ nestRun true exBomNoNl = true ∧
    (exBomNoNl.all fun b => b != 0x0D) = true ∧ Doc.stripBom exBomNoNl ≠ exBomNoNl ∧
    exBomNoNl.getLast? ≠ some 0x0A := by
  rw [exBomNoNl, strBytes_eq rfl]
  decide +kernel

end TomlVerif.Props.C03More
