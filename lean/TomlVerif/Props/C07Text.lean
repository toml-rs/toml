import TomlVerif.Props.C07
import TomlVerif.Lemmas.Ser07TextDeep
/-! # C07 at the TEXT level — the text a serializer route returns parses back to the documented image of the value

`Props/C07.lean` shows that the routes produce a document TREE whose printed content (`shownRoot`) is the image
`Spec.Serde.expected` of the serde value.  Here the TEXT is parsed: `Doc.parseDocument` on the returned text gives a
table which, read as plain data (`dataTbl`: tables of every syntax are maps, arrays of tables are arrays of maps),
is the content the tree theorems speak of — nothing dropped, nothing altered.

`Model/Ser.lean` has no printer, so the texts are defined in `Lemmas/Ser07Text.lean` / `Lemmas/Ser07TextRoutes.lean`
from the two printers of the project (`Encode06.printDoc` for `toml_edit::ser::to_string`;
`TomlValue.renderStmts ∘ emitDoc` for the formatted routes); `Driver/C07.lean` prints them for the differential test.

What the parsed data is compared with:
* NaN payloads: a TOML text says `nan` or `-nan` only, so floats are compared after `canonFloat` (`canonKVs`);
* order: `toml_edit::ser::to_string` keeps the order of the image at every level; the formatted routes print, in
  every table that becomes a `[table]` / `[[array of tables]]` section and at the root, the entries that stay
  values before the sub-tables (TOML leaves no choice), so the parsed document holds `docOrder kvs`
  (the driver's tree-level field sorts the keys, `showT`; its text fields are compared as they are).

Hypotheses (all on the image `kvs` of the value; outside them see `T07_text_depth_*`):
* `LeavesOkSKVs disp kvs`: integers in the `i64` range (`SVal.int w n` presupposes that `n` is a value of width `w`;
  the model does not check it), `disp` gives for every double in the tree the text std guarantees (`FloatOk`, as in
  C06), date-times have fields in range and a year ≤ 9999;
* `depthSKVs kvs < LIMIT`: arrays and tables nested fewer than 80 deep below the root table.
Distinct keys need no hypothesis: `serDocument_nodup`. -/
namespace TomlVerif.Props.C07Text
open TomlVerif TomlVerif.Model TomlVerif.Model.Ser TomlVerif.Spec TomlVerif.Spec.Serde
open TomlVerif.Lemmas.Ser07 TomlVerif.Lemmas.Ser07Text TomlVerif.Props.C07
open TomlVerif.Model.Value (LIMIT)

theorem textEdit_eq (disp : FloatDisp) (v : SVal) :
    textEdit disp v = (serDocument v).map fun kvs => Encode06.printDoc (editDoc disp kvs) := by
  unfold textEdit; cases serDocument v <;> rfl
theorem textEditPretty_eq (disp : FloatDisp) (v : SVal) :
    textEditPretty disp v = (serDocument v).map (fmtText disp true) := by
  unfold textEditPretty; cases serDocument v <;> rfl
theorem textToml_eq (byName : Bool) (disp : FloatDisp) (v : SVal) :
    textToml byName disp v = (tomlDocument byName v).map (fmtText disp false) := by
  unfold textToml; cases tomlDocument byName v <;> rfl
theorem textTomlPretty_eq (byName : Bool) (disp : FloatDisp) (v : SVal) :
    textTomlPretty byName disp v = (tomlDocument byName v).map (fmtText disp true) := by
  unfold textTomlPretty; cases tomlDocument byName v <;> rfl

theorem T07_text_edit_error (disp : FloatDisp) (v : SVal) (e : SerErr) :
    textEdit disp v = .error e ↔ routeEdit v = .error e := by
  unfold textEdit routeEdit; cases serDocument v <;> simp
theorem T07_text_edit_pretty_error (disp : FloatDisp) (v : SVal) (e : SerErr) :
    textEditPretty disp v = .error e ↔ routeEditPretty true v = .error e := by
  unfold textEditPretty routeEditPretty; cases serDocument v <;> simp
theorem T07_text_toml_error (byName : Bool) (disp : FloatDisp) (v : SVal) (e : SerErr) :
    textToml byName disp v = .error e ↔ routeToml byName v = .error e := by
  unfold textToml routeToml; cases tomlDocument byName v <;> simp
theorem T07_text_toml_pretty_error (byName : Bool) (disp : FloatDisp) (v : SVal) (e : SerErr) :
    textTomlPretty byName disp v = .error e ↔ routeToml byName v = .error e := by
  unfold textTomlPretty routeToml; cases tomlDocument byName v <;> simp

/-- `toml_edit::ser::to_string` returns an error only on an unsupported shape or a non-table root -/
theorem T07_text_edit_errors (disp : FloatDisp) (v : SVal) (e : SerErr) (h : textEdit disp v = .error e) :
    unsupported v = true ∨ nonTableRoot v :=
  T07_route_edit_errors v e ((T07_text_edit_error disp v e).1 h)
theorem T07_text_edit_pretty_errors (disp : FloatDisp) (v : SVal) (e : SerErr) (h : textEditPretty disp v = .error e) :
    unsupported v = true ∨ nonTableRoot v := by
  have h' := (T07_text_edit_pretty_error disp v e).1 h
  refine T07_route_edit_errors v e ?_
  unfold routeEditPretty at h'; unfold routeEdit
  revert h'; cases serDocument v <;> simp
theorem T07_text_toml_errors (byName : Bool) (disp : FloatDisp) (v : SVal) (e : SerErr)
    (h : textToml byName disp v = .error e) : unsupported v = true ∨ nonTableRoot v ∨ variantRoot v = true :=
  T07_route_toml_errors byName v e ((T07_text_toml_error byName disp v e).1 h)
theorem T07_text_toml_pretty_errors (byName : Bool) (disp : FloatDisp) (v : SVal) (e : SerErr)
    (h : textTomlPretty byName disp v = .error e) : unsupported v = true ∨ nonTableRoot v ∨ variantRoot v = true :=
  T07_route_toml_errors byName v e ((T07_text_toml_pretty_error byName disp v e).1 h)

/-- and a text is returned exactly when the tree route returns a table -/
theorem T07_text_edit_defined (disp : FloatDisp) (v : SVal) :
    (∃ t, textEdit disp v = .ok t) ↔ ∃ kvs, routeEdit v = .ok kvs := by
  unfold textEdit routeEdit; cases serDocument v <;> simp

/-- **T07_text_edit**: the text `toml_edit::ser::to_string` returns, parsed by the document parser and read as
    plain data, is the table the tree route shows (`routeEdit`), which is the image of the value — same keys, same
    values, same order at every level, NaNs up to their payload. -/
theorem T07_text_edit (disp : FloatDisp) (v : SVal) (t : Bytes) (h : textEdit disp v = .ok t) :
    ∃ kvs, routeEdit v = .ok kvs ∧ expected v = some (.inl kvs) ∧
      (LeavesOkSKVs disp kvs → depthSKVs kvs < LIMIT →
        (Doc.parseDocument t).map dataTbl = some (canonKVs kvs)) := by
  obtain ⟨kvs, hs, hp⟩ := editRoute.parses disp v t (by rw [← h, textEdit_eq]; rfl)
  have hr : routeEdit v = .ok kvs := by
    unfold routeEdit; rw [show serDocument v = .ok kvs from hs]; exact congrArg Except.ok (T07_format_plain kvs)
  exact ⟨kvs, hr, T07_route_edit v kvs hr, hp⟩

/-- full statement for a formatted route: `text` the route's text, `route` its tree-level content -/
def T07_text_fmt_statement (text : FloatDisp → SVal → Except SerErr Bytes)
    (route : SVal → Except SerErr (List (Bytes × V))) : Prop :=
  ∀ (disp : FloatDisp) (v : SVal) (t : Bytes), text disp v = .ok t →
    ∃ kvs, route v = .ok kvs ∧
      (LeavesOkSKVs disp kvs → depthSKVs kvs < LIMIT →
        (Doc.parseDocument t).map dataTbl = some (docOrder (canonKVs kvs)))

theorem fmt_statement_of (p : Bool) (doc : SVal → Except SerErr (List (Bytes × V)))
    (hnd : ∀ v kvs, doc v = .ok kvs → NodupSKVs kvs ∧ (kvs.map Prod.fst).Nodup) :
    T07_text_fmt_statement (fun disp v => match doc v with | .ok kvs => .ok (fmtText disp p kvs) | .error e => .error e)
      (fun v => match doc v with | .ok kvs => .ok (shownRoot (visitRoot true kvs)) | .error e => .error e) := by
  intro disp v t h
  dsimp only at h ⊢
  obtain ⟨kvs, hs, hp⟩ := (fmtRoute p doc hnd).parses disp v t
    (by rw [← h]; show Except.map (fmtText disp p) (doc v) = _; cases doc v <;> rfl)
  exact ⟨kvs, by rw [show doc v = .ok kvs from hs]; exact congrArg Except.ok (T07_format_toml kvs), hp⟩

theorem tomlDocument_nodup (byName : Bool) (v : SVal) (kvs : List (Bytes × V)) (h : tomlDocument byName v = .ok kvs) :
    NodupSKVs kvs ∧ (kvs.map Prod.fst).Nodup := by
  by_cases hd : byName = true ∨ datetimeRoot v = false
  · exact serDocument_nodup v kvs (tomlDocument_ok byName v kvs hd h)
  · -- the date-time struct through a `serialize_struct` that ignores the name: its fields as an ordinary struct
    rw [not_or, Bool.not_eq_true, Bool.not_eq_false] at hd
    unfold datetimeRoot at hd
    split at hd
    · rw [hd.1, tomlDocument] at h
      exact serFields_nodup _ [] kvs ⟨trivial, List.nodup_nil⟩ h
    · cases hd.2

/-- **T07_text_edit_pretty**: `toml_edit::ser::to_string_pretty` with the `is_value` guard (/repo): the text parses to
    the content `routeEditPretty true` shows (the image of the value), in document order -/
theorem T07_text_edit_pretty : T07_text_fmt_statement textEditPretty (routeEditPretty true) :=
  fmt_statement_of true serDocument serDocument_nodup

/-- **T07_text_toml**: `toml::to_string` (either flavour of `serialize_struct`) -/
theorem T07_text_toml (byName : Bool) : T07_text_fmt_statement (textToml byName) (routeToml byName) :=
  fmt_statement_of false (tomlDocument byName) (tomlDocument_nodup byName)

/-- **T07_text_toml_pretty**: `toml::to_string_pretty` -/
theorem T07_text_toml_pretty (byName : Bool) : T07_text_fmt_statement (textTomlPretty byName) (routeToml byName) :=
  fmt_statement_of true (tomlDocument byName) (tomlDocument_nodup byName)

/-- text → parse → image of the value, `byName = true` (/repo), both layouts -/
theorem T07_text_toml_repaired_image (pretty : Bool) (disp : FloatDisp) (v : SVal) (t : Bytes)
    (h : (if pretty then textTomlPretty true disp v else textToml true disp v) = .ok t) :
    ∃ kvs, expected v = some (.inl kvs) ∧
      (LeavesOkSKVs disp kvs → depthSKVs kvs < LIMIT →
        (Doc.parseDocument t).map dataTbl = some (docOrder (canonKVs kvs))) := by
  cases pretty with
  | false =>
    obtain ⟨kvs, hr, hp⟩ := T07_text_toml true disp v t h
    exact ⟨kvs, T07_route_toml_repaired v kvs hr, hp⟩
  | true =>
    obtain ⟨kvs, hr, hp⟩ := T07_text_toml_pretty true disp v t h
    exact ⟨kvs, T07_route_toml_repaired v kvs hr, hp⟩

/-- `byName = false` (the upstream code; /repo passes the name on, its fix ff4912f): the same unless the root is the
    date-time struct (`T07_finding_toml_root_datetime`) -/
theorem T07_text_toml_image (pretty : Bool) (disp : FloatDisp) (v : SVal) (t : Bytes) (hd : datetimeRoot v = false)
    (h : (if pretty then textTomlPretty false disp v else textToml false disp v) = .ok t) :
    ∃ kvs, expected v = some (.inl kvs) ∧
      (LeavesOkSKVs disp kvs → depthSKVs kvs < LIMIT →
        (Doc.parseDocument t).map dataTbl = some (docOrder (canonKVs kvs))) := by
  cases pretty with
  | false =>
    obtain ⟨kvs, hr, hp⟩ := T07_text_toml false disp v t h
    exact ⟨kvs, T07_route_toml false v kvs (.inr hd) hr, hp⟩
  | true =>
    obtain ⟨kvs, hr, hp⟩ := T07_text_toml_pretty false disp v t h
    exact ⟨kvs, T07_route_toml false v kvs (.inr hd) hr, hp⟩

theorem T07_text_edit_pretty_image (disp : FloatDisp) (v : SVal) (t : Bytes) (h : textEditPretty disp v = .ok t) :
    ∃ kvs, expected v = some (.inl kvs) ∧
      (LeavesOkSKVs disp kvs → depthSKVs kvs < LIMIT →
        (Doc.parseDocument t).map dataTbl = some (docOrder (canonKVs kvs))) := by
  obtain ⟨kvs, hr, hp⟩ := T07_text_edit_pretty disp v t h
  exact ⟨kvs, T07_route_edit_pretty_guarded v kvs hr, hp⟩

/-- the plain and the pretty text of `toml::to_string*` decode to the same data -/
theorem T07_text_toml_layouts_agree (byName : Bool) (disp : FloatDisp) (v : SVal) (t1 t2 : Bytes)
    (h1 : textToml byName disp v = .ok t1) (h2 : textTomlPretty byName disp v = .ok t2)
    (hl : ∀ kvs, routeToml byName v = .ok kvs → LeavesOkSKVs disp kvs ∧ depthSKVs kvs < LIMIT) :
    (Doc.parseDocument t1).map dataTbl = (Doc.parseDocument t2).map dataTbl := by
  obtain ⟨kvs, hr, hp⟩ := T07_text_toml byName disp v t1 h1
  obtain ⟨kvs', hr', hp'⟩ := T07_text_toml_pretty byName disp v t2 h2
  rw [hr] at hr'
  injection hr' with hr'
  subst hr'
  obtain ⟨a, b⟩ := hl kvs hr
  rw [hp a b, hp' a b]

/-! ## outside the depth hypothesis: the serializer prints what the parser refuses

The serializers have no nesting limit, the parser has (`LIMIT` = 80 with the default features).  A value whose image
nests arrays / tables 80 or more deep below the root table is serialized without error, to a text that
`Doc.parseDocument` rejects — so the text does not "decode back" at all.  79 levels still round-trip: the bound of the
theorems is exact.  (For the real crates this predicts: `toml::to_string(&v)` succeeds and
`toml::from_str` on its output fails with the recursion-limit error for `struct S { a: Vec<Vec<…Vec<i64>…>> }` 80 deep.) -/

def nestSeq : Nat → SVal
  | 0 => .int .i64 1
  | n + 1 => .seq [nestSeq n]

/-- `S { a: [[…[1]…]] }` with `n` array levels -/
def deepValue (n : Nat) : SVal := .struct [0x53] [([0x61], nestSeq n)]

/-- no float anywhere: any `disp` will do -/
def noDisp : FloatDisp := fun _ => []

def okParses (e : Except SerErr Bytes) : Bool :=
  match e with
  | .ok t => (Doc.parseDocument t).isSome
  | .error _ => false

def isOk (e : Except SerErr Bytes) : Bool :=
  match e with
  | .ok _ => true
  | .error _ => false

theorem serValue_nestSeq : ∀ n, serValue (nestSeq n) = .ok (nestV n)
  | 0 => rfl
  | n + 1 => by rw [nestSeq, serValue, serSeq, serValue_nestSeq n]; rfl

/-- `toml_edit::ser::to_string`, `toml::to_string` and `toml::to_string_pretty` (`byName = false`; `deepValue` is not the
    date-time struct, so `byName` makes no difference) print `deepValue n` as the one line `a = [[…[1]…]]` -/
theorem deep_routes (n : Nat) :
    textEdit noDisp (deepValue n) = .ok (deepText n) ∧ textToml false noDisp (deepValue n) = .ok (deepText n) ∧
    textTomlPretty false noDisp (deepValue n) = .ok (deepText n) := by
  have hv : nestSeq n ≠ .none := by cases n <;> exact nofun
  have hd := serDocument_single [0x53] [0x61] (by decide) hv (serValue_nestSeq n)
  have ht := tomlDocument_single [0x53] [0x61] hv (serValue_nestSeq n)
  rw [textEdit_eq, textToml_eq, textTomlPretty_eq, deepValue, hd, ht]
  exact ⟨congrArg Except.ok (printDoc_deep noDisp n), congrArg Except.ok (fmtText_deep noDisp false n),
    congrArg Except.ok (fmtText_deep noDisp true n)⟩

/-- **T07_text_depth_witness**: 80 levels: `toml_edit::ser::to_string`, `toml::to_string` and `toml::to_string_pretty`
    return a text and none of the three parses; 79 levels: the first two parse (every depth and all three:
    `deep_routes`, `deepText_parses`) -/
theorem T07_text_depth_witness :
    isOk (textEdit noDisp (deepValue 80)) = true ∧ okParses (textEdit noDisp (deepValue 80)) = false ∧
    isOk (textToml false noDisp (deepValue 80)) = true ∧ okParses (textToml false noDisp (deepValue 80)) = false ∧
    isOk (textTomlPretty false noDisp (deepValue 80)) = true ∧ okParses (textTomlPretty false noDisp (deepValue 80)) = false ∧
    okParses (textEdit noDisp (deepValue 79)) = true ∧ okParses (textToml false noDisp (deepValue 79)) = true := by
  obtain ⟨a, b, c⟩ := deep_routes 80
  obtain ⟨a', b', _⟩ := deep_routes 79
  rw [a, b, c, a', b']
  simp only [isOk, okParses, deepText_parses]
  decide

/-- `Cfg { name: "a", inner: Inner { x: 1, opt: None }, pts: vec![P { x: 1 }, P { x: 2 }], kind: Kind::N(7),
    m: {"a b": true}, when: Datetime(1979-05-27), tags: ["x", "y"] }`:
    a nested struct with a skipped `None` field, a vector of structs, a newtype variant, a map with a key that
    needs quotes, a date-time, a vector of strings -/
def big : SVal :=
  .struct (strBytes "Cfg") [
    (strBytes "name", .str (strBytes "a")),
    (strBytes "inner", .struct (strBytes "Inner") [(strBytes "x", .int .i64 1), (strBytes "opt", .none)]),
    (strBytes "pts", .seq [.struct (strBytes "P") [(strBytes "x", .int .i32 1)], .struct (strBytes "P") [(strBytes "x", .int .i32 2)]]),
    (strBytes "kind", .newtypeVariant (strBytes "Kind") (strBytes "N") (.int .u8 7)),
    (strBytes "m", .map [(.str (strBytes "a b"), .bool true)]),
    (strBytes "when", datetimeStruct),
    (strBytes "tags", .seq [.str (strBytes "x"), .str (strBytes "y")])]

def bigTree : List (Bytes × V) :=
  [(strBytes "name", .sc (.str (strBytes "a"))),
   (strBytes "inner", .inl [(strBytes "x", .sc (.int 1))]),
   (strBytes "pts", .arr [.inl [(strBytes "x", .sc (.int 1))], .inl [(strBytes "x", .sc (.int 2))]]),
   (strBytes "kind", .inl [(strBytes "N", .sc (.int 7))]),
   (strBytes "m", .inl [(strBytes "a b", .sc (.bool true))]),
   (strBytes "when", .sc (.dt dateValue)),
   (strBytes "tags", .arr [.sc (.str (strBytes "x")), .sc (.str (strBytes "y"))])]

/-- the image in document order: values first, then the tables and the array of tables -/
def bigDoc : List (Bytes × V) :=
  [(strBytes "name", .sc (.str (strBytes "a"))),
   (strBytes "when", .sc (.dt dateValue)),
   (strBytes "tags", .arr [.sc (.str (strBytes "x")), .sc (.str (strBytes "y"))]),
   (strBytes "inner", .inl [(strBytes "x", .sc (.int 1))]),
   (strBytes "pts", .arr [.inl [(strBytes "x", .sc (.int 1))], .inl [(strBytes "x", .sc (.int 2))]]),
   (strBytes "kind", .inl [(strBytes "N", .sc (.int 7))]),
   (strBytes "m", .inl [(strBytes "a b", .sc (.bool true))])]

def bigEditText : Bytes := strBytes
  "name = \"a\"\ninner = { x = 1 }\npts = [{ x = 1 }, { x = 2 }]\nkind = { N = 7 }\nm = { \"a b\" = true }\nwhen = 1979-05-27\ntags = [\"x\", \"y\"]\n"
def bigTomlText : Bytes := strBytes
  "name = \"a\"\nwhen = 1979-05-27\ntags = [\"x\", \"y\"]\n\n[inner]\nx = 1\n\n[[pts]]\nx = 1\n\n[[pts]]\nx = 2\n\n[kind]\nN = 7\n\n[m]\n\"a b\" = true\n"
def bigPrettyText : Bytes := strBytes
  "name = \"a\"\nwhen = 1979-05-27\ntags = [\n    \"x\",\n    \"y\",\n]\n\n[inner]\nx = 1\n\n[[pts]]\nx = 1\n\n[[pts]]\nx = 2\n\n[kind]\nN = 7\n\n[m]\n\"a b\" = true\n"

def okIs (e : Except SerErr Bytes) (b : Bytes) : Bool :=
  match e with
  | .ok t => t == b
  | .error _ => false

theorem okIs_sound (e : Except SerErr Bytes) (b : Bytes) (h : okIs e b = true) : e = .ok b := by
  cases e with
  | error x => simp [okIs] at h
  | ok t => simp only [okIs, beq_iff_eq] at h; rw [h]

theorem big_edit : textEdit noDisp big = .ok bigEditText := by
  rw [bigEditText, strBytes_eq rfl]; exact okIs_sound _ _ (by decide +kernel)
theorem big_toml : textToml true noDisp big = .ok bigTomlText := by
  rw [bigTomlText, strBytes_eq rfl]; exact okIs_sound _ _ (by decide +kernel)
theorem big_toml_pretty : textTomlPretty true noDisp big = .ok bigPrettyText := by
  rw [bigPrettyText, strBytes_eq rfl]; exact okIs_sound _ _ (by decide +kernel)

/-- the root struct is not the date-time struct, so both flavours of `serialize_struct` start from the same table -/
theorem big_toml_asis : textToml false noDisp big = .ok bigTomlText := by
  have h : tomlDocument false big = tomlDocument true big := by with_unfolding_all rfl
  rw [← big_toml, textToml, textToml, h]
theorem big_edit_pretty : textEditPretty noDisp big = .ok bigPrettyText := by
  rw [← big_toml_pretty, textEditPretty, textTomlPretty, tomlDocument_eq true big rfl (.inl rfl)]

theorem big_image : expected big = some (.inl bigTree) := by with_unfolding_all rfl
theorem big_route : routeEdit big = .ok bigTree := by with_unfolding_all rfl
theorem big_route_toml : routeToml true big = .ok bigTree := by with_unfolding_all rfl

theorem dateValue_ok : Props.C12.FieldsInRange dateValue ∧ ∀ x, dateValue.date = some x → x.year ≤ 9999 := by
  refine ⟨⟨?_, ?_, ?_, ?_⟩, ?_⟩
  · intro x hx; simp [dateValue] at hx; subst hx; simp [Props.C12.DateInRange, Datetime.maxDays]
  · intro t ht; simp [dateValue] at ht
  · intro o ho; simp [dateValue] at ho
  · simp [dateValue, Props.C12.ShapeOk]
  · intro x hx; simp [dateValue] at hx; subst hx; decide

theorem big_hyps : LeavesOkSKVs noDisp bigTree ∧ depthSKVs bigTree < LIMIT ∧ canonKVs bigTree = bigTree := by
  refine ⟨?_, by decide +kernel, by with_unfolding_all rfl⟩
  simp only [bigTree, LeavesOkSKVs, LeavesOkS, LeavesOkSs, ScalarOkS, and_true, true_and]
  exact ⟨by decide, ⟨by decide, by decide⟩, by decide, dateValue_ok⟩

theorem big_docOrder : docOrder bigTree = bigDoc := by with_unfolding_all rfl

example : (Doc.parseDocument bigEditText).map dataTbl = some bigTree := by
  obtain ⟨kvs, hr, _, hp⟩ := T07_text_edit noDisp big bigEditText big_edit
  rw [big_route] at hr
  injection hr with hr
  subst hr
  rw [hp big_hyps.1 big_hyps.2.1, big_hyps.2.2]

example : (Doc.parseDocument bigTomlText).map dataTbl = some bigDoc ∧
    (Doc.parseDocument bigPrettyText).map dataTbl = some bigDoc := by
  constructor
  · obtain ⟨kvs, hr, hp⟩ := T07_text_toml true noDisp big bigTomlText big_toml
    rw [big_route_toml] at hr
    injection hr with hr
    subst hr
    rw [hp big_hyps.1 big_hyps.2.1, big_hyps.2.2, big_docOrder]
  · obtain ⟨kvs, hr, hp⟩ := T07_text_toml_pretty true noDisp big bigPrettyText big_toml_pretty
    rw [big_route_toml] at hr
    injection hr with hr
    subst hr
    rw [hp big_hyps.1 big_hyps.2.1, big_hyps.2.2, big_docOrder]

example : (Doc.parseDocument bigPrettyText).map dataTbl = some bigDoc := by
  obtain ⟨kvs, hr, hp⟩ := T07_text_edit_pretty noDisp big bigPrettyText big_edit_pretty
  have hk : routeEditPretty true big = .ok bigTree := by with_unfolding_all rfl
  rw [hk] at hr
  injection hr with hr
  subst hr
  rw [hp big_hyps.1 big_hyps.2.1, big_hyps.2.2, big_docOrder]

/-- a NaN with a payload (`f64::from_bits(0x7FF0000000000001)`): printed as `nan`, read back as the canonical NaN -/
example : textToml true noDisp (.struct [0x50] [([0x78], .f64 0x7FF0000000000001)]) = .ok (strBytes "x = nan\n") ∧
    canonKVs [([0x78], .sc (.float 0x7FF0000000000001))] = [([0x78], .sc (.float 0x7FF8000000000000))] ∧
    LeavesOkSKVs noDisp [([0x78], .sc (.float 0x7FF0000000000001))] := by
  refine ⟨okIs_sound _ _ (by decide +kernel), by with_unfolding_all rfl, ?_⟩
  simp only [LeavesOkSKVs, LeavesOkS, ScalarOkS, and_true]
  exact Props.C06.FloatOk.nan _ _ (by decide) (by decide)

/-- a double: `P { x: 1.5 }` with std's text "1.5" -/
def fltValue : SVal := .struct [0x50] [([0x78], .f64 0x3FF8000000000000)]
def fltDisp : FloatDisp := fun b => if b = 0x3FF8000000000000 then [0x31, 0x2E, 0x35] else []

theorem flt_text : textEdit fltDisp fltValue = .ok (strBytes "x = 1.5\n") ∧
    textToml true fltDisp fltValue = .ok (strBytes "x = 1.5\n") :=
  ⟨okIs_sound _ _ (by decide +kernel), okIs_sound _ _ (by decide +kernel)⟩

theorem flt_hyps : LeavesOkSKVs fltDisp [([0x78], .sc (.float 0x3FF8000000000000))] := by
  simp only [LeavesOkSKVs, LeavesOkS, ScalarOkS, and_true]
  exact Props.C06.FloatOk.fin 0x3FF8000000000000 false [0x31] (some [0x35]) (by simp) (by decide)
    (by intro t h; injection h with h _; exact absurd h (by decide))
    (by intro f h; injection h with h; subst h; exact ⟨by simp, by decide⟩) (by decide +kernel) (by decide) (by decide)

example : (Doc.parseDocument (strBytes "x = 1.5\n")).map dataTbl = some [([0x78], .sc (.float 0x3FF8000000000000))] := by
  obtain ⟨kvs, hr, _, hp⟩ := T07_text_edit fltDisp fltValue _ flt_text.1
  have hk : routeEdit fltValue = .ok [([0x78], .sc (.float 0x3FF8000000000000))] := by with_unfolding_all rfl
  rw [hk] at hr
  injection hr with hr
  subst hr
  rw [hp flt_hyps (by decide +kernel)]
  with_unfolding_all rfl

example : textEdit noDisp (.seq [.none]) = .error .unsupportedNone ∧
    textToml true noDisp (.seq [.int .i64 1]) = .error .unsupportedType := by
  constructor <;> with_unfolding_all rfl

end TomlVerif.Props.C07Text
