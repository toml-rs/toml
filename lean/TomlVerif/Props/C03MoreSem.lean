import TomlVerif.Props.C03MoreOrd
import TomlVerif.Lemmas.Same03Main
import TomlVerif.Lemmas.Bytes
/-! C03 — the weaker clause (valid, SAME DATA) for every document whose dotted keys are
    adjacent: any spelling of repeated names, any order of sections, BOM, CR LF anywhere, no final
    newline, any values.

    The class.  `adjRun s` (`Lemmas/Tiling03MoreSemDefs.lean`) is `ordRunV s`
    (`Props/C03MoreOrd.lean`) with ALL spelling checks (`sameSeg`, `sameLeaf`) and the value check
    (`okValue`) removed.  What remains is structure, checked along the run of `parse_document`:
      * header lines (`pathOkA`, on the root after `finalize_table`): no table on the path is a
        dotted-key table; a segment naming an existing entry names a table or a non-empty array of
        tables; the last key is new or — for `[[…]]` — names an array of tables.  (So: no header
        through a dotted-key table or a value, and no `[t]` on a table `t` that exists implicitly
        — the parser would take it over and move it.)
      * key/value lines (`dottedOkA`, on the current table): every prefix segment of the key that
        names an existing entry names the LAST entry of its table, a dotted-key table (adjacent
        dotted keys).

    The class is inside `genRun2` (`Props/C03MoreGen3.lean`).  In this class the printed text
    consists of the same statements in the same order as the source — headers in position order,
    bodies in source order — each written with the STORED spelling of its keys and with `stripCr`
    applied to the trivia. -/
namespace TomlVerif.Props.C03More
open TomlVerif TomlVerif.Model TomlVerif.Model.Cst TomlVerif.Model.Encode
open TomlVerif.Lemmas.Cst03 TomlVerif.Lemmas.Tiling03 TomlVerif.Lemmas.Tiling03Hdr TomlVerif.Lemmas.Tiling03Nest
open TomlVerif.Lemmas.Tiling03More
open TomlVerif.Props.C03 TomlVerif.Props.C03Doc TomlVerif.Props.C03Hdr TomlVerif.Props.C03Nest

/-- the class of `T03_doc_tiling_ord` is inside `adjRun` -/
theorem T03_ordRunV_adjRun (s : Bytes) (h : ordRunV s = true) : adjRun s = true :=
  ordRunV_A s h

/-- for every source in the class — no hypothesis on BOM, CR, final
    newline, spelling or values — the printed text decodes (semantic parser) to the same table,
    flags and positions included -/
theorem T03_same_data_adjacent (s : Bytes) (d : CDoc) (h : parseCst s = some d) (hrun : adjRun s = true) :
    Doc.parseDocument (printDoc s d) = Doc.parseDocument s := by
  rw [same_data_adj s d h hrun, ← T03_cst_erases_to_doc s, h]; rfl

/-- … and is accepted by the format-preserving parser, with the same data -/
theorem T03_same_data_adjacent_cst (s : Bytes) (d : CDoc) (h : parseCst s = some d) (hrun : adjRun s = true) :
    ∃ d', parseCst (printDoc s d) = some d' ∧ eraseTbl d'.root = eraseTbl d.root :=
  (T03_reparse_iff_doc (printDoc s d) (fun t => t = eraseTbl d.root)).2 ⟨_, same_data_adj s d h hrun, rfl⟩

/-- with the fixed data spelled out -/
theorem T03_same_data_adjacent_tbl (s : Bytes) (d : CDoc) (h : parseCst s = some d) (hrun : adjRun s = true) :
    Doc.parseDocument (printDoc s d) = some (eraseTbl d.root) :=
  same_data_adj s d h hrun

/-- the data of the printed text is the data of the source (decidable form of the conclusion) -/
def sameData (s : Bytes) : Option Bool :=
  (parseCst s).map fun d => Spec.Encode06.beqOptTbl (Doc.parseDocument (printDoc s d)) (Doc.parseDocument s)

/-- a respelled header segment, sections out of order -/
example : adjRun (strBytes "[a]\n[c]\n[ a .b]\n") = true ∧ ordRunV (strBytes "[a]\n[c]\n[ a .b]\n") = false ∧
    (parseCst (strBytes "[a]\n[c]\n[ a .b]\n")).map (printDoc (strBytes "[a]\n[c]\n[ a .b]\n"))
      = some (strBytes "[a]\n[c]\n[ a.b]\n") ∧
    sameData (strBytes "[a]\n[c]\n[ a .b]\n") = some true := by
  simp only [strBytes_eq rfl]
  decide +kernel

/-- a respelled `[[ c ]]` -/
example : adjRun (strBytes "[[c]]\n[[ c ]]\n") = true ∧ ordRunV (strBytes "[[c]]\n[[ c ]]\n") = false ∧
    (parseCst (strBytes "[[c]]\n[[ c ]]\n")).map (printDoc (strBytes "[[c]]\n[[ c ]]\n"))
      = some (strBytes "[[c]]\n[[c]]\n") ∧
    sameData (strBytes "[[c]]\n[[ c ]]\n") = some true := by
  simp only [strBytes_eq rfl]
  decide +kernel

/-- a respelled dotted-key prefix in a body -/
example : adjRun (strBytes "a .b = 1\na.c = 2\n") = true ∧ ordRunV (strBytes "a .b = 1\na.c = 2\n") = false ∧
    (parseCst (strBytes "a .b = 1\na.c = 2\n")).map (printDoc (strBytes "a .b = 1\na.c = 2\n"))
      = some (strBytes "a .b = 1\na .c = 2\n") ∧
    sameData (strBytes "a .b = 1\na.c = 2\n") = some true := by
  simp only [strBytes_eq rfl]
  decide +kernel

/-- non-adjacent dotted keys INSIDE an inline table (regrouped by the printer), CR LF ends -/
example : adjRun (strBytes "v = {a.b=1,c=2,a.d=3}\r\n[t] # x\r\n") = true ∧
    ordRunV (strBytes "v = {a.b=1,c=2,a.d=3}\r\n[t] # x\r\n") = false ∧
    (parseCst (strBytes "v = {a.b=1,c=2,a.d=3}\r\n[t] # x\r\n")).map (printDoc (strBytes "v = {a.b=1,c=2,a.d=3}\r\n[t] # x\r\n"))
      = some (strBytes "v = {a.b=1,a.d=3,c=2}\n[t] # x\n") ∧
    sameData (strBytes "v = {a.b=1,c=2,a.d=3}\r\n[t] # x\r\n") = some true := by
  simp only [strBytes_eq rfl]
  decide +kernel

/-- a BOM, CR LF, respelled dotted keys and headers, sections out of order, a comment line, no
    final newline -/
def exSemAll : Bytes :=
  [0xEF, 0xBB, 0xBF] ++ strBytes "[a]\r\nk.x = 1\r\nk . y = 2\r\n# c\r\n[c]\r\n[ a.b]\r\n[[a.c]]\r\n[[a . c]] # z"

theorem exSemAll_eval : adjRun exSemAll = true ∧ ordRunV exSemAll = false ∧
    (parseCst exSemAll).map (printDoc exSemAll)
      = some (strBytes "[a]\nk.x = 1\nk. y = 2\n# c\n[c]\n[ a.b]\n[[a.c]]\n[[a.c]] # z\n") ∧
    sameData exSemAll = some true := by
  simp only [exSemAll, strBytes_eq rfl]
  decide +kernel

example : adjRun exSemAll = true ∧ ordRunV exSemAll = false ∧
    (parseCst exSemAll).map (printDoc exSemAll)
      = some (strBytes "[a]\nk.x = 1\nk. y = 2\n# c\n[c]\n[ a.b]\n[[a.c]]\n[[a.c]] # z\n") ∧
    sameData exSemAll = some true := exSemAll_eval

theorem exSemAll_adjRun : adjRun exSemAll = true := exSemAll_eval.1

/-- a document that is only a comment without line end; the examples of the smaller classes -/
example : adjRun (strBytes "# only comment") = true ∧ adjRun exOrd2 = true ∧ adjRun exCargoOrd = true ∧
    adjRun exMixed = true ∧ adjRun exNestedCrlf = true := by
  refine ⟨?_, T03_ordRunV_adjRun _ exOrd2_ordRunV, T03_ordRunV_adjRun _ exCargoOrd_ordRunV,
    T03_ordRunV_adjRun _ (T03_nestRunV_ordRunV _ exMixed_nestRunV),
    T03_ordRunV_adjRun _ (T03_nestRunV_ordRunV _ exNestedCrlf_nestRunV)⟩
  simp only [strBytes_eq rfl]
  decide +kernel

theorem sameData_implicitDotted : sameData (strBytes "[a.b.d]\n[a]\nb.c.e = 3\n") = some false := by simp only [strBytes_eq rfl]; decide +kernel

theorem sameData_reopened : sameData (strBytes "[x.y]\n[z]\n[x]\n") = some true := by simp only [strBytes_eq rfl]; decide +kernel

theorem sameData_reopened_respelled : sameData (strBytes "[x .y]\n[x]\n") = some true := by simp only [strBytes_eq rfl]; decide +kernel

theorem sameData_through_dotted : sameData (strBytes "[t]\na.b = 1\n[t.a.c]\n") = some true := by simp only [strBytes_eq rfl]; decide +kernel

/-- non-adjacent dotted keys in a table body: the data is the same here, but the class does not
    cover it -/
example : adjRun (strBytes "a.b = 1\nc = 2\na.d = 3\n") = false ∧
    sameData (strBytes "a.b = 1\nc = 2\na.d = 3\n") = some true := by
  simp only [strBytes_eq rfl]
  decide +kernel

/-- a dotted key through a table made by a header (`T03_same_data_counterexample`,
    `Props/C03More.lean`): outside the class, and the data DIFFERS (the printed text makes `a.b`
    explicit: its `implicit` flag and its position) -/
example : adjRun (strBytes "[a.b.d]\n[a]\nb.c.e = 3\n") = false ∧
    sameData (strBytes "[a.b.d]\n[a]\nb.c.e = 3\n") = some false :=
  ⟨by simp only [strBytes_eq rfl]; decide +kernel, sameData_implicitDotted⟩

/-- a `[t]` header on an implicitly existing table: outside the class (same data here) -/
example : adjRun (strBytes "[x.y]\n[z]\n[x]\n") = false ∧ sameData (strBytes "[x.y]\n[z]\n[x]\n") = some true :=
  ⟨by simp only [strBytes_eq rfl]; decide +kernel, sameData_reopened⟩

end TomlVerif.Props.C03More
