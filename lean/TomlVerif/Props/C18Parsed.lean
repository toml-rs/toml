import TomlVerif.Props.C18
import TomlVerif.Lemmas.TypedGapsParsed
/-! # C18 — the `preserve_order` exception for every accepted TEXT

`Props/C18.lean` states "the two builds hold equivalent values" (`T18_configs_permEquiv`) and
"a sorted map does not depend on insertion order" under the hypothesis that no table of the plain
value has a repeated key (`WellKeyed`). Here that hypothesis is *derived* for every document the
parser accepts, from the state-machine invariant of C13 (`parseDocument_good`: distinct keys at
every level of the decoded tree), so that the statements hold for all inputs of the property's
quantifier, not for well-keyed values only. -/
namespace TomlVerif.Props.C18Parsed
open TomlVerif TomlVerif.Model TomlVerif.Spec.OrderedPlain TomlVerif.Lemmas.Order18
open TomlVerif.Lemmas.TypedGapsParsed TomlVerif.Props.C18

theorem keys_valEntriesToPlain (l : List (Bytes × Val)) :
    (valEntriesToPlain l).map Prod.fst = l.map Prod.fst := by
  induction l with
  | nil => simp [valEntriesToPlain]
  | cons p r ih => obtain ⟨k, v⟩ := p; simp [valEntriesToPlain, ih]

theorem keys_itemEntriesToPlain (l : List (Bytes × Item)) :
    (itemEntriesToPlain l).map Prod.fst = l.map Prod.fst := by
  induction l with
  | nil => simp [itemEntriesToPlain]
  | cons p r ih => obtain ⟨k, v⟩ := p; simp [itemEntriesToPlain, ih]

mutual
theorem wk_val : ∀ v : Val, GV v → WellKeyed (valToPlain v)
  | .str _, _ | .int _, _ | .float _, _ | .bool _, _ | .dt _, _ => by simp [valToPlain, WellKeyed]
  | .arr vs, h => by
      rw [valToPlain, WellKeyed]
      exact wk_vals vs ((gv_arr vs).mp h)
  | .inl items a b, h => by
      rw [valToPlain, WellKeyed]
      have h' := (gv_inl items a b).mp h
      exact ⟨keysDistinct_of_nodup _ (by rw [keys_valEntriesToPlain]; exact h'.1), wk_ventries items h'.2⟩
theorem wk_vals : ∀ vs : List Val, (∀ v ∈ vs, GV v) → WellKeyedList (valsToPlain vs)
  | [], _ => by simp [valsToPlain, WellKeyedList]
  | v :: r, h => by
      rw [valsToPlain, WellKeyedList]
      exact ⟨wk_val v (h v (by simp)), wk_vals r (fun x hx => h x (by simp [hx]))⟩
theorem wk_ventries : ∀ l : List (Bytes × Val), (∀ p ∈ l, GV p.2) → WellKeyedEntries (valEntriesToPlain l)
  | [], _ => by simp [valEntriesToPlain, WellKeyedEntries]
  | (k, v) :: r, h => by
      rw [valEntriesToPlain, WellKeyedEntries]
      exact ⟨wk_val v (h (k, v) (by simp)), wk_ventries r (fun x hx => h x (by simp [hx]))⟩
end

mutual
theorem wk_item : ∀ it : Item, GI it → WellKeyed (itemToPlain it)
  | .value v, h => by rw [itemToPlain]; exact wk_val v ((gi_value v).mp h)
  | .table t, h => by rw [itemToPlain]; exact wk_tbl t ((gi_table t).mp h)
  | .aot ts, h => by
      rw [itemToPlain, WellKeyed]
      exact wk_tbls ts ((gi_aot ts).mp h)
theorem wk_tbl : ∀ t : Tbl, GT t → WellKeyed (toPlain t)
  | .mk items a b c, h => by
      rw [toPlain, WellKeyed]
      have h' := (gt_iff (.mk items a b c)).mp h
      simp only [Tbl.items] at h'
      exact ⟨keysDistinct_of_nodup _ (by rw [keys_itemEntriesToPlain]; exact h'.1), wk_ientries items h'.2⟩
theorem wk_tbls : ∀ ts : List Tbl, (∀ t ∈ ts, GT t) → WellKeyedList (tblsToPlain ts)
  | [], _ => by simp [tblsToPlain, WellKeyedList]
  | t :: r, h => by
      rw [tblsToPlain, WellKeyedList]
      exact ⟨wk_tbl t (h t (by simp)), wk_tbls r (fun x hx => h x (by simp [hx]))⟩
theorem wk_ientries : ∀ l : List (Bytes × Item), (∀ p ∈ l, GI p.2) → WellKeyedEntries (itemEntriesToPlain l)
  | [], _ => by simp [itemEntriesToPlain, WellKeyedEntries]
  | (k, v) :: r, h => by
      rw [itemEntriesToPlain, WellKeyedEntries]
      exact ⟨wk_item v (h (k, v) (by simp)), wk_ientries r (fun x hx => h x (by simp [hx]))⟩
end

/-- the plain data of every document the parser accepts has no repeated key in any table, at any depth -/
theorem T18_parsed_wellKeyed (s : Bytes) (T : Tbl) (h : Doc.parseDocument s = some T) : WellKeyed (toPlain T) :=
  wk_tbl T (parseDocument_good s T h)

/-- for every accepted text: the value the `preserve_order` build holds and the value the default
    build holds are equal up to permuting table entries at every depth — the documented exception
    and nothing more -/
theorem T18_configs_permEquiv_parsed (s : Bytes) (T : Tbl) (h : Doc.parseDocument s = some T) :
    permEquiv (orderPlain .insertion (toPlain T)) (orderPlain .sorted (toPlain T)) :=
  T18_configs_permEquiv _ (T18_parsed_wellKeyed s T h)

/-- for every accepted text: the sorted form holds the same data as the decoded document -/
theorem T18_sorted_same_data_parsed (s : Bytes) (T : Tbl) (h : Doc.parseDocument s = some T) :
    permEquiv (toPlain T) (sortPlain (toPlain T)) :=
  T18_sorted_same_data _ (T18_parsed_wellKeyed s T h)

/-- for every accepted text: a root lookup answers the same in both builds -/
theorem T18_lookup_sorted_parsed (s : Bytes) (T : Tbl) (k : Bytes) (h : Doc.parseDocument s = some T) :
    alookup k (iterOrder .sorted (itemEntriesToPlain T.items)) =
      alookup k (iterOrder .insertion (itemEntriesToPlain T.items)) := by
  have hg := (gt_iff T).mp (parseDocument_good s T h)
  exact T18_lookup_sorted k _ (keysDistinct_of_nodup _ (by rw [keys_itemEntriesToPlain]; exact hg.1))

/-- non-vacuity: an accepted two-table text whose insertion order is not the sorted order -/
def exText : Bytes := strBytes "b = { y = 1, x = 2 }\na = 2\n[[t]]\nd = 1\nc = 2\n"

theorem exText_accepted : (Doc.parseDocument exText).isSome = true := by
  rw [exText, strBytes_eq rfl]; decide +kernel

example : ∃ T, Doc.parseDocument exText = some T := Option.isSome_iff_exists.mp exText_accepted

end TomlVerif.Props.C18Parsed
