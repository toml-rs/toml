import TomlVerif.Props.C05Doc
/-! # C05 at document level — the bound `3 * LIMIT - 2` is reached

`deepDoc 79 78` (6796 bytes): the 79 lines `[[a]]`, `[[a.a]]`, …, `[[a.….a]]` (79 components, the most a header may
have) make every key on the way an array of tables, and the line `b.….b=[]` (79 components, the value at recursion
depth 78, the deepest at which an array is still accepted) fills the last table.  The decoded tree is exactly
`K = 238` levels deep: the member `m = 79`, `k = 78` of the family `deepDoc m k`, whose depth is `2 * m + k + 2`
(`deepDoc_depth`, `Lemmas/Depth05DeepDoc.lean`). -/
namespace TomlVerif.Props.C05Doc
open TomlVerif TomlVerif.Model TomlVerif.Lemmas.Depth05Doc

theorem deepDoc_tight : (Doc.parseDocument (deepDoc 79 78)).map nestTbl = some K :=
  deepDoc_depth 78 78 (by decide) (by decide)

/-- the bound of `T05_document_depth` is attained by an accepted text -/
theorem T05_document_depth_tight : ∃ s T, Doc.parseDocument s = some T ∧ nestTbl T = K := by
  have h := deepDoc_tight
  cases hp : Doc.parseDocument (deepDoc 79 78) with
  | none => rw [hp] at h; cases h
  | some T =>
    rw [hp] at h
    exact ⟨deepDoc 79 78, T, hp, by simpa using h⟩

end TomlVerif.Props.C05Doc
