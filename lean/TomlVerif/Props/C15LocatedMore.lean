import TomlVerif.Props.C15Located
/-! C15, second sentence: `T15_loc_elem_precise` for the other `visit_seq` targets — a TUPLE read from an array
    (`decodeLocTys`) and a derived STRUCT read from an array (`decodeLocFieldsSeq`): when the components before position i decode
    and component i fails, the error is the component's error with the COMPONENT's span filled in if it had none; its span lies
    inside the component's span, never at the enclosing array. -/
namespace TomlVerif.Props.C15Located
open TomlVerif TomlVerif.Model TomlVerif.Model.DeTyped TomlVerif.Model.Cst TomlVerif.Model.DeLocated
open TomlVerif.Lemmas.DeLocated15 TomlVerif.Lemmas.Cst03

/-- component `x : t` is the first one of the tuple `ts` over the elements `l` that does not decode -/
inductive FirstFail (fl : TomlValue.Flavour) : Tys → List CItem → Ty → CItem → Prop where
  | here {t : Ty} {r : Tys} {x : CItem} {l : List CItem} : FirstFail fl (.cons t r) (x :: l) t x
  | later {t0 t : Ty} {r : Tys} {y x : CItem} {l : List CItem} {d : Dec} :
      decodeLoc fl t0 y = .ok d → FirstFail fl r l t x → FirstFail fl (.cons t0 r) (y :: l) t x

theorem tys_first_error (fl : TomlValue.Flavour) {ts : Tys} {l : List CItem} {t : Ty} {x : CItem} (h : FirstFail fl ts l t x)
    (e : LErr) (he : atSpan x.span (decodeLoc fl t x) = .error e) : decodeLocTys fl ts l = .error e := by
  induction h with
  | here => unfold decodeLocTys; rw [he]; rfl
  | later hd _ ih => unfold decodeLocTys; rw [hd, ih he]; rfl

/-- A tuple `(T0, …)` read from an array whose component `x : t` — after components that decode —
fails: the tuple's error is the component's error with the COMPONENT's span filled in if it had none; its span lies inside
the span of `x` (never the enclosing array's), the keys are the component's. -/
theorem T15_loc_tuple_precise (fl : TomlValue.Flavour) (ts : Tys) (t : Ty) (it x : SItem) (l : List SItem) (ex : LErr) (a : Span)
    (hl : citemElems it = some l) (hf : FirstFail fl ts l t x)
    (hx : decodeLoc fl t x = .error ex) (hsp : x.span = some a) (henc : Encl x) :
    ∃ sp, decodeLoc fl (.tuple ts) it = .error ⟨some sp, ex.keys⟩ ∧ a.1 ≤ sp.1 ∧ sp.2 ≤ a.2 ∧
      (ex.span = none → sp = a) ∧ (∀ s, ex.span = some s → sp = s) := by
  obtain ⟨sp, herr, h1, h2, h3, h4⟩ := elem_error_inside fl t x ex a hx hsp (henc a hsp)
  refine ⟨sp, ?_, h1, h2, h3, h4⟩
  have hm := tys_first_error fl hf _ herr
  unfold decodeLoc
  rw [hl]
  simp only [hm]
  rfl

/-- field `x : t` is the first one of the struct `fs` over the elements `l` that does not decode -/
inductive FirstFailF (fl : TomlValue.Flavour) : Fields → List CItem → Ty → CItem → Prop where
  | here {n : Bytes} {t : Ty} {d : Bool} {r : Fields} {x : CItem} {l : List CItem} : FirstFailF fl (.cons n t d r) (x :: l) t x
  | later {n : Bytes} {t0 t : Ty} {df : Bool} {r : Fields} {y x : CItem} {l : List CItem} {d : Dec} :
      decodeLoc fl t0 y = .ok d → FirstFailF fl r l t x → FirstFailF fl (.cons n t0 df r) (y :: l) t x

theorem fseq_first_error (fl : TomlValue.Flavour) {fs : Fields} {l : List CItem} {t : Ty} {x : CItem}
    (h : FirstFailF fl fs l t x) (e : LErr) (he : atSpan x.span (decodeLoc fl t x) = .error e) :
    decodeLocFieldsSeq fl fs l = .error e := by
  induction h with
  | here => unfold decodeLocFieldsSeq; rw [he]; rfl
  | later hd _ ih => unfold decodeLocFieldsSeq; rw [hd, ih he]; rfl

/-- The same for a derived struct read from an array (`visit_seq`). An item with elements is
not read as a map, so `hm0` follows from `hl` (`DeLocated15.locMapEntries_of_elems`). -/
theorem T15_loc_struct_seq_precise (fl : TomlValue.Flavour) (fs : Fields) (t : Ty) (it x : SItem) (l : List SItem) (ex : LErr)
    (a : Span) (hm0 : locMapEntries it = none) (hl : citemElems it = some l) (hf : FirstFailF fl fs l t x)
    (hx : decodeLoc fl t x = .error ex) (hsp : x.span = some a) (henc : Encl x) :
    ∃ sp, decodeLoc fl (.struct fs) it = .error ⟨some sp, ex.keys⟩ ∧ a.1 ≤ sp.1 ∧ sp.2 ≤ a.2 ∧
      (ex.span = none → sp = a) ∧ (∀ s, ex.span = some s → sp = s) := by
  obtain ⟨sp, herr, h1, h2, h3, h4⟩ := elem_error_inside fl t x ex a hx hsp (henc a hsp)
  refine ⟨sp, ?_, h1, h2, h3, h4⟩
  have hm := fseq_first_error fl hf _ herr
  clear hm0
  unfold decodeLoc
  rw [locMapEntries_of_elems hl, hl]
  simp only [hm]
  rfl

/-! ## non-vacuity: `a = [1, 1979-05-27]` into `struct { a: (i64, Time) }`: the second component's span 8..18 -/

def exTupleText : Bytes :=
  [0x61, 0x20, 0x3d, 0x20, 0x5b, 0x31, 0x2c, 0x20, 0x31, 0x39, 0x37, 0x39, 0x2d, 0x30, 0x35, 0x2d, 0x32, 0x37, 0x5d, 0x0a]
example : (parseCst exTupleText).map (fun d =>
      errOf (decodeLoc .sorted (.struct (.cons [0x61] (.tuple (.cons (.int (-9223372036854775808) 9223372036854775807)
        (.cons .time .nil))) false .nil)) (.table d.root))) =
    some (some ⟨some (8, 18), [[0x61]]⟩) := by decide +kernel

end TomlVerif.Props.C15Located
