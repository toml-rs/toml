import TomlVerif.Lemmas.State09
/-! # C09 — no key or table definition is ever silently overwritten or merged

A statement is either rejected (`none`) or it adds new entries while every value defined before
stays exactly where it was. `lookupTbl` / `lookupVal` follow a dotted path the way the parser's
`descend_path` does (through tables and the last element of an array of tables) without creating
anything; `lookupValG` additionally lets a path pick the i-th element of an array of tables. -/
namespace TomlVerif.Props.C09
open TomlVerif TomlVerif.Model TomlVerif.Model.State TomlVerif.Lemmas.State09

/-- for the examples: the looked-up value is the integer `n` -/
def isInt : Option Val → Int → Bool
  | some (.int m), n => m == n
  | _, _ => false

def ka : Bytes := [97]
def kb : Bytes := [98]
def kx : Bytes := [120]
def ky : Bytes := [121]

/-- state after `a.x = 1` in the root section -/
def exSt1 : Option ParseState := onKeyval {} [ka] kx (.int 1)
/-- … followed by `a.y = 2` -/
def exSt2 : Option ParseState := exSt1.bind fun st => onKeyval st [ka] ky (.int 2)

/-- an accepted `path.key = v`: the key was not defined before in the table the path leads to, and
    afterwards it is defined with exactly the value `v` -/
theorem T09_keyval_vacant (st st' : ParseState) (path : List Bytes) (key : Bytes) (v : Val)
    (h : onKeyval st path key v = some st') :
    (∀ t, lookupTbl st.current path = some t → alookup key t.items = none) ∧
    lookupVal st'.current path key = some v := by
  obtain ⟨c, hd, rfl⟩ := onKeyval_some st st' path key v h
  obtain ⟨u, u', hu, hf, rfl⟩ := (descend_some_iff ..).1 hd
  obtain ⟨hvac, rfl, _⟩ := kvF_some _ _ _ _ _ hf
  refine ⟨fun t ht => by rw [← focus_of_lookup ht hu]; exact hvac, ?_⟩
  simp only [lookupVal, lookupTbl_plug hu, valueAt_eq_some]
  exact alookup_append_new key _ _ hvac

/-- `a.x = 1` then `a.y = 2` is accepted; before the second statement `y` is absent from `a`,
    afterwards it is 2 -/
example : exSt2.isSome = true ∧
    (exSt1.bind fun st => lookupTbl st.current [ka]).isSome = true ∧
    isInt (exSt1.bind fun st => lookupVal st.current [ka] ky) 2 = false ∧
    isInt (exSt2.bind fun st => lookupVal st.current [ka] ky) 2 = true := by decide

/-- an accepted key/value statement keeps every value defined earlier in the section, at its indexed
    path: also the values inside earlier elements of arrays of tables stay -/
theorem T09_keyval_preserves_indexed (st st' : ParseState) (path : List Bytes) (key : Bytes) (v : Val)
    (h : onKeyval st path key v = some st') :
    ∀ ip k x, lookupValG st.current ip k = some x → lookupValG st'.current ip k = some x := by
  obtain ⟨c, hd, hst⟩ := onKeyval_some st st' path key v h
  subst hst
  intro ip k x hx
  refine descend_pres (fun _ => True) _ _ _ _ _ hd ?_ ip k x (fun _ _ => trivial) hx
  intro u' hf
  obtain ⟨_, hu', _⟩ := kvF_some _ _ _ _ _ hf
  subst hu'
  exact presP_of_keeps _ _ _ fun k item hk => alookup_append_old _ _ _ _ _ hk

/-- an accepted key/value statement keeps every value defined earlier in the section at its plain path too (same
    path, same key, same value) and does not touch the finalized part of the document -/
theorem T09_keyval_preserves (st st' : ParseState) (path : List Bytes) (key : Bytes) (v : Val)
    (h : onKeyval st path key v = some st') :
    (∀ p k x, lookupVal st.current p k = some x → lookupVal st'.current p k = some x) ∧
    st'.root = st.root :=
  ⟨lookupVal_of_presP (P := fun _ => True) trivial fun ip k x _ hx => T09_keyval_preserves_indexed st st' path key v h ip k x hx,
    by obtain ⟨c, _, rfl⟩ := onKeyval_some st st' path key v h; rfl⟩

/-- after `a.x = 1`, `a.y = 2` the first value is still 1 -/
example : isInt (exSt1.bind fun st => lookupVal st.current [ka] kx) 1 = true ∧
    isInt (exSt2.bind fun st => lookupVal st.current [ka] kx) 1 = true := by decide

/-- the same key twice in one table is always rejected, whatever the new value -/
theorem T09_duplicate_rejected (st : ParseState) (path : List Bytes) (key : Bytes) (v : Val) (t : Tbl)
    (ht : lookupTbl st.current path = some t) (hk : (alookup key t.items).isSome = true) :
    onKeyval st path key v = none := by
  rw [onKeyval_none_iff]
  intro x hx
  rw [focus_of_lookup ht hx]
  exact Or.inr hk

/-- `a.x = 1` then `a.x = 2` is rejected -/
example : (exSt1.bind fun st => onKeyval st [ka] kx (.int 2)).isSome = false ∧
    (exSt1.bind fun st => (lookupTbl st.current [ka]).bind fun t => alookup kx t.items).isSome = true := by decide

/-- a dotted key cannot go through something that is a value (scalar, array, inline table) -/
theorem T09_extend_value_rejected (st : ParseState) (p1 p2 : List Bytes) (k key : Bytes) (v x : Val) (u : Tbl)
    (hu : lookupTbl st.current p1 = some u) (hk : alookup k u.items = some (.value x)) :
    onKeyval st (p1 ++ k :: p2) key v = none :=
  onKeyval_none_below st p1 (k :: p2) key v u hu fun y hy => by rw [focus, hk] at hy; cases hy

/-- `a.x = 1` then `a.x.y = 2` is rejected -/
example : (exSt1.bind fun st => onKeyval st [ka, kx] ky (.int 2)).isSome = false := by decide


/-- a dotted key can never add anything below an element of an array of tables: if the path reaches
    an array of tables and continues, the statement is rejected -/
theorem T09_dotted_through_aot_rejected (st : ParseState) (p1 p2 : List Bytes) (k key : Bytes) (v : Val)
    (u : Tbl) (ts : List Tbl)
    (hu : lookupTbl st.current p1 = some u) (hk : alookup k u.items = some (.aot ts)) (hp2 : p2 ≠ []) :
    onKeyval st (p1 ++ k :: p2) key v = none :=
  onKeyval_none_below st p1 (k :: p2) key v u hu fun y hy => by
    rw [focus, hk] at hy
    cases p2 with
    | nil => exact absurd rfl hp2
    | cons a r => cases hy

/-- the single-segment case: a dotted key whose table part *is* an array of tables is rejected too
    when the last element is not a dotted table (the hypothesis `hlast`; `DefRules09.kwalk_sim` derives
    it for states related to a state of the rules): the mixed-table-types check fails against that
    element, and an empty array is rejected outright -/
theorem T09_dotted_onto_aot_rejected (st : ParseState) (p1 : List Bytes) (k key : Bytes) (v : Val)
    (u : Tbl) (ts : List Tbl)
    (hu : lookupTbl st.current p1 = some u) (hk : alookup k u.items = some (.aot ts))
    (hlast : ∀ l, ts.getLast? = some l → l.dotted = false) :
    onKeyval st (p1 ++ [k]) key v = none :=
  onKeyval_none_below st p1 [k] key v u hu fun y hy => by
    rw [focus, hk] at hy
    simp only [Option.getD_some, List.isEmpty_nil, Bool.not_true, Bool.and_false, Bool.false_eq_true, if_false] at hy
    cases hl : ts.getLast? with
    | none => rw [hl] at hy; cases hy
    | some l =>
      rw [hl] at hy
      simp only [focus, Option.some.injEq] at hy
      subst hy
      exact Or.inl (by rw [hlast l hl]; simp)

/-- after `[[a.b]]`, `x = 1`, `[a]` the open section `a` holds the array of tables `b` (one element,
    not dotted); `b.c.y = 2` and `b.y = 2` are both rejected, `c.y = 2` is accepted -/
def exAot : Option ParseState := run {} [.arr [ka, kb], .kv [] kx (.int 1), .std [ka]]

def isAotWith (i : Option Item) (p : Tbl → Bool) : Bool :=
  match i with
  | some (.aot ts) => match ts.getLast? with
    | some l => p l
    | none => false
  | _ => false

example : exAot.isSome = true ∧
    (exAot.bind fun st => some (isAotWith (alookup kb st.current.items) fun l => !l.dotted)) = some true ∧
    (exAot.bind fun st => onKeyval st [kb, [99]] ky (.int 2)).isSome = false ∧
    (exAot.bind fun st => onKeyval st [kb] ky (.int 2)).isSome = false ∧
    (exAot.bind fun st => onKeyval st [[99]] ky (.int 2)).isSome = true := by decide

/-- the section that is being closed ends up at its header path (for `[[p]]`: as the last element) -/
theorem T09_finalize_places (st st' : ParseState) (h : finalizeTable st = some st') :
    lookupTbl st'.root st.currentPath = some st.current := by
  rcases finalizeTable_some st st' h with ⟨hp, _, hst⟩ | ⟨pp, key, root', hp, hd, hst⟩
  · subst hst; rw [hp]; rfl
  · subst hst
    obtain ⟨u, u', hu, hf, rfl⟩ := (descend_some_iff ..).1 hd
    rw [hp, lookupTbl_append]
    simp only [lookupTbl_plug hu, Option.bind_some]
    exact finF_places _ _ _ _ _ hf

/-- every value of the closed section is reachable below the header path, and nothing else is -/
theorem T09_finalize_reachable (st st' : ParseState) (h : finalizeTable st = some st') (p : List Bytes) (k : Bytes) :
    lookupVal st'.root (st.currentPath ++ p) k = lookupVal st.current p k :=
  lookupVal_append _ _ _ _ _ (T09_finalize_places st st' h)

/-- closing a `[table]` section keeps every value of the finalized part — provided that, if the
    header key is bound to an implicit table, the section still has all of that table's values
    (`start_table` moved them into the section) -/
theorem T09_finalize_preserves_std_general (P : Option Nat → Prop) (st st' : ParseState)
    (harr : st.currentIsArray = false)
    (hv : ∀ pp key t0, st.currentPath = pp ++ [key] →
      alookup key (target st.root pp false).items = some (.table t0) → PresP P t0 st.current)
    (h : finalizeTable st = some st') : PresP P st.root st'.root := by
  rcases finalizeTable_some st st' h with ⟨_, he, hst⟩ | ⟨pp, key, root', hp, hd, hst⟩
  · subst hst; exact presP_of_empty _ _ _ he
  · subst hst
    refine descend_pres P _ _ _ _ _ hd ?_
    intro u' hf
    simp only [finF, harr, Bool.false_eq_true, if_false] at hf
    exact finStdF_pres P _ _ _ _ hf fun t0 h0 => hv pp key t0 hp h0

/-- closing a `[table]` section whose key is vacant keeps every value of the finalized part
    (plain and indexed paths) -/
theorem T09_finalize_preserves_std (st st' : ParseState) (harr : st.currentIsArray = false)
    (hv : Vacant st.root st.currentPath) (h : finalizeTable st = some st') :
    (∀ p k x, lookupVal st.root p k = some x → lookupVal st'.root p k = some x) ∧
    (∀ ip k x, lookupValG st.root ip k = some x → lookupValG st'.root ip k = some x) := by
  have : PresP (fun _ => True) st.root st'.root := by
    refine T09_finalize_preserves_std_general _ st st' harr ?_ h
    intro pp key t0 hp h0
    rw [hp] at hv
    rw [vacant_target _ _ _ hv] at h0
    cases h0
  exact ⟨lookupVal_of_presP (P := fun _ => True) trivial this, fun ip k x hx => this ip k x (fun _ _ => trivial) hx⟩

/-- closing a `[[array]]` section appends an element: every value keeps its indexed path
    (paths that say "i-th element" at every array of tables) -/
theorem T09_finalize_preserves_array (st st' : ParseState) (harr : st.currentIsArray = true)
    (h : finalizeTable st = some st') :
    ∀ ip k x, (∀ e ∈ ip, e.2.isSome) → lookupValG st.root ip k = some x → lookupValG st'.root ip k = some x := by
  have : PresP (fun s => s.isSome) st.root st'.root := by
    rcases finalizeTable_some st st' h with ⟨_, he, hst⟩ | ⟨pp, key, root', hp, hd, hst⟩
    · subst hst; exact presP_of_empty _ _ _ he
    · subst hst
      refine descend_pres _ _ _ _ _ _ hd ?_
      intro u' hf
      simp only [finF, harr, if_true] at hf
      exact finArrF_pres _ _ _ _ hf
  exact fun ip k x hp hx => this ip k x hp hx

/-- state after `[a.b]`, `x = 1`, `[c]`, `y = 2` (section `[c]` still open): closing it is accepted,
    `a.b.x` stays 1, and the section's `y` appears at `c.y` -/
def exOpen : Option ParseState :=
  run {} [.std [ka, kb], .kv [] kx (.int 1), .std [[99]], .kv [] ky (.int 2)]

example : (exOpen.bind finalizeTable).isSome = true ∧
    (exOpen.bind fun st => some (st.currentIsArray, st.currentPath)) = some (false, [[99]]) ∧
    (exOpen.bind fun st => (lookupTbl st.root []).bind fun u => alookup [99] u.items).isSome = false ∧
    isInt (exOpen.bind fun st => lookupVal st.root [ka, kb] kx) 1 = true ∧
    isInt ((exOpen.bind finalizeTable).bind fun st => lookupVal st.root [ka, kb] kx) 1 = true ∧
    isInt (exOpen.bind fun st => lookupVal st.current [] ky) 2 = true ∧
    isInt ((exOpen.bind finalizeTable).bind fun st => lookupVal st.root [[99]] ky) 2 = true := by decide

/-! Without the vacancy hypothesis `finalize_table` may replace an implicit table: the state below
(root `a = {x = 1}` implicit, empty section for `[a]`) cannot arise from `start_table`, which takes
the implicit table out first — but the function itself overwrites it. -/
def exBadSt : ParseState :=
  { root := .mk [(ka, .table (.mk [(kx, .value (.int 1))] true false none))] false false none,
    current := Tbl.empty, currentPath := [ka], currentIsArray := false }

example : isInt (lookupVal exBadSt.root [ka] kx) 1 = true ∧
    (finalizeTable exBadSt).isSome = true ∧
    ((finalizeTable exBadSt).bind fun st => lookupVal st.root [ka] kx).isSome = false := by decide

/-- with "last element" paths the array case does not preserve: after `[[a]]`, `x = 1`, `[[a]]`,
    `y = 2`, closing the second element makes `a.x` (through the last element) disappear; with the
    indexed path `a[0].x` it stays (`T09_finalize_preserves_array`) -/
def exArrSt : ParseState :=
  { root := .mk [(ka, .aot [.mk [(kx, .value (.int 1))] false false none])] false false none,
    current := .mk [(ky, .value (.int 2))] false false none, currentPath := [ka], currentIsArray := true }

example : isInt (lookupVal exArrSt.root [ka] kx) 1 = true ∧
    ((finalizeTable exArrSt).bind fun st => lookupVal st.root [ka] kx).isSome = false ∧
    isInt ((finalizeTable exArrSt).bind fun st => lookupValG st.root [(ka, some 0)] kx) 1 = true ∧
    isInt ((finalizeTable exArrSt).bind fun st => lookupVal st.root [ka] ky) 2 = true := by decide

/-- `[p]` where `p` is already defined — as a value, an array of tables, an explicit table or a
    dotted-key table — is rejected; only an implicit, non-dotted table may be re-opened -/
theorem T09_header_reopen_rejected (st : ParseState) (pp : List Bytes) (key : Bytes) (u : Tbl) (item : Item)
    (hu : lookupTbl st.root pp = some u) (hk : alookup key u.items = some item)
    (hitem : ∀ t, item = .table t → t.implicit = false ∨ t.dotted = true) :
    startTable st (pp ++ [key]) = none := by
  rw [startTable_append]
  cases hf : focus false st.root pp with
  | none => rfl
  | some x =>
    rw [focus_of_lookup hu hf, Option.bind_some, Option.map_eq_none_iff]
    cases ho : reopen u key with
    | none => rfl
    | some o =>
      rcases reopen_some ho with ⟨hn, _⟩ | ⟨t0, ha, hi, hd, _⟩
      · rw [hn] at hk; cases hk
      · rw [ha] at hk; injection hk with hk
        rcases hitem t0 hk.symm with e | e
        · rw [e] at hi; cases hi
        · rw [e] at hd; cases hd

/-- `[a]` twice: the second header is rejected; `[a.b]` then `[a]` (implicit `a`) is accepted -/
example : (run {} [.std [ka], .std [ka]]).isSome = false ∧
    (run {} [.std [ka, kb], .std [ka]]).isSome = true ∧
    (run {} [.kv [] ka (.int 1), .std [ka]]).isSome = false ∧
    (run {} [.kv [ka] kx (.int 1), .std [ka]]).isSome = false ∧
    (run {} [.arr [ka], .std [ka]]).isSome = false := by decide

/-! `run` folds the three handlers over a statement list. The document "as if the input ended here"
is `intoDocument st` (close the open section). Along an accepted run it only grows: every value
keeps its indexed path and its content, under the invariant `Inv` (distinct keys in every table
reached through last elements; the key of an open `[table]` section is vacant in the finalized
part). -/

/-- key/value statements and `[table]` headers also keep "last element" paths (plain dotted paths) -/
theorem T09_step_plain (st st1 : ParseState) (s : Stmt) (d : Tbl) (hi : Inv st) (hs : ∀ p, s ≠ .arr p)
    (h : step st s = some st1) (hd : intoDocument st = some d) :
    ∃ d1, intoDocument st1 = some d1 ∧
      ∀ p k x, lookupVal d p k = some x → lookupVal d1 p k = some x := by
  have hf := finalize_of_into st d hd
  cases s with
  | kv p k v =>
    obtain ⟨sf1, hf1, hp, _⟩ := kv_step (fun _ => True) st st1 _ p k v hi h hf
    exact ⟨sf1.root, by simp [intoDocument, hf1], lookupVal_of_presP (P := fun _ => True) trivial hp⟩
  | std p =>
    simp only [step, onStdHeader, hf] at h
    obtain ⟨sf1, hf1, hp, _⟩ := std_step (fun _ => True) _ st1 p (finalize_wf st _ hi hf) rfl h
    exact ⟨sf1.root, by simp [intoDocument, hf1], lookupVal_of_presP (P := fun _ => True) trivial hp⟩
  | arr p => exact absurd rfl (hs p)

/-- along any accepted run from a state satisfying the invariant, the document only grows -/
theorem T09_run_from (st st' : ParseState) (stmts : List Stmt) (d : Tbl) (hi : Inv st)
    (h : run st stmts = some st') (hd : intoDocument st = some d) :
    ∃ d', intoDocument st' = some d' ∧ Inv st' ∧
      ∀ ip k x, (∀ e ∈ ip, e.2.isSome) → lookupValG d ip k = some x → lookupValG d' ip k = some x := by
  obtain ⟨sf', hf', hp, hi'⟩ := run_view st st' _ stmts hi h (finalize_of_into st d hd)
  exact ⟨sf'.root, by simp [intoDocument, hf'], hi', fun ip k x he hx => hp ip k x he hx⟩

/-- one accepted statement keeps every value of the document-so-far -/
theorem T09_step (st st1 : ParseState) (s : Stmt) (d : Tbl) (hi : Inv st) (h : step st s = some st1)
    (hd : intoDocument st = some d) :
    ∃ d1, intoDocument st1 = some d1 ∧ Inv st1 ∧
      ∀ ip k x, (∀ e ∈ ip, e.2.isSome) → lookupValG d ip k = some x → lookupValG d1 ip k = some x :=
  T09_run_from st st1 [s] d hi (by simp only [run, h]) hd

/-- the state after any accepted statement list can always be closed into a document -/
theorem T09_run_document_defined (stmts : List Stmt) (st : ParseState) (h : run {} stmts = some st) :
    (intoDocument st).isSome = true := by
  obtain ⟨d', hd', _, _⟩ := T09_run_from {} st stmts Tbl.empty inv_init h rfl
  simp [hd']

/-- **C09 for whole inputs**: if `s1 ++ s2` is accepted, then `s1` is accepted, both have a
    document, and every value of the document of `s1` is in the document of `s1 ++ s2` at the same
    (indexed) path with the same content: later statements never overwrite or merge anything -/
theorem T09_run (s1 s2 : List Stmt) (st2 : ParseState) (h : run {} (s1 ++ s2) = some st2) :
    ∃ st1 d1 d2, run {} s1 = some st1 ∧ intoDocument st1 = some d1 ∧ intoDocument st2 = some d2 ∧
      ∀ ip k x, (∀ e ∈ ip, e.2.isSome) → lookupValG d1 ip k = some x → lookupValG d2 ip k = some x := by
  rw [run_append] at h
  cases h1 : run {} s1 with
  | none => simp [h1] at h
  | some st1 =>
    simp [h1] at h
    obtain ⟨d1, hd1, hi1, _⟩ := T09_run_from {} st1 s1 Tbl.empty inv_init h1 rfl
    obtain ⟨d2, hd2, _, hp⟩ := T09_run_from st1 st2 s2 d1 hi1 h hd1
    exact ⟨st1, d1, d2, rfl, hd1, hd2, hp⟩

/-- `x = 1`, `[a.b]`, `x = 1`, `[[c]]`, `y = 2`, `[a]`, `y = 2`, `[[c]]`, `y = 3` -/
def exDoc : List Stmt :=
  [.kv [] kx (.int 1), .std [ka, kb], .kv [] kx (.int 1), .arr [[99]], .kv [] ky (.int 2),
   .std [ka], .kv [] ky (.int 2), .arr [[99]], .kv [] ky (.int 3)]

/-- the run is accepted; the prefix of 5 statements has `x`, `a.b.x`, `c[0].y`; all are still there
    after the remaining 4 (which re-open the implicit `a` and append a second `[[c]]`) -/
example : (run {} exDoc).isSome = true ∧
    isInt (((run {} (exDoc.take 5)).bind intoDocument).bind fun d => lookupValG d [] kx) 1 = true ∧
    isInt (((run {} (exDoc.take 5)).bind intoDocument).bind fun d => lookupValG d [(ka, some 0), (kb, some 0)] kx) 1 = true ∧
    isInt (((run {} (exDoc.take 5)).bind intoDocument).bind fun d => lookupValG d [([99], some 0)] ky) 2 = true ∧
    isInt (((run {} exDoc).bind intoDocument).bind fun d => lookupValG d [] kx) 1 = true ∧
    isInt (((run {} exDoc).bind intoDocument).bind fun d => lookupValG d [(ka, some 0), (kb, some 0)] kx) 1 = true ∧
    isInt (((run {} exDoc).bind intoDocument).bind fun d => lookupValG d [([99], some 0)] ky) 2 = true ∧
    isInt (((run {} exDoc).bind intoDocument).bind fun d => lookupValG d [([99], some 1)] ky) 3 = true ∧
    isInt (((run {} exDoc).bind intoDocument).bind fun d => lookupValG d [(ka, some 0)] ky) 2 = true := by decide

/-! The finalized part `st.root` by itself is not monotone: `start_table` takes an implicit table out
of `root` while its section is open (it comes back when the section is closed), and with
"last element" paths a later `[[a]]` hides the earlier element. -/

/-- the naive statement: a value visible in `root` after `s1` is visible in `root` after `s1 ++ s2` -/
def RootMonotone : Prop :=
  ∀ (s1 s2 : List Stmt) (p : List Bytes) (k : Bytes) (x : Val),
    ((run {} s1).bind fun st => lookupVal st.root p k) = some x →
    ((run {} (s1 ++ s2)).bind fun st => lookupVal st.root p k) = some x

/-- `[a.b]`, `x = 1`, `[c]` puts `a.b.x` into `root`; the following `[a]` takes `a` out again -/
theorem T09_root_not_monotone : ¬ RootMonotone := by
  intro h
  have h1 := h [.std [ka, kb], .kv [] kx (.int 1), .std [[99]]] [.std [ka]] [ka, kb] kx (.int 1) (by rfl)
  have h2 := congrArg Option.isSome h1
  revert h2
  decide

/-- `[[a]]`, `x = 1`, `[[a]]`, `y = 2`, `[b]`: `a.x` (last element) is visible in `root` after the
    second `[[a]]` and hidden after `[b]`; by index (`a[0].x`) it stays -/
example :
    isInt ((run {} [.arr [ka], .kv [] kx (.int 1), .arr [ka]]).bind fun st => lookupVal st.root [ka] kx) 1 = true ∧
    ((run {} [.arr [ka], .kv [] kx (.int 1), .arr [ka], .kv [] ky (.int 2), .std [kb]]).bind
      fun st => lookupVal st.root [ka] kx).isSome = false ∧
    isInt ((run {} [.arr [ka], .kv [] kx (.int 1), .arr [ka], .kv [] ky (.int 2), .std [kb]]).bind
      fun st => lookupValG st.root [(ka, some 0)] kx) 1 = true := by decide

end TomlVerif.Props.C09
