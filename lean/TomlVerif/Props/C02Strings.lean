import TomlVerif.Lemmas.MlStrings02
/-! # C02 (strings) — every spelling the grammar allows decodes to the value the specification assigns

Specification: `Spec/AstString.lean` (abstract syntax of toml.abnf's four string productions with
`render`, `sem`, `wf`).  Model: `Model/Strings.lean`.  The `_general` theorems quantify over every
well-formed abstract string, the `_sound` and `_iff` ones over every input; the single-line kinds before
every continuation `rest`, the multi-line kinds and the whole production (`T02_string_dispatch`) before
every `rest` the grammar allows there (`MlFollow`, `StringAst.Follow`); nothing is bounded. -/
namespace TomlVerif.Props.C02Strings
open TomlVerif TomlVerif.Spec TomlVerif.Spec.AstString TomlVerif.Model.Strings TomlVerif.Lemmas TomlVerif.Lemmas.S02

theorem T02_basic_general (cs : List BasicChar) (rest : Bytes) (h : wfBasic cs = true) :
    basicString (renderBasic cs ++ rest) = .ok (semBasic cs) rest := by
  simp only [renderBasic, List.cons_append, List.append_assoc, List.nil_append, basicString]
  have := basic_body_general cs ((cs.flatMap BasicChar.render ++ 0x22 :: rest).length + 1) rest [] h (by omega)
  simpa using this

theorem T02_literal_general (bs rest : Bytes) (h : wfLiteral bs = true) :
    literalString (renderLiteral bs ++ rest) = .ok (semLiteral bs) rest := by
  have := takeLiteral_all bs (0x27 :: rest) h (by intro x r e; injection e with e _; subst e; decide)
  simp [renderLiteral, semLiteral, literalString, this]

theorem T02_ml_literal_general (a : MlLiteral) (rest : Bytes) (h : a.wf = true)
    (hf : MlFollow 0x27 (mllTrailing a.items) rest) :
    mlLiteralString (a.render ++ rest) = .ok a.sem rest := by
  simp only [MlLiteral.wf, Bool.and_eq_true] at h
  have hnl : a.firstNl = none →
      newline? (a.items.flatMap MllItem.render ++ 0x27 :: 0x27 :: 0x27 :: rest) = none := by
    intro hn
    obtain ⟨x, u, e, h2⟩ := mll_tail_head a.items rest h.1
    rw [e]
    have : ∀ j tl', a.items = j :: tl' → j.isNl = false := by
      intro j tl' e'
      have := h.2
      rw [hn, e'] at this
      simpa using this
    exact newline?_none x u (h2 this).1 (h2 this).2
  have hs := first_nl_strip a.firstNl _ hnl
  simp only [MlLiteral.render, List.cons_append, List.append_assoc, List.nil_append, mlLiteralString, hs]
  have := mll_items_general a.items
    ((a.items.flatMap MllItem.render ++ 0x27 :: 0x27 :: 0x27 :: rest).length + 1) rest [] h.1 hf (by omega)
  simpa [MlLiteral.sem] using this

theorem T02_ml_basic_general (a : MlBasic) (rest : Bytes) (h : a.wf = true)
    (hf : MlFollow 0x22 (mlbTrailing a.items) rest) :
    mlBasicString (a.render ++ rest) = .ok a.sem rest := by
  simp only [MlBasic.wf, Bool.and_eq_true] at h
  have hnl : a.firstNl = none →
      newline? (a.items.flatMap MlbItem.render ++ 0x22 :: 0x22 :: 0x22 :: rest) = none := by
    intro hn
    obtain ⟨x, u, e, h2, _⟩ := mlb_tail_head a.items rest h.1
    rw [e]
    have : ∀ j tl', a.items = j :: tl' → j.isNl = false := by
      intro j tl' e'
      have := h.2
      rw [hn, e'] at this
      simpa using this
    exact newline?_none x u (h2 this).1 (h2 this).2
  have hs := first_nl_strip a.firstNl _ hnl
  simp only [MlBasic.render, List.cons_append, List.append_assoc, List.nil_append, mlBasicString, hs]
  have := mlb_items_general a.items
    ((a.items.flatMap MlbItem.render ++ 0x22 :: 0x22 :: 0x22 :: rest).length + 1) rest [] h.1 hf (by omega)
  simpa [MlBasic.sem] using this

theorem T02_string_dispatch (a : StringAst) (rest : Bytes) (h : a.wf = true) (hf : a.Follow rest) :
    Model.Strings.string (a.render ++ rest) = .ok a.sem rest := by
  cases a with
  | basic cs =>
    simp only [StringAst.wf, StringAst.Follow, StringAst.render, StringAst.sem] at *
    have hb := T02_basic_general cs rest h
    have hm : mlBasicString (renderBasic cs ++ rest) = .bt := by
      simp only [renderBasic, List.cons_append, List.append_assoc, List.nil_append]
      cases cs with
      | nil =>
        exact mlBasicString_bt_of_third rest (hf.resolve_left fun h => h rfl)
      | cons c cs =>
        have hc : c.wf = true := by rw [wfBasic_cons] at h; simp only [Bool.and_eq_true] at h; exact h.1
        obtain ⟨x, u, e, hx⟩ : ∃ x u, c.render = x :: u ∧ x ≠ 0x22 := by
          cases c with
          | raw b => exact ⟨b, [], rfl, (basicUnescaped_ne b hc).1⟩
          | escaped e => exact ⟨0x5C, e.tail, rfl, by decide⟩
        simp only [List.flatMap_cons, e, List.cons_append]
        exact mlBasicString_bt_of_second x _ hx
    unfold Model.Strings.string
    rw [hm, hb]
  | mlBasic a =>
    simp only [StringAst.wf, StringAst.Follow, StringAst.render, StringAst.sem] at *
    unfold Model.Strings.string
    rw [T02_ml_basic_general a rest h hf]
  | literal bs =>
    simp only [StringAst.wf, StringAst.Follow, StringAst.render, StringAst.sem] at *
    have hb := T02_literal_general bs rest h
    have hm : mlLiteralString (renderLiteral bs ++ rest) = .bt := by
      simp only [renderLiteral, List.cons_append, List.append_assoc, List.nil_append]
      cases bs with
      | nil =>
        exact mlLiteralString_bt_of_third rest (hf.resolve_left fun h => h rfl)
      | cons b bs =>
        simp only [wfLiteral, List.all_cons, Bool.and_eq_true] at h
        have : b ≠ 0x27 := (mll_char_head b h.1).1
        exact mlLiteralString_bt_of_second b _ this
    have h1 : mlBasicString (renderLiteral bs ++ rest) = .bt := by simp [renderLiteral, mlBasicString]
    have h2 : basicString (renderLiteral bs ++ rest) = .bt := by simp [renderLiteral, basicString]
    unfold Model.Strings.string
    rw [h1, h2, hm, hb]
  | mlLiteral a =>
    simp only [StringAst.wf, StringAst.Follow, StringAst.render, StringAst.sem] at *
    have h1 : mlBasicString (a.render ++ rest) = .bt := by simp [MlLiteral.render, mlBasicString]
    have h2 : basicString (a.render ++ rest) = .bt := by simp [MlLiteral.render, basicString]
    unfold Model.Strings.string
    rw [h1, h2, T02_ml_literal_general a rest h hf]

theorem T02_basic_sound (s v rest : Bytes) (h : basicString s = .ok v rest) :
    ∃ cs : List BasicChar, wfBasic cs = true ∧ s = renderBasic cs ++ rest ∧ v = semBasic cs := by
  unfold basicString at h
  split at h
  · rename_i r
    obtain ⟨cs, hw, hs, hv⟩ := basic_body_sound _ r [] v rest h
    exact ⟨cs, hw, by simp [renderBasic, hs], by simpa using hv⟩
  · cases h

theorem T02_literal_sound (s v rest : Bytes) (h : literalString s = .ok v rest) :
    wfLiteral v = true ∧ s = renderLiteral v ++ rest := by
  unfold literalString at h
  split at h
  · rename_i r
    obtain ⟨ha, hs⟩ := takeLiteral_spec r
    split at h
    · rename_i body t ht
      injection h with h1 h2
      subst h1; subst h2
      rw [ht] at ha hs
      exact ⟨ha, by simp [renderLiteral, hs]⟩
    · cases h
  · cases h

theorem T02_basic_iff (s v rest : Bytes) :
    basicString s = .ok v rest ↔ ∃ cs : List BasicChar, wfBasic cs = true ∧ s = renderBasic cs ++ rest ∧ v = semBasic cs := by
  constructor
  · exact T02_basic_sound s v rest
  · rintro ⟨cs, hw, rfl, rfl⟩; exact T02_basic_general cs rest hw

theorem T02_literal_iff (s v rest : Bytes) :
    literalString s = .ok v rest ↔ wfLiteral v = true ∧ s = renderLiteral v ++ rest := by
  constructor
  · exact T02_literal_sound s v rest
  · rintro ⟨hw, rfl⟩; exact T02_literal_general v rest hw

/-- the seven one-letter escapes give exactly the code points of the TOML table; `u`/`U` go to the hex
    escapes; every other letter is a hard error -/
theorem T02_escape_table (r : Bytes) :
    escapeSeqChar (0x62 :: r) = .ok [0x08] r ∧ escapeSeqChar (0x74 :: r) = .ok [0x09] r ∧
    escapeSeqChar (0x6E :: r) = .ok [0x0A] r ∧ escapeSeqChar (0x66 :: r) = .ok [0x0C] r ∧
    escapeSeqChar (0x72 :: r) = .ok [0x0D] r ∧ escapeSeqChar (0x22 :: r) = .ok [0x22] r ∧
    escapeSeqChar (0x5C :: r) = .ok [0x5C] r ∧
    escapeSeqChar (0x75 :: r) = hexescape 4 r ∧ escapeSeqChar (0x55 :: r) = hexescape 8 r ∧
    (∀ c : UInt8, c ≠ 0x62 → c ≠ 0x74 → c ≠ 0x6E → c ≠ 0x66 → c ≠ 0x72 → c ≠ 0x22 → c ≠ 0x5C →
      c ≠ 0x75 → c ≠ 0x55 → escapeSeqChar (c :: r) = .cut) := by
  refine ⟨by simp [escapeSeqChar], by simp [escapeSeqChar], by simp [escapeSeqChar], by simp [escapeSeqChar],
    by simp [escapeSeqChar], by simp [escapeSeqChar], by simp [escapeSeqChar], by simp [escapeSeqChar],
    by simp [escapeSeqChar], ?_⟩
  intro c h1 h2 h3 h4 h5 h6 h7 h8 h9
  simp [escapeSeqChar, h1, h2, h3, h4, h5, h6, h7, h8, h9]

/-- the same, against the specification's table -/
theorem T02_escape_table_spec (c : UInt8) (r : Bytes) :
    escapeSeqChar (c :: r) =
      match escMeaning c with
      | some v => .ok [v] r
      | none => if c = 0x75 then hexescape 4 r else if c = 0x55 then hexescape 8 r else .cut :=
  escapeSeqChar_table c r

/-- hex escapes (any number of HEXDIG, either case): the UTF-8 encoding of the value when it is a
    Unicode scalar value, a hard error otherwise -/
theorem T02_hexescape (ds r : Bytes) (h : ds.all isHexdig = true) :
    hexescape ds.length (ds ++ r) =
      if Utf8.isScalar (hexValue ds) then .ok (Utf8.encode (hexValue ds)) r else .cut :=
  hexescape_digits ds r h

theorem T02_hexescape_iff (ds r : Bytes) (h : ds.all isHexdig = true) :
    hexescape ds.length (ds ++ r) = .ok (Utf8.encode (hexValue ds)) r ↔ Utf8.isScalar (hexValue ds) = true := by
  rw [T02_hexescape ds r h]
  cases Utf8.isScalar (hexValue ds) <;> simp

/-- fewer than `n` hex digits at the head (a non-hex byte among the first `n`, or too short an input) is a hard error -/
theorem T02_hexescape_cut (n : Nat) (s : Bytes) :
    (¬ ∃ ds r, ds.length = n ∧ ds.all isHexdig = true ∧ s = ds ++ r) → hexescape n s = .cut := by
  intro hno
  unfold hexescape
  cases hn : hexN n s 0 with
  | none => rfl
  | some p =>
    obtain ⟨cp, r⟩ := p
    obtain ⟨ds, hl, ha, hs, _⟩ := hexN_inv n s 0 cp r hn
    exact absurd ⟨ds, r, hl, ha, hs⟩ hno

theorem T02_ml_basic_sound (s v rest : Bytes) (h : mlBasicString s = .ok v rest) :
    ∃ a : MlBasic, a.wf = true ∧ MlFollow 0x22 (mlbTrailing a.items) rest ∧ s = a.render ++ rest ∧ v = a.sem := by
  unfold mlBasicString at h
  split at h
  · rename_i r
    simp only [] at h
    cases hn : newline? r with
    | none =>
      simp only [hn, Option.getD_none] at h
      obtain ⟨items, hw, hs, hv, hf⟩ := mlb_body_sound _ r [] v rest h
      refine ⟨⟨none, items⟩, ?_, hf, by simp [MlBasic.render, firstNlBytes, hs], by simpa [MlBasic.sem] using hv⟩
      rw [hs] at hn
      rw [mlb_wf_none items _ hn]; exact hw
    | some r' =>
      simp only [hn, Option.getD_some] at h
      obtain ⟨c, hc⟩ := newline?_inv _ _ hn
      obtain ⟨items, hw, hs, hv, hf⟩ := mlb_body_sound _ r' [] v rest h
      exact ⟨⟨some c, items⟩, by simp [MlBasic.wf, hw], hf, by simp [MlBasic.render, firstNlBytes, hc, hs],
        by simpa [MlBasic.sem] using hv⟩
  · cases h

theorem T02_ml_literal_sound (s v rest : Bytes) (h : mlLiteralString s = .ok v rest) :
    ∃ a : MlLiteral, a.wf = true ∧ MlFollow 0x27 (mllTrailing a.items) rest ∧ s = a.render ++ rest ∧ v = a.sem := by
  unfold mlLiteralString at h
  split at h
  · rename_i r
    simp only [] at h
    cases hn : newline? r with
    | none =>
      simp only [hn, Option.getD_none] at h
      obtain ⟨items, hw, hs, hv, hf⟩ := mll_body_sound _ r [] v rest h
      refine ⟨⟨none, items⟩, ?_, hf, by simp [MlLiteral.render, firstNlBytes, hs], by simpa [MlLiteral.sem] using hv⟩
      rw [hs] at hn
      rw [mll_wf_none items _ hn]; exact hw
    | some r' =>
      simp only [hn, Option.getD_some] at h
      obtain ⟨c, hc⟩ := newline?_inv _ _ hn
      obtain ⟨items, hw, hs, hv, hf⟩ := mll_body_sound _ r' [] v rest h
      exact ⟨⟨some c, items⟩, by simp [MlLiteral.wf, hw], hf, by simp [MlLiteral.render, firstNlBytes, hc, hs],
        by simpa [MlLiteral.sem] using hv⟩
  · cases h

theorem T02_ml_basic_iff (s v rest : Bytes) :
    mlBasicString s = .ok v rest ↔
      ∃ a : MlBasic, a.wf = true ∧ MlFollow 0x22 (mlbTrailing a.items) rest ∧ s = a.render ++ rest ∧ v = a.sem := by
  constructor
  · exact T02_ml_basic_sound s v rest
  · rintro ⟨a, hw, hf, rfl, rfl⟩; exact T02_ml_basic_general a rest hw hf

theorem T02_ml_literal_iff (s v rest : Bytes) :
    mlLiteralString s = .ok v rest ↔
      ∃ a : MlLiteral, a.wf = true ∧ MlFollow 0x27 (mllTrailing a.items) rest ∧ s = a.render ++ rest ∧ v = a.sem := by
  constructor
  · exact T02_ml_literal_sound s v rest
  · rintro ⟨a, hw, hf, rfl, rfl⟩; exact T02_ml_literal_general a rest hw hf

theorem mlBasicString_ne_bt_of_three (r : Bytes) : mlBasicString (0x22 :: 0x22 :: 0x22 :: r) ≠ .bt := by
  simp only [mlBasicString, mlBasicBody_eq]; exact MlBody.mlBody_ne_bt _ _ _

theorem mlLiteralString_ne_bt_of_three (r : Bytes) : mlLiteralString (0x27 :: 0x27 :: 0x27 :: r) ≠ .bt := by
  simp only [mlLiteralString, mlLiteralBody_eq]; exact MlBody.mlBody_ne_bt _ _ _

theorem T02_string_sound (s v rest : Bytes) (h : Model.Strings.string s = .ok v rest) :
    ∃ a : StringAst, a.wf = true ∧ a.Follow rest ∧ s = a.render ++ rest ∧ v = a.sem := by
  unfold Model.Strings.string at h
  cases h1 : mlBasicString s with
  | ok v1 r1 =>
    simp only [h1] at h
    injection h with e1 e2; subst e1; subst e2
    obtain ⟨a, hw, hf, hs, hv⟩ := T02_ml_basic_sound s _ _ h1
    exact ⟨.mlBasic a, hw, hf, hs, hv⟩
  | cut => simp [h1] at h
  | bt =>
    simp only [h1] at h
    cases h2 : basicString s with
    | ok v2 r2 =>
      simp only [h2] at h
      injection h with e1 e2; subst e1; subst e2
      obtain ⟨cs, hw, hs, hv⟩ := T02_basic_sound s _ _ h2
      refine ⟨.basic cs, hw, ?_, hs, hv⟩
      by_cases hcs : cs = []
      · subst hcs
        refine Or.inr ?_
        intro hr
        cases r2 with
        | nil => simp at hr
        | cons y t =>
          simp only [List.head?_cons, Option.some.injEq] at hr
          subst hr; subst hs
          exact mlBasicString_ne_bt_of_three t h1
      · exact Or.inl hcs
    | cut => simp [h2] at h
    | bt =>
      simp only [h2] at h
      cases h3 : mlLiteralString s with
      | ok v3 r3 =>
        simp only [h3] at h
        injection h with e1 e2; subst e1; subst e2
        obtain ⟨a, hw, hf, hs, hv⟩ := T02_ml_literal_sound s _ _ h3
        exact ⟨.mlLiteral a, hw, hf, hs, hv⟩
      | cut => simp [h3] at h
      | bt =>
        simp only [h3] at h
        obtain ⟨hw, hs⟩ := T02_literal_sound s v rest h
        refine ⟨.literal v, hw, ?_, hs, rfl⟩
        by_cases hcs : v = []
        · subst hcs
          refine Or.inr ?_
          intro hr
          cases rest with
          | nil => simp at hr
          | cons y t =>
            simp only [List.head?_cons, Option.some.injEq] at hr
            subst hr; subst hs
            exact mlLiteralString_ne_bt_of_three t h3
        · exact Or.inl hcs

/-- **C02, strings**: `toml_edit`'s `string` parser accepts exactly the spellings of toml.abnf's `string`
    production, before exactly the continuations the grammar allows, and returns the value the specification assigns -/
theorem T02_string_iff (s v rest : Bytes) :
    Model.Strings.string s = .ok v rest ↔
      ∃ a : StringAst, a.wf = true ∧ a.Follow rest ∧ s = a.render ++ rest ∧ v = a.sem := by
  constructor
  · exact T02_string_sound s v rest
  · rintro ⟨a, hw, hf, rfl, rfl⟩; exact T02_string_dispatch a rest hw hf

example : Model.Strings.string [0x27, 0x27, 0x27, 0x0A, 0x61, 0x27, 0x27, 0x27, 0x27, 0x20] = .ok [0x61, 0x27] [0x20] := by decide
example : mlBasicString [0x22, 0x22, 0x22, 0x61, 0x5C, 0x0A, 0x20, 0x62, 0x22, 0x22, 0x22] = .ok [0x61, 0x62] [] := by decide

/-- `"a\n\u00e9\U0001F600"` -/
def exBasic : List BasicChar :=
  [.raw 0x61, .escaped (.simple 0x6E), .escaped (.u4 0x30 0x30 0x65 0x39),
   .escaped (.u8 0x30 0x30 0x30 0x31 0x46 0x36 0x30 0x30)]
example : wfBasic exBasic = true := by decide
example : semBasic exBasic = [0x61, 0x0A, 0xC3, 0xA9, 0xF0, 0x9F, 0x98, 0x80] := by decide
/-- no follow condition: even another quotation mark may come next -/
example : basicString (renderBasic exBasic ++ [0x22]) = .ok [0x61, 0x0A, 0xC3, 0xA9, 0xF0, 0x9F, 0x98, 0x80] [0x22] :=
  T02_basic_general exBasic [0x22] (by decide)
/-- hex digits in either case -/
example : Escaped.sem (.u4 0x30 0x30 0x45 0x39) = Escaped.sem (.u4 0x30 0x30 0x65 0x39) := by decide

/-- `'C:\a'` -/
example : wfLiteral [0x43, 0x3A, 0x5C, 0x61] = true := by decide

/-- `"""` CRLF `a""\"` CRLF `\` SP TAB LF SP CRLF LF TAB `b"` `"""` -/
def exMlb : MlBasic :=
  { firstNl := some true,
    items := [.char (.raw 0x61), .quotes 2, .char (.escaped (.simple 0x22)), .nl true,
              .lineCont [0x20, 0x09] false [.ws 0x20, .nl true, .nl false, .ws 0x09], .char (.raw 0x62), .quotes 1] }
example : exMlb.wf = true := by decide
example : MlFollow 0x22 (mlbTrailing exMlb.items) [0x0A] := Or.inr (by decide)
example : exMlb.render = [34, 34, 34, 13, 10, 97, 34, 34, 92, 34, 13, 10, 92, 32, 9, 10, 32, 13, 10, 10, 9, 98, 34,
    34, 34, 34] := by decide
example : exMlb.sem = [0x61, 0x22, 0x22, 0x22, 0x0A, 0x62, 0x22] := by decide
example : (StringAst.mlBasic exMlb).wf = true ∧ (StringAst.mlBasic exMlb).Follow [0x0A] := ⟨by decide, Or.inr (by decide)⟩

/-- three apostrophes, LF, `a''`, CRLF, `b''`, three apostrophes, followed by another apostrophe
    (allowed after two body apostrophes) -/
def exMll : MlLiteral :=
  { firstNl := some false, items := [.raw 0x61, .quotes 2, .nl true, .raw 0x62, .quotes 2] }
example : exMll.wf = true := by decide
example : MlFollow 0x27 (mllTrailing exMll.items) [0x27] := Or.inl (by decide)
example : exMll.sem = [0x61, 0x27, 0x27, 0x0A, 0x62, 0x27, 0x27] := by decide

example : (StringAst.basic []).wf = true ∧ (StringAst.basic []).Follow [0x2C] := ⟨by decide, Or.inr (by decide)⟩
example : (StringAst.literal [0x61]).wf = true ∧ (StringAst.literal [0x61]).Follow [0x27] := ⟨by decide, Or.inl (by decide)⟩

example : basicString [0x22, 0x5C, 0x74, 0x22, 0x20] = .ok [0x09] [0x20] := by decide
example : literalString [0x27, 0x5C, 0x74, 0x27, 0x20] = .ok [0x5C, 0x74] [0x20] := by decide
example : [0x30, 0x30, 0x45, 0x39].all isHexdig = true ∧ Utf8.isScalar (hexValue [0x30, 0x30, 0x45, 0x39]) = true := by decide
/-- `\uD800` is a hard error -/
example : [0x44, 0x38, 0x30, 0x30].all isHexdig = true ∧ hexescape 4 [0x44, 0x38, 0x30, 0x30] = .cut := by decide
example : ¬ ∃ ds r, ds.length = 4 ∧ ds.all isHexdig = true ∧ [0x30, 0x30, 0x47, 0x30] = ds ++ r := by
  rintro ⟨ds, r, hl, ha, hs⟩
  match ds, hl with
  | [a, b, c, d], _ =>
    simp only [List.cons_append, List.nil_append, List.cons.injEq] at hs
    obtain ⟨_, _, h3, _⟩ := hs
    subst h3
    simp [isHexdig, isDigit, inR] at ha

/-! ## each side condition is needed: spellings the ABNF alone would derive but that read differently

In every example the bytes are `render a` for an `a` that violates exactly one condition, and the
parser (following the prose of the specification) does **not** return `sem a`. -/

/-- two adjacent `quotes` items (= three raw quotation marks in the body): the string closes early -/
example : let a : MlBasic := { firstNl := none, items := [.quotes 1, .quotes 2] }
    a.wf = false ∧ mlBasicString (a.render ++ [0x0A]) = .ok [0x22, 0x22] [0x22, 0x0A] := by decide
/-- a `quotes` item of three marks, same bytes -/
example : let a : MlBasic := { firstNl := none, items := [.quotes 3] }
    a.wf = false ∧ mlBasicString (a.render ++ [0x0A]) ≠ .ok a.sem [0x0A] := by decide
/-- whitespace after a line continuation is trimmed, it is not content -/
example : let a : MlBasic := { firstNl := none, items := [.lineCont [] false [], .char (.raw 0x20), .char (.raw 0x61)] }
    a.wf = false ∧ a.sem = [0x20, 0x61] ∧ mlBasicString (a.render ++ [0x0A]) = .ok [0x61] [0x0A] := by decide
/-- a newline after a line continuation is trimmed as well -/
example : let a : MlBasic := { firstNl := none, items := [.lineCont [] false [], .nl false, .char (.raw 0x61)] }
    a.wf = false ∧ a.sem = [0x0A, 0x61] ∧ mlBasicString (a.render ++ [0x0A]) = .ok [0x61] [0x0A] := by decide
/-- a newline right after the opening delimiter is never content -/
example : let a : MlBasic := { firstNl := none, items := [.nl false, .char (.raw 0x61)] }
    a.wf = false ∧ a.sem = [0x0A, 0x61] ∧ mlBasicString (a.render ++ [0x0A]) = .ok [0x61] [0x0A] := by decide
example : let a : MlLiteral := { firstNl := none, items := [.nl true, .raw 0x61] }
    a.wf = false ∧ a.sem = [0x0A, 0x61] ∧ mlLiteralString (a.render ++ [0x0A]) = .ok [0x61] [0x0A] := by decide
/-- follow condition: a quote character right after the closing delimiter is taken into the string … -/
example : let a : MlBasic := { firstNl := none, items := [.char (.raw 0x61)] }
    a.wf = true ∧ ¬ MlFollow 0x22 (mlbTrailing a.items) [0x22, 0x0A] ∧
    mlBasicString (a.render ++ [0x22, 0x0A]) = .ok [0x61, 0x22] [0x0A] := by
  refine ⟨by decide, ?_, by decide⟩
  rintro (h | h)
  · exact absurd h (by decide)
  · exact h rfl
/-- … unless the body already ends in two of them -/
example : let a : MlBasic := { firstNl := none, items := [.char (.raw 0x61), .quotes 2] }
    mlBasicString (a.render ++ [0x22, 0x0A]) = .ok [0x61, 0x22, 0x22] [0x22, 0x0A] := by decide
/-- the empty single-line string followed by its quote character is the start of a multi-line string -/
example : ¬ (StringAst.basic []).Follow [0x22, 0x0A] ∧
    Model.Strings.string ((StringAst.basic []).render ++ [0x22, 0x0A]) = .cut := by
  refine ⟨?_, by decide⟩
  rintro (h | h)
  · exact h rfl
  · exact h rfl
/-- an unknown escape letter, a surrogate, a value above U+10FFFF: hard errors -/
example : basicString [0x22, 0x5C, 0x61, 0x22] = .cut ∧ basicString [0x22, 0x5C, 0x75, 0x44, 0x38, 0x30, 0x30, 0x22] = .cut ∧
    basicString [0x22, 0x5C, 0x55, 0x30, 0x30, 0x31, 0x31, 0x30, 0x30, 0x30, 0x30, 0x22] = .cut := by decide

end TomlVerif.Props.C02Strings
