import TomlVerif.Props.C03MoreGen
import TomlVerif.Lemmas.Tiling03MoreGen2Defs
import TomlVerif.Lemmas.Bytes
/-! C03 — headers THROUGH dotted-key tables (`a.d = 3`, `[a.b]`): the class `genRun2`
    and what is proved about it.

    The class.  `genRun2 s` (`Lemmas/Tiling03MoreGen2Defs.lean`) is `genRun s` with the condition
    `!t.dotted` dropped for EVERY table `t` on a header's path (`pathOkT2`), the parent of the last
    key included: in `a.d = 3`, `[a.b]` the table that receives the new section is itself the
    dotted-key table.  The conditions on the ENTRY named by the last key are kept (absent; an
    array of tables for `[[…]]`; an implicit non-dotted table holding sub-tables only, spelled like
    the stored key, for a take-over).

    The same-data clause of the class is `T03_same_data_general_class2` (`Props/C03MoreGen3.lean`). -/
namespace TomlVerif.Props.C03More
open TomlVerif TomlVerif.Model TomlVerif.Model.Cst TomlVerif.Model.Encode
open TomlVerif.Lemmas.Tiling03More TomlVerif.Lemmas.Tiling03More.Tko TomlVerif.Lemmas.Tiling03More.Gen

theorem T03_genRun_genRun2 (s : Bytes) (h : genRun s = true) : genRun2 s = true := genRun_G2 s h

/-- the same-data clause for `genRun2` (`T03_same_data_general_class2`, `Props/C03MoreGen3.lean`) -/
def T03_same_data_general_class2_statement : Prop :=
  ∀ (s : Bytes) (d : CDoc), parseCst s = some d → genRun2 s = true →
    Doc.parseDocument (printDoc s d) = Doc.parseDocument s

/-- its instance on `genRun` -/
theorem T03_same_data_general_class2_on_genRun (s : Bytes) (d : CDoc) (h : parseCst s = some d)
    (hrun : genRun s = true) : genRun2 s = true ∧ Doc.parseDocument (printDoc s d) = Doc.parseDocument s :=
  ⟨T03_genRun_genRun2 s hrun, T03_same_data_general_class s d h hrun⟩

example : genRun2 (strBytes "a.d = 3\n[a.b]\n") = true ∧ genRun (strBytes "a.d = 3\n[a.b]\n") = false ∧
    (parseCst (strBytes "a.d = 3\n[a.b]\n")).map (printDoc (strBytes "a.d = 3\n[a.b]\n"))
      = some (strBytes "a.d = 3\n[a.b]\n") ∧
    sameData (strBytes "a.d = 3\n[a.b]\n") = some true := by
  simp only [strBytes_eq rfl]
  decide +kernel

example : genRun2 (strBytes "[t]\na.b = 1\n[t.a.c]\n") = true ∧ genRun (strBytes "[t]\na.b = 1\n[t.a.c]\n") = false ∧
    (parseCst (strBytes "[t]\na.b = 1\n[t.a.c]\n")).map (printDoc (strBytes "[t]\na.b = 1\n[t.a.c]\n"))
      = some (strBytes "[t]\na.b = 1\n[t.a.c]\n") ∧
    sameData (strBytes "[t]\na.b = 1\n[t.a.c]\n") = some true := by
  simp only [strBytes_eq rfl]
  decide +kernel

/-- arrays of tables, a take-over and non-adjacent dotted keys below dotted-key tables -/
example :
    genRun2 (strBytes "a.b = 1\n[[a.c]]\n[[a.c]]\n[a.c.d]\n") = true ∧
    sameData (strBytes "a.b = 1\n[[a.c]]\n[[a.c]]\n[a.c.d]\n") = some true ∧
    genRun2 (strBytes "a.b = 1\n[a.c.d]\n[a.c]\ne.f = 1\ng = 1\ne.h = 2\n") = true ∧
    genRun (strBytes "a.b = 1\n[a.c.d]\n[a.c]\ne.f = 1\ng = 1\ne.h = 2\n") = false ∧
    sameData (strBytes "a.b = 1\n[a.c.d]\n[a.c]\ne.f = 1\ng = 1\ne.h = 2\n") = some true ∧
    genRun2 (strBytes "[t]\na.b = 1\nc = 2\na.d = 2\n[t.a.c]\nq.r = 1\n[t.a.e]\n") = true ∧
    sameData (strBytes "[t]\na.b = 1\nc = 2\na.d = 2\n[t.a.c]\nq.r = 1\n[t.a.e]\n") = some true := by
  simp only [strBytes_eq rfl]
  decide +kernel

/-- still excluded: the counterexample of the same-data statement; the respelled take-over -/
example : genRun2 (strBytes "[a.b.d]\n[a]\nb.c.e = 3\n") = false ∧ genRun2 (strBytes "[x .y]\n[x]\n") = false := by
  simp only [strBytes_eq rfl]
  decide +kernel

end TomlVerif.Props.C03More

#print axioms TomlVerif.Props.C03More.T03_genRun_genRun2
