import TomlVerif.Gen.Tables
import TomlVerif.Spec.Classes
import TomlVerif.Lemmas.Bytes
/-! Tie 1 for the lexical tables: the byte classes, delimiters and keywords read from
    `/repo/crates/toml_edit/src/parser/*.rs` equal the ABNF classes of `Spec/Classes.lean`.
    Re-checked by the kernel on every run (the `Gen.Tables` file is regenerated first). -/
namespace TomlVerif.Gen.CheckLex
open TomlVerif

/-- every distinct byte class of the parser sources against its ABNF class, in one pass over the 256
    bytes (the pass itself, not the classes, is most of what the kernel pays for) -/
theorem classes : ∀ b,
    Gen.trivia_WSCHAR b = Spec.isWschar b ∧ Gen.trivia_NON_ASCII b = Spec.isNonAscii b ∧
    Gen.trivia_NON_EOL b = Spec.isNonEol b ∧ Gen.strings_BASIC_UNESCAPED b = Spec.isBasicUnescaped b ∧
    Gen.strings_LITERAL_CHAR b = Spec.isLiteralChar b ∧ Gen.key_UNQUOTED_CHAR b = Spec.isUnquotedChar b ∧
    Gen.numbers_DIGIT b = Spec.isDigit b ∧ Gen.numbers_DIGIT1_9 b = Spec.isDigit1_9 b ∧
    Gen.numbers_DIGIT0_7 b = Spec.isDigit0_7 b ∧ Gen.numbers_DIGIT0_1 b = Spec.isDigit0_1 b ∧
    Gen.numbers_HEXDIG b = Spec.isHexdig b ∧
    Gen.datetime_TIME_DELIM b = (b == 0x54 || b == 0x74 || b == 0x20) :=
  forall_byte (by decide +kernel)

theorem wschar : ∀ b, Gen.trivia_WSCHAR b = Spec.isWschar b := fun b => (classes b).1
theorem non_ascii : ∀ b, Gen.trivia_NON_ASCII b = Spec.isNonAscii b := fun b => (classes b).2.1
theorem non_eol : ∀ b, Gen.trivia_NON_EOL b = Spec.isNonEol b := fun b => (classes b).2.2.1
theorem basic_unescaped : ∀ b, Gen.strings_BASIC_UNESCAPED b = Spec.isBasicUnescaped b := fun b => (classes b).2.2.2.1
/-- the source spells `MLB_UNESCAPED`, `MLL_CHAR` and datetime's `DIGIT` out again, with the same ranges -/
theorem mlb_unescaped : ∀ b, Gen.strings_MLB_UNESCAPED b = Spec.isMlbUnescaped b := basic_unescaped
theorem literal_char : ∀ b, Gen.strings_LITERAL_CHAR b = Spec.isLiteralChar b := fun b => (classes b).2.2.2.2.1
theorem mll_char : ∀ b, Gen.strings_MLL_CHAR b = Spec.isMllChar b := literal_char
theorem unquoted_char : ∀ b, Gen.key_UNQUOTED_CHAR b = Spec.isUnquotedChar b := fun b => (classes b).2.2.2.2.2.1
theorem digit : ∀ b, Gen.numbers_DIGIT b = Spec.isDigit b := fun b => (classes b).2.2.2.2.2.2.1
theorem digit_dt : ∀ b, Gen.datetime_DIGIT b = Spec.isDigit b := digit
theorem digit1_9 : ∀ b, Gen.numbers_DIGIT1_9 b = Spec.isDigit1_9 b := fun b => (classes b).2.2.2.2.2.2.2.1
theorem digit0_7 : ∀ b, Gen.numbers_DIGIT0_7 b = Spec.isDigit0_7 b := fun b => (classes b).2.2.2.2.2.2.2.2.1
theorem digit0_1 : ∀ b, Gen.numbers_DIGIT0_1 b = Spec.isDigit0_1 b := fun b => (classes b).2.2.2.2.2.2.2.2.2.1
theorem hexdig : ∀ b, Gen.numbers_HEXDIG b = Spec.isHexdig b := fun b => (classes b).2.2.2.2.2.2.2.2.2.2.1
theorem time_delim : ∀ b, Gen.datetime_TIME_DELIM b = (b == 0x54 || b == 0x74 || b == 0x20) :=
  fun b => (classes b).2.2.2.2.2.2.2.2.2.2.2

theorem punctuation :
    Gen.strings_QUOTATION_MARK = 0x22 ∧ Gen.strings_APOSTROPHE = 0x27 ∧ Gen.strings_ESCAPE = 0x5C ∧
    Gen.strings_ML_BASIC_STRING_DELIM = [0x22, 0x22, 0x22] ∧ Gen.strings_ML_LITERAL_STRING_DELIM = [0x27, 0x27, 0x27] ∧
    Gen.trivia_COMMENT_START_SYMBOL = 0x23 ∧ Gen.trivia_LF = 0x0A ∧ Gen.trivia_CR = 0x0D ∧
    Gen.key_DOT_SEP = 0x2E ∧ Gen.inline_table_KEYVAL_SEP = 0x3D ∧
    Gen.array_ARRAY_OPEN = 0x5B ∧ Gen.array_ARRAY_CLOSE = 0x5D ∧ Gen.array_ARRAY_SEP = 0x2C ∧
    Gen.inline_table_INLINE_TABLE_OPEN = 0x7B ∧ Gen.inline_table_INLINE_TABLE_CLOSE = 0x7D ∧
    Gen.inline_table_INLINE_TABLE_SEP = 0x2C ∧
    Gen.table_STD_TABLE_OPEN = 0x5B ∧ Gen.table_STD_TABLE_CLOSE = 0x5D ∧
    Gen.table_ARRAY_TABLE_OPEN = [0x5B, 0x5B] ∧ Gen.table_ARRAY_TABLE_CLOSE = [0x5D, 0x5D] := by decide

theorem keywords :
    Gen.numbers_TRUE = [0x74, 0x72, 0x75, 0x65] ∧ Gen.numbers_FALSE = [0x66, 0x61, 0x6c, 0x73, 0x65] ∧
    Gen.numbers_INF = [0x69, 0x6e, 0x66] ∧ Gen.numbers_NAN = [0x6e, 0x61, 0x6e] ∧
    Gen.numbers_HEX_PREFIX = [0x30, 0x78] ∧ Gen.numbers_OCT_PREFIX = [0x30, 0x6f] ∧
    Gen.numbers_BIN_PREFIX = [0x30, 0x62] := by decide

/-- the nine arms of `escape_seq_char` -/
theorem escape_arms :
    Gen.escapeArms = [(0x62, 0, 8), (0x66, 0, 12), (0x6E, 0, 10), (0x72, 0, 13), (0x74, 0, 9),
                      (0x75, 1, 4), (0x55, 1, 8), (0x5C, 0, 0x5C), (0x22, 0, 0x22)] := by decide

theorem limit : Gen.parser_mod_LIMIT = 80 := by decide

end TomlVerif.Gen.CheckLex
