import TomlVerif.Gen.Tables
import TomlVerif.Model.Write
import TomlVerif.Lemmas.Bytes
/-! Tie 1 for `crates/toml_write/src/string.rs`: escape arms, thresholds and the default chains
    read from the source equal what `Model/Write.lean` says. -/
namespace TomlVerif.Gen.CheckWrite
open TomlVerif TomlVerif.Model.Write

/-- the escaped writer's arm for a byte, evaluated from the table read from the source -/
def genEscNonQuote (ml : Bool) (b : UInt8) : List UInt8 :=
  match Gen.writeEscArms.find? (fun a => a.1 == b) with
  | some (_, txt, onlyNotMl) => if txt.isEmpty then [b] else if onlyNotMl && ml then [b] else txt
  | none =>
    if b.toNat ≤ Gen.writeCtlLe || b.toNat == Gen.writeCtlEq then
      [0x5C, 0x75, 0x30, 0x30, hexUpper (b.toNat / 16), hexUpper (b.toNat % 16)]
    else [b]

/-- both flags in one pass: the arms differ only at the line feed -/
theorem esc_arms_both : ∀ b, b ≠ 0x22 →
    genEscNonQuote true b = escNonQuote true b ∧ genEscNonQuote false b = escNonQuote false b :=
  forall_byte (by decide +kernel)
theorem esc_arms_ml : ∀ b, b ≠ 0x22 → genEscNonQuote true b = escNonQuote true b :=
  fun b h => (esc_arms_both b h).1
theorem esc_arms_single : ∀ b, b ≠ 0x22 → genEscNonQuote false b = escNonQuote false b :=
  fun b h => (esc_arms_both b h).2
theorem quote_arm_is_empty : Gen.writeEscArms.find? (fun a => a.1 == 0x22) = some (0x22, [], false) := by decide
theorem max_seq : Gen.writeMaxSeqMl = 2 ∧ Gen.writeMaxSeqSingle = 0 := by decide

def vm (m : ValueMetrics) : Gen.VM := ⟨m.maxSingle, m.maxDouble, m.escapeCodes, m.escape, m.newline⟩
def km (m : KeyMetrics) : Gen.KM := ⟨m.unquoted, m.singleQuotes, m.doubleQuotes, m.escapeCodes, m.escape⟩

theorem guard_v_literal (m) : Gen.guard_v_literal (vm m) = (vAsLiteral m).isNone := by
  obtain ⟨ms, md, ec, e, nl⟩ := m
  by_cases h : 0 < ms <;> cases ec <;> cases nl <;> simp [Gen.guard_v_literal, vAsLiteral, vm, h]
theorem guard_v_ml_literal (m) : Gen.guard_v_ml_literal (vm m) = (vAsMlLiteral m).isNone := by
  obtain ⟨ms, md, ec, e, nl⟩ := m
  by_cases h : 2 < ms <;> cases ec <;> simp [Gen.guard_v_ml_literal, vAsMlLiteral, vm, h]
theorem guard_v_basic_pretty (m) : Gen.guard_v_basic_pretty (vm m) = (vAsBasicPretty m).isNone := by
  obtain ⟨ms, md, ec, e, nl⟩ := m
  by_cases h : 0 < md <;> cases ec <;> cases e <;> cases nl <;>
    simp [Gen.guard_v_basic_pretty, vAsBasicPretty, vm, h]
theorem guard_v_ml_basic_pretty (m) : Gen.guard_v_ml_basic_pretty (vm m) = (vAsMlBasicPretty m).isNone := by
  obtain ⟨ms, md, ec, e, nl⟩ := m
  by_cases h : 2 < md <;> cases ec <;> cases e <;> simp [Gen.guard_v_ml_basic_pretty, vAsMlBasicPretty, vm, h]
theorem guard_k_literal (m) : Gen.guard_k_literal (km m) = (kAsLiteral m).isNone := by
  obtain ⟨u, sq, dq, ec, e⟩ := m
  cases ec <;> cases sq <;> simp [Gen.guard_k_literal, kAsLiteral, km]
theorem guard_k_basic_pretty (m) : Gen.guard_k_basic_pretty (km m) = (kAsBasicPretty m).isNone := by
  obtain ⟨u, sq, dq, ec, e⟩ := m
  cases ec <;> cases e <;> cases dq <;> simp [Gen.guard_k_basic_pretty, kAsBasicPretty, km]

theorem default_chains :
    Gen.vDefaultChain = ["as_basic_pretty", "as_literal", "as_ml_basic_pretty", "as_ml_literal", "as_ml_basic", "as_basic"] ∧
    Gen.kDefaultChain = ["as_unquoted", "as_basic_pretty", "as_literal", "as_basic"] := by
  constructor <;> rfl

end TomlVerif.Gen.CheckWrite
