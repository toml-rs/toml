import TomlVerif.Gen.Tables
import TomlVerif.Model.PanicSites
/-! Tie 1 for C04: the panic-site inventory read from /repo equals the inventory the models account for. -/
namespace TomlVerif.Gen.CheckPanic
theorem inventory : TomlVerif.Gen.panicSites = TomlVerif.Model.panicSiteGuards.map Prod.fst := rfl
end TomlVerif.Gen.CheckPanic
